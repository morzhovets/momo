import Momo.Model.Sort
import Momo.Proof.ListFacts
/-!
  C17: memory states as lists.  A memory `M` is *lawful* for an abstraction
  `abs : σ → List (α × Nat)` (cells = (item, code)) on the states satisfying `ok` when reads return the
  abstract cells and an in-range swap succeeds, keeps `ok`, and exchanges the two abstract cells (`swapL`).
  All sorting lemmas are proved for an arbitrary lawful memory; `plainMem` (Sort), `preMem` (SortPrehashed: items and the
  parallel hash array are swapped together) and the swap-logging `tracedMem` are lawful.
-/
namespace Momo.Sort
variable {σ α β : Type}

/-- what `iterSwapper(begin + i, begin + j)` does to the cells (`Lawful.swap`) -/
def swapL (l : List β) (i j : Nat) : List β :=
  match l[i]?, l[j]? with
  | some x, some y => (l.set i y).set j x
  | _, _ => l

theorem swapL_eq_set {l : List β} {i j : Nat} (hi : i < l.length) (hj : j < l.length) :
    swapL l i j = (l.set i l[j]).set j l[i] := by
  rw [swapL, List.getElem?_eq_getElem hi, List.getElem?_eq_getElem hj]

theorem swapL_map {γ : Type} (f : β → γ) {l : List β} {i j : Nat} (hi : i < l.length) (hj : j < l.length) :
    (swapL l i j).map f = swapL (l.map f) i j := by
  rw [swapL_eq_set hi hj, swapL_eq_set (by rwa [List.length_map]) (by rwa [List.length_map]), List.map_set, List.map_set,
    List.getElem_map, List.getElem_map]

theorem swapL_length {l : List β} {i j : Nat} : (swapL l i j).length = l.length := by
  unfold swapL; split <;> simp

theorem swapL_perm {l : List β} {i j : Nat} : (swapL l i j).Perm l := by
  unfold swapL
  split
  · rename_i x y hx hy
    obtain ⟨hi, rfl⟩ := List.getElem?_eq_some_iff.1 hx
    obtain ⟨hj, rfl⟩ := List.getElem?_eq_some_iff.1 hy
    exact List.set_set_perm hi hj
  · exact List.Perm.refl _

/-- the transposition `(i j)` of indices: after `swapL l i j` cell `k` holds what cell `transp i j k` held (`swapL_getElem?`) -/
def transp (i j k : Nat) : Nat := if k = j then i else if k = i then j else k

theorem transp_of_ne {i j k : Nat} (hj : k ≠ j) (hi : k ≠ i) : transp i j k = k := by rw [transp, if_neg hj, if_neg hi]

theorem transp_right (i j : Nat) : transp i j j = i := if_pos rfl

theorem transp_left (i j : Nat) : transp i j i = j := by
  unfold transp; split
  · assumption
  · exact if_pos rfl

theorem lt_transp {b i j k : Nat} (hi : b < i) (hj : b < j) (hk : b < k) : b < transp i j k := by
  unfold transp; repeat' split
  all_goals assumption

theorem transp_lt {n i j k : Nat} (hi : i < n) (hj : j < n) (hk : k < n) : transp i j k < n := by
  unfold transp; repeat' split
  all_goals assumption

theorem swapL_getElem? (l : List β) (i j k : Nat) (hi : i < l.length) (hj : j < l.length) :
    (swapL l i j)[k]? = l[transp i j k]? := by
  rw [swapL_eq_set hi hj, List.getElem?_set, List.getElem?_set, List.length_set, transp]
  by_cases h1 : k = j
  · subst h1; simp only [if_true, hj, List.getElem?_eq_getElem hi]
  · by_cases h2 : k = i
    · subst h2; simp only [if_true, hi, if_neg (Ne.symm h1), if_neg h1, List.getElem?_eq_getElem hj]
    · simp only [if_neg (Ne.symm h1), if_neg (Ne.symm h2), if_neg h1, if_neg h2]

section
variable (f : α × Nat → Nat)

/-- key `f` of cell `i`, 0 outside the list: the total reading in which the loop invariants of the sorting side compare cells (`cd` of
SortSel is `ky Prod.snd`, `PInv.placed` of SortPartition reads radixes with it) -/
def ky (l : List (α × Nat)) (i : Nat) : Nat := ((l[i]?).map f).getD 0

theorem ky_eq {l : List (α × Nat)} {i : Nat} (hi : i < l.length) : ky f l i = f (l[i]'hi) := by
  simp [ky, List.getElem?_eq_getElem hi]

theorem ky_swapL (l : List (α × Nat)) (i j k : Nat) (hi : i < l.length) (hj : j < l.length) :
    ky f (swapL l i j) k = ky f l (transp i j k) := by
  rw [ky, ky, swapL_getElem? l i j k hi hj]

end

theorem swapL_append_mid (pre seg post : List β) (i j : Nat) (hi : i < seg.length) (hj : j < seg.length) :
    swapL (pre ++ seg ++ post) (pre.length + i) (pre.length + j) = pre ++ swapL seg i j ++ post := by
  have hlen : ∀ k, k < seg.length → pre.length + k < (pre ++ seg ++ post).length := fun k hk => by
    rw [List.length_append, List.length_append]; omega
  have get : ∀ k (hk : k < seg.length), (pre ++ seg ++ post)[pre.length + k]'(hlen k hk) = seg[k] := fun k hk => by
    rw [List.getElem_append_left (by rw [List.length_append]; omega), List.getElem_append_right (Nat.le_add_right _ _)]
    simp only [Nat.add_sub_cancel_left]
  have set : ∀ (l : List β) k x, k < l.length → (pre ++ l ++ post).set (pre.length + k) x = pre ++ l.set k x ++ post :=
    fun l k x hk => by
      rw [List.set_append_left _ _ (by rw [List.length_append]; omega), List.set_append_right _ _ (Nat.le_add_right _ _),
        Nat.add_sub_cancel_left]
  rw [swapL_eq_set (hlen i hi) (hlen j hj), swapL_eq_set hi hj, get i hi, get j hj, set seg i _ hi,
    set _ j _ (by rwa [List.length_set])]

/-- `M` behaves like the list `abs s` of cells on the states satisfying `ok`.  The sorting lemmas assume only this of their memory and use it
through `item_at` / `code_at` / `swap_at`. -/
structure Lawful (M : Mem σ α) (abs : σ → List (α × Nat)) (ok : σ → Prop) : Prop where
  item : ∀ s, ok s → ∀ i, M.item s i = (abs s)[i]?.map Prod.fst
  code : ∀ s, ok s → ∀ i, M.code s i = (abs s)[i]?.map Prod.snd
  swap : ∀ s, ok s → ∀ i j, i < (abs s).length → j < (abs s).length →
    ∃ s', M.swap s i j = some s' ∧ ok s' ∧ abs s' = swapL (abs s) i j

/-- The loop lemmas state it of `pre ++ seg ++ post` before and after, `seg` being the range worked on (it begins at cell `pre.length`,
`count = seg.length`): that the frame `pre`, `post` reappears unchanged is "nothing outside the range is touched". -/
def Holds (abs : σ → List (α × Nat)) (ok : σ → Prop) (s : σ) (l : List (α × Nat)) : Prop := ok s ∧ abs s = l

section
variable {M : Mem σ α} {abs : σ → List (α × Nat)} {ok : σ → Prop}

theorem Lawful.item_at (L : Lawful M abs ok) {s : σ} {pre seg post : List (α × Nat)}
    (h : Holds abs ok s (pre ++ seg ++ post)) (i : Nat) (hi : i < seg.length) :
    M.item s (pre.length + i) = some (seg[i]'hi).1 := by
  rw [L.item s h.1, h.2]
  simp [List.getElem?_append, hi]

theorem Lawful.code_at (L : Lawful M abs ok) {s : σ} {pre seg post : List (α × Nat)}
    (h : Holds abs ok s (pre ++ seg ++ post)) (i : Nat) (hi : i < seg.length) :
    M.code s (pre.length + i) = some (seg[i]'hi).2 := by
  rw [L.code s h.1, h.2]
  simp [List.getElem?_append, hi]

theorem Lawful.swap_at (L : Lawful M abs ok) {s : σ} {pre seg post : List (α × Nat)}
    (h : Holds abs ok s (pre ++ seg ++ post)) (i j : Nat) (hi : i < seg.length) (hj : j < seg.length) :
    ∃ s', M.swap s (pre.length + i) (pre.length + j) = some s' ∧ Holds abs ok s' (pre ++ swapL seg i j ++ post) := by
  obtain ⟨s', h1, h2, h3⟩ := L.swap s h.1 (pre.length + i) (pre.length + j) (by rw [h.2]; simp; omega) (by rw [h.2]; simp; omega)
  refine ⟨s', h1, h2, ?_⟩
  rw [h3, h.2, swapL_append_mid _ _ _ _ _ hi hj]

end

def plainCells (hash : α → Nat) (a : Array α) : List (α × Nat) := a.toList.map fun x => (x, hash x)

theorem plainCells_length (hash : α → Nat) (a : Array α) : (plainCells hash a).length = a.size := by
  rw [plainCells, List.length_map, Array.length_toList]

theorem plainMem_lawful (hash : α → Nat) : Lawful (plainMem hash) (plainCells hash) (fun _ => True) where
  item := fun a _ i => by
    simp only [plainMem, plainCells, List.getElem?_map, Array.getElem?_toList]
    cases a[i]? <;> rfl
  code := fun a _ i => by
    simp only [plainMem, plainCells, List.getElem?_map, Array.getElem?_toList]
    cases a[i]? <;> rfl
  swap := fun a _ i j hi hj => by
    rw [plainCells, List.length_map, Array.length_toList] at hi hj
    refine ⟨a.swap i j hi hj, dif_pos ⟨hi, hj⟩, trivial, ?_⟩
    rw [plainCells, plainCells, ← swapL_map _ hi hj, swapL_eq_set hi hj, Array.toList_swap]; rfl

def preCells (s : Array α × Array Nat) : List (α × Nat) := s.1.toList.zip s.2.toList

theorem preCells_length (s : Array α × Array Nat) (h : s.1.size = s.2.size) : (preCells s).length = s.1.size := by
  rw [preCells, List.length_zip, Array.length_toList, Array.length_toList, ← h, Nat.min_self]

theorem preMem_lawful : Lawful (preMem (α := α)) preCells (fun s => s.1.size = s.2.size) where
  item := fun s hs i => by
    have hlen : (s.1.toList.zip s.2.toList).length = s.1.size := preCells_length s hs
    simp only [preMem, preCells]
    by_cases hi : i < s.1.size
    · rw [List.getElem?_eq_getElem (hlen ▸ hi), List.getElem_zip, Array.getElem?_eq_getElem hi]; rfl
    · rw [List.getElem?_eq_none (hlen ▸ Nat.le_of_not_lt hi), Array.getElem?_eq_none (Nat.le_of_not_lt hi)]; rfl
  code := fun s hs i => by
    have hlen : (s.1.toList.zip s.2.toList).length = s.1.size := preCells_length s hs
    simp only [preMem, preCells]
    by_cases hi : i < s.2.size
    · rw [List.getElem?_eq_getElem (hlen ▸ hs ▸ hi), List.getElem_zip, Array.getElem?_eq_getElem hi]; rfl
    · rw [List.getElem?_eq_none (hlen ▸ hs ▸ Nat.le_of_not_lt hi), Array.getElem?_eq_none (Nat.le_of_not_lt hi)]; rfl
  swap := fun s hs i j hi hj => by
    have hlen : (s.1.toList.zip s.2.toList).length = s.1.size := preCells_length s hs
    have hi1 : i < s.1.size := hlen ▸ hi
    have hj1 : j < s.1.size := hlen ▸ hj
    have hi2 : i < s.2.size := hs ▸ hi1
    have hj2 : j < s.2.size := hs ▸ hj1
    refine ⟨(s.1.swap i j hi1 hj1, s.2.swap i j hi2 hj2), dif_pos ⟨⟨hi1, hj1⟩, hi2, hj2⟩, by simpa using hs, ?_⟩
    simp only [preCells] at hi hj ⊢
    rw [swapL_eq_set hi hj, Array.toList_swap, Array.toList_swap, ListFacts.zip_set, ListFacts.zip_set]
    simp only [List.getElem_zip, Array.getElem_toList]

theorem tracedMem_lawful {M : Mem σ α} {abs : σ → List (α × Nat)} {ok : σ → Prop} (L : Lawful M abs ok) :
    Lawful (tracedMem M) (fun s => abs s.1) (fun s => ok s.1) where
  item := fun s hs i => L.item s.1 hs i
  code := fun s hs i => L.code s.1 hs i
  swap := by
    intro s hs i j hi hj
    obtain ⟨a, n, chk⟩ := s
    obtain ⟨a', h1, h2, h3⟩ := L.swap a hs i j hi hj
    exact ⟨(a', n + 1, (chk * 1000003 + i * 65537 + j + 1) % 2 ^ 64), by simp [tracedMem, h1], h2, h3⟩

end Momo.Sort
