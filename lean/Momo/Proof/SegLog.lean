import Momo.Proof.Word64
import Momo.Proof.ListFacts
/-!
  `UIntMath::pvLog2` (de Bruijn) computes `⌊log2 v⌋` — for every `0 < v < 2^64` (8-byte variant) and every
  `0 < v < 2^32` (4-byte variant).

  Proof: the `value |= value >> s` lines turn `v` into `2^(⌊log2 v⌋+1) - 1` (bit extensionality with a
  "window" invariant that doubles at every line), `value -= value >> 1` leaves `2^⌊log2 v⌋`, and the 64 (32)
  table rows are checked by evaluation in the kernel.
-/
namespace Momo.Seg
open Momo

theorem log2_bounds (n : Nat) (hn : n ≠ 0) : 2 ^ Nat.log2 n ≤ n ∧ n < 2 ^ (Nat.log2 n + 1) :=
  ⟨Nat.log2_self_le hn, Nat.lt_log2_self⟩

theorem log2_eq_of (n k : Nat) (h1 : 2 ^ k ≤ n) (h2 : n < 2 ^ (k + 1)) : Nat.log2 n = k :=
  (Nat.log2_eq_iff (Nat.ne_of_gt (Nat.lt_of_lt_of_le (Nat.two_pow_pos k) h1))).mpr ⟨h1, h2⟩

/-- `value |= value >> s` for every `s`, over naturals -/
def smear (shifts : List Nat) (v : Nat) : Nat := shifts.foldl (fun x s => x ||| (x >>> s)) v

/-- `log2db64` with every `UInt64` operation replaced by its meaning on naturals -/
def log2nat64 (value : Nat) : Nat :=
  tab64.getD (w64 ((smear Extracted.log2Smear64 (w64 value) - (smear Extracted.log2Smear64 (w64 value) >>> 1))
    * Extracted.log2Mul64) >>> Extracted.log2Shift64) 0

def log2nat32 (value : Nat) : Nat :=
  tab32.getD (w32 (smear Extracted.log2Smear32 (w32 value) * Extracted.log2Mul32) >>> Extracted.log2Shift32) 0

theorem smearU64_toNat (shifts : List Nat) (hs : ∀ s ∈ shifts, s < 64) (v : UInt64) :
    (smearU64 shifts v).toNat = smear shifts v.toNat :=
  List.foldl_rel (r := fun (x : UInt64) n => x.toNat = n) rfl (fun s h x n e => by
    rw [← e, UInt64.toNat_or, UInt64.toNat_shiftRight, UInt64.toNat_ofNat', Nat.mod_mod_of_dvd _ (by decide),
      Nat.mod_eq_of_lt (hs s h)])

theorem smearU32_toNat (shifts : List Nat) (hs : ∀ s ∈ shifts, s < 32) (v : UInt32) :
    (smearU32 shifts v).toNat = smear shifts v.toNat :=
  List.foldl_rel (r := fun (x : UInt32) n => x.toNat = n) rfl (fun s h x n e => by
    rw [← e, UInt32.toNat_or, UInt32.toNat_shiftRight, UInt32.toNat_ofNat', Nat.mod_mod_of_dvd _ (by decide),
      Nat.mod_eq_of_lt (hs s h)])

theorem log2db64_eq_nat (value : Nat) : log2db64 value = log2nat64 value := by
  unfold log2db64 log2nat64
  congr 1
  have hsh : ∀ s ∈ Extracted.log2Smear64, s < 64 := by decide
  generalize hS : smearU64 Extracted.log2Smear64 (UInt64.ofNat value) = S
  have hSn : S.toNat = smear Extracted.log2Smear64 (w64 value) := by
    rw [← hS, smearU64_toNat _ hsh, UInt64.toNat_ofNat', w64_eq]
  have h1 : (S >>> 1).toNat = S.toNat >>> 1 := by
    rw [UInt64.toNat_shiftRight]; rfl
  have hle : S >>> 1 ≤ S := by
    rw [UInt64.le_iff_toNat_le, h1]; exact Nat.shiftRight_le _ _
  rw [UInt64.toNat_shiftRight, UInt64.toNat_mul, UInt64.toNat_sub_of_le _ _ hle, h1, hSn, w64_eq, w64_eq]
  have hm : (UInt64.ofNat Extracted.log2Mul64).toNat = Extracted.log2Mul64 := by decide
  have hs : (UInt64.ofNat Extracted.log2Shift64).toNat % 64 = Extracted.log2Shift64 := by decide
  rw [hm, hs]

theorem log2db32_eq_nat (value : Nat) : log2db32 value = log2nat32 value := by
  unfold log2db32 log2nat32
  congr 1
  have hsh : ∀ s ∈ Extracted.log2Smear32, s < 32 := by decide
  rw [UInt32.toNat_shiftRight, UInt32.toNat_mul, smearU32_toNat _ hsh, UInt32.toNat_ofNat', w32_eq, w32_eq]
  have hm : (UInt32.ofNat Extracted.log2Mul32).toNat = Extracted.log2Mul32 := by decide
  have hs : (UInt32.ofNat Extracted.log2Shift32).toNat % 32 = Extracted.log2Shift32 := by decide
  rw [hm, hs]

/-- the window invariant of the smear lines: bit `i` of `x` is set iff one of the `w` bits `i … i+w-1` of `v` is -/
def Win (v x w : Nat) : Prop := ∀ i, x.testBit i = true ↔ ∃ j, j < w ∧ v.testBit (i + j) = true

theorem Win.base (v : Nat) : Win v v 1 := by
  intro i
  constructor
  · intro h; exact ⟨0, by omega, by simpa using h⟩
  · rintro ⟨j, hj, h⟩
    have : j = 0 := by omega
    subst this; simpa using h

theorem Win.step {v x w : Nat} (s : Nat) (h : Win v x w) (hs : s ≤ w) : Win v (x ||| (x >>> s)) (w + s) := by
  intro i
  rw [Nat.testBit_or, Nat.testBit_shiftRight, Bool.or_eq_true]
  constructor
  · rintro (h1 | h1)
    · obtain ⟨j, hj, hb⟩ := (h i).mp h1
      exact ⟨j, by omega, hb⟩
    · obtain ⟨j, hj, hb⟩ := (h (s + i)).mp h1
      refine ⟨s + j, by omega, ?_⟩
      have : i + (s + j) = s + i + j := by omega
      rw [this]; exact hb
  · rintro ⟨j, hj, hb⟩
    by_cases hjw : j < w
    · exact Or.inl ((h i).mpr ⟨j, hjw, hb⟩)
    · refine Or.inr ((h (s + i)).mpr ⟨j - s, by omega, ?_⟩)
      have : s + i + (j - s) = i + j := by omega
      rw [this]; exact hb

theorem Win.full {v x w : Nat} (h : Win v x w) (hv0 : v ≠ 0) (hv : v < 2 ^ w) :
    x = 2 ^ (Nat.log2 v + 1) - 1 := by
  have hkw : Nat.log2 v < w := (Nat.log2_lt hv0).mpr hv
  apply Nat.eq_of_testBit_eq
  intro i
  rw [Nat.testBit_two_pow_sub_one]
  by_cases hi : i < Nat.log2 v + 1
  · rw [decide_eq_true hi]
    exact (h i).mpr ⟨Nat.log2 v - i, by omega, by
      rw [Nat.add_sub_cancel' (Nat.le_of_lt_succ hi)]; exact Nat.testBit_log2 hv0⟩
  · rw [decide_eq_false hi, Bool.eq_false_iff]
    intro hx
    obtain ⟨j, _, hb⟩ := (h i).mp hx
    have hlt : v < 2 ^ (i + j) := Nat.lt_of_lt_of_le Nat.lt_log2_self (Nat.pow_le_pow_right (by decide) (by omega))
    rw [Nat.testBit_lt_two_pow hlt] at hb
    exact Bool.noConfusion hb

theorem smear64_eq (v : Nat) (hv0 : v ≠ 0) (hv : v < 2 ^ 64) :
    smear Extracted.log2Smear64 v = 2 ^ (Nat.log2 v + 1) - 1 := by
  have h := (((((Win.base v).step 1 (by decide)).step 2 (by decide)).step 4 (by decide)).step 8 (by decide)).step 16
    (by decide) |>.step 32 (by decide)
  -- `smear Extracted.log2Smear64 v` unfolds to these six steps: the extracted list is `[1, 2, 4, 8, 16, 32]`
  exact Win.full h hv0 hv

theorem smear32_eq (v : Nat) (hv0 : v ≠ 0) (hv : v < 2 ^ 32) :
    smear Extracted.log2Smear32 v = 2 ^ (Nat.log2 v + 1) - 1 := by
  have h := ((((Win.base v).step 1 (by decide)).step 2 (by decide)).step 4 (by decide)).step 8 (by decide) |>.step 16
    (by decide)
  exact Win.full h hv0 hv

theorem tab64_rows : ∀ k, k < 64 →
    tab64.getD (w64 (2 ^ k * Extracted.log2Mul64) >>> Extracted.log2Shift64) 0 = k := by
  decide +kernel

/-- the 4-byte variant has no isolate step: the table is indexed with the smeared value `2^(k+1) - 1` itself -/
theorem tab32_rows : ∀ k, k < 32 →
    tab32.getD (w32 ((2 ^ (k + 1) - 1) * Extracted.log2Mul32) >>> Extracted.log2Shift32) 0 = k := by
  decide +kernel

theorem log2db64_eq (v : Nat) (hv0 : v ≠ 0) (hv : v < 2 ^ 64) : log2db64 v = Nat.log2 v := by
  rw [log2db64_eq_nat]
  unfold log2nat64
  rw [w64_of_lt hv, smear64_eq v hv0 hv]
  have hk : Nat.log2 v < 64 := (Nat.log2_lt hv0).mpr hv
  have e : 2 ^ (Nat.log2 v + 1) - 1 - ((2 ^ (Nat.log2 v + 1) - 1) >>> 1) = 2 ^ Nat.log2 v := by
    rw [Nat.shiftRight_eq_div_pow, Nat.pow_succ]
    have := Nat.two_pow_pos (Nat.log2 v)
    omega
  rw [e]
  exact tab64_rows _ hk

theorem log2db32_eq (v : Nat) (hv0 : v ≠ 0) (hv : v < 2 ^ 32) : log2db32 v = Nat.log2 v := by
  rw [log2db32_eq_nat]
  unfold log2nat32
  rw [w32_of_lt hv, smear32_eq v hv0 hv]
  have hk : Nat.log2 v < 32 := (Nat.log2_lt hv0).mpr hv
  exact tab32_rows _ hk

/-- the de Bruijn `Log2` of the model returns a table entry, hence a bit position: what keeps `log + 1` and
    `logItemCount + logInitialItemCount` from wrapping (`TrEqSeg`) -/
theorem log2db64_lt (v : Nat) : log2db64 v < 64 := by
  unfold log2db64
  generalize (((smearU64 Extracted.log2Smear64 (UInt64.ofNat v) - (smearU64 Extracted.log2Smear64 (UInt64.ofNat v) >>> 1))
    * UInt64.ofNat Extracted.log2Mul64) >>> UInt64.ofNat Extracted.log2Shift64).toNat = i
  have h : ∀ x ∈ Extracted.log2Tab64, x < 64 := by decide
  unfold tab64
  simp only [Array.getD_eq_getD_getElem?, List.getElem?_toArray]
  cases hi : Extracted.log2Tab64[i]? with
  | none => simp
  | some x => simpa using h x (List.mem_of_getElem? hi)

/-- what the code answers for 0 (no top bit): `tab64[0]` / `tab32[0]` -/
theorem log2db64_zero : log2db64 0 = 63 := by decide +kernel
theorem log2db32_zero : log2db32 0 = 0 := by decide +kernel

end Momo.Seg
