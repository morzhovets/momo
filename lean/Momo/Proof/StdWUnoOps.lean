import Momo.Proof.StdWUnoBase
/-!
  C06 history theorem, unordered containers with unique keys: the operations of the wrapper model
  on a table in ANY traversal order against the operations of the specification on a permutation of it.
-/
namespace Momo.StdW
open Momo.StdWrap List
open Momo.StdSpec hiding Item

theorem nodupKeys_append_single (s : List Item) (hn : NodupKeys s) (x : Item) (h : hasKey x.1 s = false) :
    NodupKeys (s ++ [x]) :=
  NodupKeys.perm (nodupKeys_cons.mpr ⟨h, hn⟩) (perm_append_singleton x s)

theorem hInsert_absent (w : List Item) (x : Item) (h : hasKey x.1 w = false) : hInsert w x = (w ++ [x], true, x) := by
  rw [hInsert, hFind_eq_uFind, (uFind_none_iff w x.1).mpr h]

theorem hInsert_present (w : List Item) (x : Item) (h : hasKey x.1 w = true) :
    ∃ e, e.1 = x.1 ∧ hInsert w x = (w, false, e) := by
  rw [hInsert, hFind_eq_uFind]
  cases hu : uFind x.1 w with
  | none => rw [(uFind_none_iff w x.1).mp hu] at h; exact absurd h Bool.false_ne_true
  | some e =>
    have he : (e.1 == x.1) = true := find?_some (p := fun a : Item => a.1 == x.1) hu
    exact ⟨e, beq_iff_eq.mp he, rfl⟩

theorem hInsert_rel {w s : List Item} (hp : w.Perm s) (hn : NodupKeys s) (x : Item) :
    (hInsert w x).1.Perm (suInsert s x).1 ∧ (hInsert w x).2 = (suInsert s x).2 ∧ NodupKeys (suInsert s x).1 := by
  rw [hInsert, suInsert, hFind_eq_uFind, uFind_perm hp hn]
  cases h : uFind x.1 s with
  | some e => exact ⟨hp, rfl, hn⟩
  | none => exact ⟨Perm.append_right _ hp, rfl, nodupKeys_append_single s hn x ((uFind_none_iff s x.1).mp h)⟩

theorem hInsertMany_rel (ys : List Item) {w s : List Item} (hp : w.Perm s) (hn : NodupKeys s) :
    (ys.foldl (fun acc y => (hInsert acc y).1) w).Perm (suInsertMany s ys) ∧ NodupKeys (suInsertMany s ys) :=
  ListFacts.foldl_rel (R := fun w s => w.Perm s ∧ NodupKeys s)
    (fun w s y h => ⟨(hInsert_rel h.1 h.2 y).1, (hInsert_rel h.1 h.2 y).2.2⟩) ys w s ⟨hp, hn⟩

theorem rebuild_aux (xs : List Item) : ∀ acc : List Item, NodupKeys (acc ++ xs) →
    xs.foldl (fun acc y => (hInsert acc y).1) acc = acc ++ xs := by
  induction xs with
  | nil => intro acc _; exact (append_nil acc).symm
  | cons y t ih =>
    intro acc hn
    have hk : hasKey y.1 acc = false := by
      have := (nodupKeys_cons.mp (hn.perm perm_middle.symm)).1
      rw [hasKey_append, Bool.or_eq_false_iff] at this
      exact this.1
    rw [foldl_cons, hInsert_absent acc y hk, ih _ (by rwa [append_assoc]), append_assoc]; rfl

/-- re-inserting the items of a table with distinct keys into an empty table, in traversal order, gives the same table
    (`max_load_factor(z)` rebuilds the table this way) -/
theorem rebuild_eq (xs : List Item) (hn : NodupKeys xs) : xs.foldl (fun acc y => (hInsert acc y).1) [] = xs :=
  rebuild_aux xs [] hn

theorem assignFn_eq (x : Item) : (fun e : Item => if e.1 == x.1 then (e.1, x.2) else e) = (fun e => if e.1 == x.1 then x else e) :=
  funext fun e => by
    by_cases h : e.1 = x.1
    · rw [if_pos (beq_iff_eq.mpr h), if_pos (beq_iff_eq.mpr h), h]
    · rw [if_neg (mt beq_iff_eq.mp h), if_neg (mt beq_iff_eq.mp h)]

theorem map_assign_absent (w : List Item) (x : Item) (h : hasKey x.1 w = false) :
    w.map (fun e => if e.1 == x.1 then x else e) = w :=
  (map_congr_left fun e he => if_neg (mt beq_iff_eq.mp ((hasKey_false_iff x.1 w).mp h e he))).trans (map_id _)

theorem wuInsertOrAssign_rel {w s : List Item} (hp : w.Perm s) (hn : NodupKeys s) (x : Item) :
    (wuInsertOrAssign w x).1.Perm (suInsertOrAssign s x).1 ∧ (wuInsertOrAssign w x).2 = (suInsertOrAssign s x).2 ∧
    NodupKeys (suInsertOrAssign s x).1 := by
  rw [wuInsertOrAssign, suInsertOrAssign]
  cases hk : hasKey x.1 s with
  | false =>
    rw [hInsert_absent w x ((hasKey_perm hp _).trans hk), if_pos rfl, if_neg Bool.false_ne_true]
    exact ⟨Perm.append_right _ hp, rfl, nodupKeys_append_single s hn x hk⟩
  | true =>
    obtain ⟨e, he, hI⟩ := hInsert_present w x ((hasKey_perm hp _).trans hk)
    rw [hI, if_neg Bool.false_ne_true, if_pos rfl, assignFn_eq, he]
    refine ⟨hp.map _, rfl, ListFacts.nodup_keys_map hn _ fun e => ?_⟩
    by_cases h : e.1 = x.1
    · rw [if_pos (beq_iff_eq.mpr h), h]
    · rw [if_neg (mt beq_iff_eq.mp h)]

/-- `operator[]` is `try_emplace(k, T())`, reading the mapped value of the element found -/
theorem wuIndex_eq (w : List Item) (k : Nat) : wuIndex w k = ((hInsert w (k, 0)).1, (hInsert w (k, 0)).2.2.2) := by
  rw [wuIndex, hInsert]; cases hFind w k <;> rfl

/-- `m[k] = v` is `insert_or_assign(k, v)` -/
theorem wuIndexAssign_eq (w : List Item) (k v : Nat) :
    (wuIndex w k).1.map (fun e => if e.1 == k then (e.1, v) else e) = (wuInsertOrAssign w (k, v)).1 := by
  rw [wuIndex_eq, wuInsertOrAssign]
  cases hk : hasKey k w with
  | false =>
    rw [hInsert_absent w (k, 0) hk, hInsert_absent w (k, v) hk, if_pos rfl, map_append, assignFn_eq (k, v),
      map_assign_absent w (k, v) hk, map_cons, map_nil, if_pos (beq_self_eq_true k)]
  | true =>
    obtain ⟨e, _, hI⟩ := hInsert_present w (k, 0) hk
    obtain ⟨e', _, hI'⟩ := hInsert_present w (k, v) hk
    rw [hI, hI', if_neg Bool.false_ne_true]

theorem filter_key_unique (s : List Item) (hn : NodupKeys s) (k : Nat) :
    s.filter (fun e => e.1 == k) = match uFind k s with | some e => [e] | none => [] := by
  induction s with
  | nil => rfl
  | cons y t ih =>
    obtain ⟨hy, hn'⟩ := nodupKeys_cons.mp hn
    rw [filter_cons, uFind_cons]
    by_cases hk : y.1 = k
    · rw [beq_iff_eq.mpr hk, if_pos rfl, if_pos hk, filter_eq_of_absent t k (hk ▸ hy : hasKey k t = false)]
    · rw [beq_false_of_ne hk, if_neg Bool.false_ne_true, if_neg hk]; exact ih hn'

theorem canon_singleton (e : Item) : canon [e] = [e] := rfl

/-- the merge loop in closed form, from any point of the loop: `m` = the source items already moved behind `dst`, `r` = the items
    refused so far; what is left of the source has distinct keys, none of them in `m` -/
theorem hMerge_fold (dst : List Item) : ∀ (src m r : List Item), NodupKeys src → (∀ y ∈ src, hasKey y.1 m = false) →
    src.foldl (fun acc y => if (hInsert acc.1 y).2.1 then ((hInsert acc.1 y).1, acc.2) else (acc.1, acc.2 ++ [y])) (dst ++ m, r)
      = (dst ++ m ++ src.filter (fun e => !hasKey e.1 dst), r ++ src.filter (fun e => hasKey e.1 dst)) := by
  intro src
  induction src with
  | nil => intro m r _ _; rw [filter_nil, filter_nil, append_nil, append_nil]; rfl
  | cons y t ih =>
    intro m r hn hm
    obtain ⟨hy, hn'⟩ := nodupKeys_cons.mp hn
    have hym : hasKey y.1 (dst ++ m) = hasKey y.1 dst := by
      rw [hasKey_append, hm y mem_cons_self, Bool.or_false]
    rw [foldl_cons, filter_cons, filter_cons]
    cases hk : hasKey y.1 dst with
    | false =>
      -- `y` is new: it joins the destination, and no later element of the source has its key
      have hm' : ∀ z ∈ t, hasKey z.1 (m ++ [y]) = false := fun z hz => by
        rw [hasKey_append, hm z (mem_cons_of_mem _ hz), Bool.false_or, hasKey_false_iff]
        intro e he heq
        exact (hasKey_false_iff _ _).mp hy z hz (mem_singleton.mp he ▸ heq).symm
      rw [hInsert_absent _ y (hym.trans hk), if_pos rfl, append_assoc dst m [y], ih (m ++ [y]) r hn' hm', Bool.not_false,
        if_pos rfl, if_neg Bool.false_ne_true, ← append_assoc dst, append_assoc (dst ++ m)]
      rfl
    | true =>
      obtain ⟨e, _, he⟩ := hInsert_present _ y (hym.trans hk)
      rw [he, if_neg Bool.false_ne_true, ih m (r ++ [y]) hn' fun z hz => hm z (mem_cons_of_mem _ hz),
        Bool.not_true, if_neg Bool.false_ne_true, if_pos rfl, append_assoc r]
      rfl

theorem hMergeFrom_eq (dst src : List Item) (hn : NodupKeys src) : hMergeFrom dst src = suMerge dst src := by
  have := hMerge_fold dst src [] [] hn (by intro y _; simp [hasKey])
  simpa [hMergeFrom, suMerge] using this

theorem suMerge_rel {wd ws sd ss : List Item} (hd : wd.Perm sd) (hs : ws.Perm ss) (hnd : NodupKeys sd) (hns : NodupKeys ss) :
    (suMerge wd ws).1.Perm (suMerge sd ss).1 ∧ (suMerge wd ws).2.Perm (suMerge sd ss).2 ∧
    NodupKeys (suMerge sd ss).1 ∧ NodupKeys (suMerge sd ss).2 := by
  have e1 : (fun e : Item => !hasKey e.1 wd) = (fun e => !hasKey e.1 sd) := by funext e; rw [hasKey_perm hd]
  have e2 : (fun e : Item => hasKey e.1 wd) = (fun e => hasKey e.1 sd) := by funext e; rw [hasKey_perm hd]
  unfold suMerge
  simp only [e1, e2]
  refine ⟨Perm.append hd (hs.filter _), hs.filter _, ?_, hns.filter _⟩
  unfold NodupKeys at hnd hns ⊢
  rw [map_append, nodup_append]
  refine ⟨hnd, (NodupKeys.filter hns _), ?_⟩
  intro a ha b hb
  obtain ⟨e, he, rfl⟩ := mem_map.mp ha
  obtain ⟨f, hf, rfl⟩ := mem_map.mp hb
  have hf2 := (mem_filter.mp hf).2
  simp only [Bool.not_eq_true'] at hf2
  intro heq
  exact (hasKey_false_iff f.1 sd).mp hf2 e he heq

theorem hPos_lt (w : List Item) (k : Nat) (h : hasKey k w = true) : hPos w k < w.length := by
  unfold hPos
  rw [findIdx_lt_length]
  obtain ⟨e, he, hk⟩ := (hasKey_iff k w).mp h
  exact ⟨e, he, by simpa using hk⟩

theorem wuEraseRange_empty (w : List Item) : wuEraseRange w .empty = (w, .done) := by
  simp [wuEraseRange, uRangeIters, eraseRangeU]

theorem wuEraseRange_single (w : List Item) (hn : NodupKeys w) (k : Nat) (mv : Bool) (h : hasKey k w = true) :
    wuEraseRange w (.single k mv) = (w.filter (fun e => e.1 != k), .done) := by
  have hp := hPos_lt w k h
  have hd : eraseRangeU w.length ⟨hPos w k, mv⟩ (nextU w.length ⟨hPos w k, mv⟩) = .one (hPos w k) := by
    unfold eraseRangeU
    have h1 : ¬ ((⟨hPos w k, mv⟩ : It).pos = (nextU w.length ⟨hPos w k, mv⟩).pos) := by
      unfold nextU; cases mv <;> simp <;> omega
    rw [if_neg h1, if_pos ⟨by simp; omega, rfl⟩]
  simp only [wuEraseRange, uRangeIters, hd, hRemoveAt_hPos w hn k]

theorem wuEraseRange_whole (w : List Item) : wuEraseRange w .whole = ([], .done) := by
  match w with
  | [] => simp [wuEraseRange, uRangeIters, eraseRangeU]
  | [x] => simp [wuEraseRange, uRangeIters, eraseRangeU, nextU, hRemoveAt]
  | x :: y :: t => simp [wuEraseRange, uRangeIters, eraseRangeU, nextU]

theorem usetEq_rel {wa wb sa sb : List Item} (ha : wa.Perm sa) (hb : wb.Perm sb) (hna : NodupKeys sa) (hnb : NodupKeys sb) :
    usetEq wa wb = sa.isPerm sb := by
  rw [Bool.eq_iff_iff, usetEq_iff_perm wa wb (nodupKeys_iff.mp (hna.perm ha)) (nodupKeys_iff.mp (hnb.perm hb)), isPerm_iff]
  exact ⟨fun h => ha.symm.trans (h.trans hb), fun h => ha.trans (h.trans hb.symm)⟩

end Momo.StdW
