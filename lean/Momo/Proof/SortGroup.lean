import Momo.Proof.SortMem
import Momo.Proof.SortSearch
/-!
  C17: `HashSorter::pvGroup` (HashSorter.h:208-225) permutes its range so that equal
  items become contiguous, for every equivalence `equalFunc`; it touches nothing outside the range.  The loops are those of
  `pvIsGrouped` with an exchange where the check fails, and keep the same invariant `ContigUpToF`, stated for the range read as
  `fun k => seg.getD k d`; an exchange composes that reading with a transposition (`getD_swapL`).
-/
namespace Momo.Sort
variable {σ α : Type}

theorem getD_swapL {l : List (α × Nat)} {i j : Nat} (hi : i < l.length) (hj : j < l.length) (d : α × Nat) :
    (fun k => (swapL l i j).getD k d) = fun k => l.getD (transp i j k) d := by
  funext k
  rw [List.getD_eq_getElem?_getD, List.getD_eq_getElem?_getD, swapL_getElem? _ _ _ _ hi hj]

theorem ContigUpToF.swap {eq : α → α → Bool} {A : Nat → α × Nat} {n i j : Nat} (h : ContigUpToF eq A n i) (hij : i ≤ j)
    (hj : j < n) : ContigUpToF eq (fun k => A (transp i j k)) n i := by
  intro a b c hab hbc hbi hc hac
  have hac : eq (A (transp i j a)).1 (A (transp i j c)).1 = true := hac
  show eq (A (transp i j a)).1 (A (transp i j b)).1 = true
  rw [transp_of_ne (by omega) (by omega)] at hac ⊢
  rw [transp_of_ne (by omega) (by omega)]
  exact h a b _ hab (lt_transp (by omega) (by omega) hbc) hbi (transp_lt (by omega) hj hc) hac

section
variable {M : Mem σ α} {abs : σ → List (α × Nat)} {ok : σ → Prop} (L : Lawful M abs ok)
  {eq : α → α → Bool} (he : IsEqv eq) (pre post : List (α × Nat)) (d : α × Nat)
include L he

omit he in
theorem Lawful.item_getD {s : σ} {seg : List (α × Nat)} (h : Holds abs ok s (pre ++ seg ++ post)) {i : Nat} (hi : i < seg.length) :
    M.item s (pre.length + i) = some (seg.getD i d).1 := by
  rw [L.item_at h i hi, ListFacts.getD_eq_getElem hi]

theorem groupInner_spec :
    ∀ (fuel : Nat) (s : σ) (seg : List (α × Nat)) (m j : Nat), seg.length < fuel + j →
      Holds abs ok s (pre ++ seg ++ post) → m + 1 < j → j ≤ seg.length →
      ContigUpToF eq (fun k => seg.getD k d) seg.length (m + 1) →
      (∀ k, m + 1 ≤ k → k < j → eq (seg.getD m d).1 (seg.getD k d).1 = false) →
      ∃ s' seg' m', groupInner M eq pre.length seg.length fuel s (m + 1) j = some (s', m' + 1) ∧
        Holds abs ok s' (pre ++ seg' ++ post) ∧ seg'.Perm seg ∧ m ≤ m' ∧
        ContigUpToF eq (fun k => seg'.getD k d) seg'.length (m' + 1) ∧
        (∀ k, m' + 1 ≤ k → k < seg'.length → eq (seg'.getD m' d).1 (seg'.getD k d).1 = false) := by
  intro fuel
  induction fuel with
  | zero => intro s seg m j h _ _ hj; omega
  | succ f ih =>
    intro s seg m j hf hh hij hjn hcu hne
    rw [groupInner]
    by_cases hj : j < seg.length
    · have hm : m < seg.length := by omega
      rw [if_pos hj, Nat.add_sub_cancel, L.item_getD pre post d hh hm, L.item_getD pre post d hh hj]
      simp only [Option.bind_some]
      by_cases hxy : eq (seg.getD m d).1 (seg.getD j d).1 = true
      · -- cell `j` belongs to the group of cell `m`: exchange it with cell `m + 1`; both indices advance
        have hil : m + 1 < seg.length := by omega
        obtain ⟨s', hs', hh'⟩ := L.swap_at hh (m + 1) j hil hj
        rw [if_pos hxy, hs']
        simp only [Option.bind_some]
        have hlen : (swapL seg (m + 1) j).length = seg.length := swapL_length
        obtain ⟨s'', seg'', m'', h1, h2, h3, h4, h5, h6⟩ := ih s' (swapL seg (m + 1) j) (m + 1) (j + 1) (by omega) hh'
          (by omega) (by omega)
          (by
            rw [getD_swapL hil hj d, hlen]
            refine (hcu.swap (Nat.le_of_lt hij) hj).succ_of_eq he ?_
            show eq (seg.getD (transp (m + 1) j m) d).1 (seg.getD (transp (m + 1) j (m + 1)) d).1 = true
            rw [transp_of_ne (by omega) (by omega), transp_left]; exact hxy)
          (fun k hk1 hk2 => by
            show eq ((fun k => (swapL seg (m + 1) j).getD k d) (m + 1)).1 ((fun k => (swapL seg (m + 1) j).getD k d) k).1 = false
            rw [getD_swapL hil hj d]
            show eq (seg.getD (transp (m + 1) j (m + 1)) d).1 (seg.getD (transp (m + 1) j k) d).1 = false
            rw [transp_left]
            -- cell `k` of the new list is a cell of `[m + 1, j)` of the old one
            have : m + 1 ≤ transp (m + 1) j k ∧ transp (m + 1) j k < j := by
              unfold transp; repeat' split
              all_goals omega
            exact Bool.eq_false_iff.2 fun h => Bool.eq_false_iff.1 (hne _ this.1 this.2) (he.trans _ _ _ hxy h))
        rw [hlen] at h1
        exact ⟨s'', seg'', m'', h1, h2, h3.trans swapL_perm, by omega, h5, h6⟩
      · rw [if_neg hxy]
        refine ih s seg m (j + 1) (by omega) hh (by omega) hj hcu fun k hk1 hk2 => ?_
        rcases Nat.eq_or_lt_of_le (Nat.le_of_lt_succ hk2) with rfl | hlt
        · exact Bool.eq_false_iff.2 hxy
        · exact hne k hk1 hlt
    · rw [if_neg hj]
      exact ⟨s, seg, m, rfl, hh, List.Perm.refl _, Nat.le_refl _, hcu, fun k hk hk' => hne k hk (by omega)⟩

theorem groupOuter_spec :
    ∀ (fuel : Nat) (s : σ) (seg : List (α × Nat)) (m : Nat), 0 < fuel → seg.length < fuel + m →
      Holds abs ok s (pre ++ seg ++ post) → ContigUpToF eq (fun k => seg.getD k d) seg.length (m + 1) →
      ∃ s' seg', groupOuter M eq pre.length seg.length fuel s (m + 1) = some s' ∧
        Holds abs ok s' (pre ++ seg' ++ post) ∧ seg'.Perm seg ∧ ContigF eq (fun k => seg'.getD k d) seg'.length := by
  intro fuel
  induction fuel with
  | zero => intro s seg m h; omega
  | succ f ih =>
    intro s seg m _ hf hh hcu
    rw [groupOuter]
    by_cases hi : m + 1 < seg.length
    · have hm : m < seg.length := by omega
      rw [if_pos hi, Nat.add_sub_cancel, L.item_getD pre post d hh hm, L.item_getD pre post d hh hi]
      simp only [Option.bind_some]
      by_cases hxy : eq (seg.getD m d).1 (seg.getD (m + 1) d).1 = true
      · rw [if_pos hxy]
        exact ih s seg (m + 1) (by omega) (by omega) hh (hcu.succ_of_eq he hxy)
      · obtain ⟨s', seg', m', h1, h2, h3, h4, h5, h6⟩ := groupInner_spec L he pre post d (seg.length + 1) s seg m (m + 2)
          (by omega) hh (Nat.lt_succ_self _) hi hcu fun k hk1 hk2 => by
            obtain rfl : k = m + 1 := by omega
            exact Bool.eq_false_iff.2 hxy
        rw [if_neg hxy, h1]
        simp only [Option.bind_some]
        have hlen : seg'.length = seg.length := h3.length_eq
        obtain ⟨s'', seg'', g1, g2, g3, g4⟩ := ih s' seg' (m' + 1) (by omega) (by omega) h2 (h5.succ_of_tail he h6)
        rw [hlen] at g1
        exact ⟨s'', seg'', g1, g2, g3.trans h3, g4⟩
    · rw [if_neg hi]
      exact ⟨s, seg, rfl, hh, List.Perm.refl _, hcu.contig (by omega)⟩

theorem group_spec (s : σ) (seg : List (α × Nat)) (hh : Holds abs ok s (pre ++ seg ++ post)) :
    ∃ s' seg', group M eq s pre.length seg.length = some s' ∧
      Holds abs ok s' (pre ++ seg' ++ post) ∧ seg'.Perm seg ∧ ContigF eq (fun k => seg'.getD k d) seg'.length :=
  groupOuter_spec L he pre post d (seg.length + 1) s seg 0 (Nat.succ_pos _) (by omega) hh ContigUpToF.one

end

end Momo.Sort
