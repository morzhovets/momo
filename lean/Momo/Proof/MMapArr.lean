import Momo.Model.MMap
import Momo.Proof.ListFacts
/-!
  C08: the value array of HashMultiMap (`details/ArrayBucket.h`) as a machine: the state byte `(pool << 4) | count`, the representation invariant
  `VArr.WF`, and for each operation `X_spec`: `WF` is kept and `bounds` becomes what the list-level specification says (`++ [v]`, `swapRemove`,
  `swapFilter`, identity). `addBack_items`, `removeBack_items` say the same of `items`, which under `WF` is the same list.
  `swapRemove_*` here are about this file's definition `swapRemove`; `ListFacts.swapRemove_*` are about the term `(l.set i z).dropLast` it
  unfolds to (`swapRemove_eq`).
-/
namespace Momo.MMap
open Momo
theorem state_table : ∀ p : Fin 16, ∀ c : Fin 16,
    mkState p c < 256 ∧ statePool (mkState p c) = p ∧ stateCount (mkState p c) = c ∧
    (p.val ≠ 0 → mkState p c ≠ 0) ∧
    (c.val < p.val → toByte (mkState p c + 1) = mkState p (c + 1)) ∧
    (0 < c.val → toByte (mkState p c + 255) = mkState p (c - 1)) := by decide +kernel

/-- The states that can occur have `count ≤ pool index ≤ maxFastCount`; the bound `< 16` is the `static_assert` of
    details/ArrayBucket.h; the 256 cases are `state_table`. -/
theorem state_facts (mf p c : Nat) (hmf : mf < Extracted.abMaxFastLimit) (hp : p ≤ mf) (hc : c ≤ p) :
    mkState p c < 256 ∧ statePool (mkState p c) = p ∧ stateCount (mkState p c) = c ∧
    (p ≠ 0 → mkState p c ≠ 0) ∧
    (c < p → toByte (mkState p c + 1) = mkState p (c + 1)) ∧
    (0 < c → toByte (mkState p c + 255) = mkState p (c - 1)) :=
  state_table ⟨p, Nat.lt_of_le_of_lt hp hmf⟩ ⟨c, Nat.lt_of_le_of_lt (Nat.le_trans hc hp) hmf⟩

/-- `Remove` of position `i`: the last value moves into the hole -/
def swapRemove (l : List Nat) (i : Nat) : List Nat :=
  match l.getLast? with
  | none => l
  | some x => (l.set i x).dropLast

/-- what `Remove(pairFilter)` leaves of one value list, scanning from index `i` -/
def swapFilter (p : Nat → Bool) : Nat → List Nat → Nat → List Nat
  | 0, l, _ => l
  | fuel + 1, l, i =>
    match l[i]? with
    | none => l
    | some v => if p v then swapFilter p fuel (swapRemove l i) i else swapFilter p fuel l (i + 1)

theorem swapRemove_eq (l : List Nat) (i : Nat) (x : Nat) (hx : l.getLast? = some x) :
    swapRemove l i = (l.set i x).dropLast := by simp [swapRemove, hx]

theorem swapRemove_length {l : List Nat} {i : Nat} (hi : i < l.length) : (swapRemove l i).length + 1 = l.length := by
  unfold swapRemove
  cases hl : l.getLast? with
  | none => rw [List.getLast?_eq_none_iff.mp hl] at hi; cases hi
  | some x =>
    simp only [List.length_dropLast, List.length_set]
    exact Nat.sub_add_cancel (Nat.zero_lt_of_lt hi)

theorem swapRemove_last (A : List Nat) (v : Nat) : swapRemove (A ++ [v]) A.length = A := by
  simp [swapRemove]

theorem swapRemove_mid (A B : List Nat) (v x : Nat) :
    swapRemove (A ++ v :: (B ++ [x])) A.length = A ++ x :: B := by
  have h1 : (A ++ v :: (B ++ [x])).getLast? = some x := by
    rw [show A ++ v :: (B ++ [x]) = (A ++ v :: B) ++ [x] by simp]
    exact List.getLast?_concat ..
  simp only [swapRemove, h1]
  rw [List.set_append_right _ _ (Nat.le_refl _)]
  simp
  rw [show x :: (B ++ [x]) = (x :: B) ++ [x] by simp, List.dropLast_concat]

theorem cons_swapRemove_perm {l : List Nat} {i v : Nat} (hv : l[i]? = some v) : (v :: swapRemove l i).Perm l := by
  obtain ⟨z, hz, hp⟩ := ListFacts.cons_swapRemove_perm hv
  rwa [swapRemove_eq l i z hz]

/-- the scan at index `A.length`: `A` = the values examined so far and kept, `B` = the values not yet examined (in storage order, but a
    removal moves the last of them into the hole, so what is left of `B` is a permutation of `B.filter (¬p)`, not the filtered list) -/
theorem swapFilter_perm (p : Nat → Bool) : ∀ (fuel : Nat) (A B : List Nat), B.length ≤ fuel →
    (swapFilter p fuel (A ++ B) A.length).Perm (A ++ B.filter (fun v => !p v)) := by
  intro fuel
  induction fuel with
  | zero => intro A B h; have : B = [] := List.length_eq_zero_iff.mp (by omega); subst this; simp [swapFilter]
  | succ n ih =>
    intro A B h
    cases B with
    | nil => simp [swapFilter]
    | cons v B =>
      have hget : (A ++ v :: B)[A.length]? = some v := by simp
      simp only [swapFilter, hget]
      by_cases hp : p v = true
      · simp only [hp, if_true, List.filter_cons, Bool.not_true, Bool.false_eq_true, if_false]
        rcases List.eq_nil_or_concat B with rfl | ⟨B', x, rfl⟩
        · rw [swapRemove_last]
          have := ih A [] (by simp)
          simpa using this
        · rw [List.concat_eq_append] at h ⊢
          rw [swapRemove_mid]
          have := ih A (x :: B') (by simp at h ⊢; omega)
          refine this.trans ?_
          refine List.Perm.append_left A ?_
          have : (x :: B').Perm (B' ++ [x]) := by simpa using (List.perm_append_singleton x B').symm
          exact this.filter _
      · have hp' : p v = false := by simpa using hp
        simp only [hp', Bool.false_eq_true, if_false, List.filter_cons, Bool.not_false, if_true]
        have := ih (A ++ [v]) B (by simp at h ⊢; omega)
        simpa using this

theorem swapFilter_all_perm (p : Nat → Bool) (l : List Nat) :
    (swapFilter p l.length l 0).Perm (l.filter (fun v => !p v)) := by
  simpa using swapFilter_perm p l.length [] l (Nat.le_refl _)

theorem swapFilter_length (p : Nat → Bool) (l : List Nat) :
    (swapFilter p l.length l 0).length + l.countP p = l.length := by
  rw [(swapFilter_all_perm p l).length_eq]
  rw [List.countP_eq_length_filter, Nat.add_comm]
  exact ListFacts.length_filter_add_length_filter_not p l

/-- representation invariant of the value array for `maxFastCount = mf`. `items` holds exactly the constructed values: the model reads
    `items.take count`, under `WF` the count is `items.length`, so `bounds = items` (`WF.count_eq`, `WF.bounds_eq`). -/
def VArr.WF (mf : Nat) (a : VArr) : Prop :=
  match a.rep with
  | .none => a.items = []
  | .fast s => ∃ p c, s = mkState p c ∧ 1 ≤ c ∧ c ≤ p ∧ p ≤ mf ∧ a.items.length = c
  | .heap cap => 1 ≤ a.items.length ∧ a.items.length ≤ cap

theorem VArr.empty_wf (mf : Nat) : VArr.empty.WF mf := rfl

variable {mf : Nat}

theorem VArr.WF.count_eq {a : VArr} (hmf : mf < Extracted.abMaxFastLimit) (h : a.WF mf) :
    a.count = a.items.length := by
  obtain ⟨rep, items⟩ := a
  cases rep with
  | none => exact (congrArg List.length h).symm
  | fast s =>
    obtain ⟨p, c, rfl, _, hcp, hpm, hlen⟩ := h
    exact (state_facts mf p c hmf hpm hcp).2.2.1.trans hlen.symm
  | heap cap => rfl

theorem VArr.WF.bounds_eq {a : VArr} (hmf : mf < Extracted.abMaxFastLimit) (h : a.WF mf) :
    a.bounds = a.items := by
  rw [VArr.bounds, h.count_eq hmf, List.take_length]

/-- `growCap` is `ArraySettings<>::GrowCapacity` once more: `Arr.growCapacity _ cap minNew false false` of `Model/Arr.lean` computes the same
    number with `Nat.max`; the two model definitions are not linked by a lemma, C08 needs only this bound. -/
theorem growCap_ge (cap minNew : Nat) : minNew ≤ growCap cap minNew := by
  unfold growCap; split <;> omega

theorem VArr.addBack_items {a : VArr} (h1 : 1 ≤ mf) (hmf : mf < Extracted.abMaxFastLimit) (h : a.WF mf) (v : Nat) :
    (a.addBack mf v).WF mf ∧ (a.addBack mf v).items = a.items ++ [v] := by
  obtain ⟨rep, items⟩ := a
  cases rep with
  | none =>
    cases (h : items = [])
    exact ⟨⟨1, 1, rfl, Nat.le_refl _, Nat.le_refl _, h1, rfl⟩, rfl⟩
  | fast s =>
    obtain ⟨p, c, rfl, hc1, hcp, hpm, hlen⟩ := h
    obtain ⟨_, hP, hC, _, hInc, _⟩ := state_facts mf p c hmf hpm hcp
    have htake : items.take c = items := hlen ▸ List.take_length
    have hlen' : (items ++ [v]).length = c + 1 := by rw [List.length_append, hlen]; rfl
    simp only [VArr.addBack, hP, hC, htake]
    by_cases hcp' : c = p
    · rw [if_pos hcp']
      by_cases hm : c + 1 ≤ mf
      · rw [if_pos hm]
        exact ⟨⟨c + 1, c + 1, rfl, Nat.succ_pos _, Nat.le_refl _, hm, hlen'⟩, rfl⟩
      · -- the block of the last fast pool is full: `mf` values move into a heap array of capacity `2 * mf`
        rw [if_neg hm]
        refine ⟨?_, rfl⟩
        show 1 ≤ (items ++ [v]).length ∧ (items ++ [v]).length ≤ mf * Extracted.abHeapCapMul
        rw [hlen', Extracted.abHeapCapMul, Nat.mul_two]
        exact ⟨Nat.succ_pos _, Nat.add_le_add (hcp' ▸ hpm) h1⟩
    · rw [if_neg hcp']
      have hlt : c < p := Nat.lt_of_le_of_ne hcp hcp'
      exact ⟨⟨p, c + 1, hInc hlt, Nat.succ_pos _, hlt, hpm, hlen'⟩, rfl⟩
  | heap cap =>
    have hl : (items ++ [v]).length = items.length + 1 := List.length_append
    simp only [VArr.addBack]
    by_cases hlt : items.length < cap
    · rw [if_pos hlt]
      exact ⟨⟨hl ▸ Nat.succ_pos _, hl ▸ hlt⟩, rfl⟩
    · rw [if_neg hlt]
      exact ⟨⟨Nat.le_trans (Nat.succ_pos _) (Nat.le_of_eq hl.symm), Nat.le_trans (Nat.le_of_eq hl) (growCap_ge ..)⟩, rfl⟩

theorem VArr.addBack_spec {a : VArr} (h1 : 1 ≤ mf) (hmf : mf < Extracted.abMaxFastLimit) (h : a.WF mf) (v : Nat) :
    (a.addBack mf v).WF mf ∧ (a.addBack mf v).bounds = a.bounds ++ [v] := by
  obtain ⟨hw, hi⟩ := VArr.addBack_items h1 hmf h v
  exact ⟨hw, by rw [hw.bounds_eq hmf, h.bounds_eq hmf, hi]⟩

theorem shrinkCap_ge (cap cnt req : Nat) (h : cnt ≤ cap) : cnt ≤ shrinkCap cap cnt req := by
  unfold shrinkCap; split; · exact h
  split <;> omega

theorem VArr.removeBack_items {a : VArr} (hmf : mf < Extracted.abMaxFastLimit) (h : a.WF mf) (sf : Bool) :
    (a.removeBack sf).WF mf ∧ (a.removeBack sf).items = a.items.dropLast := by
  have hcnt := h.count_eq hmf
  obtain ⟨rep, items⟩ := a
  unfold VArr.removeBack
  by_cases hone : (VArr.mk rep items).count = 1
  · rw [if_pos hone]
    refine ⟨VArr.empty_wf mf, ?_⟩
    rw [hcnt] at hone
    match items, hone with
    | [x], _ => rfl
  · rw [if_neg hone]
    have hd : items.dropLast.length = items.length - 1 := List.length_dropLast
    cases rep with
    | none => cases (h : items = []); exact ⟨rfl, rfl⟩
    | fast s =>
      obtain ⟨p, c, rfl, hc1, hcp, hpm, hlen⟩ := h
      obtain ⟨_, hP, hC, _, _, hDec⟩ := state_facts mf p c hmf hpm hcp
      have h2 : 2 ≤ c := Nat.lt_of_le_of_ne hc1 (fun e => hone (hC.trans e.symm))
      simp only [hC]
      refine ⟨⟨p, c - 1, hDec hc1, Nat.le_sub_one_of_lt h2, Nat.le_trans (Nat.sub_le ..) hcp, hpm, ?_⟩, ?_⟩
      · rw [List.length_take, hlen]; exact Nat.min_eq_left (Nat.sub_le ..)
      · rw [List.dropLast_eq_take, hlen]
    | heap cap =>
      have h2 : 2 ≤ items.length := Nat.lt_of_le_of_ne h.1 (fun e => hone e.symm)
      have hw : 1 ≤ items.dropLast.length ∧ items.dropLast.length ≤ cap :=
        hd ▸ ⟨Nat.le_sub_one_of_lt h2, Nat.le_trans (Nat.sub_le ..) h.2⟩
      dsimp only
      by_cases hsh : Extracted.abShrinkMinCount < items.length ∧ items.length ≤ cap / Extracted.abShrinkDiv ∧ sf = false
      · rw [if_pos hsh]
        exact ⟨⟨hw.1, hd ▸ shrinkCap_ge cap (items.length - 1) _ (Nat.le_trans (Nat.sub_le ..) h.2)⟩, rfl⟩
      · rw [if_neg hsh]
        exact ⟨hw, rfl⟩

theorem VArr.removeAt_spec {a : VArr} (hmf : mf < Extracted.abMaxFastLimit) (h : a.WF mf) (i : Nat) (sf : Bool) :
    (a.removeAt i sf).WF mf ∧ (a.removeAt i sf).bounds = swapRemove a.bounds i := by
  have hb := h.bounds_eq hmf
  unfold VArr.removeAt
  rw [hb]
  cases hl : a.items.getLast? with
  | none => simp only [swapRemove, hl]; exact ⟨h, hb⟩
  | some last =>
    simp only [swapRemove, hl]
    have hwf' : (VArr.mk a.rep (a.items.set i last)).WF mf := by
      obtain ⟨rep, items⟩ := a
      cases rep with
      | none => exact (h : items = []) ▸ rfl
      | fast s =>
        obtain ⟨p, c, hs, h1, h2, h3, h4⟩ := h
        exact ⟨p, c, hs, h1, h2, h3, List.length_set.trans h4⟩
      | heap cap =>
        show 1 ≤ (items.set i last).length ∧ (items.set i last).length ≤ cap
        rw [List.length_set]; exact h
    obtain ⟨hw, hi⟩ := VArr.removeBack_items hmf hwf' sf
    exact ⟨hw, by rw [hw.bounds_eq hmf, hi]⟩

theorem VArr.copy_spec {a : VArr} (hmf : mf < Extracted.abMaxFastLimit) :
    (a.copy mf).WF mf ∧ (a.copy mf).bounds = a.bounds := by
  unfold VArr.copy
  by_cases h0 : a.bounds.length = 0
  · simp only [h0, if_true]
    have : a.bounds = [] := List.length_eq_zero_iff.mp h0
    exact ⟨VArr.empty_wf mf, by rw [this]; simp [VArr.bounds, VArr.empty, VArr.count]⟩
  · simp only [h0, if_false]
    by_cases h1 : a.bounds.length ≤ mf
    · simp only [h1, if_true]
      have hw : (VArr.mk (.fast (mkState a.bounds.length a.bounds.length)) a.bounds).WF mf := by
        simp only [VArr.WF]
        exact ⟨_, _, rfl, by omega, Nat.le_refl _, h1, rfl⟩
      exact ⟨hw, hw.bounds_eq hmf⟩
    · simp only [h1, if_false]
      have hw : (VArr.mk (.heap a.bounds.length) a.bounds).WF mf := by
        simp only [VArr.WF]; omega
      exact ⟨hw, hw.bounds_eq hmf⟩

theorem VArr.removeIf_spec (p : Nat → Bool) (hmf : mf < Extracted.abMaxFastLimit) :
    ∀ (fuel : Nat) (a : VArr) (i : Nat), a.WF mf →
      (VArr.removeIf p fuel a i).WF mf ∧ (VArr.removeIf p fuel a i).bounds = swapFilter p fuel a.bounds i := by
  intro fuel
  induction fuel with
  | zero => intro a i h; exact ⟨h, rfl⟩
  | succ n ih =>
    intro a i h
    simp only [VArr.removeIf, swapFilter]
    cases hg : a.bounds[i]? with
    | none => exact ⟨h, rfl⟩
    | some v =>
      dsimp only
      by_cases hp : p v = true
      · simp only [hp, if_true]
        obtain ⟨hw, hb⟩ := VArr.removeAt_spec hmf h i false
        obtain ⟨hw2, hb2⟩ := ih (a.removeAt i false) i hw
        exact ⟨hw2, by rw [hb2, hb]⟩
      · simp only [hp]
        exact ih a (i + 1) h

/-- `mPtr == nullptr` exactly when the key has no values: memory is released with the last value -/
theorem VArr.WF.none_iff {a : VArr} (hmf : mf < Extracted.abMaxFastLimit) (h : a.WF mf) :
    a.rep = .none ↔ a.bounds = [] := by
  rw [h.bounds_eq hmf]
  obtain ⟨rep, items⟩ := a
  cases rep with
  | none => exact ⟨fun _ => h, fun _ => rfl⟩
  | fast s =>
    obtain ⟨p, c, _, hc1, _, _, hlen⟩ := h
    exact ⟨fun e => (nomatch e), fun e => by rw [(e : items = [])] at hlen; rw [← hlen] at hc1; cases hc1⟩
  | heap cap => exact ⟨fun e => (nomatch e), fun e => by have h1 := h.1; rw [(e : items = [])] at h1; cases h1⟩

/-- per representation, what the correspondence run reads from the real object (`C08_value_array_rep` is this with `none_iff`) -/
theorem VArr.WF.rep_spec {a : VArr} (hmf : mf < Extracted.abMaxFastLimit) (h : a.WF mf) :
    match a.rep with
    | .none => a.count = 0
    | .fast s => a.count = stateCount s ∧ 1 ≤ stateCount s ∧ stateCount s ≤ statePool s ∧ statePool s ≤ mf
                  ∧ s = mkState (statePool s) (stateCount s) ∧ s < 256 ∧ s ≠ 0
    | .heap cap => 1 ≤ a.count ∧ a.count ≤ cap := by
  obtain ⟨rep, items⟩ := a
  cases rep with
  | none => rfl
  | fast s =>
    obtain ⟨p, c, rfl, hc1, hcp, hpm, hlen⟩ := h
    obtain ⟨hlt, hP, hC, hne, _, _⟩ := state_facts mf p c hmf hpm hcp
    show _ ∧ _ ∧ _ ∧ _ ∧ _ ∧ _ ∧ _
    rw [hP, hC]
    exact ⟨hC, hc1, hcp, hpm, rfl, hlt, hne (Nat.ne_of_gt (Nat.lt_of_lt_of_le hc1 hcp))⟩
  | heap cap => exact h

end Momo.MMap
