import Momo.Proof.HTLedgerSys
import Momo.Proof.HashTableAbs
/-!
  C03 / C04 for the hash family: the books agree with the table.

  The table of every ledger-layer operation IS the table of the hash-table model of C01 / C11 under the corresponding `Faults`
  (`addL_table`, `reserveL_table`; `Clear`, removal and copy construction call `HT.clear`, `HT.removePos` and the steps of `HT.copyOf` by
  definition), so every theorem of Props/C01.lean and Props/C11.lean speaks about it.
  `Consistent`: the table satisfies the C01 invariant and the books hold exactly one element object per stored item (same keys), one
  bucket-array block of the right size per generation, and the `BucketParams` block iff a table exists; every operation preserves it.
  It is independent of `BooksOK` (HTLedgerOps), which the ledger lemmas ask for: `Shape.len` repeats `BooksOK.len`, but `BooksOK.nil`
  speaks of the pool buffers, which `Consistent` does not mention; histories carry both (`run_ok`, `run_cons`).
  Suffixes: `_cons` = `Consistent` of the result (not list `cons`, as in `Ledger.run_cons_ok`); `_table` = the table is the one the `HT`
  function computes; `_shape` = `Shape`; `_keys` = the keys on the books.
-/
namespace Momo.HTL
open Momo Momo.HT Momo.Ledger

theorem map_arrSize (cfg : Cfg) (l : List Gen) : l.map (fun g => cfg.arrSize g.L) = (l.map (·.L)).map cfg.arrSize := by
  rw [List.map_map]; rfl

/-- The ledger transcription of `pvAdd` up to the creator (`addPrepL`, hence `addCoreG`) takes the same decisions as
    `HT.addPhase1` under the faults `toFaults` translates the record into, and computes the same table in each: the proof walks
    both case analyses side by side. -/
theorem addPrepL_table (cfg : Cfg) (hf : Nat → Nat) (st : St) (it : Item) (crT : Bool) (f : Flt) (w : W) :
    ((addPrepL cfg hf st it crT f w).elim (fun r => r.1.t) (fun r => r.1.t) = (addPhase1 cfg.sp hf st.t it (toFaults cfg st crT f)).1) ∧
    ((addPrepL cfg hf st it crT f w).elim (fun r => r.2.2) (fun _ => .ok) = (addPhase1 cfg.sp hf st.t it (toFaults cfg st crT f)).2) := by
  unfold addPrepL addPhase1 HT.addHead toFaults
  simp only
  by_cases h1 : st.t.count < st.t.cap
  · simp only [h1, decide_true, Bool.true_or, if_true]
    cases hg : st.t.gens with
    | nil => simp
    | cons g rest =>
      simp only
      cases crT with
      | true => simp
      | false =>
        simp only [Bool.false_eq_true, if_false]
        cases hadd : addNogrowGen cfg.sp g (hf it.key) it with
        | none => simp
        | some r => simp
  · simp only [h1, decide_false, Bool.false_or, if_false, Bool.not_false, Bool.true_and]
    cases hgl : growLog cfg.sp st.t with
    | none => simp
    | some nl =>
    have hD : growLogD cfg.sp st.t = nl := by unfold growLogD; rw [hgl]; rfl
    simp only [Option.isNone_some, Bool.false_eq_true, if_false, hD]
    cases hgr : f.grow with
    | true =>
      simp only [Bool.true_and, Bool.true_or, if_true]
      by_cases h2 : (cfg.sp.overloadIfCannotGrow && !st.t.gens.isEmpty) = true
      · simp only [h2, if_true]
        cases hg : st.t.gens with
        | nil => simp
        | cons g rest =>
          simp only
          cases crT with
          | true => simp
          | false =>
            simp only [Bool.false_eq_true, if_false]
            cases hadd : addNogrowGen cfg.sp g (hf it.key) it with
            | none => simp
            | some r => simp
      · simp only [h2]; simp
    | false =>
      simp only [Bool.false_and, Bool.false_eq_true, if_false, Bool.false_or]
      by_cases h3 : (st.t.gens.isEmpty && f.params) = true
      · simp only [h3, if_true]
        simp only [Bool.and_eq_true] at h3
        obtain ⟨h4, h5⟩ := h3
        simp [h4]
      · simp only [h3]
        cases crT with
        | true => simp
        | false =>
          simp only [Bool.false_eq_true, if_false]
          cases hadd : addNogrowGen cfg.sp (emptyGen cfg.sp nl) (hf it.key) it with
          | none => simp
          | some r => simp

theorem setE_keys (els : Els) (k e : Nat) : (setE els k e).map Prod.fst = els.map Prod.fst := by
  induction els with
  | nil => rfl
  | cons p r ih =>
    obtain ⟨k0, e0⟩ := p
    simp only [setE]
    split
    · rfl
    · simp [ih]

theorem moveAll_keys (cfg : Cfg) : ∀ (ks : List Nat) (els : Els) (w : W),
    (moveAll cfg ks els w).1.map Prod.fst = els.map Prod.fst := by
  intro ks
  induction ks with
  | nil => intro els w; rfl
  | cons k r ih =>
    intro els w
    simp only [moveAll]
    split
    · exact ih els w
    · rw [ih, setE_keys]

theorem relocGo_keys (cfg : Cfg) : ∀ (olds : List (Nat × Nat)) (ks : List (List Nat)) (n dead : Nat) (els : Els) (w : W),
    (relocGo cfg olds ks n dead els w).1.map Prod.fst = els.map Prod.fst := by
  intro olds
  induction olds with
  | nil => intro ks n dead els w; rfl
  | cons a rest ih =>
    intro ks n dead els w
    cases dead with
    | zero => simp only [relocGo]; exact moveAll_keys cfg _ els w
    | succ d => simp only [relocGo]; rw [ih, moveAll_keys]

theorem relocL_keys (cfg : Cfg) (hf : Nat → Nat) (st : St) (stop : Option Nat) (w : W) :
    (relocL cfg hf st stop w).1.els.map Prod.fst = st.els.map Prod.fst := by
  unfold relocL
  exact relocGo_keys cfg _ _ _ _ _ _

theorem toFaults_ok (cfg : Cfg) (st : St) (crT : Bool) (f : Flt) : FaultsOK cfg.sp (toFaults cfg st crT f) := by
  intro h
  simp [toFaults, h]

theorem finishL_table (cfg : Cfg) (hf : Nat → Nat) (st : St) (f : Flt) (w : W) :
    (finishL cfg hf st f w).1.t =
      (if st.t.gens.length > 1 then relocate cfg.sp hf st.t (if cfg.sp.nothrowReloc then none else f.mig) else st.t) := by
  by_cases h : st.t.gens.length > 1 <;> simp [finishL, h, relocL]

theorem finishL_keys (cfg : Cfg) (hf : Nat → Nat) (st : St) (f : Flt) (w : W) :
    (finishL cfg hf st f w).1.els.map Prod.fst = st.els.map Prod.fst := by
  by_cases h : st.t.gens.length > 1
  · simp only [finishL, h, if_true]; exact relocL_keys cfg hf st f.mig w
  · simp [finishL, h]

theorem addL_table (cfg : Cfg) (hf : Nat → Nat) (st : St) (it : Item) (cr : Creator) (f : Flt) (w : W) :
    (addL cfg hf st it cr f w).1.t = (add cfg.sp hf st.t it (toFaults cfg st (cr.throws cfg f) f)).1 ∧
    (addL cfg hf st it cr f w).2.2 = (add cfg.sp hf st.t it (toFaults cfg st (cr.throws cfg f) f)).2 := by
  obtain ⟨c1, c2⟩ : (addCoreG cfg hf st it (cr.throws cfg f) (cr.run cfg) f w).1.t = _ ∧
      (addCoreG cfg hf st it (cr.throws cfg f) (cr.run cfg) f w).2.2 = _ := by
    have := addPrepL_table cfg hf st it (cr.throws cfg f) f w
    unfold addCoreG
    generalize addPrepL cfg hf st it (cr.throws cfg f) f w = r at this ⊢
    rcases r with r | ⟨st1, w1⟩ <;> exact this
  rw [add_eq]
  unfold addL addCoreL addFinish
  have hstop : (toFaults cfg st (cr.throws cfg f) f).relocStop = (if cfg.sp.nothrowReloc then none else f.mig) := rfl
  rw [hstop]
  generalize addPhase1 cfg.sp hf st.t it (toFaults cfg st (cr.throws cfg f) f) = r1 at c1 c2 ⊢
  generalize addCoreG cfg hf st it (cr.throws cfg f) (cr.run cfg) f w = r at c1 c2 ⊢
  obtain ⟨st1, w1, out⟩ := r
  obtain ⟨t1', out1⟩ := r1
  simp only at c1 c2
  subst c2
  cases out with
  | ok =>
    simp only
    have t1 := finishL_table cfg hf st1 f w1
    rw [t1, c1]
    by_cases hlen : t1'.gens.length > 1 <;> simp [hlen]
  | full => simp only; exact ⟨c1, trivial⟩
  | badAlloc => simp only; exact ⟨c1, trivial⟩
  | invalid => simp only; exact ⟨c1, trivial⟩

/-- sizes: one bucket-array block of `pvGetBufferSize(logCount)` bytes per generation, in the same order -/
structure Shape (cfg : Cfg) (st : St) : Prop where
  sizes : st.arrs.map Prod.snd = st.t.gens.map (fun g => cfg.arrSize g.L)
  params : st.params.isSome = !st.t.gens.isEmpty

structure Consistent (cfg : Cfg) (hf : Nat → Nat) (st : St) : Prop where
  inv : TableInv cfg.sp hf st.t
  keys : (st.els.map Prod.fst).Perm ((traverse st.t).map (·.key))
  shape : Shape cfg st

theorem Shape.len {cfg : Cfg} {st : St} (h : Shape cfg st) : st.arrs.length = st.t.gens.length := by
  have := congrArg List.length h.sizes
  simpa using this

theorem Shape.init (cfg : Cfg) (c : Option Nat) : Shape cfg ({ crew := c } : St) := ⟨rfl, rfl⟩

theorem Consistent.init (cfg : Cfg) (hf : Nat → Nat) (c : Option Nat) : Consistent cfg hf ({ crew := c } : St) :=
  ⟨emptyTable_inv cfg.sp hf, List.Perm.refl _, Shape.init cfg c⟩

theorem Consistent.count {cfg : Cfg} {hf : Nat → Nat} {st : St} (h : Consistent cfg hf st) : st.elems.length = st.t.count := by
  have := h.keys.length_eq
  simp only [List.length_map] at this
  rw [h.inv.core.count, St.elems, List.length_map, this]

def PrepShape (cfg : Cfg) (st : St) : (St × W × Outcome) ⊕ (St × W) → Prop
  | .inl r => r.1 = st ∧ r.2.2 ≠ .ok
  | .inr r => Shape cfg r.1 ∧ r.1.els = st.els ∧ r.1.t.gens ≠ []

theorem created_shape (cfg : Cfg) (st : St) (g : Gen) (c k : Nat) (w : W) (hs : Shape cfg st) :
    Shape cfg (created cfg st ⟨g :: st.t.gens, c, k⟩ (cfg.arrSize g.L) w).1 := by
  unfold created
  rcases Bool.eq_false_or_eq_true st.t.gens.isEmpty with hfirst | hfirst
  · rw [if_pos hfirst]; exact ⟨by simp [hs.sizes], rfl⟩
  · rw [if_neg (by simp [hfirst])]; exact ⟨by simp [hs.sizes], by simpa [hfirst] using hs.params⟩

theorem addPrepL_shape (cfg : Cfg) (hf : Nat → Nat) (st : St) (it : Item) (crT : Bool) (f : Flt) (w : W) (hs : Shape cfg st) :
    PrepShape cfg st (addPrepL cfg hf st it crT f w) := by
  refine addPrepL_elim cfg hf st it crT f w (fun w' out ho _ => ⟨rfl, ho⟩) ?_ ?_
  · intro g rest g' i hg hadd _
    refine ⟨⟨?_, ?_⟩, rfl, by simp⟩
    · have := hs.sizes
      rw [hg] at this
      simp only [List.map_cons] at this ⊢
      rw [this, addNogrowGen_L cfg.sp g g' _ _ i hadd]
    · have := hs.params
      rw [hg] at this
      simpa using this
  · intro g' i hadd _
    have hL : cfg.arrSize (growLogD cfg.sp st.t) = cfg.arrSize g'.L := by
      rw [addNogrowGen_L cfg.sp _ g' _ _ i hadd, emptyGen_L]
    rw [hL]
    obtain ⟨po, e⟩ := created_fst cfg st ⟨g' :: st.t.gens, st.t.count + 1, capacityOf cfg.sp (growLogD cfg.sp st.t)⟩
      (cfg.arrSize g'.L) w
    exact ⟨created_shape cfg st g' _ _ w hs, by rw [e], by rw [e]; simp⟩

theorem finishL_shape (cfg : Cfg) (hf : Nat → Nat) (st : St) (f : Flt) (w : W) (hs : Shape cfg st) (hne : st.t.gens ≠ []) :
    Shape cfg (finishL cfg hf st f w).1 := by
  unfold finishL
  by_cases hlen : st.t.gens.length > 1
  · rw [if_pos hlen]
    -- the generations that survive the migration keep their sizes, and so do their bucket arrays
    have hL := relocate_L cfg.sp hf st.t (if cfg.sp.nothrowReloc = true then none else f.mig)
    have hpos := (relocate_length cfg.sp hf st.t (if cfg.sp.nothrowReloc = true then none else f.mig)).2 hne
    unfold relocL
    generalize relocate cfg.sp hf st.t (if cfg.sp.nothrowReloc = true then none else f.mig) = t' at hL hpos ⊢
    refine ⟨?_, ?_⟩
    · show (st.arrs.take t'.gens.length).map Prod.snd = t'.gens.map (fun g => cfg.arrSize g.L)
      rw [List.map_take, hs.sizes, map_arrSize, map_arrSize, hL, List.map_take]
    · show st.params.isSome = !t'.gens.isEmpty
      rw [hs.params]
      cases hg' : t'.gens with
      | nil => rw [hg'] at hpos; cases hpos
      | cons _ _ =>
        cases hg : st.t.gens with
        | nil => exact absurd hg hne
        | cons _ _ => rfl
  · rw [if_neg hlen]; exact hs

/-- `finishL` after a successful `addPrepL` (the ledger's counterpart of `HT.addFinish` after `HT.addPhase1`), with the new object
    booked under any id `e` in any world `w2`: `addL_cons` takes them from the creator, the merge step from the extraction. -/
theorem addFinish_cons (cfg : Cfg) (hf : Nat → Nat) (ok : SpecOK cfg.sp) (st : St) (it : Item) (crT : Bool) (f : Flt) (w : W)
    (st1 : St) (w1 : W) (hprep : addPrepL cfg hf st it crT f w = .inr (st1, w1)) (hc : Consistent cfg hf st)
    (hk : ∀ x ∈ HT.traverse st.t, x.key ≠ it.key) (e : Nat) (w2 : W) :
    Consistent cfg hf (finishL cfg hf { st1 with els := (it.key, e) :: st1.els } f w2).1 := by
  have hp := addPrepL_shape cfg hf st it crT f w hc.shape
  rw [hprep] at hp
  obtain ⟨p1, p2, p3⟩ := hp
  have htab := addPrepL_table cfg hf st it crT f w
  rw [hprep] at htab
  obtain ⟨q1, q2⟩ : st1.t = _ ∧ Outcome.ok = _ := htab
  have hadd : add cfg.sp hf st.t it (toFaults cfg st crT f) =
      ((finishL cfg hf { st1 with els := (it.key, e) :: st1.els } f w2).1.t, .ok) := by
    rw [add_eq, finishL_table cfg hf _ f w2]
    unfold addFinish
    rw [← q2, ← q1]
    by_cases hlen : st1.t.gens.length > 1 <;> simp [hlen, toFaults]
  obtain ⟨i1, i2⟩ := add_ok cfg.sp hf ok st.t it _ hc.inv (toFaults_ok cfg st _ f) hk (by rw [hadd])
  rw [hadd] at i1 i2
  refine ⟨i1, ?_, finishL_shape cfg hf _ f w2 ⟨p1.sizes, p1.params⟩ p3⟩
  rw [finishL_keys cfg hf _ f w2]
  show (it.key :: st1.els.map Prod.fst).Perm _
  rw [congrArg (List.map Prod.fst) p2]
  exact (hc.keys.cons it.key).trans (i2.map fun x : Item => x.key).symm

theorem addL_cons (cfg : Cfg) (hf : Nat → Nat) (ok : SpecOK cfg.sp) (st : St) (it : Item) (cr : Creator) (f : Flt) (w : W)
    (hc : Consistent cfg hf st) (hk : ∀ x ∈ HT.traverse st.t, x.key ≠ it.key)
    (hok : (addL cfg hf st it cr f w).2.2 = .ok) : Consistent cfg hf (addL cfg hf st it cr f w).1 := by
  have hp := addPrepL_shape cfg hf st it (cr.throws cfg f) f w hc.shape
  unfold addL addCoreL addCoreG at hok ⊢
  cases hprep : addPrepL cfg hf st it (cr.throws cfg f) f w with
  | inl r =>
    rw [hprep] at hp hok
    obtain ⟨st1, w1, out⟩ := r
    cases out with
    | ok => exact absurd rfl hp.2
    | _ => cases hok
  | inr r => exact addFinish_cons cfg hf ok st it _ f w r.1 r.2 hprep hc hk _ _

theorem insertL_cons (cfg : Cfg) (hf : Nat → Nat) (ok : SpecOK cfg.sp) (st : St) (it : Item) (cr : Creator) (f : Flt) (w : W)
    (hc : Consistent cfg hf st) : Consistent cfg hf (insertL cfg hf st it cr f w).1 := by
  -- arms as in `insertL_fail_same`
  fun_cases insertL cfg hf st it cr f w with
  | case1 | case2 => exact hc
  | case3 _ hfind =>
    by_cases hok : (addL cfg hf st it cr f w).2.2 = .ok
    · exact addL_cons cfg hf ok st it cr f w hc (findTable_none cfg.sp hf st.t hc.inv it.key hfind) hok
    · rw [addL_fail_same cfg hf st it cr f w hok]; exact hc

theorem dropE_keys (els : Els) (k : Nat) : (dropE els k).map Prod.fst = (els.map Prod.fst).erase k := by
  induction els with
  | nil => rfl
  | cons p r ih =>
    obtain ⟨k0, e0⟩ := p
    by_cases h : k0 = k
    · subst h; simp [dropE]
    · simp only [dropE, h, if_false, List.map_cons, ih]
      rw [List.erase_cons_tail (by simpa using h)]

theorem itemAt_some {cfg : Cfg} {t : Table} {gi b j : Nat} {x : Item} (h : itemAt cfg t gi b j = some x) :
    ∃ g, t.gens[gi]? = some g ∧ (bkt cfg.sp g.bs b).items[j]? = some x := by
  unfold itemAt at h
  cases hg : t.gens[gi]? with
  | none => simp [hg] at h
  | some g => exact ⟨g, rfl, by simpa [hg] using h⟩

theorem lastAt_some {cfg : Cfg} {t : Table} {gi b : Nat} {l : Item} (h : lastAt cfg t gi b = some l) :
    ∃ g, t.gens[gi]? = some g ∧ l ∈ (bkt cfg.sp g.bs b).items := by
  unfold lastAt at h
  cases hg : t.gens[gi]? with
  | none => simp [hg] at h
  | some g =>
    refine ⟨g, rfl, ?_⟩
    simp only [hg] at h
    exact List.mem_of_getLast? h

theorem mem_traverse_of_bkt {sp : Spec} {t : Table} {gi b : Nat} {g : Gen} {x : Item} (hg : t.gens[gi]? = some g)
    (hx : x ∈ (bkt sp g.bs b).items) : x ∈ HT.traverse t :=
  (mem_traverse t x).mpr ⟨g, List.mem_of_getElem? hg, (mem_genItems sp g x).mpr ⟨b, hx⟩⟩

theorem Consistent.look {cfg : Cfg} {hf : Nat → Nat} {st : St} (hc : Consistent cfg hf st) {x : Item} (hx : x ∈ HT.traverse st.t) :
    ∃ e, lookE st.els x.key = some e :=
  exists_lookE_of_mem (hc.keys.mem_iff.mpr (List.mem_map.mpr ⟨x, hx, rfl⟩))

/-- the table loses the item at the position, the books its key (the other keys keep or swap their objects) -/
theorem removePos_cons (cfg : Cfg) (hf : Nat → Nat) (st : St) (gi b j : Nat) (x : Item) (els' : Els)
    (hc : Consistent cfg hf st) (hx : itemAt cfg st.t gi b j = some x)
    (hk : els'.map Prod.fst = (st.els.map Prod.fst).erase x.key) :
    Consistent cfg hf { st with t := removePos cfg.sp st.t gi b j, els := els' } := by
  obtain ⟨g, hg, hj⟩ := itemAt_some hx
  obtain ⟨i1, i2⟩ := removePos_spec cfg.sp hf st.t hc.inv gi b j g x hg hj
  refine ⟨i1, ?_, ⟨?_, ?_⟩⟩
  · simp only
    rw [hk]
    have h1 : (st.els.map Prod.fst).Perm (x.key :: (HT.traverse (removePos cfg.sp st.t gi b j)).map (·.key)) :=
      hc.keys.trans (i2.map (·.key)).symm
    have h2 := h1.erase x.key
    simpa using h2
  · simp only
    rw [hc.shape.sizes, map_arrSize, map_arrSize, removePos_L]
  · simp only
    rw [hc.shape.params, removePos_isEmpty]

theorem Consistent.lookAt {cfg : Cfg} {hf : Nat → Nat} {st : St} (hc : Consistent cfg hf st) {gi b j : Nat} {x l : Item}
    (hx : itemAt cfg st.t gi b j = some x) (hl : lastAt cfg st.t gi b = some l) :
    ∃ d s, lookE st.els x.key = some d ∧ lookE st.els l.key = some s := by
  obtain ⟨g, hg, hj⟩ := itemAt_some hx
  obtain ⟨g2, hg2, hl2⟩ := lastAt_some hl
  obtain ⟨d, hd⟩ := hc.look (mem_traverse_of_bkt hg (List.mem_of_getElem? hj))
  obtain ⟨s, hs⟩ := hc.look (mem_traverse_of_bkt hg2 hl2)
  exact ⟨d, s, hd, hs⟩

theorem removeAtL_cons (cfg : Cfg) (hf : Nat → Nat) (st : St) (gi b j : Nat) (f : Flt) (w : W) (hc : Consistent cfg hf st) :
    Consistent cfg hf (removeAtL cfg st gi b j f w).1 := by
  -- arms: 1 the assignment throws; 2 removed; 3 an item without an object on the books: excluded by `Consistent`; 4 no item
  fun_cases removeAtL cfg st gi b j f w with
  | case1 | case4 => exact hc
  | case2 x l _ hx d s _ _ _ isLast _ =>
    refine removePos_cons cfg hf st gi b j x _ hc hx ?_
    cases isLast
    · exact (setE_keys _ _ _).trans (dropE_keys _ _)
    · exact dropE_keys _ _
  | case3 x l hl hx hno =>
    obtain ⟨d, s, hd, hs⟩ := hc.lookAt hx hl
    exact (hno d s hd hs).elim

def ExtCons (cfg : Cfg) (hf : Nat → Nat) (st : St) : St × W × Option Nat → Prop
  | (st', _, some _) => Consistent cfg hf st'
  | (st', _, none) => st' = st

theorem extractAtL_cons (cfg : Cfg) (hf : Nat → Nat) (st : St) (gi b j : Nat) (f : Flt) (w : W) (hc : Consistent cfg hf st) :
    ExtCons cfg hf st (extractAtL cfg st gi b j f w) := by
  have hset : ∀ {x : Item} (l : Item) (e : Nat), itemAt cfg st.t gi b j = some x →
      Consistent cfg hf { st with t := removePos cfg.sp st.t gi b j, els := setE (dropE st.els x.key) l.key e } :=
    fun l e hx => removePos_cons cfg hf st gi b j _ _ hc hx ((setE_keys _ _ _).trans (dropE_keys _ _))
  -- arms: 2 last item relocated, 3 nothrow relocatable, 6 copy-only replaced; the others (a copy or the assignment throws, nothing
  -- at the position, an item without an object) return the container
  fun_cases extractAtL cfg st gi b j f w with
  | case1 | case4 | case5 | case7 | case8 => exact rfl
  | case2 x l _ hx d s _ _ _ _ => exact removePos_cons cfg hf st gi b j x _ hc hx (dropE_keys st.els x.key)
  | case3 x l _ hx d s _ _ _ _ => exact hset l _ hx
  | case6 x l _ hx d s _ _ _ _ _ _ => exact hset l d hx

theorem removeKeyL_cons (cfg : Cfg) (hf : Nat → Nat) (st : St) (k : Nat) (f : Flt) (w : W) (hc : Consistent cfg hf st) :
    Consistent cfg hf (removeKeyL cfg hf st k f w).1 := by
  unfold removeKeyL
  split
  · exact hc
  · split
    · exact hc
    · exact removeAtL_cons cfg hf st _ _ _ f w hc

theorem extractKeyL_cons (cfg : Cfg) (hf : Nat → Nat) (st : St) (k : Nat) (f : Flt) (w : W) (hc : Consistent cfg hf st) :
    Consistent cfg hf (extractKeyL cfg hf st k f w).1 := by
  -- arms as in `extractKeyL_led` (HTLedgerOps)
  fun_cases extractKeyL cfg hf st k f w with
  | case1 | case2 => exact hc
  | case3 _ gi b j _ x st1 w1 e hext _ => exact (hext ▸ extractAtL_cons cfg hf st gi b j f w hc : ExtCons cfg hf st (st1, w1, some e))
  | case4 _ gi b j _ st1 w1 o hext _ =>
    have he : ExtCons cfg hf st (st1, w1, o) := hext ▸ extractAtL_cons cfg hf st gi b j f w hc
    cases o with
    | none => exact (he : st1 = st) ▸ hc
    | some e => exact he

theorem removeIfGo_cons (cfg : Cfg) (hf : Nat → Nat) (pred : Item → Bool) (f : Nat → Flt)
    (ps : List (Nat × Nat × Nat)) (st : St) (w : W) (n : Nat) :
    Consistent cfg hf st → Consistent cfg hf (removeIfGo cfg pred f ps st w n).1 := by
  fun_induction removeIfGo cfg pred f ps st w n with
  | case1 => exact id
  | case2 _ _ _ _ _ _ _ _ ih | case5 _ _ _ _ _ _ _ _ _ _ ih => exact ih
  | case3 gi b j _ st w n => exact removeAtL_cons cfg hf st gi b j (f n) w
  | case4 gi b j _ st w n _ _ _ _ ih => exact fun hc => ih (removeAtL_cons cfg hf st gi b j (f n) w hc)

theorem reserveL_table (cfg : Cfg) (hf : Nat → Nat) (st : St) (c : Nat) (f : Flt) (w : W) :
    (reserveL cfg hf st c f w).1.t = (reserve cfg.sp hf st.t c (toFaults cfg st false f)).1 ∧
    (reserveL cfg hf st c f w).2.2 = (reserve cfg.sp hf st.t c (toFaults cfg st false f)).2 := by
  refine reserveL_elim cfg hf st c f w
    (P := fun r => r.1.t = (reserve cfg.sp hf st.t c (toFaults cfg st false f)).1 ∧
      r.2.2 = (reserve cfg.sp hf st.t c (toFaults cfg st false f)).2) ?_ ?_ ?_
  · intro c1; simp [reserve, c1]
  · intro w' c1 hr _; simp [reserve, c1, toFaults, hr]
  · intro nl r c1 hr hnl e
    obtain ⟨po, e'⟩ := created_fst cfg st ⟨emptyGen cfg.sp nl :: st.t.gens, st.t.count, capacityOf cfg.sp nl⟩ (cfg.arrSize nl) w
    have ht : r.1.t = ⟨emptyGen cfg.sp nl :: st.t.gens, st.t.count, capacityOf cfg.sp nl⟩ := by rw [e, e']
    simp only [finishL_table cfg hf r.1 f r.2, ht, reserve, c1, if_false, toFaults, hr, ← hnl, List.length_cons,
      Bool.false_eq_true]
    constructor <;> split <;> rfl

theorem reserveL_cons (cfg : Cfg) (hf : Nat → Nat) (ok : SpecOK cfg.sp) (st : St) (c : Nat) (f : Flt) (w : W)
    (hc : Consistent cfg hf st) : Consistent cfg hf (reserveL cfg hf st c f w).1 := by
  obtain ⟨t1, _⟩ := reserveL_table cfg hf st c f w
  obtain ⟨i1, i2, _⟩ := reserve_spec cfg.sp hf ok st.t c _ hc.inv (toFaults_ok cfg st false f)
  have hks : (reserveL cfg hf st c f w).1.els.map Prod.fst = st.els.map Prod.fst ∧ Shape cfg (reserveL cfg hf st c f w).1 := by
    refine reserveL_elim cfg hf st c f w (P := fun r => r.1.els.map Prod.fst = st.els.map Prod.fst ∧ Shape cfg r.1)
      (fun _ => ⟨rfl, hc.shape⟩) (fun _ _ _ _ => ⟨rfl, hc.shape⟩) ?_
    intro nl r _ _ _ e
    obtain ⟨po, e'⟩ := created_fst cfg st ⟨emptyGen cfg.sp nl :: st.t.gens, st.t.count, capacityOf cfg.sp nl⟩ (cfg.arrSize nl) w
    have hsh := created_shape cfg st (emptyGen cfg.sp nl) st.t.count (capacityOf cfg.sp nl) w hc.shape
    rw [emptyGen_L, ← e] at hsh
    exact ⟨by rw [finishL_keys cfg hf r.1 f r.2, e, e'], finishL_shape cfg hf r.1 f r.2 hsh (by rw [e, e']; simp)⟩
  refine ⟨by rw [t1]; exact i1, ?_, hks.2⟩
  rw [hks.1, t1]
  exact hc.keys.trans (i2.map (·.key)).symm

theorem clearL_cons (cfg : Cfg) (hf : Nat → Nat) (ok : SpecOK cfg.sp) (st : St) (shrink : Bool) (w : W)
    (hc : Consistent cfg hf st) : Consistent cfg hf (clearL cfg st shrink w).1 := by
  obtain ⟨i1, i2⟩ := clear_spec cfg.sp hf ok st.t shrink hc.inv
  have hgens : ∀ {a older}, st.arrs = a :: older → ∃ g rest, st.t.gens = g :: rest := fun ha =>
    List.exists_cons_of_length_pos (by rw [← hc.shape.len, ha]; exact Nat.succ_pos _)
  -- arms: 1 no bucket array; 2 `Clear(true)`; 3 `Clear(false)`: the newest array stays, with its size and the `BucketParams`
  fun_cases clearL cfg st shrink w with
  | case1 => exact hc
  | case2 a older harr hsh =>
    obtain ⟨g, rest, hgs⟩ := hgens harr
    subst hsh
    refine ⟨i1, by simp [i2], ⟨?_, ?_⟩⟩ <;> simp [clear, hgs, emptyTable]
  | case3 a older harr hsh =>
    obtain ⟨g, rest, hgs⟩ := hgens harr
    obtain rfl : shrink = false := by simpa using hsh
    have hsz := hc.shape.sizes
    rw [harr, hgs] at hsz
    have hpar := hc.shape.params
    rw [hgs] at hpar
    exact ⟨i1, by simp [i2], by simp [clear, hgs, (List.cons.inj (by simpa using hsz)).1], by simpa [clear, hgs] using hpar⟩

theorem copyItems_gen (cfg : Cfg) (hf : Nat → Nat) (src : Els) (items : List Item) (g : Gen) (els : Els) (w : W) :
    (copyItems cfg hf src items g els w).1 = items.foldl (fun g it => match addNogrowGen cfg.sp g (hf it.key) it with
      | some (g', _) => g' | none => g) g := by
  fun_induction copyItems cfg hf src items g els w with
  | case1 => rfl
  | case2 _ _ _ _ _ _ _ _ _ hadd ih | case3 _ _ _ _ _ _ _ _ hadd ih | case4 _ _ _ _ _ hadd ih =>
    rw [List.foldl_cons, hadd]; exact ih

theorem copyItems_keys (cfg : Cfg) (hf : Nat → Nat) (ok : SpecOK cfg.sp) (src : Els) (items : List Item) (g : Gen) (els : Els)
    (w : W) : GenInv cfg.sp hf g → (els.map Prod.fst).Perm ((genItems g).map (·.key)) →
      ((copyItems cfg hf src items g els w).2.1.map Prod.fst).Perm ((genItems (copyItems cfg hf src items g els w).1).map (·.key)) := by
  -- an added item puts its key on both sides
  have step : ∀ {it : Item} {g g' : Gen} {idx : Nat} {els : Els} (e : Nat), GenInv cfg.sp hf g →
      addNogrowGen cfg.sp g (hf it.key) it = some (g', idx) → (els.map Prod.fst).Perm ((genItems g).map (·.key)) →
      GenInv cfg.sp hf g' ∧ (((it.key, e) :: els).map Prod.fst).Perm ((genItems g').map (·.key)) := by
    intro it g g' idx els e hI hadd h
    obtain ⟨a1, a2, _⟩ := addNogrowGen_inv cfg.sp hf ok g g' it idx hI hadd
    exact ⟨a1, (h.cons it.key).trans (by simpa using (a2.map (·.key)).symm)⟩
  fun_induction copyItems cfg hf src items g els w with
  | case1 => exact fun _ h => h
  | case2 _ _ _ _ _ _ _ _ _ hadd ih | case3 _ _ _ _ _ _ _ _ hadd ih => exact fun hI h => And.elim ih (step _ hI hadd h)
  | case4 _ _ _ _ _ _ ih => exact ih

def CtorCons (cfg : Cfg) (hf : Nat → Nat) : Option St × W → Prop
  | (none, _) => True
  | (some st', _) => Consistent cfg hf st'

theorem newL_cons (cfg : Cfg) (hf : Nat → Nat) (f : Flt) (w : W) : CtorCons cfg hf (newL cfg f w) := by
  rcases newL_cases cfg f w with h0 | ⟨c, w', h0, _⟩
  · rw [h0]; trivial
  · rw [h0]; exact Consistent.init cfg hf c

theorem copyL_cons (cfg : Cfg) (hf : Nat → Nat) (ok : SpecOK cfg.sp) (src : St) (f : Flt) (w : W)
    (hc : Consistent cfg hf src) (hfit : CopyFits cfg.sp src.t) : CtorCons cfg hf (copyL cfg hf src f w) := by
  refine copyL_elim cfg hf src f w (fun _ _ => trivial) (fun c _ _ _ => Consistent.init cfg hf c) ?_
  intro c a p w2 L r hcount hL hr _
  obtain ⟨i1, i2⟩ := copyOf_spec cfg.sp hf ok src.t hc.inv hfit
  have hL3 := (foldl_add_spec cfg.sp hf ok (HT.traverse src.t) (emptyGen cfg.sp L) (emptyGen_inv cfg.sp hf ok _) (by
    rcases hfit with h | h
    · exact Or.inl h
    · right; rw [← hc.inv.core.count, hL]; simpa [copyLog] using h)).2.2
  have htab : copyOf cfg.sp hf src.t = { gens := [r.1], count := src.t.count, cap := capacityOf cfg.sp L } := by
    rw [hr, copyItems_gen, hL]
    unfold copyOf
    simp only [hcount, Bool.false_eq_true, if_false]
    rfl
  refine ⟨by rw [← htab]; exact i1, ?_, ⟨?_, rfl⟩⟩
  · rw [show HT.traverse { gens := [r.1], count := src.t.count, cap := capacityOf cfg.sp L } = genItems r.1 by
      simp [traverse_eq_gensItems], hr]
    exact copyItems_keys cfg hf ok src.els (HT.traverse src.t) (emptyGen cfg.sp L) [] w2 (emptyGen_inv cfg.sp hf ok _) (by simp)
  · rw [hr, copyItems_gen]
    exact congrArg (fun l => [cfg.arrSize l]) hL3.symm

theorem mergeStepL_cons (cfg : Cfg) (hf : Nat → Nat) (ok : SpecOK cfg.sp) (src dst : St) (gi b j : Nat) (f : Flt) (w : W)
    (hs : Consistent cfg hf src) (hd : Consistent cfg hf dst) :
    Consistent cfg hf (mergeStepL cfg hf src dst gi b j f w).1 ∧ Consistent cfg hf (mergeStepL cfg hf src dst gi b j f w).2.1 := by
  -- arms as in `mergeStepL_led` (HTLedgerSys)
  fun_cases mergeStepL cfg hf src dst gi b j f w with
  | case1 | case2 | case3 | case6 => exact ⟨hs, hd⟩
  | case4 x _ _ _ dst1 w1 out hprep =>
    obtain ⟨rfl, _⟩ : PrepShape cfg dst (.inl (dst1, w1, out)) := hprep ▸ addPrepL_shape cfg hf dst x _ f w hd.shape
    exact ⟨hs, hd⟩
  | case5 x _ _ hnone dst1 w1 hprep src1 w2 e hext =>
    have he : ExtCons cfg hf src (src1, w2, some e) := hext ▸ extractAtL_cons cfg hf src gi b j f w1 hs
    exact ⟨he, addFinish_cons cfg hf ok dst x _ f w dst1 w1 hprep hd (findTable_none cfg.sp hf dst.t hd.inv x.key hnone) e w2⟩

theorem mergeGo_cons (cfg : Cfg) (hf : Nat → Nat) (ok : SpecOK cfg.sp) (f : Nat → Flt) :
    ∀ (ps : List (Nat × Nat × Nat)) (src dst : St) (w : W) (n : Nat), Consistent cfg hf src → Consistent cfg hf dst →
      Consistent cfg hf (mergeGo cfg hf f ps src dst w n).1 ∧ Consistent cfg hf (mergeGo cfg hf f ps src dst w n).2.1 := by
  intro ps
  induction ps with
  | nil => intro src dst w n hs hd; exact ⟨hs, hd⟩
  | cons p r ih =>
    intro src dst w n hs hd
    obtain ⟨gi, b, j⟩ := p
    simp only [mergeGo]
    obtain ⟨m1, m2⟩ := mergeStepL_cons cfg hf ok src dst gi b j (f n) w hs hd
    generalize mergeStepL cfg hf src dst gi b j (f n) w = q at m1 m2 ⊢
    obtain ⟨src1, dst1, w1, moved, threw⟩ := q
    cases threw with
    | true => exact ⟨m1, m2⟩
    | false => exact ih _ _ _ _ m1 m2

/-- side condition of the hash-table model's copy constructor (Props/C01.lean `C01_copy_fits`: holds whenever the count does not
    exceed the capacity of `2^(logStart+63)` buckets) -/
def OpFits (cfg : Cfg) (s : Sys) : Op → Prop
  | .copyTo _ => CopyFits cfg.sp s.a.t
  | _ => True

structure SysCons (cfg : Cfg) (hf : Nat → Nat) (s : Sys) : Prop where
  a : Consistent cfg hf s.a
  b : Consistent cfg hf s.b

theorem step_cons (cfg : Cfg) (hf : Nat → Nat) (ok : SpecOK cfg.sp) (s : Sys) (op : Op) (h : SysCons cfg hf s)
    (hfit : OpFits cfg s op) : SysCons cfg hf (step cfg hf s op).1 := by
  obtain ⟨ha, hb⟩ := h
  revert hfit
  -- arms as in `step_post` (HTLedgerSys)
  fun_cases step cfg hf s op with
  | case1 toB k v f =>
    cases toB
    · exact fun _ => ⟨insertL_cons cfg hf ok s.a _ _ f s.w ha, hb⟩
    · exact fun _ => ⟨ha, insertL_cons cfg hf ok s.b _ _ f s.w hb⟩
  | case2 k f => exact fun _ => ⟨removeKeyL_cons cfg hf s.a k f s.w ha, hb⟩
  | case3 m r f => exact fun _ => ⟨removeIfGo_cons cfg hf _ f _ s.a s.w 0 ha, hb⟩
  | case4 c f => exact fun _ => ⟨reserveL_cons cfg hf ok s.a c f s.w ha, hb⟩
  | case5 sh => exact fun _ => ⟨clearL_cons cfg hf ok s.a sh s.w ha, hb⟩
  | case6 | case8 | case10 | case16 | case17 => exact fun _ => ⟨ha, hb⟩
  | case7 k f => exact fun _ => ⟨extractKeyL_cons cfg hf s.a k f s.w ha, hb⟩
  | case9 f it e => exact fun _ => ⟨insertL_cons cfg hf ok s.a it _ f s.w ha, hb⟩
  | case11 f st w1 hcp => exact fun hfit => ⟨ha, (hcp ▸ copyL_cons cfg hf ok s.a f s.w ha hfit : CtorCons cfg hf (some st, w1))⟩
  | case12 => exact fun _ => ⟨Consistent.init cfg hf none, ha⟩
  | case13 f w1 st w2 hn => exact fun _ => ⟨(hn ▸ newL_cons cfg hf f w1 : CtorCons cfg hf (some st, w2)), ha⟩
  | case14 => exact fun _ => ⟨hb, ha⟩
  | case15 f =>
    obtain ⟨m1, m2⟩ := mergeGo_cons cfg hf ok f (posList s.a.t) s.a s.b s.w 0 ha hb
    exact fun _ => ⟨m1, m2⟩

theorem poolTraffic_cons (cfg : Cfg) (hf : Nat → Nat) (st : St) (p : PoolT) (w : W) (hc : Consistent cfg hf st) :
    Consistent cfg hf (poolTraffic cfg st p w).1 := by
  unfold poolTraffic
  split
  · exact ⟨hc.inv, hc.keys, ⟨hc.shape.sizes, hc.shape.params⟩⟩
  · exact hc

theorem stepT_cons (cfg : Cfg) (hf : Nat → Nat) (ok : SpecOK cfg.sp) (s : Sys) (o : OpT) (h : SysCons cfg hf s)
    (hfit : OpFits cfg s o.op) : SysCons cfg hf (stepT cfg hf s o).1 := by
  obtain ⟨ha, hb⟩ := step_cons cfg hf ok s o.op h hfit
  unfold stepT
  exact ⟨poolTraffic_cons cfg hf _ _ _ ha, poolTraffic_cons cfg hf _ _ _ hb⟩

/-- every copy of the history fits (the side condition of C01's own history theorem) -/
def RunFits (cfg : Cfg) (hf : Nat → Nat) : Sys → List OpT → Prop
  | _, [] => True
  | s, o :: ops => OpFits cfg s o.op ∧ RunFits cfg hf (stepT cfg hf s o).1 ops

theorem run_cons (cfg : Cfg) (hf : Nat → Nat) (ok : SpecOK cfg.sp) :
    ∀ (ops : List OpT) (s : Sys), SysCons cfg hf s → RunFits cfg hf s ops → SysCons cfg hf (run cfg hf s ops) := by
  intro ops
  induction ops with
  | nil => intro s h _; exact h
  | cons o r ih => intro s h hf'; exact ih _ (stepT_cons cfg hf ok s o h hf'.1) hf'.2

theorem SysCons.init (cfg : Cfg) (hf : Nat → Nat) : SysCons cfg hf (Sys.init cfg) := by
  unfold Sys.init newL
  by_cases hc : cfg.csz = 0
  · simp only [hc, if_true, Option.getD_some]
    exact ⟨Consistent.init cfg hf none, Consistent.init cfg hf none⟩
  · simp only [hc, if_false, Bool.false_eq_true, Option.getD_some]
    exact ⟨Consistent.init cfg hf _, Consistent.init cfg hf _⟩

end Momo.HTL
