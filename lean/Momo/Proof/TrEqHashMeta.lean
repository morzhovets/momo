import Momo.Translated.HashMeta
import Momo.Proof.Word64
import Momo.Proof.HashMetaChain
import Momo.Proof.TrEqHashProbe
/-!
  C12: the hash-metadata functions of `BucketLimP4`, `BucketOpen2N2`, `BucketOne` as translated from the headers (`Momo.Tr.*`,
  Momo/Translated/HashMeta.lean, regenerated by tools/translate.py on every check) compute the model functions of
  Momo/Model/HashMeta.lean; a changed function body makes an equality below fail to elaborate.
  Hypotheses (all true in the C++): table sizes `2^L` with `L ≤ 63`, bucket indices `< 2^L`, metadata bytes `< 256`,
  element positions inside the byte arrays (`index < hashCount`, `count < maxCount`).
-/
namespace Momo.TrEq
open Momo Momo.Seg Momo.HashMeta

theorem shl64_eq (a s : Nat) : shl64 a s = HashMeta.w64 (a <<< s) := Seg.w64_eq _

theorem sub64_eq_w64 (a b : Nat) (ha : a < 2 ^ 64) (hb : b ≤ 2 ^ 64) : sub64 a b = HashMeta.w64 (a + (2 ^ 64 - b)) := by
  rw [sub64_eq_mod b ha, Nat.add_sub_assoc hb]; rfl

theorem upd_eq (a : Nat → Nat) (i v : Nat) : Tr.upd a i v = HashMeta.upd a i v := rfl

theorem w64_mod256 (y : Nat) : Seg.w64 y % 256 = y % 256 := by
  rw [Seg.w64_eq]; exact Nat.mod_mod_of_dvd y (by decide : 256 ∣ 2 ^ 64)

/-- the mirrored index `hashCount - 1 - index` (LimP4), `maxCount - 1 - count` (Open2N2) in `size_t` -/
theorem sub2 (hc index : Nat) (hi : index < hc) : sub64 (sub64 hc 1) index = hc - 1 - index :=
  sub64_sub64 (Nat.add_comm 1 index ▸ hi)

theorem add64_small {a b : Nat} (ha : a ≤ 63) (hb : b ≤ 255) : add64 a b = a + b := add64_of_lt (by omega)

theorem or_mod256 (a b : Nat) : (a ||| b) % 256 = a % 256 ||| b % 256 := Nat.or_mod_two_pow (n := 8)

/-- `++mState[1]` of Open2N2: `s` is the state byte, `c = s % 4` the item count in its two low bits; the six high bits (the max-probe
    exponent of C13) are kept. `state_dec`: the same for `--mState[1]`. -/
theorem state_inc {s c : Nat} (hs : s < 256) (hc : s % 4 = c) (h3 : c < 3) :
    (s + 1) % 256 % 4 = c + 1 ∧ (s + 1) % 256 / 4 = s / 4 ∧ (s + 1) % 256 < 256 := by
  have hm : (s + 1) % 4 = c + 1 := by rw [Nat.add_mod, hc]; exact Nat.mod_eq_of_lt (Nat.succ_lt_succ h3)
  have h : s + 1 < 256 := by omega
  rw [Nat.mod_eq_of_lt h]
  exact ⟨hm, Nat.succ_div_of_mod_ne_zero (hm ▸ Nat.succ_ne_zero c), h⟩

theorem state_dec {s c : Nat} (hs : s < 256) (hc : s % 4 = c) (h1 : 1 ≤ c) :
    Int.toNat (((s : Int) - 1) % 256) % 4 = c - 1 ∧ Int.toNat (((s : Int) - 1) % 256) / 4 = s / 4 ∧
    Int.toNat (((s : Int) - 1) % 256) < 256 := by
  cases s with
  | zero => subst hc; exact absurd h1 (by decide)
  | succ t =>
    have ht := Nat.lt_of_succ_lt hs
    -- `--byte` goes through `int` in the translation (`Seg.dec_byte`); the byte is non-zero
    rw [dec_byte, show t + 1 + 255 = t + 256 from rfl, Nat.add_mod_right, Nat.mod_eq_of_lt ht]
    exact ⟨by omega, (Nat.succ_div_of_mod_ne_zero (hc ▸ Nat.ne_of_gt h1)).symm, ht⟩

theorem tr_limp4_shortHash (h : Nat) : Tr.limp4_pvCalcShortHash h = P4.shortHash h := rfl

theorem tr_limp4_probeShift (L : Nat) (hL : L ≤ 63) : Tr.limp4_pvGetProbeShift L = P4.probeShift L := by
  unfold Tr.limp4_pvGetProbeShift P4.probeShift
  rw [add64_small hL (by decide)]

/-- `useHashCodePartGetter = true`; the `size_t` truncation of the shift is absorbed by the `uint8_t` cast of the byte -/
theorem tr_limp4_setHashProbe (sh : Nat → Nat) (hc index h L p : Nat) (hi : index < hc) (hL : L ≤ 63) :
    Tr.limp4_pvSetHashProbe sh true hc index h L p = P4.setHashProbe hc sh index h L p := by
  unfold Tr.limp4_pvSetHashProbe P4.setHashProbe P4.encByte
  dsimp only
  rw [sub2 hc index hi, tr_limp4_probeShift L hL, shl64_one (Nat.lt_trans (P4.probeShift_lt L) (by decide)), upd_eq]
  simp only [Bool.not_true, Bool.false_or, decide_eq_true_eq]
  by_cases hi' : hc - 1 - index ≤ index
  · rw [if_pos hi', if_pos hi']
  · rw [if_neg hi', if_neg hi']
    refine congrArg (upd sh _) ?_
    split
    · simp only [u8, shl64, or_mod256, w64_mod256, Nat.mod_mod, P4.maskEmpty, Extracted.limp4MaskEmpty, Nat.reduceMod]
    · rfl

/-- without the part getter `pvSetHashProbe` writes nothing -/
theorem tr_limp4_setHashProbe_off (sh : Nat → Nat) (hc index h L p : Nat) :
    Tr.limp4_pvSetHashProbe sh false hc index h L p = sh := by
  unfold Tr.limp4_pvSetHashProbe; simp

theorem tr_limp4_getCount (sh : Nat → Nat) : Tr.limp4_pvGetCount sh = P4.countOf sh := by
  unfold Tr.limp4_pvGetCount P4.countOf
  simp only [decide_eq_true_eq, P4.maskEmpty, ge_iff_le]
  by_cases h1 : Extracted.limp4MaskEmpty ≤ sh 1
  · simp only [h1, if_true]
  · simp only [h1, if_false]
    by_cases h2 : sh 2 < Extracted.limp4MaskEmpty <;> by_cases h3 : sh 3 < Extracted.limp4MaskEmpty <;>
      simp only [h2, h3, if_true, if_false] <;> decide

theorem tr_limp4_isFull (b : P4.Bucket) (hm : 0 < b.maxCount) : Tr.limp4_IsFull b.sh b.maxCount = b.isFull := by
  unfold Tr.limp4_IsFull P4.Bucket.isFull
  rw [sub64_of_le hm]

theorem limp4_useFull_eq (byte L L' : Nat) (hb : byte < 256) (hL : L ≤ 63) (hL' : L' ≤ 63) :
    (decide ((add64 byte 1) % 256 ≤ Extracted.limp4MaskEmpty) ||
      decide ((add64 L Extracted.limp4LogAddend) / Extracted.limp4LogStep ≠ (add64 L' Extracted.limp4LogAddend) / Extracted.limp4LogStep))
      = P4.useFull byte L L' := by
  unfold P4.useFull P4.group u8
  rw [add64_of_lt (Nat.lt_trans (Nat.succ_lt_succ hb) (by decide)), add64_small hL (by decide), add64_small hL' (by decide)]
  simp only [P4.maskEmpty, bne, beq_eq_decide, ne_eq, decide_not]

/-- `hidx`: LimP4 adds `bucketCount` to the index before subtracting the probe, so `idx + 2^L` must not wrap (Open2N2 only subtracts:
    `tr_open2n2_getHashCodePart` asks `idx < 2^64`) -/
theorem tr_limp4_getHashCodePart (sh : Nat → Nat) (hc index full idx L L' : Nat) (hi : index < hc)
    (hb : sh (hc - 1 - index) < 256) (hidx : idx < 2 ^ L) (hL : L ≤ 63) (hL' : L' ≤ 63) :
    Tr.limp4_GetHashCodePart sh true hc index full idx L L'
      = P4.getHashCodePart (sh (hc - 1 - index)) (sh index) idx L L' full := by
  have h63 : (2:Nat) ^ L ≤ 2 ^ 63 := Nat.pow_le_pow_right (by decide) hL
  have hps : P4.probeShift L < 64 := Nat.lt_trans (P4.probeShift_lt L) (by decide)
  unfold Tr.limp4_GetHashCodePart P4.getHashCodePart
  dsimp only
  rw [sub2 hc index hi]
  generalize sh (hc - 1 - index) = byte at hb ⊢
  simp only [Bool.not_true, Bool.false_eq_true, if_false]
  rw [limp4_useFull_eq _ L L' hb hL hL']
  cases hu : P4.useFull byte L L'
  · simp only [Bool.false_eq_true, if_false]
    unfold P4.decode
    have hge : 128 ≤ byte := by
      simp only [P4.useFull, Bool.or_eq_false_iff, u8, P4.maskEmpty, Extracted.limp4MaskEmpty] at hu
      have := of_decide_eq_false hu.1
      omega
    have hpr : byte &&& (2 ^ P4.probeShift L - 1) ≤ 2 ^ 64 :=
      Nat.le_trans Nat.and_le_left (Nat.le_of_lt (Nat.lt_trans hb (by decide)))
    rw [tr_limp4_probeShift L hL, mask_eq hps, mask_eq (Nat.lt_succ_of_le hL), shl64_one (Nat.lt_succ_of_le hL),
      add64_of_lt (by omega), sub64_eq_w64 _ _ (by omega) hpr, sub64_of_le hge, shl64_eq, shl64_eq]
    rfl
  · rfl

theorem tr_limp4_removeBytes (sh : Nat → Nat) (hc count index : Nat) (hc1 : 1 ≤ count) (hch : count ≤ hc) (hi : index < hc) :
    Tr.limp4_Remove_compact sh true hc count index = P4.removeBytes hc sh count index := by
  unfold Tr.limp4_Remove_compact P4.removeBytes
  dsimp only
  rw [sub2 hc index hi, sub64_of_le (a := count) (b := 1) hc1, sub64_of_le (a := hc) (b := count) hch]
  simp only [Bool.true_and, decide_eq_true_eq, ge_iff_le, upd_eq, P4.emptyHashProbe]

theorem tr_open2n2_shortHash (h : Nat) : Tr.open2n2_pvCalcShortHash h = O2.shortHash h := rfl

theorem tr_open2n2_probeShift (L : Nat) (hL : L ≤ 63) : Tr.open2n2_pvGetProbeShift L = O2.probeShift L := by
  unfold Tr.open2n2_pvGetProbeShift O2.probeShift
  simp only [Extracted.open2n2LogAddend, Extracted.open2n2ProbeShiftExtra]
  rw [add64_of_lt (a := L) (b := 6) (by omega), add64_of_lt (by omega)]

theorem tr_open2n2_getCount (s1 : Nat) : Tr.open2n2_pvGetCount s1 = s1 % 4 :=
  Nat.and_two_pow_sub_one_eq_mod s1 2

theorem tr_open2n2_isFull (b : O2.Bucket) : Tr.open2n2_IsFull b.sh = b.isFull := rfl

/-- `s1` is `mState[1]` (`state_inc`) -/
theorem tr_open2n2_addCrt (b : O2.Bucket) (s1 h L p : Nat) (hs : s1 < 256) (hcnt : s1 % 4 = b.cnt) (hlt : b.cnt < b.maxCount)
    (hm : b.maxCount ≤ 3) (hL : L ≤ 63) :
    (Tr.open2n2_AddCrt b.sh b.hp s1 true b.maxCount h L p).1 = (b.addCrt h L p).sh ∧
    (Tr.open2n2_AddCrt b.sh b.hp s1 true b.maxCount h L p).2.1 = (b.addCrt h L p).hp ∧
    (Tr.open2n2_AddCrt b.sh b.hp s1 true b.maxCount h L p).2.2 % 4 = (b.addCrt h L p).cnt ∧
    (Tr.open2n2_AddCrt b.sh b.hp s1 true b.maxCount h L p).2.2 / 4 = s1 / 4 ∧
    (Tr.open2n2_AddCrt b.sh b.hp s1 true b.maxCount h L p).2.2 < 256 := by
  have hps := O2.probeShift_lt L
  unfold Tr.open2n2_AddCrt O2.Bucket.addCrt
  dsimp only
  rw [tr_open2n2_getCount, hcnt, sub2 b.maxCount b.cnt hlt, tr_open2n2_probeShift L hL, shl64_one (Nat.lt_trans hps (by decide))]
  simp only [if_true, decide_eq_true_eq, upd_eq, tr_open2n2_shortHash]
  refine ⟨trivial, ?_, state_inc hs hcnt (Nat.lt_of_lt_of_le hlt hm)⟩
  unfold O2.encByte
  split
  · simp only [u8, shl64, or_mod256, w64_mod256]
  · rfl

theorem tr_open2n2_remove (b : O2.Bucket) (s1 index : Nat) (hs : s1 < 256) (hcnt : s1 % 4 = b.cnt) (h1 : 1 ≤ b.cnt)
    (hle : b.cnt ≤ b.maxCount) :
    (Tr.open2n2_Remove b.sh b.hp s1 true b.maxCount index).1 = (b.remove index).sh ∧
    (Tr.open2n2_Remove b.sh b.hp s1 true b.maxCount index).2.1 = (b.remove index).hp ∧
    (Tr.open2n2_Remove b.sh b.hp s1 true b.maxCount index).2.2 % 4 = (b.remove index).cnt ∧
    (Tr.open2n2_Remove b.sh b.hp s1 true b.maxCount index).2.2 / 4 = s1 / 4 ∧
    (Tr.open2n2_Remove b.sh b.hp s1 true b.maxCount index).2.2 < 256 := by
  unfold Tr.open2n2_Remove O2.Bucket.remove
  dsimp only
  rw [tr_open2n2_getCount, hcnt, sub64_of_le hle]
  exact ⟨rfl, rfl, state_dec hs hcnt h1⟩

theorem open2n2_useFull_eq (byte L L' : Nat) (hL : L ≤ 63) (hL' : L' ≤ 63) :
    (decide (byte = Extracted.open2n2EmptyHashProbe) ||
      decide ((add64 L Extracted.open2n2LogAddend) / Extracted.open2n2LogStep ≠ (add64 L' Extracted.open2n2LogAddend) / Extracted.open2n2LogStep))
      = O2.useFull byte L L' := by
  unfold O2.useFull O2.group
  rw [add64_small hL (by decide), add64_small hL' (by decide)]
  simp only [O2.emptyHashProbe, bne, beq_eq_decide, ne_eq, decide_not]

theorem tr_probe2 (pr : Nat) (hpr : pr < 256) :
    (if decide (pr % 2 = 0) then mul64 (pr / 2) (add64 pr 1) else mul64 pr (add64 pr 1 / 2)) = O2.probe2 pr ∧
    O2.probe2 pr < 2 ^ 64 := by
  have h255 : pr ≤ 255 := Nat.le_of_lt_succ hpr
  have small {a b : Nat} (ha : a ≤ 255) (hb : b ≤ 256) : a * b < 2 ^ 64 :=
    Nat.lt_of_le_of_lt (Nat.mul_le_mul ha hb) (by decide)
  unfold O2.probe2
  rw [add64_of_lt (Nat.lt_trans (Nat.succ_lt_succ hpr) (by decide))]
  simp only [decide_eq_true_eq]
  split
  · exact ⟨mul64_of_lt (small (Nat.le_trans (Nat.div_le_self _ _) h255) hpr), small (Nat.le_trans (Nat.div_le_self _ _) h255) hpr⟩
  · exact ⟨mul64_of_lt (small h255 (Nat.le_trans (Nat.div_le_self _ _) hpr)), small h255 (Nat.le_trans (Nat.div_le_self _ _) hpr)⟩

theorem tr_open2n2_getHashCodePart (sh hp : Nat → Nat) (index full idx L L' : Nat) (hb : hp index < 256)
    (hidx : idx < 2 ^ 64) (hL : L ≤ 63) (hL' : L' ≤ 63) :
    Tr.open2n2_GetHashCodePart sh hp true index full idx L L'
      = O2.getHashCodePart (hp index) (sh index) idx L L' full := by
  have hps : O2.probeShift L < 64 := Nat.lt_trans (O2.probeShift_lt L) (by decide)
  unfold Tr.open2n2_GetHashCodePart O2.getHashCodePart
  dsimp only
  generalize hp index = byte at hb ⊢
  simp only [Bool.not_true, Bool.false_eq_true, if_false]
  rw [open2n2_useFull_eq _ L L' hL hL']
  cases hu : O2.useFull byte L L'
  · simp only [Bool.false_eq_true, if_false]
    unfold O2.decode
    rw [tr_open2n2_probeShift L hL, mask_eq hps, mask_eq (Nat.lt_succ_of_le hL)]
    obtain ⟨e2, h2⟩ := tr_probe2 _ (Nat.lt_of_le_of_lt (Nat.and_le_left (m := 2 ^ O2.probeShift L - 1)) hb)
    rw [e2, sub64_eq_w64 _ _ hidx (Nat.le_of_lt h2), shl64_eq, shl64_eq]
    rfl
  · rfl

theorem or1_lt (x k : Nat) (hk : 0 < k) : (x % 2 ^ k ||| 1) < 2 ^ k :=
  Nat.or_lt_two_pow (Nat.mod_lt _ (Nat.two_pow_pos k)) (Nat.one_lt_two_pow (Nat.ne_of_gt hk))

/-! `pvGetHashState` for the state widths 1, 2, 4 (first overload) and 8 (second overload). The shifts `(8 - stateSize) * 8`
    evaluate; the outer cast of widths 1 and 2 cuts nothing off. -/

theorem tr_one_hashState1 (h : Nat) : Tr.one_pvGetHashState1 h = One.hashState 1 h :=
  Nat.mod_eq_of_lt (or1_lt (h >>> 56) 8 (by decide))

theorem tr_one_hashState2 (h : Nat) : Tr.one_pvGetHashState2 h = One.hashState 2 h :=
  Nat.mod_eq_of_lt (or1_lt (h >>> 48) 16 (by decide))

theorem tr_one_hashState4 (h : Nat) : Tr.one_pvGetHashState4 h = One.hashState 4 h := rfl

theorem tr_one_hashState8 (h : Nat) : Tr.one_pvGetHashState8 h = One.hashState 8 h := by
  unfold Tr.one_pvGetHashState8 One.hashState
  rw [shl64_eq]; rfl

theorem tr_one_getHashCodePart (stateSize state full : Nat) :
    Tr.one_GetHashCodePart state stateSize full = One.getHashCodePart stateSize state full := by
  unfold Tr.one_GetHashCodePart One.getHashCodePart
  simp only [decide_eq_true_eq]

/-! ### table level: `pvAddNogrow` / `pvRelocateItems` for one element, run with the translated functions -/

/-- the `GetNextBucketIndex` of the bucket kind -/
def trNext : Kind → NextFn
  | .limp4 => .limp4
  | .open2 => .open2n2
  | .one8 => .base

theorem trNext_quad (k : Kind) : (trNext k).quad = k.quad := by cases k <;> rfl

def trShort : Kind → Nat → Nat
  | .limp4, c => Tr.limp4_pvCalcShortHash c
  | .open2, c => Tr.open2n2_pvCalcShortHash c
  | .one8, c => Tr.one_pvGetHashState8 c

/-- hash-probe byte stored by `AddCrt`, by the translated functions: LimP4 — `pvSetHashProbe(0, …)` on an empty bucket with four
    metadata bytes writes byte 3; Open2N2 — `AddCrt` on an empty bucket with `maxCount = 1` writes `hashProbes[0]` -/
def trEnc : Kind → Nat → Nat → Nat → Nat
  | .limp4, c, L, p => Tr.limp4_pvSetHashProbe (fun _ => 255) true 4 0 c L p 3
  | .open2, c, L, p => (Tr.open2n2_AddCrt (fun _ => O2.emptyShortHash) (fun _ => 0) 0 true 1 c L p).2.1 0
  | .one8, _, _, _ => 0

theorem trShort_eq (k : Kind) (c : Nat) : trShort k c = k.short c := by
  cases k
  · rfl
  · rfl
  · exact tr_one_hashState8 c

theorem trEnc_eq (k : Kind) (c L p : Nat) (hL : L ≤ 63) : trEnc k c L p = k.enc c L p := by
  cases k
  · simp only [trEnc, Kind.enc]
    rw [tr_limp4_setHashProbe _ 4 0 c L p (by decide) hL]
    simp [P4.setHashProbe, upd]
  · simp only [trEnc, Kind.enc]
    have := (tr_open2n2_addCrt (O2.Bucket.new 1) 0 c L p (by decide) rfl (by decide) (by decide) hL).2.1
    simp only [O2.Bucket.new] at this
    rw [this]
    simp [O2.Bucket.addCrt, upd]
  · rfl

def trPlace (k : Kind) (L : Nat) (isFull : Nat → Bool) (code : Nat) : Option Placed :=
  match trAddProbe (trNext k) L isFull code with
  | none => none
  | some (p, idx) => some { L := L, start := Tr.base_GetStartBucketIndex code (shl64 1 L), probe := p, idx := idx,
                            short := trShort k code, byte := trEnc k code L p }

theorem trPlace_eq (k : Kind) (L : Nat) (isFull : Nat → Bool) (code : Nat) (hL : L ≤ 63) :
    trPlace k L isFull code = place k L isFull code := by
  unfold trPlace place
  rw [trAddProbe_eq _ L isFull code hL, trNext_quad]
  cases Probe.addProbe k.quad L isFull (Probe.start L code) with
  | none => rfl
  | some pi =>
    obtain ⟨p, idx⟩ := pi
    simp only [shl64_one (Nat.lt_succ_of_le hL), tr_start, trShort_eq, trEnc_eq k code L p hL]

/-- `bucket.GetHashCodePart(hashCodeFullGetter, iter, i, logCount, newLogCount)` of `pvRelocateItems`, by the translated functions, on
    the bytes of the element: LimP4 — position 0 of a bucket with four metadata bytes; Open2N2 — position 0 -/
def trCodeOf (k : Kind) (st : Placed) (L' full : Nat) : Nat :=
  match k with
  | .limp4 => Tr.limp4_GetHashCodePart (Tr.upd (Tr.upd (fun _ => 255) 3 st.byte) 0 st.short) true 4 0 full st.idx st.L L'
  | .open2 => Tr.open2n2_GetHashCodePart (fun _ => st.short) (fun _ => st.byte) true 0 full st.idx st.L L'
  | .one8 => Tr.one_GetHashCodePart st.short 8 full

/-- what `trCodeOf_eq` needs of a placement for the translated `GetHashCodePart` not to wrap: the landing bucket is inside the table, the
    hash-probe byte is a byte. Every result of `place` has it (`place_wf`). -/
def WFPlaced (st : Placed) : Prop := st.idx < 2 ^ st.L ∧ st.byte < 256

theorem trCodeOf_eq (k : Kind) (st : Placed) (L' full : Nat) (hw : WFPlaced st) (hL : st.L ≤ 63) (hL' : L' ≤ 63) :
    trCodeOf k st L' full = codeOf k st L' full := by
  obtain ⟨hidx, hb⟩ := hw
  cases k
  · exact tr_limp4_getHashCodePart _ 4 0 full st.idx st.L L' (by decide) hb hidx hL hL'
  · exact tr_open2n2_getHashCodePart (fun _ => st.short) (fun _ => st.byte) 0 full st.idx st.L L' hb
      (Nat.lt_of_lt_of_le hidx (Nat.pow_le_pow_right (by decide) (Nat.le_trans hL (by decide)))) hL hL'
  · exact tr_one_getHashCodePart 8 st.short full

/-! Bounds on the model's `place` / `chainPart` (no translated function in them): the side conditions under which the translation
    equalities above apply along a chain. -/

theorem enc_lt (k : Kind) (c L p : Nat) : k.enc c L p < 256 := by
  cases k
  · exact Nat.lt_succ_of_le (P4.encByte_ge c L p).2
  · show O2.encByte c L p < 256
    unfold O2.encByte
    split
    · exact Nat.mod_lt _ (by decide)
    · decide
  · exact Nat.zero_lt_succ _

theorem place_bounds {k : Kind} {L : Nat} {isFull : Nat → Bool} {code : Nat} {st : Placed} (h : place k L isFull code = some st) :
    st.L = L ∧ st.probe < 2 ^ L ∧ st.idx < 2 ^ L ∧ st.byte < 256 := by
  unfold place at h
  rcases Probe.addProbe_cases k.quad L isFull (Probe.start L code) with ⟨p, h1, e, -, -⟩ | ⟨e, -⟩ <;> rw [e] at h <;> cases h
  exact ⟨rfl, h1, Probe.seqOf_lt k.quad L _ p (Probe.start_lt L code), enc_lt k code L p⟩

theorem place_wf (k : Kind) (L : Nat) (isFull : Nat → Bool) (code : Nat) (st : Placed) (h : place k L isFull code = some st) :
    WFPlaced st ∧ st.L = L := by
  obtain ⟨rfl, _, hi, hb⟩ := place_bounds h
  exact ⟨⟨hi, hb⟩, rfl⟩

theorem place_probe_lt (k : Kind) (L : Nat) (isFull : Nat → Bool) (code : Nat) (st : Placed) (h : place k L isFull code = some st) :
    st.probe < 2 ^ st.L ∧ st.L = L := by
  obtain ⟨rfl, hp, _⟩ := place_bounds h
  exact ⟨hp, rfl⟩

/-- a chain of growth steps, every re-insertion made by the translated functions with the code of the translated `GetHashCodePart` -/
def trChainPart (k : Kind) (full : Nat) : Option Placed → List (Nat × (Nat → Bool)) → Option Placed
  | st, [] => st
  | none, _ :: _ => none
  | some st, (L', isFull) :: rest => trChainPart k full (trPlace k L' isFull (trCodeOf k st L' full)) rest

/-- the same chain with the hash recomputed at every step (translated `pvAddNogrow` only) -/
def trChainFull (k : Kind) (full : Nat) : Option Placed → List (Nat × (Nat → Bool)) → Option Placed
  | st, [] => st
  | none, _ :: _ => none
  | some _, (L', isFull) :: rest => trChainFull k full (trPlace k L' isFull full) rest

theorem trChainPart_eq (k : Kind) (full : Nat) (steps : List (Nat × (Nat → Bool))) :
    ∀ (L : Nat) (o : Option Placed), (∀ st, o = some st → WFPlaced st ∧ st.L = L) → L ≤ 57 → GrowthChain 57 L steps →
      trChainPart k full o steps = chainPart k full o steps := by
  induction steps with
  | nil => intro L o _ _ _; rfl
  | cons s rest ih =>
    intro L o ho hL hch
    obtain ⟨L', f⟩ := s
    obtain ⟨hlt, hL', hrest⟩ := hch
    cases o with
    | none => rfl
    | some st =>
      obtain ⟨hw, hstL⟩ := ho st rfl
      simp only [trChainPart, chainPart, relocate]
      have h63 : L' ≤ 63 := Nat.le_trans hL' (by decide)
      rw [trCodeOf_eq k st L' full hw (hstL ▸ Nat.le_trans hL (by decide)) h63, trPlace_eq k L' f _ h63]
      exact ih L' _ (fun st' h' => place_wf k L' f _ st' h') hL' hrest

theorem trChainFull_eq (k : Kind) (full : Nat) (steps : List (Nat × (Nat → Bool))) :
    ∀ (L : Nat) (o : Option Placed), GrowthChain 57 L steps →
      trChainFull k full o steps = chainFull k full o steps := by
  induction steps with
  | nil => intro L o _; rfl
  | cons s rest ih =>
    intro L o hch
    obtain ⟨L', f⟩ := s
    obtain ⟨_, hL', hrest⟩ := hch
    cases o with
    | none => rfl
    | some st =>
      simp only [trChainFull, chainFull, rehash]
      rw [trPlace_eq k L' f _ (Nat.le_trans hL' (by decide))]
      exact ih L' _ hrest

theorem chainPart_bounds (k : Kind) (full : Nat) (steps : List (Nat × (Nat → Bool))) :
    ∀ (L : Nat) (o : Option Placed), (∀ st, o = some st → st.probe < 2 ^ st.L ∧ st.L = L) → L ≤ 57 → GrowthChain 57 L steps →
      ∀ st, chainPart k full o steps = some st → st.probe < 2 ^ st.L ∧ st.L ≤ 57 := by
  induction steps with
  | nil => intro L o ho hL _ st hst; simp only [chainPart] at hst; obtain ⟨a, b⟩ := ho st hst; exact ⟨a, b ▸ hL⟩
  | cons s rest ih =>
    intro L o ho hL hch st hst
    obtain ⟨L', f⟩ := s
    obtain ⟨hlt, hL', hrest⟩ := hch
    cases o with
    | none => simp [chainPart] at hst
    | some st0 =>
      simp only [chainPart, relocate] at hst
      exact ih L' _ (fun st' h' => place_probe_lt k L' f _ st' h') hL' hrest st hst

end Momo.TrEq
