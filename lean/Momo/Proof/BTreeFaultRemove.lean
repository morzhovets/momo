import Momo.Proof.BTreeFaultAdd
import Momo.Proof.BTreeRemove
/-!
  C04 / C10 for the B-tree family, node level: `pvRemove` (`Remove(iter)`) and `pvExtract` (`Remove(iter, extItem)`) under every
  fault schedule (`removeAtF_spec`). Thrown: root and ledger are the old ones (except the documented exception 5 of TreeMap.h,
  `unsafeRepl`). Returned — also when node merges of the rebalancing pass were refused by swallowed faults —: the in-order list
  lost exactly that element, balance and capacities hold, the returned iterator denotes the same index, the ledger moved by the
  node difference and by the destroyed item. Without construction / replacement faults it is the fault-free removal.
  `Proof/BTreeRemove.lean` proves the removal for a rebalancing pass that is *any* function meeting the specification of
  `pvRebalance` (`RebOK`, `removeAtG_spec`); every faulty pass is an instance (`rebalanceF_spec` of `BTreeFaultReb`).
-/
namespace Momo.BTreeF
open Momo Momo.BTree Momo.BTree.Node
variable {α : Type}

/-- items leaving the world by a successful removal: one for `Remove`, none for an extraction (it lives on in the handle) -/
def itemsDelta : RemMode → Int
  | .destroy => -1
  | .extract => 0

theorem removerStep_spec (S : Sched) (ic : ICfg α) (mode : RemMode) (w : W) :
    ((removerStep S ic mode w).1 = true → (removerStep S ic mode w).2.led = w.led) ∧
    ((removerStep S ic mode w).1 = false → (removerStep S ic mode w).2.led = w.led + Ledger.ofItems (itemsDelta mode)) ∧
    (S.NoCtor → (removerStep S ic mode w).1 = false) := by
  cases mode with
  | destroy => exact ⟨nofun, fun _ => addItems_led_eq w (-1), fun _ => rfl⟩
  | extract =>
    simp only [removerStep]
    cases ic.reloc
    · cases hf : S.ctor w.ctorN
      · exact ⟨nofun, fun _ => (Ledger.add_zero' _).symm, fun _ => rfl⟩
      · exact ⟨fun _ => rfl, nofun, fun hn => nomatch (hn _).symm.trans hf⟩
    · exact ⟨nofun, fun _ => (Ledger.add_zero' _).symm, fun _ => rfl⟩

theorem replaceStep_spec (S : Sched) (ic : ICfg α) (src dst : α) (w : W) :
    ((replaceStep S ic src dst w).1 = true → (replaceStep S ic src dst w).2.2.led = w.led ∧
        (ic.unsafeRepl = false → (replaceStep S ic src dst w).2.1 = dst)) ∧
    ((replaceStep S ic src dst w).1 = false → (replaceStep S ic src dst w).2.1 = src ∧
        (replaceStep S ic src dst w).2.2.led = w.led + Ledger.ofItems (-1)) ∧
    (S.NoRepl → (replaceStep S ic src dst w).1 = false) := by
  unfold replaceStep
  cases ic.assign
  · cases hu : ic.unsafeRepl
    · cases h1 : S.repl w.replN
      · exact ⟨nofun, fun _ => ⟨rfl, addItems_led_eq _ (-1)⟩, fun _ => rfl⟩
      · exact ⟨fun _ => ⟨rfl, fun _ => rfl⟩, nofun, fun hn => nomatch (hn _).symm.trans h1⟩
    · cases h1 : S.repl w.replN
      · cases h2 : S.repl (w.replN + 1)
        · exact ⟨nofun, fun _ => ⟨rfl, addItems_led_eq _ (-1)⟩, fun _ => rfl⟩
        · exact ⟨fun _ => ⟨rfl, nofun⟩, nofun, fun hn => nomatch (hn _).symm.trans h2⟩
      · exact ⟨fun _ => ⟨rfl, nofun⟩, nofun, fun hn => nomatch (hn _).symm.trans h1⟩
  · exact ⟨nofun, fun _ => ⟨rfl, addItems_led_eq _ (-1)⟩, fun _ => rfl⟩

theorem replacerStep_spec (S : Sched) (ic : ICfg α) (mode : RemMode) (src dst : α) (w : W) :
    ((replacerStep S ic mode src dst w).1 = true → (replacerStep S ic mode src dst w).2.2.led = w.led ∧
        (ic.unsafeRepl = false → (replacerStep S ic mode src dst w).2.1 = dst)) ∧
    ((replacerStep S ic mode src dst w).1 = false →
        (replacerStep S ic mode src dst w).2.2.led = w.led + Ledger.ofItems (itemsDelta mode)) ∧
    (S.NoCtor → S.NoRepl → (replacerStep S ic mode src dst w).1 = false) := by
  cases mode with
  | destroy =>
    obtain ⟨a, b, c⟩ := replaceStep_spec S ic src dst w
    exact ⟨a, fun hh => (b hh).2, fun _ hn => c hn⟩
  | extract =>
    simp only [replacerStep]
    cases ic.reloc
    · cases hf : S.ctor w.ctorN
      · -- the copy in the handle is booked before `Replace` runs
        obtain ⟨a, b, c⟩ := replaceStep_spec S ic src dst (w.tickCtor.addItems 1)
        generalize replaceStep S ic src dst (w.tickCtor.addItems 1) = g at a b c ⊢
        obtain ⟨t, dd, w1⟩ := g
        cases t
        · refine ⟨nofun, fun _ => ?_, fun _ _ => rfl⟩
          show w1.led = _
          rw [(b rfl).2, addItems_led_eq, Ledger.add_ofItems_cancel]; exact (Ledger.add_zero' _).symm
        · refine ⟨fun _ => ⟨?_, (a rfl).2⟩, nofun, fun _ hn => nomatch c hn⟩
          show (w1.addItems (-1)).led = w.led
          rw [addItems_led_eq, (a rfl).1, addItems_led_eq, Ledger.add_ofItems_cancel]; rfl
      · exact ⟨fun _ => ⟨rfl, fun _ => rfl⟩, nofun, fun hn _ => nomatch (hn _).symm.trans hf⟩
    · exact ⟨nofun, fun _ => (Ledger.add_zero' _).symm, fun _ _ => rfl⟩

theorem releaseNodes_led_eq (w : W) (r r' : Node α) : (w.releaseNodes r r').led = w.led + nodeDelta r r' := by
  apply Ledger.ext' <;> simp [W.releaseNodes, nodeDelta]

/-- the common last statement of the three branches of `removeAtF` (`rebalanceF …; moveIf; releaseNodes`) -/
theorem removeTail (S : Sched) (ic : ICfg α) (cfg : Cfg) (r r1 : Node α) (path saved : List Nat) (j : Nat) (w1 : W)
    {t : Bool} {r' : Node α} {p : Pos} {w' : W}
    (h : (match rebalanceF S ic cfg true r1 path saved w1 with
      | ((r', sv), w2) => (false, r', moveIf r' ⟨sv, j⟩, w2.releaseNodes r r')) = (t, r', p, w')) :
    t = false ∧ w'.led = w1.led + nodeDelta r r' ∧
    (r', p) = (match (rebalanceF S ic cfg true r1 path saved w1).1 with | (r', sv) => (r', moveIf r' ⟨sv, j⟩)) := by
  have hl := (rebalanceF_free S ic cfg true r1 path saved w1).1
  generalize rebalanceF S ic cfg true r1 path saved w1 = g at h hl
  obtain ⟨⟨r2, sv⟩, w2⟩ := g
  cases h
  exact ⟨rfl, by rw [releaseNodes_led_eq, hl], rfl⟩

theorem removeAtF_spec (S : Sched) (ic : ICfg α) (cfg : Cfg) (mode : RemMode) {d : Nat} {r : Node α} (hb : Bal d r)
    (pos : Pos) (hv : ValidElem r pos.path pos.idx) (w : W) {t : Bool} {r' : Node α} {p : Pos} {w' : W}
    (h : removeAtF S ic cfg mode r pos w = (t, r', p, w')) :
    (t = true → w'.led = w.led ∧ (ic.unsafeRepl = false → r' = r)) ∧
    (t = false →
      toList r' = (toList r).eraseIdx (idxOf r pos.path pos.idx) ∧ (∃ d', Bal d' r') ∧
      idxOf r' p.path p.idx = idxOf r pos.path pos.idx ∧ ValidPos r' p ∧
      (Caps cfg.maxCap r → Caps cfg.maxCap r') ∧
      w'.led = w.led + nodeDelta r r' + Ledger.ofItems (itemsDelta mode)) ∧
    (S.NoCtor → S.NoRepl → t = false ∧ (r', p) = removeAt cfg r pos) := by
  -- past its fallible step (world `w1`) the removal is `removeAtG` with the faulty rebalancing pass
  have fin : ∀ w1 : W, w1.led = w.led + Ledger.ofItems (itemsDelta mode) → w'.led = w1.led + nodeDelta r r' →
      (r', p) = removeAtG (fun r p s => (rebalanceF S ic cfg true r p s w1).1) r pos →
      (toList r' = (toList r).eraseIdx (idxOf r pos.path pos.idx) ∧ (∃ d', Bal d' r') ∧
        idxOf r' p.path p.idx = idxOf r pos.path pos.idx ∧ ValidPos r' p ∧ (Caps cfg.maxCap r → Caps cfg.maxCap r') ∧
        w'.led = w.led + nodeDelta r r' + Ledger.ofItems (itemsDelta mode)) ∧
      (S.NoCtor → (r', p) = removeAt cfg r pos) := by
    intro w1 e1 e2 e
    have s := removeAtG_spec cfg _ (rebalanceF_spec S ic cfg true w1) hb pos hv
    rw [← e] at s
    refine ⟨⟨s.1, s.2.1, s.2.2.1, s.2.2.2.1, s.2.2.2.2, by rw [e2, e1, Ledger.add_right_comm']⟩, fun hn => ?_⟩
    rw [e, removeAt_eq_G]
    congr 1
    funext r p s
    exact (rebalanceF_free S ic cfg true r p s w1).2 hn
  obtain ⟨m, hm, hi⟩ := hv
  unfold removeAtF at h
  cases m with
  | leaf cap items =>
    simp only [hm] at h
    obtain ⟨q1, q2, q3⟩ := removerStep_spec S ic mode w
    generalize removerStep S ic mode w = g at h q1 q2 q3
    obtain ⟨t1, w1⟩ := g
    cases t1
    · obtain ⟨rfl, hl, e⟩ := removeTail S ic cfg r _ _ _ _ w1 h
      obtain ⟨f1, f2⟩ := fin w1 (q2 rfl) hl (e.trans (by simp only [removeAtG, hm]))
      exact ⟨nofun, fun _ => f1, fun hn _ => ⟨rfl, f2 hn⟩⟩
    · cases h
      exact ⟨fun _ => ⟨q1 rfl, fun _ => rfl⟩, nofun, fun hn _ => nomatch q3 hn⟩
  | inner items cs =>
    simp only [Node.count] at hi
    have hlen := ((hb.nodeAt hm).1).inner_len
    obtain ⟨left, hl⟩ := ListFacts.getElem?_of_lt (l := cs) (i := pos.idx) (by rw [hlen]; exact Nat.lt_succ_of_lt hi)
    obtain ⟨right, hr⟩ := ListFacts.getElem?_of_lt (l := cs) (i := pos.idx + 1) (by rw [hlen]; exact Nat.succ_lt_succ hi)
    obtain ⟨x, hx⟩ := ListFacts.getElem?_of_lt hi
    simp only [hm, hl, hr, hx] at h
    cases hp : popLast left with
    | none =>
      simp only [hp] at h
      obtain ⟨q1, q2, q3⟩ := removerStep_spec S ic mode w
      generalize removerStep S ic mode w = g at h q1 q2 q3
      obtain ⟨t1, w1⟩ := g
      cases t1
      · obtain ⟨rfl, hl', e⟩ := removeTail S ic cfg r _ _ _ _ w1 h
        obtain ⟨f1, f2⟩ := fin w1 (q2 rfl) hl' (e.trans (by simp only [removeAtG, hm, hl, hr, hp]))
        exact ⟨nofun, fun _ => f1, fun hn _ => ⟨rfl, f2 hn⟩⟩
      · cases h
        exact ⟨fun _ => ⟨q1 rfl, fun _ => rfl⟩, nofun, fun hn _ => nomatch q3 hn⟩
    | some res =>
      obtain ⟨left', y, cp⟩ := res
      simp only [hp] at h
      obtain ⟨q1, q2, q3⟩ := replacerStep_spec S ic mode y x w
      generalize replacerStep S ic mode y x w = g at h q1 q2 q3
      obtain ⟨t1, dd, w1⟩ := g
      cases t1
      · obtain ⟨rfl, hl', e⟩ := removeTail S ic cfg r _ _ _ _ w1 h
        obtain ⟨f1, f2⟩ := fin w1 (q2 rfl) hl' (e.trans (by simp only [removeAtG, hm, hl, hr, hp]))
        exact ⟨nofun, fun _ => f1, fun hn _ => ⟨rfl, f2 hn⟩⟩
      · cases h
        refine ⟨fun _ => ⟨(q1 rfl).1, fun hu => ?_⟩, nofun, fun hn hn2 => nomatch q3 hn hn2⟩
        obtain rfl : dd = x := (q1 rfl).2 hu
        exact modifyAt_setItem_self r pos.path pos.idx items cs dd hm hx

end Momo.BTreeF
