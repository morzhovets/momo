import Momo.Proof.RowsInv
/-!
  Lemmas for the row hand-off model (C19), the right to touch a block: `Holds` is membership in one list of (block, thread) pairs (`owned`)
  whose blocks are part of `places`: exclusiveness of `Holds`, published blocks are held by nobody, every non-atomic access is made by the
  holder (`access_holds`). How the rights change in one step: the list `owned` is permuted or one of four hand-overs happens (`owned_step`);
  hence where a right after the step comes from and where a right before the step goes (`Holds_step`), and, with exclusiveness, at which
  actions a right changes hands (`Holds_transfer`).
-/
namespace Momo.Rows

/-- every block somebody may touch, with that thread: the owner thread has the table, the pool and the chain it walks -/
def owned (s : St) : List (Row × Tid) := thrPairs s.thr ++ s.det ++ (s.table ++ s.pool ++ s.W).map (·, 0)

theorem Holds_iff {s : St} {t : Tid} {r : Row} : Holds s t r ↔ (r, t) ∈ owned s := by
  unfold Holds owned
  simp only [List.mem_append, mem_thrPairs, List.mem_map]
  constructor
  · rintro (⟨h0, hp | hp | hp⟩ | h | h)
    · exact .inr ⟨r, .inl (.inr hp), by rw [h0]⟩
    · exact .inr ⟨r, .inl (.inl hp), by rw [h0]⟩
    · exact .inr ⟨r, .inr hp, by rw [h0]⟩
    · exact .inl (.inr h)
    · exact .inl (.inl h)
  · rintro ((h | h) | ⟨x, (hx | hx) | hx, he⟩)
    · exact .inr (.inr h)
    · exact .inr (.inl h)
    · cases he; exact .inl ⟨rfl, .inr (.inl hx)⟩
    · cases he; exact .inl ⟨rfl, .inl hx⟩
    · cases he; exact .inl ⟨rfl, .inr (.inr hx)⟩

theorem owned_places (s : St) : ((owned s).map Prod.fst ++ s.L).Perm (places s) := by
  have e : (owned s).map Prod.fst = inflight s ++ detRows s ++ (s.table ++ s.pool ++ s.W) := by
    rw [owned, List.map_append, List.map_append, thrPairs_fst, List.map_map]
    exact congrArg (inflight s ++ detRows s ++ ·) (List.map_id' _)
  rw [e, places]
  simp only [List.append_assoc]
  exact (((List.perm_append_comm.append_left _).append_left _).append_left _).append_left _

theorem RInv.owned_sep {s : St} (hI : RInv s) :
    ((owned s).map Prod.fst).Nodup ∧ ∀ r, r ∈ (owned s).map Prod.fst → r ∉ s.L := by
  have h := (owned_places s).nodup_iff.mpr (List.nodup_iff_count.mpr hI.nodup)
  rw [List.nodup_append] at h
  exact ⟨h.1, fun r hr hL => h.2.2 r hr r hL rfl⟩

theorem Holds_exclusive {s : St} (hI : RInv s) {t u : Tid} {r : Row} (h1 : Holds s t r) (h2 : Holds s u r) : t = u :=
  pair_unique (Holds_iff.mp h1) (Holds_iff.mp h2) hI.owned_sep.1

theorem Holds_not_published {s : St} (hI : RInv s) {t : Tid} {r : Row} (h : Holds s t r) : r ∉ s.L :=
  hI.owned_sep.2 r (mem_fst (Holds_iff.mp h))

theorem Holds_mem_places {s : St} {t : Tid} {r : Row} (h : Holds s t r) : r ∈ places s :=
  (owned_places s).mem_iff.mp (List.mem_append_left _ (mem_fst (Holds_iff.mp h)))

theorem published_of_not_held {s : St} {r : Row} (hp : r ∈ places s) (h : ∀ t, ¬ Holds s t r) : r ∈ s.L := by
  rcases List.mem_append.mp ((owned_places s).mem_iff.mpr hp) with hp | hp
  · obtain ⟨⟨r', t⟩, hm, rfl⟩ := List.mem_map.mp hp
    exact absurd (Holds_iff.mpr hm) (h t)
  · exact hp

theorem access_holds {s s' : St} {a : Act} (hs : Step s a s') (hI : RInv s) {t : Tid} {r : Row}
    (ha : (t, r) ∈ accesses s a) : Holds s t r := by
  cases hs with
  | walk b c g hm hc =>
    simp only [accesses, hc, List.mem_singleton] at ha; cases ha
    exact Or.inl ⟨rfl, Or.inr (Or.inr (hI.W_of_cur hc ▸ List.mem_cons_self))⟩
  | alloc r' g hm hr =>
    simp only [accesses, List.mem_singleton] at ha; cases ha
    exact Or.inl ⟨rfl, Or.inl hr⟩
  | add r' hm hd =>
    simp only [accesses, List.mem_singleton] at ha; cases ha
    exact Or.inr (Or.inl hd)
  | extract i keep r' hm hi =>
    simp only [accesses, hi, List.mem_singleton] at ha; cases ha
    exact Or.inl ⟨rfl, Or.inr (Or.inl (List.mem_of_getElem? hi))⟩
  | remove i keep g r' hm hi =>
    simp only [accesses, hi, List.mem_singleton] at ha; cases ha
    exact Or.inl ⟨rfl, Or.inr (Or.inl (List.mem_of_getElem? hi))⟩
  | dBegin t' r' hpc hd =>
    simp only [accesses, List.mem_singleton] at ha; cases ha
    exact Or.inr (Or.inl hd)
  | dWrite t' r' h hpc =>
    simp only [accesses, hpc, List.mem_singleton] at ha; cases ha
    exact Or.inr (Or.inr ⟨_, hpc, rfl⟩)
  | _ => simp [accesses] at ha

/-- What a step does to the rights: it permutes them (every action of the owner thread on its own blocks, `Add`, `Extract`,
the begin of `~DataRow`), or it is one of the four hand-overs. -/
theorem owned_step {s s' : St} {a : Act} (hs : Step s a s') (hI : RInv s) :
    (owned s').Perm (owned s) ∨
    (a = .exchange ∧ owned s' = owned s ++ s.L.map (·, 0)) ∨
    (∃ r g, a = .grow r g ∧ r ∉ places s ∧ (owned s').Perm ((r, 0) :: owned s)) ∨
    (∃ r t u Z, a = .handoff r t u ∧ (r, t) ∈ s.det ∧ (owned s).Perm ((r, t) :: Z) ∧ (owned s').Perm ((r, u) :: Z)) ∨
    (∃ r t, a = .dCas t false ∧ s'.L = r :: s.L ∧ (owned s).Perm ((r, t) :: owned s')) := by
  have thrSame : ∀ {t pc pc'} (g : Row → Option Row), s.thr[t]? = some pc → pc'.row = pc.row →
      (owned { s with thr := setPC s t pc', next := g }).Perm (owned s) := fun _ h hr =>
    .of_eq (congrArg (· ++ s.det ++ (s.table ++ s.pool ++ s.W).map (·, 0)) (thrPairs_set_same h hr))
  -- `perm_cons_held₁/₂/₃` work at two levels: on the three parts `thrPairs ++ det ++ (owner's blocks)` of `owned`, and, under `.map (·, 0)`, on
  -- the owner's `table ++ pool ++ W`
  cases hs with
  | newBegin hm => exact .inl (.refl _)
  | takeBegin hm => exact .inl (.refl _)
  | walkEnd b hm hc => exact .inl (.refl _)
  | exchange b hm =>
    refine .inr (.inl ⟨rfl, ?_⟩)
    show _ ++ _ ++ (s.table ++ s.pool ++ s.L).map _ = _ ++ _ ++ (s.table ++ s.pool ++ s.W).map _ ++ _
    rw [hI.walkW (by intro b'; rw [hm]; simp), List.append_nil, List.map_append]
    exact (List.append_assoc _ _ _).symm
  | walk b c g hm hc =>
    exact .inl (((perm_cons_held₂ (.refl _)).trans (perm_cons_held₃ (.of_eq (hI.W_of_cur hc))).symm).map (·, 0) |>.append_left _)
  | grow r g hm hr => exact .inr (.inr (.inl ⟨r, g, rfl, hr, perm_cons_held₃ ((perm_cons_held₂ (.refl _)).map _)⟩))
  | alloc r g hm hr =>
    exact .inl ((perm_cons_held₂ (.refl _)).trans (perm_cons_held₃ ((perm_cons_held₂ (List.perm_cons_erase hr)).map (·, 0))).symm)
  | add r hm hd =>
    exact .inl ((perm_cons_held₃ ((perm_cons_held₁ (List.perm_append_singleton r s.table)).map (·, 0))).trans
      (perm_cons_held₂ (List.perm_cons_erase hd)).symm)
  | extract i keep r hm hi =>
    exact .inl ((perm_cons_held₂ (.refl _)).trans (perm_cons_held₃ ((perm_cons_held₁ (removeAt_perm keep hi)).map (·, 0))).symm)
  | remove i keep g r hm hi =>
    exact .inl (((perm_cons_held₂ (.refl _)).trans (perm_cons_held₁ (removeAt_perm keep hi)).symm).map (·, 0) |>.append_left _)
  | handoff r t u hd hu =>
    exact .inr (.inr (.inr (.inl ⟨r, t, u, _, rfl, hd, perm_cons_held₂ (List.perm_cons_erase hd), perm_cons_held₂ (.refl _)⟩)))
  | dBegin t r hpc hd =>
    exact .inl ((perm_cons_held₁ (thrPairs_set_none hpc rfl rfl)).trans (perm_cons_held₂ (List.perm_cons_erase hd)).symm)
  | dLoad t r hpc => exact .inl (thrSame s.next hpc rfl)
  | dWrite t r h hpc => exact .inl (thrSame _ hpc rfl)
  | dCasFail t r h sp hpc => exact .inl (thrSame s.next hpc rfl)
  | dCasOk t r h hpc hh => exact .inr (.inr (.inr (.inr ⟨r, t, rfl, rfl, perm_cons_held₁ (thrPairs_set_some hpc rfl rfl)⟩)))

theorem Holds_step {s s' : St} {a : Act} (hs : Step s a s') (hI : RInv s) (u : Tid) (x : Row) :
    (Holds s' u x →
      Holds s u x ∨ (a = .exchange ∧ u = 0 ∧ x ∈ s.L) ∨ (∃ t, a = .handoff x t u ∧ (x, t) ∈ s.det) ∨
        (∃ g, a = .grow x g ∧ u = 0 ∧ x ∉ places s)) ∧
    (Holds s u x →
      Holds s' u x ∨ (a = .dCas u false ∧ x ∈ s'.L ∧ x ∉ s.L) ∨ (∃ v, a = .handoff x u v ∧ Holds s' v x)) := by
  have hnp := fun h => Holds_not_published (t := u) (r := x) hI h
  simp only [Holds_iff] at hnp ⊢
  rcases owned_step hs hI with p | ⟨ha, e⟩ | ⟨r, g, ha, hr, p⟩ | ⟨r, t, v, Z, ha, hd, p, p'⟩ | ⟨r, t, ha, hL, p⟩
  · exact ⟨fun h => .inl (p.mem_iff.mp h), fun h => .inl (p.mem_iff.mpr h)⟩
  · rw [e]
    refine ⟨fun h => ?_, fun h => .inl (List.mem_append_left _ h)⟩
    rcases List.mem_append.mp h with h | h
    · exact .inl h
    · obtain ⟨y, hy, he⟩ := List.mem_map.mp h
      cases he; exact .inr (.inl ⟨ha, rfl, hy⟩)
  · refine ⟨fun h => ?_, fun h => .inl (p.mem_iff.mpr (List.mem_cons_of_mem _ h))⟩
    rcases List.mem_cons.mp (p.mem_iff.mp h) with h | h
    · cases h; exact .inr (.inr (.inr ⟨g, ha, rfl, hr⟩))
    · exact .inl h
  · constructor
    · intro h
      rcases List.mem_cons.mp (p'.mem_iff.mp h) with h | h
      · cases h; exact .inr (.inr (.inl ⟨t, ha, hd⟩))
      · exact .inl (p.mem_iff.mpr (List.mem_cons_of_mem _ h))
    · intro h
      rcases List.mem_cons.mp (p.mem_iff.mp h) with h | h
      · cases h; exact .inr (.inr ⟨v, ha, p'.mem_iff.mpr List.mem_cons_self⟩)
      · exact .inl (p'.mem_iff.mpr (List.mem_cons_of_mem _ h))
  · refine ⟨fun h => .inl (p.mem_iff.mpr (List.mem_cons_of_mem _ h)), fun h => ?_⟩
    rcases List.mem_cons.mp (p.mem_iff.mp h) with h' | h'
    · cases h'; exact .inr (.inl ⟨ha, hL ▸ List.mem_cons_self, hnp h⟩)
    · exact .inl h'

/-- `Holds_step` read with `Holds_exclusive` -/
theorem Holds_transfer {s s' : St} {a : Act} (hS : Step s a s') (hI : RInv s) (r : Row) :
    (∀ t u, Holds s t r → Holds s' u r → t ≠ u → a = .handoff r t u) ∧
    (∀ t, Holds s t r → (∀ u, ¬ Holds s' u r) → a = .dCas t false ∧ r ∈ s'.L ∧ r ∉ s.L) ∧
    (∀ u, (∀ t, ¬ Holds s t r) → Holds s' u r →
        (a = .exchange ∧ u = 0 ∧ r ∈ s.L) ∨ (∃ g, a = .grow r g ∧ u = 0 ∧ r ∉ places s)) := by
  refine ⟨?_, ?_, ?_⟩
  · intro t u ht hu hne
    rcases (Holds_step hS hI u r).1 hu with hb | ⟨_, _, hL⟩ | ⟨t', ha, hd⟩ | ⟨g, _, _, hf⟩
    · exact absurd (Holds_exclusive hI ht hb) hne
    · exact absurd hL (Holds_not_published hI ht)
    · have : t = t' := Holds_exclusive hI ht (Or.inr (Or.inl hd))
      subst this; exact ha
    · exact absurd (Holds_mem_places ht) hf
  · intro t ht hno
    rcases (Holds_step hS hI t r).2 ht with hf | hf | ⟨u, _, hu⟩
    · exact absurd hf (hno t)
    · exact hf
    · exact absurd hu (hno u)
  · intro u hno hu
    rcases (Holds_step hS hI u r).1 hu with hb | hb | ⟨t', _, hd⟩ | hb
    · exact absurd hb (hno u)
    · exact Or.inl hb
    · exact absurd (Or.inr (Or.inl hd)) (hno t')
    · exact Or.inr hb

end Momo.Rows
