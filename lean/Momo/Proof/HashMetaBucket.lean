import Momo.Proof.HashMeta
import Momo.Proof.Probe
/-!
  Metadata invariants of one LimP4 bucket (`P4.Inv`) and one Open2N2 bucket (`O2.Inv`) over arbitrary add/remove histories (C12): every
  byte that `GetHashCodePart` would consume for the element at position `i` is the byte `AddCrt` wrote for the element that is at position
  `i` *now*, which is what the compaction rules of `Remove` have to guarantee. LimP4 keeps short hashes and hash-probe bytes in one array,
  so its invariant is read position by position (`Cell`): the proofs follow the writes one `upd` at a time (`cell_upd`), and a byte that is
  kept or moved is right where its role is kept or moved (`Cell.transfer`). Open2N2 keeps two arrays and moves both bytes with the item.
  `P4` names and binders as in the sibling file OpenBytes: `<operation>_inv`, `count_decode` / `isFull_decode`, the invariant first.
-/
namespace Momo.HashMeta

theorem upd_same (f : Nat → Nat) (i v : Nat) : upd f i v i = v := if_pos rfl
theorem upd_other (f : Nat → Nat) (i v j : Nat) (h : j ≠ i) : upd f i v j = f j := if_neg h

namespace P4

theorem maskEmpty_val : maskEmpty = 128 := rfl
theorem emptyHashProbe_val : emptyHashProbe = 255 := rfl

theorem not_usable_lt (x : Nat) (hx : x < 128) : ¬ usable x := by
  unfold usable u8; rw [maskEmpty_val]; omega

theorem not_usable_255 : ¬ usable 255 := by
  unfold usable u8; rw [maskEmpty_val]; omega

/-- `a` is the ghost content (`Abs`: how many items, which item at which position); `b` the metadata bytes. The clause `probe` is
    conditional on `usable`: a hash-probe byte that a short hash overwrote, or that `Remove` reset to 255, is lost, and `GetHashCodePart`
    then calls the full getter. -/
structure Inv (b : Bucket) (a : Abs) : Prop where
  hc4 : 4 ≤ b.hc
  mc4 : b.maxCount ≤ 4
  n_le : a.n ≤ b.maxCount
  null0 : b.nonnull = false → a.n = 0
  short : ∀ i, i < a.n → (a.it i).h < 2 ^ 64 ∧ b.sh i = shortHash (a.it i).h
  free : ∀ j, a.n ≤ j → 128 ≤ b.sh j
  probe : ∀ i, i < a.n → usable (b.sh (b.hc - 1 - i)) →
            b.sh (b.hc - 1 - i) = encByte (a.it i).h (a.it i).L (a.it i).p

section cells
variable {b : Bucket} {a : Abs}

/-- what the invariant says of the byte `v` at position `j`: the short hash of item `j`, or free (marker bit set) and, if usable, the
    hash-probe byte of the claimant of `j`, the item `i` mirrored there (`j + i + 1 = hc`) -/
def Cell (a : Abs) (hc j v : Nat) : Prop :=
  (j < a.n → (a.it j).h < 2 ^ 64 ∧ v = shortHash (a.it j).h) ∧ (a.n ≤ j → 128 ≤ v) ∧
  ∀ i, i < a.n → j + i + 1 = hc → usable v → v = encByte (a.it i).h (a.it i).L (a.it i).p

theorem Inv.cell (hi : Inv b a) (j : Nat) : Cell a b.hc j (b.sh j) :=
  ⟨hi.short j, hi.free j, fun i hlt hm => by
    have := hi.probe i hlt
    rwa [show b.hc - 1 - i = j by omega] at this⟩

theorem inv_of_cells (h4 : 4 ≤ b.hc) (hm : b.maxCount ≤ 4) (hn : a.n ≤ b.maxCount) (h0 : b.nonnull = false → a.n = 0)
    (hc : ∀ j, Cell a b.hc j (b.sh j)) : Inv b a :=
  ⟨h4, hm, hn, h0, fun i => (hc i).1, fun j => (hc j).2.1, fun i hlt => (hc (b.hc - 1 - i)).2.2 i hlt (by omega)⟩

theorem cell_255 {n' : Nat} {it' : Nat → Item} {hc j : Nat} (hj : n' ≤ j) : Cell ⟨n', it'⟩ hc j 255 :=
  ⟨fun h => absurd h (Nat.not_lt.mpr hj), fun _ => by decide, fun _ _ _ hu => absurd hu not_usable_255⟩

/-- the byte of position `q` is right at position `j` of the new content when `j` plays there the role `q` played: same item for a
    short hash, and for a free position the claimant of `j` is the former claimant of `q` -/
theorem Cell.transfer {n' : Nat} {it' : Nat → Item} {hc q j v : Nat} (h : Cell a hc q v) (h1 : j < n' → q < a.n ∧ it' j = a.it q)
    (h2 : n' ≤ j → a.n ≤ q)
    (h3 : ∀ i, i < n' → j + i + 1 = hc → a.n ≤ q → ∃ i', i' < a.n ∧ q + i' + 1 = hc ∧ it' i = a.it i') : Cell ⟨n', it'⟩ hc j v := by
  refine ⟨fun hj => ?_, fun hj => h.2.1 (h2 hj), fun i hlt hm hu => ?_⟩
  · show (it' j).h < 2 ^ 64 ∧ v = shortHash (it' j).h
    rw [(h1 hj).2]; exact h.1 (h1 hj).1
  · by_cases hq : q < a.n
    · obtain ⟨h64, rfl⟩ := h.1 hq
      exact absurd hu (not_usable_lt _ (shortHash_lt _ h64))
    · obtain ⟨i', hi', hm', e⟩ := h3 i hlt hm (Nat.not_lt.mp hq)
      show v = encByte (it' i).h (it' i).L (it' i).p
      rw [e]; exact h.2.2 i' hi' hm' hu

theorem cell_upd {a' : Abs} {hc j i v : Nat} {f : Nat → Nat} (h1 : j = i → Cell a' hc j v) (h2 : j ≠ i → Cell a' hc j (f j)) :
    Cell a' hc j (upd f i v j) := by
  unfold upd; split
  · exact h1 ‹_›
  · exact h2 ‹_›

theorem new_inv (hc maxCount minMpi : Nat) (h4 : 4 ≤ hc) (hm : maxCount ≤ 4) : Inv (Bucket.new hc maxCount minMpi) Abs.init :=
  inv_of_cells h4 hm (Nat.zero_le _) (fun _ => rfl) fun j => cell_255 (Nat.zero_le j)

end cells

theorem inv_lt_iff {b : Bucket} {a : Abs} (hi : Inv b a) (i : Nat) : b.sh i < 128 ↔ i < a.n :=
  ⟨fun h => Nat.lt_of_not_le fun hle => Nat.not_le_of_lt h (hi.free i hle),
   fun h => (hi.short i h).2 ▸ shortHash_lt _ (hi.short i h).1⟩

theorem count_decode {b : Bucket} {a : Abs} (hi : Inv b a) : b.count = a.n := by
  have hn : a.n ≤ 4 := Nat.le_trans hi.n_le hi.mc4
  have e : ∀ i, (b.sh i < 128) = (i < a.n) := fun i => propext (inv_lt_iff hi i)
  rw [Bucket.count, countOf, maskEmpty_val]
  simp only [ge_iff_le, ← Nat.not_lt, e]
  split
  · split <;> omega
  · split <;> split <;> omega

theorem isFull_decode {b : Bucket} {a : Abs} (hi : Inv b a) (hm : 0 < b.maxCount) :
    b.isFull = decide (a.n = b.maxCount) := by
  have := hi.n_le
  exact decide_eq_decide.mpr ((inv_lt_iff hi _).trans (by omega))

theorem addCrt_hc (b : Bucket) (h L p : Nat) : (b.addCrt h L p).hc = b.hc := by unfold Bucket.addCrt; split <;> rfl
theorem addCrt_maxCount (b : Bucket) (h L p : Nat) : (b.addCrt h L p).maxCount = b.maxCount := by
  unfold Bucket.addCrt; split <;> rfl

/-- both branches of `AddCrt` write the same bytes: `index = count`, which is 0 when the pointer is null -/
theorem addCrt_sh {b : Bucket} {a : Abs} (hi : Inv b a) (h L p : Nat) :
    (b.addCrt h L p).sh = upd (setHashProbe b.hc b.sh a.n h L p) a.n (shortHash h) := by
  unfold Bucket.addCrt
  cases hnn : b.nonnull
  · simp [hi.null0 hnn]
  · simp [count_decode hi]

theorem addCrt_inv {b : Bucket} {a : Abs} (hi : Inv b a) (h L p : Nat) (hn : a.n < b.maxCount) (h64 : h < 2 ^ 64) :
    Inv (b.addCrt h L p) (a.stepP4 (.add h L p)) := by
  have hn4 : a.n < 4 := Nat.lt_of_lt_of_le hn hi.mc4
  have hc4 := hi.hc4
  have hnn' : (b.addCrt h L p).nonnull = true := by
    unfold Bucket.addCrt; cases hnn : b.nonnull <;> simp
  refine inv_of_cells (by rw [addCrt_hc]; exact hc4) (by rw [addCrt_maxCount]; exact hi.mc4) (by rw [addCrt_maxCount]; exact hn)
    (fun hf => by rw [hnn'] at hf; cases hf) fun j => ?_
  -- every other byte keeps its role; a mirrored position below `n` holds a short hash
  have old : j ≠ a.n → (j + a.n + 1 = b.hc → j < a.n) → Cell (a.stepP4 (.add h L p)) b.hc j (b.sh j) := fun h1 h2 =>
    (hi.cell j).transfer (fun hj => ⟨by omega, if_neg h1⟩) (fun hj => by omega)
      (fun i hlt hm hj => ⟨i, by omega, hm, if_neg (by omega)⟩)
  rw [addCrt_hc, addCrt_sh hi]
  refine cell_upd (fun hj => ?_) (fun hj => ?_)
  · -- the new short hash
    have e : (a.stepP4 (.add h L p)).it j = ⟨h, L, p⟩ := if_pos hj
    exact ⟨fun _ => by rw [e]; exact ⟨h64, rfl⟩, fun hj' => absurd hj' (by show ¬ a.n + 1 ≤ j; omega),
      fun _ _ _ hu => absurd hu (not_usable_lt _ (shortHash_lt h h64))⟩
  · unfold setHashProbe
    split
    · exact old hj (by omega)
    · refine cell_upd (fun hj' => ?_) (fun hj' => old hj (by omega))
      -- the new hash-probe byte, claimed by the new item alone
      refine ⟨fun h' => absurd h' (by show ¬ j < a.n + 1; omega), fun _ => (encByte_ge h L p).1, fun i _ hm _ => ?_⟩
      rw [show (a.stepP4 (.add h L p)).it i = ⟨h, L, p⟩ from if_pos (by omega)]

theorem remove_inv {b : Bucket} {a : Abs} (hi : Inv b a) (index : Nat) (hidx : index < a.n) :
    Inv (b.remove index) (a.stepP4 (.rem index)) := by
  have hn4 : a.n ≤ 4 := Nat.le_trans hi.n_le hi.mc4
  have hc4 := hi.hc4
  unfold Bucket.remove
  rw [count_decode hi]
  by_cases h1 : a.n = 1
  · -- the last element leaves: pvSetEmpty
    rw [if_pos h1]
    exact inv_of_cells hc4 hi.mc4 (Nat.le_trans (Nat.sub_le _ _) hi.n_le) (fun _ => show a.n - 1 = 0 by omega) fun j =>
      cell_255 (show a.n - 1 ≤ j by omega)
  · rw [if_neg h1]
    have hlast : a.n - 1 < a.n := by omega
    refine inv_of_cells hc4 hi.mc4 (Nat.le_trans (Nat.sub_le _ _) hi.n_le) (fun hf => absurd (hi.null0 hf) (by omega)) fun j => ?_
    -- the compaction of the short hashes; the mirror of `index`, if it is a hash-probe slot, is written afterwards
    have compact : (j + index + 1 = b.hc → j < a.n) →
        Cell (a.stepP4 (.rem index)) b.hc j (upd (upd b.sh index (b.sh (a.n - 1))) (a.n - 1) emptyHashProbe j) := fun hm =>
      cell_upd (fun hj => cell_255 (by omega)) fun hj => cell_upd
        (fun hj' => (hi.cell (a.n - 1)).transfer (fun _ => ⟨hlast, if_pos hj'⟩) (fun h' => by omega) (fun _ _ _ hq => by omega))
        (fun hj' => (hi.cell j).transfer (fun h' => ⟨by omega, if_neg hj'⟩) (fun h' => by omega)
          (fun i hlt hm' hq => ⟨i, by omega, hm', if_neg (by omega)⟩))
    show Cell _ b.hc j (removeBytes b.hc b.sh a.n index j)
    unfold removeBytes
    split
    · refine cell_upd (fun hj => ?_) (fun hj => compact (by omega))
      split
      · -- the hash probe of the last element moves along with it
        rw [upd_other _ _ _ _ (by omega), upd_other _ _ _ _ (by omega)]
        exact (hi.cell (b.hc - a.n)).transfer (fun h' => by omega) (fun _ => by omega)
          (fun i hlt hm _ => ⟨a.n - 1, hlast, by omega, if_pos (by omega)⟩)
      · exact cell_255 (by omega)
    · exact compact (by omega)

theorem inv_step {b : Bucket} {a : Abs} (hi : Inv b a) (op : Op) (hl : op.legalP4 b.maxCount a) :
    Inv (b.step op) (a.stepP4 op) := by
  cases op with
  | add h L p => exact addCrt_inv hi h L p hl.1 hl.2
  | rem index => exact remove_inv hi index hl

theorem step_maxCount (b : Bucket) (op : Op) : (b.step op).maxCount = b.maxCount := by
  cases op with
  | add h L p => exact addCrt_maxCount b h L p
  | rem index => simp only [Bucket.step, Bucket.remove]; split <;> rfl

theorem step_hc (b : Bucket) (op : Op) : (b.step op).hc = b.hc := by
  cases op with
  | add h L p => exact addCrt_hc b h L p
  | rem index => simp only [Bucket.step, Bucket.remove]; split <;> rfl

theorem run_maxCount (ops : List Op) (b : Bucket) : (ops.foldl Bucket.step b).maxCount = b.maxCount :=
  Probe.foldl_keeps step_maxCount ops b

theorem run_hc (ops : List Op) (b : Bucket) : (ops.foldl Bucket.step b).hc = b.hc := Probe.foldl_keeps step_hc ops b

theorem run_inv (ops : List Op) : ∀ (b : Bucket) (a : Abs), Inv b a → legalHistP4 b.maxCount a ops →
    Inv (ops.foldl Bucket.step b) (ops.foldl Abs.stepP4 a) := by
  induction ops with
  | nil => intro b a hi _; exact hi
  | cons op rest ih =>
    intro b a hi hl
    simp only [List.foldl_cons]
    apply ih _ _ (inv_step hi op hl.1)
    rw [step_maxCount]; exact hl.2

theorem run_inv_new (hc maxCount minMpi : Nat) (h4 : 4 ≤ hc) (hm : maxCount ≤ 4) (ops : List Op)
    (hl : legalHistP4 maxCount Abs.init ops) :
    Inv (ops.foldl Bucket.step (Bucket.new hc maxCount minMpi)) (ops.foldl Abs.stepP4 Abs.init) :=
  run_inv ops _ _ (new_inv hc maxCount minMpi h4 hm) hl

/-- the index argument `(h % 2^L + p) % 2^L` says that the bucket sits where linear probing put the item: a fact about the table, not part
    of `Inv`. There is no Open2N2 sibling. -/
theorem inv_part {b : Bucket} {a : Abs} (hi : Inv b a) (i : Nat) (hlt : i < a.n) (hL : (a.it i).L ≤ 57) (L' : Nat) :
    Agree (gbits L') (b.getHashCodePart i (((a.it i).h % 2 ^ (a.it i).L + (a.it i).p) % 2 ^ (a.it i).L) (a.it i).L L'
      (a.it i).h) (a.it i).h := by
  obtain ⟨h64, hsh⟩ := hi.short i hlt
  rw [Bucket.getHashCodePart, hsh]
  cases hu : useFull (b.sh (b.hc - 1 - i)) (a.it i).L L' with
  | true => rw [P4.getHashCodePart, hu, if_pos rfl]; exact Agree.refl _ _
  | false =>
    rw [hi.probe i hlt (useFull_false.mp hu).1]
    exact (part_agree _ _ _ L' _ h64 h64 hL (Agree.refl _ _)).1

end P4

namespace O2

/-- `a` is the ghost content; items live in positions `maxCount - n .. maxCount - 1`, each with its short hash and its hash-probe byte
    (unconditionally: no byte is ever overwritten), free positions hold the empty short hash. `mc3` records that the count lives in a
    two-bit field; no lemma reads it. -/
structure Inv (b : Bucket) (a : Abs) : Prop where
  mc3 : b.maxCount ≤ 3
  cnt : b.cnt = a.n
  n_le : a.n ≤ b.maxCount
  live : ∀ i, b.maxCount - a.n ≤ i → i < b.maxCount →
    (a.it i).h < 2 ^ 64 ∧ b.sh i = shortHash (a.it i).h ∧ b.hp i = encByte (a.it i).h (a.it i).L (a.it i).p
  free : ∀ i, i < b.maxCount - a.n → b.sh i = emptyShortHash

theorem new_inv (maxCount : Nat) (hm : maxCount ≤ 3) : Inv (Bucket.new maxCount) Abs.init := by
  refine ⟨hm, rfl, Nat.zero_le _, ?_, ?_⟩
  · intro i h1 h2; simp [Abs.init, Bucket.new] at h1 h2; omega
  · intro i _; rfl

theorem inv_step {b : Bucket} {a : Abs} (hi : Inv b a) (op : Op) (hl : op.legalO2 b.maxCount a) :
    Inv (b.step op) (a.stepO2 b.maxCount op) := by
  cases op with
  | add h L p =>
    obtain ⟨hn, h64⟩ := hl
    simp only [Bucket.step, Bucket.addCrt, Abs.stepO2]
    refine ⟨hi.mc3, (by simp [hi.cnt]), (by simp only; omega), ?_, ?_⟩
    · intro i h1 h2
      simp only [hi.cnt] at h1 h2 ⊢
      by_cases he : i = b.maxCount - 1 - a.n
      · simp [he, upd_same, h64]
      · simp only [he, if_false, upd_other _ _ _ _ he]
        exact hi.live i (by omega) h2
    · intro i h1
      simp only [hi.cnt] at h1 ⊢
      rw [upd_other _ _ _ _ (by omega)]
      exact hi.free i (by omega)
  | rem index =>
    obtain ⟨h1, h2⟩ := hl
    simp only [Bucket.step, Bucket.remove, Abs.stepO2]
    have hn : 0 < a.n := by omega
    have hnle := hi.n_le
    refine ⟨hi.mc3, (by simp [hi.cnt]), (by simp only; omega), ?_, ?_⟩
    · intro i hlo hhi
      simp only [hi.cnt] at hlo hhi ⊢
      have hne : i ≠ b.maxCount - a.n := by omega
      rw [upd_other _ _ _ _ hne]
      by_cases he : i = index
      · subst he
        simp only [if_true, upd_same]
        exact hi.live (b.maxCount - a.n) (Nat.le_refl _) (by have := hi.n_le; omega)
      · simp only [he, if_false, upd_other _ _ _ _ he]
        exact hi.live i (by omega) hhi
    · intro i hlt
      simp only [hi.cnt] at hlt ⊢
      by_cases he : i = b.maxCount - a.n
      · rw [he, upd_same]
      · rw [upd_other _ _ _ _ he, upd_other _ _ _ _ (by omega)]
        exact hi.free i (by omega)

theorem step_maxCount (b : Bucket) (op : Op) : (b.step op).maxCount = b.maxCount := by
  cases op <;> rfl

theorem run_maxCount (ops : List Op) (b : Bucket) : (ops.foldl Bucket.step b).maxCount = b.maxCount :=
  Probe.foldl_keeps step_maxCount ops b

theorem run_inv (ops : List Op) : ∀ (b : Bucket) (a : Abs), Inv b a → legalHistO2 b.maxCount a ops →
    Inv (ops.foldl Bucket.step b) (ops.foldl (Abs.stepO2 b.maxCount) a) := by
  induction ops with
  | nil => intro b a hi _; exact hi
  | cons op rest ih =>
    intro b a hi hl
    simp only [List.foldl_cons]
    have := ih _ _ (inv_step hi op hl.1) (by rw [step_maxCount]; exact hl.2)
    rw [step_maxCount] at this
    exact this

theorem run_inv_new (maxCount : Nat) (hm : maxCount ≤ 3) (ops : List Op) (hl : legalHistO2 maxCount Abs.init ops) :
    Inv (ops.foldl Bucket.step (Bucket.new maxCount)) (ops.foldl (Abs.stepO2 maxCount) Abs.init) :=
  run_inv ops (Bucket.new maxCount) Abs.init (new_inv maxCount hm) hl

end O2

end Momo.HashMeta
