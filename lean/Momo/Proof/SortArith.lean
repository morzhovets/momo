import Momo.Model.Sort
import Mathlib.Tactic.Linarith
import Mathlib.Tactic.Ring
/-!
  C17: arithmetic of `HashSorter::pvMultShift` (HashSorter.h:442-451).  With 32-bit halves
  `v = hi·2^32 + lo` the function computes `hi₁·hi₂ + ⌊hi₁·lo₂ / 2^32⌋ + ⌊hi₂·lo₁ / 2^32⌋`; no 64-bit
  operation wraps, the value never exceeds `⌊v₁·v₂ / 2^64⌋`, hence is `< v₂` for every 64-bit `v₁`.
  No tactic of the two Mathlib imports is used: with Mathlib in scope `2 ^ 64` in the statements (here and in `Props/C17`) elaborates through
  `Monoid.npow`, without it through `instPowNat`, and the registered statements are the former.
-/
namespace Momo.Sort

/-- each floor loses something and the product `l₁·l₂` of the low halves is dropped -/
theorem multShift_core (X a b l1 l2 : Nat) :
    (a * b + a * l2 / X + b * l1 / X) * (X * X) ≤ (a * X + l1) * (b * X + l2) := by
  have e1 : a * l2 / X * (X * X) ≤ a * X * l2 := by
    rw [← Nat.mul_assoc, Nat.mul_right_comm a X l2]; exact Nat.mul_le_mul_right X (Nat.div_mul_le_self _ _)
  have e2 : b * l1 / X * (X * X) ≤ l1 * (b * X) := by
    rw [← Nat.mul_assoc, ← Nat.mul_assoc, Nat.mul_comm l1 b]; exact Nat.mul_le_mul_right X (Nat.div_mul_le_self _ _)
  rw [Nat.add_mul, Nat.add_mul, Nat.mul_mul_mul_comm a b X X, Nat.add_mul, Nat.mul_add, Nat.mul_add]
  omega

def multShiftRaw (v1 v2 : Nat) : Nat :=
  (v1 / 2^32) * (v2 / 2^32) + (v1 / 2^32) * (v2 % 2^32) / 2^32 + (v2 / 2^32) * (v1 % 2^32) / 2^32

theorem multShiftRaw_le (v1 v2 : Nat) : multShiftRaw v1 v2 * 2^64 ≤ v1 * v2 := by
  have h := multShift_core (2^32) (v1 / 2^32) (v2 / 2^32) (v1 % 2^32) (v2 % 2^32)
  rwa [Nat.div_add_mod' v1, Nat.div_add_mod' v2] at h

theorem multShiftRaw_lt (v1 v2 : Nat) (h1 : v1 < 2^64) (hn : 0 < v2) : multShiftRaw v1 v2 < v2 :=
  Nat.lt_of_mul_lt_mul_right (a := 2^64)
    (Nat.lt_of_le_of_lt (multShiftRaw_le v1 v2) (by rw [Nat.mul_comm v2]; exact Nat.mul_lt_mul_of_pos_right h1 hn))

theorem w64_of_lt {x : Nat} (h : x < 2^64) : w64 x = x := Nat.mod_eq_of_lt h

theorem multShift_eq_raw (v1 v2 : Nat) (h1 : v1 < 2^64) (h2 : v2 < 2^64) : multShift v1 v2 = multShiftRaw v1 v2 := by
  have hlt : multShiftRaw v1 v2 < 2^64 :=
    Nat.lt_of_mul_lt_mul_right (Nat.lt_of_le_of_lt (multShiftRaw_le v1 v2) (Nat.mul_lt_mul'' h1 h2))
  have e64 : (2:Nat)^64 = 2^32 * 2^32 := Nat.pow_add 2 32 32
  have hmul : ∀ {x y : Nat}, x < 2^32 → y < 2^32 → x * y < 2^64 := fun hx hy => e64 ▸ Nat.mul_lt_mul'' hx hy
  have ha : v1 / 2^32 < 2^32 := Nat.div_lt_of_lt_mul (e64 ▸ h1)
  have hb : v2 / 2^32 < 2^32 := Nat.div_lt_of_lt_mul (e64 ▸ h2)
  have hl : ∀ v : Nat, v % 2^32 < 2^32 := fun v => Nat.mod_lt _ (Nat.two_pow_pos 32)
  unfold multShiftRaw at hlt ⊢
  simp only [multShift, halfSize, halfMask, Extracted.hsHalfSizeFactor, Nat.shiftRight_eq_div_pow, Nat.and_two_pow_sub_one_eq_mod]
  rw [w64_of_lt (hmul ha hb), w64_of_lt (hmul ha (hl v2)), w64_of_lt (hmul hb (hl v1)),
    w64_of_lt (Nat.lt_of_le_of_lt (Nat.le_add_right _ _) hlt), w64_of_lt hlt]

/-- **`pvMultShift(h, n) < n`**: the interpolated index lies inside the sequence. -/
theorem multShift_lt (h n : Nat) (hh : h < 2^64) (hn : 0 < n) : multShift h n < n := by
  by_cases hn64 : n < 2^64
  · rw [multShift_eq_raw h n hh hn64]
    exact multShiftRaw_lt h n hh hn
  · exact Nat.lt_of_lt_of_le (Nat.mod_lt _ (Nat.two_pow_pos 64)) (Nat.le_of_not_lt hn64)

theorem multShift_le_mulhi (h n : Nat) (hh : h < 2^64) (hn : n < 2^64) : multShift h n ≤ h * n / 2^64 := by
  rw [multShift_eq_raw h n hh hn]
  exact (Nat.le_div_iff_mul_le (Nat.two_pow_pos 64)).mpr (multShiftRaw_le h n)

end Momo.Sort
