import Momo.Proof.PoolBulk
/-!
  State machine of `MemPool` (C09), `blockCount > 1`: `pvDeleteBlocks` (682-706) and `DeallocateIf` (360-384). Sweeps of
  different buffers (`VisitSpec`) compose; `pvDeleteBlocks` sweeps one buffer, the two loops of `DeallocateIf` `post` and `pre`.
-/
namespace Momo.Pool

theorem CoreWF.order_nodup {P : Params} {p : Pool} (h : CoreWF P p) : p.order.Nodup :=
  ((List.reverse_perm p.pre).append_right p.post).nodup_iff.mpr h.lists_nodup

/-- `pvGetNextBuffer` / `pvGetPrevBuffer` -/
theorem CoreWF.nextOf_eq {P : Params} {p : Pool} (h : CoreWF P p) {A T : List Int} {x : Int}
    (e : p.order = A ++ x :: T) : p.nextOf x = T.head? := by
  unfold Pool.nextOf; rw [e]; exact succIn_mid (e ▸ h.order_nodup)

theorem CoreWF.prevOf_eq {P : Params} {p : Pool} (h : CoreWF P p) {A T : List Int} {x : Int}
    (e : p.order.reverse = A ++ x :: T) : p.prevOf x = T.head? := by
  unfold Pool.prevOf; rw [e]; exact succIn_mid (e ▸ List.nodup_reverse.mpr h.order_nodup)

/-- what a sweep (`pvDeleteBlocks`) of the buffers `xs`, in that order, asks the filter about (`VisitSpec.trace`) -/
def visitTaken (P : Params) (st : List Buffer) (xs : List Int) : List Int :=
  xs.flatMap (fun x => match getBuf st x with | some b => b.taken P | none => [])

theorem visitTaken_congr {P : Params} {st st' : List Buffer} (hnd' : (bufs st').Nodup)
    (xs : List Int) (h : ∀ c : Buffer, c.buf ∈ xs → (c ∈ st' ↔ c ∈ st)) :
    visitTaken P st' xs = visitTaken P st xs := by
  unfold visitTaken
  apply List.flatMap_congr
  intro x hx
  rw [getBuf_congr hnd' x (fun c e => h c (e ▸ hx))]

theorem visitTaken_append (P : Params) (st : List Buffer) (xs ys : List Int) :
    visitTaken P st (xs ++ ys) = visitTaken P st xs ++ visitTaken P st ys := by
  simp [visitTaken, List.flatMap_append]

theorem visitTaken_single (P : Params) {st : List Buffer} {b : Buffer} (hg : getBuf st b.buf = some b) :
    visitTaken P st [b.buf] = b.taken P := by
  simp [visitTaken, hg]

theorem visitTaken_perm {P : Params} {st : List Buffer} (hnd : (bufs st).Nodup) {xs : List Int}
    (hp : xs.Perm (bufs st)) : (visitTaken P st xs).Perm (takenOf P st) := by
  have h1 : (visitTaken P st xs).Perm (visitTaken P st (bufs st)) := List.Perm.flatMap_right _ hp
  refine h1.trans ?_
  have h2 : visitTaken P st (bufs st) = takenOf P st := by
    unfold visitTaken takenOf bufs
    rw [List.flatMap_map]
    apply List.flatMap_congr
    intro b hb
    simp [getBuf_of_mem hb hnd]
  rw [h2]

/-- result of visiting the buffers `xs` of pool `p` with `pvDeleteBlocks` -/
structure VisitSpec (P : Params) (f : Int → Bool) (p p' : Pool) (xs : List Int) (tr : List Int) (evs : List Ev) : Prop where
  wf : CoreWF P p'
  postNE : p'.post ≠ []
  trace : tr = visitTaken P p.store xs
  perm : (p.taken P).Perm (tr.filter f ++ p'.taken P)
  count : p'.allocCount = p.allocCount - (tr.filter f).length
  same : p'.cache = p.cache ∧ p'.singles = p.singles
  others : ∀ c : Buffer, c.buf ∉ xs → (c ∈ p'.store ↔ c ∈ p.store)
  ledger : LedgerOK P p.store evs p'.store

theorem VisitSpec.nil {P : Params} {f : Int → Bool} {p : Pool} (h : CoreWF P p) (hpne : p.post ≠ []) :
    VisitSpec P f p p [] [] [] :=
  ⟨h, hpne, rfl, List.Perm.refl _, rfl, ⟨rfl, rfl⟩, fun _ _ => Iff.rfl, LedgerOK.nil rfl⟩

theorem VisitSpec.append {P : Params} {f : Int → Bool} {p p1 p2 : Pool} {xs ys tr1 tr2 : List Int} {e1 e2 : List Ev}
    (h1 : VisitSpec P f p p1 xs tr1 e1) (h2 : VisitSpec P f p1 p2 ys tr2 e2) (hdis : ∀ y ∈ ys, y ∉ xs) :
    VisitSpec P f p p2 (xs ++ ys) (tr1 ++ tr2) (e1 ++ e2) := by
  refine ⟨h2.wf, h2.postNE, ?_, ?_, ?_, ⟨h2.same.1.trans h1.same.1, h2.same.2.trans h1.same.2⟩, fun c hc => ?_,
    h1.ledger.trans h2.ledger⟩
  · rw [visitTaken_append, ← h1.trace, h2.trace,
      visitTaken_congr h1.wf.nodup ys fun c hc => h1.others c (hdis _ hc)]
  · rw [List.filter_append, List.append_assoc]
    exact h1.perm.trans (List.Perm.append_left _ h2.perm)
  · rw [h2.count, h1.count, List.filter_append, List.length_append, Nat.sub_sub]
  · rw [List.mem_append, not_or] at hc
    exact (h2.others c hc.2).trans (h1.others c hc.1)

/-- net effect of one visit of `pvDeleteBlocks` to buffer `a` on the two lists: nothing; a full buffer became the head;
    a buffer with free blocks became entirely free and was deleted; a full buffer did both -/
def Net (p p' : Pool) (a : Int) : Prop :=
  (p'.pre = p.pre ∧ p'.post = p.post) ∨
  (a ∈ p.pre ∧ p'.pre = p.pre.erase a ∧ p'.post = a :: p.post) ∨
  (a ∈ p.post ∧ p'.pre = p.pre ∧ p'.post = p.post.erase a) ∨
  (a ∈ p.pre ∧ p'.pre = p.pre.erase a ∧ p'.post = p.post)

theorem Net.step {P : Params} {p0 p1 p2 : Pool} {b : Buffer} {idx : Int} (h0 : (p0.pre ++ p0.post).Nodup)
    (hn : Net p0 p1 b.buf) (h1 : CoreWF P p1) (hb : b ∈ p1.store) (hs : FreeShape P p1 p2 b idx) :
    Net p0 p2 b.buf := by
  have hmem : b.buf ∈ p1.pre ++ p1.post := h1.lists.symm.subset (List.mem_map_of_mem hb)
  have hnd0 := List.nodup_append.mp h0
  rcases hn with ⟨e1, e2⟩ | ⟨ha, e1, e2⟩ | ⟨ha, e1, e2⟩ | ⟨ha, e1, e2⟩
  · rcases hs.lists with ⟨f1, f2⟩ | ⟨fa, f1, f2⟩ | ⟨fa, f1, f2⟩
    · exact Or.inl ⟨f1.trans e1, f2.trans e2⟩
    · exact Or.inr (Or.inl ⟨e1 ▸ fa, by rw [f1, e1], by rw [f2, e2]⟩)
    · exact Or.inr (Or.inr (Or.inl ⟨e2 ▸ fa, f1.trans e1, by rw [f2, e2]⟩))
  · rcases hs.lists with ⟨f1, f2⟩ | ⟨fa, f1, f2⟩ | ⟨_, f1, f2⟩
    · exact Or.inr (Or.inl ⟨ha, f1.trans e1, f2.trans e2⟩)
    · rw [e1] at fa
      exact absurd fa (fun hm => ((List.Nodup.mem_erase_iff hnd0.1).mp hm).1 rfl)
    · refine Or.inr (Or.inr (Or.inr ⟨ha, f1.trans e1, ?_⟩))
      rw [f2, e2]; simp
  · -- the buffer is gone from the lists
    exfalso
    rw [e1, e2] at hmem
    rcases List.mem_append.mp hmem with hm | hm
    · exact hnd0.2.2 _ hm _ ha rfl
    · exact ((List.Nodup.mem_erase_iff hnd0.2.1).mp hm).1 rfl
  · exfalso
    rw [e1, e2] at hmem
    rcases List.mem_append.mp hmem with hm | hm
    · exact ((List.Nodup.mem_erase_iff hnd0.1).mp hm).1 rfl
    · exact hnd0.2.2 _ ha _ hm rfl

/-- blocks the second loop of `pvDeleteBlocks` asks the filter about: those that were not free at the start -/
def askedBlocks (P : Params) (a first : Int) (wasFree : List Int) (js : List Nat) : List Int :=
  (js.filter (fun (j : Nat) => decide (first + (j : Int) ∉ wasFree))).map (fun (j : Nat) => getBlock P a (first + (j : Int)))

/-- what is known about buffer `a` while the second loop of `pvDeleteBlocks` runs over the offsets `js` -/
def LoopState (a first : Int) (wasFree : List Int) (js : List Nat) (p : Pool) : Prop :=
  (∃ b ∈ p.store, b.buf = a ∧ b.first = first ∧
      ∀ j ∈ js, (b.link (first + (j : Int)) = none ↔ first + (j : Int) ∉ wasFree)) ∨
  (a ∉ bufs p.store ∧ ∀ j ∈ js, first + (j : Int) ∈ wasFree)

/-- second loop of `pvDeleteBlocks` (695-705) from any point on; `p0` is the pool at the start of the visit. Conjuncts after the
    equation: (1) `CoreWF`; (2) the net effect on the lists since `p0`; (3) the filter was asked about the blocks of the buffer that
    were not free; (4) the selected ones are gone; (5) the count fell by their number; (6, 7) cache and `singles` untouched; (8) other
    buffers untouched; (9) the events free part of the memory held; (10) a head remains. `deleteBlocks_ok` packs them as `VisitSpec`. -/
theorem deleteBlocksLoop_ok {P : Params} {k : Int} (hM : Multi P k) (hN2 : 2 ≤ P.N) (hA2 : P.A ≤ 1024)
    (a first : Int) (wasFree : List Int) (f : Int → Bool) (p0 : Pool) (hnd0 : (p0.pre ++ p0.post).Nodup) :
    ∀ (js : List Nat) (p : Pool), CoreWF P p → Net p0 p a → js.Nodup → (∀ j ∈ js, (j : Int) < P.N) →
      LoopState a first wasFree js p →
      ∃ tr p' evs, deleteBlocksLoop P a a first wasFree f js p = .ok tr p' evs ∧
        CoreWF P p' ∧ Net p0 p' a ∧ tr = askedBlocks P a first wasFree js ∧
        (p.taken P).Perm (tr.filter f ++ p'.taken P) ∧
        p'.allocCount = p.allocCount - (tr.filter f).length ∧ p'.cache = p.cache ∧ p'.singles = p.singles ∧
        (∀ c : Buffer, c.buf ≠ a → (c ∈ p'.store ↔ c ∈ p.store)) ∧
        Frees (owned P p.store) evs (owned P p'.store) ∧ (p.post ≠ [] → p'.post ≠ []) := by
  intro js
  induction js with
  | nil =>
    intro p h hn _ _ _
    exact ⟨[], p, [], rfl, h, hn, rfl, by simp, by simp, rfl, rfl, fun _ _ => Iff.rfl, Frees.nil (List.Perm.refl _), id⟩
  | cons j js ih =>
    intro p h hn hjs hlt hst
    have hjs' := (List.nodup_cons.mp hjs).2
    have hjn : j ∉ js := (List.nodup_cons.mp hjs).1
    have hlt' : ∀ x ∈ js, (x : Int) < P.N := fun x hx => hlt x (by simp [hx])
    by_cases hw : first + (j : Int) ∈ wasFree
    · -- a block that was free at the start: skipped
      have hst' : LoopState a first wasFree js p := by
        rcases hst with ⟨b, hb, h1, h2, h3⟩ | ⟨h1, h2⟩
        · exact Or.inl ⟨b, hb, h1, h2, fun x hx => h3 x (by simp [hx])⟩
        · exact Or.inr ⟨h1, fun x hx => h2 x (by simp [hx])⟩
      obtain ⟨tr, p', evs, he, hr⟩ := ih p h hn hjs' hlt' hst'
      refine ⟨tr, p', evs, ?_, ?_⟩
      · simp only [deleteBlocksLoop, hw, if_true]; exact he
      · have : askedBlocks P a first wasFree (j :: js) = askedBlocks P a first wasFree js := by
          simp [askedBlocks, hw]
        rw [this]; exact hr
    · -- a live block: the buffer must still be there
      obtain ⟨b, hb, hba, hbf, hlinks⟩ : ∃ b ∈ p.store, b.buf = a ∧ b.first = first ∧
          ∀ x ∈ j :: js, (b.link (first + (x : Int)) = none ↔ first + (x : Int) ∉ wasFree) := by
        rcases hst with hpres | ⟨_, h2⟩
        · exact hpres
        · exact absurd (h2 j (by simp)) hw
      have hlj : b.link (first + (j : Int)) = none := (hlinks j (by simp)).mpr hw
      have hrange : b.first ≤ first + (j : Int) ∧ first + (j : Int) < b.first + P.N := by
        have := hlt j (by simp); rw [hbf]; omega
      have hask : askedBlocks P a first wasFree (j :: js) =
          getBlock P a (first + (j : Int)) :: askedBlocks P a first wasFree js := by
        simp [askedBlocks, hw]
      by_cases hf : f (getBlock P a (first + (j : Int))) = true
      · -- selected: pvDeleteBlock, --allocCount
        obtain ⟨p1, e1, hd1, hs1, hsh1⟩ := deleteBlockAt_ok hM hN2 hA2 h hb (first + (j : Int)) hrange hlj
        rw [hba] at hd1 hs1
        obtain ⟨hwfb', _, _⟩ := (h.bufwf b hb).put_ok hM (first + (j : Int)) hrange hlj
        have hput : ∀ x ∈ js, (b.put (first + (j : Int))).link (first + (x : Int)) = b.link (first + (x : Int)) :=
          fun x hx => if_neg fun e => hjn (by
            have : x = j := by omega
            exact this ▸ hx)
        have hst1 : LoopState a first wasFree js { p1 with allocCount := p1.allocCount - 1 } := by
          rcases hsh1.after with hg | ⟨hgone, hfull⟩
          · exact Or.inl ⟨b.put (first + (j : Int)), (getBuf_some hg).1, hba, hbf,
              fun x hx => by rw [hput x hx]; exact hlinks x (List.mem_cons_of_mem _ hx)⟩
          · -- the buffer became entirely free and is gone: no block of it is left to ask about
            refine Or.inr ⟨hba ▸ hgone, fun x hx => Decidable.byContradiction fun hnw => ?_⟩
            have hlx := (hlinks x (List.mem_cons_of_mem _ hx)).mpr hnw
            rw [← hput x hx] at hlx
            have := hlt x (List.mem_cons_of_mem _ hx)
            exact hwfb'.link_ne_none_of_full (by omega) hfull (first + (x : Int))
              (by show b.first ≤ _ ∧ _ < b.first + P.N; rw [hbf]; omega) hlx
        have hn1 : Net p0 { p1 with allocCount := p1.allocCount - 1 } a := by
          have := Net.step hnd0 (hba ▸ hn) h hb hsh1
          rw [hba] at this; exact this
        obtain ⟨tr, p', evs, he, hwf', hn', htr, hperm, hcnt, hc, hsg, hoth, hl, hne⟩ :=
          ih { p1 with allocCount := p1.allocCount - 1 } (hs1.wf.congr rfl rfl rfl) hn1 hjs' hlt' hst1
        refine ⟨getBlock P a (first + (j : Int)) :: tr, p', e1 ++ evs, ?_, hwf', hn', ?_, ?_, ?_, hc.trans hs1.same.1,
          hsg.trans hs1.same.2.2, ?_, hs1.frees.trans hl, fun _ => hne hsh1.postNE⟩
        · simp only [deleteBlocksLoop, hw, if_false, hf, if_true, hd1, Outcome.bind, he, Outcome.map]
        · rw [hask, htr]
        · simp only [List.filter_cons, hf, if_true, List.cons_append]
          exact hs1.perm.trans (List.Perm.cons _ hperm)
        · simp only [List.filter_cons, hf, if_true, List.length_cons]
          rw [hcnt]
          show p1.allocCount - 1 - _ = _
          rw [hs1.same.2.1]; omega
        · intro c hc'
          rw [hoth c hc']
          have := hsh1.others c (by rw [hba]; exact hc')
          exact this
      · have hst' : LoopState a first wasFree js p :=
          Or.inl ⟨b, hb, hba, hbf, fun x hx => hlinks x (by simp [hx])⟩
        obtain ⟨tr, p', evs, he, hwf', hn', htr, hperm, hcnt, hc, hsg, hoth, hl, hne⟩ := ih p h hn hjs' hlt' hst'
        have hf' : f (getBlock P a (first + (j : Int))) = false := by simpa using hf
        refine ⟨getBlock P a (first + (j : Int)) :: tr, p', evs, ?_, hwf', hn', ?_, ?_, ?_, hc, hsg, hoth, hl, hne⟩
        · simp only [deleteBlocksLoop, hw, if_false, hf', he, Outcome.map]
          simp
        · rw [hask, htr]
        · simp only [List.filter_cons, hf']; simpa using hperm
        · simp only [List.filter_cons, hf']; simpa using hcnt

theorem askedBlocks_eq_taken {P : Params} {b : Buffer} (ch : List Int)
    (hnone : ∀ i, b.first ≤ i → i < b.first + P.N → (b.link i = none ↔ i ∉ ch)) :
    askedBlocks P b.buf b.first ch (List.range P.N.toNat) = b.taken P := by
  unfold askedBlocks Buffer.taken Buffer.indexes
  rw [List.filter_map, List.map_map]
  have hfilt : List.filter ((fun i => (b.link i).isNone) ∘ fun (j : Nat) => b.first + (j : Int)) (List.range P.N.toNat) =
      List.filter (fun (j : Nat) => decide (b.first + (j : Int) ∉ ch)) (List.range P.N.toNat) := by
    apply List.filter_congr
    intro j hj
    have hj' := List.mem_range.mp hj
    have h1 := hnone (b.first + (j : Int)) (by omega) (by omega)
    simp only [Function.comp]
    by_cases hm : b.first + (j : Int) ∈ ch
    · have : b.link (b.first + (j : Int)) ≠ none := fun e => (h1.mp e) hm
      cases hl : b.link (b.first + (j : Int)) with
      | none => exact absurd hl this
      | some v => simp [hm]
    · simp [hm, h1.mpr hm]
  rw [hfilt]; rfl

/-- `pvDeleteBlocks` (682-706) on a buffer of the pool -/
theorem deleteBlocks_ok {P : Params} {k : Int} (hM : Multi P k) (hN2 : 2 ≤ P.N) (hA2 : P.A ≤ 1024) {p : Pool}
    (h : CoreWF P p) {b : Buffer} (hb : b ∈ p.store) (f : Int → Bool) (hpne : p.post ≠ []) :
    ∃ tr p' evs, deleteBlocks P p b.buf f = .ok tr p' evs ∧ VisitSpec P f p p' [b.buf] tr evs ∧ Net p p' b.buf ∧
      Frees (owned P p.store) evs (owned P p'.store) := by
  obtain ⟨ch, hch, hlen, hnd, hrange, hnone⟩ := (h.bufwf b hb).chain
  have hfc : freeChain b b.freeCount.toNat b.firstFree = some ch := by
    have : b.freeCount.toNat = ch.length := by omega
    rw [this]; exact freeChain_of_Chain b ch _ hch
  have hst : LoopState b.buf b.first ch (List.range P.N.toNat) p :=
    Or.inl ⟨b, hb, rfl, rfl, fun j hj => by have := List.mem_range.mp hj; exact hnone _ (by omega) (by omega)⟩
  obtain ⟨tr, p', evs, he, hwf', hn', htr, hperm, hcnt, hc, hsg, hoth, hl, hne⟩ :=
    deleteBlocksLoop_ok hM hN2 hA2 b.buf b.first ch f p h.lists_nodup (List.range P.N.toNat) p h
      (Or.inl ⟨rfl, rfl⟩) List.nodup_range (fun j hj => by have := List.mem_range.mp hj; omega) hst
  refine ⟨tr, p', evs, ?_, ⟨hwf', hne hpne, ?_, hperm, hcnt, ⟨hc, hsg⟩,
    fun c hc' => hoth c fun e => hc' (List.mem_singleton.mpr e), hl.settles⟩, hn', hl⟩
  · unfold deleteBlocks
    rw [h.getBuf_of_mem hb]; simp only [hfc]; exact he
  · rw [htr, askedBlocks_eq_taken ch hnone, visitTaken_single P (h.getBuf_of_mem hb)]

/-- forward loop of `DeallocateIf` (368-376) -/
theorem difForward_ok {P : Params} {k : Int} (hM : Multi P k) (hN2 : 2 ≤ P.N) (hA2 : P.A ≤ 1024) (f : Int → Bool) :
    ∀ (fuel : Nat) (todo : List Int) (cur : Int) (L : List Int) (p : Pool), CoreWF P p →
      p.post = L ++ cur :: todo → todo.length < fuel →
      ∃ tr p' evs, difForward P f fuel cur p = .ok tr p' evs ∧ VisitSpec P f p p' (cur :: todo) tr evs ∧
        p'.pre = p.pre ∧ Frees (owned P p.store) evs (owned P p'.store) := by
  intro fuel
  induction fuel with
  | zero => intro todo _ _ _ _ _ hf; exact absurd hf (Nat.not_lt_zero _)
  | succ fu ih =>
    intro todo cur L p h hpost hfuel
    have hcur : cur ∈ p.post := hpost ▸ List.mem_append_right _ List.mem_cons_self
    obtain ⟨b, _, hb, rfl⟩ := h.getBuf_of_mem_lists (List.mem_append_right _ hcur)
    have hnd := List.nodup_append.mp h.lists_nodup
    have hndpost : (L ++ b.buf :: todo).Nodup := hpost ▸ hnd.2.1
    have hnpre : b.buf ∉ p.pre := fun hm => hnd.2.2 _ hm _ hcur rfl
    have hnL : b.buf ∉ L := fun hm => (List.nodup_append.mp hndpost).2.2 _ hm _ List.mem_cons_self rfl
    obtain ⟨tr, p1, e1, hd, hv1, hn1, hf1⟩ := deleteBlocks_ok hM hN2 hA2 h hb f (List.ne_nil_of_mem hcur)
    have hnext : p.nextOf b.buf = todo.head? :=
      h.nextOf_eq (by unfold Pool.order; rw [hpost, List.append_assoc])
    -- the sweep may take the buffer out of `post`; `pre` and what follows the buffer stay
    obtain ⟨hpre1, L', hpost1⟩ : p1.pre = p.pre ∧ ∃ L', p1.post = L' ++ todo := by
      rcases hn1 with ⟨e1', e2'⟩ | ⟨ha, _, _⟩ | ⟨_, e1', e2'⟩ | ⟨ha, _, _⟩
      · exact ⟨e1', L ++ [b.buf], by rw [e2', hpost, List.append_assoc, List.singleton_append]⟩
      · exact absurd ha hnpre
      · exact ⟨e1', L, by rw [e2', hpost, List.erase_append_right _ hnL, List.erase_cons_head]⟩
      · exact absurd ha hnpre
    cases todo with
    | nil =>
      refine ⟨tr, p1, e1 ++ [], ?_, by rw [List.append_nil]; exact hv1, hpre1, by rw [List.append_nil]; exact hf1⟩
      simp only [difForward, hd, Outcome.bind, hnext, List.head?_nil]
    | cons n todo' =>
      obtain ⟨tr2, p2, e2, hd2, hv2, hpre2, hf2⟩ := ih todo' n L' p1 hv1.wf hpost1 (Nat.lt_of_succ_lt_succ hfuel)
      have hnT : b.buf ∉ n :: todo' := (List.nodup_cons.mp (List.nodup_append.mp hndpost).2.1).1
      refine ⟨tr ++ tr2, p2, e1 ++ e2, ?_,
        hv1.append hv2 fun y hy hm => hnT (List.mem_singleton.mp hm ▸ hy), hpre2.trans hpre1, hf1.trans hf2⟩
      simp only [difForward, hd, Outcome.bind, hnext, List.head?_cons, hd2, Outcome.map]

/-- backward loop of `DeallocateIf` (377-383); `xs` is the `cur :: todo` of `difForward_ok`, or empty (the loop starts from
    `pvGetPrevBuffer(head)`, which may be null); nothing after it needs the lists, hence no clause like `p'.pre = p.pre` -/
theorem difBackward_ok {P : Params} {k : Int} (hM : Multi P k) (hN2 : 2 ≤ P.N) (hA2 : P.A ≤ 1024) (f : Int → Bool) :
    ∀ (fuel : Nat) (xs L : List Int) (p : Pool), CoreWF P p → p.pre = L ++ xs → p.post ≠ [] → xs.length ≤ fuel →
      ∃ tr p' evs, difBackward P f fuel xs.head? p = .ok tr p' evs ∧ VisitSpec P f p p' xs tr evs ∧
        Frees (owned P p.store) evs (owned P p'.store) := by
  intro fuel
  induction fuel with
  | zero =>
    intro xs L p h _ hpne hf
    rw [List.eq_nil_of_length_eq_zero (Nat.le_zero.mp hf)]
    exact ⟨[], p, [], rfl, VisitSpec.nil h hpne, Frees.nil (List.Perm.refl _)⟩
  | succ fu ih =>
    intro xs L p h hpre hpne hfuel
    cases xs with
    | nil => exact ⟨[], p, [], rfl, VisitSpec.nil h hpne, Frees.nil (List.Perm.refl _)⟩
    | cons cur todo =>
      have hcur : cur ∈ p.pre := hpre ▸ List.mem_append_right _ List.mem_cons_self
      obtain ⟨b, _, hb, rfl⟩ := h.getBuf_of_mem_lists (List.mem_append_left _ hcur)
      have hnd := List.nodup_append.mp h.lists_nodup
      have hndpre : (L ++ b.buf :: todo).Nodup := hpre ▸ hnd.1
      have hnpost : b.buf ∉ p.post := fun hm => hnd.2.2 _ hcur _ hm rfl
      have hnL : b.buf ∉ L := fun hm => (List.nodup_append.mp hndpre).2.2 _ hm _ List.mem_cons_self rfl
      have hnT : b.buf ∉ todo := (List.nodup_cons.mp (List.nodup_append.mp hndpre).2.1).1
      obtain ⟨tr, p1, e1, hd, hv1, hn1, hf1⟩ := deleteBlocks_ok hM hN2 hA2 h hb f hpne
      have hprev : p.prevOf b.buf = todo.head? :=
        h.prevOf_eq (by unfold Pool.order; rw [List.reverse_append, List.reverse_reverse, hpre, List.append_assoc])
      -- the sweep may move the buffer to the head or delete it; what lies before it in `pre` stays
      obtain ⟨L', hpre1⟩ : ∃ L', p1.pre = L' ++ todo := by
        rcases hn1 with ⟨e1', _⟩ | ⟨_, e1', _⟩ | ⟨ha, _, _⟩ | ⟨_, e1', _⟩
        · exact ⟨L ++ [b.buf], by rw [e1', hpre, List.append_assoc, List.singleton_append]⟩
        · exact ⟨L, by rw [e1', hpre, List.erase_append_right _ hnL, List.erase_cons_head]⟩
        · exact absurd ha hnpost
        · exact ⟨L, by rw [e1', hpre, List.erase_append_right _ hnL, List.erase_cons_head]⟩
      obtain ⟨tr2, p2, e2, hd2, hv2, hf2⟩ := ih todo L' p1 hv1.wf hpre1 hv1.postNE (Nat.le_of_succ_le_succ hfuel)
      refine ⟨tr ++ tr2, p2, e1 ++ e2, ?_, hv1.append hv2 fun y hy hm => hnT (List.mem_singleton.mp hm ▸ hy), hf1.trans hf2⟩
      simp only [List.head?_cons, difBackward, hd, Outcome.bind, hprev, hd2, Outcome.map]

/-- `DeallocateIf` (360-384); `tr` is the list of blocks the filter was asked about -/
theorem deallocateIf_ok {P : Params} {k : Int} (hM : Multi P k) (hN2 : 2 ≤ P.N) (hA2 : P.A ≤ 1024) {p : Pool}
    (h : PoolWF P p) (f : Int → Bool) :
    ∃ tr p' evs, deallocateIf P p f = .ok tr p' evs ∧ PoolWF P p' ∧
      (p'.live P).Perm ((p.live P).filter (fun x => !f x)) ∧ tr.Perm (p.live P) ∧
      Frees (owned P p.store) evs (owned P p'.store) := by
  obtain ⟨p0, e0, hfe, hwf0, hc0, hlive0, _, hl0, _⟩ := flushIf_any (hM.kind hN2 hA2) (h.any hN2)
  replace hwf0 := hwf0.poolWF hN2
  rw [held_multi hN2, held_multi hN2] at hl0
  have hlt0 : p0.live P = p0.taken P := live_of_cache_nil hN2 hc0
  have hcnt0 : p0.allocCount = (p0.taken P).length := by
    have := hwf0.count; rw [hc0] at this; simpa using this
  unfold deallocateIf
  rw [if_neg (by omega), hfe]
  simp only [Outcome.bind]
  by_cases hz : p0.allocCount = 0
  · rw [if_pos hz]
    have hT : p0.taken P = [] := List.eq_nil_of_length_eq_zero (by omega)
    have hlp : p.live P = [] := by
      have := hlive0.length_eq; rw [hlt0, hT] at this
      exact List.eq_nil_of_length_eq_zero (by simpa using this)
    refine ⟨[], p0, e0 ++ [], rfl, hwf0, ?_, by rw [hlp], by simpa using hl0⟩
    rw [hlt0, hT, hlp]; simp
  · rw [if_neg hz]
    have hlists := hwf0.core.lists
    cases hpost : p0.post with
    | nil => exact absurd (by rw [hwf0.eq_empty hpost]; rfl) hz
    | cons hd rest =>
      simp only
      have hlen := hlists.length_eq
      rw [List.length_append, hpost, List.length_cons, bufs, List.length_map] at hlen
      obtain ⟨tr1, p1, e1, hd1, hv1, hpre1, hf1⟩ := difForward_ok hM hN2 hA2 f (p0.store.length + 1) rest hd [] p0 hwf0.core
        (by rw [hpost]; rfl) (by omega)
      rw [hd1]; simp only
      obtain ⟨h1, r1, hpost1⟩ := List.exists_cons_of_ne_nil hv1.postNE
      rw [hpost1]; simp only
      have hprev : p1.prevOf h1 = p1.pre.head? := hv1.wf.prevOf_eq (by
        unfold Pool.order
        rw [List.reverse_append, List.reverse_reverse, hpost1, List.reverse_cons, List.append_assoc, List.singleton_append])
      have hlen1 := hv1.wf.lists.length_eq
      rw [List.length_append, bufs, List.length_map] at hlen1
      obtain ⟨tr2, p2, e2, hd2, hv2, hf2⟩ := difBackward_ok hM hN2 hA2 f (p1.store.length + 1) p1.pre [] p1 hv1.wf rfl
        hv1.postNE (by omega)
      rw [hprev, hd2]; simp only [Outcome.map]
      -- the two loops together visit every buffer once
      have hv := hv1.append hv2 fun y hy hm =>
        (List.nodup_append.mp hwf0.core.lists_nodup).2.2 y (hpre1 ▸ hy) y (hpost ▸ hm) rfl
      have htr : (tr1 ++ tr2).Perm (p0.taken P) := by
        rw [hv.trace, hpre1, ← hpost]
        exact visitTaken_perm hwf0.core.nodup (List.perm_append_comm.trans hlists)
      have hfinal : (p2.taken P).Perm ((p0.taken P).filter (fun x => !f x)) :=
        (List.perm_append_left_iff _).mp
          (((List.Perm.append_right _ (htr.filter f)).symm.trans hv.perm.symm).trans
            (List.filter_append_perm f (p0.taken P)).symm)
      have hc2 : p2.cache = [] := hv.same.1.trans hc0
      have hlt2 : p2.live P = p2.taken P := live_of_cache_nil hN2 hc2
      refine ⟨tr1 ++ tr2, p2, e0 ++ (e1 ++ e2), rfl, ⟨hv.wf, by rw [hc2]; exact List.nodup_nil,
        by rw [hc2]; exact fun _ hc => (List.not_mem_nil hc).elim, fun _ => hc2, ?_, hv.same.2.trans hwf0.singlesNil⟩, ?_, ?_,
        hl0.trans (hf1.trans hf2)⟩
      · have hl := hv.perm.length_eq
        rw [List.length_append] at hl
        rw [hc2, hv.count, hcnt0, List.length_nil]; omega
      · rw [hlt2]
        exact hfinal.trans ((hlive0.trans (by rw [hlt0])).filter _).symm
      · exact htr.trans (hlive0.trans (by rw [hlt0])).symm

/-- `DeallocateIf` whose filter throws at its `(k+1)`-th question (`deallocateIfThrow`): it is the complete call for the filter
    cut off after the first `k` questions, so `deallocateIf_ok` applies twice - once to learn the questions, once for the effect -/
theorem deallocateIfThrow_ok {P : Params} {k : Int} (hM : Multi P k) (hN2 : 2 ≤ P.N) (hA2 : P.A ≤ 1024) {p : Pool}
    (h : PoolWF P p) (f : Int → Bool) (n : Nat) :
    ∃ asked p' evs, deallocateIfThrow P p f n = .ok asked p' evs ∧ PoolWF P p' ∧
      (p'.live P).Perm ((p.live P).filter (fun x => !(f x && asked.contains x))) ∧
      (∀ b ∈ asked, b ∈ p.live P) ∧ asked.length ≤ n ∧ Frees (owned P p.store) evs (owned P p'.store) := by
  obtain ⟨tr, p0, e0, h0, _, _, htr, _⟩ := deallocateIf_ok hM hN2 hA2 h (fun _ => false)
  obtain ⟨tr1, p1, e1, h1, hwf1, hlive1, _, hled1⟩ :=
    deallocateIf_ok hM hN2 hA2 h (fun b => f b && (tr.take n).contains b)
  refine ⟨tr.take n, p1, e1, ?_, hwf1, hlive1, fun b hb => htr.subset (List.mem_of_mem_take hb),
    List.length_take_le n tr, hled1⟩
  unfold deallocateIfThrow
  rw [h0]; simp only; rw [h1]; rfl

end Momo.Pool
