import Momo.Model.Pool
/-!
  Layout arithmetic of `MemPool` (C09): block-index recovery and the four adjustment steps of
  `pvNewBuffer`, for every base address.  Core `Int` lemmas and `omega` only.

  Aligned addresses are written `S * q + A * j`, `0 ≤ j < k` (`decomp`, `recomp`, `*_slot`). The hypothesis of the lemmas is
  `Multi P k`; `Legal.multi` gets it (and `A ≤ 1024`) from what `pvCheckParams` accepts.
-/
namespace Momo.Pool

/-- side conditions of the layout lemmas: `S = A * k` with `k ≥ 2` alignment slots per block (what `pvCheckParams` gives a pool with
    several blocks per buffer, `Legal.multi`); of `N` only `1 ≤ N` is used here, `2 ≤ N` is a hypothesis of its own downstream -/
structure Multi (P : Params) (k : Int) : Prop where
  hA : 0 < P.A
  hk : 2 ≤ k
  hN : 1 ≤ P.N
  hS : P.S = P.A * k

theorem Legal.multi {P : Params} (hL : P.Legal) (hN2 : 2 ≤ P.N) : Multi P (P.S / P.A) ∧ P.A ≤ 1024 := by
  obtain ⟨h1, h2, h3, h4, h5, h6⟩ := hL
  simp only [Extracted.poolMaxBlockAlignment, Extracted.poolMinSizeRatio] at h4 h6
  rcases h6 with h6 | ⟨h6, h7⟩
  · omega
  · refine ⟨⟨h3, by omega, by omega, ?_⟩, by omega⟩
    have := Int.emod_add_mul_ediv P.S P.A
    omega

/-- what `pvGetBlockIndex` needs of a buffer pointer: it is `A`-aligned, lies in an even `A`-slot of its
    `S`-period with room for one more slot, and its period number is a multiple of `N` -/
structure BufOK (P : Params) (buf : Int) : Prop where
  even : ((buf % P.S) / P.A) % 2 = 0
  room : buf % P.S + P.A < P.S
  aligned : buf % P.A = 0
  slot0 : (buf / P.S) % P.N = 0

theorem ceilTo_spec (x m : Int) (hm : 0 < m) : ceilTo x m % m = 0 ∧ x ≤ ceilTo x m ∧ ceilTo x m < x + m := by
  unfold ceilTo
  have e : (x + m - 1) / m * m = x + m - 1 - (x + m - 1) % m := by
    rw [Int.emod_def, Int.mul_comm]; omega
  have h1 := Int.emod_nonneg (x + m - 1) (Int.ne_of_gt hm)
  have h2 := Int.emod_lt_of_pos (x + m - 1) hm
  exact ⟨Int.mul_emod_left _ _, by omega, by omega⟩

theorem slot_succ (P : Params) (q j : Int) : P.S * q + P.A * j + P.A = P.S * q + P.A * (j + 1) := by
  rw [Int.mul_add, Int.mul_one, Int.add_assoc]

theorem getBlock_slot (P : Params) (q j i : Int) :
    getBlock P (P.S * q + P.A * j) i = P.S * (q + i) + P.A * j + (if 0 ≤ i then P.A else 0) := by
  unfold getBlock; rw [Int.mul_add, Int.mul_comm i, Int.add_right_comm (P.S * q)]

theorem add_emod_of_emod_eq_zero {q n : Int} (i : Int) (hq : q % n = 0) : (q + i) % n = i % n := by
  rw [Int.add_emod, hq, Int.zero_add, Int.emod_emod]

namespace Multi
variable {P : Params} {k : Int} (h : Multi P k)
include h

theorem k_pos : 0 < k := Int.lt_of_lt_of_le (by decide) h.hk

theorem N_nonneg : 0 ≤ P.N := Int.le_trans (by decide) h.hN

theorem S_pos : 0 < P.S := by rw [h.hS]; exact Int.mul_pos h.hA h.k_pos

theorem S_div_A : P.S / P.A = k := by
  rw [h.hS, Int.mul_ediv_cancel_left _ (Int.ne_of_gt h.hA)]

theorem A_dvd_S : P.A ∣ P.S := ⟨k, h.hS⟩

theorem mod_S_of_mul (u : Int) (hu : u % P.A = 0) :
    ∃ j, 0 ≤ j ∧ j < k ∧ u % P.S = P.A * j := by
  obtain ⟨m, rfl⟩ := Int.dvd_of_emod_eq_zero hu
  exact ⟨m % k, Int.emod_nonneg _ (Int.ne_of_gt h.k_pos), Int.emod_lt_of_pos _ h.k_pos,
    by rw [h.hS, Int.mul_emod_mul_of_pos _ _ h.hA]⟩

theorem ceilA_spec (x : Int) : ceilTo x P.A % P.A = 0 ∧ x ≤ ceilTo x P.A ∧ ceilTo x P.A < x + P.A :=
  ceilTo_spec x P.A h.hA

theorem decomp (u : Int) (hu : u % P.A = 0) :
    ∃ q j, 0 ≤ j ∧ j < k ∧ u = P.S * q + P.A * j ∧ u / P.S = q ∧ u % P.S = P.A * j := by
  obtain ⟨j, hj0, hjk, hj⟩ := h.mod_S_of_mul u hu
  exact ⟨u / P.S, j, hj0, hjk, by rw [← hj, Int.mul_ediv_add_emod], rfl, hj⟩

theorem recomp (q j : Int) (hj0 : 0 ≤ j) (hjk : j < k) :
    (P.S * q + P.A * j) / P.S = q ∧ (P.S * q + P.A * j) % P.S = P.A * j := by
  have hlt : P.A * j < P.S := by
    rw [h.hS]; exact Int.mul_lt_mul_of_pos_left hjk h.hA
  have hnn : 0 ≤ P.A * j := Int.mul_nonneg (Int.le_of_lt h.hA) hj0
  exact ⟨by rw [Int.mul_add_ediv_left _ _ (Int.ne_of_gt h.S_pos), Int.ediv_eq_zero_of_lt hnn hlt, Int.add_zero],
    by rw [Int.mul_add_emod_self_left, Int.emod_eq_of_lt hnn hlt]⟩

theorem mulA_div (j : Int) : (P.A * j) / P.A = j :=
  Int.mul_ediv_cancel_left _ (Int.ne_of_gt h.hA)

theorem mulA_mod (j : Int) : (P.A * j) % P.A = 0 := Int.mul_emod_right _ _

theorem slot_aligned (q j : Int) : (P.S * q + P.A * j) % P.A = 0 := by
  rw [h.hS, Int.mul_assoc, ← Int.mul_add]; exact Int.mul_emod_right _ _

theorem slot_wrap (q : Int) : P.S * q + P.A * k = P.S * (q + 1) + P.A * 0 := by
  rw [Int.mul_add, Int.mul_one, Int.mul_zero, Int.add_zero, h.hS]

theorem slot_between (q j j' c : Int) (hlo : j ≤ j') (hhi : j' ≤ j + c) :
    P.S * q + P.A * j ≤ P.S * q + P.A * j' ∧ P.S * q + P.A * j' ≤ P.S * q + P.A * j + c * P.A := by
  have hA := Int.le_of_lt h.hA
  have h1 := Int.mul_le_mul_of_nonneg_left hlo hA
  have h2 := Int.mul_le_mul_of_nonneg_left hhi hA
  rw [Int.mul_add, Int.mul_comm P.A c] at h2
  exact ⟨Int.add_le_add_left h1 _, by rw [Int.add_assoc]; exact Int.add_le_add_left h2 _⟩

theorem step2_slot (q j : Int) (hj0 : 0 ≤ j) (hjk : j < k) :
    step2 P (P.S * q + P.A * j) = P.S * q + P.A * (j + j % 2) := by
  unfold step2
  rw [(h.recomp q j hj0 hjk).2, Int.mul_comm 2, Int.mul_emod_mul_of_pos _ _ h.hA, Int.mul_add, Int.add_assoc]

theorem step3_slot (q j : Int) (hj0 : 0 ≤ j) (hjk : j + 1 < k) :
    step3 P (P.S * q + P.A * j) = P.S * q + P.A * j := by
  unfold step3
  rw [slot_succ, (h.recomp q (j + 1) (Int.add_nonneg hj0 (by decide)) hjk).2, if_neg]
  exact Int.ne_of_gt (Int.mul_pos h.hA (Int.lt_add_one_of_le hj0))

theorem step3_slot_wrap (q j : Int) (hj : j ≤ k) (hjk : k ≤ j + 1) :
    step3 P (P.S * q + P.A * j) = P.S * (q + 1) + P.A * 0 := by
  rcases Int.lt_or_eq_of_le hj with hlt | rfl
  · unfold step3
    rw [slot_succ, Int.le_antisymm (Int.add_one_le_of_lt hlt) hjk, h.slot_wrap,
      (h.recomp (q + 1) 0 (Int.le_refl 0) h.k_pos).2, Int.mul_zero, if_pos rfl]
  · rw [h.slot_wrap, h.step3_slot (q + 1) 0 (Int.le_refl 0) h.hk]

theorem step4_slot (q j : Int) (hj0 : 0 ≤ j) (hjk : j < k) :
    step4 P (P.S * q + P.A * j) = if q % P.N = 0 then P.S * q + P.A * j + P.A else P.S * q + P.A * j := by
  unfold step4; rw [(h.recomp q j hj0 hjk).1]

theorem blockDir_slot (q j : Int) (hj0 : 0 ≤ j) (hjk : j < k) : blockDir P (P.S * q + P.A * j) = j % 2 := by
  unfold blockDir; rw [(h.recomp q j hj0 hjk).2, h.mulA_div]

theorem blockIdx_slot (q j : Int) (hj0 : 0 ≤ j) (hjk : j < k) :
    blockIdx P (P.S * q + P.A * j) = q % P.N - (if j % 2 = 0 then P.N else 0) := by
  unfold blockIdx; rw [h.blockDir_slot q j hj0 hjk, (h.recomp q j hj0 hjk).1]

theorem bufOK_slot (q j : Int) (hj0 : 0 ≤ j) (hjev : j % 2 = 0) (hjk : j + 1 < k) (hq : q % P.N = 0) :
    BufOK P (P.S * q + P.A * j) := by
  obtain ⟨hd, hm⟩ := h.recomp q j hj0 (Int.lt_trans (Int.lt_succ j) hjk)
  refine ⟨by rw [hm, h.mulA_div]; exact hjev, ?_, h.slot_aligned q j, by rw [hd]; exact hq⟩
  have := Int.mul_lt_mul_of_pos_left hjk h.hA
  rw [Int.mul_add, Int.mul_one, ← h.hS] at this
  rw [hm]; exact this

theorem slot_of_bufOK (buf : Int) (hb : BufOK P buf) :
    ∃ q j, 0 ≤ j ∧ j % 2 = 0 ∧ j + 1 < k ∧ q % P.N = 0 ∧ buf = P.S * q + P.A * j := by
  obtain ⟨q, j, hj0, -, hbuf, hd, hm⟩ := h.decomp buf hb.aligned
  have he := hb.even
  have hs := hb.slot0
  have hr : P.A * (j + 1) < P.A * k := by
    rw [Int.mul_add, Int.mul_one, ← h.hS, ← hm]; exact hb.room
  rw [hm, h.mulA_div] at he
  rw [hd] at hs
  exact ⟨q, j, hj0, he, Int.lt_of_mul_lt_mul_left hr (Int.le_of_lt h.hA), hs, hbuf⟩

theorem steps23 (u0 : Int) (h0 : u0 % P.A = 0) :
    ∃ q j, 0 ≤ j ∧ j % 2 = 0 ∧ j + 1 < k ∧ step3 P (step2 P u0) = P.S * q + P.A * j ∧
      u0 ≤ step3 P (step2 P u0) ∧ step3 P (step2 P u0) ≤ u0 + (1 + k % 2) * P.A := by
  obtain ⟨q0, j0, hj0, hj0k, rfl, -, -⟩ := h.decomp u0 h0
  rw [h.step2_slot q0 j0 hj0 hj0k]
  -- step 2 rounds `j0` up to an even `j1 ≤ k`
  obtain ⟨hev, hlo, hhi⟩ : (j0 + j0 % 2) % 2 = 0 ∧ j0 ≤ j0 + j0 % 2 ∧ j0 + j0 % 2 ≤ j0 + 1 := by omega
  generalize j0 + j0 % 2 = j1 at hev hlo hhi ⊢
  rcases Int.lt_or_le (j1 + 1) k with h1 | h1
  · rw [h.step3_slot q0 j1 (Int.le_trans hj0 hlo) h1]
    exact ⟨q0, j1, Int.le_trans hj0 hlo, hev, h1, rfl, h.slot_between q0 j0 j1 _ hlo (by omega)⟩
  · -- the next period starts at `S * q0 + A * k`; if step 3 fired, `k` is odd
    rw [h.step3_slot_wrap q0 j1 (Int.le_trans hhi (Int.add_one_le_of_lt hj0k)) h1, ← h.slot_wrap]
    exact ⟨q0 + 1, 0, Int.le_refl 0, rfl, h.hk, h.slot_wrap q0,
      h.slot_between q0 j0 k _ (Int.le_of_lt hj0k) (by omega)⟩

theorem recover_neg (buf i : Int) (hb0 : BufOK P buf) (hi : -P.N ≤ i) (hi2 : i < 0) :
    blockIdx P (getBlock P buf i) = i ∧ blockBuf P (getBlock P buf i) = buf := by
  obtain ⟨q, j, hj0, hjev, hjk, hq, rfl⟩ := h.slot_of_bufOK buf hb0
  have hjk' : j < k := Int.lt_trans (Int.lt_succ j) hjk
  have hidx : blockIdx P (P.S * (q + i) + P.A * j) = i := by
    rw [h.blockIdx_slot _ _ hj0 hjk', if_pos hjev, add_emod_of_emod_eq_zero i hq, ← Int.add_emod_right,
      Int.emod_eq_of_lt (by omega) (by omega)]
    exact Int.add_sub_cancel i P.N
  rw [getBlock_slot, if_neg (Int.not_le.mpr hi2), Int.add_zero]
  refine ⟨hidx, ?_⟩
  unfold blockBuf
  rw [hidx, h.blockDir_slot _ _ hj0 hjk', hjev, if_neg (by decide), Int.mul_add, Int.mul_comm i]
  omega

theorem recover_nonneg (buf i : Int) (hb0 : BufOK P buf) (hi : 0 ≤ i) (hi2 : i < P.N) :
    blockIdx P (getBlock P buf i) = i ∧ blockBuf P (getBlock P buf i) = buf := by
  obtain ⟨q, j, hj0, hjev, hjk, hq, rfl⟩ := h.slot_of_bufOK buf hb0
  have hj1 : 0 ≤ j + 1 ∧ (j + 1) % 2 = 1 := by omega
  have hidx : blockIdx P (P.S * (q + i) + P.A * (j + 1)) = i := by
    rw [h.blockIdx_slot _ _ hj1.1 hjk, hj1.2, if_neg (by decide), add_emod_of_emod_eq_zero i hq,
      Int.emod_eq_of_lt hi hi2, Int.sub_zero]
  rw [getBlock_slot, if_pos hi, slot_succ]
  refine ⟨hidx, ?_⟩
  unfold blockBuf
  rw [hidx, h.blockDir_slot _ _ hj1.1 hjk, hj1.2, if_pos rfl, ← slot_succ, Int.mul_add, Int.mul_comm i]
  omega

/-- `pvNewBuffer`, for every base address, with `b` the first block and `(i0, buf)` what `pvGetBlockIndex` computes from it:
    (1) `b` is aligned; (2, 3) `-N < i0 ≤ 0`; (4) `buf` is a buffer pointer (`BufOK`); (5) `b = getBlock buf i0`; (6) the lowest address
    used (block `i0`; for `i0 = 0` the buffer pointer itself) does not lie below `base`; (7, 8) `base ≤ b < base + (3 + k%2)·A`;
    (9) the block, plus the slot of the buffer pointer when `i0 ≠ 0`, ends at most `(2 + k%2)·A` above the rounded-up `base`:
    what `Multi.newBuffer_inside` needs to bound the end of the metadata. -/
theorem firstBlock_ok (base : Int) :
    let b := firstBlock P base
    b % P.A = 0 ∧ -P.N < blockIdx P b ∧ blockIdx P b ≤ 0 ∧ BufOK P (blockBuf P b) ∧
      getBlock P (blockBuf P b) (blockIdx P b) = b ∧ base ≤ blockBuf P b + (if blockIdx P b = 0 then 0 else blockIdx P b * P.S) ∧
      base ≤ b ∧ b < base + (3 + k % 2) * P.A ∧
      b + (if blockIdx P b = 0 then 0 else P.A) ≤ ceilTo base P.A + (2 + k % 2) * P.A := by
  have hA := h.hA
  have hN : 0 < P.N := h.hN
  obtain ⟨hc0, hc1, hc2⟩ := h.ceilA_spec base
  obtain ⟨q, j, hj0, hjev, hjk, hu2, hlo, hhi⟩ := h.steps23 (ceilTo base P.A) hc0
  intro b
  have hb : b = step4 P (P.S * q + P.A * j) := by rw [← hu2]; rfl
  clear_value b
  rw [hu2] at hlo hhi
  simp only [Int.add_mul] at hhi ⊢
  have hu := Int.le_trans hc1 hlo
  have hup : P.S * q + P.A * j + P.A ≤ ceilTo base P.A + (2 * P.A + k % 2 * P.A) := by omega
  have hup' : P.S * q + P.A * j + P.A < base + (3 * P.A + k % 2 * P.A) := by omega
  rw [h.step4_slot q j hj0 (Int.lt_trans (Int.lt_succ j) hjk)] at hb
  by_cases h4 : q % P.N = 0
  · -- step 4 fires: index 0, buffer at the address after step 3
    rw [if_pos h4] at hb
    subst hb
    have hok := h.bufOK_slot q j hj0 hjev hjk h4
    have hg : getBlock P (P.S * q + P.A * j) 0 = P.S * q + P.A * j + P.A := by
      unfold getBlock; rw [if_pos (Int.le_refl 0), Int.zero_mul, Int.add_zero]
    obtain ⟨hidx, hbuf⟩ := h.recover_nonneg _ 0 hok (Int.le_refl 0) hN
    rw [hg] at hidx hbuf
    rw [hidx, hbuf, if_pos rfl, if_pos rfl, Int.add_zero, Int.add_zero]
    exact ⟨by rw [slot_succ]; exact h.slot_aligned q _, Int.neg_lt_zero_iff.mpr hN, Int.le_refl 0, hok, hg, hu,
      Int.le_trans hu (Int.le_add_of_nonneg_right (Int.le_of_lt hA)), hup', hup⟩
  · -- step 4 does not fire: negative index, buffer at the next period divisible by `N`
    rw [if_neg h4] at hb
    subst hb
    have e : P.N * (q / P.N + 1) + (q % P.N - P.N) = q := by
      have := Int.mul_ediv_add_emod q P.N
      rw [Int.mul_add, Int.mul_one]; omega
    obtain ⟨hi1, hi2⟩ : -P.N < q % P.N - P.N ∧ q % P.N - P.N < 0 := by
      have := Int.emod_nonneg q (Int.ne_of_gt hN)
      have := Int.emod_lt_of_pos q hN
      exact ⟨by omega, Int.sub_neg_of_lt this⟩
    generalize q % P.N - P.N = i at e hi1 hi2 ⊢
    have hok := h.bufOK_slot (P.N * (q / P.N + 1)) j hj0 hjev hjk (Int.mul_emod_right _ _)
    have hg0 : P.S * (P.N * (q / P.N + 1)) + P.A * j + i * P.S = P.S * q + P.A * j := by
      rw [Int.mul_comm i, Int.add_right_comm, ← Int.mul_add, e]
    have hg : getBlock P (P.S * (P.N * (q / P.N + 1)) + P.A * j) i = P.S * q + P.A * j := by
      unfold getBlock; rw [if_neg (Int.not_le.mpr hi2), Int.add_zero]; exact hg0
    obtain ⟨hidx, hbuf⟩ := h.recover_neg _ i hok (Int.le_of_lt hi1) hi2
    rw [hg] at hidx hbuf
    rw [hidx, hbuf, if_neg (Int.ne_of_lt hi2), if_neg (Int.ne_of_lt hi2), hg0]
    exact ⟨h.slot_aligned q j, hi1, Int.le_of_lt hi2, hok, hg, hu, hu,
      Int.lt_of_le_of_lt (Int.le_add_of_nonneg_right (Int.le_of_lt hA)) hup', hup⟩

end Multi
end Momo.Pool
