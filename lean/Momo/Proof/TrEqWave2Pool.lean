import Momo.Translated.Wave2
import Momo.Proof.Word64
import Momo.Proof.PoolU32
/-!
  C09: the index / address / size arithmetic of `internal::MemPoolUInt32` (MemPool.h 803-939) as translated from the header
  (area Wave2, lean/Momo/Translated/Wave2.lean) is the arithmetic of the model `Momo/Model/PoolU32.lean`:
  the constructor's `mMaxBufferCount` / `mBlockSize` = `mkCfg`, `pvGetBufferSize` = `Cfg.bufferSize`, `GetRealPointer` =
  `realPtr` (index → (buffer number, offset) → address), the pieces of `pvNewBuffer` (limit test, `Reserve` argument, the
  link word and its address for every block, the new head) = `newBuffer` / `addBuffer` / `initLinks`, the test of `Deallocate`
  that gives everything back.
-/
namespace Momo.TrEq
open Momo Momo.Seg Momo.PoolU32

/-- the constructor: `mMaxBufferCount(maxTotalBlockCount / blockCount)`, `mBlockSize(minmax(blockSize, sizeof(uint32_t)).second)` -/
theorem tr_pool32_mkCfg (blockCount blockSize maxTotal : Nat) :
    (⟨blockCount, Tr.pool32_blockSize blockSize, Tr.pool32_maxBufferCount blockCount maxTotal⟩ : Cfg)
      = mkCfg blockCount blockSize maxTotal := by
  unfold Tr.pool32_blockSize Tr.pool32_maxBufferCount mkCfg
  simp only [decide_eq_true_eq]
  congr 1
  rcases Nat.lt_or_ge sizeofU32 blockSize with h | h
  · rw [if_pos h, if_pos (Nat.le_of_lt h)]
  · rw [if_neg (Nat.not_lt.mpr h)]
    split
    · next h' => exact Nat.le_antisymm h' h
    · rfl

/-- `if (mBlockSize > UIntConst::maxSize / blockCount) throw`: a pool that was constructed has `blockCount * mBlockSize < 2^64` -/
theorem tr_pool32_sizeFits (C : Cfg) (h : Tr.pool32_blockSizeTooBig C.N C.S = false) : C.N * C.S < 2 ^ 64 := by
  unfold Tr.pool32_blockSizeTooBig at h
  simp only [decide_eq_false_iff_not, Nat.not_lt] at h
  have h1 : C.N * C.S ≤ C.N * (18446744073709551615 / C.N) := Nat.mul_le_mul_left _ h
  have h2 : C.N * (18446744073709551615 / C.N) ≤ 18446744073709551615 := Nat.mul_div_le _ _
  omega

theorem tr_pool32_bufferSize (C : Cfg) (hfit : C.N * C.S < 2 ^ 64) : Tr.pool32_pvGetBufferSize C.N C.S = C.bufferSize := by
  unfold Tr.pool32_pvGetBufferSize Cfg.bufferSize
  exact mul64_of_lt hfit

/-- slot `k` of a buffer of `N` slots of `S` bytes at `b` that ends inside the address space: the word arithmetic gives the exact address -/
theorem slot_addr (b : Int) (k N S : Nat) (h0 : 0 ≤ b) (hS : 0 < S) (hk : k < N) (hfit : b + (N * S : Nat) ≤ 2 ^ 64) :
    ((add64 b.toNat (mul64 k S) : Nat) : Int) = b + ((k * S : Nat) : Int) := by
  have h1 : (k + 1) * S ≤ N * S := Nat.mul_le_mul_right _ hk
  have hbn : (b.toNat : Int) = b := Int.toNat_of_nonneg h0
  rw [Nat.add_mul, Nat.one_mul] at h1
  have ho : b.toNat + k * S < 2 ^ 64 := by omega
  rw [mul64_of_lt (Nat.lt_of_le_of_lt (Nat.le_add_left _ _) ho), add64_of_lt ho, Int.natCast_add, hbn]

/-- `GetRealPointer(block)`: buffer number `block / blockCount`, offset `block % blockCount`, address
    `mBuffers[...] + offset * mBlockSize` — the model's `realPtr`, when the buffer lies inside the 64-bit address space
    (`mb k` = the address in `mBuffers[k]`) -/
theorem tr_pool32_realPtr (C : Cfg) (hC : C.Legal) (st : State) (mb : Nat → Nat) (block : Nat) (b : Int)
    (hb : st.bufs[bufferOf C block]? = some b) (h0 : 0 ≤ b) (hfit : b + C.bufferSize ≤ 2 ^ 64)
    (hmb : mb (bufferOf C block) = b.toNat) :
    realPtr C st block = some ((Tr.pool32_GetRealPointer C.N C.S mb block : Nat) : Int) := by
  unfold realPtr Tr.pool32_GetRealPointer
  rw [hb]
  unfold bufferOf at hmb
  simp only [Option.map, hmb]
  exact congrArg some (slot_addr b _ C.N C.S h0 (Nat.lt_of_lt_of_le (by decide) hC.hS) (Nat.mod_lt _ hC.hN) hfit).symm

theorem tr_pool32_newBuffer_limit (cnt maxBuf : Nat) : (Tr.pool32_newBuffer_limit cnt maxBuf = true) ↔ cnt ≥ maxBuf := by
  simp [Tr.pool32_newBuffer_limit]

theorem tr_pool32_newBuffer_reserve (cnt : Nat) (h : cnt < 2 ^ 64 - 1) : Tr.pool32_newBuffer_reserve cnt = cnt + 1 :=
  add64_one h

/-- the link word written into block `i` of the new buffer: the index of the next block reduced to 32 bits, `nullPtr` for the
    last one (`bufferCount * blockCount + blockCount` does not wrap in 64 bits: it is below `2^32` for a legal pool) -/
theorem tr_pool32_nextBlock (N cnt i : Nat) (hi : i < N) (hw : cnt * N + N < 2 ^ 64) :
    Tr.pool32_newBuffer_nextBlock N cnt i = if i + 1 < N then PoolU32.w32 (cnt * N + i + 1) else nullPtr := by
  have h3 : cnt * N + i + 1 < 2 ^ 64 := Nat.lt_of_le_of_lt (Nat.add_le_add_left hi _) hw
  have h2 := Nat.lt_of_add_right_lt h3
  unfold Tr.pool32_newBuffer_nextBlock PoolU32.w32
  rw [add64_of_lt (Nat.lt_of_le_of_lt (Nat.add_le_add_right (Nat.le_add_left i _) 1) h3),
    mul64_of_lt (Nat.lt_of_add_right_lt h2), add64_of_lt h2, add64_of_lt h3]
  simp only [decide_eq_true_eq]

theorem tr_pool32_linkAddr (C : Cfg) (base : Int) (i : Nat) (hi : i < C.N) (hS : 0 < C.S) (h0 : 0 ≤ base)
    (hfit : base + C.bufferSize ≤ 2 ^ 64) :
    ((Tr.pool32_newBuffer_linkAddr C.S base.toNat i : Nat) : Int) = base + ((C.S * i : Nat) : Int) := by
  unfold Tr.pool32_newBuffer_linkAddr mul64
  rw [Nat.mul_comm C.S i]
  exact slot_addr base i C.N C.S h0 hS hi hfit

theorem tr_pool32_head (N cnt : Nat) (hw : cnt * N < 2 ^ 64) : Tr.pool32_newBuffer_head N cnt = PoolU32.w32 (cnt * N) := by
  unfold Tr.pool32_newBuffer_head PoolU32.w32
  rw [mul64_of_lt hw]

/-- the loop of `pvNewBuffer` (model `initLinks`) with the translated link word and the translated address of every block -/
theorem initLinks_translated (C : Cfg) (hC : C.Legal) (cnt : Nat) (base : Int) (h0 : 0 ≤ base) (hfit : base + C.bufferSize ≤ 2 ^ 64)
    (hw : cnt * C.N + C.N < 2 ^ 64) :
    ∀ (is : List Nat) (m : Int → Option Nat), (∀ i ∈ is, i < C.N) →
      initLinks C cnt base is m =
        is.foldl (fun m i => setW m ((Tr.pool32_newBuffer_linkAddr C.S base.toNat i : Nat) : Int)
          (some (Tr.pool32_newBuffer_nextBlock C.N cnt i))) m
  | [], _, _ => rfl
  | i :: is, m, h => by
    have hi : i < C.N := h i (List.mem_cons_self)
    have hS : 0 < C.S := Nat.lt_of_lt_of_le (by decide) hC.hS
    rw [initLinks, List.foldl_cons, tr_pool32_linkAddr C base i hi hS h0 hfit, tr_pool32_nextBlock C.N cnt i hi hw]
    exact initLinks_translated C hC cnt base h0 hfit hw is _ (fun j hj => h j (List.mem_cons_of_mem _ hj))

/-- `if (mAllocCount == 0 && mBuffers.GetCount() > 2) pvClear();` in `Deallocate` (evaluated after `--mAllocCount`) -/
theorem tr_pool32_dealloc_clears (alloc cnt : Nat) : (Tr.pool32_dealloc_clears alloc cnt = true) ↔ (alloc = 0 ∧ cnt > 2) := by
  simp [Tr.pool32_dealloc_clears]

end Momo.TrEq
