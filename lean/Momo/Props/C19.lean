import Momo.Proof.RowsHB
/-!
# C19 — Detached table rows can be destroyed on any thread while the owner keeps working

The property theorems, the definition `reclaimedBy` that one of them is stated with, and concrete schedules (`abaSchedule` …, evaluated by
the kernel). Model: `Momo/Model/Rows.lean`, `Momo/Model/RowsHB.lean`.

Statement (properties.jsonl): Row objects detached from a DataTable (created by NewRow or returned by
Extract) may be moved to and destroyed on other threads concurrently with each other and with the owning
thread creating, adding and extracting rows: under every interleaving each row's storage is reclaimed by the
table exactly once, never while still in use, and is safely reused; the operations involved contain no data
race.

Every theorem quantifies over the number of threads `n`, over every schedule `acts : List Act` (any
interleaving of the small steps of all threads, of any length, with any number of rows, including spurious
failures of the weak CAS, arbitrary garbage left in reused blocks and arbitrary answers of the pool) and is
proved by induction over the schedule. Sequential consistency of the three atomic operations on `freeRaws`
is the semantics of `run` (one global order of actions): this is an assumption about `std::atomic`'s default
memory order, re-checked on the source text by T1 (facts the extractor reads off the current headers on every check, `Momo/Extracted.lean`:
`Extracted.rowDtorShape` …).
-/
namespace Momo.Rows

/-- **T1 tie.** The statements of `~DataRow`, `pvDeallocateFreeRaws`, `pvAllocateRaw` that the model mirrors are
the ones in the current headers: one atomic load + one `compare_exchange_weak` in a loop, one `exchange(nullptr)`,
`std::atomic<void*>`, no explicit memory order anywhere in DataRow.h / DataTable.h, and no further use of the
list head. (The extractor reports `missing` when any of these changes; this theorem then no longer builds.) -/
theorem C19_source_shape :
    Extracted.rowDtorShape = 1 ∧ Extracted.tableTakeAllShape = 1 ∧ Extracted.tableAllocRawShape = 1 ∧
    Extracted.rowFreeRawsAtomicTypedef = 1 ∧ Extracted.tableFreeRawsAtomicTypedef = 1 ∧
    Extracted.rowExplicitMemoryOrders = 0 ∧ Extracted.tableExplicitMemoryOrders = 0 ∧
    Extracted.rowFreeRawsUses = 9 ∧ Extracted.tableFreeRawsUses = 7 := by
  decide

/-- **C19 `chain_inv`.** After every schedule: the chain reachable from `freeRaws` through the blocks' first
words is exactly the ghost list `L` (for every fuel ≥ its length: the chain ends in null, it has no cycle), it is
duplicate-free, none of its blocks is anywhere else (in a running `~DataRow`, in a detached row, in the table, in
the pool, in the owner's walk), and it holds exactly the blocks pushed and not yet taken. The same for the chain
the owner took with `exchange` and is walking (`cur`, `W`). -/
theorem C19_chain_inv (n : Nat) (acts : List Act) (s : St) (h : run (init n) acts = some s) :
    (∀ fuel, s.L.length ≤ fuel → chainFrom s.next fuel s.head = s.L) ∧
    (∀ fuel, s.W.length ≤ fuel → chainFrom s.next fuel s.cur = s.W) ∧
    (s.L ++ s.W).Nodup ∧
    (∀ r, r ∈ s.L ∨ r ∈ s.W → r ∉ inflight s ∧ r ∉ detRows s ∧ r ∉ s.table ∧ r ∉ s.pool) ∧
    (∀ r, s.log.count (Ev.pushed r) = s.log.count (Ev.taken r) + (if r ∈ s.L then 1 else 0)) := by
  have hI := RInv_run n acts s h
  refine ⟨?_, ?_, ?_, ?_, ?_⟩
  · intro fuel hf; rw [hI.headL]; exact chainFrom_linked s.L fuel hI.linkL hf
  · intro fuel hf; rw [hI.curW]; exact chainFrom_linked s.W fuel hI.linkW hf
  · exact List.nodup_append.mpr ⟨hI.nodup_L, hI.nodup_W, fun a ha b hb e => (hI.of_L ha).2.2.2.2 (e ▸ hb)⟩
  · rintro r (hr | hr)
    · exact ⟨(hI.of_L hr).1, (hI.of_L hr).2.1, (hI.of_L hr).2.2.1, (hI.of_L hr).2.2.2.1⟩
    · exact ⟨(hI.of_W hr).1, (hI.of_W hr).2.1, (hI.of_W hr).2.2.1, (hI.of_W hr).2.2.2.1⟩
  · intro r; rw [hI.cnt2 r, hI.nodup_L.count]

/-- **C19 `reclaimed_once`.** After every schedule, at *every moment* of the history (every suffix of the
newest-first event log) and for every block: the pool got the block back as often as it handed it out, or exactly
once less — never twice for one hand-out; and now it got it back exactly as often as it handed it out unless the
block is in use (in the table, in a detached row, in a running `~DataRow`, on the free list or in the owner's
walk), in which case exactly one reclamation is outstanding. -/
theorem C19_reclaimed_once (n : Nat) (acts : List Act) (s : St) (h : run (init n) acts = some s) :
    (∀ (l : List Ev) (r : Row), l <:+ s.log →
        l.count (Ev.reclaimed r) ≤ l.count (Ev.created r) ∧ l.count (Ev.created r) ≤ l.count (Ev.reclaimed r) + 1) ∧
    (∀ r, s.log.count (Ev.created r) = s.log.count (Ev.reclaimed r) + (if r ∈ live s then 1 else 0)) := by
  have hI := RInv_run n acts s h
  refine ⟨fun l r hl => HistoryBalanced_run n acts s h l r hl, ?_⟩
  intro r
  rw [hI.cnt1 r, hI.nodup_live.count]

/-- **C19, nothing is lost.** In a quiescent state (no thread inside `~DataRow`, free list taken and walked) every
block the pool ever handed out and that is neither a table row nor a live detached row has been given back. -/
theorem C19_all_reclaimed_when_quiescent (n : Nat) (acts : List Act) (s : St) (h : run (init n) acts = some s)
    (hq : inflight s = [] ∧ s.head = none ∧ s.cur = none) (r : Row) (hr : r ∉ s.table ∧ r ∉ detRows s) :
    s.log.count (Ev.created r) = s.log.count (Ev.reclaimed r) := by
  have hI := RInv_run n acts s h
  have hL : s.L = [] := List.head?_eq_none_iff.mp (hI.headL ▸ hq.2.1)
  have hW : s.W = [] := List.head?_eq_none_iff.mp (hI.curW ▸ hq.2.2)
  have : r ∉ live s := by
    simp only [live, hq.1, hL, hW, List.append_nil, List.nil_append, List.mem_append, not_or]
    exact ⟨hr.2, hr.1⟩
  rw [hI.cnt1 r, List.count_eq_zero.mpr this, Nat.add_zero]

/-- the block an action gives back to the pool (`mRawMemPool.Deallocate`) -/
def reclaimedBy (s : St) : Act → Option Row
  | .walk _ => s.cur
  | .remove i _ _ => s.table[i]?
  | _ => none

/-- **C19 `not_reclaimed_while_owned`.** Whenever, after any schedule, a step gives block `c` back to the pool
(the owner's walk over the taken chain, or `Remove`), then at that moment no detached row object refers to `c`, no
thread is inside `~DataRow` of `c`, `c` is not (still) on the free list, not already in the pool, only the owner
thread may touch it, and — for the walk — it is not a row of the table. The step logs exactly this reclamation. -/
theorem C19_not_reclaimed_while_owned (n : Nat) (acts : List Act) (s s' : St) (a : Act) (c : Row)
    (h : run (init n) acts = some s) (hs : step s a = some s') (hc : reclaimedBy s a = some c) :
    c ∉ detRows s ∧ c ∉ inflight s ∧ c ∉ s.L ∧ c ∉ s.pool ∧ (∀ t, Holds s t c → t = 0) ∧
    ((∃ g, a = .walk g) → c ∉ s.table) ∧ c ∈ s'.pool ∧ s'.log = Ev.reclaimed c :: s.log := by
  have hI := RInv_run n acts s h
  cases step_sound hs with
  | walk b c' g hm hcur =>
    simp only [reclaimedBy, hcur] at hc; cases hc
    have hW : c ∈ s.W := by rw [hI.W_of_cur hcur]; exact List.mem_cons_self
    have hc := hI.of_W hW
    exact ⟨hc.2.1, hc.1, hc.2.2.2.2, hc.2.2.2.1, fun t ht => Holds_exclusive hI ht (.inl ⟨rfl, .inr (.inr hW)⟩),
      fun _ => hc.2.2.1, List.mem_cons_self, rfl⟩
  | remove i keep g r hm hi =>
    simp only [reclaimedBy, hi] at hc; cases hc
    have hT : c ∈ s.table := List.mem_of_getElem? hi
    have hc := hI.of_table hT
    exact ⟨hc.2.1, hc.1, hc.2.2.2.1, hc.2.2.1, fun t ht => Holds_exclusive hI ht (.inl ⟨rfl, .inr (.inl hT)⟩),
      (fun ⟨_, hg⟩ => by cases hg), List.mem_cons_self, rfl⟩
  | _ => simp [reclaimedBy] at hc

/-- **C19, safe reuse.** Whenever, after any schedule, the pool hands block `r` out for a new row, `r` is in use
nowhere (not in the table, in no detached row, in no running `~DataRow`, not on the free list, not in the owner's
walk) and every earlier hand-out of `r` has been reclaimed. Stale copies of `r` in the local variable `headRaw`
of a stalled `~DataRow` may exist (ABA); `C19_chain_inv` holds all the same. -/
theorem C19_reuse_safe (n : Nat) (acts : List Act) (s s' : St) (r : Row) (g : Option Row)
    (h : run (init n) acts = some s) (hs : step s (.alloc r g) = some s') :
    r ∉ live s ∧ s.log.count (Ev.created r) = s.log.count (Ev.reclaimed r) ∧ (r, 0) ∈ s'.det := by
  have hI := RInv_run n acts s h
  cases step_sound hs with
  | alloc r' g' _ hr =>
    have hp := hI.of_pool hr
    have hl : r ∉ live s := by
      simp only [live, List.mem_append, not_or]
      exact ⟨⟨⟨⟨hp.1, hp.2.1⟩, hp.2.2.1⟩, hp.2.2.2.1⟩, hp.2.2.2.2⟩
    exact ⟨hl, by rw [hI.cnt1 r, List.count_eq_zero.mpr hl]; rfl, List.mem_cons_self⟩

/-- **C19 `access_by_owner`.** After every schedule, every non-atomic access to block memory made by an enabled
step (item destruction and the link write in `~DataRow`; the link read and `Deallocate` of the walk; row creation,
`Add`, `Extract`, `Remove`) is made by the one thread that holds the block: holders are exclusive, and a block on
the free list is held — hence touched — by nobody. -/
theorem C19_access_by_owner (n : Nat) (acts : List Act) (s s' : St) (a : Act)
    (h : run (init n) acts = some s) (hs : step s a = some s') :
    (∀ t r, (t, r) ∈ accesses s a → Holds s t r) ∧
    (∀ t u r, Holds s t r → Holds s u r → t = u) ∧
    (∀ t r, Holds s t r → r ∉ s.L) := by
  have hI := RInv_run n acts s h
  exact ⟨fun t r ha => access_holds (step_sound hs) hI ha, fun t u r h1 h2 => Holds_exclusive hI h1 h2,
    fun t r h1 => Holds_not_published hI h1⟩

/-- **C19, ownership passes only at synchronisation points.** After every schedule, for a step `s → s'`:
(1) if thread `t` held block `r` before and a different thread `u` holds it after, the step is the explicit move of
the detached row object from `t` to `u` (which the user synchronises);
(2) if `t` held `r` before and nobody holds it after, the step is `t`'s successful CAS, which published `r`;
(3) if nobody held a known block `r` before and `u` holds it after, the step is the owner's `exchange` and
`r` was on the free list (or `r` is fresh memory entering the pool).
With sequentially consistent (at least acquire/release) atomics each of these orders the two threads' accesses;
together with `C19_access_by_owner` this is data-race freedom of the block accesses. -/
theorem C19_ownership_transfer (n : Nat) (acts : List Act) (s s' : St) (a : Act)
    (h : run (init n) acts = some s) (hs : step s a = some s') (r : Row) :
    (∀ t u, Holds s t r → Holds s' u r → t ≠ u → a = .handoff r t u) ∧
    (∀ t, Holds s t r → (∀ u, ¬ Holds s' u r) → a = .dCas t false ∧ r ∈ s'.L ∧ r ∉ s.L) ∧
    (∀ u, (∀ t, ¬ Holds s t r) → Holds s' u r →
        (a = .exchange ∧ u = 0 ∧ r ∈ s.L) ∨ (∃ g, a = .grow r g ∧ u = 0 ∧ r ∉ places s)) :=
  Holds_transfer (step_sound hs) (RInv_run n acts s h) r

/-- **C19, the owner's walk is never stuck** and visits exactly the chain it took: while walking, a `walk` step is
enabled whenever the taken chain is non-empty, it reclaims its first block and continues with the rest; the loop exit is
enabled when the chain is exhausted. (No other thread's step changes `W` or the links of its blocks: `C19_chain_inv`
holds after every step of every thread.) -/
theorem C19_walk_progress (n : Nat) (acts : List Act) (s : St) (b : Bool) (g : Option Row)
    (h : run (init n) acts = some s) (hm : s.mpc = .walking b) :
    (∀ c t, s.W = c :: t → ∃ s', step s (.walk g) = some s' ∧ s'.W = t ∧ s'.pool = c :: s.pool ∧ s'.cur = t.head?) ∧
    (s.W = [] → ∃ s', step s .walkEnd = some s') := by
  have hI := RInv_run n acts s h
  constructor
  · intro c t hW
    have hcur : s.cur = some c := by rw [hI.curW, hW]; rfl
    have hl := hI.linkW; rw [hW] at hl
    refine ⟨{ s with cur := s.next c, next := setNext s.next c g, pool := c :: s.pool, W := s.W.tail,
                     log := Ev.reclaimed c :: s.log }, by simp only [step, hm, hcur], by simp [hW], rfl, ?_⟩
    exact Linked_head_next hl
  · intro hW
    have hcur : s.cur = none := by rw [hI.curW, hW]; rfl
    exact ⟨{ s with mpc := if b then .needAlloc else .idle }, by simp only [step, hm, hcur]⟩

/-- **C19, no data race (vector-clock formulation).** Run any schedule together with a FastTrack/TSan-style race
detector (`Momo/Model/RowsHB.lean`): per-thread vector clocks, the atomic operations on `freeRaws` given only
acquire/release strength (loads and failed CAS acquire; successful CAS and `exchange` are acquire+release RMWs), the
explicit move of a row object between threads synchronised by the user, and *every* non-atomic access to a block
(item destruction, link write, link read, pool bookkeeping, row creation/Add/Extract/Remove) treated as a write.
Then no access ever races: each is ordered by happens-before after the previous access to the same block. -/
theorem C19_no_data_race (n : Nat) (acts : List Act) (s : St) (h : run (init n) acts = some s) :
    ∃ hb, runHB (init n) HB.init false acts = some (s, hb, false) :=
  runHB_no_race acts (init n) s HB.init false (RInv_init n) (VInv_init n) h

/-! ## Non-vacuity: concrete schedules (evaluated by the kernel) -/

/-- the race detector is not vacuous: after thread 1 has begun `~DataRow` of block 1 (its `DestroyRaw` touched the
block), an access by thread 1 itself is ordered, an access by the owner thread or by thread 2 would be reported. -/
example : (runHB (init 3) HB.init false [.newBegin, .grow 1 none, .alloc 1 none, .handoff 1 0 1, .dBegin 1 1]).map
    (fun x => (x.2.1.ordered 1 1, x.2.1.ordered 0 1, x.2.1.ordered 2 1, x.2.2)) = some (true, false, false, false) := by decide +kernel

/-- …and once the block went through CAS and `exchange`, the owner's access is ordered again -/
example : (runHB (init 3) HB.init false [.newBegin, .grow 1 none, .alloc 1 none, .handoff 1 0 1, .dBegin 1 1, .dLoad 1, .dWrite 1,
    .dCas 1 false, .takeBegin, .exchange]).map
    (fun x => (x.2.1.ordered 0 1, x.2.1.ordered 2 1, x.1.W)) = some (true, false, [1]) := by decide +kernel

/-- ABA: thread 2 stalls between its load (head = block 1) and its CAS; meanwhile the owner takes the list, reclaims
block 1, re-creates a row in block 1, thread 1 destroys that row and pushes block 1 again. Thread 2's CAS then
*succeeds* against the recycled pointer — and the chain is still exactly `[2, 1]`. -/
def abaSchedule : List Act :=
  [.newBegin, .grow 1 none, .alloc 1 none, .handoff 1 0 1, .newBegin, .grow 2 none, .alloc 2 none, .handoff 2 0 2,
   .dBegin 1 1, .dLoad 1, .dWrite 1, .dCas 1 false,            -- thread 1 pushes block 1
   .dBegin 2 2, .dLoad 2, .dWrite 2,                           -- thread 2: headRaw = 1, link written, stalls
   .newBegin, .exchange, .walk (some 77), .walkEnd, .alloc 1 (some 99),   -- owner: take-all, reclaim 1, reuse 1
   .handoff 1 0 1, .dBegin 1 1, .dLoad 1, .dWrite 1, .dCas 1 false,       -- thread 1 pushes block 1 again
   .dCas 2 false]                                              -- thread 2's CAS succeeds (ABA)

example : (run (init 3) abaSchedule).map (fun s => (s.head, s.L, chainFrom s.next 10 s.head, s.pool, s.table))
    = some (some 2, [2, 1], [2, 1], [], []) := by decide +kernel

/-- the same with a spurious failure of the weak CAS and a real failure (head changed), then success -/
example : (run (init 3) [.newBegin, .grow 1 none, .alloc 1 none, .handoff 1 0 1, .newBegin, .grow 2 none, .alloc 2 none,
      .handoff 2 0 2, .dBegin 1 1, .dLoad 1, .dWrite 1, .dBegin 2 2, .dLoad 2, .dWrite 2, .dCas 2 true, .dLoad 2, .dWrite 2,
      .dCas 1 false, .dCas 2 false, .dLoad 2, .dWrite 2, .dCas 2 false]).map
      (fun s => (s.L, chainFrom s.next 10 s.head, inflight s)) = some ([2, 1], [2, 1], []) := by decide +kernel

/-- owner thread working while rows are in flight: add, extract (both orders), remove, reuse after take-all -/
example : (run (init 2) [.newBegin, .grow 5 none, .alloc 5 none, .add 5, .newBegin, .grow 6 none, .alloc 6 none, .add 6,
      .newBegin, .grow 7 none, .alloc 7 none, .add 7, .extract 0 false, .handoff 5 0 1, .dBegin 1 5, .dLoad 1, .dWrite 1,
      .dCas 1 false, .remove 1 true (some 3), .newBegin, .exchange, .walk none, .walkEnd, .alloc 6 none]).map
      (fun s => (s.table, s.det, s.pool, s.L, allocCount s)) = some ([7], [(6, 0)], [5], [], 2) := by decide +kernel

end Momo.Rows
