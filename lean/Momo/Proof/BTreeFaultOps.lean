import Momo.Proof.BTreeFaultRemove
import Momo.Proof.BTreeFaultInsert
import Momo.Proof.BTreeMore
/-!
  C04 / C10 for the B-tree family, container level: the frame rule (`Frame`: "the ledger moves exactly with what the container
  owns"), `Remove(iter)` / extraction (`removeF_spec`), the frames of the single operations, which the bulk operations compose,
  and `Remove(filter)` (`removeIfF_spec`) under every fault schedule. The loops of this file, of `BTreeFaultBulk` and of
  `BTreeFaultMerge` are inductions over the list-with-cursor notions of the fault-free files: `Cur cfg t pos l i` (`BTreeOps`: the
  container `t` with its iterator `pos` is the list `l` with a cursor before element `i`), `igStep`, `LinInv` (`BTreeMore`).
-/
namespace Momo.BTreeF
open Momo Momo.BTree Momo.BTree.Node
variable {α : Type}

/-- nothing leaked and nothing was released twice between `(w, ft)` and `(w', ft')`: the ledger moved exactly by what the
    container owns. Every operation of one container concludes it (`Frame.of_delta`, `Frame.of_same_tree`), loops compose it
    (`Frame.trans`). -/
def Frame (w : W) (ft : FTree α) (w' : W) (ft' : FTree α) : Prop := w'.led + ft.own = w.led + ft'.own

theorem Frame.refl (w : W) (ft : FTree α) : Frame w ft w ft := rfl

/-- the container is the same and the ledger is where it was (comparisons, the filter, a roll-back ran) -/
theorem Frame.of_unchanged {w w' : W} (hl : w'.led = w.led) (ft : FTree α) : Frame w ft w' ft := by
  unfold Frame; rw [hl]

theorem Frame.trans {w w1 w2 : W} {ft ft1 ft2 : FTree α} (h1 : Frame w ft w1 ft1) (h2 : Frame w1 ft1 w2 ft2) :
    Frame w ft w2 ft2 :=
  Ledger.add_eq_add_trans h1 h2

theorem Frame.of_delta {w w' : W} {ft ft' : FTree α} (k : Int)
    (hl : w'.led = w.led + (ft'.nodeLed - ft.nodeLed) + Ledger.ofItems k)
    (hn : (ft'.tree.toList.length : Int) = ft.tree.toList.length + k) : Frame w ft w' ft' := by
  unfold Frame
  rw [own_eq, own_eq]
  exact Ledger.frame_of_delta hl hn

/-- steps that do not touch the ledger (comparisons, the filter) may stand before an operation -/
theorem Frame.of_led_eq {w0 w w' : W} {ft ft' : FTree α} (he : w0.led = w.led) (h : Frame w0 ft w' ft') : Frame w ft w' ft' := by
  unfold Frame at *; rw [← he]; exact h

/-- the tree is the same: only the node-params block may have come into being -/
theorem Frame.of_same_tree {w w' : W} {ft ft' : FTree α} (ht : ft'.tree = ft.tree)
    (hl : w'.led = w.led + (ft'.nodeLed - ft.nodeLed)) : Frame w ft w' ft' :=
  Frame.of_delta 0 (hl.trans (Ledger.add_zero' _).symm) (by rw [ht]; exact (Int.add_zero _).symm)

theorem removeF_spec (S : Sched) (ic : ICfg α) (cfg : Cfg) (mode : RemMode) (ft : FTree α) (hw : ft.WF cfg) (pos : Pos)
    (hv : ft.tree.ValidElem pos) (w : W) {t : Bool} {ft' : FTree α} {p : Pos} {w' : W}
    (h : removeF S ic cfg mode ft pos w = (t, ft', p, w')) :
    (t = true → w'.led = w.led ∧ (ic.unsafeRepl = false → ft' = ft)) ∧
    (t = false →
      ft'.tree.toList = ft.tree.toList.eraseIdx (ft.tree.idxOf pos) ∧ ft'.WF cfg ∧
      ft'.tree.idxOf p = ft.tree.idxOf pos ∧ ft'.tree.ValidPos p ∧
      w'.led = w.led + (ft'.nodeLed - ft.nodeLed) + Ledger.ofItems (itemsDelta mode)) ∧
    (S.NoCtor → S.NoRepl → t = false ∧ ft'.tree = (ft.tree.remove cfg pos).1 ∧ p = (ft.tree.remove cfg pos).2) := by
  unfold Tree.ValidElem at hv
  unfold removeF at h
  cases hr : ft.tree.root with
  | none => simp [hr] at hv
  | some r =>
    obtain ⟨d, hb⟩ := hw.tree.bal r hr
    simp only [hr] at hv h
    have hsp := @removeAtF_spec _ S ic cfg mode _ _ hb pos hv w
    generalize removeAtF S ic cfg mode r pos w = g at h hsp
    obtain ⟨t1, r1, p1, w1⟩ := g
    obtain ⟨a1, a2, a3⟩ := hsp rfl
    cases t1 with
    | true =>
      cases h
      refine ⟨fun _ => ⟨(a1 rfl).1, fun hu => ?_⟩, nofun, fun hn hn2 => nomatch (a3 hn hn2).1⟩
      rw [(a1 rfl).2 hu]
      obtain ⟨⟨root, count⟩, params⟩ := ft
      cases hr; rfl
    | false =>
      cases h
      obtain ⟨b1, ⟨d', b2⟩, b3, b4, b5, b6⟩ := a2 rfl
      have hcnt : ft.tree.count - 1 = (toList r1).length := by
        have hk : idxOf r pos.path pos.idx < (toList r).length := idxOf_lt_size hb hv
        have hc := hw.tree.count
        simp only [Tree.toList, hr] at hc
        rw [b1, List.length_eraseIdx_of_lt hk, hc]
      exact ⟨nofun, fun _ => ⟨by simp only [Tree.toList, hr, b1, Tree.idxOf],
          ⟨Tree.wf_root cfg hcnt b2 (b5 (hw.tree.caps r hr)), fun _ => hw.params (by simp [hr])⟩,
          by simp only [Tree.idxOf, hr, b3], b4, by rw [b6, nodeLed_sub_of_root ft hr]⟩,
        fun hn hn2 => ⟨rfl, by simp only [Tree.remove, hr, ← (a3 hn hn2).2], by simp only [Tree.remove, hr, ← (a3 hn hn2).2]⟩⟩

/-- the frame of `Remove(iter)` (mode `.destroy`; an extraction keeps its item in the handle: `extractCreator_spec`) -/
theorem removeF_frame (S : Sched) (ic : ICfg α) (hu : ic.unsafeRepl = false) (cfg : Cfg) (ft : FTree α) (hw : ft.WF cfg)
    (pos : Pos) (hv : ft.tree.ValidElem pos) (w : W) {t : Bool} {ft' : FTree α} {p : Pos} {w' : W}
    (h : removeF S ic cfg .destroy ft pos w = (t, ft', p, w')) : Frame w ft w' ft' := by
  obtain ⟨a1, a2, _⟩ := removeF_spec S ic cfg .destroy ft hw pos hv w h
  cases t with
  | true =>
    obtain ⟨e1, e2⟩ := a1 rfl
    have := e2 hu; subst this
    exact Frame.of_unchanged e1 _
  | false =>
    obtain ⟨b1, _, _, _, b5⟩ := a2 rfl
    have hlt := tree_validElem_idx_lt cfg ft.tree hw.tree pos hv
    refine Frame.of_delta (-1) b5 ?_
    rw [b1, List.length_eraseIdx_of_lt hlt]; omega

/-- the frame of an insertion with the copying creator (the creators of the merges book otherwise: `MergeOut.of_moved`) -/
theorem insertF_frame (S : Sched) (ic : ICfg α) (cfg : Cfg) (hmax : 0 < cfg.maxCap) (lt : α → α → Bool) (ho : Order lt)
    (ft : FTree α) (hw : ft.WF cfg) (hs : SortedBy lt cfg.multi ft.tree.toList) (x : α) (w : W)
    {t : Bool} {s : Unit} {ft' : FTree α} {p : Pos} {ins : Bool} {w' : W}
    (h : insertF S ic cfg lt ft x (copyCreator S) () w = (t, s, ft', p, ins, w')) : Frame w ft w' ft' := by
  obtain ⟨a1, a2, _⟩ := insertF_spec S ic cfg hmax lt ho ft hw hs x (copyCreator S) () (copyCreator_spec S) w h
  cases t with
  | true => exact Frame.of_same_tree (a1 rfl).1 (a1 rfl).2.1
  | false =>
    obtain ⟨b1, b2, b3, b4, b5⟩ := a2 rfl
    cases ins with
    | false => obtain ⟨_, e2, e3⟩ := b4 rfl; subst e2; exact Frame.of_unchanged e3 _
    | true =>
      refine Frame.of_delta 1 ((b5 rfl).1.trans (Ledger.add_right_comm' _ _ _)) ?_
      rw [b1, tree_insert_inserted lt ho cfg hmax ft.tree hw.tree hs x b3.symm,
        List.length_insertIdx_of_le_length (upperIdx_le lt _ x)]; omega

theorem addF_frame (S : Sched) (ic : ICfg α) (cfg : Cfg) (hmax : 0 < cfg.maxCap) (ft : FTree α) (hw : ft.WF cfg) (pos : Pos)
    (hv : ft.tree.ValidPos pos) (x : α) (w : W) {t : Bool} {s : Unit} {ft' : FTree α} {p : Pos} {w' : W}
    (h : addF S ic cfg ft pos x (copyCreator S) () w = (t, s, ft', p, w')) : Frame w ft w' ft' := by
  obtain ⟨a1, a2, _⟩ := addF_spec S ic cfg hmax ft hw pos hv x (copyCreator S) () (copyCreator_spec S) w h
  cases t with
  | true => exact Frame.of_same_tree (a1 rfl).1 (a1 rfl).2.1
  | false =>
    obtain ⟨b1, _, b3, _⟩ := a2 rfl
    refine Frame.of_delta 1 (b3.trans (Ledger.add_right_comm' _ _ _)) ?_
    obtain ⟨c1, _⟩ := tree_add_spec cfg hmax ft.tree hw.tree pos hv x
    have hle := tree_validPos_idx_le cfg ft.tree hw.tree pos hv
    rw [b1, c1, List.length_insertIdx_of_le_length hle]; omega

/-- the loop from the *current* container `ft` with its iterator at `pos`: `l` is the list of `ft`, `i` the cursor (`Cur`) -/
theorem removeIfF_go_spec (S : Sched) (ic : ICfg α) (hu : ic.unsafeRepl = false) (cfg : Cfg) (f : α → Bool) (fuel : Nat)
    {ft : FTree α} {pos : Pos} {l : List α} {i : Nat} (hw : ft.WF cfg) (hc : Cur cfg ft.tree pos l i)
    (hf : l.length ≤ i + fuel) (w : W) {t : Bool} {ft' : FTree α} {w' : W}
    (h : removeIfF.go S ic cfg f fuel ft pos w = (t, ft', w')) :
    ft'.WF cfg ∧ Frame w ft w' ft' ∧ ft'.tree.toList.Sublist l ∧
    (l.take i ++ (l.drop i).filter (fun y => !f y)).Sublist ft'.tree.toList ∧
    (t = false → ft'.tree.toList = l.take i ++ (l.drop i).filter (fun y => !f y)) := by
  have keep : ∀ (l : List α) (i : Nat), (l.take i ++ (l.drop i).filter (fun y => !f y)).Sublist l := fun l i => by
    conv => rhs; rw [← List.take_append_drop i l]
    exact List.Sublist.append (List.Sublist.refl _) List.filter_sublist
  induction fuel generalizing ft pos l i w with
  | zero =>
    obtain rfl : i = l.length := Nat.le_antisymm hc.le hf
    cases h
    exact ⟨hw, Frame.refl _ _, hc.list ▸ List.Sublist.refl _, hc.list ▸ keep _ _, fun _ => by simp [hc.list]⟩
  | succ n ih =>
    simp only [removeIfF.go] at h
    rcases hc.cases with ⟨hend, rfl⟩ | ⟨hend, x, hx1, hx2⟩
    · rw [if_pos hend] at h
      cases h
      exact ⟨hw, Frame.refl _ _, hc.list ▸ List.Sublist.refl _, hc.list ▸ keep _ _, fun _ => by simp [hc.list]⟩
    · rw [if_neg hend] at h
      have hlt := ListFacts.lt_of_getElem? hx2
      simp only [hx1] at h
      cases hflt : S.filt w.filtN
      · simp only [hflt, Bool.false_eq_true, if_false] at h
        by_cases hfx : f x = true
        · simp only [hfx, if_true] at h
          have hsp := @removeF_spec _ S ic cfg .destroy ft hw pos (hc.validElem hlt) w.tickFilt
          have hfr := @removeF_frame _ S ic hu cfg ft hw pos (hc.validElem hlt) w.tickFilt
          generalize removeF S ic cfg .destroy ft pos w.tickFilt = g at h hsp hfr
          obtain ⟨t1, ft1, p1, w1⟩ := g
          obtain ⟨r1, r2, -⟩ := hsp rfl
          have hfr0 : Frame w ft w1 ft1 := Frame.of_led_eq (tickFilt_led w) (hfr rfl)
          cases t1
          · obtain ⟨b1, b2, b3, b4, -⟩ := r2 rfl
            obtain ⟨i1, i2, i3, i4, i5⟩ := ih b2 ⟨b2.tree, b4, hc.list ▸ hc.idx ▸ b1, hc.idx ▸ b3⟩
              (by rw [List.length_eraseIdx_of_lt hlt]; omega) w1 h
            rw [ListFacts.take_eraseIdx_self, ListFacts.drop_eraseIdx_self] at i4 i5
            rw [ListFacts.drop_of_getElem? hx2, List.filter_cons, if_neg (by simp [hfx])]
            exact ⟨i1, hfr0.trans i2, i3.trans (List.eraseIdx_sublist _ _), i4, i5⟩
          · cases h
            cases (r1 rfl).2 hu
            exact ⟨hw, hfr0, hc.list ▸ List.Sublist.refl _, hc.list ▸ keep _ _, nofun⟩
        · simp only [hfx, Bool.false_eq_true, if_false] at h
          obtain ⟨i1, i2, i3, i4, i5⟩ := ih hw (hc.next hlt) (by omega) w.tickFilt h
          rw [List.take_add_one, hx2] at i4 i5
          rw [ListFacts.drop_of_getElem? hx2, List.filter_cons, if_pos (by simp [hfx])]
          exact ⟨i1, i2, i3, by simpa using i4, by simpa using i5⟩
      · simp only [hflt, if_true] at h
        cases h
        exact ⟨hw, Frame.of_unchanged (tickFilt_led w) _, hc.list ▸ List.Sublist.refl _, hc.list ▸ keep _ _, nofun⟩

theorem removeIfF_spec (S : Sched) (ic : ICfg α) (hu : ic.unsafeRepl = false) (cfg : Cfg) (f : α → Bool) (ft : FTree α)
    (hw : ft.WF cfg) (w : W) {t : Bool} {ft' : FTree α} {w' : W} (h : removeIfF S ic cfg f ft w = (t, ft', w')) :
    ft'.WF cfg ∧ Frame w ft w' ft' ∧ ft'.tree.toList.Sublist ft.tree.toList ∧
    (ft.tree.toList.filter (fun y => !f y)).Sublist ft'.tree.toList ∧
    (t = false → ft'.tree.toList = ft.tree.toList.filter (fun y => !f y)) := by
  have := removeIfF_go_spec S ic hu cfg f ft.tree.count hw (Cur.begin hw.tree) (by rw [hw.tree.count]; omega) w h
  simpa using this

end Momo.BTreeF
