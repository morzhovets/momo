/-!
  Facts about `List` that mention nothing of the model and that core does not state in this form, kept in one place so that
  no area proves its own copy. Look here before proving a list fact in an area file.
-/
namespace Momo.ListFacts
open List
universe u v
variable {α : Type u} {β : Type v}

/-! ### positions: `getElem?` and `getD` -/

theorem isSome_getElem? (l : List α) (i : Nat) : l[i]?.isSome = decide (i < l.length) := by
  by_cases h : i < l.length
  · rw [List.getElem?_eq_getElem h, decide_eq_true h]; rfl
  · rw [List.getElem?_eq_none (Nat.le_of_not_lt h), decide_eq_false h]; rfl

theorem getElem?_of_lt {l : List α} {i : Nat} (h : i < l.length) : ∃ x, l[i]? = some x :=
  ⟨l[i], List.getElem?_eq_getElem h⟩

theorem lt_of_getElem? {l : List α} {i : Nat} {x : α} (h : l[i]? = some x) : i < l.length :=
  (List.getElem?_eq_some_iff.mp h).1

theorem getElem?_length_add (a b : List α) (k : Nat) : (a ++ b)[a.length + k]? = b[k]? := by
  rw [List.getElem?_append_right (Nat.le_add_right _ _), Nat.add_sub_cancel_left]

theorem getElem?_append_some {l l' : List α} {i : Nat} {a : α} (h : l[i]? = some a) : (l ++ l')[i]? = some a := by
  rw [List.getElem?_append_left (List.getElem?_eq_some_iff.mp h).1]; exact h

theorem getElem?_snoc {l : List α} {x : α} {i : Nat} {a : α} (h : (l ++ [x])[i]? = some a) :
    l[i]? = some a ∨ (i = l.length ∧ a = x) := by
  rw [List.getElem?_append] at h
  split at h
  · exact Or.inl h
  · rename_i hi
    rw [List.getElem?_singleton] at h
    split at h
    · right; constructor
      · omega
      · simpa using h.symm
    · cases h

theorem pairwise_getElem? {R : α → α → Prop} {l : List α} (h : l.Pairwise R) {i j : Nat} {a b : α} (hij : i < j)
    (ha : l[i]? = some a) (hb : l[j]? = some b) : R a b := by
  obtain ⟨hi, rfl⟩ := List.getElem?_eq_some_iff.mp ha
  obtain ⟨hj, rfl⟩ := List.getElem?_eq_some_iff.mp hb
  exact List.pairwise_iff_getElem.mp h i j hi hj hij

theorem getD_eq_getElem {l : List α} {d : α} {i : Nat} (h : i < l.length) : l.getD i d = l[i] := by
  rw [List.getD_eq_getElem?_getD, List.getElem?_eq_getElem h]; rfl

theorem getD_append_left {l1 l2 : List α} {d : α} {i : Nat} (hi : i < l1.length) : (l1 ++ l2).getD i d = l1.getD i d := by
  have h : i < (l1 ++ l2).length := by rw [List.length_append]; exact Nat.lt_of_lt_of_le hi (Nat.le_add_right _ _)
  rw [getD_eq_getElem h, getD_eq_getElem hi, List.getElem_append_left hi]

theorem getD_append_right {l1 l2 : List α} {d : α} {i : Nat} (hi : i < l2.length) :
    (l1 ++ l2).getD (l1.length + i) d = l2.getD i d := by
  have h : l1.length + i < (l1 ++ l2).length := by rw [List.length_append]; exact Nat.add_lt_add_left hi _
  rw [getD_eq_getElem h, getD_eq_getElem hi, List.getElem_append_right (Nat.le_add_right _ _)]
  simp only [Nat.add_sub_cancel_left]

theorem getD_snoc (l : List α) (a d : α) (i : Nat) :
    (l ++ [a]).getD i d = if i < l.length then l.getD i d else if i = l.length then a else d := by
  simp only [List.getD_eq_getElem?_getD]
  split
  · rename_i hi; rw [List.getElem?_append_left hi]
  · rename_i hi
    rw [List.getElem?_append_right (by omega)]
    split
    · rename_i he; subst he; simp
    · rename_i he
      cases hk : i - l.length with
      | zero => omega
      | succ k => simp

theorem getLast?_eq_getD (l : List α) (d : α) (hne : 0 < l.length) : l.getLast? = some (l.getD (l.length - 1) d) := by
  rw [List.getLast?_eq_getElem?, List.getD_eq_getElem?_getD]
  have : l.length - 1 < l.length := by omega
  rw [List.getElem?_eq_getElem this]; rfl

/-! ### a position given as a split `l = A ++ g :: B` (the position is `A.length`) -/

theorem split_of_getElem? {l : List α} {i : Nat} {x : α} (h : l[i]? = some x) : ∃ A B, l = A ++ x :: B ∧ A.length = i := by
  obtain ⟨hi, rfl⟩ := List.getElem?_eq_some_iff.mp h
  exact ⟨l.take i, l.drop (i + 1), by rw [List.getElem_cons_drop, List.take_append_drop], List.length_take_of_le (Nat.le_of_lt hi)⟩

theorem split_lt {l A B : List α} {g : α} (h : l = A ++ g :: B) : A.length < l.length := by
  rw [h, length_append]; exact Nat.lt_add_of_pos_right (Nat.succ_pos _)

theorem getElem_split {l A B : List α} {g : α} (h : l = A ++ g :: B) : l[A.length]'(split_lt h) = g := by
  subst h; rw [getElem_append_right (Nat.le_refl _)]; simp

theorem getD_split (A B : List α) (g d : α) : (A ++ g :: B).getD A.length d = g := by
  rw [getD_eq_getElem?_getD, getElem?_append_right (Nat.le_refl _)]; simp

theorem set_split {l A B : List α} {g : α} (h : l = A ++ g :: B) (g' : α) : l.set A.length g' = A ++ g' :: B := by
  subst h; rw [set_append_right _ _ (Nat.le_refl _), Nat.sub_self, set_cons_zero]

theorem modify_split {l A B : List α} {g : α} (f : α → α) (h : l = A ++ g :: B) :
    l.modify A.length f = A ++ f g :: B := by
  subst h
  rw [modify_eq_take_drop]
  simp

/-! ### `set` and `modify` -/

theorem forall_mem_set {P : α → Prop} {l : List α} (h : ∀ x ∈ l, P x) (i : Nat) {b : α} (hb : P b) :
    ∀ x ∈ l.set i b, P x := fun y hy => by
  rcases List.mem_or_eq_of_mem_set hy with hy | rfl
  · exact h y hy
  · exact hb

theorem forall_mem_modify {P : α → Prop} {F : α → α} (hF : ∀ a, P a → P (F a)) :
    ∀ (l : List α) (i : Nat), (∀ a ∈ l, P a) → ∀ a ∈ l.modify i F, P a
  | [], _, _, a, ha => by simp at ha
  | x :: xs, 0, h, a, ha => by
    rw [List.modify_zero_cons] at ha
    rcases List.mem_cons.mp ha with rfl | ha
    · exact hF x (h x (List.mem_cons_self ..))
    · exact h a (List.mem_cons_of_mem _ ha)
  | x :: xs, i + 1, h, a, ha => by
    rw [List.modify_succ_cons] at ha
    rcases List.mem_cons.mp ha with rfl | ha
    · exact h _ (List.mem_cons_self ..)
    · exact forall_mem_modify hF xs i (fun b hb => h b (List.mem_cons_of_mem _ hb)) a ha

theorem set_getElem?_self {l : List α} {c : Nat} {x : α} (h : l[c]? = some x) : l.set c x = l := by
  obtain ⟨hc, rfl⟩ := List.getElem?_eq_some_iff.mp h
  exact List.set_getElem_self hc

theorem getElem?_set_self {l : List α} {p : Nat} {x a : α} (h : l[p]? = some a) :
    (l.set p x)[p]? = some x := by
  rw [List.getElem?_set_self (List.getElem?_eq_some_iff.mp h).1]

theorem getElem?_set_exists {l : List α} {p : Nat} {x : α} (hx : l[p]? = some x) {x' : α} {P : α → Prop} {j : Nat}
    (h : ∃ a, l[j]? = some a ∧ P a) (hP : j = p → P x → P x') : ∃ a, (l.set p x')[j]? = some a ∧ P a := by
  obtain ⟨a, ha, hPa⟩ := h
  by_cases hj : j = p
  · subst hj
    rw [hx] at ha
    cases ha
    exact ⟨x', getElem?_set_self hx, hP rfl hPa⟩
  · exact ⟨a, (List.getElem?_set_ne (Ne.symm hj)).trans ha, hPa⟩

theorem getElem?_set_forall {l : List α} {p : Nat} {x' : α} {Q : Nat → α → Prop}
    (hQ : ∀ j a, j ≠ p → l[j]? = some a → Q j a) (hp : Q p x') : ∀ j a, (l.set p x')[j]? = some a → Q j a := by
  intro j a h
  by_cases hj : j = p
  · subst hj
    rw [List.getElem?_set_self (List.length_set ▸ (List.getElem?_eq_some_iff.mp h).1)] at h
    cases h
    exact hp
  · exact hQ j a hj ((List.getElem?_set_ne (Ne.symm hj)).symm.trans h)

theorem getD_set_dropLast (l : List α) (j : Nat) (a d : α) {i : Nat} (hi : i < l.length - 1) :
    ((l.set j a).dropLast).getD i d = if i = j then a else l.getD i d := by
  simp only [List.getD_eq_getElem?_getD]
  rw [List.getElem?_dropLast]
  simp only [List.length_set]
  rw [if_pos hi]
  rw [List.getElem?_set]
  split
  · rename_i he; subst he
    rw [if_pos (by omega)]; simp
  · rename_i he
    rw [if_neg (fun e => he e.symm)]

theorem filterMap_id_map_some (l : List α) : (l.map some).filterMap id = l := by
  rw [filterMap_map]; exact filterMap_some

theorem set_or_eraseIdx : ∀ (l : List α) (q : Nat) (o : Option α),
    (match o with | some y => l.set q y | none => l.eraseIdx q) = ((l.map some).set q o).filterMap id
  | [], _, o => by cases o <;> rfl
  | a :: l, 0, o => by cases o <;> simp
  | a :: l, q + 1, o => by
    have := set_or_eraseIdx l q o
    cases o <;> simp_all

theorem set_filterMap_split (A B : List α) {q : Nat} (o : Option α) (hq : q ≠ A.length) :
    ∃ A' B', ∀ a, (((A ++ a :: B).map some).set q o).filterMap id = A' ++ a :: B' := by
  rcases Nat.lt_or_gt_of_ne hq with h | h
  · refine ⟨((A.map some).set q o).filterMap id, B, fun a => ?_⟩
    rw [map_append, set_append_left _ _ (by rw [length_map]; exact h), filterMap_append, map_cons,
      filterMap_cons_some (f := id) rfl, filterMap_id_map_some]
  · refine ⟨A, ((B.map some).set (q - A.length - 1) o).filterMap id, fun a => ?_⟩
    obtain ⟨k, hk⟩ := Nat.exists_eq_add_one_of_ne_zero (Nat.sub_ne_zero_of_lt h)
    rw [map_append, set_append_right _ _ (by rw [length_map]; exact Nat.le_of_lt h), length_map, filterMap_append,
      filterMap_id_map_some, map_cons, hk, set_cons_succ, filterMap_cons_some (f := id) rfl, Nat.add_sub_cancel]

/-! ### `take`, `drop`, a middle segment -/

theorem take_succ_of_getElem? {l : List α} {i : Nat} {x : α} (h : l[i]? = some x) : l.take (i + 1) = l.take i ++ [x] := by
  rw [List.take_add_one, h]; rfl

theorem drop_of_getElem? {l : List α} {i : Nat} {x : α} (h : l[i]? = some x) : l.drop i = x :: l.drop (i + 1) := by
  obtain ⟨hi, rfl⟩ := List.getElem?_eq_some_iff.mp h
  exact List.drop_eq_getElem_cons hi

theorem forall_mem_take_succ {l : List α} {i : Nat} (hi : i < l.length) (P : α → Prop) :
    (∀ x ∈ l.take (i + 1), P x) ↔ (∀ x ∈ l.take i, P x) ∧ P l[i] := by
  rw [List.take_succ_eq_append_getElem hi, List.forall_mem_append, List.forall_mem_singleton]

theorem take_append_drop_sublist (l : List α) {i j : Nat} (h : i ≤ j) : (l.take i ++ l.drop j).Sublist l := by
  have := (List.Sublist.refl (l.take i)).append (List.drop_sublist_drop_left l h)
  rwa [List.take_append_drop] at this

theorem snoc_sublist_append_cons (l : List α) (a : α) (l' : List α) : (l ++ [a]).Sublist (l ++ a :: l') :=
  (sublist_append_left [a] l').append_left l

theorem take_middle (a b c : List α) (u : Nat) (hu : u ≤ b.length) :
    (a ++ b ++ c).take (a.length + u) = a ++ b.take u := by
  rw [List.append_assoc, List.take_length_add_append, List.take_append_of_le_length hu]

theorem drop_middle (a b c : List α) (u : Nat) (hu : u ≤ b.length) :
    (a ++ b ++ c).drop (a.length + u) = b.drop u ++ c := by
  rw [List.append_assoc, List.drop_append, List.drop_of_length_le (by omega), Nat.add_sub_cancel_left,
    List.drop_append_of_le_length hu]
  simp

theorem drop_length_succ (a : List α) (x : α) (r : List α) : (a ++ x :: r).drop (a.length + 1) = r := by
  rw [List.append_cons]; exact List.drop_left' (by simp)

theorem drop_eq_concat_getLastD (l : List α) (d : α) {n : Nat} (h : n < l.length) : ∃ rest, l.drop n = rest ++ [l.getLastD d] := by
  have hne : l.drop n ≠ [] := fun e => Nat.lt_irrefl _ (Nat.lt_of_lt_of_le h (List.drop_eq_nil_iff.mp e))
  have hl : l.getLastD d = (l.drop n).getLast hne := by
    conv => lhs; rw [← List.take_append_drop n l, ← List.dropLast_concat_getLast hne, ← List.append_assoc, List.getLastD_concat]
  exact ⟨(l.drop n).dropLast, by rw [hl]; exact (List.dropLast_concat_getLast hne).symm⟩

theorem drop_reverse_drop_one (l : List α) (k : Nat) :
    (l.drop 1).reverse.drop (l.length - k) = ((l.take k).drop 1).reverse := by
  rw [List.drop_take, List.reverse_take, List.length_drop]
  cases k with
  | zero => rw [List.drop_of_length_le (by simp), List.drop_of_length_le (by simp)]
  | succ k => rw [Nat.add_sub_cancel, Nat.sub_sub, Nat.add_comm]

/-! ### `eraseIdx` and `insertIdx` -/

theorem take_eraseIdx_self (l : List α) (i : Nat) : (l.eraseIdx i).take i = l.take i := by
  induction l generalizing i with
  | nil => rfl
  | cons x xs ih => cases i with
    | zero => rfl
    | succ j => simp only [List.eraseIdx_cons_succ, List.take_succ_cons, ih]

theorem drop_eraseIdx_self (l : List α) (i : Nat) : (l.eraseIdx i).drop i = l.drop (i + 1) := by
  induction l generalizing i with
  | nil => simp
  | cons x xs ih => cases i with
    | zero => rfl
    | succ j => simp only [List.eraseIdx_cons_succ, List.drop_succ_cons, ih]

theorem insertIdx_eq_take_drop (l : List α) (i : Nat) (x : α) (h : i ≤ l.length) :
    l.insertIdx i x = l.take i ++ x :: l.drop i := by
  induction l generalizing i with
  | nil => have : i = 0 := by simpa using h
           subst this; simp
  | cons y ys ih =>
    cases i with
    | zero => simp
    | succ j => simp [List.insertIdx_succ_cons, ih j (by simpa using h)]

theorem insertIdx_append_right (a b : List α) (k : Nat) (x : α) :
    (a ++ b).insertIdx (a.length + k) x = a ++ b.insertIdx k x := by
  induction a with
  | nil => simp
  | cons y ys ih =>
    have : (y :: ys).length + k = (ys.length + k) + 1 := by simp; omega
    rw [this]; simp [List.insertIdx_succ_cons, ih]

theorem insertIdx_append_left (b c : List α) (k : Nat) (x : α) (h : k ≤ b.length) :
    (b ++ c).insertIdx k x = b.insertIdx k x ++ c := by
  induction b generalizing k with
  | nil => have : k = 0 := by simpa using h
           subst this; simp
  | cons y ys ih =>
    cases k with
    | zero => simp
    | succ j => simp [List.insertIdx_succ_cons, ih j (by simpa using h)]

theorem insertIdx_middle (a b c : List α) (k : Nat) (x : α) (h : k ≤ b.length) :
    (a ++ b ++ c).insertIdx (a.length + k) x = a ++ b.insertIdx k x ++ c := by
  rw [List.append_assoc, insertIdx_append_right, insertIdx_append_left b c k x h, List.append_assoc]

theorem sublist_insertIdx {d : List α} {j : Nat} (x : α) (hj : j ≤ d.length) : d.Sublist (d.insertIdx j x) := by
  rw [insertIdx_eq_take_drop d j x hj]
  conv => lhs; rw [← List.take_append_drop j d]
  exact List.Sublist.append (List.Sublist.refl _) (List.sublist_cons_self _ _)

theorem pairwise_insertIdx {R : α → α → Prop} {l : List α} {i : Nat} {x : α} (hi : i ≤ l.length)
    (hp : l.Pairwise R) (hb : ∀ j y, j < i → l[j]? = some y → R y x) (ha : ∀ j y, i ≤ j → l[j]? = some y → R x y) :
    (l.insertIdx i x).Pairwise R := by
  rw [insertIdx_eq_take_drop l i x hi]
  have hsplit : l = l.take i ++ l.drop i := (List.take_append_drop i l).symm
  rw [hsplit] at hp
  obtain ⟨h1, h2, h3⟩ := List.pairwise_append.mp hp
  refine List.pairwise_append.mpr ⟨h1, List.pairwise_cons.mpr ⟨?_, h2⟩, ?_⟩
  · intro y hy
    obtain ⟨j, hj⟩ := List.getElem?_of_mem hy
    rw [List.getElem?_drop] at hj
    exact ha (i + j) y (by omega) hj
  · intro a hma b hmb
    rcases List.mem_cons.mp hmb with rfl | hmb
    · obtain ⟨j, hj⟩ := List.getElem?_of_mem hma
      have hjlt : j < (l.take i).length := lt_of_getElem? hj
      rw [List.getElem?_take] at hj
      simp at hjlt
      split at hj
      · exact hb j a (by omega) hj
      · cases hj
    · exact h3 a hma b hmb

/-! ### induction from the back; the first and the last element that pass a test -/

@[elab_as_elim] theorem snoc_induction {P : List α → Prop} (nil : P [])
    (append_singleton : ∀ l a, P l → P (l ++ [a])) : ∀ l, P l := by
  have h : ∀ l : List α, P l.reverse := by
    intro l
    induction l with
    | nil => exact nil
    | cons a r ih => rw [List.reverse_cons]; exact append_singleton _ _ ih
  intro l
  have := h l.reverse
  rwa [List.reverse_reverse] at this

theorem getLast?_filter_snoc (p : α → Bool) (l : List α) (a : α) :
    ((l ++ [a]).filter p).getLast? = if p a then some a else (l.filter p).getLast? := by
  rw [List.filter_append]
  by_cases h : p a = true <;> simp [List.filter, h]

theorem getLast?_filter_eq_some (p : α → Bool) (x : α) (l : List α) :
    (l.filter p).getLast? = some x ↔
      ∃ p1 p2, l = p1 ++ x :: p2 ∧ p x = true ∧ ∀ y ∈ p2, p y = false := by
  constructor
  · induction l using snoc_induction with
    | nil => simp
    | append_singleton l a ih =>
      intro h
      rw [getLast?_filter_snoc] at h
      by_cases hp : p a = true
      · rw [if_pos hp, Option.some.injEq] at h
        exact ⟨l, [], by rw [h], h ▸ hp, nofun⟩
      · rw [if_neg hp] at h
        obtain ⟨p1, p2, rfl, hx, hall⟩ := ih h
        refine ⟨p1, p2 ++ [a], by simp, hx, fun y hy => ?_⟩
        rcases List.mem_append.mp hy with hy | hy
        · exact hall y hy
        · simp at hy; subst hy; simpa using hp
  · rintro ⟨p1, p2, rfl, hx, hall⟩
    have h2 : List.filter p p2 = [] := List.filter_eq_nil_iff.mpr (fun y hy => by simp [hall y hy])
    rw [List.filter_append, List.filter_cons, if_pos hx, h2, List.getLast?_append]
    simp

theorem first_or_none (p : α → Bool) (l : List α) :
    (∀ x ∈ l, p x = false) ∨ ∃ mid x post, l = mid ++ x :: post ∧ p x = true ∧ ∀ y ∈ mid, p y = false := by
  induction l with
  | nil => left; simp
  | cons a r ih =>
    by_cases hp : p a = true
    · right; exact ⟨[], a, r, rfl, hp, by simp⟩
    · have hpa : p a = false := by simpa using hp
      rcases ih with h | ⟨mid, x, post, rfl, hx, hall⟩
      · left
        intro x hx
        rcases List.mem_cons.mp hx with rfl | hx
        · exact hpa
        · exact h x hx
      · right
        refine ⟨a :: mid, x, post, rfl, hx, ?_⟩
        intro y hy
        rcases List.mem_cons.mp hy with rfl | hy
        · exact hpa
        · exact hall y hy

theorem find?_unique {l : List α} {q : α → Bool} {a : α} (ha : a ∈ l) (hq : q a = true)
    (hu : ∀ x ∈ l, q x = true → x = a) : l.find? q = some a := by
  cases h : l.find? q with
  | none => exact absurd hq (List.find?_eq_none.mp h a ha)
  | some x => rw [hu x (List.mem_of_find?_eq_some h) (List.find?_some h)]

theorem find?_filter_of_imp (l : List α) (p q : α → Bool) (h : ∀ x ∈ l, p x = true → q x = true) :
    (l.filter q).find? p = l.find? p := by
  induction l with
  | nil => rfl
  | cons a l ih =>
    have ih' := ih (fun x hx => h x (List.mem_cons_of_mem _ hx))
    rw [List.filter_cons]
    by_cases hq : q a = true
    · rw [if_pos hq, List.find?_cons, List.find?_cons, ih']
    · rw [if_neg hq, List.find?_cons, ih']
      have : p a = false := by
        cases hp : p a with
        | false => rfl
        | true => exact absurd (h a (by simp) hp) hq
      rw [this]

/-! ### filters and counting -/

theorem length_filter_add_length_filter_not (p : α → Bool) (l : List α) :
    (l.filter p).length + (l.filter (fun x => !p x)).length = l.length := by
  induction l with
  | nil => rfl
  | cons x xs ih =>
    rw [List.filter_cons, List.filter_cons, List.length_cons, ← ih]
    cases p x
    · exact (Nat.add_assoc _ _ _).symm
    · exact Nat.add_right_comm _ _ _

theorem filter_length_eq_zero_iff {l : List α} {p : α → Bool} : (l.filter p).length = 0 ↔ l.filter (fun k => !p k) = l := by
  constructor
  · intro h
    rw [List.filter_eq_self]
    intro k hk
    rw [Bool.eq_false_iff.mpr (List.filter_eq_nil_iff.mp (List.length_eq_zero_iff.mp h) k hk)]; rfl
  · intro h
    have := length_filter_add_length_filter_not p l
    rw [h] at this
    exact Nat.add_right_cancel (m := l.length) (by rw [Nat.zero_add]; exact this)

theorem length_filter_cons (p : α → Bool) (a : α) (l : List α) :
    ((a :: l).filter p).length = (l.filter p).length + if p a then 1 else 0 := by
  rw [← List.countP_eq_length_filter, ← List.countP_eq_length_filter, List.countP_cons]

theorem filter_eq_take_drop (p : α → Bool) (l : List α) (a b : Nat) (hab : a ≤ b)
    (h1 : ∀ j y, j < a → l[j]? = some y → p y = true)
    (h2 : ∀ j y, a ≤ j → j < b → l[j]? = some y → p y = false)
    (h3 : ∀ j y, b ≤ j → l[j]? = some y → p y = true) : l.filter p = l.take a ++ l.drop b := by
  -- `l` is `take a`, the segment between, `drop b`; the filter keeps the outer two and nothing of the middle
  have hl : l = l.take a ++ ((l.drop a).take (b - a) ++ l.drop b) := by
    rw [← Nat.add_sub_cancel' hab, ← List.drop_drop, Nat.add_sub_cancel_left, List.take_append_drop, List.take_append_drop]
  have k1 : (l.take a).filter p = l.take a := List.filter_eq_self.mpr fun x hx => by
    obtain ⟨j, hj⟩ := List.getElem?_of_mem hx
    rw [List.getElem?_take] at hj
    split at hj
    · exact h1 j x ‹_› hj
    · cases hj
  have k2 : ((l.drop a).take (b - a)).filter p = [] := List.filter_eq_nil_iff.mpr fun x hx => by
    obtain ⟨j, hj⟩ := List.getElem?_of_mem hx
    rw [List.getElem?_take] at hj
    split at hj
    · rw [List.getElem?_drop] at hj
      rw [h2 (a + j) x (Nat.le_add_right _ _) (by omega) hj]; exact Bool.false_ne_true
    · cases hj
  have k3 : (l.drop b).filter p = l.drop b := List.filter_eq_self.mpr fun x hx => by
    obtain ⟨j, hj⟩ := List.getElem?_of_mem hx
    rw [List.getElem?_drop] at hj
    exact h3 (b + j) x (Nat.le_add_right _ _) hj
  conv => lhs; rw [hl]
  rw [List.filter_append, List.filter_append, k1, k2, k3, List.nil_append]

theorem filterMap_cons_toList (f : α → Option β) (a : α) (l : List α) :
    (a :: l).filterMap f = (f a).toList ++ l.filterMap f := by
  rw [List.filterMap_cons]; cases f a <;> rfl

theorem countP_lt_succ (l : List α) (f : α → Nat) (a : Nat) :
    l.countP (fun x => decide (f x < a + 1)) = l.countP (fun x => decide (f x ≤ a)) := by
  congr 1
  funext x
  by_cases h : f x ≤ a
  · have : f x < a + 1 := by omega
    simp [h, this]
  · have : ¬ f x < a + 1 := by omega
    simp [h, this]

theorem countP_le_eq (l : List α) (f : α → Nat) (a : Nat) :
    l.countP (fun x => decide (f x ≤ a)) = l.countP (fun x => decide (f x < a)) + (l.filter fun x => f x == a).length := by
  rw [← List.countP_eq_length_filter]
  induction l with
  | nil => simp
  | cons x t ih =>
    simp only [List.countP_cons, ih]
    by_cases h1 : f x < a
    · have h2 : f x ≤ a := by omega
      have h3 : ¬ f x = a := by omega
      simp [h1, h2, h3]; omega
    · by_cases h3 : f x = a
      · simp [h3]; omega
      · have h2 : ¬ f x ≤ a := by omega
        simp [h1, h2, h3]

theorem countP_le_succ (l : List α) (f : α → Nat) (q : Nat) :
    l.countP (fun x => decide (f x ≤ q + 1)) = l.countP (fun x => decide (f x ≤ q)) + l.countP (fun x => f x == q + 1) := by
  rw [countP_le_eq, countP_lt_succ, List.countP_eq_length_filter (p := fun x => f x == q + 1)]

theorem countP_le_zero (l : List α) (f : α → Nat) :
    l.countP (fun x => decide (f x ≤ 0)) = l.countP (fun x => f x == 0) := by
  congr 1
  funext x
  by_cases h : f x = 0 <;> simp [h]

theorem count_filter_ite [BEq α] [LawfulBEq α] (p : α → Bool) (a : α) (l : List α) :
    (l.filter p).count a = if p a = true then l.count a else 0 := by
  split
  · exact List.count_filter ‹_›
  · exact List.count_eq_zero.mpr (fun hm => ‹¬ _› (List.mem_filter.mp hm).2)

theorem perm_of_count_le [BEq α] [LawfulBEq α] :
    ∀ (l₁ l₂ : List α), (∀ a, l₁.count a ≤ l₂.count a) → l₁.length = l₂.length → l₁.Perm l₂ := by
  intro l₁
  induction l₁ with
  | nil => intro l₂ _ hl; have : l₂ = [] := List.length_eq_zero_iff.mp hl.symm; subst this; exact List.Perm.refl _
  | cons x xs ih =>
    intro l₂ hc hl
    have hx : x ∈ l₂ := by
      have := hc x
      simp only [List.count_cons_self] at this
      exact List.count_pos_iff.mp (by omega)
    have hp := List.perm_cons_erase hx
    refine List.Perm.trans ?_ hp.symm
    refine List.Perm.cons x (ih (l₂.erase x) ?_ ?_)
    · intro a
      have := hc a
      rw [List.count_erase]
      by_cases e : x == a
      · have e' : x = a := by simpa using e
        subst e'
        simp only [List.count_cons_self] at this
        simp; omega
      · simp only [List.count_cons, e] at this
        simp [e]; omega
    · rw [List.length_erase_of_mem hx]; simp at hl; omega

/-! ### keys: `map key` without duplicates, `find?` and `lookup` by key -/

theorem key_inj {κ : Type v} (key : α → κ) {l : List α} (hnd : (l.map key).Nodup) {a b : α} (ha : a ∈ l) (hb : b ∈ l)
    (h : key a = key b) : a = b := by
  induction l with
  | nil => cases ha
  | cons x t ih =>
    simp only [List.map_cons, List.nodup_cons] at hnd
    rcases List.mem_cons.mp ha with rfl | ha' <;> rcases List.mem_cons.mp hb with rfl | hb'
    · rfl
    · exact absurd (h ▸ List.mem_map_of_mem hb') hnd.1
    · exact absurd (h ▸ List.mem_map_of_mem ha') hnd.1
    · exact ih hnd.2 ha' hb'

theorem nodup_of_keys {κ : Type v} {key : α → κ} {l : List α} (hnd : (l.map key).Nodup) : l.Nodup :=
  List.Pairwise.of_map key (fun _ _ h hab => h (hab ▸ rfl)) hnd

theorem nodup_keys_map {κ : Type v} {key : α → κ} {l : List α} (hnd : (l.map key).Nodup) (f : α → α)
    (h : ∀ e, key (f e) = key e) : ((l.map f).map key).Nodup := by
  have : (l.map f).map key = l.map key := by rw [List.map_map]; exact List.map_congr_left fun e _ => h e
  rw [this]; exact hnd

theorem nodup_filter_key {κ : Type v} {key : α → κ} {l : List α} (hnd : (l.map key).Nodup) (f : α → Bool) :
    ((l.filter f).map key).Nodup :=
  List.Nodup.sublist (List.Sublist.map _ List.filter_sublist) hnd

theorem find?_key_of_mem {κ : Type v} [BEq κ] [LawfulBEq κ] (key : α → κ) {l : List α} (hnd : (l.map key).Nodup) {b : α} (hb : b ∈ l) :
    l.find? (fun x => key x == key b) = some b :=
  find?_unique hb (beq_self_eq_true _) fun _ hx hq => key_inj key hnd hx hb (beq_iff_eq.mp hq)

theorem countP_filter_key {κ : Type v} [BEq κ] [LawfulBEq κ] (key : α → κ) {l : List α} (hnd : (l.map key).Nodup) {b : α} (hb : b ∈ l)
    (q : α → Bool) :
    (l.filter (fun x => key x != key b)).countP q + (if q b then 1 else 0) = l.countP q := by
  induction l with
  | nil => cases hb
  | cons a t ih =>
    simp only [List.map_cons, List.nodup_cons] at hnd
    rcases List.mem_cons.mp hb with rfl | hb'
    · have : t.filter (fun x => key x != key b) = t := by
        apply List.filter_eq_self.mpr
        intro x hx
        have : key x ≠ key b := fun h => hnd.1 (h ▸ List.mem_map_of_mem hx)
        simpa using this
      simp [this, List.countP_cons]
    · have hne : key a ≠ key b := fun h => hnd.1 (h ▸ List.mem_map_of_mem hb')
      have := ih hnd.2 hb'
      simp [hne, List.countP_cons]
      omega

theorem eraseIdx_eq_filter_of_nodup_map [DecidableEq β] (f : α → β) : ∀ (l : List α) (p : Nat) (hp : p < l.length),
    (l.map f).Nodup → l.eraseIdx p = l.filter (fun e => f e != f l[p])
  | a :: as, 0, _, hnd => by
    rw [map_cons, nodup_cons] at hnd
    simp only [eraseIdx_cons_zero, getElem_cons_zero]
    rw [filter_cons_of_neg (by simp)]
    symm
    rw [filter_eq_self]
    intro x hx
    have : f x ≠ f a := fun e => hnd.1 (e ▸ mem_map_of_mem hx)
    simpa using this
  | a :: as, p + 1, hp, hnd => by
    rw [map_cons, nodup_cons] at hnd
    simp only [eraseIdx_cons_succ, getElem_cons_succ]
    have hp' : p < as.length := by simpa using hp
    have : f a ≠ f as[p] := fun e => hnd.1 (e ▸ mem_map_of_mem (getElem_mem hp'))
    rw [filter_cons_of_pos (by simpa using this)]
    congr 1
    exact eraseIdx_eq_filter_of_nodup_map f as p hp' hnd.2

theorem lookup_cons_ite (a : Nat) (b : β) (t : List (Nat × β)) (k' : Nat) :
    ((a, b) :: t).lookup k' = if k' = a then some b else t.lookup k' := by
  rw [lookup_cons]
  by_cases h : k' = a
  · rw [if_pos h, beq_iff_eq.mpr h]
  · rw [if_neg h, beq_false_of_ne h]

theorem lookup_eq_none_iff_keys (m : List (Nat × β)) (k : Nat) : m.lookup k = none ↔ k ∉ m.map (·.1) := by
  rw [lookup_eq_none_iff, mem_map]
  exact ⟨fun h ⟨e, he, hk⟩ => bne_iff_ne.mp (h e he) hk.symm, fun h e he => bne_iff_ne.mpr fun hk => h ⟨e, he, hk.symm⟩⟩

theorem lookup_filter_ne (l : List (Nat × β)) {k k' : Nat} (h : k' ≠ k) :
    (l.filter (fun e => e.1 != k)).lookup k' = l.lookup k' := by
  induction l with
  | nil => rfl
  | cons e l ih =>
    obtain ⟨a, b⟩ := e
    by_cases ha : a = k
    · subst ha
      have hne : (k' == a) = false := by simpa using h
      simp [List.lookup_cons, hne, ih]
    · have hne : (a != k) = true := by simpa using ha
      simp only [List.filter_cons, hne, if_true, List.lookup_cons, ih]

theorem lookup_filter_ne_self (l : List (Nat × β)) (k : Nat) : (l.filter (fun e => e.1 != k)).lookup k = none :=
  (lookup_eq_none_iff_keys _ k).mpr fun h => by
    obtain ⟨e, he, rfl⟩ := List.mem_map.mp h
    simpa using (List.mem_filter.mp he).2

theorem filter_ne_of_lookup_eq_some {l : List (Nat × β)} {k : Nat} {v : β} (h : l.lookup k = some v) :
    l.filter (fun p => !(p.1 == k)) ≠ l := by
  have hlt : (l.filter (fun p => !(p.1 == k))).length < l.length := by
    induction l with
    | nil => cases h
    | cons a as ih =>
      rw [List.filter_cons]
      by_cases hk : a.1 = k
      · rw [if_neg (by rw [beq_iff_eq.mpr hk]; exact Bool.false_ne_true)]
        exact Nat.lt_succ_of_le (List.length_filter_le _ _)
      · rw [List.lookup_cons, beq_false_of_ne (Ne.symm hk)] at h
        rw [if_pos (by rw [beq_false_of_ne hk]; rfl)]
        exact Nat.succ_lt_succ (ih h)
  exact fun e => Nat.lt_irrefl _ (e ▸ hlt)

theorem filter_map_fst (f : α → Bool) (k : α) (vs : List β) :
    (vs.map (fun v => (k, v))).filter (fun e => f e.1) = if f k then vs.map (fun v => (k, v)) else [] := by
  by_cases h : f k = true
  · rw [if_pos h]; exact filter_eq_self.mpr fun x hx => by obtain ⟨v, _, rfl⟩ := mem_map.mp hx; exact h
  · rw [if_neg h]; exact filter_eq_nil_iff.mpr fun x hx => by obtain ⟨v, _, rfl⟩ := mem_map.mp hx; exact h

/-! ### permutations: one position removed, moved or swap-removed; segments rearranged -/

theorem perm_cons_eraseIdx {l : List α} {i : Nat} {x : α} (h : l[i]? = some x) : (x :: l.eraseIdx i).Perm l := by
  obtain ⟨A, B, rfl, rfl⟩ := split_of_getElem? h
  rw [List.eraseIdx_append_of_length_le (Nat.le_refl _), Nat.sub_self, List.eraseIdx_cons_zero]
  exact List.perm_middle.symm

theorem perm_move {l d : List α} {i j : Nat} {x : α} (h : l[i]? = some x) (hj : j ≤ d.length) :
    (l.eraseIdx i ++ d.insertIdx j x).Perm (l ++ d) := by
  have h1 : (d.insertIdx j x).Perm (x :: d) := List.perm_insertIdx x d hj
  have h2 : (l.eraseIdx i ++ x :: d).Perm (x :: (l.eraseIdx i ++ d)) := List.perm_middle
  have h3 : (x :: (l.eraseIdx i ++ d)).Perm (l ++ d) := by
    have := (perm_cons_eraseIdx h).append_right d
    simpa using this
  exact ((List.Perm.append_left _ h1).trans h2).trans h3

/-- `a[i] = a.back(); a.pop_back()` -/
theorem swapRemove_split {l : List α} {i : Nat} {z : α} (hz : l.getLast? = some z) (hi : i < l.length) :
    ∃ rest, (l.set i z).dropLast = l.take i ++ rest ∧ rest.Perm (l.drop (i + 1)) := by
  obtain ⟨init, rfl⟩ := List.getLast?_eq_some_iff.mp hz
  rw [List.length_append, List.length_singleton] at hi
  by_cases h : i < init.length
  · -- `z` moves into slot `i`
    refine ⟨z :: init.drop (i + 1), ?_, ?_⟩
    · rw [List.set_append_left _ _ h, List.dropLast_concat, List.take_append_of_le_length (Nat.le_of_lt h),
        List.set_eq_take_append_cons_drop, if_pos h]
    · rw [List.drop_append_of_le_length h]; exact (List.perm_append_singleton z _).symm
  · -- slot `i` is the last one
    obtain rfl : i = init.length := Nat.le_antisymm (Nat.le_of_lt_succ hi) (Nat.le_of_not_lt h)
    refine ⟨[], ?_, ?_⟩
    · rw [List.set_append_right _ _ (Nat.le_refl _), Nat.sub_self, List.set_cons_zero, List.dropLast_concat,
        List.take_left' rfl, List.append_nil]
    · rw [List.drop_eq_nil_of_le (by rw [List.length_append, List.length_singleton]; exact Nat.le_refl _)]

theorem swapRemove_perm {l : List α} {i : Nat} {z : α} (hz : l.getLast? = some z) (hi : i < l.length) :
    ((l.set i z).dropLast).Perm (l.eraseIdx i) := by
  obtain ⟨rest, e, hr⟩ := swapRemove_split hz hi
  rw [e, List.eraseIdx_eq_take_drop_succ]
  exact hr.append_left _

/-- the same with the element taken out in front: what the models' `swapRemove`s (a `match` / a `getD` on `getLast?`) both unfold to -/
theorem cons_swapRemove_perm {l : List α} {i : Nat} {x : α} (hx : l[i]? = some x) :
    ∃ z, l.getLast? = some z ∧ (x :: (l.set i z).dropLast).Perm l := by
  obtain ⟨hi, -⟩ := List.getElem?_eq_some_iff.mp hx
  obtain ⟨z, hz⟩ : ∃ z, l.getLast? = some z := Option.isSome_iff_exists.mp (by
    rw [List.getLast?_isSome]; intro e; rw [e] at hi; cases hi)
  exact ⟨z, hz, ((swapRemove_perm hz hi).cons x).trans (perm_cons_eraseIdx hx)⟩

theorem dropLast_perm {l : List α} {x : α} (h : l.getLast? = some x) : l.Perm (x :: l.dropLast) := by
  have hne : l ≠ [] := fun hc => by rw [hc] at h; cases h
  rw [List.getLast?_eq_some_getLast hne, Option.some.injEq] at h
  conv => lhs; rw [← List.dropLast_concat_getLast hne, h]
  exact List.perm_append_singleton ..

theorem flatten_map_set_perm (F : α → List β) (l : List α) (i : Nat) (a : α)
    (h : i < l.length) :
    (((l.set i a).map F).flatten ++ F l[i]).Perm ((l.map F).flatten ++ F a) := by
  induction l generalizing i with
  | nil => simp at h
  | cons x xs ih =>
    cases i with
    | zero =>
      simp only [List.set_cons_zero, List.map_cons, List.flatten_cons, List.getElem_cons_zero]
      -- F a ++ rest ++ F x  ~  F x ++ rest ++ F a
      refine List.Perm.trans List.perm_append_comm ?_
      rw [List.append_assoc]
      exact List.Perm.append_left _ List.perm_append_comm
    | succ j =>
      simp only [List.set_cons_succ, List.map_cons, List.flatten_cons, List.getElem_cons_succ,
        List.append_assoc]
      exact List.Perm.append_left _ (ih j (by simpa using h))

theorem perm_seg_front (X Bf FB : List α) : (X ++ Bf ++ FB).Perm (Bf ++ (X ++ FB)) := by
  rw [List.append_assoc]
  exact List.perm_append_comm_assoc X Bf FB

theorem perm_out2 (a b x r : List α) : (a ++ (b ++ (x ++ r))).Perm (x ++ (a ++ (b ++ r))) :=
  ((List.perm_append_comm_assoc b x r).append_left a).trans (List.perm_append_comm_assoc a x _)

theorem perm_out3 (a b c x r : List α) : (a ++ (b ++ (c ++ (x ++ r)))).Perm (x ++ (a ++ (b ++ (c ++ r)))) :=
  ((perm_out2 b c x r).append_left a).trans (List.perm_append_comm_assoc a x _)

theorem perm_rev_tail (l : List α) : l.Perm ((l.drop 1).reverse ++ l.take 1) := by
  have h1 : (l.take 1 ++ l.drop 1).Perm (l.drop 1 ++ l.take 1) := List.perm_append_comm
  rw [List.take_append_drop] at h1
  exact h1.trans ((List.reverse_perm _).symm.append_right _)

/-! ### sums -/

theorem le_sum_map_of_mem (f : α → Nat) {l : List α} {x : α} (hx : x ∈ l) : f x ≤ (l.map f).sum := by
  induction l with
  | nil => cases hx
  | cons y ys ih =>
    rw [List.map_cons, List.sum_cons]
    rcases List.mem_cons.mp hx with rfl | h
    · exact Nat.le_add_right _ _
    · exact Nat.le_trans (ih h) (Nat.le_add_left _ _)

theorem sum_map_take_drop (f : α → Nat) (cs : List α) (k : Nat) :
    ((cs.take k).map f).sum + ((cs.drop k).map f).sum = (cs.map f).sum := by
  rw [← List.sum_append, ← List.map_append, List.take_append_drop]

/-- the prefix sums `((l.take k).map f).sum`: one more element, monotone in `k`, below the whole, a prefix of a prefix -/
theorem sum_map_take_succ (f : α → Nat) {l : List α} {i : Nat} {x : α} (h : l[i]? = some x) :
    ((l.take (i + 1)).map f).sum = ((l.take i).map f).sum + f x := by
  rw [take_succ_of_getElem? h, List.map_append, List.sum_append]; simp

theorem sum_map_take_add (f : α → Nat) (l : List α) (a k : Nat) :
    ((l.take (a + k)).map f).sum = ((l.take a).map f).sum + (((l.drop a).take k).map f).sum := by
  rw [List.take_add]; simp

theorem sum_map_take_mono (f : α → Nat) (l : List α) {a b : Nat} (h : a ≤ b) :
    ((l.take a).map f).sum ≤ ((l.take b).map f).sum := by
  obtain ⟨k, rfl⟩ := Nat.exists_eq_add_of_le h
  rw [sum_map_take_add]; exact Nat.le_add_right _ _

theorem sum_map_take_le (f : α → Nat) (l : List α) (i : Nat) : ((l.take i).map f).sum ≤ (l.map f).sum := by
  rw [← sum_map_take_drop f l i]; exact Nat.le_add_right _ _

theorem sum_map_set (f : α → Nat) {cs : List α} {c : Nat} {ch : α} (ch' : α) (hc : cs[c]? = some ch) :
    ((cs.set c ch').map f).sum + f ch = (cs.map f).sum + f ch' := by
  induction cs generalizing c with
  | nil => simp at hc
  | cons x xs ih =>
    cases c with
    | zero => simp at hc; subst hc; simp; omega
    | succ c =>
      simp only [List.getElem?_cons_succ] at hc
      have := ih hc
      simp only [List.set_cons_succ, List.map_cons, List.sum_cons]; omega

theorem sum_map_split2 (f : α → Nat) {cs : List α} {c : Nat} {ch : α} (l r : α) (hc : cs[c]? = some ch) :
    ((cs.take c ++ l :: r :: cs.drop (c + 1)).map f).sum + f ch = (cs.map f).sum + (f l + f r) := by
  induction cs generalizing c with
  | nil => simp at hc
  | cons x xs ih =>
    cases c with
    | zero => simp at hc; subst hc; simp; omega
    | succ c => simp at hc; have := ih hc; simp at this ⊢; omega

/-! ### folds -/

/-- core's `List.foldl_rel` for a step that does not depend on the element being in the list, arguments in the order of the fold -/
theorem foldl_rel {σ τ β : Type _} {R : σ → τ → Prop} {f : σ → β → σ} {g : τ → β → τ}
    (h : ∀ s t b, R s t → R (f s b) (g t b)) (l : List β) (s : σ) (t : τ) (hr : R s t) : R (l.foldl f s) (l.foldl g t) :=
  List.foldl_rel hr fun b _ s t => h s t b

theorem foldl_eq_of_inv {σ β : Type _} {I : σ → Prop} {f g : σ → β → σ} (h : ∀ s b, I s → f s b = g s b ∧ I (g s b))
    (l : List β) (s : σ) (hs : I s) : l.foldl f s = l.foldl g s ∧ I (l.foldl g s) :=
  foldl_rel (R := fun w s => w = s ∧ I s) (fun _ _ b hr => by obtain ⟨rfl, hi⟩ := hr; exact h _ b hi) l s s ⟨rfl, hs⟩

/-! ### `zip` -/

theorem zip_set : ∀ (l1 : List α) (l2 : List β) (i : Nat) (a : α) (b : β),
    (l1.set i a).zip (l2.set i b) = (l1.zip l2).set i (a, b)
  | [], _, _, _, _ => rfl
  | _ :: _, [], _, _, _ => by simp
  | _ :: _, _ :: _, 0, _, _ => rfl
  | _ :: l1, _ :: l2, i + 1, a, b => congrArg _ (zip_set l1 l2 i a b)

theorem zip_map_fst_sublist : ∀ (l1 : List α) (l2 : List β), ((l1.zip l2).map (·.1)).Sublist l1
  | [], _ => by simp
  | a :: as, [] => by simp
  | a :: as, b :: bs => by simp only [zip_cons_cons, map_cons]; exact (zip_map_fst_sublist as bs).cons_cons a

theorem zip_map_snd_sublist : ∀ (l1 : List α) (l2 : List β), ((l1.zip l2).map (·.2)).Sublist l2
  | [], _ => by simp
  | a :: as, [] => by simp
  | a :: as, b :: bs => by simp only [zip_cons_cons, map_cons]; exact (zip_map_snd_sublist as bs).cons_cons b

/-- `size() == size() && std::equal(begin(), end(), other.begin())` is equality of the sequences -/
theorem zip_all_beq [BEq α] [LawfulBEq α] : ∀ (a b : List α),
    (a.length == b.length && (a.zip b).all (fun p => p.1 == p.2)) = (a == b)
  | [], [] => rfl
  | [], _ :: _ => rfl
  | _ :: _, [] => rfl
  | x :: t, y :: u => by
    have ih := zip_all_beq t u
    rw [Bool.eq_iff_iff] at ih ⊢
    simp only [length_cons, zip_cons_cons, all_cons, Bool.and_eq_true, beq_iff_eq, Nat.add_right_cancel_iff,
      cons.injEq] at ih ⊢
    exact ⟨fun ⟨h1, h2, h3⟩ => ⟨h2, ih.mp ⟨h1, h3⟩⟩, fun ⟨h1, h2⟩ => ⟨(ih.mpr h2).1, h1, (ih.mpr h2).2⟩⟩

/-! ### `range` -/

theorem filter_range_interval (n a b : Nat) (f : Nat → Bool) (hab : a ≤ b) (hbn : b ≤ n)
    (hf : ∀ q, q < n → (f q = true ↔ a ≤ q ∧ q < b)) :
    (range n).filter f = range' a (b - a) := by
  obtain ⟨d, rfl⟩ := Nat.exists_eq_add_of_le hab
  obtain ⟨e, rfl⟩ := Nat.exists_eq_add_of_le hbn
  have p1 : (range' 0 a).filter f = [] := filter_eq_nil_iff.mpr fun q hq hfq =>
    have hqa : q < a := Nat.zero_add a ▸ (mem_range'_1.mp hq).2
    absurd ((hf q (Nat.lt_of_lt_of_le hqa (Nat.le_trans (Nat.le_add_right a d) (Nat.le_add_right _ e)))).mp hfq).1
      (Nat.not_le.mpr hqa)
  have p2 : (range' a d).filter f = range' a d := filter_eq_self.mpr fun q hq =>
    have h := mem_range'_1.mp hq
    (hf q (Nat.lt_of_lt_of_le h.2 (Nat.le_add_right _ e))).mpr h
  have p3 : (range' (a + d) e).filter f = [] := filter_eq_nil_iff.mpr fun q hq hfq =>
    have h := mem_range'_1.mp hq
    absurd ((hf q h.2).mp hfq).2 (Nat.not_lt.mpr h.1)
  rw [range_eq_range', ← range'_append_1, ← range'_append_1, filter_append, filter_append, Nat.zero_add, Nat.zero_add, p1, p2, p3,
    Nat.add_sub_cancel_left, nil_append, append_nil]

end Momo.ListFacts
