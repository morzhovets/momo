import Momo.Proof.StdWrapEq
import Momo.Proof.StdWOrdBase
/-!
  C06 history theorem, unordered containers with unique keys: the canonical order does not depend on the traversal order (`canon_perm`);
  distinct keys (`NodupKeys`); with distinct keys a lookup (`uFind_perm`), a count and a removal give results that do not depend on the
  traversal order either.
-/
namespace Momo.StdW
open Momo.StdWrap List
open Momo.StdSpec hiding Item

theorem itemLt_iff (x y : Item) : itemLt x y = true ↔ x.1 < y.1 ∨ (x.1 = y.1 ∧ x.2 < y.2) := by
  simp only [itemLt, Bool.or_eq_true, Bool.and_eq_true, decide_eq_true_eq, beq_iff_eq]

theorem itemLt_false_iff (x y : Item) : itemLt x y = false ↔ ¬ (x.1 < y.1 ∨ (x.1 = y.1 ∧ x.2 < y.2)) := by
  rw [← itemLt_iff, Bool.not_eq_true]

/-- `a ≤ b` in the canonical order `canon` sorts by (lexicographic on key and tag); `canon_perm` needs it total and antisymmetric -/
def ItemLe (a b : Item) : Prop := itemLt b a = false

theorem ItemLe.trans {a b c : Item} (h1 : ItemLe a b) (h2 : ItemLe b c) : ItemLe a c := by
  unfold ItemLe at *
  rw [itemLt_false_iff] at *
  omega

theorem ItemLe.antisymm {a b : Item} (h1 : ItemLe a b) (h2 : ItemLe b a) : a = b := by
  unfold ItemLe at *
  rw [itemLt_false_iff] at *
  apply Prod.ext <;> omega

theorem ItemLe.of_lt {a b : Item} (h : itemLt a b = true) : ItemLe a b := by
  unfold ItemLe
  rw [itemLt_iff] at h
  rw [itemLt_false_iff]
  omega

theorem canonIns_perm (x : Item) (l : List Item) : (canonIns x l).Perm (x :: l) := by
  fun_induction canonIns x l with
  | case1 => exact Perm.refl _
  | case2 y t _ ih => exact (Perm.cons y ih).trans (Perm.swap x y t)
  | case3 => exact Perm.refl _

theorem canon_perm_self (l : List Item) : (canon l).Perm l := by
  induction l with
  | nil => simp [canon]
  | cons x t ih => exact (canonIns_perm x (canon t)).trans (Perm.cons x ih)

theorem canonIns_sorted (x : Item) (l : List Item) (h : l.Pairwise ItemLe) : (canonIns x l).Pairwise ItemLe := by
  fun_induction canonIns x l with
  | case1 => exact pairwise_singleton _ _
  | case2 y t hlt ih =>
    obtain ⟨hy, ht⟩ := pairwise_cons.mp h
    refine pairwise_cons.mpr ⟨fun z hz => ?_, ih ht⟩
    rcases mem_cons.mp ((canonIns_perm x t).subset hz) with rfl | hz
    · exact ItemLe.of_lt hlt
    · exact hy z hz
  | case3 y t hlt =>
    have hxy : ItemLe x y := (Bool.not_eq_true _).mp hlt
    refine pairwise_cons.mpr ⟨fun z hz => ?_, h⟩
    rcases mem_cons.mp hz with rfl | hz
    · exact hxy
    · exact hxy.trans ((pairwise_cons.mp h).1 z hz)

theorem canon_sorted (l : List Item) : (canon l).Pairwise ItemLe := by
  induction l with
  | nil => simp [canon]
  | cons x t ih => exact canonIns_sorted x _ ih

theorem canon_perm {xs ys : List Item} (h : xs.Perm ys) : canon xs = canon ys :=
  Perm.eq_of_pairwise (fun _ _ _ _ h1 h2 => ItemLe.antisymm h1 h2) (canon_sorted xs) (canon_sorted ys)
    ((canon_perm_self xs).trans (h.trans (canon_perm_self ys).symm))

/-- the keys of a table of `unordered_set` / `unordered_map` are distinct. The same is written `KeysNodup` (StdWMmBase) for the
    table of `unordered_multimap`, whose entries are (key, value array), and `(l.map (·.1)).Nodup` in StdWrapEq, `Props/C06` and
    `ListFacts.nodup_keys_map`, which serve both element types; `nodupKeys_iff` and `keysNodup_iff` (both `Iff.rfl`) are the links. -/
def NodupKeys (xs : List Item) : Prop := (xs.map (·.1)).Nodup

theorem nodupKeys_iff {xs : List Item} : NodupKeys xs ↔ (xs.map (·.1)).Nodup := Iff.rfl

theorem NodupKeys.perm {xs ys : List Item} (h : NodupKeys ys) (hp : xs.Perm ys) : NodupKeys xs :=
  (Perm.nodup_iff (Perm.map (fun e : Item => e.1) hp)).mpr h

theorem nodupKeys_nil : NodupKeys [] := nodup_nil

theorem NodupKeys.sublist {xs ys : List Item} (h : NodupKeys ys) (hs : xs.Sublist ys) : NodupKeys xs :=
  Nodup.sublist (hs.map (·.1)) h

theorem NodupKeys.filter {xs : List Item} (h : NodupKeys xs) (p : Item → Bool) : NodupKeys (xs.filter p) :=
  h.sublist filter_sublist

theorem hasKey_false_iff (k : Nat) (xs : List Item) : hasKey k xs = false ↔ ∀ e ∈ xs, e.1 ≠ k := by
  rw [← Bool.not_eq_true, hasKey_iff]
  exact ⟨fun h e he hk => h ⟨e, he, hk⟩, fun h ⟨e, he, hk⟩ => h e he hk⟩

theorem hasKey_perm {xs ys : List Item} (h : xs.Perm ys) (k : Nat) : hasKey k xs = hasKey k ys := by
  rw [Bool.eq_iff_iff, hasKey_iff, hasKey_iff]
  exact ⟨fun ⟨e, he, hk⟩ => ⟨e, h.subset he, hk⟩, fun ⟨e, he, hk⟩ => ⟨e, h.symm.subset he, hk⟩⟩

theorem hasKey_append (k : Nat) (a b : List Item) : hasKey k (a ++ b) = (hasKey k a || hasKey k b) := any_append

theorem nodupKeys_cons {y : Item} {t : List Item} : NodupKeys (y :: t) ↔ hasKey y.1 t = false ∧ NodupKeys t := by
  rw [NodupKeys, map_cons, nodup_cons, hasKey_false_iff]
  exact and_congr_left' ⟨fun h e he hk => h (mem_map.mpr ⟨e, he, hk⟩),
    fun h hm => by obtain ⟨e, he, hk⟩ := mem_map.mp hm; exact h e he hk⟩

theorem filter_ne_of_absent (l : List Item) (k : Nat) (h : hasKey k l = false) : l.filter (fun e => e.1 != k) = l :=
  filter_eq_self.mpr fun e he => bne_iff_ne.mpr ((hasKey_false_iff k l).mp h e he)

theorem filter_eq_of_absent (l : List Item) (k : Nat) (h : hasKey k l = false) : l.filter (fun e => e.1 == k) = [] :=
  filter_eq_nil_iff.mpr fun e he => mt beq_iff_eq.mp ((hasKey_false_iff k l).mp h e he)

theorem hFind_eq_uFind (xs : List Item) (k : Nat) : hFind xs k = uFind k xs := rfl

theorem uFind_cons (k : Nat) (y : Item) (t : List Item) : uFind k (y :: t) = if y.1 = k then some y else uFind k t := by
  rw [uFind, find?_cons]
  by_cases h : y.1 = k
  · rw [if_pos h, beq_iff_eq.mpr h]
  · rw [if_neg h, beq_false_of_ne h]; rfl

theorem uFind_none_iff (l : List Item) (k : Nat) : uFind k l = none ↔ hasKey k l = false := by
  rw [uFind, find?_eq_none, hasKey_false_iff]
  exact forall_congr' fun e => imp_congr_right fun _ => not_congr beq_iff_eq

theorem uFind_isSome (l : List Item) (k : Nat) : (uFind k l).isSome = hasKey k l := by
  rw [Bool.eq_iff_iff, uFind, find?_isSome, hasKey_iff]
  exact exists_congr fun e => and_congr_right fun _ => beq_iff_eq

theorem uFind_some_iff (l : List Item) (hn : NodupKeys l) (k : Nat) (e : Item) : uFind k l = some e ↔ e ∈ l ∧ e.1 = k :=
  find?_key_iff hn

theorem uFind_perm {xs ys : List Item} (h : xs.Perm ys) (hn : NodupKeys ys) (k : Nat) : uFind k xs = uFind k ys :=
  Option.ext fun e => by rw [uFind_some_iff xs (hn.perm h), uFind_some_iff ys hn, h.mem_iff]

theorem countKey_unique (l : List Item) (hn : NodupKeys l) (k : Nat) : countKey k l = if hasKey k l then 1 else 0 := by
  induction l with
  | nil => rfl
  | cons y t ih =>
    obtain ⟨hy, hn'⟩ := nodupKeys_cons.mp hn
    have ih : countP (fun e => e.1 == k) t = if hasKey k t then 1 else 0 := ih hn'
    rw [countKey, countP_cons, ih]
    show _ = if (y.1 == k || hasKey k t) = true then 1 else 0
    by_cases hk : y.1 = k
    · rw [beq_iff_eq.mpr hk, (hk ▸ hy : hasKey k t = false)]; rfl
    · rw [beq_false_of_ne hk]; rfl

/-- removing the element a key iterator denotes = removing by key -/
theorem hRemoveAt_hPos (l : List Item) (hn : NodupKeys l) (k : Nat) :
    hRemoveAt l (hPos l k) = l.filter (fun e => e.1 != k) := by
  induction l with
  | nil => rfl
  | cons y t ih =>
    obtain ⟨hy, hn'⟩ := nodupKeys_cons.mp hn
    rw [hRemoveAt, hPos, findIdx_cons, filter_cons]
    by_cases hk : y.1 = k
    · rw [beq_iff_eq.mpr hk, bne_eq_false_iff_eq.mpr hk, if_neg Bool.false_ne_true, filter_ne_of_absent t k (hk ▸ hy : hasKey k t = false)]; rfl
    · rw [beq_false_of_ne hk, bne_iff_ne.mpr hk, if_pos rfl]
      exact congrArg (y :: ·) (ih hn')

theorem getElem?_hPos (l : List Item) (k : Nat) : l[hPos l k]? = uFind k l := find?_eq_getElem?_findIdx.symm

end Momo.StdW
