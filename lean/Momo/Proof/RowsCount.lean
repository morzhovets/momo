import Momo.Proof.Rows
/-!
  Lemmas for the row hand-off model (C19): the counting clauses of the protocol invariant on the lists
  themselves (`Census`). They are invariant under permutation of each list (`Census.perm`: all that `Add`, `Extract`, the
  hand-over of a row object and the steps inside `~DataRow` before its CAS do), and every other step of the model that touches the lists is one of six
  moves of a block between them, each logging the event that keeps the counts balanced: `create` (`pool.Allocate`),
  `reclaim` / `reclaimWalk` (`pool.Deallocate` in `Remove` / in the owner's walk), `push` (a successful CAS), `take` (the
  owner's `exchange`), `grow` (fresh memory enters the pool).
-/
namespace Momo.Rows

theorem count_erase_not_mem {pool : List Row} {r : Row} (h : r ∉ pool) : pool.erase r = pool :=
  List.erase_of_not_mem h

/-- `X`: the blocks inside a running `~DataRow`, in detached rows and in the table; `P`: the pool; `L`, `W`: the
published and the taken chain -/
structure Census (X P L W : List Row) (log : List Ev) : Prop where
  nodup : ∀ r : Row, (X ++ P ++ L ++ W).count r ≤ 1
  cnt1 : ∀ r : Row, log.count (Ev.created r) = log.count (Ev.reclaimed r) + (X ++ L ++ W).count r
  cnt2 : ∀ r : Row, log.count (Ev.pushed r) = log.count (Ev.taken r) + L.count r

variable {X X' P P' L W : List Row} {log : List Ev} {r : Row}

theorem Census.perm (h : Census X P L W log) (hX : X.Perm X') (hP : P.Perm P') : Census X' P' L W log := by
  refine ⟨fun x => ?_, fun x => ?_, h.cnt2⟩
  · have := h.nodup x
    simp only [List.count_append, hX.count_eq, hP.count_eq] at this ⊢
    exact this
  · have := h.cnt1 x
    simp only [List.count_append, hX.count_eq] at this ⊢
    exact this

theorem Census.create (h : Census X (r :: P) L W log) : Census (r :: X) P L W (Ev.created r :: log) := by
  refine ⟨fun x => ?_, fun x => ?_, fun x => ?_⟩
  · have p : ((r :: X) ++ P ++ L ++ W).Perm (X ++ (r :: P) ++ L ++ W) :=
      ((List.perm_middle.append_right L).append_right W).symm
    exact Nat.le_trans (Nat.le_of_eq (p.count_eq x)) (h.nodup x)
  · have := h.cnt1 x
    simp only [List.cons_append, List.count_append, List.count_cons, beq_iff_eq, Ev.created.injEq, reduceCtorEq,
      if_false, Nat.add_zero] at this ⊢
    omega
  · simpa only [List.count_cons, beq_iff_eq, reduceCtorEq, if_false, Nat.add_zero] using h.cnt2 x

theorem Census.reclaim (h : Census (r :: X) P L W log) : Census X (r :: P) L W (Ev.reclaimed r :: log) := by
  refine ⟨fun x => ?_, fun x => ?_, fun x => ?_⟩
  · have p : (X ++ (r :: P) ++ L ++ W).Perm ((r :: X) ++ P ++ L ++ W) :=
      (List.perm_middle.append_right L).append_right W
    exact Nat.le_trans (Nat.le_of_eq (p.count_eq x)) (h.nodup x)
  · have := h.cnt1 x
    simp only [List.cons_append, List.count_append, List.count_cons, beq_iff_eq, Ev.reclaimed.injEq, reduceCtorEq,
      if_false, Nat.add_zero] at this ⊢
    omega
  · simpa only [List.count_cons, beq_iff_eq, reduceCtorEq, if_false, Nat.add_zero] using h.cnt2 x

theorem Census.reclaimWalk (h : Census X P L (r :: W) log) : Census X (r :: P) L W (Ev.reclaimed r :: log) := by
  refine ⟨fun x => ?_, fun x => ?_, fun x => ?_⟩
  · have p : (X ++ (r :: P) ++ L ++ W).Perm (X ++ P ++ L ++ (r :: W)) :=
      ((List.perm_middle.append_right L).append_right W).trans List.perm_middle.symm
    exact Nat.le_trans (Nat.le_of_eq (p.count_eq x)) (h.nodup x)
  · have := h.cnt1 x
    simp only [List.count_append, List.count_cons, beq_iff_eq, Ev.reclaimed.injEq, reduceCtorEq,
      if_false, Nat.add_zero] at this ⊢
    omega
  · simpa only [List.count_cons, beq_iff_eq, reduceCtorEq, if_false, Nat.add_zero] using h.cnt2 x

theorem Census.push (h : Census (r :: X) P L W log) : Census X P (r :: L) W (Ev.pushed r :: log) := by
  refine ⟨fun x => ?_, fun x => ?_, fun x => ?_⟩
  · have p : (X ++ P ++ (r :: L) ++ W).Perm ((r :: X) ++ P ++ L ++ W) := List.perm_middle.append_right W
    exact Nat.le_trans (Nat.le_of_eq (p.count_eq x)) (h.nodup x)
  · have := h.cnt1 x
    simp only [List.cons_append, List.count_append, List.count_cons, reduceCtorEq, beq_iff_eq, if_false,
      Nat.add_zero] at this ⊢
    omega
  · have := h.cnt2 x
    simp only [List.count_cons, beq_iff_eq, Ev.pushed.injEq, reduceCtorEq, if_false, Nat.add_zero] at this ⊢
    omega

theorem count_map_taken (L : List Row) (r : Row) : (L.map Ev.taken).count (Ev.taken r) = L.count r := by
  induction L with
  | nil => simp
  | cons a t ih => simp [List.count_cons, ih]

theorem count_map_taken_ne (L : List Row) (e : Ev) (h : ∀ r, e ≠ Ev.taken r) : (L.map Ev.taken).count e = 0 :=
  List.count_eq_zero.mpr fun hm => by
    obtain ⟨r, _, hr⟩ := List.mem_map.mp hm
    exact h r hr.symm

theorem Census.take (h : Census X P L [] log) : Census X P [] L (L.map Ev.taken ++ log) := by
  refine ⟨fun x => ?_, fun x => ?_, fun x => ?_⟩
  · have := h.nodup x
    simp only [List.count_append, List.count_nil] at this ⊢
    omega
  · have := h.cnt1 x
    simp only [List.count_append, List.count_nil, count_map_taken_ne L (Ev.created x) nofun,
      count_map_taken_ne L (Ev.reclaimed x) nofun] at this ⊢
    omega
  · have := h.cnt2 x
    simp only [List.count_append, List.count_nil, count_map_taken_ne L (Ev.pushed x) nofun, count_map_taken] at this ⊢
    omega

theorem Census.grow (h : Census X P L W log) (hr : r ∉ X ++ P ++ L ++ W) : Census X (r :: P) L W log := by
  refine ⟨fun x => ?_, h.cnt1, h.cnt2⟩
  have := h.nodup x
  have h0 := List.count_eq_zero.mpr hr
  simp only [List.count_append, List.count_cons, beq_iff_eq] at this h0 ⊢
  by_cases hx : r = x
  · subst hx; simp only [if_true]; omega
  · simp only [hx, if_false]; omega

/-! Used with `inflight ++ detRows ++ table` (the `X` of the census in `RInv_step`) and with the three parts of `owned`. -/
section
variable {α : Type} {I I' D D' T T' : List α} {r : α}

theorem perm_cons_held₁ (h : I'.Perm (r :: I)) : (I' ++ D ++ T).Perm (r :: (I ++ D ++ T)) :=
  (h.append_right D).append_right T

theorem perm_cons_held₂ (h : D'.Perm (r :: D)) : (I ++ D' ++ T).Perm (r :: (I ++ D ++ T)) :=
  ((h.append_left I).trans List.perm_middle).append_right T

theorem perm_cons_held₃ (h : T'.Perm (r :: T)) : (I ++ D ++ T').Perm (r :: (I ++ D ++ T)) :=
  (h.append_left (I ++ D)).trans List.perm_middle
end

end Momo.Rows
