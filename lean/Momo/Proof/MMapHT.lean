import Momo.Proof.MMapKeyMap
import Momo.Proof.HashTableOps
import Driver.HashTable
/-!
  C08: the hash-table model `Momo.HT` (C01) satisfies the key-map contract (`htLawful`), for every bucket description with `SpecOK` and every
  hash function; the three bucket kinds the C08 harness runs satisfy `SpecOK` (`mkSpec_ok_c08`; all nine kinds, under one more hypothesis:
  `HT.mkSpec_ok` in `Proof/HashTableRefine.lean`). Everything except `ResetKey` repackages the C01 theorems; `ResetKey` (`htSetTag`) is proved
  here: replacing the non-hashed part of one stored key keeps the traversal order of the keys, hence (`Shr.of_keys`, `TableInv.of_modify`) the
  table invariant.
-/
namespace Momo.MMap
open Momo Momo.HT

/-- what `htSetTag` (`Model/MMap.lean`) does to the bucket it found the key in: the `val` of item `j` becomes `tg`. The model writes this
    function as a lambda; `htSetTag_spec` relies on the two being the same term up to unfolding `retag`. -/
def retag (j tg : Nat) (bk : Bucket) : Bucket :=
  { bk with items := bk.items.modify j (fun it => { it with val := tg }) }

theorem modify_val_keys (l : List Item) (j tg : Nat) :
    (l.modify j (fun it => { it with val := tg })).map (·.key) = l.map (·.key) := by
  induction l generalizing j with
  | nil => simp
  | cons x xs ih =>
    cases j with
    | zero => simp
    | succ n => simp [ih n]

theorem retag_keys (j tg : Nat) (bk : Bucket) : (retag j tg bk).items.map (·.key) = bk.items.map (·.key) :=
  modify_val_keys bk.items j tg

theorem gensItems_modify_keys (gs : List Gen) (gi : Nat) (F : Gen → Gen)
    (h : ∀ g, (genItems (F g)).map (·.key) = (genItems g).map (·.key)) :
    (gensItems (gs.modify gi F)).map (·.key) = (gensItems gs).map (·.key) := by
  induction gs generalizing gi with
  | nil => simp
  | cons a as ih =>
    cases gi with
    | zero => simp only [List.modify_zero_cons, gensItems_cons, List.map_append, h a]
    | succ n => simp only [List.modify_succ_cons, gensItems_cons, List.map_append, ih n]

theorem htSetTag_spec (sp : Spec) (hf : Nat → Nat) (t : Table) (hI : TableInv sp hf t) (k tg : Nat) :
    TableInv sp hf (htSetTag sp hf t k tg) ∧
    (HT.traverse (htSetTag sp hf t k tg)).map (·.key) = (HT.traverse t).map (·.key) := by
  unfold htSetTag
  cases findTable sp hf t k with
  | none => exact ⟨hI, rfl⟩
  | some r =>
    -- the model writes `retag` as a lambda; this is where a change of that lambda shows
    show TableInv sp hf { t with gens := t.gens.modify r.1 fun g => { g with bs := updBkt sp g.bs r.2.1 (retag r.2.2 tg) } } ∧ _
    have hkeys := gensItems_modify_keys t.gens r.1 _
      (fun g => genItems_upd_map (·.key) sp g r.2.1 (retag r.2.2 tg) (retag_keys r.2.2 tg _))
    exact ⟨hI.of_modify r.1 (fun g hg => hg.of_updBkt r.2.1 (retag r.2.2 tg) (.of_keys (retag_keys r.2.2 tg _) rfl rfl)) (fun _ => rfl) (hkeys ▸ hI.core.nodup)
      (by have := congrArg List.length hkeys; simp only [List.length_map] at this; exact hI.core.count.trans this.symm), hkeys⟩

/-- the faults covered are `FaultsOK`: no interrupted migration where relocation cannot throw -/
def htLawful (sp : Spec) (hf : Nat → Nat) (ok : SpecOK sp) : KeyMap.Lawful (htKeyMap sp hf) where
  Inv t := TableInv sp hf t
  FOK f := FaultsOK sp f
  fok_default := fun _ => rfl
  inv_empty := emptyTable_inv sp hf
  keys_empty := rfl
  has_iff t k hI := findTable_spec sp hf t hI k
  nodup t hI := hI.core.nodup
  add_ok t k tg f hI hF hh hok := by
    have hnone : findTable sp hf t k = none := by
      simp only [htKeyMap] at hh
      cases h : findTable sp hf t k with
      | none => rfl
      | some r => rw [h] at hh; simp at hh
    have hk := findTable_none sp hf t hI k hnone
    obtain ⟨h1, h2⟩ := add_ok sp hf ok t ⟨k, tg⟩ f hI hF hk hok
    exact ⟨h1, by simpa [htKeyMap] using h2.map (·.key)⟩
  add_fail t k tg f hne := add_fail_unchanged sp hf t ⟨k, tg⟩ f hne
  del_ok t k hI hh := by
    simp only [htKeyMap] at hh ⊢
    unfold htDel
    cases h : findTable sp hf t k with
    | none => rw [h] at hh; simp at hh
    | some r =>
      obtain ⟨gi, b, j⟩ := r
      obtain ⟨g, it, hg, hj, hkey⟩ := findTable_some sp hf t k gi b j h
      obtain ⟨h1, h2⟩ := removePos_spec sp hf t hI gi b j g it hg hj
      refine ⟨h1, ?_⟩
      have := h2.map (·.key)
      simpa [hkey] using this
  clear_ok t hI := by
    obtain ⟨h1, h2⟩ := clear_spec sp hf ok t true hI
    exact ⟨h1, by simp [htKeyMap, h2]⟩
  reserve_ok t n hI := by
    obtain ⟨h1, h2, _⟩ := reserve_spec sp hf ok t n {} hI (fun _ => rfl)
    exact ⟨h1, by simpa [htKeyMap] using h2.map (fun (x : Item) => x.key)⟩
  setTag_ok t k tg hI := htSetTag_spec sp hf t hI k tg

/-- `Driver.HashTable.mkSpec` for the key-map buckets of the C08 harness: LimP4<n> (n ≥ 1, any item
    size / alignment / hash-code-part setting), Open8 and its fallback Open2N2<n>. -/
theorem mkSpec_ok_c08 (kind : String) (hk : kind = "LimP4" ∨ kind = "Open8" ∨ kind = "Open2N2")
    (n isz ial : Nat) (part fast reloc : Bool) (fullFrom logStart : Nat) (hn : 0 < n) :
    SpecOK (Driver.HashTable.mkSpec kind n isz ial part fast reloc fullFrom logStart) := by
  have hite : ∀ (c : Prop) [Decidable c], (if c then 0 else n) ≤ n := by
    intro c _; split <;> omega
  rcases hk with rfl | rfl | rfl
  · unfold Driver.HashTable.mkSpec
    simp only
    exact ⟨hn, fun _ => hite _, nofun, fun _ => capacityOf_le _ hn nofun, capacityOf_mono _ nofun⟩
  · unfold Driver.HashTable.mkSpec
    simp only
    exact ⟨Nat.zero_lt_succ _, fun _ => Nat.zero_le _, nofun,
      fun _ => capacityOf_le _ (Nat.zero_lt_succ _) (fun _ _ h => by cases h; decide),
      capacityOf_mono _ (fun _ _ h => by cases h; exact ⟨by decide, by show 14 ≤ 2 * (7 * 13); decide⟩)⟩
  · unfold Driver.HashTable.mkSpec
    simp only
    exact ⟨hn, fun _ => Nat.zero_le _, nofun, fun _ => capacityOf_le _ hn (fun _ _ h => by cases h; decide),
      capacityOf_mono _ (fun _ _ h => by cases h; exact ⟨by decide, by show 12 ≤ 2 * (n * 11); omega⟩)⟩

end Momo.MMap
