import Momo.Proof.BTreeBasic
/-!
  C02, search: both in-node strategies of `pvFindFirst(node, pred)` return the index of the first item satisfying a
  monotone predicate, and the descent of `pvFindFirst(pred)` returns the position whose in-order index is the index of
  the first element of the whole in-order list satisfying it. Core Lean only.
-/
namespace Momo.BTree
open Node
variable {α : Type}

/-- the predicate never goes back to `false` along the list (true for `!IsLess(item, key)` and `IsLess(key, item)` on
    a list sorted by a strict weak order) -/
def Mono (p : α → Bool) (l : List α) : Prop := l.Pairwise (fun x y => p x = true → p y = true)

theorem firstTrue_le (p : α → Bool) (l : List α) : firstTrue p l ≤ l.length := by
  induction l with
  | nil => simp [firstTrue]
  | cons x xs ih => simp only [firstTrue]; split <;> simp <;> omega

theorem firstTrue_eq_takeWhile (p : α → Bool) (l : List α) :
    firstTrue p l = (l.takeWhile (fun x => !p x)).length := by
  induction l with
  | nil => simp [firstTrue]
  | cons x xs ih =>
    simp only [firstTrue, List.takeWhile_cons]
    cases h : p x <;> simp [ih]

theorem firstTrue_false_before (p : α → Bool) (l : List α) (j : Nat) (hj : j < firstTrue p l) (x : α)
    (hx : l[j]? = some x) : p x = false := by
  induction l generalizing j with
  | nil => simp at hx
  | cons y ys ih =>
    simp only [firstTrue] at hj
    split at hj
    · omega
    · rename_i hy
      cases j with
      | zero => simp at hx; subst hx; simpa using hy
      | succ j' => exact ih j' (by omega) (by simpa using hx)

theorem firstTrue_true_at (p : α → Bool) (l : List α) (h : firstTrue p l < l.length) :
    ∃ x, l[firstTrue p l]? = some x ∧ p x = true := by
  induction l with
  | nil => simp at h
  | cons y ys ih =>
    simp only [firstTrue] at h ⊢
    split
    · rename_i hy; exact ⟨y, by simp, hy⟩
    · rename_i hy
      simp only [hy] at h
      have := ih (by simpa using h)
      simpa using this

theorem firstTrue_all_false (p : α → Bool) (l : List α) (h : ∀ x ∈ l, p x = false) : firstTrue p l = l.length := by
  induction l with
  | nil => simp [firstTrue]
  | cons y ys ih =>
    have hy := h y (by simp)
    simp [firstTrue, hy, ih (fun x hx => h x (by simp [hx]))]

theorem all_false_of_firstTrue_eq_length (p : α → Bool) (l : List α) : firstTrue p l = l.length → ∀ x ∈ l, p x = false := by
  induction l with
  | nil => simp
  | cons y ys ih =>
    intro h x hx
    simp only [firstTrue] at h
    split at h
    · simp at h
    · rename_i hy
      rcases List.mem_cons.mp hx with rfl | hx
      · simpa using hy
      · exact ih (by simpa using h) x hx

theorem firstTrue_append_false (p : α → Bool) (a b : List α) (h : ∀ x ∈ a, p x = false) :
    firstTrue p (a ++ b) = a.length + firstTrue p b := by
  induction a with
  | nil => simp
  | cons y ys ih =>
    have hy := h y (by simp)
    simp only [List.cons_append, firstTrue, hy, List.length_cons]
    rw [ih (fun x hx => h x (by simp [hx]))]
    simp; omega

theorem firstTrue_append_left (p : α → Bool) (a b : List α) (h : firstTrue p a < a.length) :
    firstTrue p (a ++ b) = firstTrue p a := by
  induction a with
  | nil => simp at h
  | cons y ys ih =>
    simp only [List.cons_append, firstTrue] at h ⊢
    split
    · rfl
    · rename_i hy
      simp only [hy] at h
      rw [ih (by simpa using h)]

theorem firstTrue_eq_of (p : α → Bool) (l : List α) (n : Nat) (h1 : ∀ j y, j < n → l[j]? = some y → p y = false)
    (h2 : n ≤ l.length) (h3 : ∀ y, l[n]? = some y → p y = true) : firstTrue p l = n := by
  rcases Nat.lt_trichotomy (firstTrue p l) n with h | h | h
  · obtain ⟨y, hy, hp⟩ := firstTrue_true_at p l (by omega)
    rw [h1 _ y h hy] at hp; cases hp
  · exact h
  · have hle := firstTrue_le p l
    obtain ⟨y, hy⟩ := ListFacts.getElem?_of_lt (l := l) (i := n) (by omega)
    have := firstTrue_false_before p l n h y hy
    rw [h3 y hy] at this; cases this

theorem Mono.true_after {p : α → Bool} {l : List α} (hm : Mono p l) (j : Nat) (hj : firstTrue p l ≤ j) (x : α)
    (hx : l[j]? = some x) : p x = true := by
  induction l generalizing j with
  | nil => simp at hx
  | cons y ys ih =>
    have hm' := List.pairwise_cons.mp hm
    simp only [firstTrue] at hj
    split at hj
    · rename_i hy
      cases j with
      | zero => simp at hx; subst hx; exact hy
      | succ j' =>
        have : x ∈ ys := List.mem_of_getElem? (by simpa using hx)
        exact hm'.1 x this hy
    · cases j with
      | zero => omega
      | succ j' => exact ih hm'.2 j' (by omega) (by simpa using hx)

theorem Mono.sublist {p : α → Bool} {l l' : List α} (hm : Mono p l) (h : l'.Sublist l) : Mono p l' :=
  List.Pairwise.sublist h hm

theorem findLin_eq (p : α → Bool) (l : List α) (hm : Mono p l) : findLin p l = firstTrue p l := by
  unfold findLin
  cases hl : l.getLast? with
  | none =>
    have : l = [] := by simpa using hl
    subst this; simp [firstTrue]
  | some last =>
    simp only
    split
    · rfl
    · rename_i hp
      symm; apply firstTrue_all_false
      intro x hx
      obtain ⟨init, rfl⟩ : ∃ init, l = init ++ [last] := List.getLast?_eq_some_iff.mp hl
      rcases List.mem_append.mp hx with hx | hx
      · have := (List.pairwise_append.mp hm).2.2 x hx last (by simp)
        cases hpx : p x with
        | false => rfl
        | true => exact absurd (this hpx) hp
      · simp at hx; subst hx; simpa using hp

theorem binLoop_of_le (p : α → Bool) (items : List α) (f lo hi : Nat) (h : hi ≤ lo) :
    binLoop p items f lo hi = lo := by
  cases f with
  | zero => rfl
  | succ f => unfold binLoop; exact if_neg (Nat.not_lt.mpr h)

theorem binLoop_eq (p : α → Bool) (l : List α) (hm : Mono p l) (fuel lo hi : Nat)
    (h1 : lo ≤ firstTrue p l) (h2 : firstTrue p l ≤ hi) (h3 : hi ≤ l.length) (h4 : hi - lo ≤ fuel) :
    binLoop p l fuel lo hi = firstTrue p l := by
  induction fuel generalizing lo hi with
  | zero => simp only [binLoop]; omega
  | succ f ih =>
    simp only [binLoop]
    by_cases hlt : lo < hi
    · rw [if_pos hlt]
      have hmid : lo ≤ (lo + hi) / 2 ∧ (lo + hi) / 2 < hi := by omega
      generalize (lo + hi) / 2 = mid at hmid ⊢
      obtain ⟨x, hx⟩ := ListFacts.getElem?_of_lt (l := l) (i := mid) (by omega)
      simp only [hx]
      by_cases hp : p x = true
      · rw [if_pos hp]
        refine ih lo _ h1 (Nat.le_of_not_lt fun hc => ?_) (by omega) (by omega)
        rw [firstTrue_false_before p l _ hc x hx] at hp; cases hp
      · rw [if_neg hp]
        exact ih _ hi (Nat.succ_le_of_lt (Nat.lt_of_not_le fun hc => hp (hm.true_after _ hc x hx))) h2 h3 (by omega)
    · rw [if_neg hlt]; omega

theorem findBin_eq (p : α → Bool) (l : List α) (hm : Mono p l) : findBin p l = firstTrue p l := by
  unfold findBin
  exact binLoop_eq p l hm l.length 0 l.length (Nat.zero_le _) (firstTrue_le p l) (Nat.le_refl _) (by omega)

theorem findIn_eq (lin : Bool) (p : α → Bool) (l : List α) (hm : Mono p l) : findIn lin p l = firstTrue p l := by
  unfold findIn; split
  · exact findLin_eq p l hm
  · exact findBin_eq p l hm

theorem items_sublist_inter (cs : List (Node α)) (is : List α) (hlen : cs.length = is.length + 1) :
    is.Sublist (inter cs is) := by
  induction cs generalizing is with
  | nil => simp at hlen
  | cons c cs ih =>
    cases is with
    | nil => simp
    | cons s is' =>
      simp only [inter_cons_cons]
      exact List.Sublist.trans (List.Sublist.cons_cons s (ih is' (by simpa using hlen)))
        (List.sublist_append_right _ _)

theorem child_sublist_inter (cs : List (Node α)) (is : List α) (i : Nat) (c : Node α) (hc : cs[i]? = some c)
    (hlen : cs.length = is.length + 1) : (toList c).Sublist (inter cs is) := by
  rw [inter_split cs is i c hc hlen]
  exact List.Sublist.trans (List.sublist_append_right _ _) (List.sublist_append_left _ _)

theorem preOf_all_false (p : α → Bool) (cs : List (Node α)) (is : List α) (i : Nat)
    (hm : Mono p (inter cs is)) (hlen : cs.length = is.length + 1) (hi : i ≤ is.length)
    (hf : ∀ j x, j < i → is[j]? = some x → p x = false) : ∀ x ∈ preOf cs is i, p x = false := by
  cases i with
  | zero => simp [preOf]
  | succ k =>
    -- `preOf (k+1)` ends with item `k`, which is false; whatever precedes a false element in a monotone list is false
    obtain ⟨c, hc⟩ := ListFacts.getElem?_of_lt (l := cs) (i := k) (by omega)
    obtain ⟨s, hs⟩ := ListFacts.getElem?_of_lt (l := is) (i := k) hi
    obtain ⟨c', hc'⟩ := exists_child hlen hi
    have hps := hf k s (Nat.lt_succ_self k) hs
    rw [inter_split cs is (k + 1) c' hc' hlen, preOf_succ cs is k c s hc hs] at hm
    rw [preOf_succ cs is k c s hc hs]
    intro x hx
    rcases List.mem_append.mp hx with hx | hx
    · cases hpx : p x with
      | false => rfl
      | true =>
        rw [(List.pairwise_append.mp (List.pairwise_append.mp (List.pairwise_append.mp hm).1).1).2.2 x hx s
          (List.mem_singleton.mpr rfl) hpx] at hps
        cases hps
    · rw [List.mem_singleton.mp hx]; exact hps

theorem firstTrue_append_head (p : α → Bool) (a b : List α) (h : ∀ y, b.head? = some y → p y = true) :
    firstTrue p (a ++ b) = firstTrue p a := by
  induction a with
  | nil =>
    cases b with
    | nil => rfl
    | cons y ys => simp only [List.nil_append, firstTrue, h y rfl, if_true]
  | cons x xs ih => simp only [List.cons_append, firstTrue, ih]

theorem postOf_head? (cs : List (Node α)) (is : List α) (i : Nat) : (postOf cs is i).head? = is[i]? := by
  unfold postOf
  rw [← List.head?_drop]
  cases is.drop i <;> rfl

/-- the search below a node looks into the child in front of the node's first true item: the first true element of the subtree
    is found there, or it is that item (the child's list then counts in full), or there is none -/
theorem firstTrue_inter (p : α → Bool) (cs : List (Node α)) (is : List α) (c : Node α) (hm : Mono p (inter cs is))
    (hlen : cs.length = is.length + 1) (hc : cs[firstTrue p is]? = some c) :
    firstTrue p (inter cs is) = (preOf cs is (firstTrue p is)).length + firstTrue p (toList c) := by
  rw [inter_split cs is _ c hc hlen, List.append_assoc, firstTrue_append_false p _ _ (preOf_all_false p cs is _ hm hlen
    (firstTrue_le p is) (fun j x hj hx => firstTrue_false_before p is j hj x hx)), firstTrue_append_head]
  intro y hy
  rw [postOf_head?] at hy
  obtain ⟨x, hx, hpx⟩ := firstTrue_true_at p is (ListFacts.lt_of_getElem? hy)
  rw [hx] at hy; cases hy; exact hpx

theorem findFirst_spec (lin : Bool) (p : α → Bool) {d : Nat} {n : Node α} (hb : Bal d n) (hm : Mono p (toList n)) :
    (∀ q, findFirst lin p n = some q →
        ValidElem n q.path q.idx ∧ idxOf n q.path q.idx = firstTrue p (toList n) ∧ firstTrue p (toList n) < size n) ∧
    (findFirst lin p n = none → firstTrue p (toList n) = size n) := by
  induction hb with
  | leaf cap items =>
    simp only [toList_leaf] at hm
    simp only [findFirst, findIn_eq lin p items hm, toList_leaf, size]
    constructor
    · intro q hq
      split at hq
      · rename_i hlt
        cases hq
        exact ⟨⟨leaf cap items, by simp, by simpa [Node.count] using hlt⟩, by simp, hlt⟩
      · cases hq
    · intro h
      split at h
      · cases h
      · have := firstTrue_le p items; omega
  | inner d items cs hlen hall ih =>
    simp only [toList_inner] at hm
    have hmi : Mono p items := hm.sublist (items_sublist_inter cs items hlen)
    have hfi := findIn_eq lin p items hmi
    have hle := firstTrue_le p items
    obtain ⟨c, hc⟩ := exists_child hlen hle
    have hmc : Mono p (toList c) := hm.sublist (child_sublist_inter cs items _ c hc hlen)
    have ihc := ih c (List.mem_of_getElem? hc) hmc
    have hsplit := inter_split cs items (firstTrue p items) c hc hlen
    have hprelen := preOf_length cs items (firstTrue p items) hle hlen
    have key := firstTrue_inter p cs items c hm hlen hc
    simp only [findFirst, hfi, findFirstAt_eq, hc, toList_inner, size]
    cases hff : findFirst lin p c with
    | some q =>
      obtain ⟨hv, hidx, hlt⟩ := ihc.1 q hff
      simp only
      constructor
      · intro q' hq'; cases hq'
        refine ⟨?_, ?_, ?_⟩
        · obtain ⟨m, hm1, hm2⟩ := hv
          exact ⟨m, by simp [hc, hm1], hm2⟩
        · simp only [idxOf_inner_cons, hc, hidx, key, hprelen]
        · rw [key, hsplit]
          simp only [List.length_append, size] at hlt ⊢
          omega
      · intro h; cases h
    | none =>
      have hnone : firstTrue p (toList c) = (toList c).length := ihc.2 hff
      simp only
      constructor
      · intro q' hq'
        split at hq'
        · rename_i hlt
          cases hq'
          -- the item `firstTrue p items` of this node is the first true element
          obtain ⟨x, hx⟩ := ListFacts.getElem?_of_lt hlt
          refine ⟨⟨inner items cs, by simp, by simpa [Node.count] using hlt⟩, ?_, ?_⟩
          · rw [idxOf_inner_nil, sum_take_succ cs _ c hc, key, hnone, hprelen]; simp [size]; omega
          · rw [key, hnone, hsplit, postOf_of_getElem? cs hx]
            simp only [List.length_append, List.length_cons]; omega
        · cases hq'
      · intro h
        split at h
        · cases h
        · rename_i hnlt
          have hpo : postOf cs items (firstTrue p items) = [] := by
            simp [postOf, Nat.le_antisymm hle (Nat.le_of_not_lt hnlt)]
          rw [key, hnone, hsplit, hpo]; simp

theorem findPos_idx (lin : Bool) (p : α → Bool) {d : Nat} {r : Node α} (hb : Bal d r) (hm : Mono p (toList r)) :
    idxOf r (findPos lin p r).path (findPos lin p r).idx = firstTrue p (toList r) := by
  have h := findFirst_spec lin p hb hm
  unfold findPos
  cases hf : findFirst lin p r with
  | some q => simpa using (h.1 q hf).2.1
  | none =>
    have := h.2 hf
    simp only [Option.getD_none, endPos, this]
    exact idxOf_count hb

/-- the search returns an element position or `endPos` (this is `ValidPos` of `BTreeIter`, which this file does not import) -/
theorem findPos_valid (lin : Bool) (p : α → Bool) {d : Nat} {r : Node α} (hb : Bal d r) (hm : Mono p (toList r)) :
    ValidElem r (findPos lin p r).path (findPos lin p r).idx ∨ findPos lin p r = endPos r := by
  have h := findFirst_spec lin p hb hm
  unfold findPos
  cases hf : findFirst lin p r with
  | some q => exact Or.inl (by simpa using (h.1 q hf).1)
  | none => exact Or.inr (by simp)

end Momo.BTree
