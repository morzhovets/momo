import Momo.Translated
import Momo.Proof.Word64
import Momo.Model.Arr
import Momo.Model.BTree
import Momo.Model.Sort
/-!
  C05 `ArraySettings::GrowCapacity`, C02 `TreeNode::GetSplitItemIndex`, C17 `HashSorter::pvGetStepCount` as translated from the
  headers (base table: the function table inside tools/translate.py → lean/Momo/Translated.lean) are the model functions
  `Arr.growCapacity`, `BTree.splitIdx`, `Sort.stepCount`.

  The `TrEq*` files follow the translator's areas (tools/translate.py writes one generated file per area of translation specs, all
  in namespace `Momo.Tr`; an area is not a property): `TrEqMisc` (this file), `TrEqSeg`, `TrEqProbe` are about the base table,
  `TrEq<Area>` about `Momo/Translated/<Area>.lean` (from tools/trspecs/<Area>.py), `TrEqMisc2<Topic>` about area Misc (the `2` only
  keeps these apart from this file), `TrEqWave2<Topic>` about areas Wave2 / Wave2Meta; each header names its property.
  Every generated file is rewritten from the current headers on every check; a changed function body makes the equality about it
  fail to elaborate.
-/
namespace Momo.TrEq
open Momo Momo.Seg

/-- below `2^62` none of the products and sums of `GrowCapacity` wraps -/
theorem tr_growCapacity (gor : Bool) (cap minNew : Nat) (reserve linear : Bool) (hc : cap < 2 ^ 62) :
    Tr.arr_GrowCapacity gor cap minNew reserve linear = Arr.growCapacity gor cap minNew reserve linear := by
  unfold Tr.arr_GrowCapacity Arr.growCapacity
  rw [mul64_of_lt (a := cap) (by omega), add64_of_lt (a := cap) (b := 64) (by omega),
    mul64_of_lt (a := cap / 50) (by omega), add64_of_lt (by omega)]
  simp only [decide_eq_true_eq, ite_lt_eq_max]

theorem tr_splitIdx (n i : Nat) : Tr.tree_GetSplitItemIndex n i = BTree.splitIdx n i := by
  unfold Tr.tree_GetSplitItemIndex BTree.splitIdx
  simp only [Bool.and_eq_true, decide_eq_true_eq]
  split
  · next h => exact sub64_of_le (Nat.zero_lt_of_lt h.2)
  · rfl

theorem tr_stepCount (count : Nat) : Tr.hs_pvGetStepCount count = Sort.stepCount count := by
  unfold Tr.hs_pvGetStepCount Sort.stepCount
  -- the generated def casts the whole nested `?:` to `size_t`; push the cast to the four constant leaves
  simp only [decide_eq_true_eq, Nat.one_shiftLeft, apply_ite w64]
  rfl

end Momo.TrEq
