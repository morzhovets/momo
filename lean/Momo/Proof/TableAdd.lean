import Momo.Proof.TableIdx
/-!
  C07, table level: the invariant of a table (`Inv`) and "unchanged" (`TEquiv`). A row-level operation of `DataIndexes` is two passes
  over the indexes followed by an accept phase, or by a reject phase if a pass was stopped; that shape is proved once (`PassStep`,
  `pass_spec`, `indexPass_spec`), and `AddRaw`, `UpdateRaw` and the single-column update supply the step of one index each. Here
  `AddRaw` / `TryAdd`: a successful add keeps the invariant, a refused or failed one leaves the table unchanged. Also renumbering as a
  row-by-row relation (`setNumbers_rel`, `setNumbers_nums`) and the ways every operation gets the invariant of the new table:
  `Inv_of_sim`, `Inv_of_perm_rel` (its indexes are consistent with a store of which its rows are a rearrangement, renumbered),
  `Inv_renumbered` (the case `pvSetNumbers(0)`), `Inv_empty`.
-/
namespace Momo.Table
open List

/-- what a `DataTable` is between two operations: the rows are distinct raws at distinct addresses, numbered by position if
    `keepRowNumber`, and every index is consistent with them (`UInv` / `MInv` against `t.rows`). Every operation re-establishes it
    by showing `UInv` / `MInv` of the new indexes against some store and relating that store to the new rows (`Inv_of_sim`,
    `Inv_of_perm_rel`, `Inv_renumbered`). -/
structure Inv (acc : Acc) (keep : Bool) (t : Table) : Prop where
  idsNodup : (ids t.rows).Nodup
  addrInj : AddrInj t.rows
  nums : keep = true → ∀ (i : Nat) (r : Row), t.rows[i]? = some r → r.num = i
  uinv : ∀ u ∈ t.uidx, UInv acc t.rows u
  minv : ∀ m ∈ t.midx, MInv acc t.rows m

/-- "the table is unchanged": the multi indexes up to `MEquiv` only, since a rejected `pvAdd` may have sorted a segment -/
def TEquiv (t t' : Table) : Prop := t'.rows = t.rows ∧ t'.uidx = t.uidx ∧ Forall₂ MEquiv t.midx t'.midx

/-- the content of `C07_rows_distinct` -/
theorem rows_pairwise_distinct {acc : Acc} {keep : Bool} {t : Table} (hinv : Inv acc keep t) {u : UIdx} (hu : u ∈ t.uidx) :
    t.rows.Pairwise (fun a b => keyEq u.cols a.vals b.vals = false) := by
  have hnd := hinv.idsNodup
  have : t.rows.Pairwise (fun a b => a.id ≠ b.id) := by
    unfold ids at hnd; exact (pairwise_map.mp hnd)
  refine this.imp_of_mem ?_
  intro a b ha hb hne
  by_contra hk
  have hk' : keyEq u.cols a.vals b.vals = true := by simpa using hk
  apply hne
  have := (hinv.uinv u hu).uniq a.id (mem_ids_iff.mpr ⟨a, ha, rfl⟩) b.id (mem_ids_iff.mpr ⟨b, hb, rfl⟩)
  rw [valsOf_mem hnd ha, valsOf_mem hnd hb] at this
  exact this hk'

theorem TEquiv.refl (t : Table) : TEquiv t t := ⟨rfl, rfl, forall₂_same.mpr (fun m _ => MEquiv.refl m)⟩

theorem Fault.ne_none_of_hits {f : Fault} {j : Nat} (h : f.hits j = true) : f ≠ .none := by
  intro e; subst e; cases h

/-- what one index does in a pass `loop` of a row-level operation: a failure strikes in it (`F`), it refuses the row because
    of a row `x` (`D x`), or the pass goes on; in each case it is left as some `a'` (`Rej a'`: what a rejection will make of
    it, `Ok a'`: what the acceptance will) -/
def PassStep {α : Type} (loop : Nat → List α → List α × Stop) (j : Nat) (a : α) (rest : List α)
    (Rej : α → Prop) (D : Nat → Prop) (Ok : α → Prop) (F : Prop) : Prop :=
  (∃ a', loop j (a :: rest) = (a' :: rest, .fault) ∧ Rej a' ∧ F) ∨
  (∃ a' x, loop j (a :: rest) = (a' :: rest, .dup x j) ∧ Rej a' ∧ D x) ∨
  (∃ a', loop j (a :: rest) = Prod.map (a' :: ·) id (loop (j + 1) rest) ∧ Rej a' ∧ Ok a')

/-- one pass over a list of indexes, each of which steps as `PassStep` says: `R a b` = "`b` is `a` again" (equality for unique
    indexes, `MEquiv` + invariant for multi indexes), `rej` the reject phase, `D a x` = "`a` refuses because of row `x`",
    `A a a'` = "`a'`, accepted, is consistent with the new rows", `F` = "a failure was injected" -/
theorem pass_spec {α : Type} (loop : Nat → List α → List α × Stop) (hnil : ∀ j, loop j [] = ([], .none)) (rej : α → α)
    (R : α → α → Prop) (D : α → Nat → Prop) (A : α → α → Prop) (F : Prop) :
    ∀ (as : List α) (j : Nat),
      (∀ a ∈ as, R a (rej a) ∧ ∀ j rest, PassStep loop j a rest (fun a' => R a (rej a')) (D a) (A a) F) →
      Forall₂ R as ((loop j as).1.map rej) ∧
      match (loop j as).2 with
      | .none => Forall₂ A as (loop j as).1
      | .dup x jj => ∃ i a, jj = j + i ∧ as[i]? = some a ∧ D a x ∧ ∀ i' a', i' < i → as[i']? = some a' → ∃ b, A a' b
      | .fault => F := by
  intro as
  induction as with
  | nil => intro j _; rw [hnil]; exact ⟨Forall₂.nil, Forall₂.nil⟩
  | cons a as ih =>
    intro j h
    have hrest : Forall₂ R as (as.map rej) :=
      forall₂_map_right_iff.mpr (forall₂_same.mpr fun x hx => (h x (mem_cons_of_mem _ hx)).1)
    rcases (h a mem_cons_self).2 j as with ⟨a', he, hr, hF⟩ | ⟨a', x, he, hr, hD⟩ | ⟨a', he, hr, hA⟩
    · rw [he]; exact ⟨Forall₂.cons hr hrest, hF⟩
    · rw [he]; exact ⟨Forall₂.cons hr hrest, 0, a, rfl, rfl, hD, fun i' _ hi' => absurd hi' (Nat.not_lt_zero _)⟩
    · have ih' := ih (j + 1) (fun x hx => h x (mem_cons_of_mem _ hx))
      rw [he]
      generalize loop (j + 1) as = res at ih'
      obtain ⟨l, s⟩ := res
      refine ⟨Forall₂.cons hr ih'.1, ?_⟩
      cases s with
      | none => exact Forall₂.cons hA ih'.2
      | fault => exact ih'.2
      | dup x jj =>
        obtain ⟨i, b, hjj, hget, hD, hprev⟩ := ih'.2
        refine ⟨i + 1, b, by omega, hget, hD, fun i' a'' hi' hg => ?_⟩
        cases i' with
        | zero => cases hg; exact ⟨a', hA⟩
        | succ i' => exact hprev i' a'' (Nat.lt_of_succ_lt_succ hi') hg

/-- the two passes of a row-level operation of `DataIndexes` (unique indexes, then multi indexes) followed by its accept
    phase, or by its reject phase if a pass was stopped. The model's `addRaw`, `updateRaw`, `updateRawCol` are it by `rfl`
    (`addRaw_eq_indexPass`, `updateRaw_eq_indexPass`, `updateRawCol_eq_indexPass`), and their `_spec` theorems are
    `indexPass_spec` behind that rewrite. -/
def indexPass (uloop : Nat → List UIdx → List UIdx × Stop) (mloop : Nat → List MIdx → List MIdx × Stop)
    (uacc urej : UIdx → UIdx) (macc mrej : MIdx → MIdx) (t : Table) : Table × Stop :=
  match uloop 0 t.uidx with
  | (us, .none) =>
    match mloop t.uidx.length t.midx with
    | (ms, .none) => ({ t with uidx := us.map uacc, midx := ms.map macc }, .none)
    | (ms, s) => ({ t with uidx := us.map urej, midx := ms.map mrej }, s)
  | (us, s) => ({ t with uidx := us.map urej, midx := t.midx.map mrej }, s)

theorem addRaw_eq_indexPass (vis : Vis) (acc : Acc) (t : Table) (st : Store) (raw : Nat) (f : Fault) :
    addRaw vis acc t st raw f = indexPass (uAddAll vis acc st raw f) (mAddAll vis acc st raw f) UIdx.acceptAdd UIdx.rejectAdd
      MIdx.acceptAdd MIdx.rejectAdd t := rfl

/-- `D u x`: unique index `u` refuses the row because of row `x`; `P u`: no row is in the way in `u`; `F`: a failure was
    injected; `st'`: the rows if the operation is accepted. A multi index never refuses, hence `fun _ => False` for its `D`. -/
theorem indexPass_spec (acc : Acc) (keep : Bool) {t : Table} (hinv : Inv acc keep t) (st' : Store)
    (uloop : Nat → List UIdx → List UIdx × Stop) (mloop : Nat → List MIdx → List MIdx × Stop)
    (uacc urej : UIdx → UIdx) (macc mrej : MIdx → MIdx) (D : UIdx → Nat → Prop) (P : UIdx → Prop) (F : Prop)
    (hunil : ∀ j, uloop j [] = ([], .none)) (hmnil : ∀ j, mloop j [] = ([], .none))
    (hU : ∀ u ∈ t.uidx, u = urej u ∧ ∀ j rest,
      PassStep uloop j u rest (fun u' => u = urej u') (D u) (fun u' => UInv acc st' (uacc u') ∧ P u) F)
    (hM : ∀ m ∈ t.midx, m = mrej m ∧ ∀ j rest,
      PassStep mloop j m rest (fun m' => MEquiv m (mrej m') ∧ MInv acc t.rows (mrej m')) (fun _ => False)
        (fun m' => MInv acc st' (macc m')) F) :
    match (indexPass uloop mloop uacc urej macc mrej t).2 with
    | .none => (∀ u ∈ (indexPass uloop mloop uacc urej macc mrej t).1.uidx, UInv acc st' u) ∧
               (∀ m ∈ (indexPass uloop mloop uacc urej macc mrej t).1.midx, MInv acc st' m) ∧ ∀ u ∈ t.uidx, P u
    | .dup x j => TEquiv t (indexPass uloop mloop uacc urej macc mrej t).1 ∧
               Inv acc keep (indexPass uloop mloop uacc urej macc mrej t).1 ∧
               ∃ u, t.uidx[j]? = some u ∧ D u x ∧ ∀ i' u', i' < j → t.uidx[i']? = some u' → P u'
    | .fault => TEquiv t (indexPass uloop mloop uacc urej macc mrej t).1 ∧
               Inv acc keep (indexPass uloop mloop uacc urej macc mrej t).1 ∧ F := by
  have hU' := pass_spec uloop hunil urej Eq D (fun u u' => UInv acc st' (uacc u') ∧ P u) F t.uidx 0
    hU
  have hM' := pass_spec mloop hmnil mrej (fun m m' => MEquiv m m' ∧ MInv acc t.rows m') (fun _ _ => False)
    (fun _ m' => MInv acc st' (macc m')) F t.midx t.uidx.length
    (fun m hm => ⟨by rw [← (hM m hm).1]; exact ⟨MEquiv.refl m, hinv.minv m hm⟩, (hM m hm).2⟩)
  have hidm : t.midx.map mrej = t.midx := by
    rw [map_congr_left (fun m hm => (hM m hm).1.symm), map_id']
  unfold indexPass
  generalize uloop 0 t.uidx = ru at hU'
  obtain ⟨us, s⟩ := ru
  have hus : us.map urej = t.uidx := (forall₂_eq_eq_eq ▸ hU'.1 : t.uidx = us.map urej).symm
  cases s with
  | none =>
    have hA : Forall₂ (fun u u' => UInv acc st' (uacc u') ∧ P u) t.uidx us := hU'.2
    generalize mloop t.uidx.length t.midx = rm at hM'
    obtain ⟨ms, s2⟩ := rm
    cases s2 with
    | none =>
      refine ⟨fun u hu => ?_, fun m hm => ?_, fun u hu => ?_⟩
      · obtain ⟨u0, hu0, rfl⟩ := mem_map.mp hu
        obtain ⟨_, _, h⟩ := forall₂_mem_right hA hu0
        exact h.1
      · obtain ⟨m0, hm0, rfl⟩ := mem_map.mp hm
        obtain ⟨_, _, h⟩ := forall₂_mem_right (show Forall₂ _ t.midx ms from hM'.2) hm0
        exact h
      · obtain ⟨_, _, h⟩ := forall₂_mem_left hA hu
        exact h.2
    | dup x jj => obtain ⟨_, _, _, _, h, _⟩ := hM'.2; exact h.elim
    | fault =>
      dsimp only
      rw [hus]
      exact ⟨⟨rfl, rfl, hM'.1.imp fun _ _ h => h.1⟩,
        ⟨hinv.idsNodup, hinv.addrInj, hinv.nums, hinv.uinv, fun m' hm' => by
          obtain ⟨_, _, h⟩ := forall₂_mem_right hM'.1 hm'; exact h.2⟩, hM'.2⟩
  | dup x jj =>
    obtain ⟨i, u, hjj, hget, hD, hprev⟩ := hU'.2
    dsimp only
    rw [hus, hidm]
    refine ⟨TEquiv.refl t, hinv, u, by rw [hjj, Nat.zero_add]; exact hget, hD, fun i' u' hi' hg => ?_⟩
    obtain ⟨_, h⟩ := hprev i' u' (by omega) hg
    exact h.2
  | fault =>
    dsimp only
    rw [hus, hidm]
    exact ⟨TEquiv.refl t, hinv, hU'.2⟩

section add
variable {vis : Vis} (hc : Complete vis) (acc : Acc) {st0 : Store} (hnd : (ids st0).Nodup) (hai : AddrInj st0)
  {r : Row} (hr : r.id ∉ ids st0)
include hc hnd hr

theorem uAddAll_step (f : Fault) (u : UIdx) (hu : UInv acc st0 u) (j : Nat) (rest : List UIdx) :
    PassStep (uAddAll vis acc (st0 ++ [r]) r.id f) j u rest (fun u' => u = u'.rejectAdd)
      (fun x => ∃ row ∈ st0, row.id = x ∧ keyEq u.cols r.vals row.vals = true)
      (fun u' => UInv acc (st0 ++ [r]) u'.acceptAdd ∧ ∀ x ∈ st0, keyEq u.cols r.vals x.vals = false) (f ≠ .none) := by
  rcases UIdx.add_new hc acc hnd (st := st0 ++ [r]) (fun x hx => valsOf_append_left [r] hx) (valsOf_append_right r hr) u hu
    with ⟨x, hx, p, _, _, hk, he⟩ | ⟨hno, he⟩
  · have hne : (x.id != r.id) = true := by
      have : x.id ≠ r.id := fun e => hr (e ▸ mem_ids_iff.mpr ⟨x, hx, rfl⟩)
      simpa using this
    refine Or.inr (Or.inl ⟨u, x.id, ?_, (UIdx.rejectAdd_noPos u hu.noPos.1).symm, x, hx, rfl, hk⟩)
    rw [uAddAll, he none (f.hits j), if_neg (by simp)]
    exact if_pos hne
  · by_cases hf : f.hits j = true
    · refine Or.inl ⟨u, ?_, (UIdx.rejectAdd_noPos u hu.noPos.1).symm, Fault.ne_none_of_hits hf⟩
      rw [uAddAll, he none (f.hits j), if_pos hf]
    · refine Or.inr (Or.inr ⟨uAdded acc u r.id r.vals, ?_, (UIdx.rejectAdd_uAdded acc u r.id r.vals hu.noPos.1).symm,
        UInv_add acc hnd hu hr hno, hno⟩)
      rw [uAddAll, he none (f.hits j), if_neg hf]
      exact if_neg (by simp)

include hai

omit hc hr in
/-- what a failed or rejected `pvAdd` on the group `g` leaves: `pvAdd` sorts the last full segment of the raw array before it
    appends. The first two conjuncts are what `segSorted_pvAdd` needs of the array. -/
theorem MInv.pvAdd_rejected {m : MIdx} (hm : MInv acc st0 m) {addr : Nat → Nat} (haddr : ∀ x ∈ ids st0, addr x = addrOf st0 x)
    {A B : List Group} {g : Group} (hsplit : m.groups = A ++ g :: B) :
    (g.raws.map addr).Nodup ∧ SegSorted addr g.raws ∧
    MEquiv m { m with groups := A ++ { g with raws := pvAddSort addr g.raws } :: B } ∧
    MInv acc st0 { m with groups := A ++ { g with raws := pvAddSort addr g.raws } :: B } := by
  have hgm : g ∈ m.groups := by rw [hsplit]; exact mem_append_right _ mem_cons_self
  have hsub : ∀ y ∈ g.raws, y ∈ ids st0 := fun y hy => hm.members_sub hgm y (mem_cons_of_mem _ hy)
  have hndA : (g.raws.map addr).Nodup := by
    rw [map_congr_left (fun y hy => haddr y (hsub y hy))]
    exact (nodup_cons.mp (hm.members_addr_nodup hnd hai g hgm)).2
  have hsA : SegSorted addr g.raws := (SegSorted_congr (fun y hy => haddr y (hsub y hy))).mpr (hm.sorted g hgm)
  have hS := pvAddSort_perm addr g.raws
  refine ⟨hndA, hsA, ⟨rfl, rfl, rfl, ?_⟩, ?_⟩
  · show Forall₂ _ m.groups (A ++ _ :: B)
    rw [hsplit]
    exact rel_append (forall₂_same.mpr fun _ _ => ⟨rfl, rfl, Perm.refl _⟩)
      (Forall₂.cons ⟨rfl, rfl, hS⟩ (forall₂_same.mpr fun _ _ => ⟨rfl, rfl, Perm.refl _⟩))
  · refine MInv_replace_raws acc hm hnd (fun x _ => rfl) (fun x _ => rfl) hsplit _ [] (by simp) (by simpa using hS)
      (by simp) ((SegSorted_congr ?_).mp (segSorted_pvAddSort _ _ hndA hsA))
    intro y hy; exact haddr y (hsub y (hS.mem_iff.mp hy))

/-- `MultiHash::Add(raw)` of a new raw, then `AcceptAdd` / `RejectAdd`; the functors read the rows through `st` -/
theorem MIdx.add_spec {st : Store} (hst : StoreAgree (st0 ++ [r]) st) (m : MIdx) (hm : MInv acc st0 m) :
    MInv acc (st0 ++ [r]) (m.add vis acc st r.id false).1.acceptAdd ∧
    (∀ fail, (m.add vis acc st r.id fail).2 = !fail ∧
      MEquiv m (m.add vis acc st r.id fail).1.rejectAdd ∧
      MInv acc st0 (m.add vis acc st r.id fail).1.rejectAdd) := by
  have hval : ∀ x ∈ ids st0, valsOf (st0 ++ [r]) x = valsOf st0 x := fun x hx => valsOf_append_left _ hx
  have hadr : ∀ x ∈ ids st0, addrOf (st0 ++ [r]) x = addrOf st0 x := fun x hx => addrOf_append_left _ hx
  have hin : ∀ x ∈ ids st0, x ∈ ids (st0 ++ [r]) := fun x hx => by rw [ids_append]; exact mem_append_left _ hx
  have hrin : r.id ∈ ids (st0 ++ [r]) := by rw [ids_append]; exact mem_append_right _ mem_cons_self
  have hS : ∀ x ∈ ids st0, addrOf st x = addrOf st0 x := fun x hx => (hst x (hin x hx)).2.trans (hadr x hx)
  rcases MIdx.add_new hc acc (fun x hx => (hst x (hin x hx)).1.trans (hval x hx)) hr
      ((hst r.id hrin).1.trans (valsOf_append_right r hr)) m hm with ⟨A, g, B, hsplit, hk, he⟩ | ⟨hno, he⟩
  · have hgm : g ∈ m.groups := by rw [hsplit]; simp
    have hraws_sub : ∀ y ∈ g.raws, y ∈ ids st0 := fun y hy => hm.members_sub hgm y (mem_cons_of_mem _ hy)
    obtain ⟨hndA, hsA, hrej⟩ := MInv.pvAdd_rejected acc hnd hai hm hS hsplit
    have hS' := pvAddSort_perm (addrOf st) g.raws
    constructor
    · rw [he false]
      have : ({ m with groups := A ++ { g with raws := pvAddSort (addrOf st) g.raws ++ [r.id] } :: B,
                       kAdd := some A.length } : MIdx).acceptAdd =
          { m with groups := A ++ { g with raws := pvAddSort (addrOf st) g.raws ++ [r.id] } :: B } := by
        unfold MIdx.acceptAdd; rw [hm.noPos.1]
      rw [if_neg (by simp), this]
      apply MInv_replace_raws acc hm hnd hval hadr hsplit _ [r.id] (by rw [ids_append])
        (Perm.append_right _ hS')
      · intro x hx; rw [mem_singleton.mp hx]
        rw [valsOf_append_right r hr, hval _ (hm.members_sub hgm _ mem_cons_self), keyEq_symm]; exact hk
      · refine (SegSorted_congr ?_).mp (segSorted_pvAdd _ _ _ hndA hsA)
        intro y hy
        rcases mem_append.mp hy with h | h
        · exact (hst y (hin y (hraws_sub y (hS'.mem_iff.mp h)))).2
        · rw [mem_singleton.mp h]; exact (hst r.id hrin).2
    · intro fail
      rw [he fail]
      cases fail
      · rw [if_neg (by simp), MIdx.rejectAdd_pvAdded m hm.noPos.1]
        exact ⟨rfl, hrej⟩
      · rw [if_pos rfl, MIdx.rejectAdd_noPos _ (by exact hm.noPos.1)]
        exact ⟨rfl, hrej⟩
  · constructor
    · rw [he false, if_neg (by simp)]
      exact MInv_append_group acc hm hr hno
    · intro fail
      rw [he fail]
      cases fail
      · rw [if_neg (by simp), MIdx.rejectAdd_mAddedNew acc m r.id r.vals hm.noPos.1]
        exact ⟨rfl, MEquiv.refl m, hm⟩
      · rw [if_pos rfl, MIdx.rejectAdd_noPos _ hm.noPos.1]
        exact ⟨rfl, MEquiv.refl m, hm⟩

theorem mAddAll_step (f : Fault) (m : MIdx) (hm : MInv acc st0 m) (j : Nat) (rest : List MIdx) :
    PassStep (mAddAll vis acc (st0 ++ [r]) r.id f) j m rest (fun m' => MEquiv m m'.rejectAdd ∧ MInv acc st0 m'.rejectAdd)
      (fun _ => False) (fun m' => MInv acc (st0 ++ [r]) m'.acceptAdd) (f ≠ .none) := by
  obtain ⟨hacc, hall⟩ := MIdx.add_spec hc acc hnd hai hr (StoreAgree.refl _) m hm
  obtain ⟨h2, hrej⟩ := hall (f.hits j)
  by_cases hf : f.hits j = true
  · refine Or.inl ⟨_, ?_, hrej, Fault.ne_none_of_hits hf⟩
    rw [mAddAll, if_neg (by rw [h2, hf]; simp)]
  · have hff : f.hits j = false := by simpa using hf
    refine Or.inr (Or.inr ⟨_, ?_, hrej, by rw [hff]; exact hacc⟩)
    rw [mAddAll, if_pos (by rw [h2, hff]; rfl)]

end add

theorem setNum_id (keep : Bool) (r : Row) (n : Nat) : (setNum keep r n).id = r.id := by unfold setNum; split <;> rfl
theorem setNum_vals (keep : Bool) (r : Row) (n : Nat) : (setNum keep r n).vals = r.vals := by unfold setNum; split <;> rfl
theorem setNum_addr (keep : Bool) (r : Row) (n : Nat) : (setNum keep r n).addr = r.addr := by unfold setNum; split <;> rfl
theorem rowRel_setNum (keep : Bool) (r : Row) (n : Nat) : RowRel r (setNum keep r n) :=
  ⟨setNum_id keep r n, setNum_vals keep r n, setNum_addr keep r n⟩

theorem setNum_num (r : Row) (n : Nat) : (setNum true r n).num = n := by simp [setNum]

theorem setNumbersFrom_rel (keep : Bool) : ∀ (rows : List Row) (n : Nat),
    Forall₂ RowRel rows (setNumbersFrom keep n rows)
  | [], _ => Forall₂.nil
  | r :: rs, n => Forall₂.cons (rowRel_setNum keep r n) (setNumbersFrom_rel keep rs (n + 1))

theorem setNumbers_rel (keep : Bool) (rows : List Row) (n : Nat) :
    Forall₂ RowRel rows (setNumbers keep n rows) := by
  unfold setNumbers
  conv => arg 2; rw [← take_append_drop n rows]
  exact rel_append (forall₂_rowRel_refl _) (setNumbersFrom_rel keep _ n)

theorem setNumbers_sim (keep : Bool) (rows : List Row) (n : Nat) : StoreSim rows (setNumbers keep n rows) :=
  storeSim_of_forall₂ (setNumbers_rel keep rows n)

theorem setNumbersFrom_getElem? : ∀ (rows : List Row) (n i : Nat) (x : Row),
    (setNumbersFrom true n rows)[i]? = some x → x.num = n + i
  | [], _, _, _, h => by simp [setNumbersFrom] at h
  | r :: rs, n, 0, x, h => by
      simp [setNumbersFrom] at h; rw [← h, setNum_num]; rfl
  | r :: rs, n, i + 1, x, h => by
      simp only [setNumbersFrom, getElem?_cons_succ] at h
      have := setNumbersFrom_getElem? rs (n + 1) i x h
      omega

theorem setNumbers_nums (rows : List Row) (n : Nat) (hpre : ∀ (i : Nat) (x : Row), i < n → rows[i]? = some x → x.num = i) :
    ∀ (i : Nat) (x : Row), (setNumbers true n rows)[i]? = some x → x.num = i := by
  intro i x hx
  unfold setNumbers at hx
  by_cases hi : i < (rows.take n).length
  · rw [getElem?_append_left hi, getElem?_take] at hx
    rw [length_take] at hi
    rw [if_pos (by omega)] at hx
    exact hpre i x (by omega) hx
  · rw [getElem?_append_right (by omega)] at hx
    have := setNumbersFrom_getElem? _ _ _ _ hx
    rw [length_take] at this hi
    by_cases hn : n ≤ rows.length
    · rw [Nat.min_eq_left hn] at this hi; omega
    · have : rows.drop n = [] := drop_eq_nil_of_le (by omega)
      rw [this] at hx; simp [setNumbersFrom] at hx

theorem Inv_of_sim {acc : Acc} {keep : Bool} {t : Table} {st : Store} (hsim : StoreSim st t.rows) (hnd : (ids t.rows).Nodup)
    (hai : AddrInj t.rows) (hnum : keep = true → ∀ (i : Nat) (r : Row), t.rows[i]? = some r → r.num = i)
    (hu : ∀ u ∈ t.uidx, UInv acc st u) (hm : ∀ m ∈ t.midx, MInv acc st m) : Inv acc keep t :=
  ⟨hnd, hai, hnum, fun u h => UInv_sim hsim (hu u h), fun m h => MInv_sim hsim (hm m h)⟩

theorem Inv_of_perm_rel {acc : Acc} {keep : Bool} {t : Table} {st mid : Store} (hnd : (ids st).Nodup) (hai : AddrInj st)
    (hp : st.Perm mid) (hrel : Forall₂ RowRel mid t.rows)
    (hnum : keep = true → ∀ (i : Nat) (r : Row), t.rows[i]? = some r → r.num = i)
    (hu : ∀ u ∈ t.uidx, UInv acc st u) (hm : ∀ m ∈ t.midx, MInv acc st m) : Inv acc keep t := by
  have hsim : StoreSim st t.rows := (storeSim_of_perm hp hnd).trans (storeSim_of_forall₂ hrel)
  refine Inv_of_sim hsim ?_ ?_ hnum hu hm
  · rw [ids_forall₂ hrel]; exact (hp.map _).nodup_iff.mp hnd
  · unfold AddrInj; rw [addrs_forall₂ hrel]; exact (hp.map _).nodup_iff.mp hai

theorem nums_set {rows : List Row} (hnum : ∀ (i : Nat) (r : Row), rows[i]? = some r → r.num = i) (n : Nat) {x : Row}
    (hx : x.num = n) : ∀ (i : Nat) (r : Row), (rows.set n x)[i]? = some r → r.num = i := by
  intro i r h
  rw [getElem?_set] at h
  split at h
  · rename_i hni
    split at h
    · rw [← Option.some.inj h, hx, hni]
    · cases h
  · exact hnum i r h

theorem forall₂_rowRel_set : ∀ (l : List Row) (n : Nat) {a b : Row}, RowRel a b → Forall₂ RowRel (l.set n a) (l.set n b)
  | [], _, _, _, _ => Forall₂.nil
  | _ :: l, 0, _, _, h => Forall₂.cons h (forall₂_rowRel_refl l)
  | _ :: l, n + 1, _, _, h => Forall₂.cons ⟨rfl, rfl, rfl⟩ (forall₂_rowRel_set l n h)

theorem Inv_renumbered {acc : Acc} {keep : Bool} {t : Table} {st mid : Store} (hnd : (ids st).Nodup) (hai : AddrInj st)
    (hp : st.Perm mid) (hrows : t.rows = setNumbers keep 0 mid)
    (hu : ∀ u ∈ t.uidx, UInv acc st u) (hm : ∀ m ∈ t.midx, MInv acc st m) : Inv acc keep t := by
  refine Inv_of_perm_rel hnd hai hp (by rw [hrows]; exact setNumbers_rel keep mid 0) ?_ hu hm
  intro hk i x hx
  subst hk
  rw [hrows] at hx
  exact setNumbers_nums mid 0 (fun i x hi _ => absurd hi (Nat.not_lt_zero _)) i x hx

theorem Inv_empty (acc : Acc) (keep : Bool) (t : Table) (hr : t.rows = [])
    (hu : ∀ u ∈ t.uidx, u.cols.Nodup ∧ u.ents = [] ∧ u.posAdd = none ∧ u.posRem = none)
    (hm : ∀ m ∈ t.midx, m.cols.Nodup ∧ m.groups = [] ∧ m.kAdd = none ∧ m.kRem = none) : Inv acc keep t := by
  refine ⟨by rw [hr]; simp [ids], by rw [hr]; simp [AddrInj], by rw [hr]; simp, ?_, ?_⟩
  · intro u huu
    obtain ⟨h1, h2, h3, h4⟩ := hu u huu
    refine ⟨h1, ⟨h3, h4⟩, by rw [h2, hr]; simp [ids], by rw [h2]; simp, by rw [hr]; simp [ids]⟩
  · intro m hmm
    obtain ⟨h1, h2, h3, h4⟩ := hm m hmm
    refine ⟨h1, ⟨h3, h4⟩, by rw [h2, hr]; simp [ids], by rw [h2]; simp, by rw [h2]; simp, by rw [h2]; simp,
      by rw [h2]; simp⟩

section tryAdd
variable {vis : Vis} (hc : Complete vis) (acc : Acc) (keep : Bool)
include hc

theorem addRaw_spec (t : Table) (hinv : Inv acc keep t) (r : Row) (hr : r.id ∉ ids t.rows) (f : Fault) :
    match (addRaw vis acc t (t.rows ++ [r]) r.id f).2 with
    | .none => (∀ u ∈ (addRaw vis acc t (t.rows ++ [r]) r.id f).1.uidx, UInv acc (t.rows ++ [r]) u) ∧
               (∀ m ∈ (addRaw vis acc t (t.rows ++ [r]) r.id f).1.midx, MInv acc (t.rows ++ [r]) m) ∧
               (∀ u ∈ t.uidx, ∀ x ∈ t.rows, keyEq u.cols r.vals x.vals = false)
    | .dup x j => TEquiv t (addRaw vis acc t (t.rows ++ [r]) r.id f).1 ∧ Inv acc keep (addRaw vis acc t (t.rows ++ [r]) r.id f).1 ∧
               ∃ u, t.uidx[j]? = some u ∧ (∃ row ∈ t.rows, row.id = x ∧ keyEq u.cols r.vals row.vals = true) ∧
                 ∀ i' u', i' < j → t.uidx[i']? = some u' → ∀ y ∈ t.rows, keyEq u'.cols r.vals y.vals = false
    | .fault => TEquiv t (addRaw vis acc t (t.rows ++ [r]) r.id f).1 ∧ Inv acc keep (addRaw vis acc t (t.rows ++ [r]) r.id f).1 ∧
               f ≠ .none := by
  rw [addRaw_eq_indexPass]
  exact indexPass_spec acc keep hinv (t.rows ++ [r]) (uAddAll vis acc (t.rows ++ [r]) r.id f) (mAddAll vis acc (t.rows ++ [r]) r.id f)
    UIdx.acceptAdd UIdx.rejectAdd MIdx.acceptAdd MIdx.rejectAdd
    (fun u x => ∃ row ∈ t.rows, row.id = x ∧ keyEq u.cols r.vals row.vals = true)
    (fun u => ∀ x ∈ t.rows, keyEq u.cols r.vals x.vals = false) (f ≠ .none) (fun _ => rfl) (fun _ => rfl)
    (fun u hu => ⟨(UIdx.rejectAdd_noPos u (hinv.uinv u hu).noPos.1).symm, uAddAll_step hc acc hinv.idsNodup hr f u (hinv.uinv u hu)⟩)
    (fun m hm => ⟨(MIdx.rejectAdd_noPos m (hinv.minv m hm).noPos.1).symm,
      mAddAll_step hc acc hinv.idsNodup hinv.addrInj hr f m (hinv.minv m hm)⟩)

theorem tryAdd_spec (t : Table) (hinv : Inv acc keep t) (r : Row) (hr : r.id ∉ ids t.rows)
    (hra : r.addr ∉ t.rows.map (·.addr)) (f : Fault) :
    Inv acc keep (tryAdd vis acc keep t r f).1 ∧
    match (tryAdd vis acc keep t r f).2 with
    | .ok => (tryAdd vis acc keep t r f).1.rows = t.rows ++ [setNum keep r t.rows.length] ∧
             (∀ u ∈ t.uidx, ∀ x ∈ t.rows, keyEq u.cols r.vals x.vals = false)
    | .dup x j => TEquiv t (tryAdd vis acc keep t r f).1 ∧
             ∃ u row, t.uidx[j]? = some u ∧ row ∈ t.rows ∧ row.id = x ∧ keyEq u.cols r.vals row.vals = true ∧
               ∀ i' u', i' < j → t.uidx[i']? = some u' → ∀ y ∈ t.rows, keyEq u'.cols r.vals y.vals = false
    | .badAlloc => TEquiv t (tryAdd vis acc keep t r f).1 ∧ f ≠ .none
    | .outOfRange => False := by
  unfold tryAdd
  by_cases hf : f = .pre
  · rw [if_pos hf]
    exact ⟨hinv, TEquiv.refl t, by rw [hf]; simp⟩
  · rw [if_neg hf]
    have h := addRaw_spec hc acc keep t hinv r hr f
    generalize addRaw vis acc t (t.rows ++ [r]) r.id f = res at h ⊢
    obtain ⟨t', s⟩ := res
    cases s with
    | none =>
      obtain ⟨hu, hm, hno⟩ := h
      refine ⟨?_, rfl, hno⟩
      have hrel : Forall₂ RowRel (t.rows ++ [r])
          (t.rows ++ [setNum keep r t.rows.length]) :=
        rel_append (forall₂_rowRel_refl _)
          (Forall₂.cons (rowRel_setNum _ _ _) Forall₂.nil)
      refine Inv_of_sim (t := { t' with rows := t.rows ++ [setNum keep r t.rows.length] })
        (storeSim_of_forall₂ hrel) (ids_append_nodup hinv.idsNodup (by rw [setNum_id]; exact hr))
        (addrInj_append hinv.addrInj (by rw [setNum_addr]; exact hra)) ?_ hu hm
      intro hk i x hx
      have hx' : (t.rows ++ [setNum keep r t.rows.length])[i]? = some x := hx
      by_cases hi : i < t.rows.length
      · rw [getElem?_append_left hi] at hx'; exact hinv.nums hk i x hx'
      · rw [getElem?_append_right (Nat.le_of_not_lt hi), getElem?_singleton] at hx'
        split at hx'
        · rw [← Option.some.inj hx', hk, setNum_num]; omega
        · cases hx'
    | dup x j =>
      obtain ⟨he, hi, u, hu, ⟨row, hrow, hid, hk⟩, hprev⟩ := h
      exact ⟨hi, he, u, row, hu, hrow, hid, hk, hprev⟩
    | fault => exact ⟨h.2.1, h.1, h.2.2⟩

theorem tryAdd_ok_iff (t : Table) (hinv : Inv acc keep t) (r : Row) (hr : r.id ∉ ids t.rows) (hra : r.addr ∉ t.rows.map (·.addr)) :
    (tryAdd vis acc keep t r .none).2 = .ok ↔ ∀ u ∈ t.uidx, ∀ x ∈ t.rows, keyEq u.cols r.vals x.vals = false := by
  have h := (tryAdd_spec hc acc keep t hinv r hr hra .none).2
  constructor
  · intro e; rw [e] at h; exact h.2
  · intro hno
    cases hres : (tryAdd vis acc keep t r .none).2 with
    | ok => rfl
    | dup x j =>
      rw [hres] at h
      obtain ⟨_, u, row, hu, hrow, _, hk, _⟩ := h
      rw [hno u (mem_of_getElem? hu) row hrow] at hk
      exact absurd hk (by simp)
    | badAlloc => rw [hres] at h; exact absurd rfl h.2
    | outOfRange => rw [hres] at h; exact h.elim

end tryAdd

end Momo.Table
