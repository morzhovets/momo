import Momo.Proof.SortApi
import Momo.Proof.TrEqMisc
import Momo.Proof.TrEqMisc2Sort
/-!
# C17 — Hash sorting groups equal items and its searches agree with a linear scan

The property theorems, the example data they are instantiated on (`exEq`, `exHash`, `exInput`, `exSorted`) and closed
evaluations of the model on it.  Model: `Momo/Model/Sort.lean` (every array access checked; `none` = access outside
the sequence / wrapped `size_t` subtraction / failed `MOMO_ASSERT` / exhausted loop fuel); lemmas:
`Momo/Proof/Sort*.lean`.

Statement (properties.jsonl): for every input sequence, hash function and equality, `HashSorter::Sort` (plain
and prehashed) permutes the sequence so that hash codes are non-decreasing and equal items are contiguous,
keeping any parallel hash array in step; `RadixSorter` sorts integers and pointers into non-decreasing order.
On any sequence arranged that way - including the empty sequence - `Find`, `GetBounds` and `IsSorted` return
exactly what a linear scan returns.

Every theorem below concludes `… = some …`: the model never reports an out-of-range access on the inputs
quantified over.  "Equality" is any `Bool`-valued equivalence relation (`IsEqv`), "hash function" any
function into 64-bit codes under which equal items have equal codes (required only of the items actually
present).  No bound on the length of the sequence appears anywhere.
-/
namespace Momo.Sort
variable {α : Type}

/-- **C17 (`pvMultShift`).** `pvMultShift(h, n) < n` for every 64-bit `h` and every `n > 0` (any `n`, also
`≥ 2^64`): the interpolated start index of `pvFindHash` is inside the sequence.  All 64-bit wrap-arounds of
the C++ expression are part of the model. -/
theorem C17_multShift_lt (h n : Nat) (hh : h < 2 ^ 64) (hn : 0 < n) : multShift h n < n :=
  multShift_lt h n hh hn

/-- `pvMultShift(h, n)` never exceeds the exact value `⌊h·n / 2^64⌋` it approximates. -/
theorem C17_multShift_le_exact (h n : Nat) (hh : h < 2 ^ 64) (hn : n < 2 ^ 64) : multShift h n ≤ h * n / 2 ^ 64 :=
  multShift_le_mulhi h n hh hn

/-- **C17 (`HashSorter::Sort`).** "For every input sequence, hash function and equality, Sort permutes the
sequence so that hash codes are non-decreasing and equal items are contiguous."  `hashSort (plainMem hash)` is
`HashSorter::pvSort` with `IterHashFunc` and `std::iter_swap` (RadixSorter<8> on the 64-bit codes, selection
sort, in-place partition, recursion, `pvGroup` on runs of equal codes). -/
theorem C17_sort_plain (hash : α → Nat) (eq : α → α → Bool) (he : IsEqv eq) (a : Array α)
    (hresp : ∀ x ∈ a.toList, ∀ y ∈ a.toList, eq x y = true → hash x = hash y)
    (h64 : ∀ x ∈ a.toList, hash x < 2 ^ 64) :
    ∃ a', hashSort (plainMem hash) eq a a.size = some a' ∧
      a'.toList.Perm a.toList ∧
      a'.toList.Pairwise (fun x y => hash x ≤ hash y) ∧
      Grouped eq a'.toList := by
  obtain ⟨a', h1, _, h3, h4, h5⟩ := hashSort_list (plainMem_lawful hash) he a trivial a.size (plainCells_length hash a)
    (plain_consL hash eq a hresp) (plain_forall hash a h64)
  exact ⟨a', h1, plain_perm h3, (plain_sorted_iff hash a').1 h4, (groupedCells_iff_grouped (plain_map_fst hash a')).1 h5⟩

/-- **C17 (`HashSorter::SortPrehashed`).** "… (plain and prehashed) … keeping any parallel hash array in
step": the (item, hash) pairs after the call are a permutation of the pairs before it, the hash array is
non-decreasing, equal items are contiguous.  `preMem` swaps `hashBegin[i]`, `hashBegin[j]` together with
the items, as the `iterHashSwapper` lambda does. -/
theorem C17_sort_prehashed (eq : α → α → Bool) (he : IsEqv eq) (items : Array α) (hashes : Array Nat)
    (hsz : items.size = hashes.size)
    (hresp : ∀ x ∈ items.toList.zip hashes.toList, ∀ y ∈ items.toList.zip hashes.toList, eq x.1 y.1 = true → x.2 = y.2)
    (h64 : ∀ h ∈ hashes.toList, h < 2 ^ 64) :
    ∃ items' hashes', hashSort preMem eq (items, hashes) items.size = some (items', hashes') ∧
      items'.size = hashes'.size ∧
      (items'.toList.zip hashes'.toList).Perm (items.toList.zip hashes.toList) ∧
      hashes'.toList.Pairwise (· ≤ ·) ∧
      Grouped eq items'.toList := by
  obtain ⟨s', h1, h2, h3, h4, h5⟩ := hashSort_list preMem_lawful he (items, hashes) hsz items.size
    (preCells_length (items, hashes) hsz) hresp fun x hx => h64 x.2 (List.of_mem_zip hx).2
  exact ⟨s'.1, s'.2, h1, h2, h3, (sortedL_iff_codes (pre_map_snd s' h2)).1 h4, (groupedCells_iff_grouped (pre_map_fst s' h2)).1 h5⟩

/-- **C17 (`RadixSorter<R>::Sort`).** "RadixSorter sorts integers and pointers into non-decreasing order":
for every radix size `R ≥ 1` (the header allows 1..16) and every code width `W` (8..64 in the C++), any
array whose codes fit in `W` bits becomes a permutation of itself with non-decreasing codes - including
the in-place cycle-leader partition, the `shift` clamp for `R > W`, and the `singleRadix` re-scan. -/
theorem C17_radix_sorts (R W : Nat) (hR : 0 < R) (code : α → Nat) (a : Array α)
    (hW : ∀ x ∈ a.toList, code x < 2 ^ W) :
    ∃ a', radixSorterSort (plainMem code) R W noGroupFn a a.size = some a' ∧
      a'.toList.Perm a.toList ∧ a'.toList.Pairwise (fun x y => code x ≤ code y) := by
  obtain ⟨a', h1, _, h3, h4⟩ := radixSort_list (plainMem_lawful code) R W hR a trivial a.size (plainCells_length code a)
    (plain_forall code a hW)
  exact ⟨a', h1, plain_perm h3, (plain_sorted_iff code a').1 h4⟩

/-- the in-place partition step alone (`pvRadixSort(begin, codeGetter, iterSwapper, shift, endIndexes)`):
given the cumulative radix counts it never swaps outside the range, terminates within the `count` swaps the
model allows, and leaves the range in non-decreasing radix order - for every lawful memory. -/
theorem C17_partition_correct {σ : Type} {M : Mem σ α} {abs : σ → List (α × Nat)} {ok : σ → Prop}
    (L : Lawful M abs ok) (R : Nat) : PartSpec abs ok R (partition M R) :=
  partition_spec L R

/-- `pvGroup` alone, for every equivalence and every lawful memory: the range becomes a permutation of
itself with equal items contiguous, cells outside the range are untouched. -/
theorem C17_group_correct {σ : Type} {M : Mem σ α} {abs : σ → List (α × Nat)} {ok : σ → Prop}
    (L : Lawful M abs ok) (eq : α → α → Bool) (he : IsEqv eq) (pre seg post : List (α × Nat)) (s : σ)
    (hh : Holds abs ok s (pre ++ seg ++ post)) :
    ∃ s' seg', group M eq s pre.length seg.length = some s' ∧
      Holds abs ok s' (pre ++ seg' ++ post) ∧ seg'.Perm seg ∧ GroupedCells eq seg' :=
  group_list L he pre post s seg hh

/-- **C17 (`HashSorter::Find`).** "On any sequence arranged that way - including the empty sequence - Find
returns exactly what a linear scan returns".  Interpolation, exponential and binary search, the backward and forward
`pvFindNext` walks are all inside `find`. -/
theorem C17_find_plain (hash : α → Nat) (eq : α → α → Bool) (he : IsEqv eq) (a : Array α)
    (hsorted : a.toList.Pairwise (fun x y => hash x ≤ hash y)) (hgrouped : Grouped eq a.toList)
    (item : α) (hh : hash item < 2 ^ 64) (hresp : ∀ x ∈ a.toList, eq x item = true → hash x = hash item) :
    ∃ idx found, find (plainMem hash) eq a a.size item (hash item) = some (idx, found) ∧
      idx ≤ a.size ∧
      found = a.toList.any (fun x => eq x item) ∧
      (found = true → ∃ x, a[idx]? = some x ∧ eq x item = true) := by
  obtain ⟨idx, found, h1, h2, h3, h4⟩ := find_list (plainMem_lawful hash) he a trivial a.size (plainCells_length hash a)
    ((plain_sorted_iff hash a).2 hsorted) ((groupedCells_iff_grouped (plain_map_fst hash a)).2 hgrouped) item (hash item) hh
    (plain_forall hash a hresp)
  refine ⟨idx, found, h1, h2, h3.trans (any_fst (plain_map_fst hash a) (eq · item)), fun hf => ?_⟩
  obtain ⟨x, hx, hxe⟩ := h4 hf
  exact ⟨x.1, Array.getElem?_toList ▸ getElem?_fst (plain_map_fst hash a) hx, hxe⟩

/-- **C17 (`HashSorter::FindPrehashed`).** The same with a parallel hash array and a caller-supplied
`itemHash`, which the cells equal to the sought item must carry. -/
theorem C17_find_prehashed (eq : α → α → Bool) (he : IsEqv eq) (items : Array α) (hashes : Array Nat)
    (hsz : items.size = hashes.size)
    (hsorted : hashes.toList.Pairwise (· ≤ ·)) (hgrouped : Grouped eq items.toList)
    (item : α) (itemHash : Nat) (hh : itemHash < 2 ^ 64)
    (hresp : ∀ x ∈ items.toList.zip hashes.toList, eq x.1 item = true → x.2 = itemHash) :
    ∃ idx found, find preMem eq (items, hashes) items.size item itemHash = some (idx, found) ∧
      idx ≤ items.size ∧
      found = items.toList.any (fun x => eq x item) ∧
      (found = true → ∃ x, items[idx]? = some x ∧ eq x item = true) := by
  obtain ⟨idx, found, h1, h2, h3, h4⟩ := find_list preMem_lawful he (items, hashes) hsz items.size
    (preCells_length (items, hashes) hsz) ((sortedL_iff_codes (pre_map_snd (items, hashes) hsz)).2 hsorted)
    ((groupedCells_iff_grouped (pre_map_fst (items, hashes) hsz)).2 hgrouped) item itemHash hh hresp
  refine ⟨idx, found, h1, h2, h3.trans (any_fst (pre_map_fst (items, hashes) hsz) (eq · item)), fun hf => ?_⟩
  obtain ⟨x, hx, hxe⟩ := h4 hf
  exact ⟨x.1, Array.getElem?_toList ▸ getElem?_fst (pre_map_fst (items, hashes) hsz) hx, hxe⟩

/-- **C17 (`HashSorter::GetBounds`).** "GetBounds returns exactly what a linear scan returns": the half-open
index range `[b, e)` contains precisely the indices whose item equals the sought one (empty when there is
none). -/
theorem C17_bounds_plain (hash : α → Nat) (eq : α → α → Bool) (he : IsEqv eq) (a : Array α)
    (hsorted : a.toList.Pairwise (fun x y => hash x ≤ hash y)) (hgrouped : Grouped eq a.toList)
    (item : α) (hh : hash item < 2 ^ 64) (hresp : ∀ x ∈ a.toList, eq x item = true → hash x = hash item) :
    ∃ b e, getBounds (plainMem hash) eq a a.size item (hash item) = some (b, e) ∧ b ≤ e ∧ e ≤ a.size ∧
      ∀ k (hk : k < a.size), eq a[k] item = true ↔ b ≤ k ∧ k < e := by
  obtain ⟨b, e, h1, h2, h3, h4⟩ := getBounds_list (plainMem_lawful hash) he a trivial a.size (plainCells_length hash a)
    ((plain_sorted_iff hash a).2 hsorted) ((groupedCells_iff_grouped (plain_map_fst hash a)).2 hgrouped) item (hash item) hh
    (plain_forall hash a hresp)
  exact ⟨b, e, h1, h2, h3, fun k hk => bounds_fst (plain_map_fst hash a) h4 k (Array.length_toList ▸ hk)⟩

/-- **C17 (`HashSorter::GetBoundsPrehashed`).** -/
theorem C17_bounds_prehashed (eq : α → α → Bool) (he : IsEqv eq) (items : Array α) (hashes : Array Nat)
    (hsz : items.size = hashes.size)
    (hsorted : hashes.toList.Pairwise (· ≤ ·)) (hgrouped : Grouped eq items.toList)
    (item : α) (itemHash : Nat) (hh : itemHash < 2 ^ 64)
    (hresp : ∀ x ∈ items.toList.zip hashes.toList, eq x.1 item = true → x.2 = itemHash) :
    ∃ b e, getBounds preMem eq (items, hashes) items.size item itemHash = some (b, e) ∧ b ≤ e ∧ e ≤ items.size ∧
      ∀ k (hk : k < items.size), eq items[k] item = true ↔ b ≤ k ∧ k < e := by
  obtain ⟨b, e, h1, h2, h3, h4⟩ := getBounds_list preMem_lawful he (items, hashes) hsz items.size
    (preCells_length (items, hashes) hsz) ((sortedL_iff_codes (pre_map_snd (items, hashes) hsz)).2 hsorted)
    ((groupedCells_iff_grouped (pre_map_fst (items, hashes) hsz)).2 hgrouped) item itemHash hh hresp
  exact ⟨b, e, h1, h2, h3, fun k hk => bounds_fst (pre_map_fst (items, hashes) hsz) h4 k (Array.length_toList ▸ hk)⟩

/-- **C17 (`HashSorter::IsSorted`).** "IsSorted returns exactly what a linear scan returns" - here for
*every* array, arranged or not, empty or not: the answer is `true` iff hash codes are non-decreasing and
equal items are contiguous. -/
theorem C17_isSorted_plain (hash : α → Nat) (eq : α → α → Bool) (he : IsEqv eq) (a : Array α)
    (hresp : ∀ x ∈ a.toList, ∀ y ∈ a.toList, eq x y = true → hash x = hash y) :
    ∃ r, isSorted (plainMem hash) eq a a.size = some r ∧
      (r = true ↔ a.toList.Pairwise (fun x y => hash x ≤ hash y) ∧ Grouped eq a.toList) := by
  obtain ⟨r, h1, h2⟩ := isSorted_list (plainMem_lawful hash) he a trivial a.size (plainCells_length hash a)
    (plain_consL hash eq a hresp)
  exact ⟨r, h1, h2.trans (and_congr (plain_sorted_iff hash a) (groupedCells_iff_grouped (plain_map_fst hash a)))⟩

/-- **C17 (`HashSorter::IsSortedPrehashed`).** -/
theorem C17_isSorted_prehashed (eq : α → α → Bool) (he : IsEqv eq) (items : Array α) (hashes : Array Nat)
    (hsz : items.size = hashes.size)
    (hresp : ∀ x ∈ items.toList.zip hashes.toList, ∀ y ∈ items.toList.zip hashes.toList, eq x.1 y.1 = true → x.2 = y.2) :
    ∃ r, isSorted preMem eq (items, hashes) items.size = some r ∧
      (r = true ↔ hashes.toList.Pairwise (· ≤ ·) ∧ Grouped eq items.toList) := by
  obtain ⟨r, h1, h2⟩ := isSorted_list preMem_lawful he (items, hashes) hsz items.size
    (preCells_length (items, hashes) hsz) hresp
  exact ⟨r, h1, h2.trans (and_congr (sortedL_iff_codes (pre_map_snd (items, hashes) hsz)) (groupedCells_iff_grouped (pre_map_fst (items, hashes) hsz)))⟩

/-! ## Non-vacuity: concrete states meeting the hypotheses, and the model evaluated on them -/

section Examples

/-- items are (key, id); equality looks at the key only -/
def exEq (a b : Nat × Nat) : Bool := a.1 == b.1
/-- keys 0 and 3 collide; key 4 hashes to 0, key 5 to 2^64-1 -/
def exHash (x : Nat × Nat) : Nat :=
  match x.1 with
  | 0 => 30 | 1 => 10 | 2 => 20 | 3 => 30 | 4 => 0 | _ => 18446744073709551615

theorem exEq_isEqv : IsEqv exEq where
  refl := by intro a; simp [exEq]
  symm := by intro a b h; simp [exEq] at h ⊢; exact h.symm
  trans := by intro a b c h1 h2; simp [exEq] at h1 h2 ⊢; exact h1.trans h2

theorem exHash_resp (x y : Nat × Nat) (h : exEq x y = true) : exHash x = exHash y := by
  simp [exEq] at h; simp [exHash, h]

theorem exHash_lt (x : Nat × Nat) : exHash x < 2 ^ 64 := by
  unfold exHash; split <;> decide

def exInput : Array (Nat × Nat) := #[(0,0),(1,1),(2,2),(0,3),(1,4),(3,5),(0,6)]
def exSorted : Array (Nat × Nat) := #[(1,1),(1,4),(2,2),(0,3),(0,0),(0,6),(3,5)]

/-- the hypotheses of `C17_sort_plain` hold for `exInput` (equal keys have equal hashes, hashes are 64-bit) -/
example : ∃ a', hashSort (plainMem exHash) exEq exInput exInput.size = some a' ∧ a'.toList.Perm exInput.toList ∧
    a'.toList.Pairwise (fun x y => exHash x ≤ exHash y) ∧ Grouped exEq a'.toList :=
  C17_sort_plain exHash exEq exEq_isEqv exInput (fun x _ y _ h => exHash_resp x y h) (fun x _ => exHash_lt x)

/-- … and the model really produces the arrangement the C++ produces on this input (ids 1 4 2 3 0 6 5) -/
example : hashSort (plainMem exHash) exEq exInput 7 = some exSorted := by decide +kernel

/-- `exSorted` is arranged: hashes 10 10 20 30 30 30 30 non-decreasing, equal keys contiguous (two different
keys, 0 and 3, share the hash 30) -/
theorem exSorted_arranged : exSorted.toList.Pairwise (fun x y => exHash x ≤ exHash y) ∧ Grouped exEq exSorted.toList := by
  have h := C17_isSorted_plain exHash exEq exEq_isEqv exSorted (fun x _ y _ h => exHash_resp x y h)
  obtain ⟨r, hr, hiff⟩ := h
  have : isSorted (plainMem exHash) exEq exSorted exSorted.size = some true := by decide +kernel
  rw [this] at hr
  cases hr
  exact hiff.1 rfl

/-- so the hypotheses of `C17_find_plain` / `C17_bounds_plain` are satisfiable by a state with a hash
collision between different keys, and the model's answers on it are the linear-scan answers -/
example : ∃ idx found, find (plainMem exHash) exEq exSorted exSorted.size (3, 99) (exHash (3, 99)) = some (idx, found) ∧
    idx ≤ exSorted.size ∧ found = exSorted.toList.any (fun x => exEq x (3, 99)) ∧
    (found = true → ∃ x, exSorted[idx]? = some x ∧ exEq x (3, 99) = true) :=
  C17_find_plain exHash exEq exEq_isEqv exSorted exSorted_arranged.1 exSorted_arranged.2 (3, 99) (exHash_lt _)
    (fun x _ h => exHash_resp x _ h)

example : find (plainMem exHash) exEq exSorted 7 (3, 99) 30 = some (6, true) := by decide +kernel
example : find (plainMem exHash) exEq exSorted 7 (4, 99) 0 = some (0, false) := by decide +kernel      -- below all hashes
example : find (plainMem exHash) exEq exSorted 7 (5, 99) 18446744073709551615 = some (7, false) := by decide +kernel  -- above all
example : getBounds (plainMem exHash) exEq exSorted 7 (0, 99) 30 = some (3, 6) := by decide +kernel
example : getBounds (plainMem exHash) exEq exSorted 7 (3, 99) 30 = some (6, 7) := by decide +kernel
example : find (plainMem exHash) exEq #[] 0 (0, 99) 30 = some (0, false) := by decide +kernel          -- empty sequence
example : getBounds (plainMem exHash) exEq #[] 0 (0, 99) 30 = some (0, 0) := by decide +kernel
example : isSorted (plainMem exHash) exEq #[] 0 = some true := by decide +kernel
example : isSorted (plainMem exHash) exEq exInput 7 = some false := by decide +kernel

/-- prehashed: the pair arrays stay in step -/
example : hashSort preMem exEq (exInput, #[30, 10, 20, 30, 10, 30, 30]) 7 = some (exSorted, #[10, 10, 20, 30, 30, 30, 30]) := by decide +kernel

/-- radix sort with a radix wider than the code (the shift clamp; here 4-bit radix on 2-bit codes, 10 > 8 =
selectionSortMaxCount cells, so the counting pass and the in-place partition run) and with 1-bit radix -/
example : radixSorterSort (plainMem id) 4 2 noGroupFn #[3, 1, 0, 2, 3, 3, 1, 0, 2, 1] 10 = some #[0, 0, 1, 1, 1, 2, 2, 3, 3, 3] := by decide +kernel
example : radixSorterSort (plainMem id) 1 8 noGroupFn #[200, 3, 77, 200, 1, 0, 255] 7 = some #[0, 1, 3, 77, 200, 200, 255] := by decide +kernel

/-- an out-of-range access *is* reported by the model: a count larger than the array -/
example : find (plainMem exHash) exEq exSorted 9 (5, 99) 18446744073709551615 = none := by decide +kernel

end Examples

/-! ### The code itself, not only the hand-written model

`Momo.Tr.*` are Lean definitions regenerated on every check by tools/translate.py from the *function bodies* in the
current headers (C++ integer semantics explicit: here the wrap-around of `size_t`). The theorems below are about those generated definitions. -/
/-- `HashSorter::pvGetStepCount` as translated from the current header is the model's `stepCount` -/
theorem C17_stepCount_translated (count : Nat) : Tr.hs_pvGetStepCount count = stepCount count :=
  TrEq.tr_stepCount count

example : Tr.hs_pvGetStepCount 5000 = 2 := by decide

/-! #### area Misc (tools/trspecs/Misc.py → `Momo/Translated/Misc.lean`; equivalences: `Proof/TrEqMisc2Sort.lean`) -/

/-- **C17 (`pvMultShift`) for the code as translated from HashSorter.h.** The translated function *is* the model's
`multShift` (all 64-bit wrap-arounds coincide, no hypothesis), hence `pvMultShift(h, n) < n` for every 64-bit `h` and
every `n > 0`: the interpolated index is inside the sequence. -/
theorem C17_multShift_translated (h n : Nat) (hh : h < 2 ^ 64) (hn : 0 < n) :
    Tr.hs_pvMultShift h n = multShift h n ∧ Tr.hs_pvMultShift h n < n := by
  rw [TrEq.tr_multShift]
  exact ⟨rfl, multShift_lt h n hh hn⟩

/-- `HashSorter::pvCompare` as translated (an `int`: -1 / 0 / 1) is the model's three-way comparison. -/
theorem C17_pvCompare_translated (v1 v2 : Nat) : Tr.hs_pvCompare v1 v2 = pvCompare v1 v2 :=
  TrEq.tr_pvCompare v1 v2

/-- **`pvFindHash` starts where the translated code says**: step budget = translated `pvGetStepCount(count)`, first probe =
translated `pvMultShift(itemHash, count)`. -/
theorem C17_findHash_start_translated {σ : Type} (M : Mem σ α) (s : σ) (count itemHash : Nat) :
    findHash M s count itemHash =
      if count = 0 then some (0, false)
      else findHashLoop M s count itemHash (Tr.hs_pvGetStepCount count + 1) (Tr.hs_pvGetStepCount count) 0 count
        (Tr.hs_findHash_start itemHash count) :=
  TrEq.findHash_translated M s count itemHash

/-- **One iteration of the interpolation loop of `pvFindHash`, with the translated index arithmetic.** For hashes that are
`size_t` and `leftIndex ≤ middleIndex < count ≤ 2^63` (what holds in the C++ at that point) the model loop `findHashLoop`
— the function `C17_find_*` / `C17_bounds_*` are about — moves `middleIndex` exactly as the statements
`middleIndex += pvMultShift(itemHash - middleHash, count)`, `diff = pvMultShift(middleHash - itemHash, count)`,
`if (leftIndex + diff > middleIndex) break`, `middleIndex -= diff` translated from the header do (64-bit wrap explicit). -/
theorem C17_findHashLoop_translated {σ : Type} (M : Mem σ α) (s : σ) (count itemHash f step left right mid mh : Nat)
    (hc : M.code s mid = some mh) (hh : itemHash < 2 ^ 64) (hmh : mh < 2 ^ 64)
    (hl : left ≤ mid) (hmid : mid < count) (hn : count ≤ 2 ^ 63) :
    findHashLoop M s count itemHash (f + 1) step left right mid =
      if mh < itemHash then
        if step = 0 then
          (csub right (mid + 1)).bind fun n =>
            (exponentialSearch (hashCmp (M.fwd s (mid + 1)) itemHash) n).map fun r => (mid + 1 + r.1, r.2)
        else if Tr.hs_findHash_up mid itemHash mh count ≥ right then
          (csub right (mid + 1)).bind fun n => binarySearchAt (hashCmp (M.fwd s 0) itemHash) (mid + 1) n
        else findHashLoop M s count itemHash f (step - 1) (mid + 1) right (Tr.hs_findHash_up mid itemHash mh count)
      else if mh > itemHash then
        if step = 0 then
          (csub mid left).bind fun n =>
            (exponentialSearch (revHashCmp (M.rev s mid) itemHash) n).bind fun r =>
              (csub mid (r.1 + (if r.2 then 1 else 0))).map fun idx => (idx, r.2)
        else if Tr.hs_findHash_downBreak left (Tr.hs_findHash_diff itemHash mh count) mid = true then
          (csub mid left).bind fun n => binarySearchAt (hashCmp (M.fwd s 0) itemHash) left n
        else findHashLoop M s count itemHash f (step - 1) left mid
          (Tr.hs_findHash_down mid (Tr.hs_findHash_diff itemHash mh count))
      else some (mid, true) :=
  TrEq.findHashLoop_translated M s count itemHash f step left right mid mh hc hh hmh hl hmid hn

/-- one iteration of `pvExponentialSearch` / `pvBinarySearch` with the translated probe indexes `i = i * 2 + 2` and
`(leftIndex + rightIndex) / 2` (sequences of at most 2^62 resp. 2^63 items: nothing wraps). -/
theorem C17_search_steps_translated (cmp : Cmp) (count f i left l r : Nat) (hi : i < count) (hn : count ≤ 2 ^ 62)
    (hlr : l < r) (hr : r ≤ 2 ^ 63) :
    expLoop cmp count (f + 1) i left =
      ((cmp i).bind fun c =>
        if c > 0 then (csub i left).bind fun n => binarySearchAt cmp left n
        else if c = 0 then some (i, true)
        else expLoop cmp count f (Tr.hs_expSearch_next i) (i + 1)) ∧
    binLoop cmp (f + 1) l r =
      ((cmp (Tr.hs_binSearch_middle l r)).bind fun c =>
        if c < 0 then binLoop cmp f (Tr.hs_binSearch_middle l r + 1) r
        else if c > 0 then binLoop cmp f l (Tr.hs_binSearch_middle l r)
        else some (Tr.hs_binSearch_middle l r, true)) :=
  ⟨TrEq.expLoop_translated cmp count f i left hi hn, TrEq.binLoop_translated cmp f l r hlr hr⟩

/-- **`RadixSorter::pvGetRadix` as translated** is the model's digit extraction, and the digit indexes the `radixCount`
(translated `size_t{1} << radixSize`) counters — for every radix size the header admits (`radixSize ≤ 16`; here `< 64`). -/
theorem C17_getRadix_translated (R code shift : Nat) (hR : R < 64) :
    Tr.rs_pvGetRadix R code shift = getRadix R code shift ∧ Tr.rs_pvGetRadix R code shift < Tr.rs_radixCount R := by
  rw [TrEq.tr_getRadix R code shift hR, TrEq.tr_radixCount R hR]
  exact ⟨rfl, getRadix_lt R code shift⟩

/-- **The shift schedule of `RadixSorter` as translated**: the clamp `(8 * sizeof(Code) > radixSize) ? … : 0` of `Sort`
(DESIGN.md finding F7: without it the shift wraps when `radixSize` exceeds the width of the code), `nextShift`, and `selectionSortMaxCount` are the expressions of the model `radixSorterSortWith` / `nextShift` /
`selectionSortMaxCount` that `C17_radix_sorts` and `C17_sort_*` are about. -/
theorem C17_radix_shifts_translated {σ : Type} (M : Mem σ α) (R sz : Nat) (hR : R ≤ Extracted.rsMaxRadixSize) (hsz : sz < 2 ^ 61)
    (G : GroupFn σ) (P : PartFn σ) (s : σ) (count : Nat) :
    radixSorterSortWith M R (8 * sz) G P s count =
      pvSortWith M R G (fun s b n => radixSortF M R G P (Tr.rs_Sort_shift R sz + 1) s b n (Tr.rs_Sort_shift R sz)) s 0 count ∧
    (∀ shift, Tr.rs_nextShift R shift = nextShift R shift) ∧
    Tr.rs_selectionSortMaxCount R = selectionSortMaxCount R := by
  simp only [Extracted.rsMaxRadixSize] at hR
  refine ⟨?_, TrEq.tr_nextShift R, TrEq.tr_selectionSortMaxCount R (by omega)⟩
  rw [TrEq.tr_sortShift R sz hsz]
  rfl

example : Tr.hs_pvMultShift (2 ^ 63) 1000 = 500 := by decide
example : Tr.rs_pvGetRadix 8 0xABCD 8 = 0xAB ∧ Tr.rs_Sort_shift 16 1 = 0 ∧ Tr.rs_Sort_shift 8 8 = 56 ∧ Tr.rs_nextShift 8 4 = 0 := by decide

end Momo.Sort
