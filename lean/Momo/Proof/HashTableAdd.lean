import Momo.Proof.HashTableInv
/-!
  C01/C11: bucket edits that keep `GenInv`, and `pvAddNogrow` on one generation. `Shr sp L b' b` is the one relation through which every
  later file shows "this edit keeps the invariant" (`GenInv.of_shrunk` for a whole bucket array, `GenInv.of_updBkt` for one bucket).
  The insertion keeps `GenInv`, adds exactly the new item, and reports "Hash table is full" iff every bucket is full (C13's
  surjectivity of the probe sequence); by counting, a generation with a free slot accepts an item.
-/
namespace Momo.HT
open Momo Momo.Probe

theorem maxProbe_congr (sp : Spec) (L : Nat) (b b' : Bucket) (h : b.bst = b'.bst) :
    maxProbe sp L b = maxProbe sp L b' := by
  unfold maxProbe; rw [h]

theorem BstOK_congr (sp : Spec) (b b' : Bucket) (h : b.bst = b'.bst) (hb : BstOK sp b) : BstOK sp b' := by
  unfold BstOK at *; rw [← h]; exact hb

theorem isFull_congr (sp : Spec) (b b' : Bucket) (h : b.items = b'.items) : isFull sp b = isFull sp b' := by
  unfold isFull; rw [h]

/-- "shrunk": `b'` is `b` after removals and bound updates; items are compared by key, as the invariant places them by key only -/
def Shr (sp : Spec) (L : Nat) (b' b : Bucket) : Prop :=
  (∀ x ∈ b'.items, ∃ y ∈ b.items, y.key = x.key) ∧ b'.items.length ≤ b.items.length ∧ b'.wasFull = b.wasFull ∧
  maxProbe sp L b ≤ maxProbe sp L b' ∧ (BstOK sp b → BstOK sp b')

/-- items only left, flags and encoder state untouched (`Bucket::Remove`, the filter walk) -/
theorem Shr.of_subset {sp : Spec} {L : Nat} {b' b : Bucket} (hsub : ∀ x ∈ b'.items, x ∈ b.items)
    (hlen : b'.items.length ≤ b.items.length) (hw : b'.wasFull = b.wasFull) (hbst : b'.bst = b.bst) : Shr sp L b' b :=
  ⟨fun x hx => ⟨x, hsub x hx, rfl⟩, hlen, hw, Nat.le_of_eq (maxProbe_congr sp L _ _ hbst.symm), BstOK_congr sp _ _ hbst.symm⟩

/-- the items may differ in what is not hashed -/
theorem Shr.of_keys {sp : Spec} {L : Nat} {b' b : Bucket} (hkeys : b'.items.map (·.key) = b.items.map (·.key))
    (hw : b'.wasFull = b.wasFull) (hbst : b'.bst = b.bst) : Shr sp L b' b :=
  ⟨fun x hx => List.mem_map.mp (hkeys ▸ List.mem_map_of_mem (f := (·.key)) hx),
    Nat.le_of_eq (by simpa using congrArg List.length hkeys), hw,
    Nat.le_of_eq (maxProbe_congr sp L _ _ hbst.symm), BstOK_congr sp _ _ hbst.symm⟩

theorem Shr.refl (sp : Spec) (L : Nat) (b : Bucket) : Shr sp L b b := .of_subset (fun _ h => h) (Nat.le_refl _) rfl rfl

/-- nothing else moves, flags are sticky, bounds only grow -/
theorem GenInv.of_shrunk {sp : Spec} {hf : Nat → Nat} {g : Gen} (hI : GenInv sp hf g) (bs' : List Bucket)
    (hlen : bs'.length = g.bs.length) (h : ∀ i, Shr sp g.L (bkt sp bs' i) (bkt sp g.bs i)) :
    GenInv sp hf { g with bs := bs' } where
  len := hlen.trans hI.len
  size hu i := Nat.le_trans (h i).2.1 (hI.size hu i)
  full i hi := by
    show (bkt sp bs' i).wasFull = true
    rw [(h i).2.2.1]
    apply hI.full i
    have hi' : isFull sp (bkt sp bs' i) = true := hi
    unfold isFull at hi' ⊢
    simp only [Bool.and_eq_true, Bool.not_eq_true', decide_eq_true_eq] at hi' ⊢
    exact ⟨hi'.1, Nat.le_trans hi'.2 (h i).2.1⟩
  place i x hx := by
    obtain ⟨y, hy, ek⟩ := (h i).1 x hx
    obtain ⟨p, e, hp, hq⟩ := hI.place i y hy
    rw [ek] at e hp hq
    exact ⟨p, e, Nat.le_trans hp (h _).2.2.2.1, fun q hlt => ((h _).2.2.1).trans (hq q hlt)⟩
  enc i := (h i).2.2.2.2 (hI.enc i)

theorem GenInv.of_updBkt {sp : Spec} {hf : Nat → Nat} {g : Gen} (hI : GenInv sp hf g) (i : Nat) (f : Bucket → Bucket)
    (h : Shr sp g.L (f (bkt sp g.bs i)) (bkt sp g.bs i)) :
    GenInv sp hf { g with bs := updBkt sp g.bs i f } := by
  refine hI.of_shrunk _ (updBkt_length sp g.bs i f) fun t => ?_
  by_cases hi : i < g.bs.length
  · rw [bkt_updBkt sp g.bs i t f hi]
    split
    · rename_i e; exact e ▸ h
    · exact Shr.refl ..
  · rw [updBkt, List.set_eq_of_length_le (Nat.le_of_not_lt hi)]
    exact Shr.refl ..

/-- the model's `findSlot` is the loop inside the probe-level `addProbe`; `addProbe quad L isFull home` itself is `addProbe.go` at
    `(2 ^ L) 0 home` by `rfl`, which is how the users below pass to `addProbe_cases` / `addProbe_eq_none_iff` -/
theorem findSlot_eq_go (sp : Spec) (g : Gen) : ∀ fuel probe idx,
    findSlot sp g fuel probe idx
      = addProbe.go sp.quad g.L (fun i => isFull sp (bkt sp g.bs i)) fuel probe idx := by
  intro fuel
  induction fuel with
  | zero => intro _ _; rfl
  | succ f ih =>
    intro probe idx
    cases h : isFull sp (bkt sp g.bs idx) <;> simp [findSlot, addProbe.go, h, ih, nextIdx]

theorem findSlot_eq_addProbe (sp : Spec) (g : Gen) (h : Nat) :
    findSlot sp g (2 ^ g.L) 0 (start g.L h) = addProbe sp.quad g.L (fun i => isFull sp (bkt sp g.bs i)) (start g.L h) :=
  findSlot_eq_go sp g _ _ _

theorem addNogrowGen_cases (sp : Spec) (g : Gen) (h : Nat) (it : Item) :
    (∃ p, p < 2 ^ g.L ∧
      addNogrowGen sp g h it =
        some ({ g with
                bs := updBkt sp (updBkt sp g.bs (pseq sp g.L (start g.L h) p) (pushItem sp it))
                        (start g.L h) (fun b => updProbe sp b p) },
              pseq sp g.L (start g.L h) p) ∧
      isFull sp (bkt sp g.bs (pseq sp g.L (start g.L h) p)) = false ∧
      ∀ q, q < p → isFull sp (bkt sp g.bs (pseq sp g.L (start g.L h) q)) = true) ∨
    (addNogrowGen sp g h it = none ∧
      ∀ q, q < 2 ^ g.L → isFull sp (bkt sp g.bs (pseq sp g.L (start g.L h) q)) = true) := by
  simp only [addNogrowGen, findSlot_eq_addProbe, pseq_eq]
  rcases addProbe_cases sp.quad g.L (fun i => isFull sp (bkt sp g.bs i)) (start g.L h) with
    ⟨p, h1, e, h2, h3⟩ | ⟨e, h4⟩
  · exact Or.inl ⟨p, h1, by rw [e], h2, h3⟩
  · exact Or.inr ⟨by rw [e], h4⟩

theorem addNogrowGen_L (sp : Spec) (g g' : Gen) (h : Nat) (it : Item) (idx : Nat)
    (hadd : addNogrowGen sp g h it = some (g', idx)) : g'.L = g.L := by
  rcases addNogrowGen_cases sp g h it with ⟨p, _, e, _⟩ | ⟨e, _⟩ <;> rw [e] at hadd
  · cases hadd; rfl
  · cases hadd

theorem updBkt_comm (sp : Spec) (bs : List Bucket) (i j : Nat) (f g : Bucket → Bucket) (hi : i < bs.length)
    (hj : j < bs.length) (h : ∀ b, g (f b) = f (g b)) :
    updBkt sp (updBkt sp bs i f) j g = updBkt sp (updBkt sp bs j g) i f := by
  have li : i < (updBkt sp bs j g).length := by rw [updBkt_length]; exact hi
  have lj : j < (updBkt sp bs i f).length := by rw [updBkt_length]; exact hj
  apply List.ext_getElem (by simp only [updBkt_length])
  intro t h1 h2
  rw [← bkt_of_lt sp _ t h1, ← bkt_of_lt sp _ t h2, bkt_updBkt sp _ j t g lj, bkt_updBkt sp _ i t f hi,
    bkt_updBkt sp _ i t f li, bkt_updBkt sp _ j t g hj]
  by_cases e1 : i = t <;> by_cases e2 : j = t <;> simp [e1, e2, h]

/-- `AddCrt` of `it` into the non-full bucket `idx` (`updBkt` with `pushItem`): `he hp hfull` are the `place` clause of `GenInv` for the
    new item; the three bullets of the proof are `size`, `full`, `place` for the grown bucket array -/
theorem pushBkt_inv (sp : Spec) (hf : Nat → Nat) (ok : SpecOK sp) (g : Gen) (it : Item) (idx p : Nat)
    (hI : GenInv sp hf g) (hidx : idx < g.bs.length) (hroom : isFull sp (bkt sp g.bs idx) = false)
    (he : idx = pseq sp g.L (homeOf hf g it.key) p)
    (hp : p ≤ maxProbe sp g.L (bkt sp g.bs (homeOf hf g it.key)))
    (hfull : ∀ q, q < p → (bkt sp g.bs (pseq sp g.L (homeOf hf g it.key) q)).wasFull = true) :
    GenInv sp hf { g with bs := updBkt sp g.bs idx (pushItem sp it) } ∧
    (genItems { g with bs := updBkt sp g.bs idx (pushItem sp it) }).Perm (it :: genItems g) := by
  have hperm := genItems_upd_add sp g idx (pushItem sp it) it hidx (List.perm_append_singleton it _)
  have B : ∀ t, bkt sp (updBkt sp g.bs idx (pushItem sp it)) t
      = if idx = t then pushItem sp it (bkt sp g.bs t) else bkt sp g.bs t := fun t => bkt_updBkt sp _ _ _ _ hidx
  have hlen := updBkt_length sp g.bs idx (pushItem sp it)
  generalize updBkt sp g.bs idx (pushItem sp it) = bs' at B hlen hperm ⊢
  have hb : ∀ t, (bkt sp bs' t).bst = (bkt sp g.bs t).bst := by
    intro t; rw [B]; split <;> rfl
  have hw : ∀ t, (bkt sp g.bs t).wasFull = true → (bkt sp bs' t).wasFull = true := by
    intro t h; rw [B]; split
    · rw [pushItem_wasFull, h]; rfl
    · exact h
  refine ⟨⟨hlen.trans hI.len, fun hu t => ?_, fun t ht => ?_, fun t x hx => ?_,
    fun t => BstOK_congr sp _ _ (hb t).symm (hI.enc t)⟩, hperm⟩
  · show (bkt sp bs' t).items.length ≤ sp.maxCount
    rw [B]
    split
    · rename_i e; subst e
      simp only [isFull, hu] at hroom
      simpa [Nat.succ_le_iff] using hroom
    · exact hI.size hu t
  · show (bkt sp bs' t).wasFull = true
    have ht' : isFull sp (bkt sp bs' t) = true := ht
    rw [B] at ht' ⊢
    by_cases e : idx = t
    · rw [if_pos e] at ht' ⊢
      simp only [isFull, pushItem_items, List.length_append, List.length_singleton, Bool.and_eq_true,
        Bool.not_eq_true', decide_eq_true_eq] at ht'
      have := ok.fullLe ht'.1
      simp [pushItem_wasFull, ht'.1]; right; omega
    · rw [if_neg e] at ht' ⊢
      exact hI.full t ht'
  · have hx' : x ∈ (bkt sp bs' t).items := hx
    rw [B] at hx'
    have hmem : x ∈ (bkt sp g.bs t).items ∨ (x = it ∧ idx = t) := by
      by_cases e : idx = t
      · rw [if_pos e, pushItem_items] at hx'
        exact (List.mem_append.mp hx').imp_right fun h => ⟨List.mem_singleton.mp h, e⟩
      · rw [if_neg e] at hx'; exact Or.inl hx'
    rcases hmem with h | ⟨rfl, e⟩
    · obtain ⟨p', h1, h2, h3⟩ := hI.place t x h
      exact ⟨p', h1, Nat.le_trans h2 (Nat.le_of_eq (maxProbe_congr sp g.L _ _ (hb _).symm)),
        fun q hlt => hw _ (h3 q hlt)⟩
    · exact ⟨p, e ▸ he, Nat.le_trans hp (Nat.le_of_eq (maxProbe_congr sp g.L _ _ (hb _).symm)),
        fun q hq => hw _ (hfull q hq)⟩

/-- **`pvAddNogrow` keeps the generation invariant and adds exactly the new item** — for every
    probing rule, `WasFull` rule and bound encoder that `SpecOK` allows, and every hash function -/
theorem addNogrowGen_inv (sp : Spec) (hf : Nat → Nat) (ok : SpecOK sp) (g g' : Gen) (it : Item)
    (idx : Nat) (hI : GenInv sp hf g) (hadd : addNogrowGen sp g (hf it.key) it = some (g', idx)) :
    GenInv sp hf g' ∧ (genItems g').Perm (it :: genItems g) ∧ g'.L = g.L := by
  rcases addNogrowGen_cases sp g (hf it.key) it with ⟨p, hplt, e, hroom, hfull⟩ | ⟨e, _⟩ <;> rw [e] at hadd
  · cases hadd
    have hhome : start g.L (hf it.key) < g.bs.length := by rw [hI.len]; exact start_lt _ _
    have hidx : pseq sp g.L (start g.L (hf it.key)) p < g.bs.length := by
      rw [hI.len]; exact pseq_lt sp g.L _ p (start_lt _ _)
    -- p = 0 for the bucket kind that never probes
    have hz : sp.bound = .zero → p = 0 := by
      intro hb
      cases p with
      | zero => rfl
      | succ p' =>
        have := hfull 0 (Nat.succ_pos _)
        simp [isFull, ok.zeroUnl hb] at this
    -- the two updates commute: record the displacement first (keeps the invariant), then place the item
    rw [updBkt_comm sp g.bs _ _ _ _ hidx hhome fun b => by unfold updProbe; cases sp.bound <;> rfl]
    obtain ⟨a, c, d⟩ := updProbe_spec sp g.L (bkt sp g.bs (start g.L (hf it.key))) p hplt hz (hI.enc _)
    have hA := hI.of_updBkt (start g.L (hf it.key)) (fun b => updProbe sp b p)
      ⟨fun x hx => ⟨x, by rwa [updProbe_items] at hx, rfl⟩, by rw [updProbe_items], updProbe_wasFull .., d, fun _ => a⟩
    have B := fun t => bkt_updBkt sp g.bs _ t (fun b => updProbe sp b p) hhome
    have hitems := genItems_upd_same sp g (start g.L (hf it.key)) (fun b => updProbe sp b p) (updProbe_items ..)
    have hlen := updBkt_length sp g.bs (start g.L (hf it.key)) fun b => updProbe sp b p
    generalize updBkt sp g.bs (start g.L (hf it.key)) (fun b => updProbe sp b p) = bs1 at hA B hitems hlen ⊢
    have same : ∀ t, (bkt sp bs1 t).items = (bkt sp g.bs t).items ∧
        (bkt sp bs1 t).wasFull = (bkt sp g.bs t).wasFull := by
      intro t; rw [B]; split
      · exact ⟨updProbe_items .., updProbe_wasFull ..⟩
      · exact ⟨rfl, rfl⟩
    obtain ⟨i1, i2⟩ := pushBkt_inv sp hf ok ⟨g.L, bs1⟩ it _ p hA (by rw [hlen]; exact hidx)
      (by rw [isFull_congr sp _ _ (same _).1]; exact hroom) rfl (by rw [B]; exact (if_pos rfl).symm ▸ c)
      (fun q hq => by rw [(same _).2]; exact hI.full _ (hfull q hq))
    exact ⟨i1, hitems ▸ i2, rfl⟩
  · cases hadd

/-- **"Hash table is full" iff every bucket is full** (C11; uses C13's surjectivity of the probe
    sequence) -/
theorem addNogrowGen_none_iff (sp : Spec) (g : Gen) (h : Nat) (it : Item) :
    addNogrowGen sp g h it = none ↔ ∀ b, b < 2 ^ g.L → isFull sp (bkt sp g.bs b) = true := by
  rw [← addProbe_eq_none_iff sp.quad g.L (fun i => isFull sp (bkt sp g.bs i)) _ (start_lt g.L h)]
  simp only [addNogrowGen, findSlot_eq_addProbe]
  cases addProbe sp.quad g.L (fun i => isFull sp (bkt sp g.bs i)) (start g.L h) <;> simp

theorem sum_lengths_ge (bs : List Bucket) (m : Nat) (h : ∀ b ∈ bs, m ≤ b.items.length) :
    bs.length * m ≤ (bs.map (·.items.length)).sum := by
  induction bs with
  | nil => simp
  | cons b rest ih =>
    simp only [List.length_cons, List.map_cons, List.sum_cons]
    have := h b (by simp)
    have := ih (fun b hb => h b (by simp [hb]))
    rw [Nat.add_mul]; omega

theorem sum_lengths_le (bs : List Bucket) (m : Nat) (h : ∀ b ∈ bs, b.items.length ≤ m) :
    (bs.map (·.items.length)).sum ≤ bs.length * m := by
  induction bs with
  | nil => simp
  | cons b rest ih =>
    simp only [List.length_cons, List.map_cons, List.sum_cons]
    have := h b (by simp)
    have := ih (fun b hb => h b (by simp [hb]))
    rw [Nat.add_mul]; omega

theorem genItems_length_le (sp : Spec) (hf : Nat → Nat) (g : Gen) (hI : GenInv sp hf g)
    (hu : sp.unlimited = false) : (genItems g).length ≤ 2 ^ g.L * sp.maxCount := by
  rw [← genCount_eq, ← hI.len]
  unfold genCount
  apply sum_lengths_le
  intro b hb
  obtain ⟨i, _, rfl⟩ := (mem_bs_iff sp g.bs b).mp hb
  exact hI.size hu i

theorem genCount_of_all_full (sp : Spec) (g : Gen) (hlen : g.bs.length = 2 ^ g.L)
    (hall : ∀ b, b < 2 ^ g.L → isFull sp (bkt sp g.bs b) = true) :
    sp.unlimited = false ∧ 2 ^ g.L * sp.maxCount ≤ genCount g := by
  have h0 := hall 0 (Nat.two_pow_pos _)
  have hu : sp.unlimited = false := by
    unfold isFull at h0; cases hunl : sp.unlimited <;> simp_all
  refine ⟨hu, ?_⟩
  unfold genCount
  rw [← hlen]
  apply sum_lengths_ge
  intro b hb
  obtain ⟨i, hi, rfl⟩ := (mem_bs_iff sp g.bs b).mp hb
  have := hall i (by omega)
  unfold isFull at this
  simpa [hu] using this

theorem addNogrowGen_isSome (sp : Spec) (g : Gen) (h : Nat) (it : Item) (hlen : g.bs.length = 2 ^ g.L)
    (hroom : sp.unlimited = true ∨ genCount g < 2 ^ g.L * sp.maxCount) :
    (addNogrowGen sp g h it).isSome := by
  cases hadd : addNogrowGen sp g h it with
  | some _ => rfl
  | none =>
    obtain ⟨hu, hge⟩ := genCount_of_all_full sp g hlen ((addNogrowGen_none_iff sp g h it).mp hadd)
    rcases hroom with h1 | h1
    · rw [hu] at h1; cases h1
    · omega

theorem addNogrowGen_emptyGen_isSome (sp : Spec) (ok : SpecOK sp) (L h : Nat) (it : Item) :
    (addNogrowGen sp (emptyGen sp L) h it).isSome := by
  apply addNogrowGen_isSome sp _ h it (by simp [emptyGen])
  cases hu : sp.unlimited
  · right; rw [genCount_eq, genItems_emptyGen]
    exact Nat.mul_pos (Nat.two_pow_pos _) ok.maxPos
  · left; rfl

end Momo.HT
