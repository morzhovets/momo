import Momo.Proof.HTLedgerReloc
/-!
  C03 / C04 for the hash family: the operations of one container on the ledger.

  `BooksOK` (one bucket-array block per generation; without one, nothing but the crew) is all that is asked of the container. For every
  configuration, hash function, table, item, creator and fault record the monitor follows the books through `pvAdd`, `pvRemove`,
  `pvExtract`, `Remove(filter)`, `Reserve`; an operation that fails returns the very same container and a ledger that holds exactly
  what it held. The statements follow what the operation can do: a failed removal leaves the world itself as it was, a failed insertion
  or `Reserve` may have obtained blocks and given them back; a creator may change the frame (`FE` to `FE'`).
  Suffixes: `_led` = the ledger holds the new books (plus the frame); `_books` = `BooksOK` of the result; `_elim` = the ways a function
  ends, as an elimination rule; `PrepPost`, `ExtPost`, `ExtKeyPost` say per shape of result what `_led` gives. `BooksOK.…`, `Led.…`,
  `SysOK.…` = a fact used by dot notation on a hypothesis of that kind.
-/
namespace Momo.HTL
open Momo Momo.HT Momo.Ledger

structure BooksOK (st : St) : Prop where
  len : st.arrs.length = st.t.gens.length
  nil : st.arrs = [] → st.params = none ∧ st.bufs = [] ∧ st.els = []

theorem BooksOK.init : BooksOK ({} : St) := ⟨rfl, fun _ => ⟨rfl, rfl, rfl⟩⟩

theorem BooksOK.arrs_nil {st : St} (h : BooksOK st) (hg : st.t.gens.isEmpty = true) : st.arrs = [] := by
  have := h.len
  rw [List.isEmpty_iff.mp hg] at this
  exact List.eq_nil_of_length_eq_zero this

theorem BooksOK.arrs_ne {st : St} (h : BooksOK st) {g : Gen} {rest : List Gen} (hg : st.t.gens = g :: rest) : st.arrs ≠ [] := by
  intro hc
  have := h.len
  rw [hc, hg] at this
  simp at this

theorem blocks_consArr (cfg : Cfg) (st : St) (t : Table) (a n : Nat) :
    (({ st with t := t, arrs := (a, n) :: st.arrs } : St).blocks cfg).Perm ((a, cfg.mgr, n) :: st.blocks cfg) :=
  List.perm_middle.append_right _

theorem blocks_consArrParams (cfg : Cfg) (st : St) (t : Table) (a n p : Nat) (hp : st.params = none) :
    (({ st with t := t, arrs := (a, n) :: st.arrs, params := some p } : St).blocks cfg).Perm
      ((p, cfg.mgr, cfg.psz) :: (a, cfg.mgr, n) :: st.blocks cfg) := by
  simp only [St.blocks_eq, hp, optL, List.map_cons, List.map_nil, List.append_nil]
  exact ((List.perm_middle.trans ((List.perm_append_comm.append_right _).cons _)).append_right _).trans
    (List.Perm.swap _ _ _)

/-- `Buckets::Create` on the books: the bucket array of `n` bytes, for the first table together with the `BucketParams` block -/
def created (cfg : Cfg) (st : St) (T : Table) (n : Nat) (w : W) : St × W :=
  if st.t.gens.isEmpty then
    ({ st with t := T, arrs := ((w.allocB cfg.mgr n).1, n) :: st.arrs,
               params := some ((w.allocB cfg.mgr n).2.allocB cfg.mgr cfg.psz).1 },
      ((w.allocB cfg.mgr n).2.allocB cfg.mgr cfg.psz).2)
  else ({ st with t := T, arrs := ((w.allocB cfg.mgr n).1, n) :: st.arrs }, (w.allocB cfg.mgr n).2)

theorem created_fst (cfg : Cfg) (st : St) (T : Table) (n : Nat) (w : W) :
    ∃ po, (created cfg st T n w).1 = { st with t := T, arrs := (w.nextB, n) :: st.arrs, params := po } := by
  unfold created
  cases st.t.gens.isEmpty with
  | true => exact ⟨_, rfl⟩
  | false => exact ⟨_, rfl⟩

theorem created_led (cfg : Cfg) (st : St) (T : Table) (n : Nat) (w : W) (FB : List Blk) (E : List Nat) (hb : BooksOK st)
    (h : Led w (st.blocks cfg ++ FB) E) :
    Led (created cfg st T n w).2 ((created cfg st T n w).1.blocks cfg ++ FB) E := by
  unfold created
  rcases Bool.eq_false_or_eq_true st.t.gens.isEmpty with hfirst | hfirst
  · rw [if_pos hfirst]
    exact ((h.alloc cfg.mgr n).alloc cfg.mgr cfg.psz).permB
      ((blocks_consArrParams cfg st T _ _ _ (hb.nil (hb.arrs_nil hfirst)).1).append_right FB).symm
  · rw [if_neg (by simp [hfirst])]
    exact (h.alloc cfg.mgr n).permB ((blocks_consArr cfg st T _ _).append_right FB).symm

/-- `fail`: the container is returned, in a world `w'` where what was obtained has been given back -/
theorem addPrepL_elim (cfg : Cfg) (hf : Nat → Nat) (st : St) (it : Item) (crT : Bool) (f : Flt) (w : W)
    {P : (St × W × Outcome) ⊕ (St × W) → Prop}
    (fail : ∀ w' out, out ≠ .ok → (∀ B E, Led w B E → Led w' B E) → P (.inl (st, w', out)))
    (head : ∀ g rest g' i, st.t.gens = g :: rest → addNogrowGen cfg.sp g (hf it.key) it = some (g', i) → crT = false →
      P (.inr ({ st with t := { st.t with gens := g' :: rest, count := st.t.count + 1 } }, w)))
    (grow : ∀ g' i, addNogrowGen cfg.sp (emptyGen cfg.sp (growLogD cfg.sp st.t)) (hf it.key) it = some (g', i) → crT = false →
      P (.inr (created cfg st { gens := g' :: st.t.gens, count := st.t.count + 1, cap := capacityOf cfg.sp (growLogD cfg.sp st.t) }
        (cfg.arrSize (growLogD cfg.sp st.t)) w))) :
    P (addPrepL cfg hf st it crT f w) := by
  -- arms, in the order of `addPrepL`: 1 sizing check fails; head generation: 2 no table, 3 creator throws, 4 bucket full, 5 added;
  -- 6 array refused; 7 `BucketParams` refused; new generation: 8 creator throws or bucket full, 9 added
  fun_cases addPrepL cfg hf st it crT f w with
  | case1 | case2 | case3 | case4 | case6 => exact fail w _ nofun (fun _ _ h => h)
  | case5 _ _ g rest hg hcr g' i hadd => exact head g rest g' i hg hadd (by simpa using hcr)
  | case7 => exact fail _ _ nofun (fun _ _ h => h.alloc_free _ _)
  | case8 _ _ _ _ nl w1 a first w2 hadd =>
    -- a throwing creator or a full bucket gives the array back, for the first table also the `BucketParams` block
    refine fail _ _ (by cases crT <;> nofun) (fun B E h => ?_)
    cases hfirst : first
    · simp only [w2, hfirst, Bool.false_eq_true, if_false]; exact h.alloc_free _ _
    · simp only [w2, hfirst, if_true]; exact ((h.alloc _ _).alloc_free _ _).free
  | case9 _ _ _ _ nl w1 a first w2 po g' i hadd =>
    cases crT with
    | true => cases hadd
    | false =>
      have := grow g' i hadd rfl
      unfold created at this
      rcases Bool.eq_false_or_eq_true st.t.gens.isEmpty with hfirst | hfirst <;>
        simp only [w2, po, first, hfirst, Bool.false_eq_true, if_false, if_true] at this ⊢ <;> exact this

/-- on success the new item is not yet booked -/
def PrepPost (cfg : Cfg) (st : St) (FB : List Blk) (E : List Nat) : (St × W × Outcome) ⊕ (St × W) → Prop
  | .inl r => r.1 = st ∧ Led r.2.1 (st.blocks cfg ++ FB) E ∧ r.2.2 ≠ .ok
  | .inr r => Led r.2 (r.1.blocks cfg ++ FB) E ∧ r.1.els = st.els ∧ (∀ els', BooksOK { r.1 with els := els' }) ∧ r.1.t.gens ≠ []

theorem addPrepL_led (cfg : Cfg) (hf : Nat → Nat) (st : St) (it : Item) (crT : Bool) (f : Flt) (w : W) (FB : List Blk)
    (E : List Nat) (hb : BooksOK st) (h : Led w (st.blocks cfg ++ FB) E) :
    PrepPost cfg st FB E (addPrepL cfg hf st it crT f w) := by
  refine addPrepL_elim cfg hf st it crT f w (fun w' out ho hw => ⟨rfl, hw _ _ h, ho⟩) ?_ ?_
  · intro g rest g' i hg _ _
    exact ⟨h, rfl, fun _ => ⟨by simpa [hg] using hb.len, fun hc => absurd hc (hb.arrs_ne hg)⟩, nofun⟩
  · intro g' i _ _
    have hl := created_led cfg st { gens := g' :: st.t.gens, count := st.t.count + 1, cap := capacityOf cfg.sp (growLogD cfg.sp st.t) }
      (cfg.arrSize (growLogD cfg.sp st.t)) w FB E hb h
    obtain ⟨po, e⟩ := created_fst cfg st { gens := g' :: st.t.gens, count := st.t.count + 1, cap := capacityOf cfg.sp (growLogD cfg.sp st.t) }
      (cfg.arrSize (growLogD cfg.sp st.t)) w
    refine ⟨hl, ?_⟩
    rw [e]
    exact ⟨rfl, fun _ => ⟨by simpa using hb.len, nofun⟩, nofun⟩

/-- what a creator does to the ledger: a new element object appears, the frame changes from `FE` to `FE'` -/
def CrSpec (crRun : W → Nat × W) (FE FE' : List Nat) : Prop :=
  ∀ (w : W) (B : List Blk) (E0 : List Nat), Led w B (E0 ++ FE) → Led (crRun w).2 B ((crRun w).1 :: (E0 ++ FE'))

theorem crSpec_fresh (cfg : Cfg) (FE : List Nat) : CrSpec (Creator.fresh.run cfg) FE FE := fun _ _ _ h => h.ctor

theorem crSpec_handle (cfg : Cfg) (e : Nat) (FE FE' : List Nat) (hp : FE.Perm (e :: FE')) :
    CrSpec ((Creator.handle e).run cfg) FE FE' :=
  fun _ _ E0 h => (h.permE ((hp.append_left E0).trans List.perm_middle)).reloc cfg.cat

theorem relocL_books (cfg : Cfg) (hf : Nat → Nat) (st : St) (stop : Option Nat) (w : W) (hb : BooksOK st)
    (hne : st.t.gens ≠ []) : BooksOK (relocL cfg hf st stop w).1 := by
  unfold relocL
  simp only
  obtain ⟨l1, l2⟩ := relocate_length cfg.sp hf st.t (if cfg.sp.nothrowReloc = true then none else stop)
  have l3 := l2 hne
  refine ⟨?_, ?_⟩
  · simp only [List.length_take]; rw [hb.len]; omega
  · intro hc
    exfalso
    have h0 := congrArg List.length hc
    simp only [List.length_take, List.length_nil] at h0
    rw [hb.len] at h0
    have : 0 < st.t.gens.length := List.length_pos_iff.mpr hne
    omega

theorem finishL_led (cfg : Cfg) (hf : Nat → Nat) (st : St) (f : Flt) (w : W) (FB : List Blk) (FE : List Nat)
    (hb : BooksOK st) (hne : st.t.gens ≠ []) (h : Led w (st.blocks cfg ++ FB) (st.elems ++ FE)) :
    Led (finishL cfg hf st f w).2 ((finishL cfg hf st f w).1.blocks cfg ++ FB) ((finishL cfg hf st f w).1.elems ++ FE) ∧
    BooksOK (finishL cfg hf st f w).1 := by
  unfold finishL
  by_cases hl : st.t.gens.length > 1
  · rw [if_pos hl]
    exact ⟨relocL_led cfg hf st f.mig w FB FE hne h, relocL_books cfg hf st f.mig w hb hne⟩
  · rw [if_neg hl]
    exact ⟨h, hb⟩

/-- **`pvAdd` on the ledger.** The failures: refused bucket array without fallback, refused `BucketParams`, throwing creator, full
    table. The success clause holds whatever happens to the migration. -/
theorem addL_led (cfg : Cfg) (hf : Nat → Nat) (st : St) (it : Item) (cr : Creator) (f : Flt) (w : W)
    (FB : List Blk) (FE FE' : List Nat) (hb : BooksOK st) (hcr : CrSpec (cr.run cfg) FE FE')
    (h : Led w (st.blocks cfg ++ FB) (st.elems ++ FE)) :
    ((addL cfg hf st it cr f w).2.2 ≠ .ok →
      (addL cfg hf st it cr f w).1 = st ∧ Led (addL cfg hf st it cr f w).2.1 (st.blocks cfg ++ FB) (st.elems ++ FE)) ∧
    ((addL cfg hf st it cr f w).2.2 = .ok →
      Led (addL cfg hf st it cr f w).2.1 ((addL cfg hf st it cr f w).1.blocks cfg ++ FB)
        ((addL cfg hf st it cr f w).1.elems ++ FE') ∧ BooksOK (addL cfg hf st it cr f w).1) := by
  have hp := addPrepL_led cfg hf st it (cr.throws cfg f) f w FB (st.elems ++ FE) hb h
  unfold addL addCoreL addCoreG
  cases hprep : addPrepL cfg hf st it (cr.throws cfg f) f w with
  | inl r =>
    rw [hprep] at hp
    obtain ⟨st1, w1, out⟩ := r
    obtain ⟨p1, p2, p3⟩ := hp
    cases out with
    | ok => exact absurd rfl p3
    | _ => exact ⟨fun _ => ⟨p1, p2⟩, fun hc => nomatch hc⟩
  | inr r =>
    rw [hprep] at hp
    obtain ⟨st1, w1⟩ := r
    obtain ⟨p1, p2, p5, p6⟩ := hp
    have h1 := hcr w1 _ _ (show Led w1 (st1.blocks cfg ++ FB) (st1.els.map Prod.snd ++ FE) by rw [p2]; exact p1)
    obtain ⟨e1, e2⟩ := finishL_led cfg hf { st1 with els := (it.key, (cr.run cfg w1).1) :: st1.els } f _ FB FE'
      (p5 _) p6 h1
    exact ⟨fun hc => absurd rfl hc, fun _ => ⟨e1, e2⟩⟩

/-- **`pvInsert` on the ledger** (Insert / InsertVar / emplace / map insertion / subscript insertion, `Insert(ExtractedItem&&)`) -/
theorem insertL_led (cfg : Cfg) (hf : Nat → Nat) (st : St) (it : Item) (cr : Creator) (f : Flt) (w : W)
    (FB : List Blk) (FE FE' : List Nat) (hb : BooksOK st) (hcr : CrSpec (cr.run cfg) FE FE')
    (h : Led w (st.blocks cfg ++ FB) (st.elems ++ FE)) :
    ((insertL cfg hf st it cr f w).2.2 ≠ .done .ok →
      (insertL cfg hf st it cr f w).1 = st ∧ Led (insertL cfg hf st it cr f w).2.1 (st.blocks cfg ++ FB) (st.elems ++ FE)) ∧
    ((insertL cfg hf st it cr f w).2.2 = .done .ok →
      Led (insertL cfg hf st it cr f w).2.1 ((insertL cfg hf st it cr f w).1.blocks cfg ++ FB)
        ((insertL cfg hf st it cr f w).1.elems ++ FE') ∧ BooksOK (insertL cfg hf st it cr f w).1) := by
  unfold insertL
  split
  · exact ⟨fun _ => ⟨rfl, h⟩, fun hc => by cases hc⟩
  · split
    · exact ⟨fun _ => ⟨rfl, h⟩, fun hc => by cases hc⟩
    · obtain ⟨a1, a2⟩ := addL_led cfg hf st it cr f w FB FE FE' hb hcr h
      simp only
      refine ⟨fun hc => a1 (fun hk => hc (by rw [hk])), fun hc => a2 ?_⟩
      injection hc

/-- `insertL_led` for a creator that leaves the frame as it is (`FE' = FE`): then the ledger is on the books of the result
    whatever happened -/
theorem insertL_led_same (cfg : Cfg) (hf : Nat → Nat) (st : St) (it : Item) (cr : Creator) (f : Flt) (w : W)
    (FB : List Blk) (FE : List Nat) (hb : BooksOK st) (hcr : CrSpec (cr.run cfg) FE FE)
    (h : Led w (st.blocks cfg ++ FB) (st.elems ++ FE)) :
    ((insertL cfg hf st it cr f w).2.2 ≠ .done .ok → (insertL cfg hf st it cr f w).1 = st) ∧
    Led (insertL cfg hf st it cr f w).2.1 ((insertL cfg hf st it cr f w).1.blocks cfg ++ FB)
      ((insertL cfg hf st it cr f w).1.elems ++ FE) ∧ BooksOK (insertL cfg hf st it cr f w).1 := by
  obtain ⟨i1, i2⟩ := insertL_led cfg hf st it cr f w FB FE FE hb hcr h
  refine ⟨fun hno => (i1 hno).1, ?_⟩
  by_cases hok : (insertL cfg hf st it cr f w).2.2 = .done .ok
  · exact i2 hok
  · obtain ⟨j1, j2⟩ := i1 hok
    rw [j1]
    exact ⟨j2, hb⟩

/-- the failure half of `addL_led` without its ledger hypotheses -/
theorem addL_fail_same (cfg : Cfg) (hf : Nat → Nat) (st : St) (it : Item) (cr : Creator) (f : Flt) (w : W)
    (hne : (addL cfg hf st it cr f w).2.2 ≠ .ok) : (addL cfg hf st it cr f w).1 = st := by
  have hp := addPrepL_elim cfg hf st it (cr.throws cfg f) f w
    (P := fun x => match x with | .inl r => r.1 = st ∧ r.2.2 ≠ .ok | .inr _ => True)
    (fun _ _ ho _ => ⟨rfl, ho⟩) (fun _ _ _ _ _ _ _ => trivial) (fun _ _ _ _ => trivial)
  unfold addL addCoreL addCoreG at hne ⊢
  cases hprep : addPrepL cfg hf st it (cr.throws cfg f) f w with
  | inl r =>
    rw [hprep] at hp
    obtain ⟨st1, w1, out⟩ := r
    obtain ⟨p1, p2⟩ := hp
    simp only at p1 p2 ⊢
    cases out with
    | ok => exact absurd rfl p2
    | full => exact p1
    | badAlloc => exact p1
    | invalid => exact p1
  | inr r =>
    rw [hprep] at hne
    simp at hne

/-- the failure half of `insertL_led` without its ledger hypotheses -/
theorem insertL_fail_same (cfg : Cfg) (hf : Nat → Nat) (st : St) (it : Item) (cr : Creator) (f : Flt) (w : W)
    (hne : (insertL cfg hf st it cr f w).2.2 ≠ .done .ok) : (insertL cfg hf st it cr f w).1 = st := by
  -- arms: 1 a functor throws; 2 the key is there; 3 `pvAdd`
  fun_cases insertL cfg hf st it cr f w with
  | case1 | case2 => rfl
  | case3 c hfind => exact addL_fail_same cfg hf st it cr f w (fun hk => hne (by simp only [insertL, c, hfind, hk, Bool.false_eq_true, if_false]))

/-- without a throwing functor and for an absent key `pvInsert` is `pvAdd` -/
theorem insertL_absent (cfg : Cfg) (hf : Nat → Nat) (st : St) (it : Item) (cr : Creator) (f : Flt) (w : W)
    (h1 : f.hashThrows = false) (h2 : f.eqThrows = false) (hk : findTable cfg.sp hf st.t it.key = none) :
    insertL cfg hf st it cr f w = ((addL cfg hf st it cr f w).1, (addL cfg hf st it cr f w).2.1, .done (addL cfg hf st it cr f w).2.2) := by
  simp only [insertL, h1, h2, Bool.or_self, Bool.false_eq_true, if_false, hk]

theorem lookE_dropE_ne {els : Els} {k k' : Nat} (hne : k ≠ k') : lookE (dropE els k) k' = lookE els k' := by
  induction els with
  | nil => rfl
  | cons p r ih =>
    obtain ⟨k0, e0⟩ := p
    by_cases h1 : k0 = k
    · subst h1
      simp only [dropE, if_true, lookE, hne, if_false]
    · simp only [dropE, h1, if_false, lookE]
      by_cases h2 : k0 = k'
      · simp [h2]
      · simp only [h2, if_false]; exact ih

theorem BooksOK.removePos {st : St} (hb : BooksOK st) (cfg : Cfg) (gi b j : Nat) (els' : Els) (he : st.els = [] → els' = []) :
    BooksOK ({ st with t := removePos cfg.sp st.t gi b j, els := els' } : St) :=
  ⟨by simpa [removePos_gens_length] using hb.len, fun ha => ⟨(hb.nil ha).1, (hb.nil ha).2.1, he (hb.nil ha).2.2⟩⟩

theorem dropE_nil (k : Nat) : dropE [] k = [] := rfl
theorem setE_nil (k e : Nat) : setE [] k e = [] := rfl

/-- `Replace(last, removed)` on the books: the removed key goes; when another item was the bucket's last one, its key now
    belongs to the surviving object -/
theorem replace_led {w : W} {B : List Blk} {FE : List Nat} {els : Els} {xk lk d s : Nat} (isLast : Bool)
    (h : Led w B (els.map Prod.snd ++ FE)) (hd : lookE els xk = some d) (hs : lookE els lk = some s)
    (hl : isLast = false → xk ≠ lk) :
    Led (w.replaceE (if isLast then d else s) d) B
      ((if isLast then dropE els xk else setE (dropE els xk) lk d).map Prod.snd ++ FE) := by
  have hE := (perm_dropE hd).append_right FE
  cases isLast with
  | true => exact (h.permE hE).replace (by simp)
  | false =>
    have hs' : lookE (dropE els xk) lk = some s := by rw [lookE_dropE_ne (hl rfl)]; exact hs
    have h1 : Led w B (s :: d :: ((dropE (dropE els xk) lk).map Prod.snd ++ FE)) :=
      h.permE ((hE.trans (((perm_dropE hs').append_right FE).cons d)).trans (List.Perm.swap s d _))
    exact (h1.replace (d := d) (by simp)).permE ((perm_setE hs' d).append_right FE).symm

theorem removeAtL_led (cfg : Cfg) (st : St) (gi b j : Nat) (f : Flt) (w : W) (FB : List Blk) (FE : List Nat)
    (hb : BooksOK st) (h : Led w (st.blocks cfg ++ FB) (st.elems ++ FE)) :
    ((removeAtL cfg st gi b j f w).2.2 = true → (removeAtL cfg st gi b j f w).1 = st ∧ (removeAtL cfg st gi b j f w).2.1 = w) ∧
    Led (removeAtL cfg st gi b j f w).2.1 ((removeAtL cfg st gi b j f w).1.blocks cfg ++ FB)
      ((removeAtL cfg st gi b j f w).1.elems ++ FE) ∧ BooksOK (removeAtL cfg st gi b j f w).1 := by
  -- arms: 1 the assignment throws; 2 removed; 3 an item without an object on the books (table only); 4 no item at the position
  fun_cases removeAtL cfg st gi b j f w with
  | case1 | case4 => exact ⟨fun _ => ⟨rfl, rfl⟩, h, hb⟩
  | case2 x l _ _ d s hs hd _ isLast _ =>
    refine ⟨nofun, ?_, hb.removePos cfg gi b j _ (fun he => by rw [he]; cases isLast <;> rfl)⟩
    exact replace_led isLast h hd hs (by intro hc he; simp [isLast, he] at hc)
  | case3 => exact ⟨nofun, h, hb.removePos cfg gi b j st.els id⟩

/-- `hh` = the handle's object, beside the frame. A conjunction of implications and not a `match` on the result: it unfolds to the
    statement of `C04_hash_extract_strong` (Props/C04). -/
def ExtPost (cfg : Cfg) (st : St) (FB : List Blk) (FE : List Nat) (r : St × W × Option Nat) : Prop :=
  (r.2.2 = none → r.1 = st ∧ Led r.2.1 (st.blocks cfg ++ FB) (st.elems ++ FE)) ∧
  (∀ hh, r.2.2 = some hh → Led r.2.1 (r.1.blocks cfg ++ FB) (r.1.elems ++ hh :: FE) ∧ BooksOK r.1)

theorem extractAtL_led (cfg : Cfg) (st : St) (gi b j : Nat) (f : Flt) (w : W) (FB : List Blk) (FE : List Nat)
    (hb : BooksOK st) (h : Led w (st.blocks cfg ++ FB) (st.elems ++ FE)) :
    ExtPost cfg st FB FE (extractAtL cfg st gi b j f w) := by
  have hnone : ExtPost cfg st FB FE (st, w, none) := ⟨fun _ => ⟨rfl, h⟩, nofun⟩
  have post : ∀ (els' : Els) (w' : W) (e : Nat), (st.els = [] → els' = []) →
      Led w' (st.blocks cfg ++ FB) (els'.map Prod.snd ++ e :: FE) →
      ExtPost cfg st FB FE ({ st with t := removePos cfg.sp st.t gi b j, els := els' }, w', some e) :=
    fun els' w' e he hl => ⟨nofun, fun _ hc => Option.some.inj hc ▸ ⟨hl, hb.removePos cfg gi b j els' he⟩⟩
  have key : ∀ {x l : Item}, ¬(decide (j + 1 = lenAt cfg st.t gi b) || x.key == l.key) = true → x.key ≠ l.key :=
    fun c he => c (by simp [he])
  -- arms: last item of the bucket: 1 copy throws, 2 relocated; 3 nothrow relocatable; copy-only: 4 copy throws, 5 assignment
  -- throws, 6 replaced; 7 an item without an object on the books; 8 no item at the position
  fun_cases extractAtL cfg st gi b j f w with
  | case1 | case4 | case7 | case8 => exact hnone
  | case2 x l _ _ d s _ hd _ _ =>
    exact post _ _ _ (fun he => by rw [he]; rfl) (h.relocOut cfg.cat hd)
  | case3 x l _ _ d s hs hd c1 _ =>
    -- nothrow relocatable: Relocate(mid, dst); Relocate(src, &mid)
    exact post _ _ _ (fun he => by rw [he]; rfl)
      ((h.relocOut cfg.cat hd).relocKey cfg.cat ((lookE_dropE_ne (key c1)).trans hs))
  | case5 x l _ _ d s hs hd _ _ _ _ =>
    -- copy-only: Copy(mid, dst); the assignment of Replace(src, mid) throws and the copy in the handle is destroyed again
    exact ⟨fun _ => ⟨rfl, ((((h.copy (List.mem_append_left _ (lookE_elems hd))).permE List.perm_middle.symm).use
      (List.mem_append_left _ (lookE_elems hs))).permE List.perm_middle).dtor⟩, nofun⟩
  | case6 x l _ _ d s hs hd c1 _ _ _ =>
    -- … or it does not: the copy waits in the frame while `Replace` runs
    have k3 := replace_led false ((h.copy (List.mem_append_left _ (lookE_elems hd))).permE List.perm_middle.symm) hd hs
      (fun _ => key c1)
    simp only [Bool.false_eq_true, if_false] at k3
    exact post _ _ _ (fun he => by rw [he]; rfl) k3

def ExtKeyPost (cfg : Cfg) (st : St) (FB : List Blk) (FE : List Nat) : St × W × Res × Option (Item × Nat) → Prop
  | (st', w', r, some p) => r = .done .ok ∧ Led w' (st'.blocks cfg ++ FB) (st'.elems ++ p.2 :: FE) ∧ BooksOK st'
  | (st', w', r, none) => r ≠ .done .ok ∧ st' = st ∧ Led w' (st.blocks cfg ++ FB) (st.elems ++ FE)

theorem extractKeyL_led (cfg : Cfg) (hf : Nat → Nat) (st : St) (k : Nat) (f : Flt) (w : W) (FB : List Blk) (FE : List Nat)
    (hb : BooksOK st) (h : Led w (st.blocks cfg ++ FB) (st.elems ++ FE)) :
    ExtKeyPost cfg st FB FE (extractKeyL cfg hf st k f w) := by
  -- arms: 1 a functor throws; 2 key not found; 3 extracted; 4 the extraction throws
  fun_cases extractKeyL cfg hf st k f w with
  | case1 | case2 => exact ⟨nofun, rfl, h⟩
  | case3 _ gi b j _ x st1 w1 e hext _ =>
    have he : ExtPost cfg st FB FE (st1, w1, some e) := hext ▸ extractAtL_led cfg st gi b j f w FB FE hb h
    exact ⟨rfl, (he.2 e rfl).1, (he.2 e rfl).2⟩
  | case4 _ gi b j _ st1 w1 o hext hno =>
    have he : ExtPost cfg st FB FE (st1, w1, o) := hext ▸ extractAtL_led cfg st gi b j f w FB FE hb h
    cases o with
    | none => exact ⟨nofun, (he.1 rfl).1, (he.1 rfl).2⟩
    | some e =>
      -- a handle object without an item at the position: `extractAtL` returns none there
      cases hx : itemAt cfg st.t gi b j with
      | some x => exact (hno x e hx rfl).elim
      | none => rw [show extractAtL cfg st gi b j f w = (st, w, none) by unfold extractAtL; rw [hx]] at hext; cases hext

theorem removeKeyL_led (cfg : Cfg) (hf : Nat → Nat) (st : St) (k : Nat) (f : Flt) (w : W) (FB : List Blk) (FE : List Nat)
    (hb : BooksOK st) (h : Led w (st.blocks cfg ++ FB) (st.elems ++ FE)) :
    ((removeKeyL cfg hf st k f w).2.2 ≠ .done .ok → (removeKeyL cfg hf st k f w).1 = st ∧ (removeKeyL cfg hf st k f w).2.1 = w) ∧
    Led (removeKeyL cfg hf st k f w).2.1 ((removeKeyL cfg hf st k f w).1.blocks cfg ++ FB)
      ((removeKeyL cfg hf st k f w).1.elems ++ FE) ∧ BooksOK (removeKeyL cfg hf st k f w).1 := by
  unfold removeKeyL
  by_cases c : (f.hashThrows || f.eqThrows) = true
  · rw [if_pos c]; exact ⟨fun _ => ⟨rfl, rfl⟩, h, hb⟩
  rw [if_neg c]
  cases hfind : findTable cfg.sp hf st.t k with
  | none => exact ⟨fun _ => ⟨rfl, rfl⟩, h, hb⟩
  | some p =>
    obtain ⟨gi, b, j⟩ := p
    obtain ⟨a1, a2, a3⟩ := removeAtL_led cfg st gi b j f w FB FE hb h
    refine ⟨fun hc => a1 ?_, a2, a3⟩
    cases hr : (removeAtL cfg st gi b j f w).2.2 with
    | true => rfl
    | false => simp only [hr] at hc; exact absurd rfl hc

/-- `Remove(filter)`: every removal keeps the ledger on the books; a throwing assignment stops the loop -/
theorem removeIfGo_led (cfg : Cfg) (pred : Item → Bool) (f : Nat → Flt) (FB : List Blk) (FE : List Nat)
    (ps : List (Nat × Nat × Nat)) (st : St) (w : W) (n : Nat) :
    BooksOK st → Led w (st.blocks cfg ++ FB) (st.elems ++ FE) →
      Led (removeIfGo cfg pred f ps st w n).2.1 ((removeIfGo cfg pred f ps st w n).1.blocks cfg ++ FB)
        ((removeIfGo cfg pred f ps st w n).1.elems ++ FE) ∧ BooksOK (removeIfGo cfg pred f ps st w n).1 := by
  -- arms: 1 no position left; 2 nothing at the position; 3 the removal throws; 4 removed; 5 the filter lets the item stay
  fun_induction removeIfGo cfg pred f ps st w n with
  | case1 => exact fun hb h => ⟨h, hb⟩
  | case2 _ _ _ _ _ _ _ _ ih | case5 _ _ _ _ _ _ _ _ _ _ ih => exact ih
  | case3 gi b j _ st w n => exact fun hb h => (removeAtL_led cfg st gi b j (f n) w FB FE hb h).2
  | case4 gi b j _ st w n _ _ _ _ ih =>
    exact fun hb h => ih (removeAtL_led cfg st gi b j (f n) w FB FE hb h).2.2 (removeAtL_led cfg st gi b j (f n) w FB FE hb h).2.1

theorem reserveL_elim (cfg : Cfg) (hf : Nat → Nat) (st : St) (c : Nat) (f : Flt) (w : W) {P : St × W × Outcome → Prop}
    (noop : c ≤ st.t.cap → P (st, w, .ok))
    (fail : ∀ w', ¬ c ≤ st.t.cap → (f.grow || (st.t.gens.isEmpty && f.params)) = true → (∀ B E, Led w B E → Led w' B E) →
      P (st, w', .badAlloc))
    (grow : ∀ nl r, ¬ c ≤ st.t.cap → (f.grow || (st.t.gens.isEmpty && f.params)) = false →
      nl = reserve.grow cfg.sp c 64 (newLog cfg.sp st.t) →
      r = created cfg st ⟨emptyGen cfg.sp nl :: st.t.gens, st.t.count, capacityOf cfg.sp nl⟩ (cfg.arrSize nl) w →
      P ((finishL cfg hf r.1 f r.2).1, (finishL cfg hf r.1 f r.2).2, .ok)) :
    P (reserveL cfg hf st c f w) := by
  -- arms: 1 nothing to do; 2 array refused; 3 `BucketParams` refused; 4 the new generation
  fun_cases reserveL cfg hf st c f w with
  | case1 c1 => exact noop c1
  | case2 c1 c2 => exact fail w c1 (by simp [c2]) (fun _ _ h => h)
  | case3 c1 _ _ _ _ c3 => exact fail _ c1 (by simp [c3]) (fun _ _ h => h.alloc_free _ _)
  | case4 c1 c2 nl a w1 c3 first w2 po st1 =>
    have := grow _ _ c1 (by simpa [c2] using c3) rfl rfl
    unfold created at this
    rcases Bool.eq_false_or_eq_true st.t.gens.isEmpty with hfirst | hfirst <;>
      simp only [st1, w2, po, first, hfirst, Bool.false_eq_true, if_false, if_true] at this ⊢ <;> exact this

theorem reserveL_led (cfg : Cfg) (hf : Nat → Nat) (st : St) (c : Nat) (f : Flt) (w : W) (FB : List Blk) (FE : List Nat)
    (hb : BooksOK st) (h : Led w (st.blocks cfg ++ FB) (st.elems ++ FE)) :
    ((reserveL cfg hf st c f w).2.2 ≠ .ok →
      (reserveL cfg hf st c f w).1 = st ∧ Led (reserveL cfg hf st c f w).2.1 (st.blocks cfg ++ FB) (st.elems ++ FE)) ∧
    Led (reserveL cfg hf st c f w).2.1 ((reserveL cfg hf st c f w).1.blocks cfg ++ FB)
      ((reserveL cfg hf st c f w).1.elems ++ FE) ∧ BooksOK (reserveL cfg hf st c f w).1 := by
  refine reserveL_elim cfg hf st c f w
    (P := fun r => (r.2.2 ≠ .ok → r.1 = st ∧ Led r.2.1 (st.blocks cfg ++ FB) (st.elems ++ FE)) ∧
      Led r.2.1 (r.1.blocks cfg ++ FB) (r.1.elems ++ FE) ∧ BooksOK r.1)
    (fun _ => ⟨fun _ => ⟨rfl, h⟩, h, hb⟩) (fun w' _ _ hw => ⟨fun _ => ⟨rfl, hw _ _ h⟩, hw _ _ h, hb⟩) ?_
  intro nl r _ _ _ hr
  have hl := created_led cfg st ⟨emptyGen cfg.sp nl :: st.t.gens, st.t.count, capacityOf cfg.sp nl⟩ (cfg.arrSize nl) w FB
    (st.elems ++ FE) hb h
  obtain ⟨po, e⟩ := created_fst cfg st ⟨emptyGen cfg.sp nl :: st.t.gens, st.t.count, capacityOf cfg.sp nl⟩ (cfg.arrSize nl) w
  rw [← hr] at hl e
  have hb1 : BooksOK r.1 := by rw [e]; exact ⟨by simp [hb.len], fun hc => by simp at hc⟩
  have hne : r.1.t.gens ≠ [] := by rw [e]; simp
  have hel : r.1.elems = st.elems := by rw [e]; rfl
  obtain ⟨e1, e2⟩ := finishL_led cfg hf r.1 f r.2 FB FE hb1 hne (hel ▸ hl)
  exact ⟨fun hc => absurd rfl hc, e1, e2⟩

theorem clearL_shrink (cfg : Cfg) (st : St) (w : W) (hb : BooksOK st) :
    ∃ t, t.gens = [] ∧ (clearL cfg st true w).1 = { crew := st.crew, t := t } := by
  unfold clearL
  cases harr : st.arrs with
  | nil =>
    obtain ⟨p1, p2, p3⟩ := hb.nil harr
    refine ⟨st.t, List.eq_nil_of_length_eq_zero (by rw [← hb.len, harr]; rfl), ?_⟩
    cases st; simp_all
  | cons a older =>
    obtain ⟨g, rest, hgs⟩ := List.exists_cons_of_length_pos (l := st.t.gens) (by rw [← hb.len, harr]; exact Nat.succ_pos _)
    exact ⟨emptyTable, rfl, by simp [clear, hgs]⟩

theorem clearL_books (cfg : Cfg) (st : St) (sh : Bool) (w : W) (hb : BooksOK st) : BooksOK (clearL cfg st sh w).1 := by
  cases sh with
  | true =>
    obtain ⟨t, ht, e⟩ := clearL_shrink cfg st w hb
    rw [e]
    exact ⟨by rw [ht]; rfl, fun _ => ⟨rfl, rfl, rfl⟩⟩
  | false =>
    unfold clearL
    cases harr : st.arrs with
    | nil => exact hb
    | cons a older =>
      obtain ⟨g, rest, hgs⟩ := List.exists_cons_of_length_pos (l := st.t.gens) (by rw [← hb.len, harr]; exact Nat.succ_pos _)
      exact ⟨by simp [clear, hgs], fun hc => by simp at hc⟩

theorem poolTraffic_books (cfg : Cfg) (st : St) (p : PoolT) (w : W) (hb : BooksOK st) :
    BooksOK (poolTraffic cfg st p w).1 := by
  unfold poolTraffic
  split
  · rename_i hc
    simp only [Bool.and_eq_true] at hc
    refine ⟨hb.len, fun ha => ?_⟩
    have := (hb.nil ha).1
    rw [this] at hc
    simp at hc
  · exact hb

end Momo.HTL
