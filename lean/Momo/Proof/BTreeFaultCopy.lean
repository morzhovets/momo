import Momo.Proof.BTreeFaultOps
/-!
  C04 for the B-tree family: the copy constructor (`pvCopy` with its `catch (...)`, node params and crew released by the
  destructor that runs after a delegating constructor's body throws) under every fault schedule: a failed construction
  leaves nothing allocated and nothing constructed; a completed one is the fault-free copy and the ledger holds exactly the
  new container.
-/
namespace Momo.BTreeF
open Momo Momo.BTree Momo.BTree.Node
variable {α : Type}

/-- what a copied subtree put into the ledger: its leaves, its internal nodes, its items. The third "ledger of nodes" of the area:
    `FTree.nodeLed` (model) counts nodes and params block of a container, `nodeDelta` (`BTreeFaultAdd`) the node difference of two
    trees; `treeLed` counts items too (`own_of_root`). -/
def treeLed (n : Node α) : Ledger := { leaves := leafCount n, inners := innerCount n, items := size n }

/-- … of the children copied so far -/
def treesLed (cs : List (Node α)) : Ledger :=
  { leaves := (cs.map leafCount).sum, inners := (cs.map innerCount).sum, items := (cs.map (fun c => size c)).sum }

theorem treesLed_cons (c : Node α) (cs : List (Node α)) : treesLed (c :: cs) = treeLed c + treesLed cs :=
  Ledger.ext' (Int.natCast_add _ _) (Int.natCast_add _ _) (Int.natCast_add _ _) rfl rfl rfl

theorem treeLed_leaf (cap : Nat) (items : List α) :
    treeLed (leaf cap items) = ({ leaves := 1 } : Ledger) + Ledger.ofItems items.length :=
  Ledger.ext' rfl rfl (Int.zero_add _).symm rfl rfl rfl

theorem treeLed_inner (items : List α) (cs : List (Node α)) (hlen : cs.length = items.length + 1) :
    treeLed (inner items cs) = ({ inners := 1 } : Ledger) + Ledger.ofItems items.length + treesLed cs := by
  apply Ledger.ext' <;> simp [treeLed, treesLed, size_inner items cs hlen] <;> omega

/-- the `catch (...)` of the children loop destroys a copied child -/
theorem destroyTree_led_eq (w : W) (n : Node α) :
    (((w.addItems (-(size n : Int))).addLeaves (-(leafCount n : Int))).addInners (-(innerCount n : Int))).led =
      w.led - treeLed n :=
  Ledger.ext' Int.sub_eq_add_neg.symm Int.sub_eq_add_neg.symm Int.sub_eq_add_neg.symm (Int.sub_zero _).symm
    (Int.sub_zero _).symm (Int.sub_zero _).symm

/-- `pvCopy` of the subtree `n` is right, started with any count of internal nodes and in any world. A predicate on `n` because
    `copyListF_spec` needs it of all children. -/
def CopyOK (S : Sched) (cfg : Cfg) (n : Node α) : Prop :=
  ∀ (ia : Nat) (w : W) ⦃t : Bool⦄ ⦃n' : Node α⦄ ⦃ia' : Nat⦄ ⦃w' : W⦄, copyNodeF S cfg n ia w = (t, n', ia', w') →
    (t = true → w'.led = w.led) ∧
    (t = false → (n', ia') = copyNode cfg n ia ∧ w'.led = w.led + treeLed n') ∧
    (S.NoAlloc → S.NoCtor → t = false)

theorem copyListF_spec (S : Sched) (cfg : Cfg) (cs : List (Node α)) (hall : ∀ c ∈ cs, CopyOK S cfg c) (ia : Nat) (w : W)
    {t : Bool} {cs' : List (Node α)} {ia' : Nat} {w' : W} (h : copyListF S cfg cs ia w = (t, cs', ia', w')) :
    (t = true → w'.led = w.led) ∧
    (t = false → (cs', ia') = copyList cfg cs ia ∧ w'.led = w.led + treesLed cs') ∧
    (S.NoAlloc → S.NoCtor → t = false) := by
  induction cs generalizing ia w t cs' ia' w' with
  | nil =>
    cases h
    exact ⟨nofun, fun _ => ⟨rfl, (Ledger.add_zero' _).symm⟩, fun _ _ => rfl⟩
  | cons c cs ih =>
    simp only [copyListF] at h
    have hc := hall c (List.mem_cons_self ..) ia w
    generalize copyNodeF S cfg c ia w = g at h hc
    obtain ⟨t1, c', ia1, w1⟩ := g
    obtain ⟨a1, a2, a3⟩ := hc rfl
    cases t1
    · obtain ⟨b1, b2⟩ := a2 rfl
      simp only at h
      have hl := @ih (fun c0 hc0 => hall c0 (List.mem_cons_of_mem _ hc0)) ia1 w1
      generalize copyListF S cfg cs ia1 w1 = g2 at h hl
      obtain ⟨t2, cs2, ia2, w2⟩ := g2
      obtain ⟨i1, i2, i3⟩ := hl rfl
      cases t2
      · cases h
        obtain ⟨j1, j2⟩ := i2 rfl
        refine ⟨nofun, fun _ => ⟨?_, by rw [j2, b2, Ledger.add_assoc', ← treesLed_cons]⟩, fun _ _ => rfl⟩
        rw [copyList, ← b1, ← j1]
      · cases h
        refine ⟨fun _ => ?_, nofun, fun hn hn2 => nomatch i3 hn hn2⟩
        rw [destroyTree_led_eq, i1 rfl, b2, Ledger.add_sub_cancel']
    · cases h
      exact ⟨fun _ => a1 rfl, nofun, fun hn hn2 => nomatch a3 hn hn2⟩

theorem copyLoop_ok (S : Sched) (hn : S.NoCtor) (n : Nat) (w : W) : (copyLoop S n w).2.1 = false :=
  (copyLoop_spec S n w).2.2 hn

theorem copyNodeF_spec (S : Sched) (cfg : Cfg) {d : Nat} {n : Node α} (hb : Bal d n) : CopyOK S cfg n := by
  induction hb with
  | leaf cap items =>
    intro ia w t n' ia' w' h
    simp only [copyNodeF] at h
    cases hf : S.alloc w.allocN
    · simp only [hf, Bool.false_eq_true, if_false] at h
      obtain ⟨k1, k2, k3⟩ := copyLoop_spec S items.length (w.tickAlloc.addLeaves 1)
      have ku := copyLoop_undo S items.length (w.tickAlloc.addLeaves 1)
      generalize copyLoop S items.length (w.tickAlloc.addLeaves 1) = g at h k1 k2 k3 ku
      obtain ⟨dd, t1, w1⟩ := g
      cases t1
      · cases h
        cases k2 rfl
        refine ⟨nofun, fun _ => ⟨rfl, ?_⟩, fun _ _ => rfl⟩
        rw [k1, addLeaves_led_eq, Ledger.add_assoc']; exact congrArg _ (treeLed_leaf _ items).symm
      · cases h
        refine ⟨fun _ => ?_, nofun, fun _ hn => nomatch k3 hn⟩
        rw [addLeaves_neg_led_eq, ku, addLeaves_led_eq]; exact Ledger.add_sub_cancel' _ _
    · simp only [hf, if_true] at h
      cases h
      exact ⟨fun _ => rfl, nofun, fun hn _ => nomatch (hn _).symm.trans hf⟩
  | inner d items cs hlen hall ih =>
    intro ia w t n' ia' w' h
    simp only [copyNodeF] at h
    cases hf : S.alloc w.allocN
    · simp only [hf, Bool.false_eq_true, if_false] at h
      obtain ⟨k1, k2, k3⟩ := copyLoop_spec S items.length (w.tickAlloc.addInners 1)
      have ku := copyLoop_undo S items.length (w.tickAlloc.addInners 1)
      generalize copyLoop S items.length (w.tickAlloc.addInners 1) = g at h k1 k2 k3 ku
      obtain ⟨dd, t1, w1⟩ := g
      cases t1
      · cases k2 rfl
        have hl := @copyListF_spec _ S cfg cs (fun c hc => ih c hc) (ia + 1) w1
        simp only at h
        generalize copyListF S cfg cs (ia + 1) w1 = g2 at h hl
        obtain ⟨t2, cs2, ia2, w2⟩ := g2
        obtain ⟨i1, i2, i3⟩ := hl rfl
        cases t2
        · cases h
          obtain ⟨j1, j2⟩ := i2 rfl
          have hlen2 : cs2.length = items.length + 1 :=
            (congrArg (fun p => p.1.length) j1).trans ((copyList_length cfg cs (ia + 1)).trans hlen)
          refine ⟨nofun, fun _ => ⟨by rw [copyNode, ← j1], ?_⟩, fun _ _ => rfl⟩
          rw [j2, k1, addInners_led_eq, Ledger.add_assoc', Ledger.add_assoc']
          exact congrArg _ ((Ledger.add_assoc' _ _ _).symm.trans (treeLed_inner items cs2 hlen2).symm)
        · cases h
          refine ⟨fun _ => ?_, nofun, fun hn hn2 => nomatch i3 hn hn2⟩
          rw [addInners_neg_led_eq, addItems_neg_led_eq, i1 rfl, k1, Ledger.add_sub_cancel', addInners_led_eq]
          exact Ledger.add_sub_cancel' _ _
      · cases h
        refine ⟨fun _ => ?_, nofun, fun _ hn => nomatch k3 hn⟩
        rw [addInners_neg_led_eq, ku, addInners_led_eq]; exact Ledger.add_sub_cancel' _ _
    · simp only [hf, if_true] at h
      cases h
      exact ⟨fun _ => rfl, nofun, fun hn _ => nomatch (hn _).symm.trans hf⟩

theorem own_of_root (r : Node α) (c : Nat) :
    ({ tree := { root := some r, count := c }, params := true } : FTree α).own = ({ params := 1 } : Ledger) + treeLed r :=
  Ledger.ext' (Int.zero_add _).symm (Int.zero_add _).symm (Int.zero_add _).symm rfl rfl rfl

theorem releaseCrew_led_eq (w : W) (b : Bool) :
    (w.addCrews (if b then -1 else 0)).led = w.led - ({ crews := if b then 1 else 0 } : Ledger) := by
  cases b
  · exact Ledger.ext' (Int.sub_zero _).symm (Int.sub_zero _).symm (Int.sub_zero _).symm (Int.sub_zero _).symm (Int.sub_zero _).symm
      ((Int.add_zero _).trans (Int.sub_zero _).symm)
  · exact Ledger.ext' (Int.sub_zero _).symm (Int.sub_zero _).symm (Int.sub_zero _).symm (Int.sub_zero _).symm (Int.sub_zero _).symm
      Int.sub_eq_add_neg.symm

theorem copyF_spec (S : Sched) (ic : ICfg α) (cfg : Cfg) (src : FTree α) (hw : src.WF cfg) (w : W)
    {t : Bool} {ft' : FTree α} {w' : W} (h : copyF S ic cfg src w = (t, ft', w')) :
    (t = true → w'.led = w.led) ∧
    (t = false → ft'.tree = Tree.copy cfg src.tree ∧ ft'.WF cfg ∧
      w'.led = w.led + ft'.own + ({ crews := if ic.crewAlloc then 1 else 0 } : Ledger)) ∧
    (S.NoAlloc → S.NoCtor → t = false) := by
  obtain ⟨-, cw⟩ := tree_copy_spec cfg src.tree hw.tree
  unfold copyF at h
  by_cases hc1 : (ic.crewAlloc && S.alloc w.allocN) = true
  · simp only [hc1, if_true, Prod.mk.injEq] at h
    obtain ⟨rfl, rfl, rfl⟩ := h
    refine ⟨fun _ => rfl, nofun, fun hn _ => ?_⟩
    simp only [Bool.and_eq_true] at hc1; rw [hn] at hc1; cases hc1.2
  · simp only [hc1, Bool.false_eq_true, if_false] at h
    have hw0 : (if ic.crewAlloc = true then w.tickAlloc.addCrews 1 else w).led =
        w.led + ({ crews := if ic.crewAlloc then 1 else 0 } : Ledger) := by
      cases ic.crewAlloc
      · exact (Ledger.add_zero' _).symm
      · exact addCrews_led_eq _ 1
    by_cases h0 : src.tree.count = 0
    · simp only [h0, if_true, Prod.mk.injEq] at h
      obtain ⟨rfl, rfl, rfl⟩ := h
      refine ⟨nofun, fun _ => ⟨by simp [Tree.copy, h0], FTree.wf_empty cfg false, ?_⟩, fun _ _ => rfl⟩
      rw [hw0]; exact congrArg (· + _) (Ledger.add_zero' _).symm
    · simp only [h0, if_false] at h
      cases hf : S.alloc (if ic.crewAlloc = true then w.tickAlloc.addCrews 1 else w).allocN
      · simp only [hf, Bool.false_eq_true, if_false] at h
        cases hr : src.tree.root with
        | none =>
          have := hw.tree.count
          simp only [Tree.toList, hr, List.length_nil] at this
          exact absurd this h0
        | some r =>
          obtain ⟨d, hb⟩ := hw.tree.bal r hr
          simp only [hr] at h
          have hcn := copyNodeF_spec S cfg hb 0 ((if ic.crewAlloc = true then w.tickAlloc.addCrews 1 else w).tickAlloc.addParams 1)
          generalize copyNodeF S cfg r 0 ((if ic.crewAlloc = true then w.tickAlloc.addCrews 1 else w).tickAlloc.addParams 1) = g
            at h hcn
          obtain ⟨t1, r', ia', w1⟩ := g
          obtain ⟨a1, a2, a3⟩ := hcn rfl
          cases t1
          · simp only [Prod.mk.injEq] at h
            obtain ⟨rfl, rfl, rfl⟩ := h
            obtain ⟨b1, b2⟩ := a2 rfl
            have e1 : r' = (copyNode cfg r 0).1 := congrArg Prod.fst b1
            have htree : ({ root := some r', count := src.tree.count } : Tree α) = Tree.copy cfg src.tree := by
              simp [Tree.copy, h0, hr, e1]
            refine ⟨nofun, fun _ => ⟨htree, ⟨htree ▸ cw, fun _ => rfl⟩, ?_⟩, fun _ _ => rfl⟩
            rw [b2, addParams_led_eq, own_of_root, Ledger.add_assoc' _ _ (treeLed r'), Ledger.add_right_comm']
            exact congrArg (· + _) hw0
          · simp only [Prod.mk.injEq] at h
            obtain ⟨rfl, rfl, rfl⟩ := h
            refine ⟨fun _ => ?_, nofun, fun hn hn2 => nomatch a3 hn hn2⟩
            rw [releaseCrew_led_eq, addParams_neg_led_eq, a1 rfl, addParams_led_eq, Ledger.add_sub_cancel']
            exact (congrArg (· - _) hw0).trans (Ledger.add_sub_cancel' _ _)
      · simp only [hf, if_true, Prod.mk.injEq] at h
        obtain ⟨rfl, rfl, rfl⟩ := h
        exact ⟨fun _ => (by cases ic.crewAlloc <;> rfl), nofun, fun hn _ => nomatch (hn _).symm.trans hf⟩

end Momo.BTreeF
