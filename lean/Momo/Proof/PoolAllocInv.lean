import Momo.Model.PoolAlloc
import Momo.Proof.ListFacts
/-!
  C20, layer A (the allocator-level machine `step`; layer C, the containers on top of it, starts in PoolAllocCont): the invariant
  `Inv`, the possible results of one operation (`Outcome`, `step_outcome`), preservation (`Outcome.inv`, `step_inv`).
  `Outcome` is an inversion view: from `step s op` to the branch taken. For the forward direction (the guards hold, so the call
  succeeds and does this) there is no general lemma; such proofs rewrite with `step_of_err_none` and unfold `doX` under the guards
  (`alloc_route`, `dealloc_route`, `drop_succeeds`).
-/
namespace Momo.PoolAlloc

def isPoolBlk (p : Nat) (b : Block) : Bool := b.pid == p && b.prov != .raw

structure Inv (s : Sys) : Prop where
  nodup : (s.blocks.map (·.id)).Nodup
  alive : ∀ b ∈ s.blocks, ∃ st, s.pools[b.pid]? = some st ∧ st.dead = false
  /-- a pool block was carved with the parameters its pool has now, for a type with these parameters, as a single object -/
  poolBlk : ∀ b ∈ s.blocks, ∀ q, b.prov = .pool q →
      (∃ st, s.pools[b.pid]? = some st ∧ st.params = q) ∧ b.cls = q ∧ b.n = 1
  /-- `GetAllocateCount()` = number of live pool blocks -/
  count : ∀ (p : Nat) (st : PoolSt), s.pools[p]? = some st → st.allocCount = s.blocks.countP (isPoolBlk p)
  /-- a raw entry of the ledger is a live raw block -/
  rawBase : ∀ e ∈ s.base, e.kind = .raw → ∃ b ∈ s.blocks, b.id = e.id ∧ b.pid = e.pid ∧ b.prov = .raw
  /-- control blocks and buffers belong to pools that still have an owner -/
  ownBase : ∀ e ∈ s.base, e.kind ≠ .raw → ∃ st, s.pools[e.pid]? = some st ∧ st.dead = false
  refs : ∀ (p : Nat) (st : PoolSt), s.pools[p]? = some st → (st.dead = true ↔ st.refs = 0)
  /-- unless a single object was ever served raw, raw blocks are arrays -/
  rawN : s.rawSingle = false → ∀ b ∈ s.blocks, b.prov = .raw → b.n ≠ 1

theorem inv_init : Inv Sys.init :=
  ⟨.nil, nofun, nofun, nofun, nofun, nofun, nofun, fun _ => nofun⟩

theorem livePool_eq_some {s : Sys} {p : Nat} {st : PoolSt} :
    livePool s p = some st ↔ s.pools[p]? = some st ∧ st.dead = false := by
  unfold livePool
  cases h : s.pools[p]? with
  | none => simp
  | some st' =>
    by_cases hd : st'.dead = true
    · simp [hd]; intro h; subst h; simp [hd]
    · simp [hd]; intro h; subst h; simpa using hd

theorem step_of_err {s : Sys} {e : Err} (h : s.err = some e) (op : Op) : step s op = s := by
  simp [step, h]

theorem run_cons (s : Sys) (op : Op) (ops : List Op) : run s (op :: ops) = run (step s op) ops := rfl

theorem find_id_some {l : List Block} {id : Nat} {b : Block}
    (h : l.find? (fun x => x.id == id) = some b) : b ∈ l ∧ b.id = id :=
  ⟨List.mem_of_find?_eq_some h, by simpa using List.find?_some h⟩

theorem find_id_of_mem {s : Sys} (hnd : (s.blocks.map (·.id)).Nodup) {b : Block} (hb : b ∈ s.blocks) :
    s.blocks.find? (fun x => x.id == b.id) = some b :=
  ListFacts.find?_key_of_mem Block.id hnd hb

/-- the branches of `doNew` … `doDealloc` from a state without error, each with the facts its guards establish -/
inductive Outcome (s : Sys) : Op → Sys → Prop
  | illegal (op : Op) : Outcome s op (s.fail .illegal)
  | anew (cls : Cls) (cb : Nat) : Outcome s (.anew cls cb) (doNew s cls cb)
  | acopy {p : Nat} {st : PoolSt} (hl : livePool s p = some st) :
      Outcome s (.acopy p) { s with pools := s.pools.set p { st with refs := st.refs + 1 } }
  | adropShared {p : Nat} {st : PoolSt} (hl : livePool s p = some st) (hr : 2 ≤ st.refs) :
      Outcome s (.adrop p) { s with pools := s.pools.set p { st with refs := st.refs - 1 } }
  | adropMismatch {p : Nat} {st : PoolSt} (hl : livePool s p = some st) (hr : ¬ 2 ≤ st.refs)
      (hnb : ∀ b ∈ s.blocks, b.pid ≠ p) (hc : st.allocCount ≠ 0) : Outcome s (.adrop p) (s.fail (.countMismatch p))
  | adropLast {p : Nat} {st : PoolSt} (hl : livePool s p = some st) (hr : ¬ 2 ≤ st.refs)
      (hnb : ∀ b ∈ s.blocks, b.pid ≠ p) (hc : st.allocCount = 0) :
      Outcome s (.adrop p)
        { s with pools := s.pools.set p { st with refs := 0, dead := true },
                 base := s.base.filter (fun e => !(e.pid == p && e.kind != .raw)) }
  | allocPool {p : Nat} {st : PoolSt} {cls : Cls} {id : Nat} (hl : livePool s p = some st)
      (hfresh : ∀ b ∈ s.blocks, b.id ≠ id) (hpath : cls = st.params ∨ st.allocCount = 0) (mallocs : List Nat) :
      Outcome s (.alloc p cls 1 id mallocs)
        { s with pools := s.pools.set p { st with params := cls, allocCount := st.allocCount + 1 },
                 blocks := ⟨id, p, cls, 1, .pool cls⟩ :: s.blocks,
                 base := mallocs.map (fun m => ⟨m, p, .buf⟩) ++
                   (if cls = st.params then s.base
                    else s.base.filter (fun e => !(e.pid == p && e.kind == .buf))) }
  | allocRaw {p : Nat} {st : PoolSt} {cls : Cls} {n id : Nat} (hl : livePool s p = some st) (hn : n ≠ 0)
      (hfresh : ∀ b ∈ s.blocks, b.id ≠ id) (hpath : ¬ (n = 1 ∧ (cls = st.params ∨ st.allocCount = 0)))
      (mallocs : List Nat) :
      Outcome s (.alloc p cls n id mallocs)
        { s with blocks := ⟨id, p, cls, n, .raw⟩ :: s.blocks, base := ⟨id, p, .raw⟩ :: s.base,
                 rawSingle := s.rawSingle || n == 1 }
  | deallocPool {p : Nat} {st : PoolSt} {b : Block} {q : Cls} (hl : livePool s p = some st) (hb : b ∈ s.blocks)
      (hp : b.pid = p) (hn : b.n = 1) (hc : b.cls = st.params) (hq : b.prov = .pool q) (frees : List Nat) :
      Outcome s (.dealloc p b.cls b.n b.id frees)
        { s with pools := s.pools.set p { st with allocCount := st.allocCount - 1 },
                 blocks := s.blocks.filter (fun x => x.id != b.id),
                 base := s.base.filter (fun e => !(e.pid == p && e.kind == .buf && frees.contains e.id)) }
  | rawIntoPool {p : Nat} {st : PoolSt} {b : Block} (hl : livePool s p = some st) (hb : b ∈ s.blocks)
      (hp : b.pid = p) (hn : b.n = 1) (hc : b.cls = st.params) (hq : b.prov = .raw) (frees : List Nat) :
      Outcome s (.dealloc p b.cls b.n b.id frees) (s.fail (.rawIntoPool b.id))
  | deallocRaw {p : Nat} {st : PoolSt} {b : Block} (hl : livePool s p = some st) (hb : b ∈ s.blocks)
      (hp : b.pid = p) (hpath : ¬ (b.n = 1 ∧ b.cls = st.params)) (hq : b.prov = .raw) (frees : List Nat) :
      Outcome s (.dealloc p b.cls b.n b.id frees)
        { s with blocks := s.blocks.filter (fun x => x.id != b.id),
                 base := s.base.filter (fun e => !(e.pid == p && e.kind == .raw && e.id == b.id)) }
  | poolIntoRaw {p : Nat} {st : PoolSt} {b : Block} {q : Cls} (hl : livePool s p = some st) (hb : b ∈ s.blocks)
      (hp : b.pid = p) (hpath : ¬ (b.n = 1 ∧ b.cls = st.params)) (hq : b.prov = .pool q) (frees : List Nat) :
      Outcome s (.dealloc p b.cls b.n b.id frees) (s.fail (.poolIntoRaw b.id))

theorem step_of_err_none {s : Sys} (h0 : s.err = none) (op : Op) :
    step s op = (match op with
      | .anew cls cb => doNew s cls cb
      | .acopy p => doCopy s p
      | .adrop p => doDrop s p
      | .alloc p cls n id mallocs => doAlloc s p cls n id mallocs
      | .dealloc p cls n id frees => doDealloc s p cls n id frees
      | .bad => s.fail .illegal) := by
  cases op <;> simp [step, h0]

theorem step_outcome {s : Sys} (h0 : s.err = none) (op : Op) : Outcome s op (step s op) := by
  have fresh : ∀ {f : Block → Nat} {k : Nat}, ¬ (s.blocks.any fun b => f b == k) = true → ∀ b ∈ s.blocks, f b ≠ k :=
    fun h b hb e => h (List.any_eq_true.mpr ⟨b, hb, beq_iff_eq.mpr e⟩)
  rw [step_of_err_none h0]
  -- per operation: the branches of `doX` in the order of its text; those that end in `s.fail .illegal` first
  cases op with
  | anew cls cb => exact .anew cls cb
  | bad => exact .illegal _
  | acopy p =>
    dsimp only
    fun_cases doCopy s p
    any_goals exact .illegal _
    next st hl => exact .acopy hl
  | adrop p =>
    dsimp only
    fun_cases doDrop s p
    any_goals exact .illegal _
    next st hl hr => exact .adropShared hl hr
    next st hl hr hany hc => exact .adropMismatch hl hr (fresh hany) hc
    next st hl hr hany hc => exact .adropLast hl hr (fresh hany) (Decidable.not_not.mp hc)
  | alloc p cls n id mallocs =>
    dsimp only
    fun_cases doAlloc s p cls n id mallocs
    any_goals exact .illegal _
    next st hl hill hpath =>
      obtain ⟨rfl, hpath⟩ := hpath
      exact .allocPool hl (fresh fun h => hill (Or.inr h)) hpath mallocs
    next st hl hill hpath => exact .allocRaw hl (fun h => hill (Or.inl h)) (fresh fun h => hill (Or.inr h)) hpath mallocs
  | dealloc p cls n id frees =>
    dsimp only
    have found : ∀ {b : Block}, s.blocks.find? (fun b => b.id == id) = some b → ¬ (b.pid ≠ p ∨ b.cls ≠ cls ∨ b.n ≠ n) →
        b ∈ s.blocks ∧ b.id = id ∧ b.pid = p ∧ b.cls = cls ∧ b.n = n := fun hf hill =>
      ⟨(find_id_some hf).1, (find_id_some hf).2, Decidable.byContradiction fun h => hill (Or.inl h),
        Decidable.byContradiction fun h => hill (Or.inr (Or.inl h)), Decidable.byContradiction fun h => hill (Or.inr (Or.inr h))⟩
    fun_cases doDealloc s p cls n id frees
    any_goals exact .illegal _
    next st hl b hf hill hpath hq =>
      obtain ⟨hb, rfl, hp, rfl, rfl⟩ := found hf hill; exact .rawIntoPool hl hb hp hpath.1 hpath.2 hq frees
    next st hl b hf hill hpath q hq =>
      obtain ⟨hb, rfl, hp, rfl, rfl⟩ := found hf hill; exact .deallocPool hl hb hp hpath.1 hpath.2 hq frees
    next st hl b hf hill hpath q hq =>
      obtain ⟨hb, rfl, hp, rfl, rfl⟩ := found hf hill; exact .poolIntoRaw hl hb hp hpath hq frees
    next st hl b hf hill hpath hq =>
      obtain ⟨hb, rfl, hp, rfl, rfl⟩ := found hf hill; exact .deallocRaw hl hb hp hpath hq frees

/-- `step_outcome` with the result as a variable, which `cases` on an `Outcome` needs -/
theorem step_view {s : Sys} (h0 : s.err = none) (op : Op) : ∃ s', step s op = s' ∧ Outcome s op s' :=
  ⟨_, rfl, step_outcome h0 op⟩

theorem isPoolBlk_iff {p : Nat} {b : Block} : isPoolBlk p b = true ↔ b.pid = p ∧ b.prov ≠ .raw := by
  simp [isPoolBlk]

theorem inv_setRefs {s : Sys} (hi : Inv s) {p : Nat} {st : PoolSt} (hl : livePool s p = some st)
    (r : Nat) (hr : r ≠ 0) : Inv { s with pools := s.pools.set p { st with refs := r } } := by
  obtain ⟨hst, hd⟩ := livePool_eq_some.mp hl
  refine ⟨hi.nodup, fun b hb => ListFacts.getElem?_set_exists hst (hi.alive b hb) fun _ _ => hd,
    fun b hb q hq => ⟨ListFacts.getElem?_set_exists hst (hi.poolBlk b hb q hq).1 fun _ h => h, (hi.poolBlk b hb q hq).2⟩,
    ListFacts.getElem?_set_forall (fun j a _ h => hi.count j a h) (hi.count p st hst), hi.rawBase,
    fun e he hk => ListFacts.getElem?_set_exists hst (hi.ownBase e he hk) fun _ _ => hd,
    ListFacts.getElem?_set_forall (fun j a _ h => hi.refs j a h) ?_, hi.rawN⟩
  simp [hd, hr]

theorem Outcome.inv {s s' : Sys} {op : Op} (h : Outcome s op s') (hi : Inv s) (hok : s'.err = none) : Inv s' := by
  cases h with
  | illegal | adropMismatch | rawIntoPool | poolIntoRaw => cases hok
  | anew cls cb =>
    have up : ∀ {P : PoolSt → Prop} {j : Nat}, (∃ a, s.pools[j]? = some a ∧ P a) →
        ∃ a, (s.pools ++ [⟨cls, 0, 1, false⟩])[j]? = some a ∧ P a :=
      fun ⟨a, ha, h⟩ => ⟨a, ListFacts.getElem?_append_some ha, h⟩
    refine ⟨hi.nodup, fun b hb => up (hi.alive b hb),
      fun b hb q hq => ⟨up (hi.poolBlk b hb q hq).1, (hi.poolBlk b hb q hq).2⟩, ?_, ?_, ?_, ?_, hi.rawN⟩
    · intro j a h
      rcases ListFacts.getElem?_snoc h with h | ⟨rfl, rfl⟩
      · exact hi.count j a h
      · -- the pools of live blocks exist already
        refine (List.countP_eq_zero.mpr fun b hb hpb => ?_).symm
        obtain ⟨st, hst, _⟩ := hi.alive b hb
        exact Nat.lt_irrefl _ ((isPoolBlk_iff.mp hpb).1 ▸ (List.getElem?_eq_some_iff.mp hst).1)
    · intro e he hk
      rcases List.mem_cons.mp he with rfl | he
      · cases hk
      · exact hi.rawBase e he hk
    · intro e he hk
      rcases List.mem_cons.mp he with rfl | he
      · exact ⟨⟨cls, 0, 1, false⟩, List.getElem?_concat_length, rfl⟩
      · exact up (hi.ownBase e he hk)
    · intro j a h
      rcases ListFacts.getElem?_snoc h with h | ⟨rfl, rfl⟩
      · exact hi.refs j a h
      · simp
  | acopy hl => exact inv_setRefs hi hl _ (Nat.succ_ne_zero _)
  | adropShared hl hr => exact inv_setRefs hi hl _ (Nat.sub_ne_zero_of_lt hr)
  | @adropLast p st hl hr hnb hc =>
    obtain ⟨hst, hd⟩ := livePool_eq_some.mp hl
    refine ⟨hi.nodup, fun b hb => ListFacts.getElem?_set_exists hst (hi.alive b hb) fun hj => absurd hj (hnb b hb),
      fun b hb q hq => ⟨ListFacts.getElem?_set_exists hst (hi.poolBlk b hb q hq).1 fun hj => absurd hj (hnb b hb),
        (hi.poolBlk b hb q hq).2⟩,
      ListFacts.getElem?_set_forall (fun j a _ h => hi.count j a h) (hi.count p st hst),
      fun e he hk => hi.rawBase e (List.mem_filter.mp he).1 hk, fun e he hk => ?_,
      ListFacts.getElem?_set_forall (fun j a _ h => hi.refs j a h) ⟨fun _ => rfl, fun _ => rfl⟩, hi.rawN⟩
    -- the control block and the buffers of `p` have gone back
    have hne : e.pid ≠ p := by simpa [hk] using (List.mem_filter.mp he).2
    exact ListFacts.getElem?_set_exists hst (hi.ownBase e (List.mem_filter.mp he).1 hk) fun hj => absurd hj hne
  | @allocPool p st cls id hl hfresh hpath mallocs =>
    obtain ⟨hst, hd⟩ := livePool_eq_some.mp hl
    have hcnt := hi.count p st hst
    -- an old pool block of `p` forces `cls = st.params`
    have hsame : ∀ b ∈ s.blocks, b.pid = p → ∀ q, b.prov = .pool q → cls = q := by
      intro b hb hbp q hq
      obtain ⟨⟨a, ha, hap⟩, _⟩ := hi.poolBlk b hb q hq
      rw [hbp, hst] at ha
      cases ha
      refine hpath.elim (fun h => h.trans hap) fun h => ?_
      rw [h] at hcnt
      exact (List.countP_eq_zero.mp hcnt.symm b hb (isPoolBlk_iff.mpr ⟨hbp, hq ▸ nofun⟩)).elim
    have hsub : ∀ e ∈ (if cls = st.params then s.base
        else s.base.filter (fun e => !(e.pid == p && e.kind == .buf))), e ∈ s.base := by
      intro e he
      split at he
      · exact he
      · exact (List.mem_filter.mp he).1
    refine ⟨List.nodup_cons.mpr ⟨fun hm => ?_, hi.nodup⟩, fun b hb => ?_, fun b hb q hq => ?_,
      ListFacts.getElem?_set_forall (fun j a hne h => ?_) ?_, fun e he hk => ?_, fun e he hk => ?_,
      ListFacts.getElem?_set_forall (fun j a _ h => hi.refs j a h) (hi.refs p st hst), fun hrs b hb hbr => ?_⟩
    · obtain ⟨b, hb, hbid⟩ := List.mem_map.mp hm
      exact hfresh b hb hbid
    · rcases List.mem_cons.mp hb with rfl | hb
      · exact ⟨_, ListFacts.getElem?_set_self hst, hd⟩
      · exact ListFacts.getElem?_set_exists hst (hi.alive b hb) fun _ _ => hd
    · rcases List.mem_cons.mp hb with rfl | hb
      · cases hq
        exact ⟨⟨_, ListFacts.getElem?_set_self hst, rfl⟩, rfl, rfl⟩
      · exact ⟨ListFacts.getElem?_set_exists hst (hi.poolBlk b hb q hq).1 fun hj _ => hsame b hb hj q hq,
          (hi.poolBlk b hb q hq).2⟩
    · rw [List.countP_cons_of_neg fun h => hne (isPoolBlk_iff.mp h).1.symm]
      exact hi.count j a h
    · rw [List.countP_cons_of_pos (isPoolBlk_iff (b := ⟨id, p, cls, 1, .pool cls⟩).mpr ⟨rfl, nofun⟩)]
      exact congrArg (· + 1) hcnt
    · rcases List.mem_append.mp he with he | he
      · obtain ⟨m, _, rfl⟩ := List.mem_map.mp he
        cases hk
      · obtain ⟨b, hb, h1⟩ := hi.rawBase e (hsub e he) hk
        exact ⟨b, List.mem_cons_of_mem _ hb, h1⟩
    · rcases List.mem_append.mp he with he | he
      · obtain ⟨m, _, rfl⟩ := List.mem_map.mp he
        exact ⟨_, ListFacts.getElem?_set_self hst, hd⟩
      · exact ListFacts.getElem?_set_exists hst (hi.ownBase e (hsub e he) hk) fun _ _ => hd
    · rcases List.mem_cons.mp hb with rfl | hb
      · cases hbr
      · exact hi.rawN hrs b hb hbr
  | @allocRaw p st cls n id hl hn hfresh hpath mallocs =>
    obtain ⟨hst, hd⟩ := livePool_eq_some.mp hl
    refine ⟨List.nodup_cons.mpr ⟨fun hm => ?_, hi.nodup⟩, fun b hb => ?_, fun b hb q hq => ?_, fun j a h => ?_,
      fun e he hk => ?_, fun e he hk => ?_, hi.refs, fun hrs b hb hbr => ?_⟩
    · obtain ⟨b, hb, hbid⟩ := List.mem_map.mp hm
      exact hfresh b hb hbid
    · rcases List.mem_cons.mp hb with rfl | hb
      · exact ⟨st, hst, hd⟩
      · exact hi.alive b hb
    · rcases List.mem_cons.mp hb with rfl | hb
      · cases hq
      · exact hi.poolBlk b hb q hq
    · rw [List.countP_cons_of_neg fun h => (isPoolBlk_iff.mp h).2 rfl]
      exact hi.count j a h
    · rcases List.mem_cons.mp he with rfl | he
      · exact ⟨_, List.mem_cons_self, rfl, rfl, rfl⟩
      · obtain ⟨b, hb, h1⟩ := hi.rawBase e he hk
        exact ⟨b, List.mem_cons_of_mem _ hb, h1⟩
    · rcases List.mem_cons.mp he with rfl | he
      · exact absurd rfl hk
      · exact hi.ownBase e he hk
    · simp only [Bool.or_eq_false_iff, beq_eq_false_iff_ne] at hrs
      rcases List.mem_cons.mp hb with rfl | hb
      · exact hrs.2
      · exact hi.rawN hrs.1 b hb hbr
  | @deallocPool p st b q hl hb hp hn hc hq frees =>
    obtain ⟨hst, hd⟩ := livePool_eq_some.mp hl
    have hold : ∀ x ∈ s.blocks.filter (fun x => x.id != b.id), x ∈ s.blocks := fun x hx => (List.mem_filter.mp hx).1
    refine ⟨ListFacts.nodup_filter_key hi.nodup _,
      fun x hx => ListFacts.getElem?_set_exists hst (hi.alive x (hold x hx)) fun _ _ => hd,
      fun x hx q' hq' => ⟨ListFacts.getElem?_set_exists hst (hi.poolBlk x (hold x hx) q' hq').1 fun _ h => h,
        (hi.poolBlk x (hold x hx) q' hq').2⟩,
      ListFacts.getElem?_set_forall (fun j a hne h => ?_) ?_, fun e he hk => ?_,
      fun e he hk => ListFacts.getElem?_set_exists hst (hi.ownBase e (List.mem_filter.mp he).1 hk) fun _ _ => hd,
      ListFacts.getElem?_set_forall (fun j a _ h => hi.refs j a h) (hi.refs p st hst),
      fun hrs x hx hxr => hi.rawN hrs x (hold x hx) hxr⟩
    · have hcf := ListFacts.countP_filter_key (·.id) hi.nodup hb (isPoolBlk j)
      rw [if_neg fun h => hne ((isPoolBlk_iff.mp h).1.symm.trans hp)] at hcf
      exact (hi.count j a h).trans hcf.symm
    · have hcf := ListFacts.countP_filter_key (·.id) hi.nodup hb (isPoolBlk p)
      rw [if_pos (isPoolBlk_iff.mpr ⟨hp, hq ▸ nofun⟩)] at hcf
      exact Nat.sub_eq_of_eq_add ((hi.count p st hst).trans hcf.symm)
    · obtain ⟨x, hx, h1, h2, h3⟩ := hi.rawBase e (List.mem_filter.mp he).1 hk
      refine ⟨x, List.mem_filter.mpr ⟨hx, ?_⟩, h1, h2, h3⟩
      -- the raw block `x` is not the pool block `b`
      have : x.id ≠ b.id := fun hid => by
        rw [ListFacts.key_inj (·.id) hi.nodup hx hb hid, hq] at h3
        cases h3
      simpa using this
  | @deallocRaw p st b hl hb hp hpath hq frees =>
    have hold : ∀ x ∈ s.blocks.filter (fun x => x.id != b.id), x ∈ s.blocks := fun x hx => (List.mem_filter.mp hx).1
    refine ⟨ListFacts.nodup_filter_key hi.nodup _, fun x hx => hi.alive x (hold x hx),
      fun x hx q' hq' => hi.poolBlk x (hold x hx) q' hq', fun j a h => ?_, fun e he hk => ?_,
      fun e he hk => hi.ownBase e (List.mem_filter.mp he).1 hk, hi.refs,
      fun hrs x hx hxr => hi.rawN hrs x (hold x hx) hxr⟩
    · have hcf := ListFacts.countP_filter_key (·.id) hi.nodup hb (isPoolBlk j)
      rw [if_neg fun h => (isPoolBlk_iff.mp h).2 hq] at hcf
      exact (hi.count j a h).trans hcf.symm
    · obtain ⟨x, hx, h1, h2, h3⟩ := hi.rawBase e (List.mem_filter.mp he).1 hk
      refine ⟨x, List.mem_filter.mpr ⟨hx, ?_⟩, h1, h2, h3⟩
      -- the ledger entry of `b` itself has been removed
      have : x.id ≠ b.id := fun hid => by
        have hxb := ListFacts.key_inj (·.id) hi.nodup hx hb hid
        have := (List.mem_filter.mp he).2
        simp [hk, ← h1, ← h2, hxb, hp] at this
      simpa using this

theorem step_inv {s : Sys} (hi : Inv s) (op : Op) (hok : (step s op).err = none) : Inv (step s op) := by
  cases h0 : s.err with
  | none => exact (step_outcome h0 op).inv hi hok
  | some e => rw [step_of_err h0]; exact hi

end Momo.PoolAlloc
