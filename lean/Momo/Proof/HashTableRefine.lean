import Momo.Proof.HashTableAbs
import Driver.HashTable
/-!
  C01/C11: histories. Every bucket description the driver builds satisfies `SpecOK` (`mkSpec_ok`). The state machine over two tables
  and a handle (`step`, `run`) is simulated by the abstract finite map (`astep`, `arun`) through the relation `Rel`, under the side
  conditions `OpOK` / `RunOK` (`step_refines_partial`, `run_refines_partial`). At the end the concrete bucket descriptions and histories
  that `Props/C01.lean` and `Props/C11.lean` evaluate, with the counterexample that shows why `OpOK` restricts the faults.
  `_partial` marks a statement with a side condition on the fault value or the table size, visible as a hypothesis.
-/
namespace Momo.HT
open Momo Momo.Probe

/-- **all bucket layouts.** The description `Driver.HashTable.mkSpec` builds for LimP4, LimP, LimP1,
Lim4, UnlimP, One, Open2N2, OpenN1, Open8 (and its fallback) — for every item size, alignment,
relocation category and hash-code-part setting — satisfies `SpecOK`, provided `maxCount ≥ 1`
(UnlimP has none) and `WasFull` turns true no later than at `maxCount` items. -/
theorem mkSpec_ok (kind : String) (n isz ial : Nat) (part fast reloc : Bool) (fullFrom logStart : Nat)
    (hn : 0 < n) (hff : fullFrom ≤ n) :
    SpecOK (Driver.HashTable.mkSpec kind n isz ial part fast reloc fullFrom logStart) := by
  have hite : ∀ (c : Prop) [Decidable c], (if c then 0 else n) ≤ n := by
    intro c _; split <;> omega
  unfold Driver.HashTable.mkSpec
  simp only
  split
  · exact ⟨hn, fun _ => hite _, nofun, fun _ => capacityOf_le _ hn nofun, capacityOf_mono _ nofun⟩
  · exact ⟨hn, fun _ => hff, nofun, fun _ => capacityOf_le _ hn nofun, capacityOf_mono _ nofun⟩
  · exact ⟨hn, fun _ => hff, nofun, fun _ => capacityOf_le _ hn nofun, capacityOf_mono _ nofun⟩
  · exact ⟨hn, fun _ => hff, nofun, fun _ => capacityOf_le _ hn nofun, capacityOf_mono _ nofun⟩
  · exact ⟨Nat.zero_lt_succ _, nofun, fun _ => rfl, nofun, capacityOf_mono _ nofun⟩
  · exact ⟨Nat.one_pos, fun _ => Nat.le_refl _, nofun, fun _ => capacityOf_le _ Nat.one_pos nofun, capacityOf_mono _ nofun⟩
  · exact ⟨hn, fun _ => Nat.zero_le _, nofun, fun _ => capacityOf_le _ hn (fun _ _ h => by cases h; decide),
      capacityOf_mono _ (fun _ _ h => by cases h; exact ⟨by decide, by show 12 ≤ 2 * (n * 11); omega⟩)⟩
  · exact ⟨hn, fun _ => Nat.zero_le _, nofun, fun _ => capacityOf_le _ hn (fun _ _ h => by cases h; decide),
      capacityOf_mono _ (fun _ _ h => by cases h; exact ⟨by decide, by show 6 ≤ 2 * (n * 5); omega⟩)⟩
  · exact ⟨Nat.zero_lt_succ _, fun _ => Nat.zero_le _, nofun,
      fun _ => capacityOf_le _ (Nat.zero_lt_succ _) (fun _ _ h => by cases h; decide),
      capacityOf_mono _ (fun _ _ h => by cases h; exact ⟨by decide, by show 14 ≤ 2 * (7 * 13); decide⟩)⟩
  · exact ⟨hn, fun _ => Nat.le_refl _, nofun, fun _ => capacityOf_le _ hn nofun, capacityOf_mono _ nofun⟩

/-- UnlimP has no `maxCount` template argument (the harness passes `n = 0`) -/
theorem mkSpec_ok_unlimP (n isz ial : Nat) (part fast reloc : Bool) (fullFrom logStart : Nat) :
    SpecOK (Driver.HashTable.mkSpec "UnlimP" n isz ial part fast reloc fullFrom logStart) :=
  by
  unfold Driver.HashTable.mkSpec
  simp only []
  exact ⟨Nat.zero_lt_succ _, nofun, fun _ => rfl, nofun, capacityOf_mono _ nofun⟩

/-- model side of a history: two tables (`a` is the one most operations work on, `b` the target of copy / move / merge / `ins true`) and
    the handle of an extracted element -/
structure St where
  a : Table := emptyTable
  b : Table := emptyTable
  handle : Option Item := none

/-- abstract side: the two maps as association lists with distinct keys, and the handle -/
structure ASt where
  A : List Item := []
  B : List Item := []
  handle : Option Item := none

/-- operations of a history. Faults are part of the operation: ANY `Faults` value may accompany
any insertion / reservation (C11). `ins true` works on the second container. Add-at-position,
key reset and the iterator/extract variants of remove are forwarders to `ins`/`rem`/`ext` in the
library (`not_modelled` in `tools/props/C01.py`). -/
inductive Op
  | ins (toB : Bool) (k v : Nat) (f : Faults)
  | find (k : Nat)
  | rem (k : Nat)
  | remPred (pred : Item → Bool)
  | reserve (c : Nat) (f : Faults)
  | clear (shrink : Bool)
  | copyTo | moveTo | swap | mergeTo
  | ext (k : Nat)
  | reins (f : Faults)

/-- what an operation reports: `val` a lookup, `ins present outcome` an insertion, `num` the number of elements removed, `out` the
    outcome of a reservation -/
inductive Res
  | unit
  | val (v : Option Nat)
  | ins (present : Bool) (out : Outcome)
  | num (n : Nat)
  | out (o : Outcome)

def Res.outcome : Res → Outcome
  | .ins _ o => o
  | .out o => o
  | _ => .ok

/-- one operation on the model: the composition of model functions `Driver.HashTable.step` runs for it (the driver has two more
    exits, `E:user` for a throwing hash and `E:length` above `maxlog`, for inputs `Op` does not have) -/
def step (sp : Spec) (hf : Nat → Nat) (s : St) : Op → St × Res
  | .ins toB k v f =>
    match findTable sp hf (if toB then s.b else s.a) k with
    | some _ => (s, .ins true .ok)
    | none =>
      ((if toB then { s with b := (add sp hf s.b ⟨k, v⟩ f).1 } else { s with a := (add sp hf s.a ⟨k, v⟩ f).1 }),
        .ins false (add sp hf (if toB then s.b else s.a) ⟨k, v⟩ f).2)
  | .find k => (s, .val (findVal sp hf s.a k))
  | .rem k =>
    match findTable sp hf s.a k with
    | some (gi, b, j) => ({ s with a := removePos sp s.a gi b j }, .num 1)
    | none => (s, .num 0)
  | .remPred p => ({ s with a := (removePred s.a p).1 }, .num (removePred s.a p).2)
  | .reserve c f => ({ s with a := (reserve sp hf s.a c f).1 }, .out (reserve sp hf s.a c f).2)
  | .clear sh => ({ s with a := clear sp s.a sh }, .unit)
  | .copyTo => ({ s with b := copyOf sp hf s.a }, .unit)
  | .moveTo => ({ s with b := s.a, a := emptyTable }, .unit)
  | .swap => ({ s with a := s.b, b := s.a }, .unit)
  | .mergeTo => ({ s with a := (mergeTo sp hf s.a s.b).1, b := (mergeTo sp hf s.a s.b).2 }, .unit)
  | .ext k =>
    match findTable sp hf s.a k with
    | some (gi, b, j) =>
      ({ s with a := removePos sp s.a gi b j,
                handle := some ((bkt sp (s.a.gens.getD gi default).bs b).items.getD j default) },
        .val (some ((bkt sp (s.a.gens.getD gi default).bs b).items.getD j default).val))
    | none => (s, .val none)
  | .reins f =>
    match s.handle with
    | none => (s, .unit)
    | some it =>
      match findTable sp hf s.a it.key with
      | some _ => (s, .ins true .ok)
      | none =>
        if (add sp hf s.a it f).2 = .ok then ({ s with a := (add sp hf s.a it f).1, handle := none }, .ins false .ok)
        else (s, .ins false (add sp hf s.a it f).2)

/-- **the abstract specification**: the obvious finite map. `o` is the outcome the operation had
(an insertion that met a fault inserts nothing); everything else is determined. -/
def astep (s : ASt) (o : Outcome) : Op → ASt × Res
  | .ins toB k v _ =>
    if k ∈ akeys (if toB then s.B else s.A) then (s, .ins true .ok)
    else if o = .ok then
      ((if toB then { s with B := ⟨k, v⟩ :: s.B } else { s with A := ⟨k, v⟩ :: s.A }), .ins false .ok)
    else (s, .ins false o)
  | .find k => (s, .val (lookup s.A k))
  | .rem k =>
    if k ∈ akeys s.A then ({ s with A := s.A.filter (fun x => x.key != k) }, .num 1) else (s, .num 0)
  | .remPred p => ({ s with A := s.A.filter (fun x => !p x) }, .num (s.A.filter p).length)
  | .reserve _ _ => (s, .out o)
  | .clear _ => ({ s with A := [] }, .unit)
  | .copyTo => ({ s with B := s.A }, .unit)
  | .moveTo => ({ s with B := s.A, A := [] }, .unit)
  | .swap => ({ s with A := s.B, B := s.A }, .unit)
  | .mergeTo =>
    ({ s with A := s.A.filter (fun x => decide (x.key ∈ akeys s.B)),
              B := s.A.filter (fun x => !decide (x.key ∈ akeys s.B)) ++ s.B }, .unit)
  | .ext k =>
    match s.A.find? (fun x => x.key == k) with
    | some it => ({ s with A := s.A.filter (fun x => x.key != k), handle := some it }, .val (some it.val))
    | none => (s, .val none)
  | .reins _ =>
    match s.handle with
    | none => (s, .unit)
    | some it =>
      if it.key ∈ akeys s.A then (s, .ins true .ok)
      else if o = .ok then ({ s with A := it :: s.A, handle := none }, .ins false .ok)
      else (s, .ins false o)

/-- the refinement relation every theorem about histories carries: both tables satisfy `TableInv`, each traversal is a rearrangement
    of the abstract contents, the handles agree -/
structure Rel (sp : Spec) (hf : Nat → Nat) (s : St) (as : ASt) : Prop where
  ia : TableInv sp hf s.a
  ib : TableInv sp hf s.b
  pa : (traverse s.a).Perm as.A
  pb : (traverse s.b).Perm as.B
  hd : s.handle = as.handle

/-- side conditions of an operation. Faults: an interrupted migration (`relocStop`) can only
accompany item categories whose relocation can throw (`FaultsOK`). Copy: the copy's bucket array
must have a slot for every element (`CopyFits`: true whenever the count is at most the capacity of
`2^(logStart+63)` buckets, `copyFits_of_cap`; the model's size search has fuel 64). -/
def OpOK (sp : Spec) (s : St) : Op → Prop
  | .ins _ _ _ f => FaultsOK sp f
  | .reserve _ f => FaultsOK sp f
  | .reins f => FaultsOK sp f
  | .copyTo => CopyFits sp s.a
  | _ => True

/-- insertion into one table against its abstract contents `M`: what the arms `ins` (either table) and `reins` of the simulation share -/
theorem insert_refines_partial (sp : Spec) (hf : Nat → Nat) (ok : SpecOK sp) (t : Table) (M : List Item)
    (hI : TableInv sp hf t) (hp : (traverse t).Perm M) (it : Item) (f : Faults) (hF : FaultsOK sp f) :
    ((findTable sp hf t it.key).isSome ↔ it.key ∈ akeys M) ∧
    (findTable sp hf t it.key = none →
      TableInv sp hf (add sp hf t it f).1 ∧
      ((add sp hf t it f).2 = .ok → (traverse (add sp hf t it f).1).Perm (it :: M)) ∧
      ((add sp hf t it f).2 ≠ .ok → (add sp hf t it f).1 = t)) := by
  refine ⟨(findTable_spec sp hf t hI it.key).trans (mem_akeys_perm hp it.key), fun hnone => ?_⟩
  have hk := findTable_none sp hf t hI it.key hnone
  refine ⟨add_keeps_inv sp hf ok t it f hI hF hk, fun hok => ?_, add_fail_unchanged sp hf t it f⟩
  exact (add_ok sp hf ok t it f hI hF hk hok).2.trans (List.Perm.cons _ hp)

/-- **one step refines the specification**: from related states, any admissible operation with any
faults leads to related states and reports exactly what the specification reports -/
theorem step_refines_partial (sp : Spec) (hf : Nat → Nat) (ok : SpecOK sp) (s : St) (as : ASt)
    (hR : Rel sp hf s as) (op : Op) (hop : OpOK sp s op) :
    Rel sp hf (step sp hf s op).1 (astep as (step sp hf s op).2.outcome op).1 ∧
    (astep as (step sp hf s op).2.outcome op).2 = (step sp hf s op).2 := by
  obtain ⟨ia, ib, pa, pb, hd⟩ := hR
  cases op with
  | ins toB k v f =>
    -- the table worked on is `if toB then s.b else s.a` in the text of `step`: analyse it once, split `toB` to build `Rel`
    have hT : TableInv sp hf (if toB then s.b else s.a) ∧
        (traverse (if toB then s.b else s.a)).Perm (if toB then as.B else as.A) := by
      cases toB
      · exact ⟨ia, pa⟩
      · exact ⟨ib, pb⟩
    rcases find_cases sp hf _ _ hT.1 hT.2 k with ⟨hfnd, hnin, _⟩ | ⟨gi, b, j, hfnd, hin, _⟩
    · obtain ⟨i1, i2, i3⟩ := (insert_refines_partial sp hf ok _ _ hT.1 hT.2 ⟨k, v⟩ f hop).2 hfnd
      simp only [step, astep, hfnd, hnin, if_false, Res.outcome]
      by_cases hok : (add sp hf (if toB then s.b else s.a) ⟨k, v⟩ f).2 = .ok
      · simp only [hok, if_true]
        cases toB
        · exact ⟨⟨i1, ib, i2 hok, pb, hd⟩, trivial⟩
        · exact ⟨⟨ia, i1, pa, i2 hok, hd⟩, trivial⟩
      · simp only [hok, if_false]
        have i2' := (i3 hok).symm ▸ hT.2
        cases toB
        · exact ⟨⟨i1, ib, i2', pb, hd⟩, trivial⟩
        · exact ⟨⟨ia, i1, pa, i2', hd⟩, trivial⟩
    · simp only [step, astep, hfnd, hin, if_true]
      exact ⟨⟨ia, ib, pa, pb, hd⟩, trivial⟩
  | find k =>
    simp only [step, astep]
    exact ⟨⟨ia, ib, pa, pb, hd⟩, congrArg Res.val ((ia.agrees pa).1 k).symm⟩
  | rem k =>
    rcases find_cases sp hf s.a as.A ia pa k with ⟨hfnd, hnin, _⟩ | ⟨gi, b, j, hfnd, hin, _, i1, i2⟩
    · simp only [step, astep, hfnd, hnin, if_false]
      exact ⟨⟨ia, ib, pa, pb, hd⟩, trivial⟩
    · simp only [step, astep, hfnd, hin, if_true]
      exact ⟨⟨i1, ib, i2, pb, hd⟩, trivial⟩
  | remPred p =>
    simp only [step, astep]
    obtain ⟨i1, i2, i3⟩ := removePred_spec sp hf s.a p ia
    refine ⟨⟨i1, ib, i2.trans (pa.filter _), pb, hd⟩, ?_⟩
    rw [i3, (pa.filter p).length_eq]
  | reserve c f =>
    simp only [step, astep, Res.outcome]
    obtain ⟨i1, i2, _⟩ := reserve_spec sp hf ok s.a c f ia hop
    exact ⟨⟨i1, ib, i2.trans pa, pb, hd⟩, trivial⟩
  | clear sh =>
    simp only [step, astep]
    obtain ⟨i1, i2⟩ := clear_spec sp hf ok s.a sh ia
    refine ⟨⟨i1, ib, ?_, pb, hd⟩, trivial⟩
    show (traverse (clear sp s.a sh)).Perm []
    rw [i2]
  | copyTo =>
    simp only [step, astep]
    obtain ⟨i1, i2⟩ := copyOf_spec sp hf ok s.a ia hop
    exact ⟨⟨ia, i1, pa, i2.trans pa, hd⟩, trivial⟩
  | moveTo =>
    simp only [step, astep]
    exact ⟨⟨emptyTable_inv sp hf, ia, List.Perm.refl _, pa, hd⟩, trivial⟩
  | swap =>
    simp only [step, astep]
    exact ⟨⟨ib, ia, pb, pa, hd⟩, trivial⟩
  | mergeTo =>
    simp only [step, astep]
    obtain ⟨i1, i2, i3, i4⟩ := mergeTo_spec sp hf ok s.a s.b ia ib
    obtain ⟨e1, e2⟩ := filter_congr_keys (traverse s.a) (traverse s.b) as.B pb
    rw [e1] at i3; rw [e2] at i4
    exact ⟨⟨i1, i2, i3.trans (pa.filter _), i4.trans (List.Perm.append (pa.filter _) pb), hd⟩, trivial⟩
  | ext k =>
    rcases find_cases sp hf s.a as.A ia pa k with ⟨hfnd, _, hnone⟩ | ⟨gi, b, j, hfnd, _, hfind, i1, i2⟩
    · simp only [step, astep, hfnd, hnone]
      exact ⟨⟨ia, ib, pa, pb, hd⟩, trivial⟩
    · simp only [step, astep, hfnd, hfind]
      exact ⟨⟨i1, ib, i2, pb, rfl⟩, trivial⟩
  | reins f =>
    obtain ⟨sa, sb, sh⟩ := s
    obtain ⟨A, B, ah⟩ := as
    simp only at hd pa pb ia ib hop
    subst hd
    cases sh with
    | none =>
      simp only [step, astep]
      exact ⟨⟨ia, ib, pa, pb, rfl⟩, trivial⟩
    | some it =>
      rcases find_cases sp hf sa A ia pa it.key with ⟨hfnd, hnin, _⟩ | ⟨gi, b, j, hfnd, hin, _⟩
      · obtain ⟨i1, i2, _⟩ := (insert_refines_partial sp hf ok sa A ia pa it f hop).2 hfnd
        simp only [step, astep, hfnd, hnin, if_false]
        by_cases hok : (add sp hf sa it f).2 = .ok
        · simp only [hok, if_true, Res.outcome]
          exact ⟨⟨i1, ib, i2 hok, pb, rfl⟩, trivial⟩
        · simp only [hok, if_false, Res.outcome]
          exact ⟨⟨ia, ib, pa, pb, rfl⟩, trivial⟩
      · simp only [step, astep, hfnd, hin, if_true]
        exact ⟨⟨ia, ib, pa, pb, rfl⟩, trivial⟩

def run (sp : Spec) (hf : Nat → Nat) : St → List Op → St × List Res
  | s, [] => (s, [])
  | s, op :: ops =>
    ((run sp hf (step sp hf s op).1 ops).1, (step sp hf s op).2 :: (run sp hf (step sp hf s op).1 ops).2)

/-- run the specification; `outs` are the outcomes the operations had (only insertions and
reservations can have one other than `ok`, and only because of a fault) -/
def arun : ASt → List Op → List Outcome → ASt × List Res
  | s, op :: ops, o :: outs =>
    ((arun (astep s o op).1 ops outs).1, (astep s o op).2 :: (arun (astep s o op).1 ops outs).2)
  | s, _, _ => (s, [])

def RunOK (sp : Spec) (hf : Nat → Nat) : St → List Op → Prop
  | _, [] => True
  | s, op :: ops => OpOK sp s op ∧ RunOK sp hf (step sp hf s op).1 ops

theorem run_refines_partial (sp : Spec) (hf : Nat → Nat) (ok : SpecOK sp) :
    ∀ (ops : List Op) (s : St) (as : ASt), Rel sp hf s as → RunOK sp hf s ops →
      Rel sp hf (run sp hf s ops).1 (arun as ops ((run sp hf s ops).2.map Res.outcome)).1 ∧
      (arun as ops ((run sp hf s ops).2.map Res.outcome)).2 = (run sp hf s ops).2 := by
  intro ops
  induction ops with
  | nil => intro s as hR _; exact ⟨hR, rfl⟩
  | cons op ops ih =>
    intro s as hR hok
    obtain ⟨h1, h2⟩ := step_refines_partial sp hf ok s as hR op hok.1
    obtain ⟨h3, h4⟩ := ih _ _ h1 hok.2
    simp only [run, List.map_cons, arun]
    exact ⟨h3, by rw [h2, h4]⟩

theorem run_refines_empty (sp : Spec) (hf : Nat → Nat) (ok : SpecOK sp) (ops : List Op) (hok : RunOK sp hf {} ops) :
    Rel sp hf (run sp hf {} ops).1 (arun {} ops ((run sp hf {} ops).2.map Res.outcome)).1 ∧
    (arun {} ops ((run sp hf {} ops).2.map Res.outcome)).2 = (run sp hf {} ops).2 :=
  run_refines_partial sp hf ok ops {} {}
    ⟨emptyTable_inv sp hf, emptyTable_inv sp hf, List.Perm.refl _, List.Perm.refl _, rfl⟩ hok

instance decOpOK (sp : Spec) (s : St) : (op : Op) → Decidable (OpOK sp s op)
  | .ins _ _ _ f => inferInstanceAs (Decidable (FaultsOK sp f))
  | .reserve _ f => inferInstanceAs (Decidable (FaultsOK sp f))
  | .reins f => inferInstanceAs (Decidable (FaultsOK sp f))
  | .copyTo => inferInstanceAs (Decidable (CopyFits sp s.a))
  | .find _ | .rem _ | .remPred _ | .clear _ | .moveTo | .swap | .mergeTo | .ext _ => isTrue trivial

instance decRunOK (sp : Spec) (hf : Nat → Nat) : (s : St) → (ops : List Op) → Decidable (RunOK sp hf s ops)
  | _, [] => isTrue trivial
  | s, op :: ops => @instDecidableAnd _ _ (decOpOK sp s op) (decRunOK sp hf _ ops)

/-- LimP4<4> with 8-byte items, first table of 2 buckets -/
def exLimP4 : Spec := Driver.HashTable.mkSpec "LimP4" 4 8 8 false true false 4 1
/-- Open2N2<1>: open addressing, one item per bucket, triangular probing, first table of 2 buckets -/
def exOpen : Spec := Driver.HashTable.mkSpec "Open2N2" 1 8 8 false true false 0 1

theorem exLimP4_ok : SpecOK exLimP4 := mkSpec_ok _ _ _ _ _ _ _ _ _ (by decide) (by decide)
theorem exOpen_ok : SpecOK exOpen := mkSpec_ok _ _ _ _ _ _ _ _ _ (by decide) (by decide)

/-- five insertions; the fifth grows the table and its migration is interrupted after one item -/
def exTwoGens : List Op :=
  [.ins false 1 10 {}, .ins false 2 20 {}, .ins false 3 30 {}, .ins false 4 40 {},
   .ins false 5 50 { relocStop := some 1 }]

/-- Open2N2<1> with a constant hash: the second insertion meets a refused growth and falls back to
the existing 2-bucket table, which is then FULL; the third is refused with "table is full" -/
def exFull : List Op :=
  [.ins false 1 10 {}, .ins false 2 20 { refuseGrow := true }, .ins false 3 30 { refuseGrow := true },
   .find 2, .rem 1, .ins false 3 30 { refuseGrow := true }]

/-- Open2N2<1> with nothrow-relocatable items and a fast nothrow hash (`nothrowReloc`) -/
def exNR : Spec := Driver.HashTable.mkSpec "Open2N2" 1 8 8 false true true 0 1
/-- the second insertion grows the table and its migration is "interrupted" before the first item -/
def exNROps : List Op := [.ins false 1 10 {}, .ins false 2 20 { relocStop := some 0 }]

theorem exNR_ok : SpecOK exNR := mkSpec_ok _ _ _ _ _ _ _ _ _ (by decide) (by decide)

/-- two generations are left although lookups of this item category read only the newest one:
key 1 is traversed but not found -/
theorem unrestricted_faults_counterexample :
    exNR.nothrowReloc = true ∧
    (run exNR id {} exNROps).1.a.gens.map (fun g => (g.L, genCount g)) = [(2, 1), (1, 1)] ∧
    (traverse (run exNR id {} exNROps).1.a).map (·.key) = [2, 1] ∧
    findVal exNR id (run exNR id {} exNROps).1.a 1 = none ∧
    lookup (arun {} exNROps ((run exNR id {} exNROps).2.map Res.outcome)).1.A 1 = some 10 := by
  decide +kernel

end Momo.HT
