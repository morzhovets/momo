import Momo.Proof.StdWOrdBase
/-!
  C06 history theorem, ordered containers: every modifying operation of the wrapper model
  (`pvCheckHint` / `pvFind` / `pvInsert` / node handling / `operator[]` / native range insert and merge) yields the
  sequence, position, flag and node-handle contents the specification prescribes, and keeps the order invariant; the lookups
  and the comparison give the specification's answers.
-/
namespace Momo.StdW
open Momo.StdWrap List
open Momo.StdSpec hiding Item

theorem sInsert_multi (xs : List Item) (x : Item) :
    sInsert true xs x = (insertAt xs (ub x.1 xs) x, ub x.1 xs, true) := by
  rw [sInsert, upperPos_eq]; rfl

theorem sInsert_unique (xs : List Item) (hs : StrictSorted xs) (x : Item) :
    sInsert false xs x = if lb x.1 xs < ub x.1 xs then (xs, lb x.1 xs, false) else (insertAt xs (lb x.1 xs) x, lb x.1 xs, true) := by
  have hsr := hs.sorted
  rw [sInsert, Bool.not_false, Bool.true_and, hasKey_eq xs hsr, upperPos_eq]
  by_cases h : lb x.1 xs < ub x.1 xs
  · rw [decide_eq_true h, if_pos rfl, if_pos h, findPos_present xs hsr x.1 h]
  · rw [decide_eq_false h, if_neg Bool.false_ne_true, if_neg h, Nat.le_antisymm (Nat.le_of_not_lt h) (lb_le_ub x.1 xs)]
    rfl

theorem mapInsert_none (multi : Bool) (xs : List Item) (x : Item) : mapInsert multi xs none x = treeInsert multi xs x := rfl

theorem mapInsert_eq (xs : List Item) (hs : StrictSorted xs) (hint : Option Nat)
    (hl : ∀ h, hint = some h → h ≤ xs.length) (x : Item) :
    mapInsert false xs hint x = sInsert false xs x := by
  rw [sInsert_unique xs hs, mapInsert_unique xs hs hint hl]

theorem treeInsert_eq (multi : Bool) (xs : List Item) (hs : SortedK multi xs) (x : Item) :
    treeInsert multi xs x = sInsert multi xs x := by
  cases multi with
  | true => rw [sInsert_multi]; rfl
  | false => rw [← mapInsert_none]; exact mapInsert_eq xs hs.strict none (fun _ hh => nomatch hh) x

theorem wInsert_eq (kd : Kind) (xs : List Item) (hs : SortedK kd.multi xs) (x : Item) :
    wInsert kd xs x = sInsert kd.multi xs x := by
  rw [wInsert, mapInsert_none, ite_self]; exact treeInsert_eq _ xs hs x

theorem sInsert_sorted (multi : Bool) (xs : List Item) (hs : SortedK multi xs) (x : Item) :
    SortedK multi (sInsert multi xs x).1 := by
  cases multi with
  | true =>
    rw [sInsert_multi]
    exact insertAt_sorted xs hs.sorted x (lb_le_ub x.1 xs) (Nat.le_refl _)
  | false =>
    rw [sInsert_unique xs hs.strict]
    by_cases h : lb x.1 xs < ub x.1 xs
    · rw [if_pos h]; exact hs
    · rw [if_neg h]; exact insertAt_strict xs hs.strict x (Nat.le_of_not_lt h) (Nat.le_refl _)

theorem sInsertHint_multi (xs : List Item) (h : Nat) (x : Item) :
    sInsertHint true xs h x = (insertAt xs (clamp h (lb x.1 xs) (ub x.1 xs)) x, clamp h (lb x.1 xs) (ub x.1 xs)) := by
  rw [sInsertHint, if_pos rfl, lowerPos_eq, upperPos_eq, closest_eq_clamp _ _ _ (lb_le_ub x.1 xs)]; rfl

theorem wInsertHint_eq (kd : Kind) (xs : List Item) (hs : SortedK kd.multi xs) (h : Nat) (hl : h ≤ xs.length) (x : Item) :
    wInsertHint kd xs h x = sInsertHint kd.multi xs h x := by
  rw [wInsertHint, ← mapInsert_hint, ite_self]
  obtain ⟨multi, isMap⟩ := kd
  cases multi with
  | true => rw [mapInsert_multi xs hs.sorted h hl x, sInsertHint_multi]
  | false => rw [mapInsert_eq xs hs.strict (some h) (hint_some hl) x]; rfl

theorem sInsertHint_sorted (multi : Bool) (xs : List Item) (hs : SortedK multi xs) (h : Nat) (x : Item) :
    SortedK multi (sInsertHint multi xs h x).1 := by
  cases multi with
  | true =>
    rw [sInsertHint_multi]
    exact insertAt_sorted xs hs.sorted x (le_clamp ..) (clamp_le _ (lb_le_ub x.1 xs))
  | false => exact sInsert_sorted false xs hs x

/-- equation and order in one statement, here and in `natMergeFrom_eq`: the two folds agree only along sorted states -/
theorem wInsertMany_eq (kd : Kind) (xs : List Item) (hs : SortedK kd.multi xs) (ys : List Item) (viaLoop : Bool) :
    wInsertMany kd xs ys viaLoop = sInsertMany kd.multi xs ys ∧ SortedK kd.multi (sInsertMany kd.multi xs ys) := by
  cases viaLoop with
  | true => exact ListFacts.foldl_eq_of_inv (fun s y h => ⟨congrArg (·.1) (wInsert_eq kd s h y), sInsert_sorted _ s h y⟩) ys xs hs
  | false => exact ListFacts.foldl_eq_of_inv (fun s y h => ⟨congrArg (·.1) (treeInsert_eq _ s h y), sInsert_sorted _ s h y⟩) ys xs hs

/-- what `merge` leaves behind in the source (the second component) is a sublist of the source, hence still sorted -/
theorem sMerge_rest_sublist (multi : Bool) : ∀ (src dst acc : List Item), ∃ l, l.Sublist src ∧
    (src.foldl (fun acc y => if (sInsert multi acc.1 y).2.2 then ((sInsert multi acc.1 y).1, acc.2) else (acc.1, acc.2 ++ [y]))
      (dst, acc)).2 = acc ++ l
  | [], _, acc => ⟨[], Sublist.slnil, (append_nil acc).symm⟩
  | y :: t, dst, acc => by
    rw [foldl_cons]
    by_cases hi : (sInsert multi dst y).2.2 = true
    · rw [if_pos hi]
      obtain ⟨l, hl1, hl2⟩ := sMerge_rest_sublist multi t (sInsert multi dst y).1 acc
      exact ⟨l, Sublist.cons _ hl1, hl2⟩
    · rw [if_neg hi]
      obtain ⟨l, hl1, hl2⟩ := sMerge_rest_sublist multi t dst (acc ++ [y])
      exact ⟨y :: l, Sublist.cons_cons _ hl1, by rw [hl2, append_assoc]; rfl⟩

theorem natMergeFrom_eq (multi : Bool) (dst : List Item) (hd : SortedK multi dst) (src : List Item) (hsrc : SortedK multi src) :
    natMergeFrom multi dst src = sMerge multi dst src ∧ SortedK multi (sMerge multi dst src).1 ∧
    SortedK multi (sMerge multi dst src).2 := by
  obtain ⟨l, hl1, hl2⟩ := sMerge_rest_sublist multi src dst []
  have h := ListFacts.foldl_eq_of_inv (I := fun (s : List Item × List Item) => SortedK multi s.1)
    (f := fun acc y => if (treeInsert multi acc.1 y).2.2 then ((treeInsert multi acc.1 y).1, acc.2) else (acc.1, acc.2 ++ [y]))
    (g := fun acc y => if (sInsert multi acc.1 y).2.2 then ((sInsert multi acc.1 y).1, acc.2) else (acc.1, acc.2 ++ [y]))
    (fun s y h2 => by
      refine ⟨by simp only [treeInsert_eq multi _ h2 y], ?_⟩
      split
      · exact sInsert_sorted multi _ h2 y
      · exact h2) src (dst, []) hd
  exact ⟨h.1, h.2, (show (sMerge multi dst src).2 = [] ++ l from hl2) ▸ sortedK_sublist hsrc hl1⟩

theorem sInsertOrAssign_unique (xs : List Item) (hs : StrictSorted xs) (x : Item) :
    sInsertOrAssign xs x =
      if lb x.1 xs < ub x.1 xs then (xs.set (lb x.1 xs) x, lb x.1 xs, false) else (insertAt xs (lb x.1 xs) x, lb x.1 xs, true) := by
  have hsr := hs.sorted
  rw [sInsertOrAssign, hasKey_eq xs hsr, upperPos_eq]
  by_cases h : lb x.1 xs < ub x.1 xs
  · rw [decide_eq_true h, if_pos rfl, if_pos h, findPos_present xs hsr x.1 h]
  · rw [decide_eq_false h, if_neg Bool.false_ne_true, if_neg h, Nat.le_antisymm (Nat.le_of_not_lt h) (lb_le_ub x.1 xs)]
    rfl

theorem mapInsertOrAssign_eq (xs : List Item) (hs : StrictSorted xs) (hint : Option Nat)
    (hl : ∀ h, hint = some h → h ≤ xs.length) (x : Item) :
    mapInsertOrAssign xs hint x = sInsertOrAssign xs x := by
  rw [sInsertOrAssign_unique xs hs, mapInsertOrAssign_unique xs hs hint hl]

theorem sInsertOrAssign_sorted (xs : List Item) (hs : SortedK false xs) (x : Item) :
    SortedK false (sInsertOrAssign xs x).1 := by
  rw [sInsertOrAssign_unique xs hs.strict]
  by_cases hp : lb x.1 xs < ub x.1 xs
  · rw [if_pos hp]; exact sortedK_set hs _ _ fun _ => (keyAt_lb_present xs hs.sorted x.1 hp).symm
  · rw [if_neg hp]; exact insertAt_strict xs hs.strict x (Nat.le_of_not_lt hp) (Nat.le_refl _)

theorem getElem?_insertAt (xs : List Item) (p : Nat) (hp : p ≤ xs.length) (x : Item) : (insertAt xs p x)[p]? = some x := by
  have hlen : (xs.take p).length = p := length_take_of_le hp
  rw [insertAt, getElem?_append_right (Nat.le_of_eq hlen), hlen, Nat.sub_self]; rfl

theorem keyAt_insertAt (xs : List Item) (p : Nat) (hp : p ≤ xs.length) (x : Item) : keyAt (insertAt xs p x) p = x.1 := by
  rw [keyAt, getElem?_insertAt xs p hp]; rfl

theorem insertAt_set (xs : List Item) (p : Nat) (hp : p ≤ xs.length) (x y : Item) :
    (insertAt xs p x).set p y = insertAt xs p y := by
  have hlen : (xs.take p).length = p := length_take_of_le hp
  rw [insertAt, set_append_right _ _ (Nat.le_of_eq hlen), hlen, Nat.sub_self]; rfl

/-- `operator[]` searches with `GetLowerBound` only: on any sorted sequence its test is presence of the key -/
theorem wIndex_bounds (xs : List Item) (hs : Sorted xs) (k : Nat) :
    wIndex xs k = if lb k xs < ub k xs then (xs, lb k xs) else (insertAt xs (lb k xs) (k, 0), lb k xs) := by
  simp only [wIndex, found_iff xs hs k]

/-- `m[k]` read: same sequence and same value as "insert (k, T()) unless present" -/
theorem wIndex_eq (xs : List Item) (hs : StrictSorted xs) (k : Nat) :
    (wIndex xs k).1 = (sInsert false xs (k, 0)).1 ∧ (wIndex xs k).2 = (sInsert false xs (k, 0)).2.1 := by
  rw [wIndex_bounds xs hs.sorted, sInsert_unique xs hs]
  split <;> exact ⟨rfl, rfl⟩

/-- `m[k] = v` -/
theorem wIndexAssign_eq (xs : List Item) (hs : StrictSorted xs) (k v : Nat) :
    (wIndex xs k).1.set (wIndex xs k).2 (keyAt (wIndex xs k).1 (wIndex xs k).2, v) = (sInsertOrAssign xs (k, v)).1 := by
  have hsr := hs.sorted
  rw [wIndex_bounds xs hsr, sInsertOrAssign_unique xs hs]
  by_cases hp : lb k xs < ub k xs
  · rw [if_pos hp, if_pos hp]; exact congrArg (fun a => xs.set (lb k xs) (a, v)) (keyAt_lb_present xs hsr k hp)
  · rw [if_neg hp, if_neg hp]
    exact (congrArg (fun a => (insertAt xs (lb k xs) (k, 0)).set (lb k xs) (a, v))
      (keyAt_insertAt xs _ (lb_le_length k xs) (k, 0))).trans (insertAt_set xs _ (lb_le_length k xs) _ _)

theorem wInsertNode_eq (kd : Kind) (xs : List Item) (hs : SortedK kd.multi xs) (x : Item) :
    wInsertNode kd xs (some x) =
      ((sInsert kd.multi xs x).1, (sInsert kd.multi xs x).2.1, (sInsert kd.multi xs x).2.2,
        if (sInsert kd.multi xs x).2.2 then none else some x) := by
  rw [wInsertNode, insertNode, treeInsert_eq kd.multi xs hs x]

theorem wInsertNodeHint_eq (kd : Kind) (xs : List Item) (hs : SortedK kd.multi xs) (h : Nat) (hl : h ≤ xs.length) (x : Item) :
    wInsertNodeHint kd xs h (some x) =
      ((sInsertHint kd.multi xs h x).1, (sInsertHint kd.multi xs h x).2,
        if kd.multi || !hasKey x.1 xs then none else some x) := by
  rw [wInsertNodeHint, setInsertNodeHint_eq, ite_self]
  obtain ⟨multi, isMap⟩ := kd
  cases multi with
  | true => rw [mapInsertNodeHint_multi xs hs.sorted h hl x, sInsertHint_multi]; rfl
  | false =>
    rw [mapInsertNodeHint_unique xs hs.strict h hl x, sInsertHint, if_neg Bool.false_ne_true,
      sInsert_unique xs hs.strict, hasKey_eq xs hs.sorted]
    by_cases hp : lb x.1 xs < ub x.1 xs
    · rw [if_pos hp, if_pos hp, decide_eq_true hp]; rfl
    · rw [if_neg hp, if_neg hp, decide_eq_false hp]; rfl

theorem natContains_eq (xs : List Item) (hs : Sorted xs) (k : Nat) : natContains xs k = hasKey k xs := by
  rw [hasKey_eq xs hs, natContains]; exact decide_eq_decide.mpr (found_iff xs hs k)

theorem ordFind_eq (xs : List Item) (hs : Sorted xs) (k : Nat) : ordFind xs k = findPos k xs := by
  rw [ordFind_bounds xs hs, findPos_eq xs hs]

theorem natKeyCount_eq (multi : Bool) (xs : List Item) (hs : SortedK multi xs) (k : Nat) :
    natKeyCount multi xs k = countKey k xs := by
  have hsr := hs.sorted
  rw [countKey_eq xs hsr, natKeyCount]
  cases multi with
  | true => rfl
  | false =>
    rw [if_neg Bool.false_ne_true, natContains_eq xs hsr, hasKey_eq xs hsr]
    by_cases hp : lb k xs < ub k xs
    · rw [decide_eq_true hp, if_pos rfl, Nat.le_antisymm (ub_le_lb_succ xs hs.strict k) hp, Nat.add_sub_cancel_left]
    · rw [decide_eq_false hp, if_neg Bool.false_ne_true, Nat.sub_eq_zero_of_le (Nat.le_of_not_lt hp)]

theorem ordEqualRange_eq (multi : Bool) (xs : List Item) (hs : SortedK multi xs) (k : Nat) :
    ordEqualRange multi xs k = (lowerPos k xs, upperPos k xs) := by
  rw [lowerPos_eq, upperPos_eq]
  cases multi with
  | true => rfl
  | false => exact ordEqualRange_unique xs hs.strict k

theorem hasKey_eq_findPos_ne (xs : List Item) (hs : Sorted xs) (k : Nat) :
    hasKey k xs = decide (findPos k xs ≠ xs.length) := by
  rw [hasKey_eq xs hs, findPos_eq xs hs]
  by_cases hp : lb k xs < ub k xs
  · rw [if_pos hp, decide_eq_true hp, decide_eq_true (Nat.ne_of_lt ((lt_ub_iff hs).mp hp).1)]
  · rw [if_neg hp, decide_eq_false hp, decide_eq_false (fun h => h rfl)]

theorem mapAt_eq (xs : List Item) (hs : Sorted xs) (k : Nat) :
    atObs (mapAt xs k) =
      if hasKey k xs then Obs.val (xs[findPos k xs]?.getD (0, 0)).2 else Obs.outOfRange := by
  rw [mapAt, ordFind_eq xs hs, hasKey_eq_findPos_ne xs hs]
  by_cases h : findPos k xs = xs.length
  · rw [if_pos h, decide_eq_false (fun hh => hh h)]; rfl
  · rw [if_neg h, decide_eq_true h]; rfl

theorem wExtractKey_eq (xs : List Item) (hs : Sorted xs) (k : Nat) :
    wExtractKey xs k = if hasKey k xs then (xs.eraseIdx (findPos k xs), xs[findPos k xs]?) else (xs, none) := by
  rw [wExtractKey, ordFind_eq xs hs, hasKey_eq_findPos_ne xs hs]
  by_cases h : findPos k xs = xs.length
  · rw [if_neg (fun hh => hh h), decide_eq_false (fun hh => hh h)]; rfl
  · rw [if_pos h, decide_eq_true h]; rfl

theorem wCmp_eq (a b : List Item) : wCmp a b = seqCmp a b := by
  rw [wCmp, wEq, ListFacts.zip_all_beq]; rfl

end Momo.StdW
