import Momo.Proof.BTreeFaultOps
/-!
  C10 for the B-tree family: `Insert(begin, end)` under every fault schedule. Whatever step throws — a comparison of the
  shortcut test, of a search, an allocation of a Relocator, the copy of an element —, the container is exactly what the
  fault-free `Insert` of a *prefix* of the range produces (node structure included), and the ledger moved with it.
-/
namespace Momo.BTreeF
open Momo Momo.BTree Momo.BTree.Node
variable {α : Type}

/-- the outcome of a (possibly interrupted) run of the loop from `ft` at `pos` over `xs` -/
def RangeOut (lt : α → α → Bool) (cfg : Cfg) (xs : List α) (ft : FTree α) (pos : Pos) (w : W) (t : Bool) (ft' : FTree α) (w' : W) : Prop :=
  ∃ j, j ≤ xs.length ∧ ft'.tree = Tree.insertRange.go lt cfg (xs.take j) ft.tree pos ∧ (t = false → j = xs.length) ∧
    ft'.WF cfg ∧ Frame w ft w' ft'

theorem insertRangeF_go_spec (S : Sched) (ic : ICfg α) (cfg : Cfg) (hmax : 0 < cfg.maxCap) (lt : α → α → Bool) (ho : Order lt) (xs : List α)
    (ft : FTree α) (hw : ft.WF cfg) (hs : SortedBy lt cfg.multi ft.tree.toList) (pos : Pos) (hv : ft.tree.ValidElem pos)
    (w : W) {t : Bool} {ft' : FTree α} {w' : W} (h : insertRangeF.go S ic cfg lt xs ft pos w = (t, ft', w')) :
    RangeOut lt cfg xs ft pos w t ft' w' := by
  induction xs generalizing ft pos w with
  | nil =>
    simp only [insertRangeF.go, Prod.mk.injEq] at h
    obtain ⟨rfl, rfl, rfl⟩ := h
    exact ⟨0, Nat.le_refl _, rfl, fun _ => rfl, hw, Frame.refl _ _⟩
  | cons x xs ih =>
    obtain ⟨prevKey, hk1, hk2⟩ := tree_elemAt_spec cfg ft.tree hw.tree pos hv
    obtain ⟨-, s1, s2, s3⟩ := igStep_spec lt ho cfg hmax ft.tree hw.tree hs pos hv prevKey x hk1
    obtain ⟨n1, n2⟩ := tree_next_spec cfg ft.tree hw.tree pos hv
    -- stopping before `x` is done: the empty prefix
    have stop : ∀ (ft1 : FTree α) (w1 : W), ft1.tree = ft.tree → ft1.WF cfg → Frame w ft w1 ft1 →
        RangeOut lt cfg (x :: xs) ft pos w true ft1 w1 :=
      fun ft1 w1 e1 e2 e3 => ⟨0, Nat.zero_le _, (by simpa [Tree.insertRange.go] using e1), fun hh => (by cases hh), e2, e3⟩
    have goOn : ∀ (ft1 : FTree α) (p1 : Pos) (w1 : W), ft1.tree = (igStep lt cfg ft.tree pos prevKey x).1 →
        p1 = (igStep lt cfg ft.tree pos prevKey x).2 → ft1.WF cfg → Frame w ft w1 ft1 →
        insertRangeF.go S ic cfg lt xs ft1 p1 w1 = (t, ft', w') →
        RangeOut lt cfg (x :: xs) ft pos w t ft' w' := by
      intro ft1 p1 w1 e1 e2 e3 e4 hgo
      obtain ⟨j, j1, j2, j3, j4, j5⟩ := ih ft1 e3 (by rw [e1]; exact s2) p1 (by rw [e1, e2]; exact s3) w1 hgo
      refine ⟨j + 1, Nat.succ_le_succ j1, ?_, fun hh => (by simp [j3 hh]), j4, e4.trans j5⟩
      rw [List.take_succ_cons, insertRange_go_cons lt cfg ft.tree pos prevKey x _ hk1, j2, e1, e2]
    simp only [insertRangeF.go, hk1] at h
    by_cases hf1 : S.cmp w.cmpN = true
    · simp only [hf1, if_true, Prod.mk.injEq] at h
      obtain ⟨rfl, rfl, rfl⟩ := h
      exact stop ft w.tickCmp rfl hw (Frame.of_unchanged (tickCmp_led w) _)
    · simp only [hf1, Bool.false_eq_true, if_false] at h
      -- the branch that calls `InsertVar`
      have viaInsert : ∀ (w0 : W), w0.led = w.led →
          (lt x prevKey || !Tree.isGreater lt ft.tree (ft.tree.next pos) x) = true →
          (match insertF S ic cfg lt ft x (copyCreator S) () w0 with
            | (true, _, ft1, _, _, w1) => (true, ft1, w1)
            | (false, _, ft1, p, _, w1) => insertRangeF.go S ic cfg lt xs ft1 p w1) = (t, ft', w') →
          RangeOut lt cfg (x :: xs) ft pos w t ft' w' := by
        intro w0 hw0 hA h2
        cases hi : insertF S ic cfg lt ft x (copyCreator S) () w0 with
        | mk t1 rest =>
          obtain ⟨u, ft1, p1, ins1, w1⟩ := rest
          obtain ⟨a1, a2, a3, -⟩ := insertF_spec S ic cfg hmax lt ho ft hw hs x (copyCreator S) () (copyCreator_spec S) w0 hi
          have hfr := Frame.of_led_eq hw0 (insertF_frame S ic cfg hmax lt ho ft hw hs x w0 hi)
          rw [hi] at h2
          cases t1 with
          | true =>
            simp only [Prod.mk.injEq] at h2
            obtain ⟨rfl, rfl, rfl⟩ := h2
            exact stop ft1 w1 (a1 rfl).1 a3 hfr
          | false =>
            simp only at h2
            obtain ⟨b1, b2, _⟩ := a2 rfl
            exact goOn ft1 p1 w1 (by rw [b1]; simp [igStep, hA]) (by rw [b2]; simp [igStep, hA]) a3 hfr h2
      -- the branch that calls `pvAdd` right behind the previous element
      have viaAdd : ∀ (w0 : W), w0.led = w.led →
          (lt x prevKey || !Tree.isGreater lt ft.tree (ft.tree.next pos) x) = false →
          (cfg.multi || lt prevKey x) = true →
          (match addF S ic cfg ft (ft.tree.next pos) x (copyCreator S) () w0 with
            | (true, _, ft1, _, w1) => (true, ft1, w1)
            | (false, _, ft1, p, w1) => insertRangeF.go S ic cfg lt xs ft1 p w1) = (t, ft', w') →
          RangeOut lt cfg (x :: xs) ft pos w t ft' w' := by
        intro w0 hw0 hA hB h2
        cases hi : addF S ic cfg ft (ft.tree.next pos) x (copyCreator S) () w0 with
        | mk t1 rest =>
          obtain ⟨u, ft1, p1, w1⟩ := rest
          obtain ⟨a1, a2, a3, -⟩ := addF_spec S ic cfg hmax ft hw _ n2 x (copyCreator S) () (copyCreator_spec S) w0 hi
          have hfr := Frame.of_led_eq hw0 (addF_frame S ic cfg hmax ft hw _ n2 x w0 hi)
          rw [hi] at h2
          cases t1 with
          | true =>
            simp only [Prod.mk.injEq] at h2
            obtain ⟨rfl, rfl, rfl⟩ := h2
            exact stop ft1 w1 (a1 rfl).1 a3 hfr
          | false =>
            simp only at h2
            obtain ⟨b1, b2, _⟩ := a2 rfl
            exact goOn ft1 p1 w1 (by rw [b1]; simp [igStep, hA, hB]) (by rw [b2]; simp [igStep, hA, hB]) a3 hfr h2
      by_cases hlt1 : lt x prevKey = true
      · simp only [hlt1, if_true] at h
        exact viaInsert w.tickCmp rfl (by simp [hlt1]) h
      · simp only [hlt1, Bool.false_eq_true, if_false] at h
        have hlt1' : lt x prevKey = false := by simpa using hlt1
        obtain ⟨g1, g2, _⟩ := isGreaterF_spec S lt ft.tree (ft.tree.next pos) x w.tickCmp
        cases hig : isGreaterF S lt ft.tree (ft.tree.next pos) x w.tickCmp with
        | mk o w1 =>
          rw [hig] at h g1 g2
          simp only at g1 g2
          have hw1 : w1.led = w.led := by rw [g1]; rfl
          cases o with
          | none =>
            simp only [Prod.mk.injEq] at h
            obtain ⟨rfl, rfl, rfl⟩ := h
            exact stop ft w1 rfl hw (Frame.of_unchanged hw1 _)
          | some b =>
            have hb := g2 b rfl
            cases b with
            | false =>
              simp only at h
              exact viaInsert w1 hw1 (by simp [hlt1', ← hb]) h
            | true =>
              simp only at h
              have hA : (lt x prevKey || !Tree.isGreater lt ft.tree (ft.tree.next pos) x) = false := by
                simp [hlt1', ← hb]
              by_cases hm : cfg.multi = true
              · simp only [hm, if_true] at h
                exact viaAdd w1 hw1 hA (by simp [hm]) h
              · simp only [hm, Bool.false_eq_true, if_false] at h
                have hm' : cfg.multi = false := by simpa using hm
                by_cases hf2 : S.cmp w1.cmpN = true
                · simp only [hf2, if_true, Prod.mk.injEq] at h
                  obtain ⟨rfl, rfl, rfl⟩ := h
                  exact stop ft w1.tickCmp rfl hw (Frame.of_unchanged hw1 _)
                · simp only [hf2, Bool.false_eq_true, if_false] at h
                  by_cases hlt2 : lt prevKey x = true
                  · simp only [hlt2, if_true] at h
                    exact viaAdd w1.tickCmp (by rw [tickCmp_led, hw1]) hA (by simp [hlt2]) h
                  · simp only [hlt2, Bool.false_eq_true, if_false] at h
                    have hlt2' : lt prevKey x = false := by simpa using hlt2
                    exact goOn ft pos w1.tickCmp (by simp [igStep, hA, hm', hlt2']) (by simp [igStep, hA, hm', hlt2']) hw
                      (Frame.of_unchanged hw1 _) h

theorem insertRangeF_spec (S : Sched) (ic : ICfg α) (cfg : Cfg) (hmax : 0 < cfg.maxCap) (lt : α → α → Bool) (ho : Order lt) (ft : FTree α)
    (hw : ft.WF cfg) (hs : SortedBy lt cfg.multi ft.tree.toList) (xs : List α) (w : W) {t : Bool} {ft' : FTree α} {w' : W}
    (h : insertRangeF S ic cfg lt ft xs w = (t, ft', w')) :
    ∃ j, j ≤ xs.length ∧ ft'.tree = Tree.insertRange lt cfg ft.tree (xs.take j) ∧ (t = false → j = xs.length) ∧
      ft'.WF cfg ∧ Frame w ft w' ft' := by
  cases xs with
  | nil =>
    simp only [insertRangeF, Prod.mk.injEq] at h
    obtain ⟨rfl, rfl, rfl⟩ := h
    exact ⟨0, Nat.le_refl _, rfl, fun _ => rfl, hw, Frame.refl _ _⟩
  | cons x xs =>
    simp only [insertRangeF] at h
    cases hi : insertF S ic cfg lt ft x (copyCreator S) () w with
    | mk t1 rest =>
      obtain ⟨u, ft1, p1, ins1, w1⟩ := rest
      obtain ⟨a1, a2, a3, -⟩ := insertF_spec S ic cfg hmax lt ho ft hw hs x (copyCreator S) () (copyCreator_spec S) w hi
      have hfr := insertF_frame S ic cfg hmax lt ho ft hw hs x w hi
      rw [hi] at h
      cases t1 with
      | true =>
        simp only [Prod.mk.injEq] at h
        obtain ⟨rfl, rfl, rfl⟩ := h
        exact ⟨0, Nat.zero_le _, (by simpa [Tree.insertRange] using (a1 rfl).1), fun hh => (by cases hh), a3, hfr⟩
      | false =>
        simp only at h
        obtain ⟨b1, b2, _⟩ := a2 rfl
        obtain ⟨_, _, j3, j4, j5, _⟩ := tree_insert_insert1 lt ho cfg hmax ft.tree hw.tree hs x
        obtain ⟨j, k1, k2, k3, k4, k5⟩ := insertRangeF_go_spec S ic cfg hmax lt ho xs ft1 a3 (by rw [b1]; exact j4) p1
          (by rw [b1, b2]; exact j5) w1 h
        refine ⟨j + 1, Nat.succ_le_succ k1, ?_, fun hh => (by simp [k3 hh]), k4, hfr.trans k5⟩
        rw [List.take_succ_cons, k2, b1, b2]
        simp [Tree.insertRange]

/-! what a fold of `Spec.insert1` keeps and adds (for `C10_tree_insertRange_basic`) -/

end Momo.BTreeF
