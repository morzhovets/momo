import Momo.Proof.Obj
/-! `RelocateCreate` and `CopyExec`: the trace stays well-formed; a failure leaves the memory as it was, a success gives the
  memory stated (core Lean only). -/
namespace Momo.Obj

/-- what the callers of `RelocateCreate` guarantee -/
structure Pre (s : St) (src dst count newAddr : Nat) : Prop where
  srcLive : ∀ i, i < count → s.mem (src + i) ≠ .raw
  dstRaw : ∀ i, i < count → s.mem (dst + i) = .raw
  newRaw : s.mem newAddr = .raw
  disj : src + count ≤ dst ∨ dst + count ≤ src
  newSrc : newAddr < src ∨ src + count ≤ newAddr
  newDst : newAddr < dst ∨ dst + count ≤ newAddr

/-- the memory after a successful `RelocateCreate`: the `count` objects at `dst…`, `src…` raw, the new object at `newAddr` -/
def relocated (m : Mem) (src dst count newAddr v : Nat) : Mem := fun x =>
  if dst ≤ x ∧ x < dst + count then .live (valOf (m (src + (x - dst))))
  else if src ≤ x ∧ x < src + count then .raw
  else if x = newAddr then .live v else m x

theorem relocateCreate_spec {occ0 : Nat → Bool} (c : Cat) (s : St) (src dst count newAddr v : Nat)
    (ht : TraceOK occ0 s) (pre : Pre s src dst count newAddr) :
    TraceOK occ0 (relocateCreate c s src dst count newAddr v).1 ∧
    ((relocateCreate c s src dst count newAddr v).2 = .threw →
        ∀ x, (relocateCreate c s src dst count newAddr v).1.mem x = s.mem x) ∧
    ((relocateCreate c s src dst count newAddr v).2 = .ok →
        ∀ x, (relocateCreate c s src dst count newAddr v).1.mem x = relocated s.mem src dst count newAddr v x) := by
  have hnewSrc : ∀ i, i < count → src + i ≠ newAddr := fun i hi => by have := pre.newSrc; omega
  have hnewDst : ¬ (dst ≤ newAddr ∧ newAddr < dst + count) := by have := pre.newDst; omega
  -- the copies made so far are destroyed again: the memory is as it was
  have undo : ∀ (s1 : St) (k : Nat), k ≤ count → TraceOK occ0 s1 →
      s1.mem = fill s.mem dst k (fun i => .live (valOf (s.mem (src + i)))) →
      TraceOK occ0 (destroyRange s1 dst k) ∧ ∀ x, (destroyRange s1 dst k).mem x = s.mem x := by
    intro s1 k hk t1 m1
    obtain ⟨t2, m2⟩ := destroyRange_spec k s1 dst t1 (fun i hi => by rw [m1, fill_at hi]; exact Slot.noConfusion)
    refine ⟨t2, fun x => ?_⟩
    rw [m2, m1, fill_fill, fill_self (fun i hi => pre.dstRaw i (Nat.lt_of_lt_of_le hi hk))]
  unfold relocateCreate
  cases hc : c.nothrowReloc with
  | true =>
    rw [if_pos rfl]
    have he := execCreate_made v ht pre.newRaw
    generalize execCreate s newAddr v = r at he ⊢
    cases he with
    | threw s1 hm hev => exact ⟨ht.congr hm hev, fun _ x => by rw [hm], fun h => (nomatch h)⟩
    | ok s1 ht1 hm =>
      have hsrc : ∀ i, i < count → s1.mem (src + i) = s.mem (src + i) := fun i hi => by
        rw [hm, Mem.set_ne _ _ _ _ (hnewSrc i hi)]
      obtain ⟨t, m⟩ := relocateRange_spec c count s1 src dst ht1
        (fun i hi => by rw [hsrc i hi]; exact pre.srcLive i hi)
        (fun i hi => by rw [hm, Mem.set_ne _ _ _ _ (by have := pre.newDst; omega)]; exact pre.dstRaw i hi) pre.disj
      refine ⟨t, fun h => (nomatch h), fun _ x => ?_⟩
      rw [show (relocateRange c s1 src dst count, Res.ok).1.mem = _ from m, fill_congr (fun i hi => by rw [hsrc i hi]), hm]
      rfl
  | false =>
    -- copy everything, exec, destroy the sources; roll back on any failure
    rw [if_neg Bool.false_ne_true]
    obtain ⟨t1, k, hk, hdone, hok, m1⟩ := copyLoop_spec (occ0 := occ0) count s src dst 0 ht pre.srcLive pre.dstRaw pre.disj
    generalize copyLoop s src dst count 0 = r at t1 hdone hok m1 ⊢
    obtain ⟨s1, r1, done⟩ := r
    have hdone : k = done := by rw [← Nat.zero_add k]; exact hdone.symm
    subst hdone
    cases r1 with
    | threw => exact ⟨(undo s1 k hk t1 m1).1, fun _ => (undo s1 k hk t1 m1).2, fun h => (nomatch h)⟩
    | ok =>
      cases hok rfl
      simp only []
      have he := execCreate_made v t1 (by rw [m1, fill_out hnewDst]; exact pre.newRaw)
      generalize execCreate s1 newAddr v = r2 at he ⊢
      cases he with
      | threw s2 hm2 hev2 =>
        have := undo s2 count hk (t1.congr hm2 hev2) (hm2.trans m1)
        exact ⟨this.1, fun _ => this.2, fun h => by cases h⟩
      | ok s2 t2 hm2 =>
        obtain ⟨t3, m3⟩ := destroyRange_spec count s2 src t2 (fun i hi => by
          rw [hm2, Mem.set_ne _ _ _ _ (hnewSrc i hi), m1, fill_out (by have := pre.disj; omega)]
          exact pre.srcLive i hi)
        refine ⟨t3, (fun h => by cases h), fun _ x => ?_⟩
        rw [show (destroyRange s2 src count, Res.ok).1.mem = _ from m3, hm2, m1, ← fill_set hnewDst, fill_comm pre.disj.symm]
        rfl

theorem copyExec_spec {occ0 : Nat → Bool} (s : St) (src dst newAddr v : Nat) (ht : TraceOK occ0 s)
    (hs : s.mem src ≠ .raw) (hd : s.mem dst = .raw) (hn : s.mem newAddr = .raw) (hne : newAddr ≠ dst) :
    TraceOK occ0 (copyExec s src dst newAddr v).1 ∧
    ((copyExec s src dst newAddr v).2 = .threw → ∀ x, (copyExec s src dst newAddr v).1.mem x = s.mem x) ∧
    ((copyExec s src dst newAddr v).2 = .ok → (copyExec s src dst newAddr v).1.mem =
        (s.mem.set dst (.live (valOf (s.mem src)))).set newAddr (.live v)) := by
  unfold copyExec
  have hc := copy_made ht hs hd
  generalize copy s src dst = r at hc ⊢
  cases hc with
  | threw s1 hm hev => exact ⟨ht.congr hm hev, fun _ x => by rw [hm], fun h => nomatch h⟩
  | ok s1 t1 hm1 =>
    simp only
    have he := execCreate_made v t1 (by rw [hm1, Mem.set_ne _ _ _ _ hne]; exact hn)
    generalize execCreate s1 newAddr v = r2 at he ⊢
    cases he with
    | threw s2 hm2 hev2 =>
      have hocc : s2.mem dst ≠ .raw := by rw [hm2, hm1]; simp
      refine ⟨destroy_ok (t1.congr hm2 hev2) hocc, fun _ x => ?_, fun h => by simp at h⟩
      simp only [destroy]
      by_cases hx : x = dst
      · subst hx; simp [hd]
      · rw [Mem.set_ne _ _ _ _ hx, hm2, hm1, Mem.set_ne _ _ _ _ hx]
    | ok s2 t2 hm2 => exact ⟨t2, fun h => by simp at h, fun _ => by simp only; rw [hm2, hm1]⟩

end Momo.Obj
