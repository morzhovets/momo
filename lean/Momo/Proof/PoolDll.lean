import Momo.Model.Pool
/-!
  Pointer level of `MemPool` (C09): the `prev`/`next` surgery of `pvDeleteBuffer`, `pvMoveBufferToHead`,
  `pvNewBlock` and `MergeFrom` implements the list operations of the state machine. Also the list lemmas about
  `headOr` / `lastOr` and `succIn` that the traversals (PoolDllWalk) and `DeallocateIf` (PoolIf) use.

  Suffixes here and in PoolDllWalk: `_split` - one surgery step seen on the list split at the buffer concerned (`IsDll` of the new list,
  and what is not written); `_eq` - a model function in another form; `_refines` - a whole pointer-level function computes what the
  list-level one does; `_spec` - a loop from any point on (the inductive core of a `_refines`); `_visits` - which buffers a traversal visits.
  Arguments come in one order: the heap, the lists in list order, the head(s), the fuel, then the hypotheses.
-/
namespace Momo.Pool

/-- what the `next` field of the buffer before `l` holds (`n` if `l` is empty) -/
def headOr (l : List Int) (n : Option Int) : Option Int :=
  match l with | [] => n | b :: _ => some b
/-- what the `prev` field of the buffer after `l` holds (`p` if `l` is empty) -/
def lastOr : List Int → Option Int → Option Int
  | [], p => p
  | a :: t, _ => lastOr t (some a)

/-- the buffers of `l` form a doubly linked segment in heap `h`, entered from `p` and left to `n` -/
def Seg (h : Heap) : Option Int → List Int → Option Int → Prop
  | _, [], _ => True
  | p, a :: t, n => (h a).prev = p ∧ (h a).next = headOr t n ∧ Seg h (some a) t n

/-- heap `h` holds `l` as a complete doubly linked list. The state machine (`Pool`) carries no heap and no relation between a `Pool`
    and a `Heap` is defined: the pointer theorems speak of a heap `h` and a bare list `l` with `IsDll h l`, and the list
    meant for a pool `p` is `p.order = p.pre.reverse ++ p.post`, whence the shape `pre.reverse ++ head :: rest`. -/
def IsDll (h : Heap) (l : List Int) : Prop := l.Nodup ∧ Seg h none l none

@[simp] theorem headOr_nil (n) : headOr [] n = n := rfl
@[simp] theorem headOr_cons (a t n) : headOr (a :: t) n = some a := rfl
@[simp] theorem lastOr_nil (p) : lastOr [] p = p := rfl
@[simp] theorem lastOr_cons (a t p) : lastOr (a :: t) p = lastOr t (some a) := rfl

theorem headOr_append (l1 l2 : List Int) (n) : headOr (l1 ++ l2) n = headOr l1 (headOr l2 n) := by
  cases l1 <;> simp

theorem lastOr_append (l1 l2 : List Int) (p) : lastOr (l1 ++ l2) p = lastOr l2 (lastOr l1 p) := by
  induction l1 generalizing p with
  | nil => simp
  | cons a t ih => simp [ih]

theorem lastOr_snoc (l : List Int) (x : Int) (p) : lastOr (l ++ [x]) p = some x := by
  rw [lastOr_append]; simp

theorem snoc_cases (l : List Int) : l = [] ∨ ∃ l' x, l = l' ++ [x] := by
  simpa only [List.concat_eq_append] using List.eq_nil_or_concat l

theorem lastOr_of_ne_nil (l : List Int) (p : Option Int) (hl : l ≠ []) : ∃ x ∈ l, lastOr l p = some x := by
  rcases snoc_cases l with rfl | ⟨l', y, rfl⟩
  · exact absurd rfl hl
  · exact ⟨y, by simp, lastOr_snoc l' y p⟩

theorem lastOr_none_mem (l : List Int) (x : Int) (h : lastOr l none = some x) : x ∈ l := by
  rcases snoc_cases l with rfl | ⟨l', y, rfl⟩
  · simp at h
  · rw [lastOr_snoc] at h; cases h; simp

theorem headOr_none_mem (l : List Int) (x : Int) (h : headOr l none = some x) : x ∈ l := by
  cases l with
  | nil => simp at h
  | cons a t => simp at h; simp [h]

theorem headOr_none_eq (l : List Int) : headOr l none = l.head? := by cases l <;> rfl

theorem lastOr_none_eq (l : List Int) : lastOr l none = l.reverse.head? := by
  rcases snoc_cases l with rfl | ⟨l', x, rfl⟩
  · rfl
  · rw [lastOr_snoc]; simp

/-- `Pool.nextOf` / `Pool.prevOf` read off a splitting of `Pool.order` -/
theorem succIn_split (A T : List Int) (x : Int) (hx : x ∉ A) : succIn (A ++ x :: T) x = T.head? := by
  induction A with
  | nil =>
    cases T with
    | nil => simp [succIn]
    | cons t T' => simp [succIn]
  | cons a A' ih =>
    have ha : a ≠ x := fun e => hx (by simp [e])
    have hx' : x ∉ A' := fun hm => hx (by simp [hm])
    cases hA : A' ++ x :: T with
    | nil => simp at hA
    | cons c C =>
      simp only [List.cons_append, hA, succIn, ha, if_false]
      rw [← hA]; exact ih hx'

theorem succIn_mid {A T : List Int} {x : Int} (hnd : (A ++ x :: T).Nodup) : succIn (A ++ x :: T) x = T.head? :=
  succIn_split A T x fun hm => (List.nodup_append.mp hnd).2.2 x hm x List.mem_cons_self rfl

theorem not_mem_of_nodup_middle {l1 l2 : List Int} {b : Int} (h : (l1 ++ b :: l2).Nodup) : b ∉ l1 ++ l2 :=
  (List.nodup_cons.mp (List.perm_middle.nodup_iff.mp h)).1

theorem Seg_append (h : Heap) (l1 l2 : List Int) (p n : Option Int) :
    Seg h p (l1 ++ l2) n ↔ Seg h p l1 (headOr l2 n) ∧ Seg h (lastOr l1 p) l2 n := by
  induction l1 generalizing p with
  | nil => simp [Seg]
  | cons a t ih =>
    simp only [List.cons_append, Seg, ih, lastOr_cons, headOr_append, and_assoc]

theorem Seg_middle {h : Heap} {p n : Option Int} {A T : List Int} {b : Int} (hs : Seg h p (A ++ b :: T) n) :
    (h b).prev = lastOr A p ∧ (h b).next = headOr T n :=
  have ⟨_, hp, hn, _⟩ := (Seg_append h A (b :: T) p n).mp hs
  ⟨hp, hn⟩

@[simp] theorem setPrev_same (h : Heap) (b v) : (setPrev h b v b) = ⟨v, (h b).next⟩ := by simp [setPrev]
@[simp] theorem setNext_same (h : Heap) (b v) : (setNext h b v b) = ⟨(h b).prev, v⟩ := by simp [setNext]
theorem setPrev_other (h : Heap) (b v x) (hx : x ≠ b) : setPrev h b v x = h x := by simp [setPrev, hx]
theorem setNext_other (h : Heap) (b v x) (hx : x ≠ b) : setNext h b v x = h x := by simp [setNext, hx]

theorem setNext_setPrev_comm (h : Heap) (a c : Int) (v w) :
    setNext (setPrev h a v) c w = setPrev (setNext h c w) a v := by
  funext x
  simp only [setNext, setPrev]
  split <;> split <;> simp_all

@[simp] theorem setNextOpt_some (h : Heap) (b : Int) (v) : setNextOpt h (some b) v = setNext h b v := rfl

theorem setNextOpt_other (h : Heap) (o : Option Int) (v) (x : Int) (hx : o ≠ some x) :
    setNextOpt h o v x = h x := by
  cases o with
  | none => rfl
  | some b => exact setNext_other h b v x (fun e => hx (e ▸ rfl))

theorem setPrevOpt_other (h : Heap) (o : Option Int) (v) (x : Int) (hx : o ≠ some x) :
    setPrevOpt h o v x = h x := by
  cases o with
  | none => rfl
  | some b => exact setPrev_other h b v x (fun e => hx (e ▸ rfl))

theorem setNextOpt_prev (h : Heap) (o : Option Int) (v) (x : Int) : (setNextOpt h o v x).prev = (h x).prev := by
  cases o with
  | none => rfl
  | some b => show (setNext h b v x).prev = _; unfold setNext; split <;> rfl

theorem setNextOpt_setPrev_comm (h : Heap) (o : Option Int) (a : Int) (v w) :
    setNextOpt (setPrev h a v) o w = setPrev (setNextOpt h o w) a v := by
  cases o with
  | none => rfl
  | some c => exact setNext_setPrev_comm h a c v w

theorem Seg_congr {h h' : Heap} {l : List Int} (hl : ∀ x ∈ l, h' x = h x) (p n) :
    Seg h p l n → Seg h' p l n := by
  induction l generalizing p with
  | nil => simp [Seg]
  | cons a t ih =>
    simp only [Seg, hl a List.mem_cons_self]
    exact fun ⟨h1, h2, h3⟩ => ⟨h1, h2, ih (fun x hx => hl x (List.mem_cons_of_mem _ hx)) _ h3⟩

theorem Seg_setPrev_notin {h : Heap} {l : List Int} {p n} (b : Int) (v) (hb : b ∉ l) :
    Seg h p l n → Seg (setPrev h b v) p l n :=
  Seg_congr (fun x hx => setPrev_other h b v x (fun e => hb (e ▸ hx))) p n

theorem Seg_setNext_notin {h : Heap} {l : List Int} {p n} (b : Int) (v) (hb : b ∉ l) :
    Seg h p l n → Seg (setNext h b v) p l n :=
  Seg_congr (fun x hx => setNext_other h b v x (fun e => hb (e ▸ hx))) p n

theorem Seg_setNextOpt_notin {h : Heap} {l : List Int} {p n} (o : Option Int) (v)
    (hb : ∀ b, o = some b → b ∉ l) : Seg h p l n → Seg (setNextOpt h o v) p l n :=
  Seg_congr (fun x hx => setNextOpt_other h o v x (fun e => hb x e hx)) p n

theorem Seg_setPrevOpt_notin {h : Heap} {l : List Int} {p n} (o : Option Int) (v)
    (hb : ∀ b, o = some b → b ∉ l) : Seg h p l n → Seg (setPrevOpt h o v) p l n :=
  Seg_congr (fun x hx => setPrevOpt_other h o v x (fun e => hb x e hx)) p n

theorem Seg_setPrev_head (h : Heap) (x : Int) (t : List Int) (p n v) (hx : x ∉ t) :
    Seg h p (x :: t) n → Seg (setPrev h x v) v (x :: t) n := by
  intro ⟨_, h2, h3⟩
  exact ⟨by simp, by simpa using h2, Seg_setPrev_notin x v hx h3⟩

theorem Seg_setNext_last (h : Heap) (l : List Int) (x : Int) (p n v) (hx : x ∉ l) :
    Seg h p (l ++ [x]) n → Seg (setNext h x v) p (l ++ [x]) v := by
  rw [Seg_append, Seg_append]
  intro ⟨h1, h2, _, _⟩
  exact ⟨Seg_setNext_notin x v hx h1, by simpa using h2, by simp, trivial⟩

theorem Seg_setNextOpt_last (h : Heap) (l : List Int) (p n v) (hnd : l.Nodup) :
    Seg h p l n → Seg (setNextOpt h (lastOr l none) v) p l v := by
  rcases snoc_cases l with rfl | ⟨l', x, rfl⟩
  · intro _; trivial
  · rw [lastOr_snoc]
    exact Seg_setNext_last h l' x p n v (fun m => not_mem_of_nodup_middle hnd (List.mem_append_left _ m))

theorem Seg_setPrevOpt_head (h : Heap) (l : List Int) (p n v) (hnd : l.Nodup) :
    Seg h p l n → Seg (setPrevOpt h (headOr l none) v) v l n := by
  cases l with
  | nil => intro _; trivial
  | cons x t => exact Seg_setPrev_head h x t p n v (List.nodup_cons.mp hnd).1

/-- the last step of `MergeFrom` and the linking of a new buffer in `pvNewBlock` -/
theorem Seg_link (h : Heap) (L R : List Int) (a c : Int) (p q n m)
    (hnd : ((L ++ [a]) ++ c :: R).Nodup) (hs1 : Seg h p (L ++ [a]) m) (hs2 : Seg h q (c :: R) n) :
    Seg (setPrev (setNext h a (some c)) c (some a)) p ((L ++ [a]) ++ c :: R) n := by
  have hc : c ∉ (L ++ [a]) ++ R := not_mem_of_nodup_middle hnd
  have ha : a ∉ L ++ c :: R :=
    not_mem_of_nodup_middle (l1 := L) (l2 := c :: R) (by simpa using hnd)
  rw [Seg_append, lastOr_snoc]
  exact ⟨Seg_setPrev_notin c _ (fun m => hc (List.mem_append_left _ m))
      (Seg_setNext_last h L a p m _ (fun m => ha (List.mem_append_left _ m)) hs1),
    Seg_setPrev_head _ c R q n _ (fun m => hc (List.mem_append_right _ m))
      (Seg_setNext_notin a _ (fun m => ha (List.mem_append_right _ m)) hs2)⟩

/-- `pvDeleteBuffer` (643-648) -/
theorem ptrUnlink_split (h : Heap) (l1 l2 : List Int) (b : Int) (hd : IsDll h (l1 ++ b :: l2)) :
    IsDll (ptrUnlink h b) (l1 ++ l2) ∧ ∀ x, x ∉ l1 ++ b :: l2 → ptrUnlink h b x = h x := by
  obtain ⟨hnd, hs⟩ := hd
  obtain ⟨hs1, hbp, hbn, hs2⟩ := (Seg_append h l1 (b :: l2) none none).mp hs
  obtain ⟨hnd1, hnd2, hdisj⟩ := List.nodup_append.mp hnd
  have hdisj' : ∀ x ∈ l1, ∀ y ∈ l2, x ≠ y := fun x hx y hy => hdisj x hx y (List.mem_cons_of_mem _ hy)
  have hnd2' := (List.nodup_cons.mp hnd2).2
  -- the code reads the last of `l1` and the head of `l2` from `b`
  unfold ptrUnlink
  rw [hbp, hbn]
  refine ⟨⟨List.nodup_append.mpr ⟨hnd1, hnd2', hdisj'⟩, (Seg_append _ l1 l2 none none).mpr ⟨?_, ?_⟩⟩, ?_⟩
  · exact Seg_setPrevOpt_notin _ _ (fun y hy m => hdisj' y m y (headOr_none_mem _ _ hy) rfl)
      (Seg_setNextOpt_last h l1 none (some b) _ hnd1 hs1)
  · exact Seg_setPrevOpt_head _ l2 (some b) none _ hnd2'
      (Seg_setNextOpt_notin _ _ (fun y hy m => hdisj' y (lastOr_none_mem _ _ hy) y m rfl) hs2)
  · intro x hx
    rw [setPrevOpt_other, setNextOpt_other]
    · exact mt (lastOr_none_mem l1 x) (fun m => hx (List.mem_append_left _ m))
    · exact mt (headOr_none_mem l2 x) (fun m => hx (List.mem_append_right _ (List.mem_cons_of_mem _ m)))

/-- link `b` in before `t`: the second half of `pvMoveBufferToHead` and of a round of `MergeFrom` -/
def ptrInsertBefore (h : Heap) (t b : Int) : Heap :=
  setPrev (setNextOpt (setNext (setPrev h b (h t).prev) b (some t)) (h t).prev (some b)) t (some b)

theorem ptrInsertBefore_other (h : Heap) (t b x : Int) (h1 : x ≠ t) (h2 : x ≠ b) (h3 : (h t).prev ≠ some x) :
    ptrInsertBefore h t b x = h x := by
  unfold ptrInsertBefore
  rw [setPrev_other _ _ _ _ h1, setNextOpt_other _ _ _ _ h3, setNext_other _ _ _ _ h2, setPrev_other _ _ _ _ h2]

theorem ptrInsertBefore_inserted (h : Heap) (t b : Int) (h1 : b ≠ t) (h3 : (h t).prev ≠ some b) :
    ptrInsertBefore h t b b = ⟨(h t).prev, some t⟩ := by
  unfold ptrInsertBefore
  rw [setPrev_other _ _ _ _ h1, setNextOpt_other _ _ _ _ h3, setNext_same, setPrev_same]

theorem ptrInsertBefore_target (h : Heap) (t b : Int) (h1 : t ≠ b) (h3 : (h t).prev ≠ some t) :
    ptrInsertBefore h t b t = ⟨some b, (h t).next⟩ := by
  unfold ptrInsertBefore
  rw [setPrev_same, setNextOpt_other _ _ _ _ h3, setNext_other _ _ _ _ h1, setPrev_other _ _ _ _ h1]

theorem ptrInsertBefore_split (h : Heap) (A Z : List Int) (t b : Int) (hd : IsDll h (A ++ t :: Z))
    (hb : b ∉ A ++ t :: Z) :
    IsDll (ptrInsertBefore h t b) (A ++ b :: t :: Z) ∧
    ∀ x, x ∉ A ++ t :: Z → x ≠ b → ptrInsertBefore h t b x = h x := by
  obtain ⟨hnd, hs⟩ := hd
  obtain ⟨hsA, htp, htn, hsZ⟩ := (Seg_append h A (t :: Z) none none).mp hs
  have ht := not_mem_of_nodup_middle hnd
  obtain ⟨hA, -, hAZ⟩ := List.nodup_append.mp hnd
  -- the only buffer of `A` that is written is its last one
  have hL : ∀ x, x ∉ A → (h t).prev ≠ some x := fun x hx => by
    rw [htp]; exact mt (lastOr_none_mem A x) hx
  have hbA : b ∉ A := fun m => hb (List.mem_append_left _ m)
  have hbt : b ≠ t := fun e => hb (e ▸ List.mem_append_right _ List.mem_cons_self)
  have htA : t ∉ A := fun m => ht (List.mem_append_left _ m)
  have eb := ptrInsertBefore_inserted h t b hbt (hL b hbA)
  have et := ptrInsertBefore_target h t b hbt.symm (hL t htA)
  refine ⟨⟨List.perm_middle.nodup_iff.mpr (List.nodup_cons.mpr ⟨hb, hnd⟩),
    (Seg_append _ A (b :: t :: Z) none none).mpr ⟨?_, by rw [eb]; exact htp, by rw [eb]; rfl, by rw [et],
      by rw [et]; exact htn, ?_⟩⟩, fun x hx hxb => ?_⟩
  · unfold ptrInsertBefore
    rw [htp]
    exact Seg_setPrev_notin t _ htA (Seg_setNextOpt_last _ A none (some t) (some b) hA
      (Seg_setNext_notin b _ hbA (Seg_setPrev_notin b _ hbA hsA)))
  · refine Seg_congr (fun x hx => ?_) _ _ hsZ
    have hxl : x ∈ t :: Z := List.mem_cons_of_mem _ hx
    exact ptrInsertBefore_other h t b x (fun e => ht (e ▸ List.mem_append_right _ hx))
      (fun e => hb (e ▸ List.mem_append_right _ hxl)) (hL x (fun m => hAZ x m x hxl rfl))
  · exact ptrInsertBefore_other h t b x (fun e => hx (e ▸ List.mem_append_right _ List.mem_cons_self)) hxb
      (hL x (fun m => hx (List.mem_append_left _ m)))

theorem ptrMergeStep_eq (h : Heap) (th oh bf : Int) (hn : (h bf).next = some oh) :
    ptrMergeStep h th oh bf = ptrInsertBefore (ptrUnlink h bf) th bf := by
  unfold ptrMergeStep ptrInsertBefore ptrUnlink
  rw [hn]
  rfl

theorem ptrMoveToHead_eq (h : Heap) (hd b hp nb : Int) (h1 : (h hd).prev = some hp) (h2 : b ≠ hp)
    (h3 : (h b).next = some nb) (h4 : hd ≠ nb) :
    ptrMoveToHead h hd b = some (ptrInsertBefore (ptrUnlink h b) hd b) := by
  have e : ptrUnlink h b = setPrev (setNextOpt h (h b).prev (some nb)) nb (h b).prev := by
    unfold ptrUnlink; rw [h3]; rfl
  have hp' : (ptrUnlink h b hd).prev = some hp := by
    rw [e, setPrev_other _ _ _ _ h4, setNextOpt_prev, h1]
  unfold ptrMoveToHead ptrInsertBefore
  rw [hp', e, h1, h3]
  simp only [if_neg h2, setNextOpt_some]
  rw [setNext_setPrev_comm, setNextOpt_setPrev_comm]

/-- `pvMoveBufferToHead` (654-672); `b` becomes the head -/
theorem ptrMoveToHead_split (h : Heap) (X Y Z : List Int) (b hd : Int)
    (hdll : IsDll h (X ++ b :: (Y ++ hd :: Z))) :
    ∃ h', ptrMoveToHead h hd b = some h' ∧ IsDll h' (X ++ (Y ++ b :: hd :: Z)) ∧
      ∀ x, x ∉ X ++ b :: (Y ++ hd :: Z) → h' x = h x := by
  obtain ⟨-, -, hbn, hrest⟩ := (Seg_append h X _ none none).mp hdll.2
  obtain ⟨-, hhdp, -⟩ := (Seg_append h Y _ _ none).mp hrest
  cases Y with
  | nil =>
    -- `b` is the buffer before the head: nothing to do
    refine ⟨h, ?_, hdll, fun _ _ => rfl⟩
    unfold ptrMoveToHead
    rw [hhdp]
    simp
  | cons y0 Yt =>
    obtain ⟨yl, hyl, hlast⟩ := lastOr_of_ne_nil (y0 :: Yt) (some b) (List.cons_ne_nil _ _)
    have hb := not_mem_of_nodup_middle hdll.1
    have hhd : hd ∉ (y0 :: Yt) ++ Z := not_mem_of_nodup_middle (List.nodup_cons.mp (List.nodup_append.mp hdll.1).2.1).2
    obtain ⟨hU, hfU⟩ := ptrUnlink_split h X _ b hdll
    rw [← List.append_assoc] at hU
    obtain ⟨hI, hfI⟩ := ptrInsertBefore_split _ (X ++ (y0 :: Yt)) Z hd b hU (by rw [List.append_assoc]; exact hb)
    rw [List.append_assoc] at hI
    refine ⟨_, ptrMoveToHead_eq h hd b yl y0 (hhdp.trans hlast) (fun e => hb (e ▸ List.mem_append_right _ (List.mem_append_left _ hyl))) hbn
      (fun e => hhd (e ▸ List.mem_append_left _ List.mem_cons_self)), hI, fun x hx => ?_⟩
    rw [hfI x (fun m => hx ?_) (fun e => hx (e ▸ List.mem_append_right _ List.mem_cons_self)), hfU x hx]
    rw [List.append_assoc] at m
    exact List.perm_middle.mem_iff.mpr (List.mem_cons_of_mem _ m)

/-- `pvNewBuffer` 627-628 + `pvNewBlock` 528-529 -/
theorem ptrAppend_split (h : Heap) (L : List Int) (hd nb : Int) (hdll : IsDll h (L ++ [hd]))
    (hnb : nb ∉ L ++ [hd]) :
    IsDll (ptrAppend (ptrInit h nb) hd nb) (L ++ [hd] ++ [nb]) ∧
    ∀ x, x ∉ L ++ [hd] ++ [nb] → ptrAppend (ptrInit h nb) hd nb x = h x := by
  obtain ⟨hnd, hs⟩ := hdll
  have hnd' : (L ++ [hd] ++ [nb]).Nodup :=
    (List.perm_append_singleton nb _).nodup_iff.mpr (List.nodup_cons.mpr ⟨hnb, hnd⟩)
  have h0 : Seg (ptrInit h nb) none (L ++ [hd]) none :=
    Seg_setNext_notin nb _ hnb (Seg_setPrev_notin nb _ hnb hs)
  refine ⟨⟨hnd', Seg_link (ptrInit h nb) L [] hd nb none none none none hnd' h0
    ⟨by simp [ptrInit], by simp [ptrInit], trivial⟩⟩, fun x hx => ?_⟩
  have e2 : x ≠ nb := fun e => hx (e ▸ List.mem_append_right _ List.mem_cons_self)
  have e3 : x ≠ hd := fun e => hx (e ▸ List.mem_append_left _ (List.mem_append_right _ List.mem_cons_self))
  unfold ptrAppend ptrInit
  rw [setPrev_other _ _ _ _ e2, setNext_other _ _ _ _ e3, setNext_other _ _ _ _ e2, setPrev_other _ _ _ _ e2]

/-- two complete lists in one heap without a common buffer: the lists of `this` and of the other pool while `MergeFrom` runs -/
def TwoLists (h : Heap) (l1 l2 : List Int) : Prop :=
  (l1 ++ l2).Nodup ∧ Seg h none l1 none ∧ Seg h none l2 none

theorem mergeStep_perm (X Z U W : List Int) (th oh bf : Int) :
    ((X ++ bf :: th :: Z) ++ (U ++ oh :: W)).Perm ((X ++ th :: Z) ++ (U ++ bf :: oh :: W)) :=
  (List.perm_middle.append_right _).trans ((List.perm_middle.append_left _).trans List.perm_middle).symm

/-- one round of the first loop of `MergeFrom` (408-422) -/
theorem ptrMergeStep_split (h : Heap) (X Z U W : List Int) (th oh bf : Int)
    (hl : TwoLists h (X ++ th :: Z) (U ++ bf :: oh :: W)) :
    TwoLists (ptrMergeStep h th oh bf) (X ++ bf :: th :: Z) (U ++ oh :: W) ∧
    ∀ x, x ∉ (X ++ th :: Z) ++ (U ++ bf :: oh :: W) → ptrMergeStep h th oh bf x = h x := by
  obtain ⟨hnd, hs1, hs2⟩ := hl
  obtain ⟨hnd1, hnd2, hdisj⟩ := List.nodup_append.mp hnd
  have hbf : bf ∈ U ++ bf :: oh :: W := List.mem_append_right _ List.mem_cons_self
  have hsub : ∀ x ∈ U ++ oh :: W, x ∈ U ++ bf :: oh :: W := fun x hx =>
    List.perm_middle.mem_iff.mpr (List.mem_cons_of_mem _ hx)
  rw [ptrMergeStep_eq h th oh bf (Seg_middle hs2).2]
  -- `bf` leaves the other list and is linked in before `th`; each time the list not operated on is not written
  obtain ⟨hU, hfU⟩ := ptrUnlink_split h U (oh :: W) bf ⟨hnd2, hs2⟩
  have hs1' : IsDll (ptrUnlink h bf) (X ++ th :: Z) :=
    ⟨hnd1, Seg_congr (fun x hx => hfU x (fun m => hdisj x hx x m rfl)) _ _ hs1⟩
  obtain ⟨hI, hfI⟩ := ptrInsertBefore_split _ X Z th bf hs1' (fun m => hdisj bf m bf hbf rfl)
  refine ⟨⟨(mergeStep_perm X Z U W th oh bf).nodup_iff.mpr hnd, hI.2, ?_⟩, fun x hx => ?_⟩
  · refine Seg_congr (fun x hx => ?_) _ _ hU.2
    exact hfI x (fun m => hdisj x m x (hsub x hx) rfl) (fun e => not_mem_of_nodup_middle hnd2 (e ▸ hx))
  · rw [hfI x (fun m => hx (List.mem_append_left _ m)) (fun e => hx (by rw [e]; exact List.mem_append_right _ hbf)),
      hfU x (fun m => hx (List.mem_append_right _ m))]

/-- the first loop of `MergeFrom` (406-423) -/
theorem ptrMergeLoop_spec (h : Heap) (pre1 post1 pre2 post2 : List Int) (th oh : Int) (fuel : Nat)
    (hf : pre2.length ≤ fuel) (hl : TwoLists h (pre1.reverse ++ th :: post1) (pre2.reverse ++ oh :: post2)) :
    TwoLists (ptrMergeLoop th oh fuel h) ((mergeMoveFull pre2 pre1).reverse ++ th :: post1) (oh :: post2) ∧
    ∀ x, x ∉ (pre1.reverse ++ th :: post1) ++ (pre2.reverse ++ oh :: post2) → ptrMergeLoop th oh fuel h x = h x := by
  induction pre2 generalizing pre1 h fuel with
  | nil =>
    have hp : (h oh).prev = none := hl.2.2.1
    have : ptrMergeLoop th oh fuel h = h := by cases fuel <;> simp [ptrMergeLoop, hp]
    rw [this]
    exact ⟨hl, fun _ _ => rfl⟩
  | cons bf rest ih =>
    cases fuel with
    | zero => exact absurd hf (Nat.not_succ_le_zero _)
    | succ f =>
      have e1 : (bf :: pre1).reverse ++ th :: post1 = pre1.reverse ++ bf :: th :: post1 := by simp
      have e2 : (bf :: rest).reverse ++ oh :: post2 = rest.reverse ++ bf :: oh :: post2 := by simp
      rw [e2] at hl ⊢
      have hp : (h oh).prev = some bf := ((Seg_append h _ _ none none).mp hl.2.2).2.2.2.1
      obtain ⟨hstep, hframe⟩ := ptrMergeStep_split h pre1.reverse post1 rest.reverse post2 th oh bf hl
      rw [← e1] at hstep
      obtain ⟨h1, h2⟩ := ih (ptrMergeStep h th oh bf) (bf :: pre1) f (Nat.le_of_succ_le_succ hf) hstep
      simp only [ptrMergeLoop, hp]
      refine ⟨h1, fun x hx => ?_⟩
      rw [h2 x (fun m => hx ?_), hframe x hx]
      rw [e1] at m
      exact (mergeStep_perm _ post1 _ post2 th oh bf).mem_iff.mp m

theorem ptrLast_spec (h : Heap) : ∀ (t : List Int) (a : Int) (p : Option Int) (fuel : Nat), t.length ≤ fuel →
    Seg h p (a :: t) none → some (ptrLast fuel h a) = lastOr (a :: t) p := by
  intro t
  induction t with
  | nil =>
    intro a p fuel _ hs
    have hn : (h a).next = none := hs.2.1
    cases fuel <;> simp [ptrLast, hn]
  | cons b t ih =>
    intro a p fuel hf hs
    cases fuel with
    | zero => exact absurd hf (Nat.not_succ_le_zero _)
    | succ f =>
      have hn : (h a).next = some b := hs.2.1
      simp only [ptrLast, hn, lastOr_cons]
      exact ih b (some a) f (Nat.le_of_succ_le_succ hf) hs.2.2

theorem mergeMoveFull_eq (a b : List Int) : mergeMoveFull a b = a.reverse ++ b := by
  induction a generalizing b with
  | nil => rfl
  | cons x xs ih => simp [mergeMoveFull, ih]

theorem mem_mergeMoveFull (x : Int) (a b : List Int) : x ∈ mergeMoveFull a b ↔ x ∈ a ∨ x ∈ b := by
  rw [mergeMoveFull_eq, List.mem_append, List.mem_reverse]

/-- `MergeFrom` (406-433) on two non-empty lists -/
theorem ptrMergeFrom_refines (h : Heap) (pre1 post1 pre2 post2 : List Int) (th oh : Int) (fuel : Nat)
    (hf1 : pre2.length ≤ fuel) (hf2 : post1.length ≤ fuel)
    (hl : TwoLists h (pre1.reverse ++ th :: post1) (pre2.reverse ++ oh :: post2)) :
    IsDll (ptrMergeFrom fuel h th oh)
      (((mergeMoveFull pre2 pre1).reverse ++ th :: post1) ++ oh :: post2) ∧
    ∀ x, x ∉ (pre1.reverse ++ th :: post1) ++ (pre2.reverse ++ oh :: post2) → ptrMergeFrom fuel h th oh x = h x := by
  obtain ⟨⟨hnd, hs1, hs2⟩, hframe⟩ := ptrMergeLoop_spec h pre1 post1 pre2 post2 th oh fuel hf1 hl
  have hsub : ∀ x, x ∈ (mergeMoveFull pre2 pre1).reverse ++ th :: post1 →
      x ∈ (pre1.reverse ++ th :: post1) ++ (pre2.reverse ++ oh :: post2) := by
    intro x
    simp only [List.mem_append, List.mem_reverse, List.mem_cons, mem_mergeMoveFull]
    rintro ((hx | hx) | hx | hx) <;> simp [hx]
  unfold ptrMergeFrom
  generalize ptrMergeLoop th oh fuel h = h1 at *
  generalize (mergeMoveFull pre2 pre1).reverse = X at *
  -- the last buffer of this list is where the second loop stops
  obtain ⟨L, lst, hL⟩ := (snoc_cases (X ++ th :: post1)).resolve_left (by simp)
  have hlst : ptrLast fuel h1 th = lst := by
    have hlast := ptrLast_spec h1 post1 th (lastOr X none) fuel hf2 ((Seg_append h1 X _ none none).mp hs1).2
    rw [← lastOr_append, hL, lastOr_snoc] at hlast
    exact Option.some.inj hlast
  rw [hlst]
  rw [hL] at hnd hs1 hsub ⊢
  refine ⟨⟨hnd, Seg_link h1 L post2 lst oh none none none none hnd hs1 hs2⟩, fun x hx => ?_⟩
  have e1 : x ≠ oh := fun e => hx (e ▸ List.mem_append_right _ (List.mem_append_right _ List.mem_cons_self))
  have e2 : x ≠ lst := fun e => hx (hsub x (e ▸ List.mem_append_right _ List.mem_cons_self))
  rw [setPrev_other _ _ _ _ e1, setNext_other _ _ _ _ e2]
  exact hframe x hx

end Momo.Pool
