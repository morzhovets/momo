import Momo.Translated
import Momo.Proof.Word64
import Momo.Proof.Probe
import Momo.Proof.ListFacts
/-!
  C13: the search-bound encoders of `BucketOpen2N2` and `BucketOpenN1`/`BucketOpen8` as translated from the headers
  (base table, lean/Momo/Translated.lean) compute the model functions `MP2.upd/dec`, `upd3/dec3/getMax3/enc3` the C13 theorems are about.
  `runOpen2N2` / `runOpenN1` run the translated updates over a history of probes;
  `Fit2` is the range of the two Open2N2 state bytes in which the decoded bound is a `size_t`, kept by every update.
-/
namespace Momo.TrEq
open Momo Momo.Seg Momo.Probe

theorem while_shrink (lim : Nat) : ∀ (fuel m e : Nat), e + fuel < 2 ^ 64 →
    Tr.whileN fuel (fun (x : Nat × Nat) => decide (x.1 ≥ lim)) (fun x => (x.1 >>> 1, add64 x.2 1)) (m, e)
      = shrinkLoop lim fuel m e
  | 0, m, e, _ => rfl
  | f+1, m, e, h => by
    rw [Tr.whileN_succ]
    simp only [shrinkLoop, ge_iff_le, decide_eq_true_eq]
    split
    · rw [add64_of_lt (by omega), Nat.shiftRight_eq_div_pow, Nat.pow_one]
      exact while_shrink lim f (m / 2) (e + 1) (by omega)
    · rfl

/-- `uint8_t(c) | uint8_t(e << k)` when nothing is cut off -/
theorem or_shl_byte {c e k : Nat} (hc : c < 256) (he : e * 2 ^ k < 256) :
    (c % 256 ||| shl64 e k % 256) % 256 = c ||| e <<< k := by
  have he' : e <<< k < 256 := by rwa [Nat.shiftLeft_eq]
  rw [shl64_of_lt (by omega), ← Nat.shiftLeft_eq, Nat.mod_eq_of_lt hc, Nat.mod_eq_of_lt he']
  exact Nat.mod_eq_of_lt (Nat.or_lt_two_pow (n := 8) hc he')

/-- `pvGetMaxProbe` on the two state bytes = `MP2.dec` on (mantissa, exponent), as long as the decoded
    value is a `size_t` (`Fit2` below: mantissa ≤ 255, exponent ≤ 56; `255 * 2^57` would not fit) -/
theorem tr_open2n2_pvGetMaxProbe (m s1 : Nat) (h : m * 2 ^ (s1 >>> 2) < 2 ^ 64) :
    Tr.open2n2_pvGetMaxProbe m s1 = (MP2.mk m (s1 >>> 2)).dec := by
  unfold Tr.open2n2_pvGetMaxProbe MP2.dec
  exact shl64_of_lt h

/-- count in the two low bits, exponent above them: the `|` of the state byte is a sum -/
theorem or_shift2 (a e : Nat) (ha : a < 4) : a ||| (e <<< 2) = a + 4 * e := by
  rw [Nat.or_comm, ← Nat.shiftLeft_add_eq_or_of_lt (by simpa using ha), Nat.shiftLeft_eq]
  omega

theorem mant_exp_lt {m e : Nat} (hm : m ≤ 255) (he : e ≤ 56) : m * 2 ^ e < 2 ^ 64 :=
  Nat.lt_of_le_of_lt (Nat.mul_le_mul hm (Nat.pow_le_pow_right (by decide) he)) (by decide)

/-- the halving loop of `pvUpdateMaxProbe` (limit 255) ends inside `Fit2`: exponent at most 56, mantissa + 1 a byte -/
theorem shrink_e56 (p : Nat) (hp : p ≤ 2 ^ 63) :
    (shrinkLoop 255 64 (p - 1) 0).2 ≤ 56 ∧ (shrinkLoop 255 64 (p - 1) 0).1 < 255 :=
  ⟨shrink_exp_le 255 64 (p - 1) 56 (by omega), (shrinkLoop_spec 255 64 (p - 1) 0 (by omega)).1⟩

theorem tr_open2n2_pvUpdate (m s1 p : Nat) (hp0 : 0 < p) (hp : p ≤ 2 ^ 63) :
    Tr.open2n2_pvUpdateMaxProbe m s1 p =
      ((shrinkLoop Extracted.open2n2MantLimit 64 (p - 1) 0).1 + 1,
       s1 % 4 + 4 * (shrinkLoop Extracted.open2n2MantLimit 64 (p - 1) 0).2) := by
  unfold Tr.open2n2_pvUpdateMaxProbe
  dsimp only
  rw [sub64_of_le hp0]
  -- the translator's pattern-matching lambdas are the projections of `while_shrink` up to eta
  generalize hW : Tr.whileN 64 _ _ _ = r
  obtain rfl : shrinkLoop 255 64 (p - 1) 0 = r := (while_shrink 255 64 (p - 1) 0 (by decide)).symm.trans hW
  obtain ⟨he, ha⟩ := shrink_e56 p hp
  generalize shrinkLoop 255 64 (p - 1) 0 = r at he ha ⊢
  have h3 : s1 &&& 3 = s1 % 4 := Nat.and_two_pow_sub_one_eq_mod s1 2
  show ((r.1 % 256 + 1) % 256, ((s1 &&& 3) % 256 ||| shl64 r.2 2 % 256) % 256) = _
  have h4 : s1 % 4 < 4 := Nat.mod_lt _ (by decide)
  rw [Nat.mod_eq_of_lt (Nat.lt_trans ha (by decide)), Nat.mod_eq_of_lt (Nat.lt_of_le_of_lt ha (by decide)), h3,
    or_shl_byte (Nat.lt_trans h4 (by decide)) (by omega), or_shift2 _ _ h4]

/-- reading the state byte `c + 4 * e` back: exponent `/ 4`, count `% 4` -/
theorem low2 {c e : Nat} (hc : c < 4) : (c + 4 * e) / 4 = e ∧ (c + 4 * e) % 4 = c :=
  ⟨by rw [Nat.add_mul_div_left _ _ (by decide), Nat.div_eq_of_lt hc, Nat.zero_add],
   by rw [Nat.add_mul_mod_self_left, Nat.mod_eq_of_lt hc]⟩

def Fit2 (m s1 : Nat) : Prop := m ≤ 255 ∧ s1 / 4 ≤ 56 ∧ s1 < 256

theorem Fit2.dec_lt {m s1 : Nat} (h : Fit2 m s1) : m * 2 ^ (s1 >>> 2) < 2 ^ 64 := by
  rw [Nat.shiftRight_eq_div_pow]; exact mant_exp_lt h.1 h.2.1

/-- **`BucketOpen2N2::UpdateMaxProbe` as written = the model `MP2.upd`** on the decoded fields
(mantissa = `mState[0]`, exponent = `mState[1] >> 2`); the two low bits of `mState[1]` (item count) are kept.
Probes are displacements in a table, hence ≤ 2^63; beyond 2^64 − 2^57 the real `pvGetMaxProbe` would wrap. -/
theorem tr_open2n2_update (m s1 p : Nat) (hf : Fit2 m s1) (hp : p ≤ 2 ^ 63) :
    (Tr.open2n2_UpdateMaxProbe m s1 p).1 = ((MP2.mk m (s1 / 4)).upd p).m ∧
    (Tr.open2n2_UpdateMaxProbe m s1 p).2 / 4 = ((MP2.mk m (s1 / 4)).upd p).e ∧
    (Tr.open2n2_UpdateMaxProbe m s1 p).2 % 4 = s1 % 4 ∧
    Fit2 (Tr.open2n2_UpdateMaxProbe m s1 p).1 (Tr.open2n2_UpdateMaxProbe m s1 p).2 := by
  have hsh : s1 >>> 2 = s1 / 4 := by rw [Nat.shiftRight_eq_div_pow]
  have hs := hf.2.2
  unfold Tr.open2n2_UpdateMaxProbe MP2.upd
  rw [tr_open2n2_pvGetMaxProbe m s1 hf.dec_lt, hsh]
  simp only [Extracted.open2n2FastLimit, Bool.or_eq_true, decide_eq_true_eq]
  split
  · exact ⟨rfl, rfl, rfl, hf⟩
  · split
    · rename_i h255
      have e : p % 256 = p := Nat.mod_eq_of_lt (Nat.lt_succ_of_le h255)
      refine ⟨e, rfl, rfl, ?_⟩
      show Fit2 (p % 256) s1
      rw [e]; exact ⟨h255, hf.2.1, hs⟩
    · rename_i h0 h255
      rw [tr_open2n2_pvUpdate m s1 p (Nat.pos_of_ne_zero fun h => h0 (Or.inl h)) hp]
      obtain ⟨he, ha⟩ := shrink_e56 p hp
      simp only [Extracted.open2n2MantLimit]
      generalize shrinkLoop 255 64 (p - 1) 0 = r at *
      obtain ⟨hd, hm⟩ := low2 (e := r.2) (Nat.mod_lt s1 (by decide : 0 < 4))
      exact ⟨trivial, hd, hm, ha, hd.symm ▸ he, by omega⟩

/-- the state reached by the *translated* `UpdateMaxProbe` from an empty bucket state `(0, c)`, `c < 4` -/
def runOpen2N2 (c : Nat) (ps : List Nat) : Nat × Nat :=
  ps.foldl (fun st p => Tr.open2n2_UpdateMaxProbe st.1 st.2 p) (0, c)

theorem runOpen2N2_rel (c : Nat) (hc : c < 4) (ps : List Nat) (h : ∀ p ∈ ps, p ≤ 2 ^ 63) :
    (runOpen2N2 c ps).1 = (ps.foldl MP2.upd MP2.init).m ∧ (runOpen2N2 c ps).2 / 4 = (ps.foldl MP2.upd MP2.init).e ∧
    (runOpen2N2 c ps).2 % 4 = c ∧ Fit2 (runOpen2N2 c ps).1 (runOpen2N2 c ps).2 := by
  -- the model state is the decoded pair; count and `Fit2` ride along
  obtain ⟨e, h3, h4⟩ := List.foldl_rel (l := ps) (a := (0, c)) (b := MP2.init)
    (r := fun (st : Nat × Nat) (a : MP2) => a = ⟨st.1, st.2 / 4⟩ ∧ st.2 % 4 = c ∧ Fit2 st.1 st.2)
    (f := fun st p => Tr.open2n2_UpdateMaxProbe st.1 st.2 p) (g := MP2.upd)
    ⟨by rw [Nat.div_eq_of_lt hc]; rfl, Nat.mod_eq_of_lt hc, Nat.zero_le _, by omega, by omega⟩
    (fun p hp st a hr => by
      obtain ⟨rfl, h3, h4⟩ := hr
      obtain ⟨e1, e2, e3, e4⟩ := tr_open2n2_update st.1 st.2 p h4 (h p hp)
      exact ⟨by rw [e1, e2], e3.trans h3, e4⟩)
  exact ⟨e ▸ rfl, e ▸ rfl, h3, h4⟩

theorem tr_openN1_pvGetMaxProbe (b : Nat) (hb : b < 256) : Tr.openN1_pvGetMaxProbe b = dec3 b := by
  have h7 : b &&& 7 = b % 8 := Nat.and_two_pow_sub_one_eq_mod b 3
  unfold Tr.openN1_pvGetMaxProbe
  rw [dec3_eq, h7, Nat.shiftRight_eq_div_pow]
  exact shl64_of_lt (mant_exp_lt (by omega) (by omega))

theorem tr_openN1_pvUpdate (b p : Nat) (hp0 : 0 < p) (hp : p < 2 ^ 64) :
    Tr.openN1_pvUpdateMaxProbe b p = enc3 p := by
  unfold Tr.openN1_pvUpdateMaxProbe enc3
  dsimp only
  rw [sub64_of_le hp0]
  generalize hW : Tr.whileN 64 _ _ _ = r
  obtain rfl : shrinkLoop 7 64 (p - 1) 0 = r := (while_shrink 7 64 (p - 1) 0 (by decide)).symm.trans hW
  have ha := (shrinkLoop_spec 7 64 (p - 1) 0 (by omega)).1
  generalize shrinkLoop 7 64 (p - 1) 0 = r at ha ⊢
  simp only [decide_eq_true_eq]
  split
  · have h8 : r.1 + 1 < 8 := Nat.succ_lt_succ ha
    rw [add64_of_lt (Nat.lt_trans h8 (by decide)), or_shl_byte (Nat.lt_trans h8 (by decide)) (by omega)]
  · rfl

theorem tr_openN1_update (b p : Nat) (hb : b < 256) (hp : p < 2 ^ 64) : Tr.openN1_UpdateMaxProbe b p = upd3 b p := by
  unfold Tr.openN1_UpdateMaxProbe upd3
  simp only [decide_eq_true_eq, Bool.or_eq_true, infProbeExp]
  split
  · rfl
  · rename_i h0
    rw [tr_openN1_pvGetMaxProbe b hb]
    split
    · rfl
    · exact tr_openN1_pvUpdate b p (by omega) hp

theorem tr_openN1_getMaxProbe (L b : Nat) (hL : L < 64) (hb : b < 256) : Tr.openN1_GetMaxProbe b L = getMax3 L b := by
  unfold Tr.openN1_GetMaxProbe getMax3
  simp only [decide_eq_true_eq, infProbeExp]
  split
  · exact mask_eq hL
  · exact tr_openN1_pvGetMaxProbe b hb

/-- the byte reached by the *translated* `BucketOpenN1::UpdateMaxProbe` from the cleared state -/
def runOpenN1 (ps : List Nat) : Nat := ps.foldl Tr.openN1_UpdateMaxProbe 0

theorem runOpenN1_eq (ps : List Nat) (h : ∀ p ∈ ps, p < 2 ^ 64) :
    runOpenN1 ps = ps.foldl upd3 0 ∧ runOpenN1 ps < 256 :=
  List.foldl_rel (r := fun b c => b = c ∧ b < 256) (f := Tr.openN1_UpdateMaxProbe) (g := upd3) (l := ps) (a := 0) (b := 0)
    ⟨rfl, by decide⟩
    (fun p hp b _ hr => by
      obtain ⟨rfl, hb⟩ := hr
      rw [tr_openN1_update b p hb (h p hp)]; exact ⟨rfl, upd3_lt b p hb⟩)

end Momo.TrEq
