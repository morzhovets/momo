import Momo.Model.OpenBytes
import Momo.Proof.Probe
import Momo.Proof.ListFacts
/-!
  Byte-level buckets BucketOpenN1 / BucketOpen8. First part: the invariant `Bucket.Inv` (every occupied slot holds the short hash of its
  item, every other slot the empty marker, the slot of the last logical index doubles as the count) holds after the constructor and after
  every legal `AddCrt` / `Remove`. Every proof goes through the logical view: `expL` is the expected byte at a LOGICAL index,
  `inv_logical` / `inv_of_logical` turn `Bucket.Inv` into `data (phys i) = expL … i` and back, `upd_phys` reads a write in logical coordinates.
  Second part: `BucketOpenN1::Find` as a search among candidates (`scan`, `Hit`); the facts about `scan` hold for every scan order, which is
  how the word-wide variants of `BucketOpen8` are compared with the scalar loop.
  The `<operation>_inv` lemmas and the readers `count_decode` / `isFull_decode` take bucket and item list implicitly and the invariant first.
-/
namespace Momo.OpenB

theorem Bucket.Inv.pos {b : Bucket} {hs : List Nat} (hI : b.Inv hs) : 0 < b.maxCount := hI.1
theorem Bucket.Inv.maxCount_lt {b : Bucket} {hs : List Nat} (hI : b.Inv hs) : b.maxCount < Extracted.openN1MaxCountLimit :=
  hI.2.1
theorem Bucket.Inv.length_le {b : Bucket} {hs : List Nat} (hI : b.Inv hs) : hs.length ≤ b.maxCount := hI.2.2.1
theorem Bucket.Inv.lt64 {b : Bucket} {hs : List Nat} (hI : b.Inv hs) : ∀ h ∈ hs, h < 2 ^ 64 := hI.2.2.2.1
theorem Bucket.Inv.data {b : Bucket} {hs : List Nat} (hI : b.Inv hs) :
    ∀ j, j < b.maxCount → b.data j = expByte b.maxCount b.reverse hs j := hI.2.2.2.2

theorem calcShortHash_lt (h : Nat) (hh : h < 2 ^ 64) : calcShortHash h < emptyShortHash := by
  have ht : h >>> 40 < 16777216 := by
    rw [Nat.shiftRight_eq_div_pow]
    exact Nat.div_lt_of_lt_mul (by omega)
  simp only [calcShortHash, u8, emptyShortHash, Extracted.openN1ShortHashBits, Extracted.openN1ShortHashShift,
    Extracted.openN1EmptyShortHash]
  rw [Nat.shiftRight_eq_div_pow]
  generalize h >>> (64 - 24) = t at *
  have h1 : t % 2 ^ 32 = t := Nat.mod_eq_of_lt (by omega)
  rw [h1]
  have h2 : t * 248 % 2 ^ 32 = t * 248 := Nat.mod_eq_of_lt (by omega)
  rw [h2]
  have h3 : t * 248 / 2 ^ 24 < 248 := Nat.div_lt_of_lt_mul (by omega)
  rw [Nat.mod_eq_of_lt (Nat.lt_trans h3 (by decide))]; exact h3

theorem getD_lt64 {hs : List Nat} (hh : ∀ h ∈ hs, h < 2 ^ 64) {i : Nat} (hi : i < hs.length) : hs.getD i 0 < 2 ^ 64 := by
  rw [List.getD_eq_getElem?_getD, List.getElem?_eq_getElem hi]
  exact hh _ (List.getElem_mem hi)

theorem absStep_rem (hs : List Nat) (index : Nat) (hne : 0 < hs.length) :
    absStep hs (.rem index) = (hs.set index (hs.getD (hs.length - 1) 0)).dropLast := by
  simp only [absStep, ListFacts.getLast?_eq_getD hs 0 hne]

theorem phys_lt (mc : Nat) (rev : Bool) (i : Nat) (hi : i < mc) : phys mc rev i < mc := by
  unfold phys; split <;> omega

theorem phys_phys (mc : Nat) (rev : Bool) (i : Nat) (hi : i < mc) : phys mc rev (phys mc rev i) = i := by
  unfold phys; split <;> omega

/-- the expected byte in LOGICAL coordinates (independent of `reverse`) -/
def expL (mc : Nat) (hs : List Nat) (i : Nat) : Nat :=
  if i < hs.length then calcShortHash (hs.getD i 0)
  else if i = mc - 1 then emptyShortHash + hs.length else emptyShortHash

theorem expByte_eq (mc : Nat) (rev : Bool) (hs : List Nat) (j : Nat) :
    expByte mc rev hs j = expL mc hs (phys mc rev j) := rfl

theorem upd_phys (d : Nat → Nat) (mc : Nat) (rev : Bool) (a v i : Nat) (hi : i < mc) (ha : a < mc) :
    upd d (phys mc rev a) v (phys mc rev i) = if i = a then v else d (phys mc rev i) := by
  unfold upd
  by_cases h : i = a
  · subst h; simp
  · rw [if_neg h, if_neg]
    intro e
    have := congrArg (phys mc rev) e
    rw [phys_phys _ _ _ hi, phys_phys _ _ _ ha] at this
    exact h this

theorem stateIdx_eq (b : Bucket) (h0 : 0 < b.maxCount) : b.stateIdx = phys b.maxCount b.reverse (b.maxCount - 1) := by
  unfold Bucket.stateIdx phys; split <;> omega

theorem inv_logical {b : Bucket} {hs : List Nat} (hI : b.Inv hs) (i : Nat) (hi : i < b.maxCount) :
    b.data (phys b.maxCount b.reverse i) = expL b.maxCount hs i := by
  rw [hI.data _ (phys_lt _ _ _ hi), expByte_eq, phys_phys _ _ _ hi]

theorem inv_of_logical (b : Bucket) (hs : List Nat) (h0 : 0 < b.maxCount) (h8 : b.maxCount < Extracted.openN1MaxCountLimit)
    (hl : hs.length ≤ b.maxCount) (hh : ∀ h ∈ hs, h < 2 ^ 64)
    (hd : ∀ i, i < b.maxCount → b.data (phys b.maxCount b.reverse i) = expL b.maxCount hs i) : b.Inv hs := by
  refine ⟨h0, h8, hl, hh, fun j hj => ?_⟩
  have := hd (phys b.maxCount b.reverse j) (phys_lt _ _ _ hj)
  rw [phys_phys _ _ _ hj] at this
  rw [this, expByte_eq]

section inv
variable {b : Bucket} {hs : List Nat}

theorem inv_state_eq (hI : b.Inv hs) : b.state = expL b.maxCount hs (b.maxCount - 1) := by
  rw [Bucket.state, stateIdx_eq b hI.pos]
  exact inv_logical hI _ (Nat.sub_lt hI.pos Nat.one_pos)

theorem count_decode (hI : b.Inv hs) : b.count = hs.length := by
  rw [Bucket.count, inv_state_eq hI, expL]
  have hl := hI.length_le
  split
  · have := calcShortHash_lt _ (getD_lt64 hI.lt64 ‹_›)
    rw [if_neg (by omega)]; omega
  · rw [if_pos rfl, if_pos (Nat.le_add_right _ _), Nat.add_sub_cancel_left]

theorem isFull_decode (hI : b.Inv hs) : b.isFull = decide (hs.length = b.maxCount) := by
  rw [Bucket.isFull, inv_state_eq hI, expL]
  have h0 := hI.pos
  have hl := hI.length_le
  split
  · have := calcShortHash_lt _ (getD_lt64 hI.lt64 ‹_›)
    simpa [show hs.length = b.maxCount by omega] using this
  · rw [if_pos rfl]
    simp; omega

end inv

theorem new_inv (mc : Nat) (rev : Bool) (h0 : 0 < mc) (h8 : mc < Extracted.openN1MaxCountLimit) :
    (Bucket.new mc rev).Inv [] := by
  refine ⟨h0, h8, Nat.zero_le _, (fun h hh => by cases hh), fun j hj => ?_⟩
  show (if j < mc then emptyShortHash else 0) = expL mc [] (phys mc rev j)
  rw [if_pos (show j < mc from hj)]
  unfold expL
  simp

theorem expL_snoc (mc : Nat) (hs : List Nat) (h : Nat) (hlen : hs.length < mc) (i : Nat) :
    expL mc (hs ++ [h]) i =
      if i = hs.length then calcShortHash h
      else if i = mc - 1 then emptyShortHash + (hs.length + 1) else expL mc hs i := by
  unfold expL
  rw [ListFacts.getD_snoc, List.length_append, List.length_singleton]
  by_cases c1 : i < hs.length
  · have c2 : i ≠ hs.length := Nat.ne_of_lt c1
    have c3 : i ≠ mc - 1 := by omega
    simp only [c1, c2, c3, Nat.lt_succ_of_lt c1, if_true, if_false]
  · by_cases c2 : i = hs.length
    · simp only [c2, Nat.lt_irrefl, Nat.lt_succ_self, if_true, if_false]
    · have c3 : ¬ i < hs.length + 1 := by omega
      simp only [c1, c2, c3, if_false]
      split <;> rfl

theorem addBytes_logical {b : Bucket} {hs : List Nat} (hI : b.Inv hs) (h : Nat) (hlen : hs.length < b.maxCount)
    (i : Nat) (hi : i < b.maxCount) :
    b.addBytes h (phys b.maxCount b.reverse i) =
      if i = hs.length then calcShortHash h
      else if i = b.maxCount - 1 then emptyShortHash + (hs.length + 1) else expL b.maxCount hs i := by
  have hm1 : b.maxCount - 1 < b.maxCount := Nat.sub_lt hI.pos Nat.one_pos
  have h8 : b.maxCount < 8 := hI.maxCount_lt
  rw [Bucket.addBytes, Bucket.pos, count_decode hI, stateIdx_eq b hI.pos]
  split
  · rename_i c
    have c1 : b.maxCount - 1 ≠ hs.length := by omega
    rw [upd_phys _ _ _ _ _ _ hi hm1]
    by_cases c2 : i = b.maxCount - 1
    · rw [if_pos c2, upd_phys _ _ _ _ _ _ hm1 hlen, if_neg c1, inv_logical hI _ hm1, if_neg (c2 ▸ c1), if_pos c2,
        expL, if_neg (show ¬ b.maxCount - 1 < hs.length by omega), if_pos rfl, u8]
      simp only [emptyShortHash, Extracted.openN1EmptyShortHash]
      omega
    · rw [if_neg c2, upd_phys _ _ _ _ _ _ hi hlen, inv_logical hI _ hi, if_neg c2]
  · rename_i c
    rw [upd_phys _ _ _ _ _ _ hi hlen, inv_logical hI _ hi]
    by_cases c2 : i = hs.length
    · rw [if_pos c2, if_pos c2]
    · rw [if_neg c2, if_neg c2, if_neg (by omega)]

theorem addCrt_inv {b : Bucket} {hs : List Nat} (hI : b.Inv hs) (h : Nat) (hlen : hs.length < b.maxCount)
    (hh : h < 2 ^ 64) : (b.addCrt h).Inv (hs ++ [h]) := by
  refine inv_of_logical (b.addCrt h) (hs ++ [h]) hI.pos hI.maxCount_lt (by rw [List.length_append]; exact hlen) ?_ (fun i hi => ?_)
  · intro x hx
    rcases List.mem_append.mp hx with hx | hx
    · exact hI.lt64 x hx
    · rw [List.mem_singleton.mp hx]; exact hh
  · exact (addBytes_logical hI h hlen i hi).trans (expL_snoc b.maxCount hs h hlen i).symm

theorem expL_removeAt (mc : Nat) (hs : List Nat) (index : Nat) (hidx : index < hs.length) (hl : hs.length ≤ mc) (i : Nat) :
    expL mc ((hs.set index (hs.getD (hs.length - 1) 0)).dropLast) i =
      if i = mc - 1 then emptyShortHash + (hs.length - 1)
      else if i = hs.length - 1 then emptyShortHash
      else if i = index then calcShortHash (hs.getD (hs.length - 1) 0) else expL mc hs i := by
  unfold expL
  rw [List.length_dropLast, List.length_set]
  by_cases c1 : i < hs.length - 1
  · have c2 : i ≠ mc - 1 := by omega
    have c3 : i ≠ hs.length - 1 := Nat.ne_of_lt c1
    have c4 : i < hs.length := by omega
    rw [ListFacts.getD_set_dropLast hs index _ 0 c1]
    simp only [c1, c2, c3, c4, if_true, if_false]
    split <;> rfl
  · rw [if_neg c1]
    by_cases c2 : i = mc - 1
    · simp only [c2, if_true]
    · by_cases c3 : i = hs.length - 1
      · simp only [c3, if_true]
      · have c4 : i ≠ index := by omega
        have c5 : ¬ i < hs.length := by omega
        simp only [c2, c3, c4, c5, if_false]

theorem removeBytes_logical {b : Bucket} {hs : List Nat} (hI : b.Inv hs) (index : Nat) (hidx : index < hs.length)
    (i : Nat) (hi : i < b.maxCount) :
    b.removeBytes index (phys b.maxCount b.reverse i) =
      if i = b.maxCount - 1 then emptyShortHash + (hs.length - 1)
      else if i = hs.length - 1 then emptyShortHash
      else if i = index then calcShortHash (hs.getD (hs.length - 1) 0) else expL b.maxCount hs i := by
  have hl : hs.length ≤ b.maxCount := hI.length_le
  have hm1 : b.maxCount - 1 < b.maxCount := Nat.sub_lt hI.pos Nat.one_pos
  have hlast : hs.length - 1 < hs.length := Nat.sub_lt (Nat.zero_lt_of_lt hidx) Nat.one_pos
  have hlm : hs.length - 1 < b.maxCount := Nat.lt_of_lt_of_le hlast hl
  have hix : index < b.maxCount := Nat.lt_of_lt_of_le hidx hl
  have h8 : b.maxCount < 8 := hI.maxCount_lt
  have hcomp : ∀ j, j < b.maxCount → b.compact index (phys b.maxCount b.reverse j) =
      if j = hs.length - 1 then emptyShortHash
      else if j = index then calcShortHash (hs.getD (hs.length - 1) 0) else expL b.maxCount hs j := by
    intro j hj
    rw [Bucket.compact, Bucket.pos, Bucket.pos, count_decode hI, upd_phys _ _ _ _ _ _ hj hlm, upd_phys _ _ _ _ _ _ hj hix,
      inv_logical hI _ hlm, inv_logical hI _ hj, expL, if_pos hlast]
  rw [Bucket.removeBytes, count_decode hI, stateIdx_eq b hI.pos]
  by_cases c2 : i = b.maxCount - 1
  · rw [if_pos c2, c2]
    split
    · -- not full: the state byte is a count byte, decremented
      rw [upd_phys _ _ _ _ _ _ hm1 hm1, if_pos rfl, hcomp _ hm1, if_neg (by omega), if_neg (by omega), expL,
        if_neg (by omega), if_pos rfl, u8]
      simp only [emptyShortHash, Extracted.openN1EmptyShortHash]
      omega
    · rw [upd_phys _ _ _ _ _ _ hm1 hm1, if_pos rfl, u8, u8]
      simp only [emptyShortHash, Extracted.openN1EmptyShortHash]
      omega
  · rw [if_neg c2]
    split <;> rw [upd_phys _ _ _ _ _ _ hi hm1, if_neg c2, hcomp i hi]

theorem remove_inv {b : Bucket} {hs : List Nat} (hI : b.Inv hs) (index : Nat) (hidx : index < hs.length) :
    (b.remove index).Inv ((hs.set index (hs.getD (hs.length - 1) 0)).dropLast) := by
  have hl : hs.length ≤ b.maxCount := hI.length_le
  refine inv_of_logical (b.remove index) _ hI.pos hI.maxCount_lt ?_ ?_ (fun i hi => ?_)
  · show _ ≤ b.maxCount
    rw [List.length_dropLast, List.length_set]; omega
  · intro x hx
    rcases List.mem_or_eq_of_mem_set ((List.dropLast_sublist _).subset hx) with hx | hx
    · exact hI.lt64 x hx
    · rw [hx]; exact getD_lt64 hI.lt64 (by omega)
  · exact (removeBytes_logical hI index hidx i hi).trans (expL_removeAt b.maxCount hs index hidx hl i).symm

theorem step_inv {b : Bucket} {hs : List Nat} (hI : b.Inv hs) (op : Op) (hop : op.legal b.maxCount hs) :
    (b.step op).Inv (absStep hs op) := by
  cases op with
  | add h => exact addCrt_inv hI h hop.1 hop.2
  | rem index =>
    have hne : 0 < hs.length := by have : index < hs.length := hop; omega
    rw [absStep_rem hs index hne]
    exact remove_inv hI index hop

theorem step_maxCount (b : Bucket) (op : Op) : (b.step op).maxCount = b.maxCount := by cases op <;> rfl
theorem step_reverse (b : Bucket) (op : Op) : (b.step op).reverse = b.reverse := by cases op <;> rfl

theorem run_inv (ops : List Op) : ∀ (b : Bucket) (hs : List Nat), b.Inv hs → legalHist b.maxCount hs ops →
    (ops.foldl Bucket.step b).Inv (ops.foldl absStep hs) := by
  induction ops with
  | nil => intro b hs hI _; exact hI
  | cons op rest ih =>
    intro b hs hI hl
    simp only [List.foldl_cons]
    refine ih _ _ (step_inv hI op hl.1) ?_
    rw [step_maxCount]; exact hl.2

theorem run_maxCount (ops : List Op) (b : Bucket) : (ops.foldl Bucket.step b).maxCount = b.maxCount :=
  Probe.foldl_keeps step_maxCount ops b

theorem run_reverse (ops : List Op) (b : Bucket) : (ops.foldl Bucket.step b).reverse = b.reverse :=
  Probe.foldl_keeps step_reverse ops b

-- `legalHist` of a concrete history is closed by `decide` (Props/C13)
instance decOpLegal (mc : Nat) (hs : List Nat) : (op : Op) → Decidable (op.legal mc hs)
  | .add _ => inferInstanceAs (Decidable (_ ∧ _))
  | .rem _ => inferInstanceAs (Decidable (_ < _))

instance decLegalHist (mc : Nat) : (hs : List Nat) → (ops : List Op) → Decidable (legalHist mc hs ops)
  | _, [] => isTrue trivial
  | hs, op :: rest => @instDecidableAnd _ _ (decOpLegal mc hs op) (decLegalHist mc (absStep hs op) rest)

/-! ## `BucketOpenN1::Find` as a search among candidates, for every scan order -/

/-- `Find` for an arbitrary order of the slots: the first slot of `order` whose byte is `sh` and which `pred` accepts. The scalar loop is
    `scan (List.range maxCount)` (`findN1_eq`); the word-wide variants are scans of other lists. -/
def scan (order : List Nat) (d : Nat → Nat) (sh : Nat) (pred : Nat → Bool) : Option Nat :=
  (order.filter (fun i => d i == sh)).find? pred

theorem findLoopN1_eq (d : Nat → Nat) (sh : Nat) (pred : Nat → Bool) :
    ∀ fuel i, findLoopN1 d sh pred fuel i = scan (List.range' i fuel) d sh pred
  | 0, _ => rfl
  | n+1, i => by
    rw [findLoopN1, findLoopN1_eq d sh pred n, scan, scan, List.range'_succ, List.filter_cons]
    cases h1 : d i == sh
    · rfl
    · rw [if_pos rfl, List.find?_cons]
      cases pred i <;> rfl

theorem findN1_eq (b : Bucket) (h : Nat) (pred : Nat → Bool) :
    b.findN1 h pred = (candsN1 b.data (calcShortHash h) b.maxCount).find? pred := by
  unfold Bucket.findN1 candsN1
  rw [findLoopN1_eq, List.range_eq_range']
  rfl

/-- a slot without an item (empty marker 248, count byte 248 .. 254) never is a candidate: every short hash is below 248 -/
theorem cand_iff {b : Bucket} {hs : List Nat} (hI : b.Inv hs) (h : Nat) (hh : h < 2 ^ 64) (j : Nat) (hj : j < b.maxCount) :
    (b.data j == calcShortHash h) = true ↔
      phys b.maxCount b.reverse j < hs.length ∧
      calcShortHash (hs.getD (phys b.maxCount b.reverse j) 0) = calcShortHash h := by
  have hlt := calcShortHash_lt h hh
  rw [hI.data j hj]
  unfold expByte
  simp only [emptyShortHash, Extracted.openN1EmptyShortHash] at hlt ⊢
  by_cases c1 : phys b.maxCount b.reverse j < hs.length
  · simp [c1]
  · simp only [c1, if_false, false_and, iff_false]
    split <;> simp <;> omega

section scanThm
variable {b : Bucket} {hs : List Nat}

/-- the hash code of the item in PHYSICAL slot `p` (`hs` lists the items' hash codes in logical order) -/
def itemAt (b : Bucket) (hs : List Nat) (p : Nat) : Nat := hs.getD (phys b.maxCount b.reverse p) 0

/-- what `Find` is entitled to return: slot `p` holds an item whose short hash is that of `h` and which `pred` accepts -/
def Hit (b : Bucket) (hs : List Nat) (h : Nat) (pred : Nat → Bool) (p : Nat) : Prop :=
  p < b.maxCount ∧ phys b.maxCount b.reverse p < hs.length ∧ calcShortHash (itemAt b hs p) = calcShortHash h ∧ pred p = true

theorem scan_cands_occupied (hI : b.Inv hs) (h : Nat) (hh : h < 2 ^ 64) (order : List Nat) (ho : ∀ p ∈ order, p < b.maxCount)
    (p : Nat) (hp : p ∈ order.filter (fun i => b.data i == calcShortHash h)) :
    phys b.maxCount b.reverse p < hs.length ∧ calcShortHash (itemAt b hs p) = calcShortHash h := by
  rw [List.mem_filter] at hp
  exact (cand_iff hI h hh p (ho p hp.1)).mp hp.2

theorem scan_sound (hI : b.Inv hs) (h : Nat) (hh : h < 2 ^ 64) (pred : Nat → Bool) (order : List Nat)
    (ho : ∀ p ∈ order, p < b.maxCount) (p : Nat)
    (hf : scan order b.data (calcShortHash h) pred = some p) : p ∈ order ∧ Hit b hs h pred p := by
  unfold scan at hf
  have hm := List.mem_of_find?_eq_some hf
  have hp := List.find?_some hf
  have hc := scan_cands_occupied hI h hh order ho p hm
  rw [List.mem_filter] at hm
  exact ⟨hm.1, ho p hm.1, hc.1, hc.2, hp⟩

theorem scan_complete (hI : b.Inv hs) (h : Nat) (hh : h < 2 ^ 64) (pred : Nat → Bool) (order : List Nat)
    (p : Nat) (hp : p ∈ order) (hit : Hit b hs h pred p) :
    (scan order b.data (calcShortHash h) pred).isSome = true := by
  unfold scan
  rw [List.find?_isSome]
  refine ⟨p, ?_, hit.2.2.2⟩
  rw [List.mem_filter]
  exact ⟨hp, (cand_iff hI h hh p hit.1).mpr ⟨hit.2.1, hit.2.2.1⟩⟩

theorem scan_unique (hI : b.Inv hs) (h : Nat) (hh : h < 2 ^ 64) (pred : Nat → Bool) (order : List Nat)
    (ho : ∀ p ∈ order, p < b.maxCount) (p : Nat) (hp : p ∈ order) (hit : Hit b hs h pred p)
    (huniq : ∀ q, Hit b hs h pred q → q = p) :
    scan order b.data (calcShortHash h) pred = some p := by
  have hs' := scan_complete hI h hh pred order p hp hit
  cases hr : scan order b.data (calcShortHash h) pred with
  | none => rw [hr] at hs'; cases hs'
  | some q => rw [huniq q (scan_sound hI h hh pred order ho q hr).2]

theorem scan_none (hI : b.Inv hs) (h : Nat) (hh : h < 2 ^ 64) (pred : Nat → Bool) (order : List Nat)
    (ho : ∀ p ∈ order, p < b.maxCount) (hno : ∀ q, ¬ Hit b hs h pred q) :
    scan order b.data (calcShortHash h) pred = none := by
  cases hr : scan order b.data (calcShortHash h) pred with
  | none => rfl
  | some q => exact absurd (scan_sound hI h hh pred order ho q hr).2 (hno q)

end scanThm

theorem visited_subset (cands : List Nat) (pred : Nat → Bool) : ∀ p ∈ visited cands pred, p ∈ cands := by
  induction cands with
  | nil => intro p hp; cases hp
  | cons c rest ih =>
    intro p hp
    unfold visited at hp
    split at hp
    · simp at hp; subst hp; simp
    · rcases List.mem_cons.mp hp with rfl | hp
      · simp
      · exact List.mem_cons_of_mem _ (ih p hp)

end Momo.OpenB
