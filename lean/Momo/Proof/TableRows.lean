import Momo.Proof.TableRemove
import Momo.Proof.TableAdd
/-!
  C07, table level: `RemoveRaw`, `pvExtractRaw` (by number, with and without order, by reference), `pvFilterRaws` / `Remove(range)` /
  `Remove(filter)` / `Assign`, `TryInsert`: the invariant is kept and the rows are what the row-list specification says.
-/
namespace Momo.Table
open List

theorem keepRows_ne_eq_eraseIdx {st : Store} (hnd : (ids st).Nodup) {n : Nat} (hn : n < st.length) :
    keepRows st (fun x => x != st[n].id) = st.eraseIdx n := by
  unfold keepRows
  exact (ListFacts.eraseIdx_eq_filter_of_nodup_map (fun r : Row => r.id) st n hn hnd).symm

theorem keepRows_nodup {st : Store} (hnd : (ids st).Nodup) (keepRaw : Nat → Bool) : (ids (keepRows st keepRaw)).Nodup := by
  rw [ids_keepRows]; exact hnd.filter _

/-- the indexes of `filterTable t keepRaw` are those of its rows, `keepRows t.rows keepRaw` (the rows by `rfl`) -/
theorem filterTable_indexes (acc : Acc) (keep : Bool) (t : Table) (hinv : Inv acc keep t) (keepRaw : Nat → Bool) :
    (∀ u ∈ (filterTable t keepRaw).uidx, UInv acc (keepRows t.rows keepRaw) u) ∧
    (∀ m ∈ (filterTable t keepRaw).midx, MInv acc (keepRows t.rows keepRaw) m) := by
  refine ⟨?_, ?_⟩
  · intro u hu
    obtain ⟨u0, hu0, rfl⟩ := mem_map.mp hu
    exact UInv_filter acc (hinv.uinv u0 hu0) keepRaw rfl (hinv.uinv u0 hu0).noPos (Perm.refl _)
  · intro m hm
    obtain ⟨m0, hm0, rfl⟩ := mem_map.mp hm
    have hm0i := hinv.minv m0 hm0
    have hR : Forall₂ (GroupStep (addrOf t.rows) keepRaw (fun _ => [])) m0.groups (m0.groups.map (filterGroup (addrOf t.rows) keepRaw)) := by
      rw [forall₂_map_right_iff]
      refine forall₂_same.mpr ?_
      intro g hg
      have := filterGroup_spec (addrOf t.rows) keepRaw g (hm0i.members_addr_nodup hinv.idsNodup hinv.addrInj g hg)
      cases ho : filterGroup (addrOf t.rows) keepRaw g with
      | none => rw [ho] at this; exact ⟨this, rfl⟩
      | some g' => rw [ho] at this; exact ⟨by rw [append_nil]; exact this.1, this.2.1, this.2.2⟩
    have := MInv_filter acc hm0i keepRaw _ hR
    have he : m0.filterRaws t.rows keepRaw =
        MIdx.mk m0.cols ((m0.groups.map (filterGroup (addrOf t.rows) keepRaw)).filterMap id) none none := by
      unfold MIdx.filterRaws
      rw [filterMap_map]
      have h1 := hm0i.noPos.1
      have h2 := hm0i.noPos.2
      cases m0; simp_all
    rw [he]; exact this

theorem removeRows_spec (acc : Acc) (keep : Bool) (t : Table) (hinv : Inv acc keep t) (rm : List Nat) :
    Inv acc keep (removeRows keep t rm) ∧
    (removeRows keep t rm).rows = setNumbers keep 0 (t.rows.filter (fun r => !rm.contains r.id)) := by
  obtain ⟨hu, hm⟩ := filterTable_indexes acc keep t hinv (fun id => !rm.contains id)
  refine ⟨?_, rfl⟩
  exact Inv_renumbered (t := removeRows keep t rm) (keepRows_nodup hinv.idsNodup _) (addrInj_keepRows hinv.addrInj _)
    (Perm.refl _) rfl hu hm

theorem removePred_spec (acc : Acc) (keep : Bool) (t : Table) (hinv : Inv acc keep t) (p : Row → Bool) :
    Inv acc keep (removePred keep t p) ∧
    (removePred keep t p).rows = setNumbers keep 0 (t.rows.filter (fun r => !p r)) := by
  unfold removePred
  obtain ⟨h1, h2⟩ := removeRows_spec acc keep t hinv ((t.rows.filter p).map (·.id))
  refine ⟨h1, ?_⟩
  rw [h2]
  congr 1
  apply filter_congr
  intro r hr
  congr 1
  apply Bool.eq_iff_iff.mpr
  simp only [contains_iff_mem, mem_map, mem_filter]
  constructor
  · rintro ⟨r', ⟨hr', hp'⟩, hid⟩
    have : r' = r := row_eq_of_id_eq hinv.idsNodup hr' hr hid
    rw [← this]; exact hp'
  · intro hp; exact ⟨r, ⟨hr, hp⟩, rfl⟩

theorem firstOccs_spec : ∀ (l seen : List Nat), (firstOccs seen l).Nodup ∧ ∀ x ∈ firstOccs seen l, x ∉ seen ∧ x ∈ l
  | [], _ => by simp [firstOccs]
  | y :: ys, seen => by
    unfold firstOccs
    by_cases h : seen.contains y = true
    · rw [if_pos h]
      obtain ⟨h1, h2⟩ := firstOccs_spec ys seen
      exact ⟨h1, fun x hx => ⟨(h2 x hx).1, mem_cons_of_mem _ (h2 x hx).2⟩⟩
    · rw [if_neg h]
      obtain ⟨h1, h2⟩ := firstOccs_spec ys (y :: seen)
      refine ⟨nodup_cons.mpr ⟨fun hy => (h2 y hy).1 mem_cons_self, h1⟩, ?_⟩
      intro x hx
      rcases mem_cons.mp hx with e | e
      · subst e; exact ⟨by simpa using h, mem_cons_self⟩
      · exact ⟨fun hs => (h2 x e).1 (mem_cons_of_mem _ hs), mem_cons_of_mem _ (h2 x e).2⟩

theorem filterMap_rowOf_perm {st : Store} (hnd : (ids st).Nodup) (order : List Nat) (ho : order.Nodup)
    (hall : ∀ r ∈ st, r.id ∈ order) : st.Perm (order.filterMap (rowOf st)) := by
  apply (perm_ext_iff_of_nodup (Nodup.of_map _ hnd) ?_).mpr
  · intro r
    rw [mem_filterMap]
    constructor
    · intro hr; exact ⟨r.id, hall r hr, rowOf_mem hnd hr⟩
    · rintro ⟨x, _, hx⟩; exact (rowOf_some hx).1
  · apply Nodup.filterMap _ ho
    intro a a' b hb hb'
    have h1 := (rowOf_some (by simpa using hb)).2
    have h2 := (rowOf_some (by simpa using hb')).2
    rw [← h1, ← h2]

theorem assign_spec (acc : Acc) (keep : Bool) (t : Table) (hinv : Inv acc keep t) (named : List Nat) :
    Inv acc keep (assign keep t named) ∧
    (assign keep t named).rows = setNumbers keep 0 ((firstOccs [] named).filterMap (rowOf t.rows)) := by
  obtain ⟨hu, hm⟩ := filterTable_indexes acc keep t hinv (fun id => (firstOccs [] named).contains id)
  have hrows : (assign keep t named).rows =
      setNumbers keep 0 ((firstOccs [] named).filterMap (rowOf (keepRows t.rows (fun id => (firstOccs [] named).contains id)))) := rfl
  have hnd' := keepRows_nodup hinv.idsNodup (fun id => (firstOccs [] named).contains id)
  refine ⟨?_, ?_⟩
  · refine Inv_renumbered (t := assign keep t named) hnd' (addrInj_keepRows hinv.addrInj _)
      (filterMap_rowOf_perm hnd' _ (firstOccs_spec named []).1 ?_) hrows hu hm
    intro r hr
    have := (mem_filter.mp hr).2
    simpa using this
  · rw [hrows]
    congr 1
    apply filterMap_congr
    intro x hx
    exact rowOf_keepRows t.rows _ (by simpa using hx)

theorem numberOf_spec (acc : Acc) (keep : Bool) (t : Table) (hinv : Inv acc keep t) (id : Nat) :
    match numberOf keep t id with
    | none => id ∉ ids t.rows
    | some n => ∃ r, t.rows[n]? = some r ∧ r.id = id := by
  unfold numberOf
  cases hr : rowOf t.rows id with
  | none =>
    simp only
    intro hin
    obtain ⟨r, hr', hid⟩ := mem_ids_iff.mp hin
    rw [← hid, rowOf_mem hinv.idsNodup hr'] at hr; simp at hr
  | some r =>
    simp only
    obtain ⟨hmem, hid⟩ := rowOf_some hr
    cases keep with
    | true =>
      simp only [if_true]
      obtain ⟨i, hi, hri⟩ := getElem_of_mem hmem
      have : t.rows[i]? = some r := by rw [getElem?_eq_getElem hi, hri]
      rw [hinv.nums rfl i r this]
      exact ⟨r, this, hid⟩
    | false =>
      simp only [Bool.false_eq_true, if_false]
      have hlt : t.rows.findIdx (fun x => x.id == id) < t.rows.length :=
        findIdx_lt_length.mpr ⟨r, hmem, by simp [hid]⟩
      refine ⟨t.rows[t.rows.findIdx (fun x => x.id == id)], getElem?_eq_getElem hlt, ?_⟩
      have := findIdx_getElem (w := hlt)
      simpa using this

section lookups
variable {vis : Vis} (hc : Complete vis) (acc : Acc) (keep : Bool)
include hc

/-- `RemoveRaw` leaves the rows alone; the indexes it returns are those of the rows without `raw` -/
theorem removeRaw_indexes (t : Table) (hinv : Inv acc keep t) {raw : Nat} (hraw : raw ∈ ids t.rows) :
    (∀ u ∈ (removeRaw vis acc t t.rows raw).uidx, UInv acc (keepRows t.rows (fun x => x != raw)) u) ∧
    (∀ m ∈ (removeRaw vis acc t t.rows raw).midx, MInv acc (keepRows t.rows (fun x => x != raw)) m) := by
  refine ⟨?_, ?_⟩
  · intro u hu
    obtain ⟨u0, hu0, rfl⟩ := mem_map.mp hu
    exact UIdx.remove_spec hc acc hinv.idsNodup u0 (hinv.uinv u0 hu0) hraw
  · intro m hm
    obtain ⟨m0, hm0, rfl⟩ := mem_map.mp hm
    exact MIdx.remove_spec hc acc hinv.idsNodup m0 (hinv.minv m0 hm0)
      ((hinv.minv m0 hm0).members_addr_nodup hinv.idsNodup hinv.addrInj) hraw

theorem extract_spec (t : Table) (hinv : Inv acc keep t) (n : Nat) (keepOrder : Bool) :
    Inv acc keep (extract vis acc keep t n keepOrder).1 ∧
    match t.rows[n]? with
    | none => extract vis acc keep t n keepOrder = (t, none)
    | some r => (extract vis acc keep t n keepOrder).2 = some r ∧
        (extract vis acc keep t n keepOrder).1.rows =
          if keepOrder then setNumbers keep n (t.rows.eraseIdx n)
          else if n < t.rows.length - 1 then (t.rows.set n (setNum keep (t.rows.getLastD r) n)).dropLast
          else t.rows.dropLast := by
  unfold extract
  cases hr : t.rows[n]? with
  | none => exact ⟨hinv, rfl⟩
  | some r =>
    simp only
    obtain ⟨hn, hrn⟩ := List.getElem?_eq_some_iff.mp hr
    have hraw : r.id ∈ ids t.rows := mem_ids_iff.mpr ⟨r, hrn ▸ getElem_mem hn, rfl⟩
    obtain ⟨hu, hm⟩ := removeRaw_indexes hc acc keep t hinv hraw
    have hst : keepRows t.rows (fun x => x != r.id) = t.rows.eraseIdx n := by
      rw [← hrn]; exact keepRows_ne_eq_eraseIdx hinv.idsNodup hn
    rw [hst] at hu hm
    have hnd' : (ids (t.rows.eraseIdx n)).Nodup := by rw [← hst]; exact keepRows_nodup hinv.idsNodup _
    have hai' : AddrInj (t.rows.eraseIdx n) := by rw [← hst]; exact addrInj_keepRows hinv.addrInj _
    cases keepOrder with
    | true =>
      simp only [if_true]
      refine ⟨?_, trivial, trivial⟩
      refine Inv_of_perm_rel (t := { removeRaw vis acc t t.rows r.id with rows := setNumbers keep n (t.rows.eraseIdx n) })
        hnd' hai' (Perm.refl _) (setNumbers_rel keep _ n) ?_ hu hm
      intro hk i x hx
      subst hk
      exact setNumbers_nums _ n (fun i x hi hx => hinv.nums rfl i x (by rw [getElem?_eraseIdx, if_pos hi] at hx; exact hx)) i x hx
    | false =>
      simp only [Bool.false_eq_true, if_false]
      cases hl : t.rows.getLast? with
      | none =>
        have : t.rows = [] := by simpa using hl
        rw [this] at hn; simp at hn
      | some last =>
        simp only
        have hlastD : t.rows.getLastD r = last := by
          rw [getLastD_eq_getLast?, hl]; rfl
        rw [hlastD]
        by_cases hlt : n < t.rows.length - 1
        · rw [if_pos hlt, if_pos hlt]
          refine ⟨?_, rfl, rfl⟩
          have hrel : Forall₂ RowRel ((t.rows.set n last).dropLast) ((t.rows.set n (setNum keep last n)).dropLast) := by
            have h1 := forall₂_rowRel_set t.rows n (a := last) (rowRel_setNum keep last n)
            rw [dropLast_eq_take, dropLast_eq_take, length_set, length_set]
            exact forall₂_take _ h1
          refine Inv_of_perm_rel (t := { removeRaw vis acc t t.rows r.id with rows := (t.rows.set n (setNum keep last n)).dropLast })
            hnd' hai' (ListFacts.swapRemove_perm hl (Nat.lt_of_lt_of_le hlt (Nat.sub_le _ _))).symm hrel ?_ hu hm
          intro hk i x hx
          subst hk
          have hx' : ((t.rows.set n (setNum true last n)).dropLast)[i]? = some x := hx
          rw [dropLast_eq_take, getElem?_take] at hx'
          split at hx'
          · exact nums_set (hinv.nums rfl) n (setNum_num last n) i x hx'
          · cases hx'
        · rw [if_neg hlt, if_neg hlt]
          refine ⟨?_, rfl, rfl⟩
          have he : t.rows.dropLast = t.rows.eraseIdx n := by
            rw [dropLast_eq_eraseIdx (i := n) (by omega)]
          rw [he]
          refine Inv_of_perm_rel (t := { removeRaw vis acc t t.rows r.id with rows := t.rows.eraseIdx n })
            hnd' hai' (Perm.refl _) (forall₂_rowRel_refl _) ?_ hu hm
          intro hk i x hx
          have hx' : (t.rows.eraseIdx n)[i]? = some x := hx
          rw [getElem?_eraseIdx] at hx'
          split at hx'
          · exact hinv.nums hk i x hx'
          · have := (List.getElem?_eq_some_iff.mp hx').1; omega

theorem extractRef_spec (t : Table) (hinv : Inv acc keep t) (id : Nat) :
    Inv acc keep (extractRef vis acc keep t id).1 ∧
    ((id ∉ ids t.rows ∧ extractRef vis acc keep t id = (t, none)) ∨
     (∃ n r, t.rows[n]? = some r ∧ r.id = id ∧ (extractRef vis acc keep t id).2 = some r ∧
        (extractRef vis acc keep t id).1.rows = setNumbers keep n (t.rows.eraseIdx n))) := by
  have h := numberOf_spec acc keep t hinv id
  unfold extractRef
  cases hn : numberOf keep t id with
  | none => rw [hn] at h; exact ⟨hinv, Or.inl ⟨h, rfl⟩⟩
  | some n =>
    rw [hn] at h
    obtain ⟨r, hr, hid⟩ := h
    simp only
    have := extract_spec hc acc keep t hinv n true
    rw [hr] at this
    simp only [if_true] at this
    exact ⟨this.1, Or.inr ⟨n, r, hr, hid, this.2.1, this.2.2⟩⟩

theorem tryInsert_spec (t : Table) (hinv : Inv acc keep t) (n : Nat) (r : Row) (hr : r.id ∉ ids t.rows)
    (hra : r.addr ∉ t.rows.map (·.addr)) (f : Fault) :
    Inv acc keep (tryInsert vis acc keep t n r f).1 ∧
    match (tryInsert vis acc keep t n r f).2 with
    | .ok => n ≤ t.rows.length ∧
             (tryInsert vis acc keep t n r f).1.rows =
               setNumbers keep n (t.rows.take n ++ setNum keep r t.rows.length :: t.rows.drop n) ∧
             (∀ u ∈ t.uidx, ∀ x ∈ t.rows, keyEq u.cols r.vals x.vals = false)
    | .dup x j => TEquiv t (tryInsert vis acc keep t n r f).1 ∧
             ∃ u row, t.uidx[j]? = some u ∧ row ∈ t.rows ∧ row.id = x ∧ keyEq u.cols r.vals row.vals = true ∧
               ∀ i' u', i' < j → t.uidx[i']? = some u' → ∀ y ∈ t.rows, keyEq u'.cols r.vals y.vals = false
    | .badAlloc => TEquiv t (tryInsert vis acc keep t n r f).1 ∧ f ≠ .none
    | .outOfRange => t.rows.length < n ∧ (tryInsert vis acc keep t n r f).1 = t := by
  unfold tryInsert
  by_cases hn : t.rows.length < n
  · rw [if_pos hn]; exact ⟨hinv, hn, rfl⟩
  · rw [if_neg hn]
    have h := tryAdd_spec hc acc keep t hinv r hr hra f
    cases hs : tryAdd vis acc keep t r f with
    | mk t' res =>
      rw [hs] at h
      cases res with
      | ok =>
        simp only at h ⊢
        obtain ⟨hinv', hrows, hno⟩ := h
        refine ⟨?_, by omega, trivial, hno⟩
        have hperm : t'.rows.Perm (t.rows.take n ++ setNum keep r t.rows.length :: t.rows.drop n) := by
          rw [hrows, show t.rows ++ [setNum keep r t.rows.length] =
            t.rows.take n ++ (t.rows.drop n ++ [setNum keep r t.rows.length]) by rw [← append_assoc, take_append_drop]]
          exact Perm.append_left _ (perm_append_singleton _ _)
        refine Inv_of_perm_rel (t := { t' with rows := setNumbers keep n (t.rows.take n ++ setNum keep r t.rows.length :: t.rows.drop n) })
          hinv'.idsNodup hinv'.addrInj hperm (setNumbers_rel keep _ n) ?_ hinv'.uinv hinv'.minv
        intro hk i x hx
        subst hk
        refine setNumbers_nums _ n ?_ i x hx
        intro i x hi hx
        rw [getElem?_append_left (by rw [length_take]; omega), getElem?_take, if_pos hi] at hx
        exact hinv.nums rfl i x hx
      | dup x j => exact h
      | badAlloc => exact h
      | outOfRange => exact h.2.elim

end lookups
end Momo.Table
