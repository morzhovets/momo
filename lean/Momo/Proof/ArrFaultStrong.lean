import Momo.Proof.ArrFault
/-!
  C04 / C10: the operations of `momo::Array` documented as strongly exception-safe (AddBack*, SetCount, Reserve, Shrink, copy assignment)
  under every fault schedule: success with the state of the fault-free model `Momo.Arr`, or an exception with array and ledger exactly as
  before (`Strong`, from `Valid`). For the constructors `newFromF_spec`, which `ctor_step` of `ArrFaultMain` puts into its final form.
-/
namespace Momo.ArrF
open Momo Momo.Arr
open FM (throw tryCatch)
variable {α β γ : Type}

-- `Post` is used through its lemmas only (the reason is given in `ArrFault.lean`)
attribute [local irreducible] Post

/-- the hypothesis and the conclusion of the theorems about operations: the array satisfies its representation invariant `WF`,
    and the ledger is exactly what the array owns, plus `k` other objects and the blocks `rest` -/
structure Valid (cfg : Cfg) (rest : List Nat) (k : Nat) (x : Sys α) : Prop where
  wf : WF cfg x.arr
  frame : Frame cfg rest x
  objs : x.objs = x.arr.cells.length + k
  good : x.bad = false

theorem Valid.removeBack {cfg : Cfg} {rest : List Nat} {k : Nat} {x : Sys α} (v : Valid cfg rest k x) {count : Nat}
    (h : count ≤ x.arr.cells.length) :
    Valid cfg rest k
      { x with objs := x.objs - count, bad := x.bad || decide (x.objs < count), arr := Arr.removeBack x.arr count } := by
  refine ⟨wf_with_cells v.wf _ (Nat.le_trans (List.length_take_le' ..) v.wf.count_le), v.frame, ?_, ?_⟩
  · show x.objs - count = (List.take _ _).length + k
    rw [List.length_take, Nat.min_eq_left (Nat.sub_le ..), v.objs, Nat.sub_add_comm h]
  · show (x.bad || decide (x.objs < count)) = false
    rw [v.good, v.objs, decide_eq_false (Nat.not_lt.mpr (Nat.le_trans h (Nat.le_add_right ..)))]; rfl

@[simp] theorem ownBlocks_cells (cfg : Cfg) (s : State α) (cs : Cells α) :
    ownBlocks cfg { s with cells := cs } = ownBlocks cfg s := rfl

/-- Outcome of an operation with the strong guarantee, `s'` the fault-free result. `rest` and `k` (those of `Valid`) are what else is
    outstanding while the operation runs: an item handler in scope is one more object (`k + 1`, `handler_scope` in `ArrFaultBasic`);
    the block of a second array (new storage during `Reset`, the temporary of copy assignment) stands in front of the array's own
    block and is the `pre` of `release_spec`. -/
def Strong (cfg : Cfg) (rest : List Nat) (k : Nat) (m : FM α Unit) (x : Sys α) (s' : State α) : Prop :=
  PostF m x (fun _ y => y.arr = s' ∧ Frame cfg rest y ∧ y.objs = s'.cells.length + k ∧ y.bad = false)
    (fun y => y.core = x.core)

/-- from the postcondition of the `Array::Data` specifications (relative to the start state) to that of `Strong` (absolute), when the
    result has `n` cells more -/
theorem Valid.strong {cfg : Cfg} {rest : List Nat} {k n : Nat} {x y : Sys α} {s' : State α} (v : Valid cfg rest k x)
    (h : y.arr = s' ∧ Frame cfg rest y ∧ y.objs = x.objs + n ∧ y.bad = x.bad)
    (hl : s'.cells.length = x.arr.cells.length + n) :
    y.arr = s' ∧ Frame cfg rest y ∧ y.objs = s'.cells.length + k ∧ y.bad = false :=
  ⟨h.1, h.2.1, by rw [h.2.2.1, v.objs, hl, Nat.add_right_comm], h.2.2.2.trans v.good⟩

theorem frame_of_eq {cfg : Cfg} {rest : List Nat} {x y : Sys α} (h : Frame cfg rest x) (ha : y.arr = x.arr)
    (hb : y.blocks = x.blocks) : Frame cfg rest y := by
  unfold Frame at *; rw [ha, hb, h]

theorem addBackNogrowF_strong (cfg : Cfg) (rest : List Nat) (k : Nat) (b : Bool) (f : Cells α → Cells α) (x : Sys α)
    (v : Valid cfg rest k x) (hf : (f x.arr.cells).length = x.arr.cells.length + 1) :
    Strong cfg rest k (addBackNogrowF b f) x { x.arr with cells := f x.arr.cells } := by
  unfold Strong addBackNogrowF
  apply PostF.bind' _ _ (construct_spec b x) (fun _ h => h)
  intro _ y hy
  obtain ⟨ya, yb, yo, ybad⟩ := (core_eq_objs ..).mp hy
  rw [postF_step (post_modifyCells _ _)]
  exact v.strong ⟨by rw [ya], (frame_of_eq v.frame ya yb : Frame cfg rest y), yo, ybad⟩ hf

theorem relocateCreateF_spec (cfg : Cfg) (thr : Thr) (mv : Bool) (item : Ref α) (z : Sys α) :
    PostF (relocateCreateF cfg thr mv item) z
      (fun cs z' => cs = (if cfg.nothrowReloc then item.taken cfg.keeps mv z.arr.cells ++ [item.read z.arr.cells]
          else z.arr.cells ++ [item.read z.arr.cells]) ∧ z'.core = { z.core with objs := z.objs + 1 })
      (fun z' => z'.core = z.core) := by
  unfold relocateCreateF
  rw [postF_getArr_bind]
  refine PostF.ite (fun hnr => ?_) fun hnr => ?_
  · rw [if_pos hnr]
    exact PostF.bind' _ _ (construct_spec _ z) (fun _ h => h) fun _ y hy => .pure ⟨rfl, hy⟩
  · rw [if_neg hnr]
    refine ctorLoop_undo_spec _ _ z fun y hy => ?_
    apply PostF.bind _ (PostF.tryCatch_undo hy (construct_spec _ y))
    intro _ u hu
    rw [postF_step_bind (post_destroyObjs _ _)]
    exact .pure ⟨rfl, core_destroy 1 (core_built_trans hy hu rfl) (Nat.add_comm ..)⟩

theorem resetF_strong (cfg : Cfg) (rest : List Nat) (k : Nat) (creator : FM α (Cells α))
    (newCells : Cells α) (d newCap : Nat) (x : Sys α) (v : Valid cfg rest k x)
    (hgt : cfg.intCap < newCap) (hl : newCells.length = x.arr.cells.length + d)
    (hc : ∀ z : Sys α, z.arr = x.arr →
      PostF creator z (fun cs z' => cs = newCells ∧ z'.core = { z.core with objs := z.objs + d })
        (fun z' => z'.core = z.core)) :
    Strong cfg rest k (resetF cfg newCap creator) x (reset cfg x.arr newCap newCells).1 :=
  PostF.mono (resetF_spec cfg _ creator x rest newCells d v.frame (fun h' => absurd h' (Nat.not_le_of_gt hgt))
      (fun h' => absurd h' (Nat.not_le_of_gt hgt)) hc)
    (fun _ _ hy => v.strong hy (by
      rw [reset_cells _ _ _ _ (fun h0 => absurd (h0 ▸ hgt) (Nat.not_lt_zero _)), hl]))
    fun _ h => h

theorem addBackGrowCrtF_strong (cfg : Cfg) (thr : Thr) (rest : List Nat) (k : Nat) (mv : Bool) (item : Ref α) (x : Sys α)
    (v : Valid cfg rest k x) (hfull : ¬ x.arr.cells.length < capacity cfg x.arr) :
    Strong cfg rest k (addBackGrowCrtF cfg thr mv item) x (addBackGrowCrt cfg x.arr mv item).1 := by
  unfold Strong addBackGrowCrtF addBackGrowCrt
  rw [postF_getArr_bind]
  refine resetF_strong cfg rest k _ _ 1 _ x v (growCapacity_gt v.wf (Nat.lt_succ_of_le (Nat.le_of_not_lt hfull)) ..) ?_
    fun z hz => hz ▸ relocateCreateF_spec cfg thr mv item z
  rw [apply_ite List.length, List.length_append, List.length_append, taken_length, ite_self]
  rfl

theorem addBackCrtF_strong (cfg : Cfg) (thr : Thr) (rest : List Nat) (k : Nat) (mv : Bool) (item : Ref α) (x : Sys α)
    (v : Valid cfg rest k x) :
    Strong cfg rest k (addBackCrtF cfg thr mv item) x (addBackCrt cfg x.arr mv item).1 := by
  unfold addBackCrtF addBackCrt Strong
  rw [postF_getArr_bind]
  refine PostF.ite (fun h => ?_) fun h => ?_
  · rw [if_pos h]
    exact addBackNogrowF_strong cfg rest k _ _ x v (by rw [List.length_append, taken_length]; rfl)
  · rw [if_neg h]
    exact addBackGrowCrtF_strong cfg thr rest k mv item x v h

theorem addBackCopyF_strong (cfg : Cfg) (thr : Thr) (rest : List Nat) (k : Nat) (item : Ref α) (x : Sys α)
    (v : Valid cfg rest k x) :
    Strong cfg rest k (addBackCopyF cfg thr item) x (addBackCopy cfg x.arr item).1 := by
  unfold addBackCopyF addBackCopy Strong
  rw [postF_getArr_bind]
  refine PostF.ite (fun h => ?_) fun hfull => PostF.ite (fun hnr => ?_) fun hnr => ?_
  · rw [if_pos h]
    exact addBackNogrowF_strong cfg rest k _ _ x v (List.length_append ..)
  · -- the copy in `itemBuffer` is the one object more; it is destroyed if `pvGrow` throws
    rw [if_neg hfull, if_pos hnr]
    apply PostF.bind' _ _ (construct_spec thr.copy x) (fun _ h => h)
    intro _ y hy
    obtain ⟨ya, yb, yo, ybad⟩ := (core_eq_objs ..).mp hy
    apply PostF.bind _ (PostF.tryCatch_undo hy
      (growF_spec cfg thr _ false y rest (ya ▸ v.wf) (frame_of_eq v.frame ya yb)
        (by rw [ya]; exact Nat.lt_succ_of_le (Nat.le_of_not_lt hfull))))
    rintro _ z ⟨za, zf, zo, zbad⟩
    rw [postF_step (post_modifyCells _ _)]
    rw [ya] at za
    refine v.strong ⟨by rw [za]; rfl, zf, zo.trans yo, zbad.trans ybad⟩ ?_
    show List.length (_ ++ [_]) = _
    rw [List.length_append, grow_cells _ _ _ _ (Nat.succ_pos _)]; rfl
  · rw [if_neg hfull, if_neg hnr]
    exact addBackGrowCrtF_strong cfg thr rest k false item x v hfull

theorem addBackMoveF_strong (cfg : Cfg) (thr : Thr) (rest : List Nat) (k : Nat) (item : Ref α) (x : Sys α)
    (v : Valid cfg rest k x) :
    Strong cfg rest k (addBackMoveF cfg thr item) x (addBackMoveOp cfg x.arr item).1 := by
  unfold addBackMoveF addBackMoveOp Strong
  rw [postF_getArr_bind]
  refine PostF.ite (fun h => ?_) fun hfull => PostF.ite (fun hnm => ?_) fun hnm => ?_
  · rw [if_pos h]
    exact addBackNogrowF_strong cfg rest k _ _ x v (by rw [List.length_append, moveFrom_length]; rfl)
  · rw [if_neg hfull, if_pos hnm]
    apply PostF.bind' _ _ (growF_spec cfg thr _ false x rest v.wf v.frame
      (Nat.lt_succ_of_le (Nat.le_of_not_lt hfull))) (fun _ h => h)
    rintro _ y ⟨ya, yf, yo, ybad⟩
    rw [show mvThrows cfg thr = false by simp [mvThrows, hnm]]
    apply PostF.bind' _ _ (construct_false_spec y) (fun _ h => h.elim)
    intro _ z hz
    obtain ⟨za, zb, zo, zbad⟩ := (core_eq_objs ..).mp hz
    rw [postF_step (post_modifyCells _ _)]
    refine v.strong ⟨by rw [za, ya]; rfl, (frame_of_eq yf za zb : Frame cfg rest z), by rw [zo, yo], zbad.trans ybad⟩ ?_
    show List.length (_ ++ [_]) = _
    rw [List.length_append, moveFrom_length, grow_cells _ _ _ _ (Nat.succ_pos _)]; rfl
  · rw [if_neg hfull, if_neg hnm]
    exact addBackGrowCrtF_strong cfg thr rest k true item x v hfull

theorem setCountCreatorF_spec (cfg : Cfg) (thr : Thr) (extra : Nat) (c : Cell α) (z : Sys α) :
    PostF (setCountCreatorF cfg thr extra c) z
      (fun cs z' => cs = z.arr.cells ++ List.replicate extra c ∧ z'.core = { z.core with objs := z.objs + extra })
      (fun z' => z'.core = z.core) := by
  unfold setCountCreatorF
  refine ctorLoop_undo_spec _ _ z fun y hy => ?_
  apply PostF.bind _ (PostF.tryCatch_undo hy (relocateF_spec cfg thr y))
  rintro cs u ⟨rfl, hu⟩
  exact .pure ⟨by rw [((core_eq_objs ..).mp hy).1], hu.trans hy⟩

theorem setCountF_strong (cfg : Cfg) (thr : Thr) (rest : List Nat) (k : Nat) (count : Nat) (item : Ref α) (x : Sys α)
    (v : Valid cfg rest k x) :
    Strong cfg rest k (setCountF cfg thr count item) x (setCount cfg x.arr count item).1 := by
  unfold setCountF setCount Strong
  rw [postF_getArr_bind]
  refine PostF.ite (fun hle => ?_) fun hgt => PostF.ite (fun hcap => ?_) fun hcap => ?_
  · rw [if_pos hle, postF_step_bind (post_destroyObjs _ _), postF_step (post_setArr _ _)]
    have r := v.removeBack (Nat.sub_le x.arr.cells.length count)
    exact ⟨rfl, r.frame, r.objs, r.good⟩
  · rw [if_neg hgt, if_pos hcap]
    refine ctorLoop_undo_spec _ _ x fun y hy => ?_
    obtain ⟨ya, yb, yo, ybad⟩ := (core_eq_objs ..).mp hy
    rw [postF_step (post_modifyCells _ _)]
    exact v.strong ⟨by rw [ya], (frame_of_eq v.frame ya yb : Frame cfg rest y), yo, ybad⟩
      (by show List.length (_ ++ _) = _; rw [List.length_append, List.length_replicate])
  · rw [if_neg hgt, if_neg hcap]
    refine resetF_strong cfg rest k _ _ (count - x.arr.cells.length) _ x v (growCapacity_gt v.wf (Nat.lt_of_not_le hcap) ..) ?_
      fun z hz => hz ▸ setCountCreatorF_spec cfg thr _ _ z
    rw [List.length_append, List.length_replicate]

theorem reserveF_strong (cfg : Cfg) (thr : Thr) (rest : List Nat) (k : Nat) (n : Nat) (x : Sys α)
    (v : Valid cfg rest k x) :
    Strong cfg rest k (reserveF cfg thr n) x (reserve cfg x.arr n).1 := by
  unfold reserveF reserve Strong
  rw [postF_getArr_bind]
  refine PostF.ite (fun h => ?_) fun h => ?_
  · rw [if_pos h]
    exact PostF.mono (growF_spec cfg thr n true x rest v.wf v.frame h)
      (fun _ _ hy => v.strong (n := 0) hy
        (congrArg List.length (grow_cells _ _ _ _ (Nat.lt_of_le_of_lt (Nat.zero_le _) h)))) fun _ h => h
  · rw [if_neg h]
    exact .pure ⟨rfl, v.frame, v.objs, v.good⟩

theorem shrinkF_strong (cfg : Cfg) (thr : Thr) (rest : List Nat) (k : Nat) (n : Nat) (x : Sys α)
    (v : Valid cfg rest k x) :
    Strong cfg rest k (shrinkF cfg thr n) x (shrink cfg x.arr n).1 := by
  unfold shrinkF shrink Strong
  rw [postF_getArr_bind]
  refine PostF.ite (fun h => ?_) fun h => ?_
  · rw [if_pos h]
    exact .pure ⟨rfl, v.frame, v.objs, v.good⟩
  · rw [if_neg h]
    simp only [Bool.or_eq_true, decide_eq_true_eq, not_or] at h
    refine PostF.mono (moveToF_spec cfg thr _ _ x rest v.wf v.frame fun _ _ => Nat.lt_of_le_of_ne v.wf.cap_ge (Ne.symm h.2))
      (fun _ _ hy => v.strong (n := 0) hy (congrArg List.length (moveTo_cells _ _ _ _ fun h0 => ?_))) fun _ h => h
    exact List.eq_nil_of_length_eq_zero (Nat.le_zero.mp (h0 ▸ Nat.le_max_right ..))

theorem own_init (cfg : Cfg) : ownBlocks cfg (State.init cfg : State α) = [] :=
  own_of_le (Nat.le_of_eq (capacity_init cfg))

theorem newCapF_spec (cfg : Cfg) (n : Nat) (x : Sys α) :
    PostF (newCapF cfg n) x
      (fun _ y => y.arr = (newCap cfg n).1 ∧ Frame cfg x.blocks y ∧ y.objs = x.objs ∧ y.bad = x.bad)
      (fun y => y.blocks = x.blocks ∧ y.objs = x.objs ∧ y.bad = x.bad) := by
  unfold newCapF newCap
  refine PostF.ite (fun h => ?_) fun h => ?_
  · rw [if_pos h]
    apply PostF.bind' _ _ (allocB_spec n x) (fun _ hy => ((core_eq_iff ..).mp hy).2)
    intro _ y hy
    obtain ⟨-, yb, yo, ybad⟩ := (core_eq_mk ..).mp hy
    rw [postF_step (post_setArr _ _)]
    exact ⟨rfl, by unfold Frame; rw [own_of_gt (s := { cells := [], cap := n, internal := false }) h]; exact yb, yo, ybad⟩
  · rw [if_neg h, postF_step (post_setArr _ _)]
    exact ⟨rfl, (congrArg (· ++ x.blocks) (own_init cfg)).symm, rfl, rfl⟩

theorem copyAllF_spec (thr : Thr) : ∀ (cs : List (Cell α)) (x : Sys α),
    PostF (copyAllF thr cs) x
      (fun _ y => y.arr = { x.arr with cells := x.arr.cells ++ cs } ∧ y.blocks = x.blocks ∧
        y.objs = x.objs + cs.length ∧ y.bad = x.bad)
      (fun y => y.arr.cap = x.arr.cap ∧ y.arr.internal = x.arr.internal ∧ y.blocks = x.blocks ∧
        y.objs + x.arr.cells.length = x.objs + y.arr.cells.length ∧ y.bad = x.bad)
  | [], x => .pure ⟨by rw [List.append_nil], rfl, rfl, rfl⟩
  | c :: cs, x => by
    unfold copyAllF addBackNogrowF
    rw [postF_bind_assoc]
    apply PostF.bind' _ _ (construct_spec thr.copy x)
    · intro y hy
      obtain ⟨ya, yb, yo, ybad⟩ := (core_eq_iff ..).mp hy
      rw [ya, yo]
      exact ⟨rfl, rfl, yb, rfl, ybad⟩
    · intro _ y hy
      obtain ⟨ya, yb, yo, ybad⟩ := (core_eq_objs ..).mp hy
      rw [postF_step_bind (post_modifyCells _ _)]
      apply PostF.mono (copyAllF_spec thr cs _)
      · rintro _ z ⟨za, zb, zo, zbad⟩
        refine ⟨by rw [za, ya]; show State.mk .. = State.mk ..; rw [List.append_assoc]; rfl, zb.trans yb, ?_,
          zbad.trans ybad⟩
        rw [zo]
        show y.objs + cs.length = x.objs + (cs.length + 1)
        rw [yo, Nat.add_assoc, Nat.add_comm 1]
      · rintro z ⟨z1, z2, zb, zo, zbad⟩
        have zo' : z.objs + (y.arr.cells.length + 1) = y.objs + z.arr.cells.length :=
          (List.length_append (as := y.arr.cells) (bs := [c])) ▸ zo
        rw [ya] at z1 z2 zo'
        exact ⟨z1, z2, zb.trans yb, by omega, zbad.trans ybad⟩

theorem destroyDataF_spec (cfg : Cfg) (z : Sys α) (rest : List Nat) (k : Nat)
    (hb : Frame cfg rest z) (ho : z.objs = z.arr.cells.length + k) :
    PostF (destroyDataF cfg) z (fun _ u => u.blocks = rest ∧ u.objs = k ∧ u.bad = z.bad) (fun _ => False) := by
  unfold destroyDataF
  rw [postF_getArr_bind, postF_step_bind (post_destroyObjs _ _)]
  refine release_spec (pre := []) hb (Nat.zero_le 1) fun z' hb' ho' hbad => ?_
  refine ⟨hb', ho'.trans ?_, hbad.trans ?_⟩
  · show z.objs - z.arr.cells.length = k
    rw [ho, Nat.add_sub_cancel_left]
  · show (z.bad || decide (z.objs < z.arr.cells.length)) = z.bad
    rw [ho, decide_eq_false (Nat.not_lt.mpr (Nat.le_add_right ..)), Bool.or_false]

theorem newFromF_spec (cfg : Cfg) (thr : Thr) (cap0 : Nat) (xs : List (Cell α)) (x : Sys α) :
    PostF (newFromF cfg thr cap0 xs) x
      (fun _ y => y.arr = (withCells (newCap cfg cap0) (fun _ => xs)).1 ∧ Frame cfg x.blocks y ∧
        y.objs = x.objs + xs.length ∧ y.bad = x.bad)
      (fun y => y.blocks = x.blocks ∧ y.objs = x.objs ∧ y.bad = x.bad) := by
  unfold newFromF
  apply PostF.bind _ (newCapF_spec cfg cap0 x)
  rintro _ y ⟨ya, yb, yo, ybad⟩
  have hc0 : y.arr.cells = [] := by
    rw [ya]; unfold newCap; split <;> rfl
  apply PostF.tryCatch _ (PostF.mono (copyAllF_spec thr xs y) _ (fun _ h => h))
  · -- the body threw: `mData` has the storage it was given and the items built so far
    rintro z ⟨z1, z2, zb, zo, zbad⟩
    have hown : ownBlocks cfg z.arr = ownBlocks cfg y.arr := by
      unfold ownBlocks capacity; rw [z1, z2]
    rw [hc0, List.length_nil, Nat.add_zero, Nat.add_comm] at zo
    apply Post.bind' _ _ (destroyDataF_spec cfg z x.blocks y.objs (by unfold Frame at yb ⊢; rw [zb, yb, hown]) zo).post (fun _ h => h.elim)
    exact fun _ u hu => (post_throw ..).mpr ⟨hu.1, hu.2.1.trans yo, hu.2.2.trans (zbad.trans ybad)⟩
  · rintro _ z ⟨za, zb, zo, zbad⟩
    have hz : z.arr = (withCells (newCap cfg cap0) (fun _ => xs)).1 := by
      rw [za, hc0, ya]; rfl
    exact ⟨hz, by unfold Frame at yb ⊢; rw [zb, yb, hz, ya]; rfl, by rw [zo, yo], zbad.trans ybad⟩

theorem onTemp_spec (m : FM α Unit) (x : Sys α) (Q' : Unit → Sys α → Prop) (E' : Sys α → Prop)
    (h : PostF m { x with arr := {} } Q' E') :
    PostF (onTemp m) x (fun t y => ∃ y', Q' () y' ∧ t = y'.arr ∧ y = { y' with arr := x.arr })
      (fun y => ∃ y', E' y' ∧ y = { y' with arr := x.arr }) := by
  unfold PostF Post at *
  dsimp only [onTemp] at *
  generalize m.run { x with arr := {} } = r at *
  obtain ⟨r, y⟩ := r
  cases r
  · exact ⟨⟨y, h.1, rfl, rfl⟩, h.2⟩
  · exact ⟨⟨y, h.1, rfl⟩, h.2⟩

theorem ownBlocks_length_le (cfg : Cfg) (s : State α) : (ownBlocks cfg s).length ≤ 1 := by
  unfold ownBlocks
  split
  · exact Nat.le_refl 1
  · exact Nat.zero_le 1

theorem copyAssignF_strong (cfg : Cfg) (thr : Thr) (rest : List Nat) (k : Nat) (src : State α) (x : Sys α)
    (v : Valid cfg rest k x) :
    Strong cfg rest k (copyAssignF cfg thr src) x (copyAssign cfg x.arr src).1 := by
  unfold copyAssignF Strong
  apply PostF.bind' _ _ (onTemp_spec (copyCtorF cfg thr src true) x _ _
    (newFromF_spec cfg thr src.cells.length src.cells { x with arr := {} }))
  · rintro y ⟨y', ⟨hb, ho, hbad⟩, rfl⟩
    exact (core_eq_iff ..).mpr ⟨rfl, hb, ho, hbad⟩
  · -- the temporary `y'.arr` is in the ledger in front of `*this`; `*this` is destroyed, the temporary moved in
    rintro t y ⟨y', ⟨ha, hb, ho, hbad⟩, rfl, rfl⟩
    rw [postF_getArr_bind, postF_step_bind (post_destroyObjs _ _)]
    refine release_spec (pre := ownBlocks cfg y'.arr) (rest := rest)
      (by show y'.blocks = _; rw [hb]; exact congrArg _ v.frame) (ownBlocks_length_le ..) fun z' hb' ho' hbad' => ?_
    have hobjs := v.objs
    refine ⟨by rw [ha]; rfl, hb', ho'.trans ?_, hbad'.trans ?_⟩
    · show y'.objs - x.arr.cells.length = src.cells.length + k
      rw [ho]; show x.objs + _ - _ = _; omega
    · show (y'.bad || decide (y'.objs < x.arr.cells.length)) = false
      rw [hbad, ho, decide_eq_false_iff_not.mpr, Bool.or_false]
      · exact v.good
      · show ¬ x.objs + _ < _; omega

end Momo.ArrF
