import Momo.Model.PoolU32
import Momo.Proof.PoolCache
/-!
  `MemPoolUInt32` (C09): index arithmetic and geometry - the decomposition of a 32-bit block index into buffer number
  and offset is a bijection, a block lies inside its buffer, distinct indices map to disjoint real blocks, real pointers are aligned as the buffers are (`rp_aligned`).
-/
namespace Momo.PoolU32
open Momo
open Momo.Pool (Ev ledger Disj Inside)

/-- legal configurations: `blockCount > 0` (static assertion 810), `mBlockSize >= sizeof(uint32_t)`, and
    `maxTotalBlockCount < max32` (assertion 828), which bounds every block index below `nullPtr` -/
structure Cfg.Legal (C : Cfg) : Prop where
  hN : 0 < C.N
  hS : sizeofU32 ≤ C.S
  hMax : C.maxBuf * C.N < nullPtr

theorem mkCfg_legal (blockCount blockSize maxTotal : Nat) (hN : 0 < blockCount) (hT : maxTotal < nullPtr) :
    (mkCfg blockCount blockSize maxTotal).Legal := by
  refine ⟨hN, ?_, ?_⟩
  · simp only [mkCfg]; split <;> omega
  · simp only [mkCfg]
    have := Nat.div_mul_le_self maxTotal blockCount
    omega

/-- the decomposition `GetRealPointer` uses -/
theorem index_roundtrip (C : Cfg) (hN : 0 < C.N) :
    (∀ i, bufferOf C i * C.N + offsetOf C i = i ∧ offsetOf C i < C.N) ∧
    (∀ k o, o < C.N → bufferOf C (k * C.N + o) = k ∧ offsetOf C (k * C.N + o) = o) := by
  constructor
  · intro i
    unfold bufferOf offsetOf
    have := Nat.div_add_mod i C.N
    rw [Nat.mul_comm] at this
    exact ⟨this, Nat.mod_lt _ hN⟩
  · intro k o ho
    unfold bufferOf offsetOf
    rw [Nat.mul_comm k C.N]
    constructor
    · rw [Nat.mul_add_div hN, Nat.div_eq_of_lt ho]; rfl
    · rw [Nat.mul_add_mod, Nat.mod_eq_of_lt ho]

theorem bufferOf_lt (C : Cfg) (n i : Nat) (hi : i < n * C.N) : bufferOf C i < n := by
  unfold bufferOf
  exact Nat.div_lt_of_lt_mul (by rw [Nat.mul_comm]; exact hi)

theorem rp_eq (C : Cfg) (st : State) (i : Nat) (hi : i < st.bufs.length * C.N) :
    ∃ b, st.bufs[bufferOf C i]? = some b ∧ b ∈ st.bufs ∧ realPtr C st i = some (b + ((offsetOf C i * C.S : Nat) : Int)) ∧
      rp C st i = b + ((offsetOf C i * C.S : Nat) : Int) := by
  have hk := bufferOf_lt C _ i hi
  refine ⟨st.bufs[bufferOf C i], List.getElem?_eq_getElem hk, List.getElem_mem hk, ?_, ?_⟩
  · unfold realPtr; rw [List.getElem?_eq_getElem hk]; rfl
  · unfold rp realPtr; rw [List.getElem?_eq_getElem hk]; rfl

theorem mul_succ_le (S o N : Nat) (ho : o < N) : S * o + S ≤ N * S := by
  have : (o + 1) * S ≤ N * S := Nat.mul_le_mul_right _ ho
  have e : (o + 1) * S = S * o + S := by rw [Nat.add_mul, Nat.one_mul, Nat.mul_comm]
  omega

theorem off_inside (C : Cfg) (hN : 0 < C.N) (i : Nat) :
    ((offsetOf C i * C.S : Nat) : Int) + C.S ≤ (C.bufferSize : Int) := by
  have := mul_succ_le C.S (offsetOf C i) C.N (Nat.mod_lt _ hN)
  rw [Nat.mul_comm] at this
  unfold Cfg.bufferSize
  omega

theorem rp_inside (C : Cfg) (hN : 0 < C.N) (st : State) (i : Nat) (hi : i < st.bufs.length * C.N) :
    ∃ b ∈ st.bufs, st.bufs[bufferOf C i]? = some b ∧ Inside (rp C st i) C.S b (b + C.bufferSize) := by
  obtain ⟨b, h1, h2, _, h4⟩ := rp_eq C st i hi
  refine ⟨b, h2, h1, ?_⟩
  have := off_inside C hN i
  unfold Inside; rw [h4]; omega

theorem rp_disj (C : Cfg) (hN : 0 < C.N) (st : State)
    (hd : st.bufs.Pairwise (fun a b => Disj a C.bufferSize b C.bufferSize))
    (i j : Nat) (hi : i < st.bufs.length * C.N) (hj : j < st.bufs.length * C.N) (hij : i ≠ j) :
    Disj (rp C st i) C.S (rp C st j) C.S := by
  obtain ⟨b1, g1, _, _, e1⟩ := rp_eq C st i hi
  obtain ⟨b2, g2, _, _, e2⟩ := rp_eq C st j hj
  have hk1 := bufferOf_lt C _ i hi
  have hk2 := bufferOf_lt C _ j hj
  have i1 := off_inside C hN i
  have i2 := off_inside C hN j
  rw [e1, e2]
  unfold Disj
  by_cases hk : bufferOf C i = bufferOf C j
  · -- same buffer: the offsets differ, so one block ends before the other starts
    rw [hk] at g1; rw [g1] at g2; cases g2
    have ho : offsetOf C i ≠ offsetOf C j := fun e => hij (by
      rw [← ((index_roundtrip C hN).1 i).1, ← ((index_roundtrip C hN).1 j).1, hk, e])
    have := (Nat.lt_or_gt_of_ne ho).imp (Nat.mul_le_mul_right C.S) (Nat.mul_le_mul_right C.S)
    simp only [Nat.succ_mul] at this
    omega
  · -- different buffers do not overlap and each block lies inside its own
    rw [List.getElem?_eq_getElem hk1] at g1; rw [List.getElem?_eq_getElem hk2] at g2
    cases g1; cases g2
    have hp := List.pairwise_iff_getElem.mp hd
    have := (Nat.lt_or_gt_of_ne hk).imp (hp _ _ hk1 hk2) (hp _ _ hk2 hk1)
    unfold Disj at this
    omega

theorem rp_aligned (C : Cfg) (st : State) (a : Int) (hS : a ∣ (C.S : Int)) (hb : ∀ b ∈ st.bufs, a ∣ b)
    (i : Nat) (hi : i < st.bufs.length * C.N) : a ∣ rp C st i := by
  obtain ⟨b, _, hm, _, e⟩ := rp_eq C st i hi
  rw [e]
  apply Int.dvd_add (hb b hm)
  rw [Int.natCast_mul]
  obtain ⟨c, hc⟩ := hS
  exact ⟨(offsetOf C i : Int) * c, by rw [hc, Int.mul_left_comm]⟩

end Momo.PoolU32
