import Momo.Model.Obj
/-! The object life-cycle model: its primitives keep the recorded trace well-formed (`TraceOK`); ranges of cells (`fill`) and
  what the three loops (`destroyRange`, `copyLoop`, `relocateRange`) leave in memory (core Lean only). -/
namespace Momo.Obj

@[simp] theorem Mem.set_same (m : Mem) (a : Nat) (s : Slot) : (m.set a s) a = s := by simp [Mem.set]
theorem Mem.set_ne (m : Mem) (a b : Nat) (s : Slot) (h : b ≠ a) : (m.set a s) b = m b := by simp [Mem.set, h]

theorem Mem.set_set (m : Mem) (a : Nat) (u v : Slot) : (m.set a u).set a v = m.set a v := by
  funext x
  by_cases h : x = a
  · subst h; rw [Mem.set_same, Mem.set_same]
  · rw [Mem.set_ne _ _ _ _ h, Mem.set_ne _ _ _ _ h, Mem.set_ne _ _ _ _ h]

theorem Mem.set_comm (m : Mem) {a b : Nat} (h : a ≠ b) (u v : Slot) : (m.set a u).set b v = (m.set b v).set a u := by
  funext x
  by_cases hb : x = b
  · subst hb; rw [Mem.set_same, Mem.set_ne _ _ _ _ (Ne.symm h), Mem.set_same]
  · rw [Mem.set_ne _ _ _ _ hb]
    by_cases ha : x = a
    · subst ha; rw [Mem.set_same, Mem.set_same]
    · rw [Mem.set_ne _ _ _ _ ha, Mem.set_ne _ _ _ _ ha, Mem.set_ne _ _ _ _ hb]

theorem replay_append (occ : Nat → Bool) (xs ys : List Ev) :
    replay occ (xs ++ ys) = (replay occ xs).bind (fun o => replay o ys) := by
  induction xs generalizing occ with
  | nil => rfl
  | cons e es ih =>
    cases e with
    | ctor a => simp only [List.cons_append, replay, ih]; cases occ a <;> rfl
    | dtor a => simp only [List.cons_append, replay, ih]; cases occ a <;> rfl
    | reloc s d => simp only [List.cons_append, replay, ih]; cases (occ s && !occ d && s != d) <;> rfl
    | use a => simp only [List.cons_append, replay, ih]; cases occ a <;> rfl

def TraceOK (occ0 : Nat → Bool) (s : St) : Prop := replay occ0 s.evs = some (occOf s.mem)

theorem TraceOK.congr {occ0 : Nat → Bool} {s s' : St} (ht : TraceOK occ0 s) (hm : s'.mem = s.mem) (he : s'.evs = s.evs) :
    TraceOK occ0 s' := by
  unfold TraceOK at *
  rw [he, hm]; exact ht

theorem occOf_set_live (m : Mem) (a v : Nat) :
    occOf (m.set a (.live v)) = fun x => if x = a then true else occOf m x := by
  funext x; by_cases h : x = a <;> simp [occOf, Mem.set, h]

theorem occOf_set_moved (m : Mem) (a v : Nat) :
    occOf (m.set a (.moved v)) = fun x => if x = a then true else occOf m x := by
  funext x; by_cases h : x = a <;> simp [occOf, Mem.set, h]

theorem occOf_set_raw (m : Mem) (a : Nat) :
    occOf (m.set a .raw) = fun x => if x = a then false else occOf m x := by
  funext x; by_cases h : x = a <;> simp [occOf, Mem.set, h]

theorem occOf_true {m : Mem} {a : Nat} (h : m a ≠ .raw) : occOf m a = true := by simp [occOf, h]
theorem occOf_false {m : Mem} {a : Nat} (h : m a = .raw) : occOf m a = false := by simp [occOf, h]

theorem nextFault_mem_evs (s : St) : (s.nextFault).2.mem = s.mem ∧ (s.nextFault).2.evs = s.evs := by
  unfold St.nextFault; cases s.faults <;> simp

/-- the two outcomes of a fallible construction of `.live val` in the raw cell `a` (`Copy`, the caller's `exec`) -/
inductive Made (occ0 : Nat → Bool) (s : St) (a val : Nat) : St × Res → Prop
  | threw (s' : St) (hm : s'.mem = s.mem) (he : s'.evs = s.evs) : Made occ0 s a val (s', .threw)
  | ok (s' : St) (ht : TraceOK occ0 s') (hm : s'.mem = s.mem.set a (.live val)) : Made occ0 s a val (s', .ok)

theorem copy_made {occ0 : Nat → Bool} {s : St} {src dst : Nat} (ht : TraceOK occ0 s) (hs : s.mem src ≠ .raw)
    (hd : s.mem dst = .raw) : Made occ0 s dst (valOf (s.mem src)) (copy s src dst) := by
  unfold copy
  obtain ⟨hm, he⟩ := nextFault_mem_evs s
  generalize s.nextFault = p at hm he ⊢
  obtain ⟨f, t⟩ := p
  simp only at hm he
  cases f with
  | true => exact .threw t hm he
  | false =>
    refine .ok _ ?_ (by simp [hm])
    unfold TraceOK at *
    simp only [hm, he, replay_append, ht, Option.bind_some, replay]
    rw [occOf_true hs, occOf_false hd]
    simp [occOf_set_live]

theorem destroy_ok {occ0 : Nat → Bool} {s : St} {a : Nat} (ht : TraceOK occ0 s) (ha : s.mem a ≠ .raw) :
    TraceOK occ0 (destroy s a) := by
  unfold TraceOK destroy at *
  simp only [replay_append, ht, Option.bind_some, replay, occOf_true ha, if_true, occOf_set_raw]

theorem execCreate_made {occ0 : Nat → Bool} {s : St} {a : Nat} (v : Nat) (ht : TraceOK occ0 s) (ha : s.mem a = .raw) :
    Made occ0 s a v (execCreate s a v) := by
  unfold execCreate
  obtain ⟨hm, he⟩ := nextFault_mem_evs s
  generalize s.nextFault = p at hm he ⊢
  obtain ⟨f, t⟩ := p
  simp only at hm he
  cases f with
  | true => exact .threw t hm he
  | false =>
    refine .ok _ ?_ (by simp [hm])
    unfold TraceOK at *
    simp only [hm, he, replay_append, ht, Option.bind_some, replay, occOf_false ha]
    simp [occOf_set_live]

/-- relocation by move construction and destruction of the moved-from source (the categories other than `triv`) -/
theorem relocate1_move {occ0 : Nat → Bool} (c : Cat) (hc : c ≠ .triv) {s : St} {src dst : Nat} (ht : TraceOK occ0 s)
    (hs : s.mem src ≠ .raw) (hd : s.mem dst = .raw) (hne : src ≠ dst) :
    TraceOK occ0 (relocate1 c s src dst) ∧
    (relocate1 c s src dst).mem = (s.mem.set dst (.live (valOf (s.mem src)))).set src .raw := by
  rw [show relocate1 c s src dst = destroy { s with
      mem := (s.mem.set dst (.live (valOf (s.mem src)))).set src (.moved (valOf (s.mem src))),
      evs := s.evs ++ [.use src, .ctor dst] } src by cases c <;> first | exact absurd rfl hc | rfl]
  refine ⟨destroy_ok ?_ (by show Mem.set _ src _ src ≠ .raw; rw [Mem.set_same]; exact Slot.noConfusion), Mem.set_set _ _ _ _⟩
  unfold TraceOK at *
  show replay occ0 (s.evs ++ [.use src, .ctor dst]) = some (occOf ((s.mem.set dst _).set src _))
  rw [replay_append, ht, occOf_set_moved, occOf_set_live]
  simp only [Option.bind_some, replay, occOf_true hs, occOf_false hd, if_true, Bool.false_eq_true, if_false]
  -- the source was occupied and stays so until its destructor runs
  congr 1; funext x
  by_cases h : x = src
  · subst h; rw [if_pos rfl, if_neg hne, occOf_true hs]
  · rw [if_neg h]

theorem relocate1_ok {occ0 : Nat → Bool} (c : Cat) {s : St} {src dst : Nat} (ht : TraceOK occ0 s)
    (hs : s.mem src ≠ .raw) (hd : s.mem dst = .raw) (hne : src ≠ dst) :
    TraceOK occ0 (relocate1 c s src dst) ∧
    (relocate1 c s src dst).mem = (s.mem.set dst (.live (valOf (s.mem src)))).set src .raw := by
  cases c with
  | triv =>
    refine ⟨?_, rfl⟩
    unfold TraceOK relocate1 at *
    simp only [replay_append, ht, Option.bind_some, replay, occOf_true hs, occOf_false hd]
    have : (src != dst) = true := by simp [hne]
    simp only [this, Bool.and_self, Bool.not_false, if_true]
    rw [occOf_set_raw, occOf_set_live]
    congr 1; funext x
    by_cases h : x = src
    · subst h; rw [if_neg hne, if_pos rfl, if_pos rfl]
    · simp only [if_neg h]
  | nmove => exact relocate1_move .nmove nofun ht hs hd hne
  | copyOnly => exact relocate1_move .copyOnly nofun ht hs hd hne

def fill (m : Mem) (a n : Nat) (f : Nat → Slot) : Mem := fun x => if a ≤ x ∧ x < a + n then f (x - a) else m x

theorem fill_in {m : Mem} {a n : Nat} {f : Nat → Slot} {x : Nat} (h : a ≤ x ∧ x < a + n) : fill m a n f x = f (x - a) :=
  if_pos h

theorem fill_out {m : Mem} {a n : Nat} {f : Nat → Slot} {x : Nat} (h : ¬ (a ≤ x ∧ x < a + n)) : fill m a n f x = m x :=
  if_neg h

theorem fill_at {m : Mem} {a n : Nat} {f : Nat → Slot} {i : Nat} (h : i < n) : fill m a n f (a + i) = f i := by
  rw [fill_in ⟨Nat.le_add_right _ _, Nat.add_lt_add_left h _⟩, Nat.add_sub_cancel_left]

theorem fill_zero (m : Mem) (a : Nat) (f : Nat → Slot) : fill m a 0 f = m :=
  funext fun _ => fill_out (fun h => Nat.lt_irrefl _ (Nat.lt_of_le_of_lt h.1 h.2))

/-- the loops fill a range from its first cell -/
theorem fill_succ (m : Mem) (a n : Nat) (f : Nat → Slot) :
    fill (m.set a (f 0)) (a + 1) n (fun i => f (i + 1)) = fill m a (n + 1) f := by
  funext x
  by_cases h : a + 1 ≤ x ∧ x < a + 1 + n
  · rw [fill_in h, fill_in (by omega)]
    congr 1; omega
  · rw [fill_out h]
    by_cases hx : x = a
    · subst hx; rw [Mem.set_same, fill_in (by omega), Nat.sub_self]
    · rw [Mem.set_ne _ _ _ _ hx, fill_out (by omega)]

theorem fill_congr {m : Mem} {a n : Nat} {f g : Nat → Slot} (h : ∀ i, i < n → f i = g i) : fill m a n f = fill m a n g := by
  funext x
  by_cases hx : a ≤ x ∧ x < a + n
  · rw [fill_in hx, fill_in hx]; exact h _ (by omega)
  · rw [fill_out hx, fill_out hx]

theorem fill_self {m : Mem} {a n : Nat} {f : Nat → Slot} (h : ∀ i, i < n → m (a + i) = f i) : fill m a n f = m := by
  funext x
  by_cases hx : a ≤ x ∧ x < a + n
  · rw [fill_in hx, ← h _ (by omega)]; congr 1; omega
  · exact fill_out hx

theorem fill_fill (m : Mem) (a n : Nat) (f g : Nat → Slot) : fill (fill m a n f) a n g = fill m a n g := by
  funext x
  by_cases hx : a ≤ x ∧ x < a + n
  · rw [fill_in hx, fill_in hx]
  · rw [fill_out hx, fill_out hx, fill_out hx]

theorem fill_set {m : Mem} {a n b : Nat} {f : Nat → Slot} (hb : ¬ (a ≤ b ∧ b < a + n)) (v : Slot) :
    fill (m.set b v) a n f = (fill m a n f).set b v := by
  funext x
  by_cases hx : x = b
  · subst hx; rw [fill_out hb, Mem.set_same, Mem.set_same]
  · rw [Mem.set_ne _ _ _ _ hx]
    by_cases h : a ≤ x ∧ x < a + n
    · rw [fill_in h, fill_in h]
    · rw [fill_out h, fill_out h, Mem.set_ne _ _ _ _ hx]

theorem fill_comm {m : Mem} {a n b k : Nat} {f g : Nat → Slot} (hd : a + n ≤ b ∨ b + k ≤ a) :
    fill (fill m a n f) b k g = fill (fill m b k g) a n f := by
  funext x
  by_cases h1 : b ≤ x ∧ x < b + k
  · rw [fill_in h1, fill_out (by omega), fill_in h1]
  · rw [fill_out h1]
    by_cases h2 : a ≤ x ∧ x < a + n
    · rw [fill_in h2, fill_in h2]
    · rw [fill_out h2, fill_out h2, fill_out h1]

theorem destroyRange_spec {occ0 : Nat → Bool} (n : Nat) : ∀ (s : St) (a : Nat), TraceOK occ0 s →
    (∀ i, i < n → s.mem (a + i) ≠ .raw) →
    TraceOK occ0 (destroyRange s a n) ∧ (destroyRange s a n).mem = fill s.mem a n (fun _ => .raw) := by
  induction n with
  | zero => intro s a ht _; exact ⟨ht, (fill_zero _ _ _).symm⟩
  | succ n ih =>
    intro s a ht hl
    obtain ⟨t, m⟩ := ih (destroy s a) (a + 1) (destroy_ok ht (hl 0 (Nat.succ_pos n))) (fun i hi => by
      rw [show (destroy s a).mem = s.mem.set a .raw from rfl, Mem.set_ne _ _ _ _ (by omega), Nat.add_right_comm]
      exact hl (i + 1) (Nat.succ_lt_succ hi))
    exact ⟨t, m.trans (fill_succ s.mem a n (fun _ => .raw))⟩

theorem copyLoop_spec {occ0 : Nat → Bool} (n : Nat) : ∀ (s : St) (src dst done : Nat), TraceOK occ0 s →
    (∀ i, i < n → s.mem (src + i) ≠ .raw) → (∀ i, i < n → s.mem (dst + i) = .raw) →
    (src + n ≤ dst ∨ dst + n ≤ src) →
    TraceOK occ0 (copyLoop s src dst n done).1 ∧
    ∃ k, k ≤ n ∧ (copyLoop s src dst n done).2.2 = done + k ∧ ((copyLoop s src dst n done).2.1 = .ok → k = n) ∧
      (copyLoop s src dst n done).1.mem = fill s.mem dst k (fun i => .live (valOf (s.mem (src + i)))) := by
  induction n with
  | zero => intro s src dst done ht _ _ _; exact ⟨ht, 0, Nat.le_refl _, rfl, fun _ => rfl, (fill_zero _ _ _).symm⟩
  | succ n ih =>
    intro s src dst done ht hl hr hd
    unfold copyLoop
    have hc := copy_made ht (hl 0 (Nat.succ_pos n)) (hr 0 (Nat.succ_pos n))
    generalize copy s src dst = r at hc ⊢
    cases hc with
    | threw s' hm he =>
      exact ⟨ht.congr hm he, 0, Nat.zero_le _, rfl, fun h => (nomatch h), hm.trans (fill_zero _ _ _).symm⟩
    | ok s' ht' hm =>
      have hsrc : ∀ i, i < n → s'.mem (src + 1 + i) = s.mem (src + (i + 1)) := fun i hi => by
        rw [hm, Mem.set_ne _ _ _ _ (by omega), Nat.add_right_comm]; rfl
      obtain ⟨t, k, hk, hdone, hok, m⟩ := ih s' (src + 1) (dst + 1) (done + 1) ht'
        (fun i hi => by rw [hsrc i hi]; exact hl (i + 1) (Nat.succ_lt_succ hi))
        (fun i hi => by
          rw [hm, Mem.set_ne _ _ _ _ (by omega), Nat.add_right_comm]; exact hr (i + 1) (Nat.succ_lt_succ hi))
        (by omega)
      refine ⟨t, k + 1, Nat.succ_le_succ hk, by rw [hdone]; omega, fun h => by rw [hok h], ?_⟩
      rw [m, fill_congr (fun i hi => by rw [hsrc i (Nat.lt_of_lt_of_le hi hk)]), hm]
      exact fill_succ s.mem dst k (fun i => .live (valOf (s.mem (src + i))))

theorem copyLoop_faults_mono (n : Nat) : ∀ (s : St) (src dst done : Nat),
    (copyLoop s src dst n done).1.faults.length ≤ s.faults.length := by
  induction n with
  | zero => intro s _ _ _; simp [copyLoop]
  | succ n ih =>
    intro s src dst done
    unfold copyLoop
    have hf : ∀ s' r, copy s src dst = (s', r) → s'.faults.length ≤ s.faults.length := by
      intro s' r h
      unfold copy St.nextFault at h
      cases hfl : s.faults with
      | nil => simp only [hfl] at h; simp at h; obtain ⟨rfl, _⟩ := h; simp
      | cons f fs =>
        simp only [hfl] at h
        by_cases hf : f <;> simp [hf] at h <;> obtain ⟨rfl, _⟩ := h <;> simp
    cases hc : copy s src dst with
    | mk s' r =>
      cases r with
      | threw => simpa using hf _ _ hc
      | ok => simp only; exact Nat.le_trans (ih s' _ _ _) (hf _ _ hc)

theorem relocateRange_spec {occ0 : Nat → Bool} (c : Cat) (n : Nat) : ∀ (s : St) (src dst : Nat), TraceOK occ0 s →
    (∀ i, i < n → s.mem (src + i) ≠ .raw) → (∀ i, i < n → s.mem (dst + i) = .raw) →
    (src + n ≤ dst ∨ dst + n ≤ src) →
    TraceOK occ0 (relocateRange c s src dst n) ∧
    (relocateRange c s src dst n).mem =
      fill (fill s.mem src n (fun _ => .raw)) dst n (fun i => .live (valOf (s.mem (src + i)))) := by
  induction n with
  | zero => intro s src dst ht _ _ _; exact ⟨ht, ((fill_zero _ _ _).trans (fill_zero _ _ _)).symm⟩
  | succ n ih =>
    intro s src dst ht hl hr hd
    obtain ⟨ht', hm⟩ := relocate1_ok c (src := src) (dst := dst) ht (hl 0 (Nat.succ_pos n)) (hr 0 (Nat.succ_pos n)) (by omega)
    have hsrc : ∀ i, i < n → (relocate1 c s src dst).mem (src + 1 + i) = s.mem (src + (i + 1)) := fun i hi => by
      rw [hm, Mem.set_ne _ _ _ _ (by omega), Mem.set_ne _ _ _ _ (by omega), Nat.add_right_comm]; rfl
    obtain ⟨t, m⟩ := ih (relocate1 c s src dst) (src + 1) (dst + 1) ht'
      (fun i hi => by rw [hsrc i hi]; exact hl (i + 1) (Nat.succ_lt_succ hi))
      (fun i hi => by
        rw [hm, Mem.set_ne _ _ _ _ (by omega), Mem.set_ne _ _ _ _ (by omega), Nat.add_right_comm]
        exact hr (i + 1) (Nat.succ_lt_succ hi))
      (by omega)
    refine ⟨t, ?_⟩
    -- the source cell is cleared first, then the destination cell written: both loops start one cell later
    rw [show relocateRange c s src dst (n + 1) = relocateRange c (relocate1 c s src dst) (src + 1) (dst + 1) n from rfl, m,
      fill_congr (fun i hi => by rw [hsrc i hi]), hm, Mem.set_comm _ (by omega), fill_set (by omega),
      fill_succ s.mem src n (fun _ => .raw)]
    exact fill_succ _ dst n (fun i => .live (valOf (s.mem (src + i))))

end Momo.Obj
