import Momo.Proof.HashTableAbs
/-!
  C01/C11: the operations that change ONE table, each as a single statement: invariant + contents (+ strong guarantee). Results in
  their own right; each restates what an earlier file proves, which its proof term names. (`Find` is `findVal_eq` in `HashTableAbs`,
  `MergeTo` is `mergeTo_spec` / `mergeTo_inv` in `HashTableMerge`.)
  Suffixes: elsewhere in this area `f_spec` and `f_inv` both state invariant AND contents; here `f_inv` names the summary of `f`.
  `_partial` marks a statement that needs a side condition on the fault value or on the table size (visible as a hypothesis); the
  unrestricted statements are false for the model (`unrestricted_faults_counterexample` in `Proof/HashTableRefine.lean`).
-/
namespace Momo.HT
open Momo Momo.Probe

/-- `pvAdd` of an absent key. PARTIAL: for `sp.nothrowReloc` the fault value must not stop the migration
    (`hF`) — otherwise false, see `unrestricted_faults_counterexample`. -/
theorem add_inv_partial (sp : Spec) (hf : Nat → Nat) (ok : SpecOK sp) (t : Table) (it : Item) (f : Faults)
    (hI : TableInv sp hf t) (hF : FaultsOK sp f) (hk : ∀ x ∈ traverse t, x.key ≠ it.key) :
    TableInv sp hf (add sp hf t it f).1 ∧
    ((add sp hf t it f).2 ≠ .ok → (add sp hf t it f).1 = t) ∧
    ((add sp hf t it f).2 = .ok → (traverse (add sp hf t it f).1).Perm (it :: traverse t)) :=
  ⟨add_keeps_inv sp hf ok t it f hI hF hk, add_fail_unchanged sp hf t it f,
    fun hok => (add_ok sp hf ok t it f hI hF hk hok).2⟩

/-- `pvRemove` at the position `pvFind` returned -/
theorem removePos_inv (sp : Spec) (hf : Nat → Nat) (t : Table) (hI : TableInv sp hf t) (k gi b j : Nat)
    (hfnd : findTable sp hf t k = some (gi, b, j)) :
    TableInv sp hf (removePos sp t gi b j) ∧
    ∃ it, it.key = k ∧ (it :: traverse (removePos sp t gi b j)).Perm (traverse t) := by
  obtain ⟨g, hg, hj, hkey, _⟩ := found_item sp hf t k gi b j hfnd
  obtain ⟨i1, i2⟩ := removePos_spec sp hf t hI gi b j g _ hg hj
  exact ⟨i1, _, hkey, i2⟩

/-- `Reserve`. PARTIAL: same side condition on the fault value as `add_inv_partial`. -/
theorem reserve_inv_partial (sp : Spec) (hf : Nat → Nat) (ok : SpecOK sp) (t : Table) (c : Nat) (f : Faults)
    (hI : TableInv sp hf t) (hF : FaultsOK sp f) :
    TableInv sp hf (reserve sp hf t c f).1 ∧ (traverse (reserve sp hf t c f).1).Perm (traverse t) ∧
    ((reserve sp hf t c f).2 ≠ .ok → (reserve sp hf t c f).1 = t) :=
  reserve_spec sp hf ok t c f hI hF

theorem clear_inv (sp : Spec) (hf : Nat → Nat) (ok : SpecOK sp) (t : Table) (shrink : Bool)
    (hI : TableInv sp hf t) : TableInv sp hf (clear sp t shrink) ∧ traverse (clear sp t shrink) = [] :=
  clear_spec sp hf ok t shrink hI

/-- copy constructor. PARTIAL: the copy's bucket array, whose size the model searches with fuel 64
    from `logStart`, must have a slot for every element (`CopyFits`; implied by
    `count ≤ capacityOf sp (logStart + j)` for some `j < 64`, `copyFits_of_cap`). For larger counts
    the model's copy loop silently skips items that find no slot. -/
theorem copyOf_inv_partial (sp : Spec) (hf : Nat → Nat) (ok : SpecOK sp) (t : Table)
    (hI : TableInv sp hf t) (hfit : CopyFits sp t) :
    TableInv sp hf (copyOf sp hf t) ∧ (traverse (copyOf sp hf t)).Perm (traverse t) :=
  copyOf_spec sp hf ok t hI hfit

theorem removePred_inv (sp : Spec) (hf : Nat → Nat) (t : Table) (pred : Item → Bool)
    (hI : TableInv sp hf t) :
    TableInv sp hf (removePred t pred).1 ∧
    (traverse (removePred t pred).1).Perm ((traverse t).filter (fun x => !pred x)) ∧
    (removePred t pred).2 = ((traverse t).filter pred).length :=
  removePred_spec sp hf t pred hI

end Momo.HT
