import Momo.Proof.MMLedgerArr
import Momo.Proof.MMapKeyMap
/-!
  C03 / C04 for `momo::HashMultiMap`: the operations on one key on the ledger (`Add(key, …)`, `Add(keyIter, …)`, `InsertKey`,
  `Remove(keyIter, i)`, `RemoveValues`, `RemoveKey`, `ResetKey`).  For every configuration, hash function, state, arguments and fault record:
  if the monitor holds exactly the container's books plus a frame, then after the operation it holds exactly the NEW books plus the same
  frame; a failing strongly exception-safe operation returns the very same container (`OpPost`).  The key table's part of each statement is the
  corresponding lemma of `HTLedgerOps` / `HTLedgerReloc` / `HTLedgerSys` with the value side as its frame.
-/
namespace Momo.MML
open Momo Momo.HT Momo.Ledger Momo.MMap Momo.HTL

theorem lookV_split {l : VBs} {k : Nat} {b : VB} (h : lookV l k = some b) :
    ∃ l1 l2, l = l1 ++ (k, b) :: l2 ∧ dropV l k = l1 ++ l2 := by
  induction l with
  | nil => cases h
  | cons p r ih =>
    obtain ⟨k', b0⟩ := p
    by_cases hk : k' = k
    · rw [lookV, if_pos hk, Option.some.injEq] at h
      exact ⟨[], r, by rw [hk, h]; rfl, by rw [dropV, if_pos hk]; rfl⟩
    · rw [lookV, if_neg hk] at h
      obtain ⟨l1, l2, h1, h2⟩ := ih h
      exact ⟨(k', b0) :: l1, l2, by rw [h1]; rfl, by rw [dropV, if_neg hk, h2]; rfl⟩

theorem lookV_none_drop {l : VBs} {k : Nat} (h : lookV l k = none) : dropV l k = l := by
  induction l with
  | nil => rfl
  | cons p r ih =>
    obtain ⟨k', b0⟩ := p
    by_cases hk : k' = k
    · rw [lookV, if_pos hk] at h; cases h
    · rw [lookV, if_neg hk] at h
      rw [dropV, if_neg hk, ih h]

theorem vObjs_append (l1 l2 : VBs) : vObjs (l1 ++ l2) = vObjs l1 ++ vObjs l2 := by simp [vObjs]
theorem vHeaps_append (l1 l2 : VBs) : vHeaps (l1 ++ l2) = vHeaps l1 ++ vHeaps l2 := by simp [vHeaps]
theorem vObjs_cons (k : Nat) (b : VB) (l : VBs) : vObjs ((k, b) :: l) = b.objs ++ vObjs l := rfl
theorem vHeaps_cons (k : Nat) (b : VB) (l : VBs) : vHeaps ((k, b) :: l) = optL b.heap ++ vHeaps l := rfl

theorem flatten_split {α : Type} (F : VB → List α) (hF : F {} = []) (l : VBs) (k : Nat) :
    ((l.map (fun p => F p.2)).flatten).Perm (F (getV l k) ++ ((dropV l k).map (fun p => F p.2)).flatten) := by
  cases hl : lookV l k with
  | none => rw [getV, hl, lookV_none_drop hl, Option.getD_none, hF]; exact .refl _
  | some b =>
    obtain ⟨l1, l2, h1, h2⟩ := lookV_split hl
    rw [getV, hl, h2, Option.getD_some]
    conv => lhs; rw [h1]
    simp only [List.map_append, List.map_cons, List.flatten_append, List.flatten_cons]
    exact List.perm_append_comm_assoc ..

theorem vObjs_split (l : VBs) (k : Nat) : (vObjs l).Perm ((getV l k).objs ++ vObjs (dropV l k)) :=
  flatten_split (·.objs) rfl l k

theorem vHeaps_split (l : VBs) (k : Nat) : (vHeaps l).Perm (optL (getV l k).heap ++ vHeaps (dropV l k)) :=
  flatten_split (fun b => optL b.heap) rfl l k

def vblk (cfg : Cfg) (crew : Option Nat) (heaps pbufs : List (Nat × Nat)) : List Blk :=
  (optL crew).map (fun b => (b, cfg.h.mgr, cfg.vsz)) ++ heaps.map (blkOf cfg.h) ++ pbufs.map (blkOf cfg.h)

theorem vblocks_eq (cfg : Cfg) (st : St) : st.vblocks cfg = vblk cfg st.vcrew (vHeaps st.vbs) st.pbufs := rfl

theorem vblk_perm (cfg : Cfg) (crew : Option Nat) {h1 h2 : List (Nat × Nat)} (pbufs : List (Nat × Nat)) (hp : h1.Perm h2) :
    (vblk cfg crew h1 pbufs).Perm (vblk cfg crew h2 pbufs) :=
  ((hp.map _).append_left _).append_right _

def restB (cfg : Cfg) (st : St) (k : Nat) : List Blk := st.kt.blocks cfg.h ++ vblk cfg st.vcrew (vHeaps (dropV st.vbs k)) st.pbufs
def restE (st : St) (k : Nat) : List Nat := st.kt.elems ++ vObjs (dropV st.vbs k)

theorem blocks_out (cfg : Cfg) (KB : List Blk) (crew : Option Nat) (h0 hs pbufs : List (Nat × Nat)) (FB : List Blk) :
    ((KB ++ vblk cfg crew (h0 ++ hs) pbufs) ++ FB).Perm (h0.map (blkOf cfg.h) ++ ((KB ++ vblk cfg crew hs pbufs) ++ FB)) := by
  simp only [vblk, List.map_append, List.append_assoc]
  exact ListFacts.perm_out2 ..

theorem elems_out (KE o os FE : List Nat) : ((KE ++ (o ++ os)) ++ FE).Perm (o ++ ((KE ++ os) ++ FE)) := by
  rw [← List.append_assoc o]
  exact (List.perm_append_comm_assoc ..).append_right _

theorem key_blocks (cfg : Cfg) (st : St) (k : Nat) (FB : List Blk) :
    (st.blocks cfg ++ FB).Perm (hbk cfg (getV st.vbs k) ++ (restB cfg st k ++ FB)) :=
  (((vblk_perm cfg st.vcrew st.pbufs (vHeaps_split st.vbs k)).append_left _).append_right _).trans (blocks_out ..)

theorem key_elems (st : St) (k : Nat) (FE : List Nat) :
    (st.elems ++ FE).Perm ((getV st.vbs k).objs ++ (restE st k ++ FE)) :=
  (((vObjs_split st.vbs k).append_left _).append_right _).trans (elems_out ..)

/-- The scheme of the `key_…` / `kt_…` lemmas: `key_out` sets the books of key `k` (its heap block, its value objects) in front,
    `restB` / `restE` = everything else of the container; an array step then runs with `rest… ++ frame` as its frame;
    after a failed step the SAME books of `k` go back by the same two permutations (`setKey_led`), `key_in` puts NEW books `b` with
    the new value count `c`, `key_new` books a new key with its first value, `key_clear` drops the array of `k`.
    `kt_out` / `kt_in` do the same for the key table with the value side as frame. -/
theorem key_out {cfg : Cfg} {st : St} {w : W} {FB : List Blk} {FE : List Nat} (k : Nat)
    (h : Led w (st.blocks cfg ++ FB) (st.elems ++ FE)) :
    Led w (hbk cfg (getV st.vbs k) ++ (restB cfg st k ++ FB)) ((getV st.vbs k).objs ++ (restE st k ++ FE)) :=
  h.perm (key_blocks cfg st k FB) (key_elems st k FE)

theorem key_in {cfg : Cfg} {st : St} {w : W} {FB : List Blk} {FE : List Nat} (k : Nat) (b : VB) (c : Nat)
    (h : Led w (hbk cfg b ++ (restB cfg st k ++ FB)) (b.objs ++ (restE st k ++ FE))) :
    Led w (({ st with vbs := setV st.vbs k b, count := c } : St).blocks cfg ++ FB)
      (({ st with vbs := setV st.vbs k b, count := c } : St).elems ++ FE) :=
  h.perm (blocks_out cfg (st.kt.blocks cfg.h) st.vcrew (optL b.heap) (vHeaps (dropV st.vbs k)) st.pbufs FB).symm
    (elems_out st.kt.elems b.objs (vObjs (dropV st.vbs k)) FE).symm

theorem kt_out {cfg : Cfg} {st : St} {w : W} {FB : List Blk} {FE : List Nat}
    (h : Led w (st.blocks cfg ++ FB) (st.elems ++ FE)) :
    Led w (st.kt.blocks cfg.h ++ (st.vblocks cfg ++ FB)) (st.kt.elems ++ (vObjs st.vbs ++ FE)) := by
  rw [← List.append_assoc, ← List.append_assoc]
  exact h

theorem kt_in {cfg : Cfg} {st : St} {w : W} {FB : List Blk} {FE : List Nat} (kt : HTL.St)
    (h : Led w (kt.blocks cfg.h ++ (st.vblocks cfg ++ FB)) (kt.elems ++ (vObjs st.vbs ++ FE))) :
    Led w (({ st with kt := kt } : St).blocks cfg ++ FB) (({ st with kt := kt } : St).elems ++ FE) := by
  rw [← List.append_assoc, ← List.append_assoc] at h
  exact h

theorem key_new {cfg : Cfg} (st : St) {w : W} {FB : List Blk} {FE : List Nat} (k : Nat) (a : VArr) (c : Nat)
    (h : Led w (st.blocks cfg ++ FB) (st.elems ++ FE)) :
    Led w.ctorE.2 (({ st with vbs := (k, { arr := a, objs := [w.ctorE.1], heap := none }) :: st.vbs, count := c } : St).blocks cfg ++ FB)
      (({ st with vbs := (k, { arr := a, objs := [w.ctorE.1], heap := none }) :: st.vbs, count := c } : St).elems ++ FE) := by
  refine h.ctor.permE ?_
  simp only [St.elems, vObjs_cons, List.append_assoc]
  exact List.perm_middle.symm

structure OpPost (cfg : Cfg) (st : St) (FB : List Blk) (FE : List Nat) (st' : St) (w' : W) (failed : Prop) : Prop where
  led : Led w' (st'.blocks cfg ++ FB) (st'.elems ++ FE)
  books : HTL.BooksOK st'.kt
  strong : failed → st' = st

/-- an array step `r` on key `k` seen from the container: the shape of `AddCrt(keyIter, …)` and `Remove(keyIter, i)` once the key is found -/
def setKey (st : St) (k c : Nat) : Option VB × W → St × W × HTL.Res
  | (none, w1) => (st, w1, .done .badAlloc)
  | (some b, w1) => ({ st with vbs := setV st.vbs k b, count := c }, w1, .done .ok)

theorem setKey_led {cfg : Cfg} {st : St} {k : Nat} {FB : List Blk} {FE : List Nat} (hb : HTL.BooksOK st.kt) (c : Nat) :
    ∀ r : Option VB × W, VPost cfg (getV st.vbs k) (restB cfg st k ++ FB) (restE st k ++ FE) r →
      OpPost cfg st FB FE (setKey st k c r).1 (setKey st k c r).2.1 ((setKey st k c r).2.2 ≠ .done .ok)
  | (none, _), h => ⟨h.perm (key_blocks cfg st k FB).symm (key_elems st k FE).symm, hb, fun _ => rfl⟩
  | (some b, _), h => ⟨key_in k b c h, hb, fun hc => absurd rfl hc⟩

theorem addAtL_led (cfg : Cfg) (hf : Nat → Nat) (st : St) (k v : Nat) (f : Flt) (w : W) (FB : List Blk) (FE : List Nat)
    (hb : HTL.BooksOK st.kt) (h : Led w (st.blocks cfg ++ FB) (st.elems ++ FE)) :
    OpPost cfg st FB FE (addAtL cfg hf st k v f w).1 (addAtL cfg hf st k v f w).2.1 ((addAtL cfg hf st k v f w).2.2 ≠ .done .ok) := by
  unfold addAtL
  cases findTable cfg.h.sp hf st.kt.t k with
  | none => exact ⟨h, hb, fun _ => rfl⟩
  | some _ => exact setKey_led hb _ _ (vbAdd_led cfg (getV st.vbs k) v f.v w _ _ (key_out k h))

theorem addL_led (cfg : Cfg) (hf : Nat → Nat) (st : St) (k tg v : Nat) (f : Flt) (w : W) (FB : List Blk) (FE : List Nat)
    (hb : HTL.BooksOK st.kt) (h : Led w (st.blocks cfg ++ FB) (st.elems ++ FE)) :
    OpPost cfg st FB FE (addL cfg hf st k tg v f w).1 (addL cfg hf st k tg v f w).2.1 ((addL cfg hf st k tg v f w).2.2 ≠ .done .ok) := by
  unfold addL
  refine iteInduction (motive := fun r : St × W × HTL.Res => OpPost cfg st FB FE r.1 r.2.1 (r.2.2 ≠ .done .ok))
    (fun _ => ⟨h, hb, fun _ => rfl⟩) (fun _ => ?_)
  cases findTable cfg.h.sp hf st.kt.t k with
  | some _ => exact setKey_led hb _ _ (vbAdd_led cfg (getV st.vbs k) v f.v w _ _ (key_out k h))
  | none =>
    obtain ⟨a1, a2⟩ := HTL.addL_led cfg.h hf st.kt ⟨k, tg⟩ .fresh { f.k with create := f.k.create || f.v.pool || f.v.create } w
      (st.vblocks cfg ++ FB) (vObjs st.vbs ++ FE) (vObjs st.vbs ++ FE) hb (crSpec_fresh cfg.h _) (kt_out h)
    generalize HTL.addL cfg.h hf st.kt ⟨k, tg⟩ .fresh { f.k with create := f.k.create || f.v.pool || f.v.create } w = r at a1 a2
    obtain ⟨kt1, w1, o⟩ := r
    cases o with
    | ok => exact ⟨key_new { st with kt := kt1 } k _ _ (kt_in kt1 (a2 rfl).1), (a2 rfl).2, fun hc => absurd rfl hc⟩
    | _ =>
      obtain ⟨b1, b2⟩ := a1 (fun hc => by cases hc)
      subst b1
      exact ⟨kt_in _ b2, hb, fun _ => rfl⟩

theorem insertKeyL_led (cfg : Cfg) (hf : Nat → Nat) (st : St) (k tg : Nat) (f : Flt) (w : W) (FB : List Blk) (FE : List Nat)
    (hb : HTL.BooksOK st.kt) (h : Led w (st.blocks cfg ++ FB) (st.elems ++ FE)) :
    OpPost cfg st FB FE (insertKeyL cfg hf st k tg f w).1 (insertKeyL cfg hf st k tg f w).2.1
      ((insertKeyL cfg hf st k tg f w).2.2 ≠ .done .ok) := by
  obtain ⟨a1, a2⟩ := HTL.insertL_led cfg.h hf st.kt ⟨k, tg⟩ .fresh f.k w (st.vblocks cfg ++ FB) (vObjs st.vbs ++ FE)
    (vObjs st.vbs ++ FE) hb (crSpec_fresh cfg.h _) (kt_out h)
  unfold insertKeyL
  by_cases hr : (HTL.insertL cfg.h hf st.kt ⟨k, tg⟩ .fresh f.k w).2.2 = .done .ok
  · exact ⟨kt_in _ (a2 hr).1, (a2 hr).2, fun hc => absurd hr hc⟩
  · obtain ⟨b1, b2⟩ := a1 hr
    rw [b1]
    exact ⟨kt_in (st := st) st.kt b2, hb, fun _ => rfl⟩

theorem removeValueL_led (cfg : Cfg) (hf : Nat → Nat) (st : St) (k i : Nat) (f : Flt) (w : W) (FB : List Blk) (FE : List Nat)
    (hb : HTL.BooksOK st.kt) (h : Led w (st.blocks cfg ++ FB) (st.elems ++ FE)) :
    OpPost cfg st FB FE (removeValueL cfg hf st k i f w).1 (removeValueL cfg hf st k i f w).2.1
      ((removeValueL cfg hf st k i f w).2.2 ≠ .done .ok) := by
  unfold removeValueL
  cases findTable cfg.h.sp hf st.kt.t k with
  | none => exact ⟨h, hb, fun _ => rfl⟩
  | some _ =>
    exact iteInduction (motive := fun r : St × W × HTL.Res => OpPost cfg st FB FE r.1 r.2.1 (r.2.2 ≠ .done .ok))
      (fun _ => setKey_led hb _ _ (vbRemoveAt_led cfg (getV st.vbs k) i f.v w _ _ (key_out k h))) (fun _ => ⟨h, hb, fun _ => rfl⟩)

theorem key_clear {cfg : Cfg} {st : St} {w : W} {FB : List Blk} {FE : List Nat} (k : Nat) (kt : HTL.St) (c : Nat)
    (h : Led w (({ st with kt := kt } : St).blocks cfg ++ FB) (({ st with kt := kt } : St).elems ++ FE)) :
    Led (vbRemoveAll cfg (getV st.vbs k) w) (({ st with kt := kt, vbs := dropV st.vbs k, count := c } : St).blocks cfg ++ FB)
      (({ st with kt := kt, vbs := dropV st.vbs k, count := c } : St).elems ++ FE) :=
  vbRemoveAll_led cfg (getV st.vbs k) w _ _ (key_out (st := { st with kt := kt }) k h)

theorem removeValuesL_led (cfg : Cfg) (hf : Nat → Nat) (st : St) (k : Nat) (w : W) (FB : List Blk) (FE : List Nat)
    (hb : HTL.BooksOK st.kt) (h : Led w (st.blocks cfg ++ FB) (st.elems ++ FE)) :
    Led (removeValuesL cfg hf st k w).2 ((removeValuesL cfg hf st k w).1.blocks cfg ++ FB) ((removeValuesL cfg hf st k w).1.elems ++ FE) ∧
    HTL.BooksOK (removeValuesL cfg hf st k w).1.kt := by
  unfold removeValuesL
  cases findTable cfg.h.sp hf st.kt.t k with
  | none => exact ⟨h, hb⟩
  | some _ => exact ⟨key_clear k st.kt _ h, hb⟩

theorem removeKeyL_led (cfg : Cfg) (hf : Nat → Nat) (st : St) (k : Nat) (f : Flt) (w : W) (FB : List Blk) (FE : List Nat)
    (hb : HTL.BooksOK st.kt) (h : Led w (st.blocks cfg ++ FB) (st.elems ++ FE)) :
    OpPost cfg st FB FE (removeKeyL cfg hf st k f w).1 (removeKeyL cfg hf st k f w).2.1
      ((removeKeyL cfg hf st k f w).2.2.1 ≠ .done .ok) := by
  obtain ⟨a1, a2, a3⟩ := HTL.removeKeyL_led cfg.h hf st.kt k f.k w (st.vblocks cfg ++ FB) (vObjs st.vbs ++ FE) hb (kt_out h)
  fun_cases removeKeyL cfg hf st k f w with
  | case1 kt1 w1 hr =>
    rw [hr] at a2 a3
    exact ⟨key_clear k kt1 _ (kt_in _ a2), a3, fun hc => absurd rfl hc⟩
  | case2 kt1 w1 r hno hr =>
    rw [hr] at a1
    obtain ⟨rfl, rfl⟩ := a1 hno
    exact ⟨h, hb, fun _ => rfl⟩

theorem resetKeyL_led (cfg : Cfg) (hf : Nat → Nat) (st : St) (k tg : Nat) (w : W) (FB : List Blk) (FE : List Nat)
    (hb : HTL.BooksOK st.kt) (h : Led w (st.blocks cfg ++ FB) (st.elems ++ FE)) :
    Led (resetKeyL cfg hf st k tg w).2 ((resetKeyL cfg hf st k tg w).1.blocks cfg ++ FB) ((resetKeyL cfg hf st k tg w).1.elems ++ FE) ∧
    HTL.BooksOK (resetKeyL cfg hf st k tg w).1.kt := by
  unfold resetKeyL
  cases findTable cfg.h.sp hf st.kt.t k with
  | none => exact ⟨h, hb⟩
  | some _ =>
    cases he : HTL.lookE st.kt.els k with
    | none => exact ⟨h, hb⟩
    | some e =>
      exact ⟨h.use (List.mem_append_left _ (List.mem_append_left _ (HTL.lookE_elems he))),
        (htSetTag_gens_length ..).symm ▸ hb.len, hb.nil⟩

end Momo.MML
