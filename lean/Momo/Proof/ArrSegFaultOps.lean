import Momo.Proof.ArrSegFault
/-!
  C04 / C10, SegmentedArray under faults, the operations: `AddBackCrt`, `SetCount`, `Reserve` (strong), the positional
  insert / remove operations (basic) and `Shrink` (`noexcept`) under every fault schedule; the invariant `SValid`, the outcomes
  `SStrong` / `SBasic` and the summaries per operation `strong_stepS`, `basic_stepS`. The copy constructor and the destructor of the
  model (`copyCtorF`, `destructorF`) are not covered.
-/
namespace Momo.ArrF.Seg
open Momo Momo.Arr Momo.Arr.Seg Momo.ArrF
open SFM (throw tryCatch)
variable {α β γ : Type}

-- `SPost` is used through its lemmas only (the reason is given in `ArrSegFault.lean`)
attribute [local irreducible] SPost

/-- a valid SegmentedArray whose ledger is exactly what it owns (+ `k` item objects of the environment) -/
structure SValid (cfg : SCfg) (k : Nat) (x : SSys α) : Prop where
  segs : SegsOK cfg x
  room : x.cells.length ≤ capOf cfg x.segs.cells.length
  objs : x.objs = x.cells.length + k

theorem SValid.of_same {cfg : SCfg} {k : Nat} {x y : SSys α} (v : SValid cfg k x) (h : SameSegs cfg x y) : SValid cfg k y :=
  ⟨h.2.2.2, by rw [h.1, h.2.2.1]; exact v.room, by rw [h.2.1, h.1]; exact v.objs⟩

theorem SValid.of_core {cfg : SCfg} {k : Nat} {x y : SSys α} (v : SValid cfg k x) (h : y.core = x.core) : SValid cfg k y :=
  v.of_same (.of_core v.segs h)

/-- outcome of a strongly exception-safe operation: contents and segments unchanged after an exception -/
def SStrong (cfg : SCfg) (k : Nat) (m : SFM α Unit) (x : SSys α) (s' : SState α) : Prop :=
  SPost m x (fun _ y => y.st = s' ∧ SValid cfg k y)
    (fun y => y.cells = x.cells ∧ y.segs.cells = x.segs.cells ∧ SValid cfg k y)

theorem SValid.strong_of_same {cfg : SCfg} {k : Nat} {x y : SSys α} (v : SValid cfg k x) (h : SameSegs cfg x y) :
    y.cells = x.cells ∧ y.segs.cells = x.segs.cells ∧ SValid cfg k y :=
  ⟨h.1, h.2.2.1, v.of_same h⟩

theorem reserveOpF_strong (cfg : SCfg) (k : Nat) (n : Nat) (x : SSys α) (v : SValid cfg k x) :
    SStrong cfg k (reserveOpF cfg n) x (reserveOp cfg x.st n).1 := by
  refine SPost.mono (reserveOpF_spec cfg n x v.segs) (fun _ y ⟨y1, y2, y3, y4⟩ => ?_) fun y => v.strong_of_same
  refine ⟨y4, y3, ?_, by rw [y2, y1]; exact v.objs⟩
  rw [y1, show y.segs = (reserveOp cfg x.st n).1.segs from congrArg SState.segs y4]
  exact Nat.le_trans v.room (reserveOp_cap_mono cfg (layout_ok _) x.st n)

theorem SValid.append {cfg : SCfg} {k n : Nat} {x y : SSys α} (v : SValid cfg k x) (s : SegsOK cfg y)
    (y5 : y.objs = x.objs + n) {cs : Cells α} (hl : cs.length = x.cells.length + n)
    (hroom : x.cells.length + n ≤ capOf cfg y.segs.cells.length) : SValid cfg k { y with cells := cs } :=
  ⟨s.congr rfl rfl rfl rfl, hl ▸ hroom, by
    show y.objs = cs.length + k; rw [hl, y5, v.objs]; exact Nat.add_right_comm _ _ _⟩

theorem SValid.addBack {cfg : SCfg} {k : Nat} {x y : SSys α} (v : SValid cfg k x) (s : SegsOK cfg y)
    (hroom : x.cells.length + 1 ≤ capOf cfg y.segs.cells.length) (y1 : y.cells = x.cells) (y5 : y.objs = x.objs + 1)
    (keeps mv : Bool) (item : Ref α) :
    SValid cfg k { y with cells := item.taken keeps mv y.cells ++ [item.read y.cells] } :=
  v.append s y5 (by rw [List.length_append, taken_length, y1]; rfl) hroom

theorem addBackCrtF_strong (cfg : SCfg) (thr : Thr) (k : Nat) (mv : Bool) (item : Ref α) (x : SSys α) (v : SValid cfg k x) :
    SStrong cfg k (addBackCrtF cfg thr mv item) x (Seg.addBackCrt cfg x.st mv item).1 := by
  have ok := layout_ok cfg.lay
  unfold SStrong addBackCrtF
  rw [spost_getS_bind, Seg.addBackCrt]
  refine SPost.ite (fun hseg => ?_) (fun hseg => ?_)
  · rw [if_pos (show (cfg.lay.segItem x.st.cells.length).1 < segCount x.st from hseg)]
    refine SPost.bind' _ _ (constructS_spec _ x) (fun y hy => v.strong_of_same (.of_core v.segs hy)) ?_
    rintro _ y ⟨y1, y2, y3, y4, y5, y6⟩
    rw [spost_modifyCellsS]
    exact ⟨st_ext (by rw [y1]; rfl) y2,
      v.addBack (v.segs.congr y2 y3 y4 y6) (by rw [y2]; exact ok.lt_of_seg _ _ hseg) y1 y5 _ _ _⟩
  · rw [if_neg (show ¬ (cfg.lay.segItem x.st.cells.length).1 < segCount x.st from hseg)]
    refine SPost.bind' _ _ (reserveSegs_spec cfg x v.segs) (fun y => v.strong_of_same) ?_
    rintro _ y ⟨hsame, y3, hsegy, hroom⟩
    obtain ⟨y1, y5, yc, hy⟩ := hsame
    have hl : y.segs.cells.length = x.segs.cells.length := congrArg List.length yc
    rw [← hl]
    refine SPost.bind' _ _ (allocSeg_spec _ y)
      (fun z hz => v.strong_of_same (SameSegs.trans ⟨y1, y5, yc, hy⟩ (.of_core hy hz))) ?_
    rintro _ z ⟨z1, z2, z3, z4, z5, z6⟩
    -- try { creator(segment) } catch { pvDeallocateSegment; throw }
    apply SPost.bind' (fun _ u => u.cells = z.cells ∧ u.segs = z.segs ∧ u.sblocks = z.sblocks ∧ u.pblocks = z.pblocks ∧
        u.objs = z.objs + 1 ∧ u.bad = z.bad) (fun u => u.cells = x.cells ∧ u.segs.cells = x.segs.cells ∧ SValid cfg k u)
    · apply SPost.tryCatch _ (constructS_spec _ z)
      intro u hu
      obtain ⟨u1, u2, u3, u4, u5, u6⟩ := (score_eq_iff _ _).mp hu
      simp only [spost_deallocSeg_bind, spost_throw]
      refine ⟨u1.trans (z1.trans y1), by rw [u2, z2]; exact yc,
        v.of_same ⟨u1.trans (z1.trans y1), u5.trans (z5.trans y5), by rw [u2, z2]; exact yc,
          hy.congr (u2.trans z2) ?_ (u4.trans z4) ?_⟩⟩
      · show u.sblocks.erase _ = _; rw [u3, z3, List.erase_cons_head]
      · show (u.bad || !u.sblocks.contains _) = _
        rw [u6, z6, u3, z3, hy.good, List.contains_cons, BEq.rfl]; rfl
    · exact fun _ h => h
    · rintro _ u ⟨u1, u2, u3, u4, u5, u6⟩
      simp only [spost_getS_bind, spost_setSegCells_bind, spost_modifyCellsS]
      refine ⟨st_ext (by rw [u1, z1, y1]; rfl) (by rw [u2, z2, hl, hsegy]; rfl), ?_⟩
      refine (v.addBack (x := x) (y := { u with segs := { u.segs with cells := u.segs.cells ++ [Cell.live y.segs.cells.length] } })
        (hy.push hroom (u2.trans z2) (u3.trans z3) (u4.trans z4) (u6.trans z6) _) ?_ (u1.trans (z1.trans y1))
        (u5.trans (by rw [z5, y5])) _ _ _)
      -- `dsimp only`, not `show`: stating the goal makes the unifier unfold `Layout.index`
      dsimp only
      rw [List.length_append, u2, z2, hl]
      exact Nat.lt_of_le_of_lt v.room (ok.cap_strict _)

theorem setCountF_strong (cfg : SCfg) (thr : Thr) (k : Nat) (count : Nat) (item : Ref α) (x : SSys α) (v : SValid cfg k x) :
    SStrong cfg k (setCountF cfg thr count item) x (Seg.setCount cfg x.st count item).1 := by
  unfold SStrong setCountF
  rw [spost_getS_bind, Seg.setCount]
  refine SPost.ite (fun hlt => ?_) (fun hge => SPost.ite (fun hgt => ?_) (fun hle => ?_))
  · rw [if_pos (show count < x.st.cells.length from hlt)]
    simp only [spost_destroyS_bind, spost_modifyCellsS]
    have hl : (x.cells.take count).length = count := by rw [List.length_take]; exact Nat.min_eq_left (Nat.le_of_lt hlt)
    have ho := v.objs
    refine ⟨rfl, (v.segs.destroy (n := x.cells.length - count) (by omega)).congr rfl rfl rfl rfl, ?_, ?_⟩
    · show (x.cells.take count).length ≤ _
      rw [hl]; exact Nat.le_trans (Nat.le_of_lt hlt) v.room
    · show x.objs - (x.cells.length - count) = (x.cells.take count).length + k
      rw [hl]; omega
  · rw [if_neg (show ¬ count < x.st.cells.length from hge), if_pos (show count > x.st.cells.length from hgt),
      show (if count > Seg.capacity cfg x.st then incCapacity cfg x.st count else (x.st, [])) = reserveOp cfg x.st count from rfl]
    refine SPost.bind' _ _ (reserveOpF_spec cfg count x v.segs) (fun y => v.strong_of_same) ?_
    rintro _ y ⟨y1, y2, y3, y4⟩
    have hsegs : y.segs = (reserveOp cfg x.st count).1.segs := congrArg SState.segs y4
    refine SPost.bind' _ _ (ctorLoopS_spec thr.copy (count - x.cells.length) 0 y) (fun _ h => h.elim) ?_
    rintro ⟨n, f⟩ z ⟨_, h3, z1, z2, z3, z4, z5, z6⟩
    have vz := y3.congr z2 z3 z4 z6
    rw [Nat.sub_zero, y2] at z5
    cases f
    · -- every constructor call succeeded
      obtain rfl : n = count - x.cells.length := (h3 rfl).trans (Nat.zero_add _)
      simp only [Bool.false_eq_true, ↓reduceIte, spost_modifyCellsS]
      refine ⟨st_ext ?_ (z2.trans hsegs), v.append vz z5 ?_ ?_⟩
      · show z.cells ++ _ = (reserveOp cfg x.st count).1.cells ++ _
        rw [z1, y1, reserveOp_cells]; rfl
      · rw [List.length_append, List.length_replicate, z1, y1]
      · rw [Nat.add_sub_cancel' (Nat.le_of_lt hgt), z2, hsegs]
        exact reserveOp_cap cfg (layout_ok _) x.st count
    · -- catch: pvDecCount(initCount); pvDecCapacity(initCapacity); throw
      simp only [↓reduceIte, spost_destroyS_bind]
      obtain ⟨extra, hpre⟩ := reserveOp_segs_cells cfg x.st count
      exact SPost.mono (decCapacityF_undo (vz.destroy (z5 ▸ Nat.le_add_left ..)) (z1.trans y1)
          (by show z.objs - n = x.objs; rw [z5, Nat.add_sub_cancel]) (by show z.segs.cells = _; rw [z2, hsegs]; exact hpre))
        (fun _ _ h => h) fun _ => v.strong_of_same
  · rw [if_neg (show ¬ count < x.st.cells.length from hge), if_neg (show ¬ count > x.st.cells.length from hle)]
    exact (spost_pure ..).mpr ⟨rfl, v⟩

abbrev itemCfg (cfg : SCfg) : Cfg := insertCrtF.itemCfg cfg

/-- `ArrayShifter` sees a valid SegmentedArray as a valid `Array` of `GetCapacity()` items -/
theorem itemSys_valid {cfg : SCfg} {k : Nat} {x : SSys α} (v : SValid cfg k x) :
    Valid (itemCfg cfg) [] k (x.itemSys (capOf cfg x.segs.cells.length)) := by
  refine ⟨⟨?_, ?_, ?_, ?_⟩, ?_, v.objs, v.segs.good⟩
  · show x.cells.length ≤ Arr.capacity (itemCfg cfg) _
    simp only [Arr.capacity, SSys.itemSys]; exact v.room
  · intro _ h; simp only [SSys.itemSys] at h ⊢; show _ > 0; omega
  · intro h; simp [SSys.itemSys] at h
  · intro _ _; rfl
  · unfold Frame ownBlocks
    simp only [Arr.capacity, SSys.itemSys, List.append_nil]
    rfl

theorem bounds_of_eq {x y : SSys α} (h : y.cells = x.cells) (count : Nat) :
    x.cells.length ≤ y.cells.length ∧ y.cells.length ≤ x.cells.length + count := by
  rw [h]; exact ⟨Nat.le_refl _, Nat.le_add_right _ _⟩

/-- the state `z` that `onItems` writes back after the shifter ended in `u` (the second part of `onItems_spec`) -/
theorem SValid.back {cfg : SCfg} {k : Nat} {x z : SSys α} {u : Sys α} (v : SValid cfg k x)
    (vu : Valid (itemCfg cfg) [] k u) (hlen : u.arr.cells.length ≤ capOf cfg x.segs.cells.length)
    (hz : z.cells = u.arr.cells ∧ z.segs = x.segs ∧ z.sblocks = x.sblocks ∧ z.pblocks = x.pblocks ∧
      z.objs = u.objs ∧ z.bad = u.bad) : SValid cfg k z := by
  obtain ⟨z1, z2, z3, z4, z5, z6⟩ := hz
  exact ⟨⟨z2 ▸ v.segs.wf, by rw [z3, z2]; exact v.segs.sblocks, by rw [z4, z2]; exact v.segs.pblocks, z6.trans vu.good⟩,
    by rw [z1, z2]; exact hlen, by rw [z5, z1]; exact vu.objs⟩

theorem SValid.back_ok {cfg : SCfg} {k : Nat} {x z : SSys α} {u : Sys α} {cs : Cells α} (v : SValid cfg k x)
    (vu : Valid (itemCfg cfg) [] k u) (ua : u.arr = { (x.itemSys (capOf cfg x.segs.cells.length)).arr with cells := cs })
    (hz : z.cells = u.arr.cells ∧ z.segs = x.segs ∧ z.sblocks = x.sblocks ∧ z.pblocks = x.pblocks ∧
      z.objs = u.objs ∧ z.bad = u.bad) : z.st = { x.st with cells := cs } ∧ SValid cfg k z := by
  refine ⟨st_ext (by rw [hz.1, ua]) hz.2.1, v.back vu ?_ hz⟩
  have := vu.wf.count_le
  rw [ua] at this ⊢
  exact this

/-- outcome of an operation with the basic guarantee that may add up to `count` items -/
def SBasic (cfg : SCfg) (k : Nat) (m : SFM α Unit) (x : SSys α) (s' : SState α) (count : Nat) : Prop :=
  SPost m x (fun _ y => y.st = s' ∧ SValid cfg k y)
    (fun y => SValid cfg k y ∧ x.cells.length ≤ y.cells.length ∧ y.cells.length ≤ x.cells.length + count)

/-- `Reserve(count + n)`, then a shifter program `m` of the `Array` model run on the items through `onItems`: what every
    positional insertion is. `hm`: the basic guarantee of `m` (`shiftRF_basic`, `shiftNF_basic`) on the item system, which is valid,
    holds the items of `x` and has room for `count` more; `f`: what `m` makes of the cells when it completes. -/
theorem reserve_shift (cfg : SCfg) (k : Nat) (count : Nat) (x : SSys α) (v : SValid cfg k x)
    (m : FM α Unit) (f : Cells α → Cells α)
    (hm : ∀ (y0 : Sys α), Valid (itemCfg cfg) [] k y0 → y0.arr.cells = x.cells → y0.arr.cells.length + count ≤ Arr.capacity (itemCfg cfg) y0.arr →
      Post m y0 (fun _ u => u.arr = { y0.arr with cells := f y0.arr.cells } ∧ Valid (itemCfg cfg) [] k u)
        (fun u => Valid (itemCfg cfg) [] k u ∧ y0.arr.cells.length ≤ u.arr.cells.length ∧ u.arr.cells.length ≤ y0.arr.cells.length + count)) :
    SBasic cfg k (do reserveOpF cfg (x.cells.length + count); let y ← getS; onItems (capOf cfg y.segs.cells.length) m) x
      (Seg.withCells (reserveOp cfg x.st (x.cells.length + count)) f).1 count := by
  refine SPost.bind' _ _ (reserveOpF_spec cfg _ x v.segs) (fun y h => ⟨v.of_same h, bounds_of_eq h.1 count⟩) ?_
  rintro _ y ⟨y1, y2, y3, y4⟩
  have hsegs : y.segs = (reserveOp cfg x.st (x.cells.length + count)).1.segs := congrArg SState.segs y4
  have hcap : x.cells.length + count ≤ capOf cfg y.segs.cells.length :=
    hsegs ▸ reserveOp_cap cfg (layout_ok _) x.st _
  have vy : SValid cfg k y :=
    ⟨y3, by rw [y1]; exact Nat.le_trans (Nat.le_add_right _ _) hcap, by rw [y2, y1]; exact v.objs⟩
  rw [spost_getS_bind]
  have hroom : y.cells.length + count ≤ capOf cfg y.segs.cells.length := by rw [y1]; exact hcap
  refine SPost.mono (onItems_spec y (hm _ (itemSys_valid vy) y1 hroom)) ?_ ?_
  · rintro _ z ⟨u, ⟨ua, vu⟩, hz⟩
    refine ⟨(vy.back_ok vu ua hz).1.trans ?_, (vy.back_ok vu ua hz).2⟩
    show _ = { (reserveOp cfg x.st (x.cells.length + count)).1 with cells := f (reserveOp cfg x.st (x.cells.length + count)).1.cells }
    rw [← y4]; rfl
  · rintro z ⟨u, ⟨vu, h1, h2⟩, hz⟩
    replace h1 : x.cells.length ≤ u.arr.cells.length := y1 ▸ h1
    replace h2 : u.arr.cells.length ≤ x.cells.length + count := y1 ▸ h2
    exact ⟨vy.back vu (Nat.le_trans h2 hcap) hz, hz.1 ▸ h1, hz.1 ▸ h2⟩

theorem insertRangeF_basic (cfg : SCfg) (thr : Thr) (k : Nat) (index : Nat) (xs : List (Cell α)) (x : SSys α)
    (v : SValid cfg k x) (hi : index ≤ x.cells.length) :
    SBasic cfg k (insertRangeF cfg thr index xs) x (Seg.insertRange cfg x.st index xs).1 xs.length := by
  unfold insertRangeF
  rw [SBasic, spost_getS_bind]
  refine reserve_shift cfg k xs.length x v _ (fun cs => insertNogrowR cfg.keeps false cs index (xs.map .ext)) ?_
  intro y0 vy hc hroom
  have := (shiftRF_basic (itemCfg cfg) thr [] k false index (xs.map .ext) y0 vy (by rw [hc]; exact hi)
    (by rw [List.length_map]; exact hroom)).post
  rwa [List.length_map] at this

theorem SValid.drop {cfg : SCfg} {k : Nat} {y : SSys α} (vy : SValid cfg (k + 1) y) :
    SValid cfg k { y with objs := y.objs - 1, bad := y.bad || decide (y.objs < 1) } := by
  have h1 := vy.objs
  refine ⟨vy.segs.destroy (by omega), vy.room, ?_⟩
  show y.objs - 1 = y.cells.length + k
  omega

/-- a handler object (one more object of the environment) lives while `body` runs and is destroyed on both paths -/
theorem handler_scope {cfg : SCfg} {k : Nat} {body : SFM α Unit} {x : SSys α} {s' : SState α} {count : Nat}
    (h : SBasic cfg (k + 1) body x s' count) :
    SBasic cfg k (do tryCatch body (do destroyS 1; throw); destroyS 1) x s' count := by
  refine SPost.bind' (fun _ y => y.st = s' ∧ SValid cfg (k + 1) y) _ (SPost.tryCatch _ h fun y hy => ?_) (fun _ h => h)
    fun _ y hy => ?_
  · rw [spost_destroyS_bind, spost_throw]
    exact ⟨hy.1.drop, hy.2⟩
  · rw [spost_destroyS]
    exact ⟨hy.1, hy.2.drop⟩

/-- `reserve_shift` inside the scope of an item handler (`InsertCrt`, `Insert(index, count, item)`): `handler_scope` of it;
    `y` is the state with the handler's object built, `x` the one before -/
theorem handler_shift (cfg : SCfg) (k : Nat) (count : Nat) (x y : SSys α) (v : SValid cfg (k + 1) y)
    (hl : y.cells.length = x.cells.length) (m : FM α Unit) (f : Cells α → Cells α)
    (hm : ∀ (y0 : Sys α), Valid (itemCfg cfg) [] (k + 1) y0 → y0.arr.cells = y.cells →
      y0.arr.cells.length + count ≤ Arr.capacity (itemCfg cfg) y0.arr →
      Post m y0 (fun _ u => u.arr = { y0.arr with cells := f y0.arr.cells } ∧ Valid (itemCfg cfg) [] (k + 1) u)
        (fun u => Valid (itemCfg cfg) [] (k + 1) u ∧ y0.arr.cells.length ≤ u.arr.cells.length ∧
          u.arr.cells.length ≤ y0.arr.cells.length + count)) :
    SPost (do
        tryCatch (do reserveOpF cfg (x.cells.length + count); let u ← getS; onItems (capOf cfg u.segs.cells.length) m)
          (do destroyS 1; throw)
        destroyS 1) y
      (fun _ z => z.st = (Seg.withCells (reserveOp cfg y.st (x.cells.length + count)) f).1 ∧ SValid cfg k z)
      (fun z => SValid cfg k z ∧ x.cells.length ≤ z.cells.length ∧ z.cells.length ≤ x.cells.length + count) := by
  have := handler_scope (reserve_shift cfg (k + 1) count y v m f hm)
  rwa [SBasic, hl] at this

theorem insertCrtF_basic (cfg : SCfg) (thr : Thr) (k : Nat) (index : Nat) (mv : Bool) (item : Ref α) (x : SSys α)
    (v : SValid cfg k x) (hi : index ≤ x.cells.length) :
    SBasic cfg k (insertCrtF cfg thr index mv item) x (Seg.insertCrt cfg x.st index mv item).1 1 := by
  unfold SBasic insertCrtF
  rw [spost_getS_bind]
  refine SPost.bind' _ _ (constructS_spec _ x)
    (fun y hy => ⟨v.of_core hy, bounds_of_eq (SameSegs.of_core v.segs hy).1 1⟩) ?_
  rintro _ y ⟨y1, y2, y3, y4, y5, y6⟩
  rw [spost_modifyCellsS_bind]
  have hlen : (item.taken cfg.keeps mv y.cells).length = x.cells.length := by rw [taken_length, y1]
  have v1 : SValid cfg (k + 1) { y with cells := item.taken cfg.keeps mv y.cells } :=
    ⟨v.segs.congr y2 y3 y4 y6, by show List.length _ ≤ capOf cfg y.segs.cells.length; rw [hlen, y2]; exact v.room,
      by show y.objs = List.length _ + (k + 1); rw [hlen, y5, v.objs]; rfl⟩
  refine SPost.mono (handler_shift cfg k 1 x _ v1 hlen _
    (fun cs => insertNogrowR cfg.keeps true cs index [.ext (item.read x.cells)]) ?_) (fun _ z h => ⟨h.1.trans ?_, h.2⟩) fun _ h => h
  · intro y0 vy hc hroom
    exact (shiftRF_basic (itemCfg cfg) thr [] (k + 1) true index [.ext (item.read x.cells)] y0 vy
      (by rw [hc]; exact hlen ▸ hi) hroom).post
  · rw [show SSys.st { y with cells := item.taken cfg.keeps mv y.cells } = { x.st with cells := item.taken cfg.keeps mv x.st.cells }
      from st_ext (by rw [y1]; rfl) y2]
    rfl

theorem insertNF_basic (cfg : SCfg) (thr : Thr) (k : Nat) (index count : Nat) (item : Ref α) (x : SSys α)
    (v : SValid cfg k x) (hi : index ≤ x.cells.length) :
    SBasic cfg k (insertNF cfg thr index count item) x (Seg.insertN cfg x.st index count item).1 count := by
  unfold SBasic insertNF
  rw [spost_getS_bind]
  refine SPost.bind' _ _ (constructS_spec _ x)
    (fun y hy => ⟨v.of_core hy, bounds_of_eq (SameSegs.of_core v.segs hy).1 count⟩) ?_
  rintro _ y ⟨y1, y2, y3, y4, y5, y6⟩
  have v1 : SValid cfg (k + 1) y :=
    ⟨v.segs.congr y2 y3 y4 y6, by rw [y1, y2]; exact v.room, by rw [y5, y1, v.objs]; rfl⟩
  refine SPost.mono (handler_shift cfg k count x y v1 (congrArg List.length y1) _
    (fun cs => insertNogrowN cfg.keeps cs index count (.ext (item.read x.cells))) ?_) (fun _ z h => ⟨h.1.trans ?_, h.2⟩) fun _ h => h
  · intro y0 vy hc hroom
    exact (shiftNF_basic (itemCfg cfg) thr [] (k + 1) index count (.ext (item.read x.cells)) y0 vy
      (by rw [hc, y1]; exact hi) hroom).post
  · rw [show y.st = x.st from st_ext y1 y2]
    rfl

theorem removeF_basic (cfg : SCfg) (thr : Thr) (k : Nat) (index count : Nat) (x : SSys α)
    (v : SValid cfg k x) (h : index + count ≤ x.cells.length) :
    SBasic cfg k (removeF cfg thr index count) x (Seg.removeOp cfg x.st index count) 0 := by
  unfold SBasic removeF
  rw [spost_getS_bind]
  refine SPost.mono (onItems_spec x (ArrF.removeF_basic (itemCfg cfg) thr [] k index count _ (itemSys_valid v) h).post) ?_ ?_
  · rintro _ z ⟨u, ⟨ua, vu⟩, hz⟩
    exact v.back_ok vu ua hz
  · rintro z ⟨u, ⟨vu, h1, h2⟩, hz⟩
    exact ⟨v.back vu (Nat.le_trans h2 v.room) hz, hz.1 ▸ h1, hz.1 ▸ h2⟩

/-- not in the form `SBasic` (returns the number of removed items; the count after an exception is the old one exactly);
    `basic_stepS` brings it into the common form -/
theorem removeIfF_basic (cfg : SCfg) (thr : Thr) (k : Nat) (p : Cell α → Bool) (x : SSys α) (v : SValid cfg k x) :
    SPost (removeIfF cfg thr p) x
      (fun r y => y.st = (Seg.removeIfOp cfg x.st p).1 ∧ r = (Seg.removeIfOp cfg x.st p).2 ∧ SValid cfg k y)
      (fun y => SValid cfg k y ∧ y.cells.length = x.cells.length) := by
  unfold removeIfF
  rw [spost_getS_bind]
  refine SPost.mono (onItems_spec x (ArrF.removeIfF_basic (itemCfg cfg) thr [] k p _ (itemSys_valid v)).post) ?_ ?_
  · rintro r z ⟨u, ⟨ua, ur, vu⟩, hz⟩
    exact ⟨(v.back_ok vu ua hz).1, ur, (v.back_ok vu ua hz).2⟩
  · rintro z ⟨u, ⟨vu, h1⟩, hz⟩
    exact ⟨v.back vu (Nat.le_trans (Nat.le_of_eq h1) v.room) hz, hz.1 ▸ h1⟩

/-- `Shrink(capacity)` is `noexcept`: a failure of `mSegments.Shrink()` is swallowed -/
theorem shrinkOpF_spec (cfg : SCfg) (k : Nat) (n : Nat) (x : SSys α) (v : SValid cfg k x) :
    SPost (shrinkOpF cfg n) x (fun _ y => y.cells = x.cells ∧ SValid cfg k y) (fun _ => False) := by
  have ok := layout_ok cfg.lay
  unfold shrinkOpF
  rw [spost_getS_bind]
  refine SPost.ite (fun _ => (spost_pure ..).mpr ⟨rfl, v⟩) fun _ => ?_
  refine SPost.bind' _ _ (decCapacityF_spec cfg _ x v.segs) (fun _ h => h) ?_
  rintro _ y ⟨y1, y2, y3, y4⟩
  rw [spost_getS_bind]
  have hroom : y.cells.length ≤ capOf cfg y.segs.cells.length := by
    rw [y1, y4]
    show _ ≤ capOf cfg (List.take _ x.segs.cells).length
    rw [List.length_take]
    rcases Nat.le_total (cfg.lay.segsFor (Nat.max n x.cells.length)) x.segs.cells.length with hle | hle
    · rw [Nat.min_eq_left hle]
      exact Nat.le_trans (Nat.le_max_right _ _) (ok.cap_segsFor _)
    · rw [Nat.min_eq_right hle]; exact v.room
  have vy : SValid cfg k y := ⟨y3, hroom, by rw [y2, y1]; exact v.objs⟩
  refine SPost.tryCatch _ (SPost.mono (onSegs_strong y3
      (shrinkF_strong cfg.segs noThr [] 0 y.segs.cells.length y.segSys y3.valid)
      (shrink_wf cfg.segs y.segs _ y3.wf) (shrink_cells cfg.segs y.segs _)) (fun _ z h => ?_) fun _ h => h) fun z h => ?_
  · exact ⟨h.1.1.trans y1, vy.of_same h.1⟩
  · exact (spost_pure ..).mpr ⟨h.1.trans y1, vy.of_same h⟩

/-- preconditions (`MOMO_CHECK`s) -/
def SOp.pre (s : SState α) : SOp α → Prop
  | .insertCrt index _ _ => index ≤ s.cells.length
  | .insertN index _ _ => index ≤ s.cells.length
  | .insertRange index _ => index ≤ s.cells.length
  | .remove index count => index + count ≤ s.cells.length
  | _ => True

def SOp.maxAdd : SOp α → Nat
  | .insertCrt .. => 1
  | .insertN _ count _ => count
  | .insertRange _ xs => xs.length
  | _ => 0

/-- after an exception only the capacity of the pointer array may have grown. `Shrink` is left out (`hns`): it is `noexcept`
    and swallows a failure of `mSegments.Shrink()`, so its result need not be the fault-free state; see `shrinkOpF_spec`. -/
theorem strong_stepS (cfg : SCfg) (thr : Thr) (k : Nat) (op : SOp α) (hop : op.strong = true) (hns : ∀ n, op ≠ .shrink n)
    (x : SSys α) (v : SValid cfg k x) :
    SPost (stepS cfg thr op) x
      (fun _ y => y.st = (pureStepS cfg x.st op).1 ∧ SValid cfg k y)
      (fun y => y.cells = x.cells ∧ y.segs.cells = x.segs.cells ∧ SValid cfg k y) := by
  cases op with
  | addBackCrt mv item => exact addBackCrtF_strong cfg thr k mv item x v
  | setCount count item => exact setCountF_strong cfg thr k count item x v
  | reserve n => exact reserveOpF_strong cfg k n x v
  | shrink n => exact absurd rfl (hns n)
  | insertCrt _ _ _ | insertN _ _ _ | insertRange _ _ | remove _ _ | removeIf _ => exact Bool.noConfusion hop

theorem SBasic.step {cfg : SCfg} {k count : Nat} {m : SFM α Unit} {x : SSys α} {s' : SState α} {P : Prop}
    (h : SBasic cfg k m x s' count) :
    SPost m x (fun _ y => SValid cfg k y ∧ (P → y.st = s'))
      (fun y => SValid cfg k y ∧ x.cells.length ≤ y.cells.length ∧ y.cells.length ≤ x.cells.length + count) :=
  SPost.mono h (fun _ _ h => ⟨h.2, fun _ => h.1⟩) fun _ h => h

/-- the equation with the fault-free state is not claimed for `Shrink` (a swallowed failure of `mSegments.Shrink()` leaves a
    larger pointer array than the fault-free run); validity is, by `shrinkOpF_spec` -/
theorem basic_stepS (cfg : SCfg) (thr : Thr) (k : Nat) (op : SOp α) (x : SSys α) (v : SValid cfg k x) (hpre : op.pre x.st) :
    SPost (stepS cfg thr op) x
      (fun _ y => SValid cfg k y ∧ ((∀ n, op ≠ .shrink n) → y.st = (pureStepS cfg x.st op).1))
      (fun y => SValid cfg k y ∧ x.cells.length ≤ y.cells.length ∧ y.cells.length ≤ x.cells.length + op.maxAdd) := by
  cases op with
  | addBackCrt _ _ | setCount _ _ | reserve _ =>
    exact SPost.mono (strong_stepS cfg thr k _ rfl (by intro _ h; cases h) x v) (fun _ _ h => ⟨h.2, fun _ => h.1⟩)
      fun _ h => ⟨h.2.2, bounds_of_eq h.1 _⟩
  | shrink n =>
    exact SPost.mono (shrinkOpF_spec cfg k n x v) (fun _ _ h => ⟨h.2, fun hn => absurd rfl (hn n)⟩) fun _ h => h.elim
  | insertCrt index mv item => exact (insertCrtF_basic cfg thr k index mv item x v hpre).step
  | insertN index count item => exact (insertNF_basic cfg thr k index count item x v hpre).step
  | insertRange index xs => exact (insertRangeF_basic cfg thr k index xs x v hpre).step
  | remove index count => exact (removeF_basic cfg thr k index count x v hpre).step
  | removeIf p =>
    show SPost (removeIfF cfg thr p >>= fun _ => pure ()) x _ _
    refine SPost.bind' _ _ (removeIfF_basic cfg thr k p x v) (fun y h => ⟨h.1, Nat.le_of_eq h.2.symm, Nat.le_of_eq h.2⟩) ?_
    rintro r y ⟨ya, _, vy⟩
    exact (spost_pure ..).mpr ⟨vy, fun _ => ya⟩

end Momo.ArrF.Seg
