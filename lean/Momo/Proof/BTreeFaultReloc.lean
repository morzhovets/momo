import Momo.Proof.BTreeFaultBasic
import Momo.Proof.BTreeAdd
/-!
  C04 for the B-tree family: the Relocator. Whatever plan of `CreateNode` / `AddSegment` calls it executes and wherever the
  schedule makes a step throw, the ledger at that moment is the ledger at construction plus exactly what is registered in
  `mNewNodes` plus the heap blocks of the four arrays (`RInv`) — so `~Relocator` gives everything back, and a completed
  `RelocateCreate` followed by the destructor leaves the ledger changed by "new nodes − old nodes" and by what the creator
  did. `CreatorSpec` / `CreatorNoThrow` are the interface through which every later file and C04 / C10 treat the item creator of an
  insertion.

  Two shapes of statement run through the area. A lemma proved by induction over the call, or that rewrites a goal containing the
  call, speaks of the projections of the call (`(copyLoop S n w).2.2.led`, `(Reloc.run S ps r w).1 = false → …`). An operation that
  returns four or more components and is only dispatched on (`Reloc.relocateCreate_spec`, `addNode_spec`, everything from
  `addF_spec` on) takes `h : f … = (t, s, …)` and speaks of the names; its user writes `rcases hn : f … with ⟨…⟩` (or `generalize`)
  and hands the equation over. Arguments stand in the order of the model function, a hypothesis about an argument right after it
  (`cfg hmax`, `lt ho`, `ft hw`); what a hypothesis fixes is implicit.
-/
namespace Momo.BTreeF
open Momo Momo.BTree Momo.BTree.Node
variable {α : Type}

/-- the ledger after `d` heap blocks of the Relocator's four arrays came (or, negative, went) -/
def auxShift (l : Ledger) (d : Int) : Ledger := { l with aux := l.aux + d }

theorem b2i_cases (b : Bool) : b2i b = 0 ∨ b2i b = 1 := by cases b <;> simp [b2i]

theorem IArr.grow_spec (S : Sched) (a : IArr) (m : Nat) (rs : Bool) (w : W) :
    (a.grow S m rs w).2.2.led = auxShift w.led (b2i (a.grow S m rs w).2.1.heap - b2i a.heap) ∧
    (S.NoAlloc → (a.grow S m rs w).1 = false) := by
  unfold IArr.grow
  cases hf : S.alloc w.allocN
  · refine ⟨?_, fun _ => rfl⟩
    cases hh : a.heap <;> simp [auxShift, b2i]
  · exact ⟨by simp [auxShift], fun hn => nomatch (hn _).symm.trans hf⟩

theorem IArr.addBack_spec (S : Sched) (a : IArr) (w : W) :
    (a.addBack S w).2.2.led = auxShift w.led (b2i (a.addBack S w).2.1.heap - b2i a.heap) ∧
    (S.NoAlloc → (a.addBack S w).1 = false) := by
  unfold IArr.addBack
  split
  · exact ⟨by simp [auxShift], fun _ => rfl⟩
  · have h := IArr.grow_spec S a (a.count + 1) false w
    generalize a.grow S (a.count + 1) false w = g at h ⊢
    obtain ⟨t, a', w'⟩ := g
    cases t <;> exact h

theorem IArr.reserve_spec (S : Sched) (a : IArr) (n : Nat) (w : W) :
    (a.reserve S n w).2.2.led = auxShift w.led (b2i (a.reserve S n w).2.1.heap - b2i a.heap) ∧
    (S.NoAlloc → (a.reserve S n w).1 = false) := by
  unfold IArr.reserve
  split
  · exact ⟨by simp [auxShift], fun _ => rfl⟩
  · exact IArr.grow_spec S a n true w

/-- the ledger `l` is the ledger `l0` of the moment the Relocator was constructed plus what the Relocator holds -/
def RInv (l0 : Ledger) (r : Reloc) (l : Ledger) : Prop :=
  l = { l0 with leaves := l0.leaves + r.newLeaves, inners := l0.inners + r.newInners, aux := l0.aux + r.heapBlocks }

theorem RInv.fresh (l0 : Ledger) : RInv l0 {} l0 := by
  apply Ledger.ext' <;> simp [Reloc.heapBlocks, b2i]

theorem RInv.destroy {l0 : Ledger} {r : Reloc} {w : W} (h : RInv l0 r w.led) : (r.destroy w).led = l0 := by
  obtain ⟨c1, c2, c3, c4, c5, l⟩ := w
  cases (h : l = _)
  exact Ledger.ext' (Int.add_neg_cancel_right ..) (Int.add_neg_cancel_right ..) rfl (Int.add_neg_cancel_right ..) rfl rfl

theorem RInv.arrays {l0 l : Ledger} {r r' : Reloc} (h : RInv l0 r l) {d : Int} (hb : r'.heapBlocks = r.heapBlocks + d)
    (hl : r'.newLeaves = r.newLeaves) (hi : r'.newInners = r.newInners) : RInv l0 r' (auxShift l d) := by
  unfold RInv at *
  subst h
  rw [hb, hl, hi]
  exact Ledger.ext' rfl rfl rfl (Int.add_assoc ..) rfl rfl

/-- a created node is registered in `mNewNodes` -/
theorem RInv.node {l0 : Ledger} {r : Reloc} {w : W} (h : RInv l0 r w.led) (lf : Bool) (a : IArr) (ha : a.heap = r.newN.heap) :
    RInv l0 { r with newN := a, newLeaves := r.newLeaves + (if lf then 1 else 0),
                     newInners := r.newInners + (if lf then 0 else 1) } (w.tickAlloc.addNode lf 1).led := by
  obtain ⟨c1, c2, c3, c4, c5, l⟩ := w
  cases (h : l = _)
  have hb : ∀ n i, ({ r with newN := a, newLeaves := n, newInners := i } : Reloc).heapBlocks = r.heapBlocks := fun _ _ => by
    simp only [Reloc.heapBlocks, ha]
  unfold RInv
  rw [hb]
  cases lf
  · exact Ledger.ext' rfl (Int.add_assoc ..) rfl rfl rfl rfl
  · exact Ledger.ext' (Int.add_assoc ..) rfl rfl rfl rfl rfl

theorem RInv.base {l0 l : Ledger} {r : Reloc} (h : RInv l0 r l) (d : Ledger) : RInv (l0 + d) r (l + d) := by
  unfold RInv at *
  subst h
  exact Ledger.ext' (Int.add_right_comm ..) (Int.add_right_comm ..) rfl (Int.add_right_comm ..) rfl rfl

/-- number of `CreateNode(isLeaf = lf, …)` in a plan -/
def planNew (lf : Bool) : List PStep → Nat
  | [] => 0
  | .create l :: ps => (if l = lf then 1 else 0) + planNew lf ps
  | _ :: ps => planNew lf ps

/-- number of `mOldNodes.AddBack` of nodes of kind `lf` in a plan -/
def planOld (lf : Bool) : List PStep → Nat
  | [] => 0
  | .old l :: ps => (if l = lf then 1 else 0) + planOld lf ps
  | _ :: ps => planOld lf ps

/-- items announced by the `AddSegment` calls of a plan (`mItemCount`) -/
def planItems : List PStep → Nat
  | [] => 0
  | .seg n :: ps => n + planItems ps
  | _ :: ps => planItems ps

@[simp] theorem planNew_append (lf : Bool) (a b : List PStep) : planNew lf (a ++ b) = planNew lf a + planNew lf b := by
  induction a with
  | nil => simp [planNew]
  | cons s ss ih => cases s <;> simp [planNew, ih] <;> omega

@[simp] theorem planOld_append (lf : Bool) (a b : List PStep) : planOld lf (a ++ b) = planOld lf a + planOld lf b := by
  induction a with
  | nil => simp [planOld]
  | cons s ss ih => cases s <;> simp [planOld, ih] <;> omega

@[simp] theorem planItems_append (a b : List PStep) : planItems (a ++ b) = planItems a + planItems b := by
  induction a with
  | nil => simp [planItems]
  | cons s ss ih => cases s <;> simp [planItems, ih, Nat.add_assoc]

theorem Reloc.step_spec (S : Sched) (s : PStep) (r : Reloc) (w : W) (l0 : Ledger) (h : RInv l0 r w.led) :
    RInv l0 (r.step S s w).2.1 (r.step S s w).2.2.led ∧
    ((r.step S s w).1 = false →
      (r.step S s w).2.1.newLeaves = r.newLeaves + planNew true [s] ∧
      (r.step S s w).2.1.newInners = r.newInners + planNew false [s] ∧
      (r.step S s w).2.1.oldLeaves = r.oldLeaves + planOld true [s] ∧
      (r.step S s w).2.1.oldInners = r.oldInners + planOld false [s] ∧
      (r.step S s w).2.1.itemCount = r.itemCount + planItems [s]) ∧
    (S.NoAlloc → (r.step S s w).1 = false) := by
  cases s with
  | old lf =>
    simp only [Reloc.step]
    obtain ⟨hl, hok⟩ := IArr.addBack_spec S r.oldN w
    generalize r.oldN.addBack S w = g at hl hok ⊢
    obtain ⟨t, a, w'⟩ := g
    have hr : ∀ r' : Reloc, r'.heapBlocks = r.heapBlocks + (b2i a.heap - b2i r.oldN.heap) → r'.newLeaves = r.newLeaves →
        r'.newInners = r.newInners → RInv l0 r' w'.led := fun r' e1 e2 e3 => hl ▸ h.arrays e1 e2 e3
    cases t
    · exact ⟨hr _ (by simp only [Reloc.heapBlocks]; omega) rfl rfl,
        fun _ => by cases lf <;> simp [planNew, planOld, planItems], fun _ => rfl⟩
    · exact ⟨hr _ (by simp only [Reloc.heapBlocks]; omega) rfl rfl, nofun, hok⟩
  | create lf =>
    simp only [Reloc.step]
    obtain ⟨hl, hok⟩ := IArr.reserve_spec S r.newN (r.newN.count + 1) w
    generalize r.newN.reserve S (r.newN.count + 1) w = g at hl hok ⊢
    obtain ⟨t, a, w'⟩ := g
    have hr : RInv l0 { r with newN := a } w'.led :=
      hl ▸ h.arrays (by simp only [Reloc.heapBlocks]; omega) rfl rfl
    cases t
    · simp only
      cases hf : S.alloc w'.allocN
      · exact ⟨hr.node lf { a with count := a.count + 1 } rfl,
          fun _ => by cases lf <;> simp [planNew, planOld, planItems], fun _ => rfl⟩
      · exact ⟨hr, nofun, fun hn => nomatch (hn _).symm.trans hf⟩
    · exact ⟨hr, nofun, hok⟩
  | seg n =>
    simp only [Reloc.step]
    split
    · exact ⟨h, fun _ => by simp [planNew, planOld, planItems, *], fun _ => rfl⟩
    · obtain ⟨hl, hok⟩ := IArr.addBack_spec S r.src w
      generalize r.src.addBack S w = g at hl hok ⊢
      obtain ⟨t, a, w'⟩ := g
      have hr : RInv l0 { r with src := a } w'.led :=
        hl ▸ h.arrays (by simp only [Reloc.heapBlocks]; omega) rfl rfl
      cases t
      · simp only
        obtain ⟨hl2, hok2⟩ := IArr.addBack_spec S r.dst w'
        generalize r.dst.addBack S w' = g2 at hl2 hok2 ⊢
        obtain ⟨t2, b, w''⟩ := g2
        have hr2 : ∀ k, RInv l0 { r with src := a, dst := b, itemCount := k } w''.led := fun k =>
          hl2 ▸ hr.arrays (by simp only [Reloc.heapBlocks]; omega) rfl rfl
        cases t2
        · exact ⟨hr2 _, fun _ => by simp [planNew, planOld, planItems], fun _ => rfl⟩
        · exact ⟨hr2 _, nofun, hok2⟩
      · exact ⟨hr, nofun, hok⟩

theorem Reloc.run_spec (S : Sched) (ps : List PStep) (r : Reloc) (w : W) (l0 : Ledger) (h : RInv l0 r w.led) :
    RInv l0 (Reloc.run S ps r w).2.1 (Reloc.run S ps r w).2.2.led ∧
    ((Reloc.run S ps r w).1 = false →
      (Reloc.run S ps r w).2.1.newLeaves = r.newLeaves + planNew true ps ∧
      (Reloc.run S ps r w).2.1.newInners = r.newInners + planNew false ps ∧
      (Reloc.run S ps r w).2.1.oldLeaves = r.oldLeaves + planOld true ps ∧
      (Reloc.run S ps r w).2.1.oldInners = r.oldInners + planOld false ps ∧
      (Reloc.run S ps r w).2.1.itemCount = r.itemCount + planItems ps) ∧
    (S.NoAlloc → (Reloc.run S ps r w).1 = false) := by
  induction ps generalizing r w with
  | nil => exact ⟨h, fun _ => ⟨rfl, rfl, rfl, rfl, rfl⟩, fun _ => rfl⟩
  | cons s ss ih =>
    simp only [Reloc.run]
    obtain ⟨a, b, c⟩ := Reloc.step_spec S s r w l0 h
    generalize r.step S s w = g at a b c ⊢
    obtain ⟨t, r', w'⟩ := g
    cases t
    · obtain ⟨a2, b2, c2⟩ := ih r' w' a
      obtain ⟨b11, b12, b13, b14, b15⟩ := b rfl
      refine ⟨a2, fun hh => ?_, c2⟩
      obtain ⟨e1, e2, e3, e4, e5⟩ := b2 hh
      simp only at b11 b12 b13 b14 b15
      rw [e1, e2, e3, e4, e5, b11, b12, b13, b14, b15]
      rw [← List.singleton_append (l := ss)]
      simp only [planNew_append, planOld_append, planItems_append, Nat.add_assoc, and_self]
    · exact ⟨a, nofun, c⟩

theorem Reloc.run_destroy (S : Sched) (ps : List PStep) (w : W) :
    ((Reloc.run S ps {} w).2.1.destroy (Reloc.run S ps {} w).2.2).led = w.led :=
  ((Reloc.run_spec S ps {} w w.led (RInv.fresh _)).1).destroy

/-- what a creator does: when it throws, the ledger is untouched and its state satisfies `P`; when it returns, the ledger
    moved by `f` of its final state, which satisfies `Q` -/
def CreatorSpec {σ : Type} (creator : W → Bool × σ × W) (f : σ → Ledger) (P Q : σ → Prop) : Prop :=
  ∀ w0, ((creator w0).1 = true → (creator w0).2.2.led = w0.led ∧ P (creator w0).2.1) ∧
        ((creator w0).1 = false → (creator w0).2.2.led = w0.led + f (creator w0).2.1 ∧ Q (creator w0).2.1)

/-- the creator never throws (the hypothesis of the "no fault scheduled, so it returns" clauses) -/
def CreatorNoThrow {σ : Type} (creator : W → Bool × σ × W) : Prop := ∀ w0, (creator w0).1 = false

theorem copyCreator_spec (S : Sched) : CreatorSpec (copyCreator S) (fun _ => Ledger.ofItems 1) (fun _ => True) (fun _ => True) := by
  intro w0
  unfold copyCreator
  cases S.ctor w0.ctorN
  · exact ⟨nofun, fun _ => ⟨addItems_led_eq _ 1, trivial⟩⟩
  · exact ⟨fun _ => ⟨rfl, trivial⟩, nofun⟩

theorem copyCreator_noThrow (S : Sched) (hct : S.NoCtor) : CreatorNoThrow (copyCreator S) := fun w0 => by
  simp [copyCreator, hct w0.ctorN]

theorem handleCreator_spec (S : Sched) (ic : ICfg α) :
    CreatorSpec (handleCreator S ic) (fun _ => ({} : Ledger)) (fun _ => True) (fun _ => True) := by
  intro w0
  unfold handleCreator
  cases ic.reloc
  · cases S.ctor w0.ctorN
    · exact ⟨nofun, fun _ => ⟨(Ledger.add_zero' _).symm, trivial⟩⟩
    · exact ⟨fun _ => ⟨rfl, trivial⟩, nofun⟩
  · exact ⟨nofun, fun _ => ⟨(Ledger.add_zero' _).symm, trivial⟩⟩

/-- `RelocateCreate` can throw at the growth of the segment arrays, at a copy, in the creator -/
theorem Reloc.relocateCreate_spec {σ : Type} (S : Sched) (ic : ICfg α) (r : Reloc) (creator : W → Bool × σ × W) (s0 : σ)
    (w : W) (l0 : Ledger) {f : σ → Ledger} {P Q : σ → Prop} (hc : CreatorSpec creator f P Q) (h : RInv l0 r w.led)
    {t : Bool} {s : σ} {r' : Reloc} {w' : W} (hr : r.relocateCreate S ic creator s0 w = (t, s, r', w')) :
    (t = true → RInv l0 r' w'.led ∧ (s = s0 ∨ P s)) ∧
    (t = false → RInv (l0 + f s) r' w'.led ∧ Q s) ∧
    r'.newLeaves = r.newLeaves ∧ r'.newInners = r.newInners ∧ r'.oldLeaves = r.oldLeaves ∧ r'.oldInners = r.oldInners ∧
    (S.NoAlloc → S.NoCtor → CreatorNoThrow creator → t = false) := by
  unfold Reloc.relocateCreate at hr
  obtain ⟨hl, ok1⟩ := IArr.addBack_spec S r.src w
  generalize r.src.addBack S w = g at hl ok1 hr
  obtain ⟨t1, a, w1⟩ := g
  have hr1 : RInv l0 { r with src := a } w1.led := hl ▸ h.arrays (by simp only [Reloc.heapBlocks]; omega) rfl rfl
  cases t1
  · obtain ⟨hl2, ok2⟩ := IArr.addBack_spec S r.dst w1
    simp only at hr
    generalize r.dst.addBack S w1 = g2 at hl2 ok2 hr
    obtain ⟨t2, b, w2⟩ := g2
    have hbase : RInv l0 { r with src := a, dst := b } w2.led :=
      hl2 ▸ hr1.arrays (by simp only [Reloc.heapBlocks]; omega) rfl rfl
    cases t2
    · simp only at hr
      cases hrel : ic.reloc
      · rw [hrel, if_neg Bool.false_ne_true] at hr
        obtain ⟨k1, k2, k3⟩ := copyLoop_spec S r.itemCount w2
        have ku := copyLoop_undo S r.itemCount w2
        generalize copyLoop S r.itemCount w2 = g3 at k1 k2 k3 ku hr
        obtain ⟨d, t3, w3⟩ := g3
        cases t3
        · simp only at hr
          obtain ⟨c1, c2⟩ := hc w3
          have ok := fun (hok : CreatorNoThrow creator) => hok w3
          generalize creator w3 = g4 at c1 c2 ok hr
          obtain ⟨t4, s4, w4⟩ := g4
          cases hr
          cases k2 rfl
          refine ⟨fun hh => ⟨?_, Or.inr (c1 hh).2⟩, fun hh => ⟨?_, (c2 hh).2⟩, rfl, rfl, rfl, rfl, fun _ _ => ok⟩
          · rw [addItems_led_eq, (c1 hh).1, k1, Ledger.add_ofItems_cancel]; exact hbase
          · rw [addItems_led_eq, (c2 hh).1, k1, Ledger.add_right_comm' _ (f _), Ledger.add_ofItems_cancel]
            exact hbase.base _
        · cases hr
          exact ⟨fun _ => ⟨ku ▸ hbase, Or.inl rfl⟩, nofun, rfl, rfl, rfl, rfl, fun _ hct _ => k3 hct⟩
      · rw [hrel, if_pos rfl] at hr
        obtain ⟨c1, c2⟩ := hc w2
        have ok := fun (hok : CreatorNoThrow creator) => hok w2
        generalize creator w2 = g4 at c1 c2 ok hr
        obtain ⟨t4, s4, w4⟩ := g4
        cases hr
        exact ⟨fun hh => ⟨(c1 hh).1 ▸ hbase, Or.inr (c1 hh).2⟩, fun hh => ⟨(c2 hh).1 ▸ hbase.base _, (c2 hh).2⟩,
          rfl, rfl, rfl, rfl, fun _ _ => ok⟩
    · cases hr
      exact ⟨fun _ => ⟨hbase, Or.inl rfl⟩, nofun, rfl, rfl, rfl, rfl, fun hn _ _ => ok2 hn⟩
  · cases hr
    exact ⟨fun _ => ⟨hr1, Or.inl rfl⟩, nofun, rfl, rfl, rfl, rfl, fun hn _ _ => ok1 hn⟩

theorem int_swap_cancel (a o n s d : Int) : a + (o + n + s + d) + -(n + o + s + d) = a := by omega

/-- the destructor after the `Swap` of a completed `RelocateCreate`: the old nodes go, the new ones stay -/
theorem RInv.commit_destroy {l0 : Ledger} {r : Reloc} {w : W} (h : RInv l0 r w.led) :
    (r.commit.destroy w).led =
      { l0 with leaves := l0.leaves + r.newLeaves - r.oldLeaves, inners := l0.inners + r.newInners - r.oldInners } := by
  obtain ⟨c1, c2, c3, c4, c5, l⟩ := w
  cases (h : l = _)
  exact Ledger.ext' Int.sub_eq_add_neg.symm Int.sub_eq_add_neg.symm rfl (int_swap_cancel ..) rfl rfl

end Momo.BTreeF
