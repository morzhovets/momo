import Momo.Proof.ArrSegLayout
import Momo.Proof.TrEqMisc
import Momo.Proof.TrEqWave2Arr
/-!
# C05 — Array-like containers equal the abstract sequence, even with aliased/empty args

Property theorems only. Models: `Momo/Model/Arr.lean` (ArrayShifter, Array / ArrayIntCap, on which
stdish::vector / vector_intcap are thin wrappers), `Momo/Model/ArrSeg.lean` (SegmentedArray);
lemmas: `Momo/Proof/Arr*.lean`.

Statement (properties.jsonl): Array, ArrayIntCap, SegmentedArray and stdish::vector/vector_intcap behave as a
sequence: after any history of append, emplace, insert (one value, n copies, iterator range, initializer list),
remove (index, index range, predicate), resize, reserve, shrink, assign, copy, move and swap, the element
sequence equals that of a reference sequence. This includes calls whose value argument refers to an element of
the same container, and calls whose inserted or removed range is empty (which change nothing). After reserving
capacity n, growing the size up to n performs no allocation.

Quantifiers of the theorems: every configuration `cfg` (item kind: `keeps` = move is a copy / move is
destructive, nothrow-relocatable or not, nothrow-move-constructible or not; internal capacity any `Nat`;
memory manager with or without `Reallocate` / `ReallocateInplace`, any answer of the latter; both segment
sizings, any `logInitialItemCount`), every state satisfying the representation invariant, every operation
argument (every index, every count including 0, every list of values, every predicate, value arguments that are
fresh values or *any* element `j` of the same container), every history.  No size bound appears anywhere.
-/
namespace Momo.Arr
variable {α : Type} [Inhabited α]
set_option linter.unusedSectionVars false

/-! ## A. `ArrayShifter` on arbitrary cells (live or moved-from) -/

/-- **C05 (insert n copies, shifter level).** `ArrayShifter::InsertNogrow(array, index, count, item)` — both
branches, every index, every count *including 0*, `item` a value outside the array or an element below `index`
(the only aliases `Array::Insert` lets through): no cell is lost, duplicated, reordered or left moved-from, whatever
the cells are and however hostile a self-move is. -/
theorem C05_shifter_insert_n (keeps : Bool) (a : Cells α) (index count : Nat) (item : Ref α) (v : Cell α)
    (hi : index ≤ a.length) (hitem : item = .ext v ∨ ∃ j, j < index ∧ item = .elem j ∧ v = cellAt a j) :
    insertNogrowN keeps a index count item = a.take index ++ List.replicate count v ++ a.drop index := by
  rcases hitem with rfl | ⟨j, hj, rfl, rfl⟩
  · exact insertNogrowN_cells keeps a index count _ v hi (good_ext false index a v)
  · exact insertNogrowN_cells keeps a index count _ _ hi (good_elem index a j hj)

/-- **C05 (insert a range, shifter level).** `ArrayShifter::InsertNogrow(array, index, begin, count)` for forward
iterators (plain or `std::move_iterator`) over objects outside the array: every index, every length including 0. -/
theorem C05_shifter_insert_range (keeps mv : Bool) (a : Cells α) (index : Nat) (vs : Cells α) (hi : index ≤ a.length) :
    insertNogrowR keeps mv a index (vs.map .ext) = a.take index ++ vs ++ a.drop index :=
  insertNogrowR_cells keeps mv a index _ vs hi (goodAll_ext mv index a vs)

/-- **C05 (remove a range, shifter level).** `ArrayShifter::Remove(array, index, count)` + `RemoveBack(count)`:
exactly the cells `[index, index+count)` disappear, every index, every count including 0. -/
theorem C05_shifter_remove (keeps : Bool) (a : Cells α) (index count : Nat) (h : index + count ≤ a.length) :
    remove keeps a index count = a.take index ++ a.drop (index + count) :=
  remove_cells keeps a index count h

/-- **C05 (remove by predicate, shifter level).** `ArrayShifter::Remove(array, itemFilter)`: the cells the filter
rejects remain, in order; the returned number is the number removed. -/
theorem C05_shifter_remove_if (keeps : Bool) (p : Cell α → Bool) (a : Cells α) :
    removeIf keeps p a = (a.filter (fun c => !p c), a.length - (a.filter (fun c => !p c)).length) :=
  removeIf_spec keeps p a

/-! ## B. `Array` / `ArrayIntCap` / `stdish::vector` / `vector_intcap` -/

/-- **C05 (one operation).** From any state that represents the sequence `xs` (all items live) and satisfies the
invariant of `Array::Data`, any operation — append by copy, emplace_back, emplace, insert of n copies (n ≥ 0),
of a forward range / initializer list, of an input range, RemoveBack, Remove(index,count), Remove(pred),
SetCount (shrinking or growing, in place or reallocating), Reserve, Shrink, Clear, assign(n,x), assign(range),
element assignment — with a value argument that is a fresh value or *element j of the same array, any j* —
yields the state that represents `Spec.step xs op`, all items live, invariant kept (so the capacity obtained
by growing always suffices for the shifting that follows). -/
theorem C05_array_step_refines (cfg : Cfg) (s : State α) (xs : List α) (op : Op α) (w : WF cfg s)
    (hs : s.cells = xs.map Cell.live) (hv : Spec.valid xs op) :
    (step cfg s op).1.cells = (Spec.step xs op).map Cell.live ∧ WF cfg (step cfg s op).1 :=
  ⟨step_cells cfg s xs op hs hv, step_wf cfg s xs op w hs hv⟩

/-- **C05 (any history).** After any history of operations that meet their preconditions, starting from an empty
array, the element sequence equals the reference sequence. -/
theorem C05_array_history (cfg : Cfg) (ops : List (Op α)) (hv : Spec.validAll [] ops) :
    (run cfg (State.init cfg) ops).1.cells = (Spec.run [] ops).map Cell.live ∧
    WF cfg (run cfg (State.init cfg) ops).1 :=
  have h := hist cfg ops (State.init cfg) [] rfl hv
  ⟨h.1, h.2.1 (wf_init cfg)⟩

/-- **C05 (empty ranges change nothing).** Inserting zero copies / an empty range and removing zero items leave
the whole `Array::Data` — items, capacity, storage — as it is and call the memory manager not at all; this
holds for *arbitrary* cells (finding F3 was a self-move-assignment of every item behind `index`). -/
theorem C05_array_empty_ranges (cfg : Cfg) (s : State α) (index : Nat) (item : Ref α) (w : WF cfg s) :
    step cfg s (.insertN index 0 item) = (s, []) ∧ step cfg s (.insertRange index []) = (s, []) ∧
    step cfg s (.insertInput index []) = (s, []) ∧ step cfg s (.remove index 0) = (s, []) ∧
    step cfg s (.removeBack 0) = (s, []) := by
  have hc := Nat.not_lt.2 w.count_le
  refine ⟨?_, ?_, rfl, rfl, ?_⟩
  · rw [step, insertN, Nat.add_zero, if_neg hc]
    split <;> rfl
  · rw [step, insertRange, List.map_nil, List.length_nil, Nat.add_zero, if_neg hc]
    rfl
  · rw [step, removeBack, Nat.sub_zero, List.take_length]

/-- **C05 (rvalue argument that is an element: `Insert(index, std::move(array[j]))`)**, including the aliasing
analysis of `Array::Insert(size_t, Item&&)`: the new element is `xs[j]`, all other elements are unchanged and
live; the source element (now at `j`, or `j+1` when it was shifted) holds what a move leaves behind. -/
theorem C05_array_insert_moved_element (cfg : Cfg) (s : State α) (xs : List α) (index j : Nat)
    (hs : s.cells = xs.map Cell.live) (hi : index ≤ xs.length) (hj : j < xs.length) :
    (insertMove cfg s index (.elem j)).1.cells =
      ((Spec.insertN xs index 1 xs[j]).map Cell.live).set (if j < index then j else j + 1)
        (afterMove cfg.keeps (.live xs[j])) :=
  insertMove_elem cfg s xs index j hs hi hj

/-- **C05 (`InsertVar(index, std::move(array[j]))` = `emplace(pos, std::move(v[j]))`).** -/
theorem C05_array_emplace_moved_element (cfg : Cfg) (s : State α) (xs : List α) (index j : Nat)
    (hs : s.cells = xs.map Cell.live) (hi : index ≤ xs.length) (hj : j < xs.length) :
    (insertCrt cfg s index true (.elem j)).1.cells =
      ((Spec.insertN xs index 1 xs[j]).map Cell.live).set (if j < index then j else j + 1)
        (afterMove cfg.keeps (.live xs[j])) :=
  insertCrt_move_elem cfg s xs index j hs hi hj

/-- **C05 (`AddBack(std::move(array[j]))` and `AddBackVar(std::move(array[j]))`)**, all code paths (no growth;
growth with `pvIndexOf` + move from the relocated item; `RelocateCreate` creating first; `RelocateCreate` copying
first): the appended element is `xs[j]`, element `j` keeps its value or is moved-from, the rest is unchanged. -/
theorem C05_array_append_moved_element (cfg : Cfg) (s : State α) (xs : List α) (j : Nat)
    (hs : s.cells = xs.map Cell.live) (hj : j < xs.length) :
    (∃ c, LeftBehind cfg xs[j] c ∧
      (addBackMoveOp cfg s (.elem j)).1.cells = ((xs ++ [xs[j]]).map Cell.live).set j c) ∧
    (∃ c, LeftBehind cfg xs[j] c ∧
      (addBackCrt cfg s true (.elem j)).1.cells = ((xs ++ [xs[j]]).map Cell.live).set j c) :=
  ⟨addBackMove_elem cfg s xs j hs hj, addBackCrt_move_elem cfg s xs j hs hj⟩

/-- **C05 (copy, move, swap).** Copy construction (with or without `shrink`) and copy assignment reproduce the
source's sequence and leave the source alone; move construction and move assignment transfer the sequence and
leave an empty, valid source; `Swap` exchanges the sequences. All results satisfy the invariant. -/
theorem C05_array_copy_move_swap (cfg : Cfg) (a b : State α) (f : Bool) (wa : WF cfg a) (wb : WF cfg b) :
    ((copyCtor cfg a f).1.cells = a.cells ∧ WF cfg (copyCtor cfg a f).1) ∧
    ((copyAssign cfg b a).1.cells = a.cells ∧ WF cfg (copyAssign cfg b a).1) ∧
    ((moveCtor cfg a).1.cells = a.cells ∧ (moveCtor cfg a).2.cells = [] ∧
      WF cfg (moveCtor cfg a).1 ∧ WF cfg (moveCtor cfg a).2) ∧
    ((moveAssign cfg b a).1.cells = a.cells ∧ (moveAssign cfg b a).2.1.cells = [] ∧
      WF cfg (moveAssign cfg b a).1 ∧ WF cfg (moveAssign cfg b a).2.1) ∧
    ((swap a b).1.cells = b.cells ∧ (swap a b).2.cells = a.cells ∧ WF cfg (swap a b).1 ∧ WF cfg (swap a b).2) :=
  ⟨copyCtor_spec cfg a f wa, copyAssign_spec cfg b a, moveCtor_spec cfg a wa, moveAssign_spec cfg b a wa,
   swap_spec cfg a b wa wb⟩

/-- **C05 (growth policy).** `ArraySettings::GrowCapacity` (constants extracted from Array.h) never returns less
than the requested minimum. -/
theorem C05_growCapacity_ge (g : Bool) (capacity minNew : Nat) (reserve linear : Bool) :
    minNew ≤ growCapacity g capacity minNew reserve linear :=
  growCapacity_ge g capacity minNew reserve linear

/-- **C05 (reserve clause).** After `Reserve(n)` the capacity is at least `n` and the items are unchanged; then
any history of size-changing operations (appends, emplaces, inserts of any kind, removals, SetCount, element
assignment) during which the size never exceeds `n` makes *no call at all* to the memory manager. -/
theorem C05_array_reserve_no_alloc (cfg : Cfg) (s : State α) (xs : List α) (n : Nat) (ops : List (Op α))
    (w : WF cfg s) (hs : s.cells = xs.map Cell.live) (hop : ∀ op ∈ ops, op.sizeOp)
    (hv : Spec.validAll xs ops) (hsz : sizesLe xs ops n) :
    n ≤ capacity cfg (reserve cfg s n).1 ∧ (reserve cfg s n).1.cells = s.cells ∧
    (run cfg (reserve cfg s n).1 ops).2 = [] := by
  obtain ⟨hc, hcells, w'⟩ := reserve_spec cfg s n w
  exact ⟨hc, hcells, (hist cfg ops _ xs (by rw [hcells]; exact hs) hv).2.2 n hc hop hsz⟩

/-! ## C. `SegmentedArray` (constant and sqrt sizing, every `logInitialItemCount`) -/

/-- **C05 (SegmentedArray, one operation and any history).** Every operation refines the reference sequence; the
sizing only influences the memory-manager calls. -/
theorem C05_segarray_step_refines (cfg : Seg.SCfg) (s : Seg.SState α) (xs : List α) (op : Op α)
    (hs : s.cells = xs.map Cell.live) (hv : Spec.valid xs op) :
    (Seg.step cfg s op).1.cells = (Spec.step xs op).map Cell.live :=
  (Seg.step_sized cfg (Seg.layout_ok _) s xs op hs hv).1

theorem C05_segarray_history (cfg : Seg.SCfg) (ops : List (Op α)) (hv : Spec.validAll [] ops) :
    (Seg.run cfg Seg.SState.init ops).1.cells = (Spec.run [] ops).map Cell.live :=
  (Seg.hist cfg (Seg.layout_ok _) ops Seg.SState.init [] rfl hv).1

/-- **C05 (SegmentedArray, room for every item).** After any history `mCount <= GetCapacity()`: every index the
shifter and `AddBackNogrow` touch lies in an allocated segment (with the sizing laws this is the
`MOMO_CHECK(segIndex < mSegments.GetCount())` of `AddBackNogrowCrt`). -/
theorem C05_segarray_capacity_suffices (cfg : Seg.SCfg) (ops : List (Op α)) (hv : Spec.validAll [] ops) :
    (Seg.run cfg Seg.SState.init ops).1.cells.length ≤ Seg.capacity cfg (Seg.run cfg Seg.SState.init ops).1 :=
  (Seg.hist cfg (Seg.layout_ok _) ops Seg.SState.init [] rfl hv).2.1 (Nat.zero_le _)

/-- **C05 (SegmentedArray, reserve clause).** For both sizings and every `logInitialItemCount` (the sizing laws
are those proved for C16): after `Reserve(n)` the capacity is at least `n`, and while the size stays within `n`
neither a segment nor the segment-pointer array is (re)allocated. -/
theorem C05_segarray_reserve_no_alloc (cfg : Seg.SCfg) (s : Seg.SState α) (xs : List α) (n : Nat) (ops : List (Op α))
    (hs : s.cells = xs.map Cell.live) (hop : ∀ op ∈ ops, op.sizeOp)
    (hv : Spec.validAll xs ops) (hsz : sizesLe xs ops n) :
    n ≤ Seg.capacity cfg (Seg.reserveOp cfg s n).1 ∧ (Seg.reserveOp cfg s n).1.cells = s.cells ∧
    (Seg.run cfg (Seg.reserveOp cfg s n).1 ops).2 = [] := by
  have ok := Seg.layout_ok cfg.lay
  have hc := Seg.reserveOp_cap cfg ok s n
  have hcells := Seg.reserveOp_cells cfg s n
  exact ⟨hc, hcells, (Seg.hist cfg ok ops _ xs (by rw [hcells]; exact hs) hv).2.2 n hc hop hsz⟩

/-! ## Non-vacuity: concrete states and histories that meet the hypotheses -/

/-- `std::string`-like items in an `ArrayIntCap<2>` -/
def exCfg : Cfg := { intCap := 2 }
/-- push 1 2 3, insert 2 copies of element 2 (aliased, at its own index → handler path), insert 0 copies, erase
    an empty range, `Remove(x odd)`, resize with an aliased value -/
def exOps : List (Op Nat) :=
  [.addBackCopy (.ext (.live 1)), .addBackCopy (.ext (.live 2)), .addBackCopy (.elem 0), .insertN 2 2 (.elem 2),
   .insertN 1 0 (.elem 3), .remove 2 0, .insertRange 1 [7, 8], .removeIf (fun x => x % 2 == 1), .setCount 6 (.elem 1)]

example : Spec.validAll ([] : List Nat) exOps := by
  simp only [exOps, Spec.validAll, Spec.valid, Spec.refOk]; decide +kernel
example : (run exCfg (State.init exCfg) exOps).1.cells = [.live 8, .live 2, .live 2, .live 2, .live 2, .live 2] := by
  decide +kernel
example : Spec.run ([] : List Nat) exOps = [8, 2, 2, 2, 2, 2] := by decide +kernel
example : WF exCfg (State.init exCfg : State Nat) := wf_init exCfg
/-- the growing history allocates (so the reserve theorem is not about a model that never allocates) … -/
example : (run exCfg (State.init exCfg) exOps).2 = [.alloc 4, .alloc 8, .dealloc 4] := by decide +kernel
/-- … and after `Reserve(8)` the same history allocates nothing -/
example : (run exCfg (reserve exCfg (State.init exCfg) 8).1 exOps).2 = [] := by decide +kernel
example : sizesLe ([] : List Nat) exOps 8 := by
  simp only [exOps, sizesLe]; decide +kernel
/-- a hostile self-move in the model: the zero-count insert of F3 (before the repair the loops ran with
    `count = 0`) would have produced moved-from cells; `loop2` with `count = 0` indeed self-move-assigns -/
example : loop2 false [Cell.live 1, .live 2, .live 3] 0 3 2 = [.live 1, .moved, .moved] := by decide +kernel
/-- an rvalue alias leaves a moved-from cell exactly where the theorem says -/
example : (insertMove exCfg { cells := [.live 5, .live 6, .live 7], cap := 4 } 1 (.elem 2)).1.cells
    = [Cell.live 5, .live 7, .live 6, .moved] := by decide +kernel
/-- SegmentedArray, sqrt sizing with `logInitialItemCount = 1` -/
def exSeg : Seg.SCfg := { lay := { sqrt := true, L := 1 } }
example : (Seg.run exSeg Seg.SState.init exOps).1.cells = [.live 8, .live 2, .live 2, .live 2, .live 2, .live 2] := by
  decide +kernel
example : (Seg.run exSeg (Seg.reserveOp exSeg Seg.SState.init 8).1 exOps).2 = [] := by decide +kernel

/-! ### The functions as translated from the headers

`Momo.Tr.*` are Lean definitions regenerated on every check by tools/translate.py from the *function bodies* in the
current headers (C++ integer semantics explicit: wrap-around of `size_t`, promotion and truncation of the byte fields,
the `while` loop). The theorems below are about those generated definitions. -/
/-- `ArraySettings::GrowCapacity` as translated from the current header is the model's growth rule (capacities
below 2^62 items: nothing wraps), hence never returns less than the requested minimum. -/
theorem C05_growCapacity_translated (g : Bool) (capacity minNew : Nat) (reserve linear : Bool) (hc : capacity < 2 ^ 62) :
    Tr.arr_GrowCapacity g capacity minNew reserve linear = growCapacity g capacity minNew reserve linear ∧
    minNew ≤ Tr.arr_GrowCapacity g capacity minNew reserve linear := by
  rw [TrEq.tr_growCapacity g capacity minNew reserve linear hc]
  exact ⟨rfl, growCapacity_ge g capacity minNew reserve linear⟩

example : Tr.arr_GrowCapacity true 200 201 false false = 292 := by decide +kernel

/-! #### the capacity tests (equivalences: `Proof/TrEqWave2Arr.lean`) -/

/-- **`Array` capacity tests, from the header text.** The model's `Data::Reallocate` is its C++ text with the three tests
(`GetCapacity() == internalCapacity`, `capacityLin <= internalCapacity || capacityExp <= internalCapacity`,
`!canReallocate || capacityLin < capacityExp`) and `Data::GetCapacity` translated from Array.h; `Reserve` and `Shrink(capacity)`
are their text with the translated tests and the translated shrink target; `Data::Reset` takes its heap branch exactly when the
translated `capacity > internalCapacity` holds. -/
theorem C05_capacity_tests_translated {α : Type} (cfg : Cfg) (s : State α) (lin exp n : Nat) (newCells : Cells α) :
    (reallocate cfg s lin exp =
      if Tr.arr_Reallocate_internal cfg.intCap (Tr.arr_Data_GetCapacity cfg.intCap s.internal s.cap) = true then (false, s, [])
      else if Tr.arr_Reallocate_small cfg.intCap lin exp = true then (false, s, [])
      else if (Tr.arr_Reallocate_tryInplace cfg.canRealloc lin exp && cfg.canInplace) = true then
        if s.cap = lin then (true, s, [])
        else if s.oracle then (true, { s with cap := lin }, [.inplace s.cap lin true])
        else if cfg.canRealloc then (true, { s with cap := exp }, .inplace s.cap lin false :: reallocEv s.cap exp)
        else (false, s, [.inplace s.cap lin false])
      else if cfg.canRealloc then (true, { s with cap := exp }, reallocEv s.cap exp)
      else (false, s, [])) ∧
    reserve cfg s n = (if Tr.arr_Reserve_grows n (Tr.arr_Data_GetCapacity cfg.intCap s.internal s.cap) = true
                       then grow cfg s n true else (s, [])) ∧
    shrink cfg s n = (if Tr.arr_Shrink_keeps cfg.intCap (Tr.arr_Data_GetCapacity cfg.intCap s.internal s.cap) n = true then (s, [])
                      else moveTo cfg s (Tr.arr_Shrink_target s.cells.length n) (Tr.arr_Shrink_target s.cells.length n)) ∧
    (Tr.arr_Reset_heap cfg.intCap n = true →
      reset cfg s n newCells = ({ s with cells := newCells, cap := n, internal := false },
        .alloc n :: (if capacity cfg s > cfg.intCap then [.dealloc s.cap] else []))) :=
  ⟨TrEq.reallocate_translated cfg s lin exp, TrEq.reserve_shrink_translated cfg s n newCells⟩

example : Tr.arr_Shrink_target 7 3 = 7 ∧ Tr.arr_Reallocate_small 4 4 9 = true ∧ Tr.arr_Data_GetCapacity 4 true 100 = 4 := by decide +kernel

end Momo.Arr
