import Momo.Proof.BTreeFaultAdd
/-!
  C04 for the B-tree family, container level: the invariant `FTree.WF` of a container of the fault model (every later file
  rests on it), `pvAdd` with `pvAddFirst` (`addF_spec`) and `pvInsert` (`insertF_spec`) under every fault schedule.
-/
namespace Momo.BTreeF
open Momo Momo.BTree Momo.BTree.Node
variable {α : Type}

/-- the invariant of a container of the fault model, hypothesis and conclusion of every operation from here on: the tree's invariant,
    and `mNodeParams` exists whenever a root does (`pvAddFirst` creates it first, nothing releases it before the destructor): without
    the second clause the ledger of a container with a root would be one block short -/
structure FTree.WF (cfg : Cfg) (ft : FTree α) : Prop where
  tree : ft.tree.WF cfg
  params : ft.tree.root ≠ none → ft.params = true

theorem FTree.wf_empty (cfg : Cfg) (p : Bool) : FTree.WF cfg ({ tree := {}, params := p } : FTree α) :=
  ⟨Tree.wf_empty cfg, fun h => absurd rfl h⟩

theorem ensureParams_spec (S : Sched) (ft : FTree α) (w : W) :
    (ensureParams S ft w).2.1.tree = ft.tree ∧
    (ensureParams S ft w).2.2.led = w.led + ((ensureParams S ft w).2.1.nodeLed - ft.nodeLed) ∧
    ((ensureParams S ft w).1 = false → (ensureParams S ft w).2.1.params = true) ∧
    ((ensureParams S ft w).1 = true → (ensureParams S ft w).2.1 = ft) ∧
    (S.NoAlloc → (ensureParams S ft w).1 = false) := by
  unfold ensureParams
  cases hp : ft.params
  · rw [if_neg Bool.false_ne_true]
    cases hf : S.alloc w.allocN
    · refine ⟨rfl, ?_, fun _ => rfl, nofun, fun _ => rfl⟩
      apply Ledger.ext' <;> simp [FTree.leaves, FTree.inners, hp]
    · exact ⟨rfl, Ledger.add_sub_self _ _, nofun, fun _ => rfl, fun hn => nomatch (hn _).symm.trans hf⟩
  · exact ⟨rfl, Ledger.add_sub_self _ _, fun _ => hp, fun _ => rfl, fun _ => rfl⟩

theorem nodeLed_sub_of_root (ft : FTree α) {r : Node α} (h : ft.tree.root = some r) (r' : Node α) (c : Nat) :
    ({ ft with tree := { root := some r', count := c } } : FTree α).nodeLed - ft.nodeLed = nodeDelta r r' := by
  apply Ledger.ext' <;> simp [nodeDelta, FTree.leaves, FTree.inners, h]

/-- thrown: the ledger moved only by the node-params block a first insertion (`pvAddFirst`) may have created
    (`ft'.nodeLed - ft.nodeLed`) -/
theorem addF_spec {σ : Type} (S : Sched) (ic : ICfg α) (cfg : Cfg) (hmax : 0 < cfg.maxCap) (ft : FTree α) (hw : ft.WF cfg)
    (pos : Pos) (hv : ft.tree.ValidPos pos) (x : α) (creator : W → Bool × σ × W) (s0 : σ) {f : σ → Ledger}
    {P Q : σ → Prop} (hc : CreatorSpec creator f P Q) (w : W) {t : Bool} {s : σ} {ft' : FTree α} {p : Pos} {w' : W}
    (h : addF S ic cfg ft pos x creator s0 w = (t, s, ft', p, w')) :
    (t = true → ft'.tree = ft.tree ∧ w'.led = w.led + (ft'.nodeLed - ft.nodeLed) ∧ (s = s0 ∨ P s)) ∧
    (t = false → ft'.tree = (ft.tree.add cfg pos x).1 ∧ p = (ft.tree.add cfg pos x).2 ∧
        w'.led = w.led + f s + (ft'.nodeLed - ft.nodeLed) ∧ Q s) ∧
    ft'.WF cfg ∧ (S.NoAlloc → S.NoCtor → CreatorNoThrow creator → t = false) := by
  have hadd := (tree_add_spec cfg hmax ft.tree hw.tree pos hv x).2.1
  unfold addF at h
  unfold Tree.ValidPos at hv
  cases hr : ft.tree.root with
  | some r =>
    simp only [hr] at h hv
    obtain ⟨d, hb⟩ := hw.tree.bal r hr
    obtain ⟨m, hm, hi⟩ := validPos_slot hv
    rcases hn : addNode S ic cfg r pos x creator s0 w with ⟨t1, s1, r1, p1, w1⟩
    rw [hn] at h
    obtain ⟨a1, a2, a3⟩ := addNode_spec S ic cfg hmax hb pos hm hi x creator s0 hc w hn
    cases t1
    · cases h
      obtain ⟨rfl, rfl, e3, e4⟩ := a2 rfl
      have htree : ({ root := some (addRoot cfg x r pos).1, count := ft.tree.count + 1 } : Tree α) = (ft.tree.add cfg pos x).1 := by
        simp [Tree.add, hr]
      exact ⟨nofun, fun _ => ⟨htree, by simp [Tree.add, hr], e3.trans (congrArg _ (nodeLed_sub_of_root ft hr _ _).symm), e4⟩,
        ⟨htree ▸ hadd, fun _ => hw.params (by simp [hr])⟩, fun _ _ _ => rfl⟩
    · cases h
      exact ⟨fun _ => ⟨rfl, (a1 rfl).2.1.trans (Ledger.add_sub_self _ _), (a1 rfl).2.2⟩, nofun, hw, a3⟩
  | none =>
    simp only [hr] at h hv
    obtain ⟨q1, q2, q3, q4, q5⟩ := ensureParams_spec S ft w
    generalize ensureParams S ft w = g at h q1 q2 q3 q4 q5
    obtain ⟨t0, ft1, w1⟩ := g
    cases t0
    · have hp1 := q3 rfl
      have hwf1 : ft1.WF cfg := ⟨q1 ▸ hw.tree, fun _ => hp1⟩
      simp only at h q1 q2
      cases hf : S.alloc w1.allocN
      · simp only [hf, Bool.false_eq_true, if_false] at h
        rcases hn : addNode S ic cfg (leaf (leafCap cfg 0 0) []) ⟨[], 0⟩ x creator s0 (w1.tickAlloc.addLeaves 1) with
          ⟨t1, s1, r1, p1, w2⟩
        rw [hn] at h
        obtain ⟨a1, a2, a3⟩ := addNode_spec S ic cfg hmax (Bal.leaf (leafCap cfg 0 0) ([] : List α)) ⟨[], 0⟩ (nodeAt?_nil _)
          (Nat.zero_le _) x creator s0 hc (w1.tickAlloc.addLeaves 1) hn
        cases t1
        · cases h
          obtain ⟨rfl, rfl, e3, e4⟩ := a2 rfl
          rw [addRoot_fresh cfg hmax x] at e3 ⊢
          have htree : ({ root := some (leaf (leafCap cfg 0 0) [x]), count := ft.tree.count + 1 } : Tree α) =
              (ft.tree.add cfg pos x).1 := by simp [Tree.add, hr]
          refine ⟨nofun, fun _ => ⟨htree, by simp [Tree.add, hr], ?_, e4⟩, ⟨htree ▸ hadd, fun _ => hp1⟩, fun _ _ _ => rfl⟩
          rw [e3]
          apply Ledger.ext' <;> simp [nodeDelta, q2, FTree.leaves, FTree.inners, q1, hr] <;> omega
        · cases h
          refine ⟨fun _ => ⟨q1, ?_, (a1 rfl).2.2⟩, nofun, hwf1, a3⟩
          rw [show (w2.addLeaves (-1)).led = { w2.led with leaves := w2.led.leaves + (-1) } from rfl, (a1 rfl).2.1]
          apply Ledger.ext' <;> simp [q2] <;> omega
      · simp only [hf, if_true] at h
        cases h
        exact ⟨fun _ => ⟨q1, q2, Or.inl rfl⟩, nofun, hwf1, fun hn _ _ => nomatch (hn _).symm.trans hf⟩
    · cases h
      cases q4 rfl
      exact ⟨fun _ => ⟨rfl, q2, Or.inl rfl⟩, nofun, hw, fun hn _ _ => q5 hn⟩

theorem insertF_spec {σ : Type} (S : Sched) (ic : ICfg α) (cfg : Cfg) (hmax : 0 < cfg.maxCap) (lt : α → α → Bool)
    (ho : Order lt) (ft : FTree α) (hw : ft.WF cfg) (hs : SortedBy lt cfg.multi ft.tree.toList) (x : α)
    (creator : W → Bool × σ × W) (s0 : σ) {f : σ → Ledger} {P Q : σ → Prop} (hc : CreatorSpec creator f P Q) (w : W)
    {t : Bool} {s : σ} {ft' : FTree α} {p : Pos} {ins : Bool} {w' : W}
    (h : insertF S ic cfg lt ft x creator s0 w = (t, s, ft', p, ins, w')) :
    (t = true → ft'.tree = ft.tree ∧ w'.led = w.led + (ft'.nodeLed - ft.nodeLed) ∧ (s = s0 ∨ P s)) ∧
    (t = false → ft'.tree = (Tree.insert lt cfg ft.tree x).1 ∧ p = (Tree.insert lt cfg ft.tree x).2.1 ∧
        ins = (Tree.insert lt cfg ft.tree x).2.2 ∧ (ins = false → s = s0 ∧ ft' = ft ∧ w'.led = w.led) ∧
        (ins = true → w'.led = w.led + f s + (ft'.nodeLed - ft.nodeLed) ∧ Q s)) ∧
    ft'.WF cfg ∧ (S.NoCmp → S.NoAlloc → S.NoCtor → CreatorNoThrow creator → t = false) := by
  obtain ⟨-, u2⟩ := tree_upperBound_spec lt ho cfg ft.tree hw.tree (hs.weak ho) x
  obtain ⟨k1, k2, k3⟩ := findPosF_spec S cfg.linear (fun y => lt x y) cfg ft.tree hw.tree w
  have k2' : ∀ q, (findPosF S cfg.linear (fun y => lt x y) ft.tree w).1 = some q → q = Tree.upperBound lt cfg ft.tree x := by
    intro q hq
    rw [k2 q hq]; unfold Tree.upperBound; cases ft.tree.root <;> rfl
  unfold insertF at h
  generalize findPosF S cfg.linear (fun y => lt x y) ft.tree w = g at h k1 k2' k3
  obtain ⟨o, w1⟩ := g
  cases o with
  | none =>
    cases h
    exact ⟨fun _ => ⟨rfl, k1.trans (Ledger.add_sub_self _ _), Or.inl rfl⟩, nofun, hw, fun hcm _ _ _ => nomatch k3 hcm⟩
  | some ub =>
    cases k2' ub rfl
    simp only at h k1
    -- `pvAdd` at the upper bound: the insertion proper
    have tail : ∀ (w2 : W), w2.led = w.led →
        (match addF S ic cfg ft (Tree.upperBound lt cfg ft.tree x) x creator s0 w2 with
          | (t, s, ft', p, w2') => (t, s, ft', p, !t, w2')) = (t, s, ft', p, ins, w') →
        Tree.insert lt cfg ft.tree x =
          ((ft.tree.add cfg (Tree.upperBound lt cfg ft.tree x) x).1, (ft.tree.add cfg (Tree.upperBound lt cfg ft.tree x) x).2, true) →
        (t = true → ft'.tree = ft.tree ∧ w'.led = w.led + (ft'.nodeLed - ft.nodeLed) ∧ (s = s0 ∨ P s)) ∧
        (t = false → ft'.tree = (Tree.insert lt cfg ft.tree x).1 ∧ p = (Tree.insert lt cfg ft.tree x).2.1 ∧
            ins = (Tree.insert lt cfg ft.tree x).2.2 ∧ (ins = false → s = s0 ∧ ft' = ft ∧ w'.led = w.led) ∧
            (ins = true → w'.led = w.led + f s + (ft'.nodeLed - ft.nodeLed) ∧ Q s)) ∧ ft'.WF cfg ∧
        (S.NoCmp → S.NoAlloc → S.NoCtor → CreatorNoThrow creator → t = false) := by
      intro w2 hw2 h2 hins
      have hsp := @addF_spec _ _ S ic cfg hmax ft hw _ u2 x creator s0 f P Q hc w2
      generalize addF S ic cfg ft (Tree.upperBound lt cfg ft.tree x) x creator s0 w2 = g at h2 hsp
      obtain ⟨t1, s1, ft1, p1, w3⟩ := g
      cases h2
      obtain ⟨b1, b2, b3, b4⟩ := hsp rfl
      rw [hins, ← hw2]
      refine ⟨b1, fun hh => ?_, b3, fun _ => b4⟩
      obtain ⟨c1, c2, c3, c4⟩ := b2 hh
      subst hh
      exact ⟨c1, c2, rfl, nofun, fun _ => ⟨c3, c4⟩⟩
    by_cases hcond : (!cfg.multi && decide (Tree.upperBound lt cfg ft.tree x ≠ ft.tree.beginPos)) = true
    · simp only [hcond, if_true] at h
      cases hel : ft.tree.elemAt? (ft.tree.prev (Tree.upperBound lt cfg ft.tree x)) with
      | none =>
        simp only [hel] at h
        exact tail w1 k1 h (by unfold Tree.insert; simp [Tree.prevNotLess, hel])
      | some y =>
        simp only [hel] at h
        cases hf : S.cmp w1.cmpN
        · simp only [hf, Bool.false_eq_true, if_false] at h
          by_cases hnl : (!lt y x) = true
          · simp only [hnl, if_true] at h
            cases h
            have hins : Tree.insert lt cfg ft.tree x = (ft.tree, ft.tree.prev (Tree.upperBound lt cfg ft.tree x), false) := by
              unfold Tree.insert
              simp only [Tree.prevNotLess, hel]
              rw [if_pos (by rw [Bool.and_eq_true]; exact ⟨hcond, hnl⟩)]
            rw [hins]
            exact ⟨nofun, fun _ => ⟨rfl, rfl, rfl, fun _ => ⟨rfl, rfl, k1⟩, nofun⟩, hw, fun _ _ _ _ => rfl⟩
          · simp only [hnl, Bool.false_eq_true, if_false] at h
            refine tail w1.tickCmp k1 h ?_
            unfold Tree.insert
            simp only [Tree.prevNotLess, hel]
            rw [if_neg (by rw [Bool.and_eq_true]; intro hh; exact hnl hh.2)]
        · simp only [hf, if_true] at h
          cases h
          exact ⟨fun _ => ⟨rfl, k1.trans (Ledger.add_sub_self _ _), Or.inl rfl⟩, nofun, hw,
            fun hcm _ _ _ => nomatch (hcm _).symm.trans hf⟩
    · simp only [hcond, Bool.false_eq_true, if_false] at h
      refine tail w1 k1 h ?_
      unfold Tree.insert
      rw [if_neg (by rw [Bool.and_eq_true]; intro hh; exact hcond hh.1)]

/-- without faults `pvInsert` returns, and tree, iterator and `inserted` are those of the fault-free insertion -/
theorem insertF_clean {σ : Type} (S : Sched) (hcm : S.NoCmp) (hn : S.NoAlloc) (hct : S.NoCtor) (ic : ICfg α) (cfg : Cfg)
    (hmax : 0 < cfg.maxCap) (lt : α → α → Bool) (ho : Order lt) (ft : FTree α) (hw : ft.WF cfg)
    (hs : SortedBy lt cfg.multi ft.tree.toList) (x : α) (creator : W → Bool × σ × W) (s0 : σ) {f : σ → Ledger}
    {P Q : σ → Prop} (hc : CreatorSpec creator f P Q) (hok : CreatorNoThrow creator) (w : W)
    {t : Bool} {s : σ} {ft' : FTree α} {p : Pos} {ins : Bool} {w' : W}
    (h : insertF S ic cfg lt ft x creator s0 w = (t, s, ft', p, ins, w')) :
    t = false ∧ ft'.tree = (Tree.insert lt cfg ft.tree x).1 ∧ p = (Tree.insert lt cfg ft.tree x).2.1 ∧
    ins = (Tree.insert lt cfg ft.tree x).2.2 := by
  obtain ⟨-, b2, -, b4⟩ := insertF_spec S ic cfg hmax lt ho ft hw hs x creator s0 hc w h
  obtain rfl : t = false := b4 hcm hn hct hok
  exact ⟨rfl, (b2 rfl).1, (b2 rfl).2.1, (b2 rfl).2.2.1⟩

end Momo.BTreeF
