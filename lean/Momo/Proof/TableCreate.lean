import Momo.Proof.TableRows
import Momo.Proof.TableQuery
/-!
  C07, table level: the empty table (with any index definitions) and `Clear` satisfy the invariant (`clear_spec`, by `Inv_empty`);
  indexes created after the data (`AddUniqueHashIndex`, `AddMultiHashIndex` through `pvAddHashIndex`) and the copy constructor
  (`pvFill`): the invariant holds for the new index / the new table. The copy needs that `addRaw` leaves the column lists of the
  indexes as they are (`*_cols`).
-/
namespace Momo.Table
open List

theorem clear_spec (acc : Acc) (keep : Bool) (t : Table) (hinv : Inv acc keep t) :
    Inv acc keep (clear t) ∧ (clear t).rows = [] := by
  refine ⟨Inv_empty acc keep _ rfl ?_ ?_, rfl⟩
  · intro u hu
    obtain ⟨u0, hu0, rfl⟩ := mem_map.mp hu
    exact ⟨(hinv.uinv u0 hu0).colsNodup, rfl, (hinv.uinv u0 hu0).noPos.1, (hinv.uinv u0 hu0).noPos.2⟩
  · intro m hm
    obtain ⟨m0, hm0, rfl⟩ := mem_map.mp hm
    exact ⟨(hinv.minv m0 hm0).colsNodup, rfl, (hinv.minv m0 hm0).noPos.1, (hinv.minv m0 hm0).noPos.2⟩

theorem UIdx.add_cols {vis : Vis} {acc : Acc} {st : Store} {u u' : UIdx} {raw r : Nat} {o : Option Nat} {fail : Bool}
    (h : u.add vis acc st raw o fail = some (u', r)) : u'.cols = u.cols := by
  unfold UIdx.add at h
  split at h
  · simp only [Option.some.injEq, Prod.mk.injEq] at h
    rw [← h.1]; split <;> rfl
  · split at h
    · simp at h
    · simp only [Option.some.injEq, Prod.mk.injEq] at h
      rw [← h.1]

theorem MIdx.add_cols (vis : Vis) (acc : Acc) (st : Store) (m : MIdx) (raw : Nat) (fail : Bool) :
    (m.add vis acc st raw fail).1.cols = m.cols := by
  unfold MIdx.add
  cases m.findRaw vis acc st raw with
  | none => cases fail <;> rfl
  | some p => dsimp only; split <;> cases fail <;> rfl

theorem UIdx.rejectAdd_cols (u : UIdx) : u.rejectAdd.cols = u.cols := by unfold UIdx.rejectAdd; split <;> rfl
theorem MIdx.rejectAdd_cols (m : MIdx) : m.rejectAdd.cols = m.cols := by
  unfold MIdx.rejectAdd; split
  · rfl
  · split <;> rfl

theorem uAddAll_cols (vis : Vis) (acc : Acc) (st : Store) (raw : Nat) (f : Fault) : ∀ (us : List UIdx) (j : Nat),
    (uAddAll vis acc st raw f j us).1.map (·.cols) = us.map (·.cols)
  | [], _ => rfl
  | u :: us, j => by
    unfold uAddAll
    cases h : u.add vis acc st raw none (f.hits j) with
    | none => rfl
    | some p =>
      obtain ⟨u', r⟩ := p
      simp only
      have := UIdx.add_cols h
      split
      · simp [this]
      · simp [this, uAddAll_cols vis acc st raw f us (j + 1)]

theorem mAddAll_cols (vis : Vis) (acc : Acc) (st : Store) (raw : Nat) (f : Fault) : ∀ (ms : List MIdx) (j : Nat),
    (mAddAll vis acc st raw f j ms).1.map (·.cols) = ms.map (·.cols)
  | [], _ => rfl
  | m :: ms, j => by
    unfold mAddAll
    split
    · simp [MIdx.add_cols, mAddAll_cols vis acc st raw f ms (j + 1)]
    · simp [MIdx.add_cols]

theorem addRaw_cols (vis : Vis) (acc : Acc) (t : Table) (st : Store) (raw : Nat) (f : Fault) :
    (addRaw vis acc t st raw f).1.uidx.map (·.cols) = t.uidx.map (·.cols) ∧
    (addRaw vis acc t st raw f).1.midx.map (·.cols) = t.midx.map (·.cols) := by
  have hu := uAddAll_cols vis acc st raw f t.uidx 0
  have hm := mAddAll_cols vis acc st raw f t.midx t.uidx.length
  have hra : ∀ l : List UIdx, (l.map UIdx.rejectAdd).map (·.cols) = l.map (·.cols) := fun l => by
    rw [map_map]; apply map_congr_left; intro u _; exact u.rejectAdd_cols
  have hrm : ∀ l : List MIdx, (l.map MIdx.rejectAdd).map (·.cols) = l.map (·.cols) := fun l => by
    rw [map_map]; apply map_congr_left; intro m _; exact m.rejectAdd_cols
  have haa : ∀ l : List UIdx, (l.map UIdx.acceptAdd).map (·.cols) = l.map (·.cols) := fun l => by
    rw [map_map]; apply map_congr_left; intro u _; rfl
  have ham : ∀ l : List MIdx, (l.map MIdx.acceptAdd).map (·.cols) = l.map (·.cols) := fun l => by
    rw [map_map]; apply map_congr_left; intro m _; rfl
  unfold addRaw
  cases hU : uAddAll vis acc st raw f 0 t.uidx with
  | mk us s =>
    rw [hU] at hu; simp only at hu
    cases s with
    | none =>
      simp only
      cases hM : mAddAll vis acc st raw f t.uidx.length t.midx with
      | mk ms s2 =>
        rw [hM] at hm; simp only at hm
        cases s2 <;> simp only [haa, ham, hra, hrm, hu, hm] <;> exact ⟨trivial, trivial⟩
    | dup x j => simp only [hra, hrm, hu]; exact ⟨trivial, trivial⟩
    | fault => simp only [hra, hrm, hu]; exact ⟨trivial, trivial⟩

theorem not_mem_ids_of_snoc_nodup {st : Store} {r : Row} (h : (ids (st ++ [r])).Nodup) : r.id ∉ ids st := by
  rw [ids_append, nodup_append] at h
  exact fun hr => h.2.2 _ hr _ mem_cons_self rfl

section create
variable {vis : Vis} (hc : Complete vis) (acc : Acc)
include hc

theorem fillUnique_spec : ∀ (todo : List Row) (done : Store) (u : UIdx), (ids (done ++ todo)).Nodup → UInv acc done u →
    match fillUnique vis acc (done ++ todo) (ids todo) u with
    | .ok u' => UInv acc (done ++ todo) u' ∧ u'.cols = u.cols
    | .error raw => ∃ pre r post x, todo = pre ++ r :: post ∧ r.id = raw ∧ x ∈ done ++ pre ∧
        keyEq u.cols r.vals x.vals = true
  | [], done, u, _, hu => by
    simp only [ids, map_nil, fillUnique, append_nil]
    exact ⟨hu, trivial⟩
  | r :: rest, done, u, hnd, hu => by
    have hndd : (ids done).Nodup := ((sublist_append_left done _).map _).nodup hnd
    have hr : r.id ∉ ids done := not_mem_ids_of_snoc_nodup (((ListFacts.snoc_sublist_append_cons done r rest).map _).nodup hnd)
    have e : done ++ r :: rest = (done ++ [r]) ++ rest := append_cons done r rest
    rw [ids_cons, fillUnique]
    rcases UIdx.add_new hc acc hndd (st := done ++ r :: rest) (fun x hx => valsOf_append_left _ hx)
        (by rw [e, valsOf_append_left rest (id := r.id) (by rw [ids_append]; simp), valsOf_append_right r hr]) u hu
      with ⟨x, hx, _, _, _, hk, he⟩ | ⟨hno, he⟩
    · rw [he none false, if_neg (by simp)]
      have hne : (x.id != r.id) = true := by
        have : x.id ≠ r.id := fun e => hr (e ▸ mem_ids_iff.mpr ⟨x, hx, rfl⟩)
        simpa using this
      simp only [hne, if_true]
      exact ⟨[], r, rest, x, rfl, rfl, by simpa using hx, hk⟩
    · rw [he none false]
      simp only [Bool.false_eq_true, if_false, bne_self_eq_false]
      have hu' := UInv_add acc hndd hu hr hno
      have ih := fillUnique_spec rest (done ++ [r]) (uAdded acc u r.id r.vals).acceptAdd (by rw [← e]; exact hnd) hu'
      rw [← e] at ih
      cases hres : fillUnique vis acc (done ++ r :: rest) (ids rest) (uAdded acc u r.id r.vals).acceptAdd with
      | ok u' => rw [hres] at ih; exact ⟨ih.1, ih.2⟩
      | error raw =>
        rw [hres] at ih
        obtain ⟨pre, r', post, x, h1, h2, h3, h4⟩ := ih
        exact ⟨r :: pre, r', post, x, by rw [h1]; rfl, h2, by simpa using h3, h4⟩

theorem fillMulti_spec : ∀ (todo : List Row) (done : Store) (m : MIdx), (ids (done ++ todo)).Nodup → AddrInj (done ++ todo) →
    MInv acc done m → MInv acc (done ++ todo) (fillMulti vis acc (done ++ todo) (ids todo) m) ∧
      (fillMulti vis acc (done ++ todo) (ids todo) m).cols = m.cols
  | [], done, m, _, _, hm => by
    simp only [ids, map_nil, fillMulti, append_nil]
    exact ⟨hm, trivial⟩
  | r :: rest, done, m, hnd, hai, hm => by
    have hndd : (ids done).Nodup := ((sublist_append_left done _).map _).nodup hnd
    have haid : AddrInj done := ((sublist_append_left done _).map _).nodup hai
    have hr : r.id ∉ ids done := not_mem_ids_of_snoc_nodup (((ListFacts.snoc_sublist_append_cons done r rest).map _).nodup hnd)
    have e : done ++ r :: rest = (done ++ [r]) ++ rest := append_cons done r rest
    rw [ids_cons, fillMulti]
    have hm' := (MIdx.add_spec hc acc hndd haid hr (st := done ++ r :: rest) (by rw [e]; exact storeAgree_append _ _) m hm).1
    have ih := fillMulti_spec rest (done ++ [r]) _ (by rw [← e]; exact hnd) (by rw [← e]; exact hai) hm'
    rw [← e] at ih
    exact ⟨ih.1, ih.2.trans (MIdx.add_cols vis acc _ m r.id false)⟩

variable (keep : Bool)

theorem createUnique_spec (t : Table) (hinv : Inv acc keep t) (cols : List Nat) (hcn : cols.Nodup) :
    Inv acc keep (createUnique vis acc t cols).1 ∧ (createUnique vis acc t cols).1.rows = t.rows ∧
    match (createUnique vis acc t cols).2 with
    | .ok i => ∃ u, (createUnique vis acc t cols).1.uidx[i]? = some u ∧ sameCols u.cols cols = true
    | .error raw => (createUnique vis acc t cols).1 = t ∧
        ∃ r x, r ∈ t.rows ∧ x ∈ t.rows ∧ r.id = raw ∧ x.id ≠ r.id ∧ keyEq cols r.vals x.vals = true := by
  unfold createUnique
  cases hi : indexOfCols (t.uidx.map (·.cols)) cols with
  | some i =>
    simp only
    exact ⟨hinv, trivial, indexOfCols_spec t.uidx (·.cols) cols i hi⟩
  | none =>
    simp only
    have h := fillUnique_spec hc acc t.rows [] { cols := cols } (by simpa using hinv.idsNodup)
      ⟨hcn, ⟨rfl, rfl⟩, by simp [ids], by simp, by simp [ids]⟩
    simp only [nil_append] at h
    have hids : t.rows.map (·.id) = ids t.rows := rfl
    rw [hids]
    cases hres : fillUnique vis acc t.rows (ids t.rows) { cols := cols } with
    | ok u =>
      rw [hres] at h
      simp only
      refine ⟨⟨hinv.idsNodup, hinv.addrInj, hinv.nums, ?_, hinv.minv⟩, trivial, u, by simp, ?_⟩
      · intro u' hu'
        rcases mem_append.mp hu' with h1 | h1
        · exact hinv.uinv u' h1
        · simp at h1; rw [h1]; exact h.1
      · rw [h.2]; unfold sameCols; simp
    | error raw =>
      rw [hres] at h
      simp only
      obtain ⟨pre, r, post, x, h1, h2, h3, h4⟩ := h
      refine ⟨hinv, trivial, trivial, r, x, by rw [h1]; simp, by rw [h1]; exact mem_append_left _ h3, h2, ?_, h4⟩
      intro e
      have hnd := hinv.idsNodup
      have e2 : ids (pre ++ r :: post) = ids pre ++ r.id :: ids post := by unfold ids; simp
      rw [h1, e2, nodup_append] at hnd
      exact hnd.2.2 _ (mem_ids_iff.mpr ⟨x, h3, rfl⟩) _ (by simp) e

theorem createMulti_spec (t : Table) (hinv : Inv acc keep t) (cols : List Nat) (hcn : cols.Nodup) :
    Inv acc keep (createMulti vis acc t cols).1 ∧ (createMulti vis acc t cols).1.rows = t.rows ∧
    ∃ m, (createMulti vis acc t cols).1.midx[(createMulti vis acc t cols).2]? = some m ∧ sameCols m.cols cols = true := by
  unfold createMulti
  cases hi : indexOfCols (t.midx.map (·.cols)) cols with
  | some i =>
    simp only
    exact ⟨hinv, trivial, indexOfCols_spec t.midx (·.cols) cols i hi⟩
  | none =>
    simp only
    have h := fillMulti_spec hc acc t.rows [] { cols := cols } (by simpa using hinv.idsNodup) (by simpa using hinv.addrInj)
      ⟨hcn, ⟨rfl, rfl⟩, by simp [ids], by simp, by simp, by simp, by simp⟩
    simp only [nil_append] at h
    have hids : t.rows.map (·.id) = ids t.rows := rfl
    rw [hids]
    refine ⟨⟨hinv.idsNodup, hinv.addrInj, hinv.nums, hinv.uinv, ?_⟩, trivial, fillMulti vis acc t.rows (ids t.rows) { cols := cols }, by simp, ?_⟩
    · intro m' hm'
      rcases mem_append.mp hm' with h1 | h1
      · exact hinv.minv m' h1
      · simp at h1; rw [h1]; exact h.1
    · rw [h.2]; unfold sameCols; simp

end create

section copy
variable {vis : Vis} (hc : Complete vis) (acc : Acc)
include hc

/-- `pvFill` does not number the rows (`pvSetNumbers()` follows it in `copyOf`), hence `Inv acc false` -/
theorem fillRows_spec : ∀ (rs : List Row) (t : Table), Inv acc false t → (ids (t.rows ++ rs)).Nodup → AddrInj (t.rows ++ rs) →
    (∀ cs ∈ t.uidx.map (·.cols), (t.rows ++ rs).Pairwise (fun a b => keyEq cs a.vals b.vals = false)) →
    Inv acc false (fillRows vis acc rs t) ∧ (fillRows vis acc rs t).rows = t.rows ++ rs ∧
    (fillRows vis acc rs t).uidx.map (·.cols) = t.uidx.map (·.cols) ∧
    (fillRows vis acc rs t).midx.map (·.cols) = t.midx.map (·.cols)
  | [], t, hinv, _, _, _ => by simp [fillRows, hinv]
  | r :: rs, t, hinv, hnd, hai, hpw => by
    have hnd1 : (ids (t.rows ++ [r])).Nodup := ((ListFacts.snoc_sublist_append_cons t.rows r rs).map _).nodup hnd
    have hai1 : AddrInj (t.rows ++ [r]) := ((ListFacts.snoc_sublist_append_cons t.rows r rs).map _).nodup hai
    have hr : r.id ∉ ids t.rows := not_mem_ids_of_snoc_nodup hnd1
    have e : t.rows ++ r :: rs = (t.rows ++ [r]) ++ rs := append_cons t.rows r rs
    have hcols := addRaw_cols vis acc t (t.rows ++ [r]) r.id .none
    have h := addRaw_spec hc acc false t hinv r hr .none
    unfold fillRows
    cases hs : (addRaw vis acc t (t.rows ++ [r]) r.id .none).2 with
    | none =>
      rw [hs] at h
      obtain ⟨hu, hm, _⟩ := h
      have hinv1 : Inv acc false { (addRaw vis acc t (t.rows ++ [r]) r.id .none).1 with rows := t.rows ++ [r] } :=
        ⟨hnd1, hai1, fun hk => absurd hk (by simp), hu, hm⟩
      have ih := fillRows_spec rs _ hinv1 (by rw [← e]; exact hnd) (by rw [← e]; exact hai)
        (by intro cs hcs; rw [← e]; exact hpw cs (by rw [← hcols.1]; exact hcs))
      exact ⟨ih.1, by rw [ih.2.1, e], ih.2.2.1.trans hcols.1, ih.2.2.2.trans hcols.2⟩
    | dup x j =>
      rw [hs] at h
      obtain ⟨_, _, u, hu, ⟨row, hrow, _, hk⟩, _⟩ := h
      have := hpw u.cols (mem_map_of_mem (mem_of_getElem? hu))
      rw [pairwise_append] at this
      have := this.2.2 row hrow r mem_cons_self
      rw [keyEq_symm, hk] at this; exact absurd this (by simp)
    | fault =>
      rw [hs] at h
      exact absurd rfl h.2.2

variable (keep : Bool)

theorem copyOf_spec (t : Table) (hinv : Inv acc keep t) (newRows : List Row) (hnd : (ids newRows).Nodup)
    (hai : AddrInj newRows)
    (hpw : ∀ u ∈ t.uidx, newRows.Pairwise (fun a b => keyEq u.cols a.vals b.vals = false)) :
    Inv acc keep (copyOf vis acc keep t newRows) ∧ (copyOf vis acc keep t newRows).rows = setNumbers keep 0 newRows ∧
    (copyOf vis acc keep t newRows).uidx.map (·.cols) = t.uidx.map (·.cols) ∧
    (copyOf vis acc keep t newRows).midx.map (·.cols) = t.midx.map (·.cols) := by
  have h0 : Inv acc false (Table.mk [] (t.uidx.map (fun u => ({ cols := u.cols } : UIdx))) (t.midx.map (fun m => ({ cols := m.cols } : MIdx)))) := by
    apply Inv_empty _ _ _ rfl
    · intro u hu
      obtain ⟨u0, hu0, rfl⟩ := mem_map.mp hu
      exact ⟨(hinv.uinv u0 hu0).colsNodup, rfl, rfl, rfl⟩
    · intro m hm
      obtain ⟨m0, hm0, rfl⟩ := mem_map.mp hm
      exact ⟨(hinv.minv m0 hm0).colsNodup, rfl, rfl, rfl⟩
  obtain ⟨h1, h2, h3, h4⟩ := fillRows_spec hc acc newRows _ h0 (by simpa using hnd) (by simpa using hai) (by
    intro cs hcs
    simp only [map_map, mem_map, Function.comp] at hcs
    obtain ⟨u, hu, rfl⟩ := hcs
    simpa using hpw u hu)
  simp only [nil_append] at h2
  refine ⟨?_, by unfold copyOf; simp only; rw [h2], by unfold copyOf; simp only; rw [h3]; simp [map_map, Function.comp],
    by unfold copyOf; simp only; rw [h4]; simp [map_map, Function.comp]⟩
  refine Inv_renumbered (t := copyOf vis acc keep t newRows) h1.idsNodup h1.addrInj (Perm.refl _) rfl h1.uinv h1.minv

end copy

end Momo.Table
