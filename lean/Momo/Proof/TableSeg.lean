import Momo.Model.Table
import Momo.Proof.ListFacts
import Momo.Proof.SegIdeal
import Mathlib.Data.List.Nodup
import Mathlib.Data.List.Perm.Basic
import Mathlib.Data.List.Perm.Subperm
/-!
  C07, group level: the raw array of one multi-hash key (`MultiHash::pvAdd`, `pvSortRaws`, `AcceptRemove`,
  `FilterRaws`): full segments stay sorted by address (`SegSorted`), removal removes exactly the given raw.
  The splice lemmas (`sorted_slice_splice`, `sorted_slice_sortSeg`, `segSorted_sortSeg`) take the sortedness of the segments other than `k`
  as a function `j ≠ k → segEnd j < l.length → Sorted …`, which a `SegSorted` hypothesis or a loop invariant gives directly.
-/
namespace Momo.Table
open List

/-- ascending by address (strict: live raws have distinct addresses) -/
def Sorted (addr : Nat → Nat) (l : List Nat) : Prop := l.Pairwise (fun a b => addr a < addr b)

def slice (l : List Nat) (lo hi : Nat) : List Nat := (l.take hi).drop lo

/-- begin of segment `k` of a raw array (`rawIndex1` of the loops of `AcceptRemove` / `FilterRaws`); its end `segEnd k` is in the model -/
def segStart : Nat → Nat
  | 0 => 0
  | k+1 => segEnd k

/-- every full segment (one that ends strictly before the end of the array) is sorted by address -/
def SegSorted (addr : Nat → Nat) (raws : List Nat) : Prop :=
  ∀ k, segEnd k < raws.length → Sorted addr (slice raws (segStart k) (segEnd k))

theorem sorted_nodup (addr : Nat → Nat) (l : List Nat) (h : Sorted addr l) : l.Nodup := by
  unfold Sorted at h
  exact h.imp (fun {a b} hab e => by subst e; exact Nat.lt_irrefl _ hab)

theorem insertByAddr_perm (addr : Nat → Nat) (x : Nat) (l : List Nat) : (insertByAddr addr x l).Perm (x :: l) := by
  induction l with
  | nil => exact Perm.refl _
  | cons y ys ih =>
    unfold insertByAddr
    split
    · exact (Perm.cons y ih).trans (Perm.swap x y ys)
    · exact Perm.refl _

theorem sortByAddr_perm (addr : Nat → Nat) (l : List Nat) : (sortByAddr addr l).Perm l := by
  induction l with
  | nil => exact Perm.refl _
  | cons x xs ih =>
    unfold sortByAddr
    exact (insertByAddr_perm addr x _).trans (Perm.cons x ih)

theorem sortByAddr_length (addr : Nat → Nat) (l : List Nat) : (sortByAddr addr l).length = l.length :=
  (sortByAddr_perm addr l).length_eq

theorem insertByAddr_sorted (addr : Nat → Nat) (x : Nat) (l : List Nat) (hs : Sorted addr l)
    (hx : ∀ y ∈ l, addr y ≠ addr x) : Sorted addr (insertByAddr addr x l) := by
  unfold Sorted at hs ⊢
  fun_induction insertByAddr addr x l with
  | case1 => exact pairwise_singleton _ _
  | case2 y ys hlt ih =>
    rw [pairwise_cons] at hs ⊢
    refine ⟨fun z hz => ?_, ih hs.2 (fun z hz => hx z (mem_cons_of_mem _ hz))⟩
    rcases mem_cons.mp ((insertByAddr_perm addr x ys).mem_iff.mp hz) with rfl | h
    · exact hlt
    · exact hs.1 z h
  | case3 y ys hge =>
    have hxy : addr x < addr y := Nat.lt_of_le_of_ne (Nat.le_of_not_lt hge) (Ne.symm (hx y mem_cons_self))
    refine pairwise_cons.mpr ⟨fun z hz => ?_, hs⟩
    rcases mem_cons.mp hz with rfl | h
    · exact hxy
    · exact Nat.lt_trans hxy ((pairwise_cons.mp hs).1 z h)

theorem sortByAddr_sorted (addr : Nat → Nat) (l : List Nat) (hnd : (l.map addr).Nodup) : Sorted addr (sortByAddr addr l) := by
  induction l with
  | nil => simp [sortByAddr, Sorted]
  | cons x xs ih =>
    rw [map_cons, nodup_cons] at hnd
    unfold sortByAddr
    apply insertByAddr_sorted addr x _ (ih hnd.2)
    intro y hy he
    have hy' := (sortByAddr_perm addr xs).mem_iff.mp hy
    exact hnd.1 (he ▸ mem_map_of_mem hy')

theorem lowerBound_cons (addr : Nat → Nat) (y : Nat) (ys : List Nat) (x : Nat) :
    lowerBound addr (y :: ys) x = if addr y < addr x then lowerBound addr ys x + 1 else 0 := by
  unfold lowerBound
  rw [takeWhile_cons]
  split <;> simp_all

theorem insert_at_lowerBound (addr : Nat → Nat) (x : Nat) (l : List Nat) :
    l.take (lowerBound addr l x) ++ x :: l.drop (lowerBound addr l x) = insertByAddr addr x l := by
  induction l with
  | nil => simp [lowerBound, insertByAddr]
  | cons y ys ih =>
    rw [lowerBound_cons]
    unfold insertByAddr
    split
    · simp only [take_succ_cons, drop_succ_cons, cons_append]
      rw [ih]
    · simp

theorem lowerBound_le (addr : Nat → Nat) (l : List Nat) (x : Nat) : lowerBound addr l x ≤ l.length :=
  (takeWhile_sublist _).length_le

theorem lowerBound_prefix (addr : Nat → Nat) (pre rest : List Nat) (x : Nat) (h : ∀ a ∈ pre, addr a < addr x) :
    lowerBound addr (pre ++ rest) x = pre.length + lowerBound addr rest x := by
  induction pre with
  | nil => simp
  | cons a as ih =>
    rw [cons_append, lowerBound_cons, if_pos (h a mem_cons_self), ih (fun b hb => h b (mem_cons_of_mem _ hb))]
    simp; omega

/-- binary search in `[first, last - 1)` of a sorted segment finds the position of an element of the segment -/
theorem lowerBound_finds (addr : Nat → Nat) (pre post : List Nat) (x : Nat) (hs : Sorted addr (pre ++ x :: post)) :
    lowerBound addr (pre ++ x :: post).dropLast x = pre.length := by
  unfold Sorted at hs
  rw [pairwise_append] at hs
  have hpre : ∀ a ∈ pre, addr a < addr x := fun a ha => hs.2.2 a ha x mem_cons_self
  cases post with
  | nil =>
    have : (pre ++ [x]).dropLast = pre := by simp
    rw [this]
    have := lowerBound_prefix addr pre [] x hpre
    simpa [lowerBound] using this
  | cons b bs =>
    have : (pre ++ x :: b :: bs).dropLast = pre ++ x :: (b :: bs).dropLast := by
      rw [dropLast_append_of_ne_nil (by simp)]; simp
    rw [this, lowerBound_prefix addr pre _ x hpre, lowerBound_cons, if_neg (Nat.lt_irrefl _)]
    simp

theorem slice_append_left (a b : List Nat) (lo hi : Nat) (h : hi ≤ a.length) : slice (a ++ b) lo hi = slice a lo hi := by
  unfold slice
  rw [take_append_of_le_length h]

theorem slice_take (l : List Nat) (n lo hi : Nat) (h : hi ≤ n) : slice (l.take n) lo hi = slice l lo hi := by
  unfold slice
  rw [take_take, Nat.min_eq_left h]

theorem slice_append_right (a b : List Nat) (lo hi : Nat) (h : a.length ≤ lo) :
    slice (a ++ b) lo hi = slice b (lo - a.length) (hi - a.length) := by
  unfold slice
  rw [take_append, drop_append]
  have : drop lo (take hi a) = [] := by
    exact drop_eq_nil_of_le (Nat.le_trans (length_take_le' _ _) h)
  rw [this, length_take]
  simp only [nil_append]
  by_cases hh : hi ≤ a.length
  · rw [Nat.sub_eq_zero_of_le hh]; simp
  · rw [Nat.min_eq_right (Nat.le_of_not_le hh)]

theorem slice_mid (a m b : List Nat) : slice (a ++ m ++ b) a.length (a.length + m.length) = m := by
  unfold slice
  rw [append_assoc, take_append, drop_append]
  simp

theorem slice_length (l : List Nat) (lo hi : Nat) (h : hi ≤ l.length) : (slice l lo hi).length = hi - lo := by
  unfold slice
  rw [length_drop, length_take, Nat.min_eq_left h]

theorem drop_eq_slice_append (l : List Nat) (lo hi : Nat) (h : lo ≤ hi) : l.drop lo = slice l lo hi ++ l.drop hi := by
  unfold slice
  conv_lhs => rw [← take_append_drop hi l]
  rw [drop_append, length_take]
  by_cases hh : hi ≤ l.length
  · rw [Nat.min_eq_left hh, Nat.sub_eq_zero_of_le h, drop_zero]
  · rw [drop_eq_nil_of_le (Nat.le_of_not_le hh), drop_nil]

theorem split3 (l : List Nat) (lo hi : Nat) (h1 : lo ≤ hi) : l = l.take lo ++ slice l lo hi ++ l.drop hi := by
  rw [append_assoc, ← drop_eq_slice_append l lo hi h1, take_append_drop]

theorem slice_sublist (l : List Nat) (lo hi : Nat) : (slice l lo hi).Sublist l :=
  (drop_sublist _ _).trans (take_sublist _ _)

theorem nodup_map_slice (addr : Nat → Nat) (l : List Nat) (lo hi : Nat) (hnd : (l.map addr).Nodup) : ((slice l lo hi).map addr).Nodup :=
  ((slice_sublist l lo hi).map addr).nodup hnd

theorem Sorted_congr {addr addr' : Nat → Nat} {l : List Nat} (h : ∀ x ∈ l, addr x = addr' x) :
    Sorted addr l ↔ Sorted addr' l := by
  unfold Sorted
  apply Pairwise.iff_of_mem
  intro a b ha hb
  rw [h a ha, h b hb]

theorem SegSorted_congr {addr addr' : Nat → Nat} {l : List Nat} (h : ∀ x ∈ l, addr x = addr' x) :
    SegSorted addr l ↔ SegSorted addr' l :=
  forall₂_congr fun _ _ => Sorted_congr fun x hx => h x ((slice_sublist l _ _).subset hx)

/-! ### segment boundaries (`rawIndex2` of the loops) and `GetSegItemIndexes` (C16) -/

theorem segSize_eq (k : Nat) : segSize k = 2 ^ Seg.segLog k * 2 ^ L0 := by
  unfold segSize
  rw [Seg.itemCount_sqrt, Nat.pow_add]

theorem segSize_pos (k : Nat) : 0 < segSize k := by
  rw [segSize_eq]; exact Nat.mul_pos (Nat.two_pow_pos _) (Nat.two_pow_pos _)

theorem segSize_zero : segSize 0 = 2 ^ L0 := by
  rw [segSize_eq]
  have : Seg.segLog 0 = 0 := by decide
  rw [this]; simp

theorem segEnd_succ (k : Nat) : segEnd (k + 1) = segEnd k + segSize (k + 1) := rfl

theorem segEnd_eq_getIndex (k : Nat) : segEnd k = Seg.getIndex .sqrt L0 (k + 1) 0 := by
  induction k with
  | zero =>
    rw [Seg.getIndex_zero_eq_sum .sqrt L0 1]
    show 2 ^ L0 = _
    simp [← segSize_zero, segSize]
  | succ k ih =>
    rw [segEnd_succ, ih, Seg.getIndex_zero_eq_sum .sqrt L0 (k + 1),
      Seg.getIndex_zero_eq_sum .sqrt L0 (k + 1 + 1), List.range_succ (n := k + 1)]
    simp [segSize]

theorem segStart_eq_getIndex (k : Nat) : segStart k = Seg.getIndex .sqrt L0 k 0 := by
  cases k with
  | zero => rw [Seg.getIndex_zero_eq_sum .sqrt L0 0]; rfl
  | succ k => exact segEnd_eq_getIndex k

theorem segEnd_eq (k : Nat) : segEnd k = segStart k + segSize k := by
  cases k with
  | zero => show 2 ^ L0 = 0 + segSize 0; rw [segSize_zero]; simp
  | succ k => rfl

theorem segStart_lt_end (k : Nat) : segStart k < segEnd k := by
  rw [segEnd_eq]; exact Nat.lt_add_of_pos_right (segSize_pos k)

theorem segEnd_strictMono {j k : Nat} (h : j < k) : segEnd j < segEnd k := by
  induction k with
  | zero => exact absurd h (Nat.not_lt_zero _)
  | succ k ih =>
    have hp : segEnd k < segEnd k + segSize (k + 1) := Nat.lt_add_of_pos_right (segSize_pos (k + 1))
    rw [segEnd_succ]
    by_cases hjk : j = k
    · subst hjk; exact hp
    · exact Nat.lt_trans (ih (Nat.lt_of_le_of_ne (Nat.le_of_lt_succ h) hjk)) hp

theorem segEnd_le_start {j k : Nat} (h : j < k) : segEnd j ≤ segStart k := by
  cases k with
  | zero => exact absurd h (Nat.not_lt_zero _)
  | succ k =>
    show segEnd j ≤ segEnd k
    by_cases hjk : j = k
    · subst hjk; exact Nat.le_refl _
    · exact Nat.le_of_lt (segEnd_strictMono (Nat.lt_of_le_of_ne (Nat.le_of_lt_succ h) hjk))

theorem segEnd_inj {j k : Nat} (h : segEnd j = segEnd k) : j = k := by
  rcases Nat.lt_trichotomy j k with h1 | h1 | h1
  · exact absurd h (Nat.ne_of_lt (segEnd_strictMono h1))
  · exact h1
  · exact absurd h.symm (Nat.ne_of_lt (segEnd_strictMono h1))

theorem lt_of_segEnd_lt {j k : Nat} (h : segEnd j < segEnd k) : j < k := by
  rcases Nat.lt_trichotomy j k with h1 | h1 | h1
  · exact h1
  · subst h1; exact absurd h (Nat.lt_irrefl _)
  · exact absurd h (Nat.lt_asymm (segEnd_strictMono h1))

theorem segEnd_mod (k : Nat) : segEnd k % 2 ^ L0 = 0 := by
  induction k with
  | zero => show 2 ^ L0 % 2 ^ L0 = 0; exact Nat.mod_self _
  | succ k ih =>
    rw [segEnd_succ, segSize_eq, Nat.add_mod, ih, Nat.mul_mod_left]; simp

theorem slice_seg_length (l : List Nat) (k : Nat) (hk : segEnd k ≤ l.length) : (slice l (segStart k) (segEnd k)).length = segSize k := by
  rw [slice_length l _ _ hk, segEnd_eq, Nat.add_sub_cancel_left]

theorem slice_splice_self (l seg rest : List Nat) (k : Nat) (hk : segStart k ≤ l.length) (hlen : seg.length = segSize k) :
    slice (l.take (segStart k) ++ seg ++ rest) (segStart k) (segEnd k) = seg := by
  have := slice_mid (l.take (segStart k)) seg rest
  rwa [length_take, Nat.min_eq_left hk, hlen, ← segEnd_eq] at this

theorem slice_splice_other (l seg rest : List Nat) {j k : Nat} (hjk : j ≠ k) (hk : segEnd k ≤ l.length)
    (hlen : seg.length = segSize k) (hrest : rest <+: l.drop (segEnd k))
    (hj : segEnd j ≤ (l.take (segStart k) ++ seg ++ rest).length) :
    slice (l.take (segStart k) ++ seg ++ rest) (segStart j) (segEnd j) = slice l (segStart j) (segEnd j) := by
  have hT : (l.take (segStart k)).length = segStart k :=
    (length_take ..).trans (Nat.min_eq_left (Nat.le_trans (Nat.le_of_lt (segStart_lt_end k)) hk))
  rcases Nat.lt_or_gt_of_ne hjk with h | h
  · have hle := segEnd_le_start h
    rw [append_assoc, slice_append_left _ _ _ _ (hT.symm ▸ hle)]
    exact slice_take l _ _ _ hle
  · have hge := segEnd_le_start h
    obtain ⟨t, ht⟩ := hrest
    have hTS : (l.take (segStart k) ++ seg).length = segEnd k := by rw [length_append, hT, hlen, segEnd_eq]
    have hTE : (l.take (segEnd k)).length = segEnd k := (length_take ..).trans (Nat.min_eq_left hk)
    have hl : l.take (segEnd k) ++ (rest ++ t) = l := by rw [ht, take_append_drop]
    rw [length_append, hTS] at hj
    rw [slice_append_right _ _ _ _ (hTS.symm ▸ hge), hTS]
    conv_rhs => rw [← hl]
    rw [slice_append_right _ _ _ _ (hTE.symm ▸ hge), hTE, slice_append_left _ _ _ _ (Nat.sub_le_iff_le_add'.mpr hj)]

/-- segment `k` is replaced by the sorted `seg` of the same length, and the array may be cut short behind it (`hrest`) -/
theorem sorted_slice_splice (addr : Nat → Nat) (l seg rest : List Nat) (k : Nat)
    (hk : segEnd k ≤ l.length) (hlen : seg.length = segSize k) (hseg : Sorted addr seg) (hrest : rest <+: l.drop (segEnd k))
    (j : Nat) (hj : segEnd j < (l.take (segStart k) ++ seg ++ rest).length)
    (hs : j ≠ k → segEnd j < l.length → Sorted addr (slice l (segStart j) (segEnd j))) :
    Sorted addr (slice (l.take (segStart k) ++ seg ++ rest) (segStart j) (segEnd j)) := by
  by_cases hjk : j = k
  · subst hjk
    rw [slice_splice_self l seg rest j (Nat.le_trans (Nat.le_of_lt (segStart_lt_end j)) hk) hlen]; exact hseg
  · rw [slice_splice_other l seg rest hjk hk hlen hrest (Nat.le_of_lt hj)]
    refine hs hjk (Nat.lt_of_lt_of_le hj ?_)
    have h1 := hrest.length_le
    rw [length_drop] at h1
    rw [length_append, length_append, length_take,
      Nat.min_eq_left (Nat.le_trans (Nat.le_of_lt (segStart_lt_end k)) hk), hlen, ← segEnd_eq]
    exact Nat.add_le_of_le_sub' hk h1

theorem getSeg_segEnd (k : Nat) : Seg.getSeg .sqrt L0 (segEnd k) = (k + 1, 0) := by
  rw [segEnd_eq_getIndex]
  exact Seg.getSeg_getIndex .sqrt L0 (k + 1) 0 (by rw [← segSize]; exact segSize_pos _)

/-- `GetSegItemIndexes(n)` answers "first slot of a segment" only at a segment boundary -/
theorem boundary_of_getSeg (n : Nat) (hn : 0 < n) (h : (Seg.getSeg .sqrt L0 n).2 = 0) :
    ∃ j, n = segEnd j ∧ (Seg.getSeg .sqrt L0 n).1 = j + 1 := by
  have rt := Seg.getIndex_getSeg .sqrt L0 n
  rw [h] at rt
  cases hs : (Seg.getSeg .sqrt L0 n).1 with
  | zero =>
    rw [hs, Seg.getIndex_zero_eq_sum .sqrt L0 0] at rt
    simp at rt; omega
  | succ j =>
    refine ⟨j, ?_, rfl⟩
    rw [hs] at rt
    rw [segEnd_eq_getIndex]; exact rt.symm

theorem pvAddSort_spec (addr : Nat → Nat) (raws : List Nat) :
    (∃ j, raws.length = segEnd j ∧ pvAddSort addr raws = sortSeg addr raws (segStart j) (segEnd j)) ∨
    ((∀ j, raws.length ≠ segEnd j) ∧ pvAddSort addr raws = raws) := by
  -- case1: the array ends at a segment boundary; case2, case3: it does not (`GetSegItemIndexes` / the mask test say so)
  fun_cases pvAddSort addr raws with
  | case1 hc hz =>
    obtain ⟨j, hj, hj1⟩ := boundary_of_getSeg raws.length hc.1 hz
    refine Or.inl ⟨j, hj, ?_⟩
    rw [hj1, Nat.add_sub_cancel, show raws.length - segSize j = segStart j by rw [hj, segEnd_eq]; omega, hj]
  | case2 hc hz => exact Or.inr ⟨fun j hj => hz (by rw [hj, getSeg_segEnd]), rfl⟩
  | case3 hc =>
    refine Or.inr ⟨fun j hj => hc ⟨hj ▸ Nat.lt_of_le_of_lt (Nat.zero_le _) (segStart_lt_end j), ?_⟩, rfl⟩
    simp only [Extracted.dtSegMaskShift, Nat.one_mul]; rw [hj]; exact segEnd_mod j

theorem sortSeg_eq_splice (addr : Nat → Nat) (l : List Nat) (lo hi : Nat) :
    sortSeg addr l lo hi = l.take lo ++ sortByAddr addr (slice l lo hi) ++ l.drop hi := rfl

theorem sortSeg_perm (addr : Nat → Nat) (l : List Nat) (lo hi : Nat) (h : lo ≤ hi) : (sortSeg addr l lo hi).Perm l := by
  rw [sortSeg_eq_splice]
  conv_rhs => rw [split3 l lo hi h]
  exact Perm.append_right _ (Perm.append_left _ (sortByAddr_perm addr _))

theorem sortSeg_length (addr : Nat → Nat) (l : List Nat) (lo hi : Nat) (h : lo ≤ hi) : (sortSeg addr l lo hi).length = l.length :=
  (sortSeg_perm addr l lo hi h).length_eq

theorem sortSeg_append (addr : Nat → Nat) (a b : List Nat) (lo hi : Nat) (h : lo ≤ hi) (hh : hi ≤ a.length) :
    sortSeg addr (a ++ b) lo hi = sortSeg addr a lo hi ++ b := by
  unfold sortSeg
  rw [take_append_of_le_length (Nat.le_trans h hh), take_append_of_le_length hh, drop_append_of_le_length hh]
  simp only [append_assoc]

theorem pvAddSort_perm (addr : Nat → Nat) (raws : List Nat) : (pvAddSort addr raws).Perm raws := by
  rcases pvAddSort_spec addr raws with ⟨j, _, e⟩ | ⟨_, e⟩
  · rw [e]; exact sortSeg_perm addr raws _ _ (Nat.le_of_lt (segStart_lt_end j))
  · rw [e]

/-- `hs` has the shape it has in `sorted_slice_splice` (there the two lengths differ), so that callers pass the same function to
    both; here its premise `segEnd j < l.length` is `hj` again. -/
theorem sorted_slice_sortSeg (addr : Nat → Nat) (l : List Nat) (k : Nat) (hk : segEnd k ≤ l.length)
    (hnd : ((slice l (segStart k) (segEnd k)).map addr).Nodup) (j : Nat) (hj : segEnd j < l.length)
    (hs : j ≠ k → segEnd j < l.length → Sorted addr (slice l (segStart j) (segEnd j))) :
    Sorted addr (slice (sortSeg addr l (segStart k) (segEnd k)) (segStart j) (segEnd j)) := by
  have hj' := hj
  rw [← sortSeg_length addr l _ _ (Nat.le_of_lt (segStart_lt_end k))] at hj'
  rw [sortSeg_eq_splice] at hj' ⊢
  exact sorted_slice_splice addr l _ _ k hk (by rw [sortByAddr_length, slice_seg_length l k hk]) (sortByAddr_sorted addr _ hnd)
    (prefix_refl _) j hj' hs

theorem segSorted_sortSeg (addr : Nat → Nat) (l : List Nat) (k : Nat) (hk : segEnd k ≤ l.length)
    (hnd : ((slice l (segStart k) (segEnd k)).map addr).Nodup)
    (hs : ∀ j, j ≠ k → segEnd j < l.length → Sorted addr (slice l (segStart j) (segEnd j))) :
    SegSorted addr (sortSeg addr l (segStart k) (segEnd k)) := by
  intro j hj
  rw [sortSeg_length addr l _ _ (Nat.le_of_lt (segStart_lt_end k))] at hj
  exact sorted_slice_sortSeg addr l k hk hnd j hj (hs j)

theorem segSorted_take (addr : Nat → Nat) (raws : List Nat) (m : Nat) (hs : SegSorted addr raws) : SegSorted addr (raws.take m) := by
  intro k hk
  rw [length_take] at hk
  rw [slice_take raws _ _ _ (Nat.le_of_lt (Nat.lt_of_lt_of_le hk (Nat.min_le_left _ _)))]
  exact hs k (Nat.lt_of_lt_of_le hk (Nat.min_le_right _ _))

theorem segSorted_dropLast (addr : Nat → Nat) (raws : List Nat) (hs : SegSorted addr raws) : SegSorted addr raws.dropLast := by
  rw [dropLast_eq_take]; exact segSorted_take addr raws _ hs

theorem segSorted_pvAdd (addr : Nat → Nat) (raws : List Nat) (raw : Nat) (hnd : (raws.map addr).Nodup) (hs : SegSorted addr raws) :
    SegSorted addr (pvAddSort addr raws ++ [raw]) := by
  -- the full segments of `raws ++ [raw]`, except one that ends where `raws` ends, are those of `raws`
  have hs' : ∀ i, segEnd i ≠ raws.length → segEnd i < (raws ++ [raw]).length →
      Sorted addr (slice (raws ++ [raw]) (segStart i) (segEnd i)) := by
    intro i hne hi
    rw [length_append, length_singleton] at hi
    rw [slice_append_left _ _ _ _ (by omega)]
    exact hs i (by omega)
  rcases pvAddSort_spec addr raws with ⟨j, hj, e⟩ | ⟨hnb, e⟩
  · have hse := Nat.le_of_lt (segStart_lt_end j)
    rw [e, ← sortSeg_append addr raws [raw] _ _ hse (Nat.le_of_eq hj.symm)]
    refine segSorted_sortSeg addr _ j (by rw [length_append]; omega) ?_
      (fun i hij => hs' i (fun h => hij (segEnd_inj (h.trans hj))))
    rw [slice_append_left _ _ _ _ (Nat.le_of_eq hj.symm)]
    exact nodup_map_slice addr _ _ _ hnd
  · rw [e]
    exact fun i hi => hs' i (fun h => hnb i h.symm) hi

theorem segSorted_pvAddSort (addr : Nat → Nat) (raws : List Nat) (hnd : (raws.map addr).Nodup) (hs : SegSorted addr raws) :
    SegSorted addr (pvAddSort addr raws) := by
  have := segSorted_dropLast addr _ (segSorted_pvAdd addr raws 0 hnd hs)
  rwa [dropLast_concat] at this

theorem perm_erase_of_cons_perm {x : Nat} {l res : List Nat} (h : l.Perm (x :: res)) : res.Perm (l.erase x) := by
  have := (h.erase x).symm
  rwa [erase_cons_head] at this

/-- `HashMultiMap::Remove(keyIter, j)`: the array before `j` stays, behind `j` the remaining raws in some order (the last one sits in slot `j`) -/
theorem removeSwap_spec (l : List Nat) (j : Nat) (hj : j < l.length) :
    ∃ rest, removeSwap l j = l.take j ++ rest ∧ rest.Perm (l.drop (j + 1)) := by
  unfold removeSwap
  cases hl : l.getLast? with
  | none => rw [getLast?_eq_none_iff.mp hl] at hj; cases hj
  | some last => exact ListFacts.swapRemove_split hl hj

/-- on a sorted segment that ends before the last raw: a raw of the segment goes, the last raw of the array takes its sorted
    place in the segment, and the array loses its last slot -/
theorem removeInSeg_eq (addr : Nat → Nat) (raws : List Nat) (raw lo hi : Nat) (hhi : hi < raws.length)
    (hs : Sorted addr (slice raws lo hi)) :
    removeInSeg addr raws raw lo hi =
      if raw ∈ slice raws lo hi then
        some (raws.take lo ++ insertByAddr addr (raws.getLastD 0) ((slice raws lo hi).erase raw) ++ (raws.drop hi).dropLast)
      else none := by
  unfold removeInSeg
  simp only
  rw [show (raws.take hi).drop lo = slice raws lo hi from rfl]
  by_cases hmem : raw ∈ slice raws lo hi
  · rw [if_pos hmem]
    obtain ⟨pre, post, hsplit⟩ := append_of_mem hmem
    rw [hsplit] at hs ⊢
    have hnp : raw ∉ pre := fun h => (nodup_append.mp (sorted_nodup addr _ hs)).2.2 raw h raw mem_cons_self rfl
    have hne : raws.drop hi ≠ [] := fun h => by
      have := congrArg length h; rw [length_drop] at this; simp at this; omega
    rw [lowerBound_finds addr pre post raw hs, getD_eq_getElem?_getD, getElem?_append_right (Nat.le_refl _), Nat.sub_self,
      if_pos ⟨by simp, by simp⟩, eraseIdx_append_of_length_le (Nat.le_refl _), Nat.sub_self, eraseIdx_cons_zero,
      insert_at_lowerBound, erase_append_right _ hnp, erase_cons_head, dropLast_append_of_ne_nil hne]
  · rw [if_neg hmem, if_neg]
    rintro ⟨he, hlt⟩
    rw [getD_eq_getElem?_getD, getElem?_eq_getElem hlt, Option.getD_some, beq_iff_eq] at he
    exact hmem (he ▸ getElem_mem _)

theorem getElem?_indexOf_drop {l : List Nat} {lo x : Nat} (h : x ∈ l.drop lo) : l[lo + indexOf (l.drop lo) x]? = some x := by
  unfold indexOf
  have hidx : (l.drop lo).findIdx (fun y => y == x) < (l.drop lo).length := findIdx_lt_length.mpr ⟨x, h, beq_self_eq_true x⟩
  rw [← getElem?_drop, getElem?_eq_getElem hidx]
  exact congrArg some (beq_iff_eq.mp (findIdx_getElem (w := hidx)))

/-- behind the last full segment a raw is removed by moving the last raw into its slot -/
theorem removeSwap_tail (addr : Nat → Nat) (raws : List Nat) (raw : Nat) (hs : SegSorted addr raws) (k : Nat)
    (hk : ¬ segEnd k < raws.length) (hmem : raw ∈ raws.drop (segStart k)) :
    (removeSwap raws (segStart k + indexOf (raws.drop (segStart k)) raw)).Perm (raws.erase raw) ∧
    SegSorted addr (removeSwap raws (segStart k + indexOf (raws.drop (segStart k)) raw)) := by
  have hg := getElem?_indexOf_drop hmem
  have hjk : segStart k ≤ segStart k + indexOf (raws.drop (segStart k)) raw := Nat.le_add_right _ _
  generalize segStart k + indexOf (raws.drop (segStart k)) raw = j at hg hjk ⊢
  obtain ⟨hj, hget⟩ := List.getElem?_eq_some_iff.mp hg
  obtain ⟨rest, he, hr⟩ := removeSwap_spec raws j hj
  rw [he]
  refine ⟨perm_erase_of_cons_perm ?_, ?_⟩
  · conv_lhs => rw [← take_append_drop j raws, List.drop_eq_getElem_cons hj, hget]
    exact perm_middle.trans (Perm.cons raw (Perm.append_left _ hr.symm))
  · -- a full segment of the result ends before segment `k` begins, hence inside `raws.take j`
    intro k' hk'
    have hT : (raws.take j).length = j := (length_take ..).trans (Nat.min_eq_left (Nat.le_of_lt hj))
    have hlen : (raws.take j ++ rest).length < raws.length := by
      rw [length_append, hT, hr.length_eq, length_drop]; omega
    have hk'' := Nat.lt_trans hk' hlen
    have hle : segEnd k' ≤ j :=
      Nat.le_trans (segEnd_le_start (lt_of_segEnd_lt (Nat.lt_of_lt_of_le hk'' (Nat.le_of_not_lt hk)))) hjk
    rw [slice_append_left _ _ _ _ (hT.symm ▸ hle), slice_take raws _ _ _ hle]
    exact hs k' hk''

/-- The segment loop of `AcceptRemove`. Loop invariant: the loop stands at the begin `lo` of segment `k` (`hlo`), the fuel covers the rest
    of the array (`hlen`), `raw` has not been passed (`hmem`). -/
theorem removeFromRaws_spec (addr : Nat → Nat) (raws : List Nat) (raw : Nat)
    (hnd : (raws.map addr).Nodup) (hs : SegSorted addr raws) (fuel k lo : Nat) (hlo : lo = segStart k)
    (hlen : raws.length ≤ fuel + lo) (hmem : raw ∈ raws.drop lo) :
    (removeFromRaws addr raws raw fuel k lo).Perm (raws.erase raw) ∧
      SegSorted addr (removeFromRaws addr raws raw fuel k lo) := by
  -- case1: no fuel; case2: segment `k` is full and holds `raw`; case3: it is full and does not; case4: no full segment is left
  fun_induction removeFromRaws addr raws raw fuel k lo with
  | case1 k lo =>
    rw [drop_eq_nil_of_le (by omega)] at hmem; cases hmem
  | case2 fuel k lo hfull r heq =>
    subst hlo
    rw [removeInSeg_eq addr raws raw _ _ hfull (hs k hfull)] at heq
    split at heq
    · rename_i hin
      cases heq
      obtain ⟨rest, hrest⟩ := ListFacts.drop_eq_concat_getLastD raws 0 hfull
      rw [hrest, dropLast_concat]
      generalize raws.getLastD 0 = last at hrest ⊢
      have hdec : raws = raws.take (segStart k) ++ slice raws (segStart k) (segEnd k) ++ (rest ++ [last]) := by
        rw [← hrest]; exact split3 raws _ _ (Nat.le_of_lt (segStart_lt_end k))
      have hins := insertByAddr_perm addr last ((slice raws (segStart k) (segEnd k)).erase raw)
      refine ⟨perm_erase_of_cons_perm ?_, ?_⟩
      · -- `raw` goes, `last` moves into the segment
        conv_lhs => rw [hdec]
        refine (((perm_cons_erase hin).append_left _).append_right _).trans
          (Perm.trans ?_ (Perm.cons raw ((hins.append_left _).append_right rest).symm))
        simp only [append_assoc, cons_append]
        exact perm_middle.trans (Perm.cons raw (Perm.append_left _ (by rw [← append_assoc]; exact perm_append_singleton last _)))
      · intro j hj
        refine sorted_slice_splice addr raws _ rest k (Nat.le_of_lt hfull) ?_ ?_ ⟨[last], hrest.symm⟩ j hj (fun _ => hs j)
        · have := length_pos_of_mem hin
          rw [hins.length_eq, length_cons, length_erase_of_mem hin, Nat.sub_add_cancel this,
            slice_seg_length raws k (Nat.le_of_lt hfull)]
        · refine insertByAddr_sorted addr _ _ (Pairwise.sublist (erase_sublist ..) (hs k hfull)) (fun y hy he => ?_)
          -- `y` sits before the cut at `segEnd k`, `last` behind it
          have hnd' := hnd
          rw [← take_append_drop (segEnd k) raws, map_append, nodup_append] at hnd'
          exact hnd'.2.2 _ (mem_map_of_mem ((drop_sublist _ _).subset (mem_of_mem_erase hy))) _
            (mem_map_of_mem (hrest ▸ mem_append_right _ (mem_singleton_self last))) he
    · cases heq
  | case3 fuel k lo hfull heq ih =>
    subst hlo
    rw [removeInSeg_eq addr raws raw _ _ hfull (hs k hfull)] at heq
    have hin : raw ∉ slice raws (segStart k) (segEnd k) := fun h => by rw [if_pos h] at heq; cases heq
    have hse := segStart_lt_end k
    exact ih rfl (by show raws.length ≤ fuel + segEnd k; omega)
      ((mem_append.mp (drop_eq_slice_append raws _ _ (Nat.le_of_lt hse) ▸ hmem)).resolve_left hin)
  | case4 fuel k lo hfull => subst hlo; exact removeSwap_tail addr raws raw hs k hfull hmem

/-- **`MultiHash::AcceptRemove(raw)` on one key.** With distinct addresses and sorted full segments the group
    loses exactly `raw` (or consisted of `raw` alone: `RemoveKey`), and the full segments stay sorted. -/
theorem acceptRemoveGroup_exact (addr : Nat → Nat) (g : Group) (raw : Nat)
    (hnd : (g.members.map addr).Nodup) (hs : SegSorted addr g.raws) (hmem : raw ∈ g.members) :
    match acceptRemoveGroup addr g raw with
    | none => g.members = [raw]
    | some g' => g'.members.Perm (g.members.erase raw) ∧ SegSorted addr g'.raws ∧ g'.h0 = g.h0 := by
  unfold Group.members at *
  -- case1: the key is the only raw (`RemoveKey`); case2: `raw` is the key, the last raw becomes the key; case3: `raw` is in the array
  fun_cases acceptRemoveGroup addr g raw with
  | case1 hl =>
    rw [getLast?_eq_none_iff.mp hl] at hmem ⊢
    rw [mem_singleton.mp hmem]
  | case2 last hl hk =>
    refine ⟨?_, segSorted_dropLast addr _ hs, rfl⟩
    show (last :: g.raws.dropLast).Perm _
    rw [beq_iff_eq.mp hk, erase_cons_head]
    exact (ListFacts.dropLast_perm hl).symm
  | case3 last hl hk =>
    have hk' : g.key ≠ raw := fun e => hk (beq_iff_eq.mpr e)
    have hmr : raw ∈ g.raws := (mem_cons.mp hmem).resolve_left (fun e => hk' e.symm)
    have := removeFromRaws_spec addr g.raws raw (nodup_cons.mp hnd).2 hs g.raws.length 0 0 rfl (Nat.le_add_right _ _) hmr
    refine ⟨?_, this.2, rfl⟩
    show (g.key :: removeFromRaws addr g.raws raw g.raws.length 0 0).Perm _
    rw [erase_cons_tail (by simpa using hk')]
    exact Perm.cons _ this.1

/-- the `while` loop of `FilterRaws` standing at `i`: the raws before `i` stay, behind `i` those the filter accepts, in some order;
    `hf`: the fuel covers the rest of the array -/
theorem filterSwap_spec (keepRaw : Nat → Bool) (fuel i : Nat) (l : List Nat) (hf : l.length ≤ fuel + i) :
    (filterSwap keepRaw fuel i l).Perm (l.take i ++ (l.drop i).filter keepRaw) := by
  have done : ∀ {l : List Nat} {i : Nat}, l.length ≤ i → l.Perm (l.take i ++ (l.drop i).filter keepRaw) := fun h => by
    rw [drop_eq_nil_of_le h, take_of_length_le h]; simp
  -- case1: no fuel; case2: the raw at `i` is kept; case3: it is removed; case4: `i` is behind the array
  fun_induction filterSwap keepRaw fuel i l with
  | case1 i l => exact done (Nat.zero_add i ▸ hf)
  | case4 fuel i l hlt => exact done (Nat.le_of_not_lt hlt)
  | case2 fuel i l hlt hk ih =>
    rw [getD_eq_getElem?_getD, getElem?_eq_getElem hlt, Option.getD_some] at hk
    refine (ih (Nat.add_right_comm fuel 1 i ▸ hf)).trans ?_
    rw [drop_eq_getElem_cons hlt, filter_cons_of_pos hk, take_succ_eq_append_getElem hlt, append_assoc, singleton_append]
  | case3 fuel i l hlt hk ih =>
    rw [getD_eq_getElem?_getD, getElem?_eq_getElem hlt, Option.getD_some] at hk
    obtain ⟨rest, he, hr⟩ := removeSwap_spec l i hlt
    have hil : (l.take i).length = i := (length_take ..).trans (Nat.min_eq_left (Nat.le_of_lt hlt))
    rw [he] at ih ⊢
    rw [take_left' hil, drop_left' hil] at ih
    refine (ih (by rw [length_append, hil, hr.length_eq, length_drop]; omega)).trans ?_
    rw [drop_eq_getElem_cons hlt, filter_cons_of_neg hk]
    exact Perm.append_left _ (hr.filter _)

/-- The `pvSortRaws` loop of `FilterRaws`. Loop invariant: the loop stands at the begin `lo` of segment `k` (`hlo`), the fuel covers the rest
    of the array (`hlen`), the full segments below `k` are sorted (`hprev`). -/
theorem sortFullSegs_spec (addr : Nat → Nat) (raws : List Nat) (fuel k lo : Nat) (hlo : lo = segStart k)
    (hnd : (raws.map addr).Nodup) (hlen : raws.length ≤ fuel + lo)
    (hprev : ∀ k', k' < k → segEnd k' < raws.length → Sorted addr (slice raws (segStart k') (segEnd k'))) :
    (sortFullSegs addr raws fuel k lo).Perm raws ∧ SegSorted addr (sortFullSegs addr raws fuel k lo) := by
  -- no full segment from `k` on: the loop ends
  have done : ∀ k (raws : List Nat), raws.length ≤ segEnd k →
      (∀ k', k' < k → segEnd k' < raws.length → Sorted addr (slice raws (segStart k') (segEnd k'))) → SegSorted addr raws :=
    fun k raws hlen hprev k' hk' => hprev k' (lt_of_segEnd_lt (Nat.lt_of_lt_of_le hk' hlen)) hk'
  -- case1: no fuel; case2: segment `k` is full and gets sorted; case3: no full segment is left
  fun_induction sortFullSegs addr raws fuel k lo with
  | case1 raws k lo =>
    subst hlo
    exact ⟨Perm.refl _, done k raws (Nat.le_trans (by simpa using hlen) (Nat.le_of_lt (segStart_lt_end k))) hprev⟩
  | case3 raws fuel k lo hfull => exact ⟨Perm.refl _, done k raws (Nat.le_of_not_lt hfull) hprev⟩
  | case2 raws fuel k lo hfull ih =>
    subst hlo
    have hse := segStart_lt_end k
    have hp := sortSeg_perm addr raws (segStart k) (segEnd k) (Nat.le_of_lt hse)
    have := ih rfl ((hp.map addr).nodup_iff.mpr hnd) (by rw [hp.length_eq]; show raws.length ≤ fuel + segEnd k; omega) ?_
    · exact ⟨this.1.trans hp, this.2⟩
    · intro k' hk' hke
      rw [hp.length_eq] at hke
      exact sorted_slice_sortSeg addr raws k (Nat.le_of_lt hfull) (nodup_map_slice addr _ _ _ hnd) k' hke
        (fun e => hprev k' (Nat.lt_of_le_of_ne (Nat.le_of_lt_succ hk') e))

/-- the raw array `filterGroup` computes for one key (its `let raws`): the raws the filter accepts, full segments sorted -/
theorem filterGroup_raws_spec (addr : Nat → Nat) (keepRaw : Nat → Bool) (raws : List Nat) (hnd : (raws.map addr).Nodup) (r : List Nat)
    (hr : r = sortFullSegs addr (filterSwap keepRaw (2 * raws.length + 1) 0 raws)
      (filterSwap keepRaw (2 * raws.length + 1) 0 raws).length 0 0) :
    r.Perm (raws.filter keepRaw) ∧ SegSorted addr r := by
  subst hr
  have h1 := filterSwap_spec keepRaw (2 * raws.length + 1) 0 raws (by omega)
  rw [take_zero, drop_zero, nil_append] at h1
  have h2 := sortFullSegs_spec addr _ _ 0 0 rfl ((h1.map addr).nodup_iff.mpr ((filter_sublist.map addr).nodup hnd))
    (Nat.le_add_right _ _) (fun k' hk' => absurd hk' (Nat.not_lt_zero _))
  exact ⟨h2.1.trans h1, h2.2⟩

/-- **one key of `MultiHash::FilterRaws`**: the group keeps exactly the raws the filter accepts (`none`: no raw
    survives, `RemoveKey`), and its full segments are sorted afterwards -/
theorem filterGroup_spec (addr : Nat → Nat) (keepRaw : Nat → Bool) (g : Group) (hnd : (g.members.map addr).Nodup) :
    match filterGroup addr keepRaw g with
    | none => g.members.filter keepRaw = []
    | some g' => g'.members.Perm (g.members.filter keepRaw) ∧ SegSorted addr g'.raws ∧ g'.h0 = g.h0 := by
  have H := filterGroup_raws_spec addr keepRaw g.raws (nodup_cons.mp hnd).2
  unfold Group.members
  -- case1: the key raw is kept; case2: it is not and no raw is left (`RemoveKey`); case3: it is not and the last raw becomes the key
  fun_cases filterGroup addr keepRaw g with
  | case1 raws hk =>
    obtain ⟨h3, h2⟩ := H raws rfl
    rw [filter_cons_of_pos hk]
    exact ⟨Perm.cons _ h3, h2, rfl⟩
  | case2 raws hk hl =>
    obtain ⟨h3, _⟩ := H raws rfl
    rw [filter_cons_of_neg hk]
    rw [getLast?_eq_none_iff.mp hl] at h3
    exact h3.symm.eq_nil
  | case3 raws hk last hl =>
    obtain ⟨h3, h2⟩ := H raws rfl
    rw [filter_cons_of_neg hk]
    exact ⟨(ListFacts.dropLast_perm hl).symm.trans h3, segSorted_dropLast addr _ h2, rfl⟩

end Momo.Table
