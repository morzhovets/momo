import Momo.Translated.Wave2
import Momo.Proof.Word64
import Momo.Proof.TrEqMisc
import Momo.Proof.BTreeAdd
import Momo.Proof.BTreeSearch
/-!
  C02: the capacity / pool-index arithmetic of `internal::Node` (details/TreeNode.h) and the item-count arithmetic and
  tests of `TreeSet::pvAdd`, `Relocator::GrowLeafNode / pvSplitNode`, `TreeSet::pvRebalance(parentNode, index, savedNode)` and
  the binary search of `pvFindFirst(node, pred)` (TreeSet.h) as translated from the headers (area Wave2,
  lean/Momo/Translated/Wave2.lean) are the functions of the model `Momo/Model/BTree.lean`:
  `lastLeafPool`, `leafCap`, `capOf`, the case analysis and node sizes of `addLeaf`, the test of `tryMerge`,
  `binLoop` / `findBin`.
-/
namespace Momo.TrEq
open Momo Momo.Seg Momo.BTree Momo.BTree.Node

/-! ### details/TreeNode.h -/

/-- `capacityStep = (tCapacityStep > 0) ? tCapacityStep : tMaxCapacity`: the value the model takes as the field `Cfg.step` -/
theorem tr_tree_capacityStep (M s : Nat) : Tr.tree_capacityStep M s = if 0 < s then s else M := by
  unfold Tr.tree_capacityStep
  simp

/-- `leafMemPoolCount = maxCapacity / (2 * capacityStep) + 1` (`2 * capacityStep` must not wrap) -/
theorem tr_tree_leafMemPoolCount (cfg : Cfg) (hs : cfg.step < 2 ^ 63) (hM : cfg.maxCap < 2 ^ 64 - 1) :
    Tr.tree_leafMemPoolCount cfg.maxCap cfg.step = lastLeafPool cfg + 1 := by
  unfold Tr.tree_leafMemPoolCount lastLeafPool
  rw [mul64_of_lt (by omega)]
  exact add64_of_lt (Nat.lt_of_le_of_lt (Nat.succ_le_succ (Nat.div_le_self _ _)) (by omega))

/-- the clamp `if (index >= count) index = count - 1` for `count = L + 1` is a minimum -/
theorem clamp_eq_min (x L : Nat) : (if x ≥ L + 1 then L else x) = min x L := by
  by_cases h : L + 1 ≤ x
  · rw [if_pos h, Nat.min_eq_right (Nat.le_of_succ_le h)]
  · rw [if_neg h, Nat.min_eq_left (Nat.le_of_lt_succ (Nat.lt_of_not_le h))]

/-- `pvGetLeafMemPoolIndex(params, count)` for `count ≤ maxCapacity`: first pool while at most one internal node is alive and
    the pools hold more than one block per buffer, else `(maxCapacity - count) / capacityStep` clamped to the last pool -/
theorem tr_tree_leafPoolIndex (cfg : Cfg) (bc ia count : Nat) (hs : cfg.step < 2 ^ 63) (hM : cfg.maxCap < 2 ^ 64 - 1)
    (hc : count ≤ cfg.maxCap) (hb : cfg.blockGt1 = decide (bc > 1)) :
    Tr.tree_pvGetLeafMemPoolIndex cfg.maxCap cfg.step bc ia count =
      if ia ≤ 1 && cfg.blockGt1 then 0 else min ((cfg.maxCap - count) / cfg.step) (lastLeafPool cfg) := by
  unfold Tr.tree_pvGetLeafMemPoolIndex
  rw [tr_tree_leafMemPoolCount cfg hs hM, hb, sub64_of_le hc, sub64_of_le (Nat.le_add_left 1 _), Nat.add_sub_cancel]
  simp only [decide_eq_true_eq, clamp_eq_min]

theorem tr_tree_getCapacity_leaf (cfg : Cfg) (idx : Nat) (hs : cfg.step < 2 ^ 63) (hM : cfg.maxCap < 2 ^ 64 - 1)
    (hi : idx ≤ lastLeafPool cfg) (hle : cfg.step * idx ≤ cfg.maxCap) :
    Tr.tree_GetCapacity cfg.maxCap cfg.step idx = cfg.maxCap - cfg.step * idx := by
  unfold Tr.tree_GetCapacity Tr.tree_IsLeaf
  rw [tr_tree_leafMemPoolCount cfg hs hM]
  simp only [decide_eq_true (Nat.lt_succ_of_le hi : idx < lastLeafPool cfg + 1), if_true]
  rw [mul64_of_lt (Nat.lt_of_le_of_lt hle (Nat.lt_of_lt_of_le hM (Nat.sub_le _ _))), sub64_of_le hle]

/-- the capacity of the leaf `Node::Create(params, true, count)` makes — `pvGetLeafMemPoolIndex`, the constructor's
    `static_cast<uint8_t>`, `GetCapacity()` — is the model's `leafCap` (for `maxCapacity < 256`, the static assertion of the class,
    `capacityStep < 2^63`, `count ≤ maxCapacity`, the assertion of `Create`; `capacityStep = 0` cannot be instantiated) -/
theorem tr_tree_leafCap (cfg : Cfg) (bc ia count : Nat) (hM : cfg.maxCap < 256) (hs : cfg.step < 2 ^ 63)
    (hc : count ≤ cfg.maxCap) (hb : cfg.blockGt1 = decide (bc > 1)) :
    Tr.tree_GetCapacity cfg.maxCap cfg.step
        (Tr.tree_ctorMemPoolIndex (Tr.tree_pvGetLeafMemPoolIndex cfg.maxCap cfg.step bc ia count)) = leafCap cfg ia count := by
  have hM' : cfg.maxCap < 2 ^ 64 - 1 := Nat.lt_trans hM (by decide)
  rw [tr_tree_leafPoolIndex cfg bc ia count hs hM' hc hb]
  unfold leafCap Tr.tree_ctorMemPoolIndex
  split
  · exact tr_tree_getCapacity_leaf cfg 0 hs hM' (Nat.zero_le _) (Nat.zero_le _)
  · -- the index is at most `(maxCapacity - count) / capacityStep ≤ maxCapacity < 256`: the byte cast keeps it
    have h1 : min ((cfg.maxCap - count) / cfg.step) (lastLeafPool cfg) ≤ (cfg.maxCap - count) / cfg.step := Nat.min_le_left _ _
    have h3 : cfg.step * min ((cfg.maxCap - count) / cfg.step) (lastLeafPool cfg) ≤ cfg.maxCap :=
      Nat.le_trans (Nat.mul_le_mul_left _ h1) (Nat.le_trans (Nat.mul_div_le _ _) (Nat.sub_le _ _))
    rw [Nat.mod_eq_of_lt (Nat.lt_of_le_of_lt (Nat.le_trans h1 (Nat.le_trans (Nat.div_le_self _ _) (Nat.sub_le _ _))) hM)]
    exact tr_tree_getCapacity_leaf cfg _ hs hM' (Nat.min_le_right _ _) h3

/-- the capacity of an internal node (`Node(leafMemPoolCount, count)` in `Create`): `IsLeaf()` is false and `GetCapacity()` is
    `maxCapacity` — the model's `capOf` of an internal node (`leafMemPoolCount ≤ 128` fits the byte) -/
theorem tr_tree_innerCap (cfg : Cfg) (hM : cfg.maxCap < 256) (hs0 : 0 < cfg.step) (hs : cfg.step < 2 ^ 63) :
    Tr.tree_IsLeaf cfg.maxCap cfg.step (Tr.tree_ctorMemPoolIndex (Tr.tree_internalMemPoolIndex cfg.maxCap cfg.step)) = false ∧
    Tr.tree_GetCapacity cfg.maxCap cfg.step (Tr.tree_ctorMemPoolIndex (Tr.tree_internalMemPoolIndex cfg.maxCap cfg.step))
      = cfg.maxCap := by
  have hL : lastLeafPool cfg + 1 < 256 := by
    have : lastLeafPool cfg ≤ cfg.maxCap / 2 := Nat.div_le_div_left (show 2 ≤ 2 * cfg.step by omega) (by decide)
    omega
  have h : Tr.tree_IsLeaf cfg.maxCap cfg.step (Tr.tree_ctorMemPoolIndex (Tr.tree_internalMemPoolIndex cfg.maxCap cfg.step)) = false := by
    unfold Tr.tree_IsLeaf Tr.tree_ctorMemPoolIndex Tr.tree_internalMemPoolIndex
    rw [tr_tree_leafMemPoolCount cfg hs (Nat.lt_trans hM (by decide)), Nat.mod_eq_of_lt hL]
    exact decide_eq_false (Nat.lt_irrefl _)
  refine ⟨h, ?_⟩
  unfold Tr.tree_GetCapacity
  rw [h]
  rfl

/-! ### TreeSet.h: `pvAdd`, `Relocator::GrowLeafNode`, `Relocator::pvSplitNode` -/

theorem tr_tree_add_fits (n cap : Nat) : (Tr.tree_add_fits n cap = true) ↔ n < cap := decide_eq_true_iff
theorem tr_tree_add_grows (n M : Nat) : (Tr.tree_add_grows n M = true) ↔ n < M := decide_eq_true_iff
theorem tr_tree_split_left (i s : Nat) : (Tr.tree_split_left i s = true) ↔ i ≤ s := decide_eq_true_iff

theorem tr_tree_grow_count (n : Nat) (h : n < 2 ^ 64 - 1) : Tr.tree_grow_count n = n + 1 := add64_one h
theorem tr_tree_split_count1L (s : Nat) (h : s < 2 ^ 64 - 1) : Tr.tree_split_count1L s = s + 1 := add64_one h
/-- `itemCount - splitItemIndex - 1` does not wrap because `splitItemIndex < itemCount` (the assertion of `pvSplitNode`) -/
theorem tr_tree_split_count2L (n s : Nat) (h : s < n) : Tr.tree_split_count2L n s = n - s - 1 := sub64_sub64 h
theorem tr_tree_split_count1R (s : Nat) : Tr.tree_split_count1R s = s := rfl
theorem tr_tree_split_count2R (n s : Nat) (h : s ≤ n) : Tr.tree_split_count2R n s = n - s := sub64_of_le h
theorem tr_tree_split_newIndexR (i s : Nat) (h : s < i) : Tr.tree_split_newIndexR i s = i - s - 1 := sub64_sub64 h

/-- `pvAdd` at a leaf (model `addLeaf`) with every test and every node size replaced by the code translated from the headers:
    in place / `GrowLeafNode` / `pvSplitNode` chosen by the translated tests of `pvAdd`, the split point is the translated
    `GetSplitItemIndex` (base table), the sizes of the new nodes are the translated arguments of `CreateNode`, the position of
    the new item in the right half is the translated `newItemIndex - splitItemIndex - 1`. `hn`: the counts `n + 1` do not wrap
    (a node has at most `maxCapacity < 256` items) -/
theorem addLeaf_translated {α : Type} (cfg : Cfg) (ia cap : Nat) (items : List α) (i : Nat) (x : α)
    (hn : items.length < 2 ^ 64 - 1) :
    addLeaf cfg ia cap items i x =
      if Tr.tree_add_fits items.length cap = true then .ok (leaf cap (items.insertIdx i x)) ⟨[], i⟩
      else if Tr.tree_add_grows items.length cfg.maxCap = true then
        .ok (leaf (leafCap cfg ia (Tr.tree_grow_count items.length)) (items.insertIdx i x)) ⟨[], i⟩
      else if Tr.tree_split_left i (Tr.tree_GetSplitItemIndex items.length i) = true then
        match (items.insertIdx i x)[Tr.tree_GetSplitItemIndex items.length i + 1]? with
        | some sep => .split
            (leaf (leafCap cfg ia (Tr.tree_split_count1L (Tr.tree_GetSplitItemIndex items.length i)))
              ((items.insertIdx i x).take (Tr.tree_GetSplitItemIndex items.length i + 1)))
            sep
            (leaf (leafCap cfg ia (Tr.tree_split_count2L items.length (Tr.tree_GetSplitItemIndex items.length i)))
              ((items.insertIdx i x).drop (Tr.tree_GetSplitItemIndex items.length i + 2)))
            false ⟨[], i⟩
        | none => .ok (leaf cap items) ⟨[], i⟩
      else
        match (items.insertIdx i x)[Tr.tree_GetSplitItemIndex items.length i]? with
        | some sep => .split
            (leaf (leafCap cfg ia (Tr.tree_split_count1R (Tr.tree_GetSplitItemIndex items.length i)))
              ((items.insertIdx i x).take (Tr.tree_GetSplitItemIndex items.length i)))
            sep
            (leaf (leafCap cfg ia (Tr.tree_split_count2R items.length (Tr.tree_GetSplitItemIndex items.length i)))
              ((items.insertIdx i x).drop (Tr.tree_GetSplitItemIndex items.length i + 1)))
            true ⟨[], Tr.tree_split_newIndexR i (Tr.tree_GetSplitItemIndex items.length i)⟩
        | none => .ok (leaf cap items) ⟨[], i⟩ := by
  simp only [tr_splitIdx, tr_tree_add_fits, tr_tree_add_grows, tr_tree_split_left, tr_tree_split_count1R,
    tr_tree_grow_count _ hn]
  unfold addLeaf
  by_cases h1 : items.length < cap
  · rw [if_pos h1, if_pos h1]
  rw [if_neg h1, if_neg h1]
  by_cases h2 : items.length < cfg.maxCap
  · rw [if_pos h2, if_pos h2]
  rw [if_neg h2, if_neg h2]
  by_cases h0 : items.length = 0
  · -- an empty full node (maxCapacity = 0) is outside the class's static assertion; no separator is found on either side
    obtain rfl := List.length_eq_zero_iff.mp h0
    have hs : splitIdx 0 i = 0 := by unfold splitIdx; split <;> rfl
    simp only [List.length_nil, hs]
    cases i <;> rfl
  · have hlt := splitIdx_lt items.length i (Nat.pos_of_ne_zero h0)
    rw [tr_tree_split_count1L _ (Nat.lt_trans hlt hn), tr_tree_split_count2L _ _ hlt,
      tr_tree_split_count2R _ _ (Nat.le_of_lt hlt)]
    by_cases h3 : i ≤ splitIdx items.length i
    · rw [if_pos h3, if_pos h3]; rfl
    · rw [if_neg h3, if_neg h3, tr_tree_split_newIndexR _ _ (Nat.lt_of_not_le h3)]; rfl

/-! ### TreeSet.h: `pvRebalance(parentNode, index, savedNode)` -/

theorem tr_tree_reb_noPair (index cnt : Nat) : (Tr.tree_reb_noPair index cnt = true) ↔ (index = 0 ∨ cnt < index) := by
  simp [Tr.tree_reb_noPair]
theorem tr_tree_reb_leftIndex (index : Nat) (h : 0 < index) : Tr.tree_reb_leftIndex index = index - 1 := sub64_of_le h
/-- the "cannot merge" test `itemCount1 + itemCount2 + 1 > node1->GetCapacity()` (counts are bytes: nothing wraps) -/
theorem tr_tree_reb_tooBig (c1 c2 cap : Nat) (h : c1 + c2 < 2 ^ 64 - 1) :
    (Tr.tree_reb_tooBig c1 c2 cap = true) ↔ c1 + c2 + 1 > cap := by
  unfold Tr.tree_reb_tooBig
  rw [add64_of_lt (Nat.lt_of_lt_of_le h (Nat.sub_le _ _)), add64_one h]
  exact decide_eq_true_iff

/-- `pvRebalance(parentNode, i + 1, savedNode)` (model `tryMerge … i`) with the translated tests: the call made by the loop of
    `pvRebalance(node, savedNode, fast)` for the pair `(i, i + 1)` has `index = i + 1`; it gives up when the translated
    `index == 0 || index > count`, works on the translated `--index`, and merges unless the translated "too big" test holds -/
theorem tryMerge_translated {α : Type} (cfg : Cfg) (items : List α) (cs : List (Node α)) (i : Nat) (saved : Option (List Nat))
    (hi : i < items.length) (hcs : cs.length = items.length + 1) (hcnt : ∀ n ∈ cs, n.count < 2 ^ 63) :
    tryMerge cfg items cs i saved =
      if Tr.tree_reb_noPair (i + 1) items.length = true then none
      else
        match items[Tr.tree_reb_leftIndex (i + 1)]?, cs[Tr.tree_reb_leftIndex (i + 1)]?, cs[Tr.tree_reb_leftIndex (i + 1) + 1]? with
        | some sep, some n1, some n2 =>
          if saved = some [Tr.tree_reb_leftIndex (i + 1) + 1] then none
          else if Tr.tree_reb_tooBig n1.count n2.count (capOf cfg n1) = true then none
          else some (inner (items.eraseIdx (Tr.tree_reb_leftIndex (i + 1)))
                      (cs.take (Tr.tree_reb_leftIndex (i + 1)) ++ mergeNodes n1 sep n2 :: cs.drop (Tr.tree_reb_leftIndex (i + 1) + 2)),
                     saved.map (mergeSaved (Tr.tree_reb_leftIndex (i + 1)) n1.count))
        | _, _, _ => none := by
  have hno : ¬ (Tr.tree_reb_noPair (i + 1) items.length = true) := fun h =>
    ((tr_tree_reb_noPair _ _).mp h).elim (Nat.succ_ne_zero i) (Nat.not_lt.mpr hi)
  rw [if_neg hno, tr_tree_reb_leftIndex (i + 1) (Nat.succ_pos i), Nat.add_sub_cancel]
  unfold tryMerge
  have h1 : i < cs.length := hcs ▸ Nat.lt_succ_of_lt hi
  have h2 : i + 1 < cs.length := hcs ▸ Nat.succ_lt_succ hi
  rw [List.getElem?_eq_getElem hi, List.getElem?_eq_getElem h1, List.getElem?_eq_getElem h2]
  simp only
  have hsum : cs[i].count + cs[i + 1].count < 2 ^ 64 - 1 :=
    Nat.lt_of_le_of_lt (Nat.add_le_add (Nat.le_pred_of_lt (hcnt _ (List.getElem_mem h1)))
      (Nat.le_pred_of_lt (hcnt _ (List.getElem_mem h2)))) (by decide)
  have := tr_tree_reb_tooBig cs[i].count cs[i + 1].count (capOf cfg cs[i]) hsum
  by_cases hb : cs[i].count + cs[i + 1].count + 1 > capOf cfg cs[i]
  · rw [if_pos hb, if_pos (this.mpr hb)]
  · rw [if_neg hb, if_neg (fun h => hb (this.mp h))]

/-! ### TreeSet.h: the binary search of `pvFindFirst(node, pred)` -/

/-- what the two recursive calls of `while_bin` need of the middle index: it is inside the interval, and the left half `(lo, mid)` and the
    right half `(mid + 1, hi)` are each shorter than `2^f` (fuel of `whileN`) and at most `g` long (fuel of the model's `binLoop`) -/
theorem mid_bounds (lo hi f g : Nat) (hlt : lo < hi) (h2 : hi < lo + 2 ^ (f + 1)) (h3 : hi ≤ lo + (g + 1)) :
    (lo + hi) / 2 < hi ∧ (lo + hi) / 2 < lo + 2 ^ f ∧ (lo + hi) / 2 ≤ lo + g ∧
    hi < (lo + hi) / 2 + 1 + 2 ^ f ∧ hi ≤ (lo + hi) / 2 + 1 + g := by
  rw [Nat.pow_succ] at h2; omega

/-- the loop of the translated binary search written with projections (definitionally the pattern-matching lambdas of the
    generated def) follows the model's `binLoop`. The loop state is `(rightIndex, leftIndex) = (hi, lo)` in the order of the generated
    tuple. `fuel` is the fuel of `whileN`: it suffices for an interval shorter than `2^fuel`; `f2` is the fuel of the model's
    `binLoop`, which only has to be at least the length of the interval (`findBin` passes `items.length`) -/
theorem while_bin {α : Type} (p : α → Bool) (items : List α) (pred : Nat → Nat)
    (hpred : ∀ i (h : i < items.length), pred i ≠ 0 ↔ p items[i] = true) (hlen : items.length < 2 ^ 63) :
    ∀ (fuel lo hi f2 : Nat), hi ≤ items.length → hi < lo + 2 ^ fuel → hi ≤ lo + f2 →
      (Tr.whileN fuel (fun (x : Nat × Nat) => decide (x.2 < x.1))
        (fun x => if decide (pred (add64 x.2 x.1 / 2) ≠ 0) then (add64 x.2 x.1 / 2, x.2) else (x.1, add64 (add64 x.2 x.1 / 2) 1))
        (hi, lo)).2 = binLoop p items f2 lo hi
  | 0, lo, hi, f2, _, h2, _ => (binLoop_of_le p items f2 lo hi (Nat.le_of_lt_succ h2)).symm
  | f+1, lo, hi, f2, h1, h2, h3 => by
    rw [Tr.whileN_succ]
    by_cases hlt : lo < hi
    · obtain ⟨g, rfl⟩ : ∃ g, f2 = g + 1 := 
        Nat.exists_eq_succ_of_ne_zero (by rintro rfl; exact Nat.not_le_of_lt hlt h3)
      obtain ⟨m1, m2, m3, m4, m5⟩ := mid_bounds lo hi f g hlt h2 h3
      have hm : (lo + hi) / 2 < items.length := Nat.lt_of_lt_of_le m1 h1
      have hmid : add64 lo hi / 2 = (lo + hi) / 2 := by
        rw [add64_of_lt (add_lt_two_pow_64 (Nat.lt_of_lt_of_le hlt h1) h1 (Nat.le_of_lt hlen))]
      simp only [hlt, decide_true, if_true, hmid, binLoop, List.getElem?_eq_getElem hm]
      by_cases hpm : pred ((lo + hi) / 2) ≠ 0
      · rw [if_pos (decide_eq_true hpm), if_pos ((hpred _ hm).mp hpm)]
        exact while_bin p items pred hpred hlen f lo ((lo + hi) / 2) g (Nat.le_of_lt hm) m2 m3
      · rw [if_neg (by rw [decide_eq_false hpm]; decide), if_neg (fun h => hpm ((hpred _ hm).mpr h)),
          add64_of_lt (add_lt_two_pow_64 hm (Nat.succ_le_of_lt (Nat.zero_lt_of_lt hm)) (Nat.le_of_lt hlen))]
        exact while_bin p items pred hpred hlen f ((lo + hi) / 2 + 1) hi g h1 m4 m5
    · simp only [hlt, decide_false]
      exact (binLoop_of_le p items f2 lo hi (Nat.le_of_not_lt hlt)).symm

/-- `hlen`: a node has at most `maxCapacity < 256` items -/
theorem tr_tree_findFirst_bin {α : Type} (p : α → Bool) (items : List α) (pred : Nat → Nat)
    (hpred : ∀ i (h : i < items.length), pred i ≠ 0 ↔ p items[i] = true) (hlen : items.length < 2 ^ 63) :
    Tr.tree_findFirst_bin pred items.length = findBin p items := by
  unfold findBin
  rw [← while_bin p items pred hpred hlen 64 0 items.length items.length (Nat.le_refl _)
    (Nat.lt_trans hlen (by decide)) (Nat.le_of_eq (Nat.zero_add _).symm)]
  rfl
end Momo.TrEq
