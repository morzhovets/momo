import Momo.Proof.StdWrapHint
import Momo.Proof.ListFacts
/-!
  `find` / `at` / `equal_range` of the ordered containers (C06, section 3 of `Model/StdWrap.lean`) in terms of `lb` / `ub`, and the association-list lemmas
  (`lookup_append_single`, `lookup_assign`) for the decision functions `umapTryEmplace` / `umapInsertOrAssign` of section 4 (the history model has its own
  `hInsert` / `wuInsertOrAssign`).
-/
namespace Momo.StdWrap
open List

/-- the wrappers' test "the lower bound exists and is not greater than the key" (`find`, `operator[]`, `contains`) is presence of the key -/
theorem found_iff (xs : List Item) (hs : Sorted xs) (k : Nat) :
    (lb k xs < xs.length ∧ ¬ k < keyAt xs (lb k xs)) ↔ lb k xs < ub k xs := by
  rw [lt_ub_iff hs, Nat.not_lt]

theorem ordFind_bounds (xs : List Item) (hs : Sorted xs) (k : Nat) :
    ordFind xs k = if lb k xs < ub k xs then lb k xs else xs.length := by
  simp only [ordFind, found_iff xs hs k]

theorem mapAt_none_iff (xs : List Item) (hs : Sorted xs) (k : Nat) :
    mapAt xs k = none ↔ ¬ ∃ e ∈ xs, e.1 = k := by
  rw [← present_iff xs hs k, mapAt, ordFind_bounds xs hs k]
  by_cases h : lb k xs < ub k xs
  · rw [if_pos h, if_neg (Nat.ne_of_lt ((lt_ub_iff hs).mp h).1)]
    exact ⟨fun hh => (nomatch hh), fun hh => absurd h hh⟩
  · rw [if_neg h, if_pos rfl]
    exact ⟨fun _ => h, fun _ => rfl⟩

theorem lookup_append_single (m : List Item) (k v k' : Nat) :
    (m ++ [(k, v)]).lookup k' = match m.lookup k' with | some w => some w | none => if k' = k then some v else none := by
  rw [lookup_append]
  cases m.lookup k' with
  | some w => rfl
  | none => exact ListFacts.lookup_cons_ite k v [] k'

theorem lookup_assign (m : List Item) (k v k' : Nat) :
    (assign m k v).lookup k' = if k' = k then (m.lookup k).map (fun _ => v) else m.lookup k' := by
  induction m with
  | nil => split <;> rfl
  | cons e t ih =>
    obtain ⟨a, b⟩ := e
    show lookup k' ((if a = k then (k, v) else (a, b)) :: assign t k v) = _
    rw [ListFacts.lookup_cons_ite a b t k, ListFacts.lookup_cons_ite a b t k']
    by_cases ha : a = k
    · rw [if_pos ha, ListFacts.lookup_cons_ite, ih, if_pos ha.symm]
      by_cases hk : k' = k
      · simp only [if_pos hk]; rfl
      · simp only [if_neg hk]; rw [if_neg fun h => hk (h.trans ha)]
    · rw [if_neg ha, ListFacts.lookup_cons_ite, ih, if_neg (Ne.symm ha)]
      by_cases hk : k' = k
      · simp only [if_pos hk]; rw [if_neg fun h => ha (h.symm.trans hk)]
      · simp only [if_neg hk]

theorem ordEqualRange_unique (xs : List Item) (hs : StrictSorted xs) (k : Nat) :
    ordEqualRange false xs k = (lb k xs, ub k xs) := by
  have hf := found_iff xs hs.sorted k
  rw [ordEqualRange, if_neg Bool.false_ne_true]
  by_cases hp : lb k xs < ub k xs
  · rw [if_neg fun hc => hc.elim (Nat.ne_of_lt (hf.mpr hp).1) (hf.mpr hp).2,
      ← Nat.le_antisymm (ub_le_lb_succ xs hs k) hp]
  · rw [if_pos (Decidable.or_iff_not_not_and_not.mpr fun hc => hp (hf.mp ⟨Nat.lt_of_le_of_ne (lb_le_length k xs) hc.1, hc.2⟩)),
      Nat.le_antisymm (Nat.le_of_not_lt hp) (lb_le_ub k xs)]

end Momo.StdWrap
