import Momo.Model.Rows
import Momo.Proof.ListFacts
/-!
  Lemmas for the row hand-off model (C19): chains that `next` links (`Linked`), the blocks in flight paired with
  their threads (`thrPairs`) and what replacing one thread's program counter does to them and to `inflight`, the step function
  as a relation (`Step`, `step_sound`), and the induction over schedules (`run_ind`).
  Names in the Rows files: what follows from the invariant `RInv` or from a `Census` is in that namespace and is used by dot notation on the
  hypothesis (`hI.of_W h`, `c.push`); every other lemma is `Notion_what` (`Linked_tail`, `RInv_step`: it concludes `RInv`, `Holds_exclusive`).
-/
namespace Momo.Rows

theorem Linked_tail {next : Row → Option Row} {l : List Row} (h : Linked next l) : Linked next l.tail := by
  match l, h with
  | [], _ => trivial
  | [_], _ => trivial
  | _ :: b :: rest, h => exact h.2

theorem Linked_congr {n1 n2 : Row → Option Row} {l : List Row} (h : Linked n1 l)
    (hag : ∀ x, x ∈ l → n1 x = n2 x) : Linked n2 l := by
  induction l with
  | nil => trivial
  | cons a t ih =>
    cases t with
    | nil => simp [Linked] at h ⊢; rw [← hag a (by simp)]; exact h
    | cons b rest =>
      simp only [Linked] at h ⊢
      refine ⟨?_, ih h.2 (fun x hx => hag x (List.mem_cons_of_mem _ hx))⟩
      rw [← hag a (by simp)]; exact h.1

theorem Linked_head_next {next : Row → Option Row} {a : Row} {l : List Row} (h : Linked next (a :: l)) :
    next a = l.head? := by
  cases l with
  | nil => simpa [Linked] using h
  | cons b rest => simpa [Linked] using h.1

theorem Linked_cons {next : Row → Option Row} {a : Row} {l : List Row} (h : Linked next l)
    (ha : next a = l.head?) : Linked next (a :: l) := by
  cases l with
  | nil => simpa [Linked] using ha
  | cons b rest => exact ⟨by simpa using ha, h⟩

theorem Linked_setNext {next : Row → Option Row} {l : List Row} {r : Row} {v : Option Row}
    (h : Linked next l) (hr : r ∉ l) : Linked (setNext next r v) l :=
  Linked_congr h (fun x hx => by
    have : x ≠ r := fun e => hr (e ▸ hx)
    simp [setNext, this])

theorem chainFrom_linked {next : Row → Option Row} : ∀ (l : List Row) (fuel : Nat),
    Linked next l → l.length ≤ fuel → chainFrom next fuel l.head? = l
  | [], fuel, _, _ => by cases fuel <;> simp [chainFrom]
  | a :: t, 0, _, hf => by simp at hf
  | a :: t, f+1, hl, hf => by
    have hn := Linked_head_next hl
    have := chainFrom_linked t f (Linked_tail hl) (by simpa using hf)
    simp [chainFrom, hn, this]

theorem mem_fst {l : List (Row × Tid)} {r : Row} {t : Tid} (h : (r, t) ∈ l) : r ∈ l.map Prod.fst :=
  List.mem_map.mpr ⟨(r, t), h, rfl⟩

theorem pair_unique {l : List (Row × Tid)} {r : Row} {t u : Tid} (ht : (r, t) ∈ l) (hu : (r, u) ∈ l)
    (hn : (l.map Prod.fst).Nodup) : t = u :=
  (Prod.mk.inj (ListFacts.key_inj Prod.fst hn ht hu rfl)).2

/-! `thrPairs`: `inflight` with the threads written beside the blocks. -/

def thrPair (p : PC × Tid) : Option (Row × Tid) := p.1.row.map (·, p.2)

def thrPairs (thr : List PC) : List (Row × Tid) := thr.zipIdx.filterMap thrPair

theorem mem_thrPairs {thr : List PC} {r : Row} {t : Tid} :
    (r, t) ∈ thrPairs thr ↔ ∃ pc, thr[t]? = some pc ∧ pc.row = some r := by
  unfold thrPairs
  rw [List.mem_filterMap]
  constructor
  · rintro ⟨⟨pc, i⟩, hm, hp⟩
    unfold thrPair at hp
    cases hr : pc.row with
    | none => rw [hr] at hp; cases hp
    | some r' =>
      rw [hr] at hp; cases hp
      exact ⟨pc, List.mem_zipIdx_iff_getElem?.mp hm, hr⟩
  · rintro ⟨pc, ht, hr⟩
    exact ⟨(pc, t), List.mem_zipIdx_iff_getElem?.mpr ht, by unfold thrPair; rw [hr]; rfl⟩

theorem thrPairs_fst (thr : List PC) : (thrPairs thr).map Prod.fst = thr.filterMap PC.row := by
  unfold thrPairs
  rw [List.map_filterMap]
  have : (fun x : PC × Nat => Option.map Prod.fst (thrPair x)) = PC.row ∘ Prod.fst := by
    funext x; unfold thrPair; cases h : x.1.row <;> simp [h]
  rw [this, ← List.filterMap_map, List.zipIdx_map_fst]

theorem thrPairs_set_aux (pc' : PC) : ∀ (thr : List PC) (i k : Nat) (pc : PC), thr[i]? = some pc →
    ∃ A B, (thr.zipIdx k).filterMap thrPair = A ++ (thrPair (pc, k + i)).toList ++ B ∧
      ((thr.set i pc').zipIdx k).filterMap thrPair = A ++ (thrPair (pc', k + i)).toList ++ B
  | [], i, k, pc, h => by cases h
  | a :: t, 0, k, pc, h => by
    cases h
    exact ⟨[], (t.zipIdx (k + 1)).filterMap thrPair, ListFacts.filterMap_cons_toList _ _ _, ListFacts.filterMap_cons_toList _ _ _⟩
  | a :: t, j + 1, k, pc, h => by
    obtain ⟨A, B, h1, h2⟩ := thrPairs_set_aux pc' t j (k + 1) pc h
    rw [Nat.add_assoc, Nat.add_comm 1 j] at h1 h2
    refine ⟨(thrPair (a, k)).toList ++ A, B, ?_, ?_⟩
    · rw [List.zipIdx_cons, ListFacts.filterMap_cons_toList, h1, List.append_assoc, List.append_assoc, List.append_assoc]
    · rw [List.set_cons_succ, List.zipIdx_cons, ListFacts.filterMap_cons_toList, h2, List.append_assoc, List.append_assoc,
        List.append_assoc]

theorem thrPairs_set {thr : List PC} {i : Nat} {pc : PC} (h : thr[i]? = some pc) (pc' : PC) :
    ∃ A B, thrPairs thr = A ++ (thrPair (pc, i)).toList ++ B ∧
      thrPairs (thr.set i pc') = A ++ (thrPair (pc', i)).toList ++ B := by
  have := thrPairs_set_aux pc' thr i 0 pc h
  rwa [Nat.zero_add] at this

theorem thrPairs_set_same {thr : List PC} {i : Nat} {pc : PC} (h : thr[i]? = some pc) {pc' : PC} (hr : pc'.row = pc.row) :
    thrPairs (thr.set i pc') = thrPairs thr := by
  obtain ⟨A, B, h1, h2⟩ := thrPairs_set h pc'
  rw [h1, h2, thrPair, thrPair, hr]

theorem thrPairs_set_some {thr : List PC} {i : Nat} {pc : PC} {r : Row} (h : thr[i]? = some pc) (hr : pc.row = some r)
    {pc' : PC} (hr' : pc'.row = none) : (thrPairs thr).Perm ((r, i) :: thrPairs (thr.set i pc')) := by
  obtain ⟨A, B, h1, h2⟩ := thrPairs_set h pc'
  rw [h1, h2, thrPair, thrPair, hr, hr']
  simp

theorem thrPairs_set_none {thr : List PC} {i : Nat} {pc : PC} {r : Row} (h : thr[i]? = some pc) (hr : pc.row = none)
    {pc' : PC} (hr' : pc'.row = some r) : (thrPairs (thr.set i pc')).Perm ((r, i) :: thrPairs thr) := by
  obtain ⟨A, B, h1, h2⟩ := thrPairs_set h pc'
  rw [h1, h2, thrPair, thrPair, hr, hr']
  simp

/-! `thrPairs_set_same` / `_some` / `_none` for `inflight` (the first components, `thrPairs_fst`); `filterMap_set_perm` is the `_some` form. -/

theorem filterMap_set_same {thr : List PC} {i : Nat} {pc : PC} (h : thr[i]? = some pc) {pc' : PC} (hr : pc'.row = pc.row) :
    (thr.set i pc').filterMap PC.row = thr.filterMap PC.row := by
  rw [← thrPairs_fst, ← thrPairs_fst, thrPairs_set_same h hr]

theorem filterMap_set_perm (thr : List PC) (i : Nat) (pc pc' : PC) (r : Row)
    (h : thr[i]? = some pc) (hr : pc.row = some r) (hr' : pc'.row = none) :
    (thr.filterMap PC.row).Perm (r :: (thr.set i pc').filterMap PC.row) := by
  simpa only [thrPairs_fst, List.map_cons] using (thrPairs_set_some h hr hr').map Prod.fst

theorem filterMap_set_none {thr : List PC} {i : Nat} {pc : PC} {r : Row} (h : thr[i]? = some pc) (hr : pc.row = none)
    {pc' : PC} (hr' : pc'.row = some r) :
    ((thr.set i pc').filterMap PC.row).Perm (r :: thr.filterMap PC.row) := by
  simpa only [thrPairs_fst, List.map_cons] using (thrPairs_set_none h hr hr').map Prod.fst

theorem mem_inflight {s : St} {t : Tid} {pc : PC} {r : Row} (h : s.thr[t]? = some pc) (hr : pc.row = some r) :
    r ∈ inflight s := by
  unfold inflight
  exact List.mem_filterMap.mpr ⟨pc, List.mem_of_getElem? h, hr⟩

/-- the model's `swapRemove` takes out exactly the row at `i` (`ListFacts.cons_swapRemove_perm`, as for `MMap.swapRemove`) -/
theorem swapRemove_perm {l : List Row} {i : Nat} {r : Row} (h : l[i]? = some r) :
    l.Perm (r :: swapRemove l i) := by
  obtain ⟨z, hz, hp⟩ := ListFacts.cons_swapRemove_perm h
  unfold swapRemove
  rw [hz, Option.getD_some]
  exact hp.symm

theorem removeAt_perm {l : List Row} {i : Nat} {r : Row} (keep : Bool) (h : l[i]? = some r) :
    l.Perm (r :: removeAt l i keep) := by
  unfold removeAt; cases keep
  · simpa using swapRemove_perm h
  · simpa using (ListFacts.perm_cons_eraseIdx h).symm

/-- the step function as a relation with its enabling conditions spelled out (sequencing conditions of the
owner thread that no invariant needs are dropped, so the relation is a superset of `step`) -/
inductive Step : St → Act → St → Prop where
  | newBegin (s : St) (hm : s.mpc = .idle) :
      Step s .newBegin { s with mpc := if s.head = none then .needAlloc else .needTake true }
  | takeBegin (s : St) (hm : s.mpc = .idle) : Step s .takeBegin { s with mpc := .needTake false }
  | exchange (s : St) (b : Bool) (hm : s.mpc = .needTake b) :
      Step s .exchange { s with mpc := .walking b, cur := s.head, head := none, W := s.L, L := [],
                                log := s.L.map Ev.taken ++ s.log }
  | walk (s : St) (b : Bool) (c : Row) (g : Option Row) (hm : s.mpc = .walking b) (hc : s.cur = some c) :
      Step s (.walk g) { s with cur := s.next c, next := setNext s.next c g, pool := c :: s.pool, W := s.W.tail,
                                log := Ev.reclaimed c :: s.log }
  | walkEnd (s : St) (b : Bool) (hm : s.mpc = .walking b) (hc : s.cur = none) :
      Step s .walkEnd { s with mpc := if b then .needAlloc else .idle }
  | grow (s : St) (r : Row) (g : Option Row) (hm : s.mpc = .needAlloc) (hr : r ∉ places s) :
      Step s (.grow r g) { s with pool := r :: s.pool, next := setNext s.next r g }
  | alloc (s : St) (r : Row) (g : Option Row) (hm : s.mpc = .needAlloc) (hr : r ∈ s.pool) :
      Step s (.alloc r g) { s with mpc := .idle, pool := s.pool.erase r, det := (r, 0) :: s.det,
                                   next := setNext s.next r g, log := Ev.created r :: s.log }
  | add (s : St) (r : Row) (hm : s.mpc = .idle) (hd : (r, 0) ∈ s.det) :
      Step s (.add r) { s with det := s.det.erase (r, 0), table := s.table ++ [r] }
  | extract (s : St) (i : Nat) (keep : Bool) (r : Row) (hm : s.mpc = .idle) (hi : s.table[i]? = some r) :
      Step s (.extract i keep) { s with table := removeAt s.table i keep, det := (r, 0) :: s.det }
  | remove (s : St) (i : Nat) (keep : Bool) (g : Option Row) (r : Row) (hm : s.mpc = .idle)
      (hi : s.table[i]? = some r) :
      Step s (.remove i keep g) { s with table := removeAt s.table i keep, pool := r :: s.pool,
                                         next := setNext s.next r g, log := Ev.reclaimed r :: s.log }
  | handoff (s : St) (r : Row) (t u : Tid) (hd : (r, t) ∈ s.det) (hu : u < s.thr.length) :
      Step s (.handoff r t u) { s with det := (r, u) :: s.det.erase (r, t) }
  | dBegin (s : St) (t : Tid) (r : Row) (hpc : s.thr[t]? = some .idle) (hd : (r, t) ∈ s.det) :
      Step s (.dBegin t r) { s with thr := setPC s t (.start r), det := s.det.erase (r, t) }
  | dLoad (s : St) (t : Tid) (r : Row) (hpc : s.thr[t]? = some (.start r)) :
      Step s (.dLoad t) { s with thr := setPC s t (.loaded r s.head) }
  | dWrite (s : St) (t : Tid) (r : Row) (h : Option Row) (hpc : s.thr[t]? = some (.loaded r h)) :
      Step s (.dWrite t) { s with thr := setPC s t (.wrote r h), next := setNext s.next r h }
  | dCasOk (s : St) (t : Tid) (r : Row) (h : Option Row) (hpc : s.thr[t]? = some (.wrote r h)) (hh : s.head = h) :
      Step s (.dCas t false) { s with thr := setPC s t .idle, head := some r, L := r :: s.L,
                                      log := Ev.pushed r :: s.log }
  | dCasFail (s : St) (t : Tid) (r : Row) (h : Option Row) (sp : Bool) (hpc : s.thr[t]? = some (.wrote r h)) :
      Step s (.dCas t sp) { s with thr := setPC s t (.start r) }

theorem step_sound {s s' : St} {a : Act} (h : step s a = some s') : Step s a s' := by
  revert h
  -- one goal per branch of `step`; `cases h` closes the branches that answer `none`
  fun_cases step s a <;> intro h <;> cases h
  next hc => exact .newBegin s hc.1
  next hc => exact .takeBegin s hc.1
  next b hb => exact .exchange s b hb
  next hc hb => exact .walk s _ _ _ hb hc
  next hc hb => exact .walkEnd s _ hb hc
  next hc => exact .grow s _ _ hc.1 hc.2
  next hc => exact .alloc s _ _ hc.1 hc.2
  next hc => exact .add s _ hc.1 hc.2.2
  next hc r hr => exact .extract s _ _ r hc.1 hr
  next hc r hr => exact .remove s _ _ _ r hc.1 hr
  next hc => exact .handoff s _ _ _ hc.1 hc.2
  next hc => exact .dBegin s _ _ hc.1 hc.2.2
  next hr => exact .dLoad s _ _ hr
  next hr => exact .dWrite s _ _ _ hr
  next hr hc => cases hc.2; exact .dCasOk s _ _ _ hr hc.1
  next hr _ => exact .dCasFail s _ _ _ _ hr

theorem run_cons (s : St) (a : Act) (as : List Act) : run s (a :: as) = (step s a).bind fun s' => run s' as := by
  simp only [run]; cases step s a <;> rfl

theorem run_ind {P : St → Prop} (hstep : ∀ s a s', P s → step s a = some s' → P s') :
    ∀ (acts : List Act) (s s' : St), P s → run s acts = some s' → P s'
  | [], s, s', hP, h => by cases h; exact hP
  | a :: as, s, s', hP, h => by
    rw [run_cons] at h
    obtain ⟨s1, hs, h⟩ := Option.bind_eq_some_iff.mp h
    exact run_ind hstep as s1 s' (hstep s a s1 hP hs) h

end Momo.Rows
