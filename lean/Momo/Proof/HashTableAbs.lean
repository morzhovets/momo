import Momo.Proof.HashTableMerge
/-!
  C01/C11: the abstract side — association lists without duplicate keys (`akeys`, `lookup`) — and the glue
  between "the traversal is a rearrangement of the abstract contents" and lookups: `findVal_eq` (every lookup returns what the
  abstract map holds) and `find_cases` (`pvFind` against the abstract contents, with the removal at the found position), through
  which the simulation in `HashTableRefine` reads every lookup.
-/
namespace Momo.HT
open Momo Momo.Probe

/-- keys of an association list (the spelling of the abstract side; the invariants write `l.map (·.key)`, which is the same term) -/
def akeys (l : List Item) : List Nat := l.map (·.key)

/-- the abstract map's `Find`: the value of the first item with key `k` (the only one when keys are distinct) -/
def lookup (l : List Item) (k : Nat) : Option Nat := (l.find? (fun it => it.key == k)).map (·.val)

/-- what `Find` reports: the value stored at the position `pvFind` returns (as the harness reads it) -/
def findVal (sp : Spec) (hf : Nat → Nat) (t : Table) (k : Nat) : Option Nat :=
  match findTable sp hf t k with
  | some (gi, b, j) => some ((bkt sp (t.gens.getD gi default).bs b).items.getD j default).val
  | none => none

theorem find?_of_mem_nodup (l : List Item) (it : Item) (hn : (akeys l).Nodup) (h : it ∈ l) :
    l.find? (fun x => x.key == it.key) = some it := by
  induction l with
  | nil => simp at h
  | cons a as ih =>
    simp only [akeys, List.map_cons, List.nodup_cons] at hn
    rcases List.mem_cons.mp h with rfl | h'
    · simp
    · have hne : a.key ≠ it.key := by
        intro e; exact hn.1 (e ▸ List.mem_map.mpr ⟨it, h', rfl⟩)
      have : (a.key == it.key) = false := by simpa using hne
      rw [List.find?_cons, this]
      exact ih hn.2 h'

theorem lookup_of_mem (l : List Item) (it : Item) (hn : (akeys l).Nodup) (h : it ∈ l) :
    lookup l it.key = some it.val := by
  unfold lookup; rw [find?_of_mem_nodup l it hn h]; rfl

theorem lookup_none (l : List Item) (k : Nat) (h : ∀ x ∈ l, x.key ≠ k) : lookup l k = none := by
  unfold lookup
  have : l.find? (fun it => it.key == k) = none := by
    rw [List.find?_eq_none]; intro x hx; simpa using h x hx
  rw [this]; rfl

theorem lookup_perm (l l' : List Item) (k : Nat) (hn : (akeys l').Nodup) (hp : l.Perm l') :
    lookup l k = lookup l' k := by
  have hn' : (akeys l).Nodup := nodup_keys_perm hp hn
  by_cases h : ∃ x ∈ l, x.key = k
  · obtain ⟨x, hx, rfl⟩ := h
    rw [lookup_of_mem l x hn' hx, lookup_of_mem l' x hn ((hp.mem_iff).mp hx)]
  · have h1 : ∀ x ∈ l, x.key ≠ k := fun x hx e => h ⟨x, hx, e⟩
    have h2 : ∀ x ∈ l', x.key ≠ k := fun x hx e => h ⟨x, (hp.mem_iff).mpr hx, e⟩
    rw [lookup_none l k h1, lookup_none l' k h2]

/-- the item `pvFind` points at, as the harness reads it -/
theorem found_item (sp : Spec) (hf : Nat → Nat) (t : Table) (k gi b j : Nat)
    (h : findTable sp hf t k = some (gi, b, j)) :
    ∃ g, t.gens[gi]? = some g ∧
      (bkt sp g.bs b).items[j]? = some ((bkt sp (t.gens.getD gi default).bs b).items.getD j default) ∧
      ((bkt sp (t.gens.getD gi default).bs b).items.getD j default).key = k ∧
      ((bkt sp (t.gens.getD gi default).bs b).items.getD j default) ∈ traverse t := by
  obtain ⟨g, it, hg, hj, hk⟩ := findTable_some sp hf t k gi b j h
  have e1 : t.gens.getD gi default = g := by simp [List.getD_eq_getElem?_getD, hg]
  have e2 : (bkt sp g.bs b).items.getD j default = it := by simp [List.getD_eq_getElem?_getD, hj]
  rw [e1, e2]
  refine ⟨g, hg, hj, hk, (mem_traverse t it).mpr ⟨g, List.mem_of_getElem? hg, ?_⟩⟩
  exact (mem_genItems sp g it).mpr ⟨b, List.mem_of_getElem? hj⟩

theorem findVal_eq (sp : Spec) (hf : Nat → Nat) (t : Table) (hI : TableInv sp hf t) (k : Nat) :
    findVal sp hf t k = lookup (traverse t) k := by
  unfold findVal
  cases h : findTable sp hf t k with
  | none =>
    simp only
    rw [lookup_none _ _ (findTable_none sp hf t hI k h)]
  | some pos =>
    obtain ⟨gi, b, j⟩ := pos
    simp only
    obtain ⟨g, _, _, hk, hmem⟩ := found_item sp hf t k gi b j h
    rw [← hk, lookup_of_mem _ _ hI.core.nodup hmem]

/-- a table against its abstract contents `M` (one half of the relation `Rel` of the histories): every lookup returns what `M` holds,
    the count is the size of `M`, and `M` has no duplicate key -/
theorem TableInv.agrees {sp : Spec} {hf : Nat → Nat} {t : Table} {M : List Item} (hI : TableInv sp hf t)
    (hp : (traverse t).Perm M) :
    (∀ k, findVal sp hf t k = lookup M k) ∧ t.count = M.length ∧ (akeys M).Nodup :=
  have nM := nodup_keys_perm hp.symm hI.core.nodup
  ⟨fun k => (findVal_eq sp hf t hI k).trans (lookup_perm _ _ k nM hp), hI.core.count.trans hp.length_eq, nM⟩

theorem mem_akeys_perm {l l' : List Item} (hp : l.Perm l') (k : Nat) : k ∈ akeys l ↔ k ∈ akeys l' :=
  (hp.map (·.key)).mem_iff

theorem perm_filter_of_cons (A l' : List Item) (it : Item) (hn : (akeys A).Nodup)
    (hp : (it :: l').Perm A) : l'.Perm (A.filter (fun x => x.key != it.key)) := by
  have hn' : (akeys (it :: l')).Nodup := nodup_keys_perm hp hn
  simp only [akeys, List.map_cons, List.nodup_cons] at hn'
  have h1 : ((it :: l').filter (fun x => x.key != it.key)).Perm (A.filter (fun x => x.key != it.key)) :=
    hp.filter _
  have h2 : (it :: l').filter (fun x => x.key != it.key) = l' := by
    simp only [List.filter_cons, bne_self_eq_false, Bool.false_eq_true, if_false]
    rw [List.filter_eq_self]
    intro x hx
    have : x.key ≠ it.key := fun e => hn'.1 (e ▸ List.mem_map.mpr ⟨x, hx, rfl⟩)
    simpa using this
  rw [h2] at h1; exact h1

theorem find_cases (sp : Spec) (hf : Nat → Nat) (t : Table) (M : List Item) (hI : TableInv sp hf t)
    (hp : (traverse t).Perm M) (k : Nat) :
    (findTable sp hf t k = none ∧ k ∉ akeys M ∧ M.find? (fun x => x.key == k) = none) ∨
    (∃ gi b j, findTable sp hf t k = some (gi, b, j) ∧ k ∈ akeys M ∧
      M.find? (fun x => x.key == k) = some ((bkt sp (t.gens.getD gi default).bs b).items.getD j default) ∧
      TableInv sp hf (removePos sp t gi b j) ∧
      (traverse (removePos sp t gi b j)).Perm (M.filter (fun x => x.key != k))) := by
  have nM : (akeys M).Nodup := nodup_keys_perm hp.symm hI.core.nodup
  cases hfnd : findTable sp hf t k with
  | none =>
    have hno : ∀ x ∈ M, x.key ≠ k := fun x hx => findTable_none sp hf t hI k hfnd x (hp.mem_iff.mpr hx)
    exact Or.inl ⟨rfl, fun hin => (List.mem_map.mp hin).elim fun x hx => hno x hx.1 hx.2,
      List.find?_eq_none.mpr fun x hx => by simpa using hno x hx⟩
  | some pos =>
    obtain ⟨gi, b, j⟩ := pos
    obtain ⟨g, hg, hj, hkey, hmem⟩ := found_item sp hf t k gi b j hfnd
    obtain ⟨i1, i2⟩ := removePos_spec sp hf t hI gi b j g _ hg hj
    have hM := hp.mem_iff.mp hmem
    refine Or.inr ⟨gi, b, j, rfl, hkey ▸ List.mem_map.mpr ⟨_, hM, rfl⟩, hkey ▸ find?_of_mem_nodup M _ nM hM, i1, ?_⟩
    exact hkey ▸ perm_filter_of_cons M _ _ nM (i2.trans hp)

/-- `mergeTo_spec` filters by `decide (x.key ∈ (traverse dst).map (·.key))`, the abstract step by `decide (x.key ∈ akeys B)`:
    the two filters agree when `traverse dst` rearranges `B` -/
theorem filter_congr_keys (l B B' : List Item) (hp : B.Perm B') :
    l.filter (fun x => decide (x.key ∈ B.map (·.key))) = l.filter (fun x => decide (x.key ∈ akeys B')) ∧
    l.filter (fun x => !decide (x.key ∈ B.map (·.key))) = l.filter (fun x => !decide (x.key ∈ akeys B')) := by
  have : ∀ x : Item, decide (x.key ∈ B.map (·.key)) = decide (x.key ∈ akeys B') := by
    intro x
    have := mem_akeys_perm hp x.key
    unfold akeys at this
    simp only [akeys]; exact decide_eq_decide.mpr this
  constructor
  · apply List.filter_congr; intro x _; exact this x
  · apply List.filter_congr; intro x _; rw [this x]

end Momo.HT
