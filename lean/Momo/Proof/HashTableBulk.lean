import Momo.Proof.HashTableOps
import Momo.Proof.ListFacts
/-!
  C01/C11: whole-table operations that rebuild or filter. `Remove(pred)` (here) and `MergeTo` (`HashTableMerge`) both run ONE in-place
  filter walk over a table, with an abstract decision and a threaded state (`filterTbl`; `DecOK` is what the walk needs of a decision,
  `filterTbl_spec` what it yields); the walk over buckets and generations is `mapState`, with `mapState_thread` as its induction.
  `TableInv.of_kept`: a table whose buckets kept exactly the items satisfying a predicate. Also the copy constructor.
-/
namespace Momo.HT
open Momo Momo.Probe

theorem forall2_bkt (sp : Spec) (R : Bucket → Bucket → Prop) (hR : R (emptyBucket sp) (emptyBucket sp))
    {bs' bs : List Bucket} (h : List.Forall₂ R bs' bs) : ∀ i, R (bkt sp bs' i) (bkt sp bs i) := by
  induction h with
  | nil => exact fun _ => hR
  | cons hab _ ih =>
    intro i
    cases i with
    | zero => exact hab
    | succ n => exact ih n

theorem genInv_shrink (sp : Spec) (hf : Nat → Nat) (g : Gen) (bs' : List Bucket) (hI : GenInv sp hf g)
    (h : List.Forall₂ (Shr sp g.L) bs' g.bs) : GenInv sp hf { g with bs := bs' } :=
  hI.of_shrunk bs' h.length_eq (forall2_bkt sp _ (Shr.refl ..) h)

/-- iterator order of a bucket list -/
def bsItems (bs : List Bucket) : List Item := (bs.map (fun b => b.items.reverse)).flatten

theorem genItems_eq_bsItems (g : Gen) : genItems g = bsItems g.bs := rfl
@[simp] theorem bsItems_nil : bsItems [] = [] := rfl
@[simp] theorem bsItems_cons (b : Bucket) (bs : List Bucket) :
    bsItems (b :: bs) = b.items.reverse ++ bsItems bs := rfl

theorem bsItems_forall2_filter (P : Item → Bool) {bs' bs : List Bucket}
    (h : List.Forall₂ (fun b' b => b'.items.Perm (b.items.filter P)) bs' bs) :
    (bsItems bs').Perm ((bsItems bs).filter P) := by
  induction h with
  | nil => simp
  | cons hab _ ih =>
    simp only [bsItems_cons, List.filter_append]
    refine List.Perm.append ?_ ih
    exact (List.reverse_perm _).trans (hab.trans ((List.reverse_perm _).filter P).symm)

theorem forall2_imp {α β : Type} {R S : β → α → Prop} (hRS : ∀ b a, R b a → S b a) {l' : List β}
    {l : List α} (h : List.Forall₂ R l' l) : List.Forall₂ S l' l := h.imp hRS

/-! ### tables whose buckets kept exactly the items satisfying a predicate (`Remove(pred)`, source of `MergeTo`) -/

def KeptB (P : Item → Bool) (b' b : Bucket) : Prop :=
  b'.items.Perm (b.items.filter P) ∧ b'.wasFull = b.wasFull ∧ b'.bst = b.bst

def KeptG (P : Item → Bool) (g' g : Gen) : Prop := g'.L = g.L ∧ List.Forall₂ (KeptB P) g'.bs g.bs

theorem KeptB.shr {sp : Spec} {L : Nat} {P : Item → Bool} {b' b : Bucket} (h : KeptB P b' b) : Shr sp L b' b :=
  .of_subset (fun _ hx => (List.mem_filter.mp (h.1.mem_iff.mp hx)).1) (h.1.length_eq ▸ List.length_filter_le _ _)
    h.2.1 h.2.2

theorem KeptG.spec {sp : Spec} {hf : Nat → Nat} {P : Item → Bool} {g' g : Gen} (h : KeptG P g' g)
    (hI : GenInv sp hf g) : GenInv sp hf g' ∧ (genItems g').Perm ((genItems g).filter P) := by
  have := genInv_shrink sp hf g g'.bs hI (h.2.imp fun _ _ h => h.shr)
  rw [← h.1] at this
  exact ⟨this, by rw [genItems_eq_bsItems, genItems_eq_bsItems]; exact bsItems_forall2_filter P (h.2.imp fun _ _ h => h.1)⟩

theorem TableInv.of_kept {sp : Spec} {hf : Nat → Nat} {t : Table} (hI : TableInv sp hf t) (P : Item → Bool)
    (gens' : List Gen) (hF : List.Forall₂ (KeptG P) gens' t.gens) (count' : Nat)
    (hc : count' = (gensItems gens').length) :
    TableInv sp hf ⟨gens', count', t.cap⟩ ∧ (traverse ⟨gens', count', t.cap⟩).Perm ((traverse t).filter P) := by
  have hgens : ∀ {gs' gs : List Gen}, List.Forall₂ (KeptG P) gs' gs → (∀ g ∈ gs, GenInv sp hf g) →
      (∀ g ∈ gs', GenInv sp hf g) ∧ (gensItems gs').Perm ((gensItems gs).filter P) := by
    intro gs' gs hF
    induction hF with
    | nil => exact fun _ => ⟨nofun, List.Perm.refl _⟩
    | cons hab _ ih =>
      intro hI
      obtain ⟨c1, c2⟩ := hab.spec (hI _ (List.mem_cons_self ..))
      obtain ⟨d1, d2⟩ := ih fun g hg => hI g (List.mem_cons_of_mem _ hg)
      refine ⟨List.forall_mem_cons.mpr ⟨c1, d1⟩, ?_⟩
      rw [gensItems_cons, gensItems_cons, List.filter_append]
      exact c2.append d2
  obtain ⟨s1, hp⟩ := hgens hF hI.core.gens
  refine ⟨⟨⟨s1, nodup_keys_perm hp (hI.core.nodup.sublist (List.Sublist.map _ List.filter_sublist)), hc,
    fun hu g' rest' hgr => ?_, fun h => ?_⟩, fun hnr => hF.length_eq ▸ hI.single hnr⟩, hp⟩
  · change gens' = g' :: rest' at hgr
    subst hgr
    generalize hsg : t.gens = sg at hF
    cases hF with
    | cons hab _ => rw [hab.1]; exact hI.core.capLe hu _ _ hsg
  · change gens' = [] at h
    subst h
    generalize hsg : t.gens = sg at hF
    cases hF
    exact hI.core.capNil hsg

/-- map `F` over a list while threading a state: the mapped list, the final state, and the SUM of the `Nat` components. The
    model's `Remove(pred)` and `MergeTo` are `foldl`s with append-accumulators; `foldl_acc3` / `foldl_acc2` turn them into this. -/
def mapState {α β σ : Type} (F : α → σ → β × σ × Nat) : List α → σ → List β × σ × Nat
  | [], s => ([], s, 0)
  | x :: xs, s =>
    ((F x s).1 :: (mapState F xs (F x s).2.1).1, (mapState F xs (F x s).2.1).2.1,
      (F x s).2.2 + (mapState F xs (F x s).2.1).2.2)

theorem foldl_acc3 {α β σ : Type} (F : α → σ → β × σ × Nat) (l : List α) (acc : List β) (s : σ) (n : Nat) :
    l.foldl (fun (a : List β × σ × Nat) x =>
        (a.1 ++ [(F x a.2.1).1], (F x a.2.1).2.1, a.2.2 + (F x a.2.1).2.2)) (acc, s, n)
      = (acc ++ (mapState F l s).1, (mapState F l s).2.1, n + (mapState F l s).2.2) := by
  induction l generalizing acc s n with
  | nil => simp [mapState]
  | cons x xs ih =>
    simp only [List.foldl_cons, ih, mapState, List.append_assoc, List.singleton_append, Nat.add_assoc]

/-- the fold without a state of its own (`Remove(pred)`) -/
theorem foldl_acc2 {α β : Type} (F : α → Unit → β × Unit × Nat) (l : List α) (acc : List β) (n : Nat) (s : Unit) :
    l.foldl (fun (a : List β × Nat) x => (a.1 ++ [(F x ()).1], a.2 + (F x ()).2.2)) (acc, n)
      = (acc ++ (mapState F l s).1, n + (mapState F l s).2.2) := by
  induction l generalizing acc n s with
  | nil => simp [mapState]
  | cons x xs ih =>
    cases s
    simp only [List.foldl_cons, ih _ _ (F x ()).2.1, mapState, List.append_assoc, List.singleton_append, Nat.add_assoc]

/-- `Pre s l`: a precondition on the state and on the items still to come. A step that hands it on, relates its output to its
    input and accounts for the items it took away does so over the whole list. -/
theorem mapState_thread {α β σ : Type} (F : α → σ → β × σ × Nat) (itemsA : α → List Item)
    (itemsB : β → List Item) (Rel : β → α → Prop) (Pre : σ → List Item → Prop)
    (hstep : ∀ x s R, Pre s (itemsA x ++ R) →
      Pre (F x s).2.1 R ∧ Rel (F x s).1 x ∧ (F x s).2.2 + (itemsB (F x s).1).length = (itemsA x).length) :
    ∀ (l : List α) (s : σ) (R : List Item), Pre s ((l.map itemsA).flatten ++ R) →
      Pre (mapState F l s).2.1 R ∧ List.Forall₂ Rel (mapState F l s).1 l ∧
      (mapState F l s).2.2 + (((mapState F l s).1.map itemsB).flatten).length = ((l.map itemsA).flatten).length := by
  intro l
  induction l with
  | nil => intro s R h; exact ⟨by simpa [mapState] using h, List.Forall₂.nil, by simp [mapState]⟩
  | cons x xs ih =>
    intro s R h
    simp only [List.map_cons, List.flatten_cons, List.append_assoc] at h
    obtain ⟨a1, a2, a3⟩ := hstep x s _ h
    obtain ⟨b1, b2, b3⟩ := ih (F x s).2.1 R a1
    simp only [mapState, List.map_cons, List.flatten_cons, List.length_append]
    exact ⟨b1, List.Forall₂.cons a2 b2, by omega⟩

/-- items of a generation in storage order (the order the walk below threads its precondition in) -/
def rawItems (g : Gen) : List Item := (g.bs.map (·.items)).flatten

theorem rawItems_perm (g : Gen) : (rawItems g).Perm (genItems g) := by
  unfold rawItems genItems
  generalize g.bs = bs
  induction bs with
  | nil => simp
  | cons b rest ih =>
    simp only [List.map_cons, List.flatten_cons]
    exact List.Perm.append (List.reverse_perm _).symm ih

theorem rawItems_flatten_perm (gs : List Gen) : ((gs.map rawItems).flatten).Perm (gensItems gs) := by
  induction gs with
  | nil => exact List.Perm.refl _
  | cons g rest ih => exact (rawItems_perm g).append ih

/-- The loop `Remove(pred)` and `MergeTo` run over one bucket: positions `i-1 … 0`, i.e. iterator order. `dec it s = some s'`:
    the item leaves by `Bucket::Remove` (the hole is refilled by the last item, which has been examined already) and the
    threaded state becomes `s'`; `none`: it stays. The third component counts the items that left. -/
def filterGo {σ : Type} (dec : Item → σ → Option σ) : Nat → Bucket → σ → Nat → Bucket × σ × Nat
  | 0, b, s, m => (b, s, m)
  | i+1, b, s, m =>
    match b.items[i]? with
    | none => filterGo dec i b s m
    | some it =>
      match dec it s with
      | some s' => filterGo dec i (removeAt i b) s' (m + 1)
      | none => filterGo dec i b s m

def filterBkt {σ : Type} (dec : Item → σ → Option σ) (b : Bucket) (s : σ) : Bucket × σ × Nat :=
  filterGo dec b.items.length b s 0

def filterGen {σ : Type} (dec : Item → σ → Option σ) (g : Gen) (s : σ) : Gen × σ × Nat :=
  ({ g with bs := (mapState (filterBkt dec) g.bs s).1 }, (mapState (filterBkt dec) g.bs s).2.1,
    (mapState (filterBkt dec) g.bs s).2.2)

def filterTbl {σ : Type} (dec : Item → σ → Option σ) (t : Table) (s : σ) : Table × σ × Nat :=
  ({ t with gens := (mapState (filterGen dec) t.gens s).1, count := t.count - (mapState (filterGen dec) t.gens s).2.2 },
    (mapState (filterGen dec) t.gens s).2.1, (mapState (filterGen dec) t.gens s).2.2)

/-- What the walk needs of a decision: under the precondition `Pre s l` (`l` = the items still to be examined, the one at
    hand among them) it agrees with a fixed predicate `Q` ("stays") and hands the precondition on, without the item. -/
def DecOK {σ : Type} (dec : Item → σ → Option σ) (Q : Item → Bool) (Pre : σ → List Item → Prop) : Prop :=
  ∀ it s A R, Pre s (A ++ it :: R) →
    (dec it s = none ∧ Q it = true ∧ Pre s (A ++ R)) ∨ (∃ s', dec it s = some s' ∧ Q it = false ∧ Pre s' (A ++ R))

section
variable {σ : Type} {dec : Item → σ → Option σ} {Q : Item → Bool} {Pre : σ → List Item → Prop}

/-- the loop in the `take i / drop i` form: positions `< i` are still to be examined, the rest is settled -/
theorem filterGo_spec (hdec : DecOK dec Q Pre) :
    ∀ (i : Nat) (b : Bucket) (s : σ) (m : Nat) (R : List Item), Pre s (b.items.take i ++ R) →
      Pre (filterGo dec i b s m).2.1 R ∧
      (filterGo dec i b s m).1.items.Perm ((b.items.take i).filter Q ++ b.items.drop i) ∧
      (filterGo dec i b s m).1.wasFull = b.wasFull ∧ (filterGo dec i b s m).1.bst = b.bst ∧
      (filterGo dec i b s m).2.2 + (filterGo dec i b s m).1.items.length = m + b.items.length := by
  intro i
  induction i with
  | zero =>
    intro b s m R h
    simp only [filterGo, List.take_zero, List.nil_append, List.filter_nil, List.drop_zero] at h ⊢
    exact ⟨h, List.Perm.refl _, trivial, trivial, trivial⟩
  | succ i ih =>
    intro b s m R h
    rw [filterGo]
    cases hi : b.items[i]? with
    | none =>
      have hle : b.items.length ≤ i := by simpa using hi
      rw [List.take_of_length_le (Nat.le_succ_of_le hle)] at h ⊢
      rw [List.drop_of_length_le (Nat.le_succ_of_le hle)]
      have := ih b s m R (by rw [List.take_of_length_le hle]; exact h)
      rwa [List.take_of_length_le hle, List.drop_of_length_le hle] at this
    | some it =>
      have hilt := (List.getElem?_eq_some_iff.mp hi).1
      have htake := ListFacts.take_succ_of_getElem? hi
      have hdrop := ListFacts.drop_of_getElem? hi
      rw [htake, List.append_assoc] at h
      rw [htake, List.filter_append]
      rcases hdec it s _ R h with ⟨e, hQ, hp⟩ | ⟨s', e, hQ, hp⟩ <;> simp only [e]
      · obtain ⟨a1, a2, a3⟩ := ih b s m R hp
        refine ⟨a1, ?_, a3⟩
        rw [hdrop] at a2
        simpa [List.filter_cons, hQ] using a2
      · obtain ⟨hT, hD⟩ := removeAt_take_drop i b hilt
        obtain ⟨a1, a2, a3, a4, a5⟩ := ih (removeAt i b) s' (m + 1) R (by rw [hT]; exact hp)
        rw [hT] at a2
        refine ⟨a1, ?_, a3, a4, by rw [length_removeAt] at a5; omega⟩
        simpa [List.filter_cons, hQ] using a2.trans (List.Perm.append_left _ hD)

theorem filterGen_step (hdec : DecOK dec Q Pre) (g : Gen) (s : σ) (R : List Item) (h : Pre s (rawItems g ++ R)) :
    Pre (filterGen dec g s).2.1 R ∧ KeptG Q (filterGen dec g s).1 g ∧
    (filterGen dec g s).2.2 + (rawItems (filterGen dec g s).1).length = (rawItems g).length := by
  obtain ⟨a1, a2, a3⟩ := mapState_thread (filterBkt dec) (·.items) (·.items) (KeptB Q) Pre
    (fun b s R hp => by
      unfold filterBkt
      obtain ⟨c1, c2, c3, c4, c5⟩ := filterGo_spec hdec b.items.length b s 0 R (by simpa using hp)
      exact ⟨c1, ⟨by simpa using c2, c3, c4⟩, by omega⟩) g.bs s R h
  exact ⟨a1, ⟨rfl, a2⟩, a3⟩

theorem filterTbl_spec (sp : Spec) (hf : Nat → Nat) (hdec : DecOK dec Q Pre) (t : Table) (hI : TableInv sp hf t) (s : σ)
    (hpre : Pre s (t.gens.map rawItems).flatten) :
    TableInv sp hf (filterTbl dec t s).1 ∧ (traverse (filterTbl dec t s).1).Perm ((traverse t).filter Q) ∧
    Pre (filterTbl dec t s).2.1 [] ∧
    (filterTbl dec t s).2.2 + (traverse (filterTbl dec t s).1).length = (traverse t).length := by
  obtain ⟨a1, a2, a3⟩ := mapState_thread (filterGen dec) rawItems rawItems (KeptG Q) Pre
    (fun g s R hp => filterGen_step hdec g s R hp) t.gens s [] (by rw [List.append_nil]; exact hpre)
  unfold filterTbl
  generalize mapState (filterGen dec) t.gens s = r at *
  obtain ⟨gens', s', moved⟩ := r
  simp only at a1 a2 a3 ⊢
  have h1 : _ = (traverse t).length := (rawItems_flatten_perm t.gens).length_eq
  have h2 := (rawItems_flatten_perm gens').length_eq
  obtain ⟨hinv, hps⟩ := hI.of_kept Q gens' a2 (t.count - moved) (by rw [hI.core.count]; omega)
  exact ⟨hinv, hps, a1, by rw [traverse_eq_gensItems]; dsimp only; omega⟩
end

def decPred (pred : Item → Bool) (it : Item) (_ : Unit) : Option Unit := if pred it then some () else none

theorem decPred_ok (pred : Item → Bool) : DecOK (decPred pred) (fun x => !pred x) (fun _ _ => True) := by
  intro it s A R _
  unfold decPred
  cases hp : pred it
  · exact Or.inl ⟨rfl, by simp [hp], trivial⟩
  · exact Or.inr ⟨(), rfl, by simp [hp], trivial⟩

theorem removePredBucket_go_eq (pred : Item → Bool) : ∀ (i : Nat) (b : Bucket) (r : Nat),
    removePredBucket.go pred i b r = ((filterGo (decPred pred) i b () r).1, (filterGo (decPred pred) i b () r).2.2) := by
  intro i
  induction i with
  | zero => intro b r; rfl
  | succ i ih =>
    intro b r
    rw [removePredBucket.go, filterGo]
    cases b.items[i]? with
    | none => exact ih b r
    | some it =>
      simp only [decPred]
      cases pred it
      · exact ih b r
      · exact ih (removeAt i b) (r + 1)

theorem removePredBucket_spec (pred : Item → Bool) (b : Bucket) :
    ((removePredBucket pred b).1.items).Perm (b.items.filter (fun x => !pred x)) ∧
    (removePredBucket pred b).2 + (removePredBucket pred b).1.items.length = b.items.length ∧
    (removePredBucket pred b).1.wasFull = b.wasFull ∧ (removePredBucket pred b).1.bst = b.bst := by
  unfold removePredBucket
  rw [removePredBucket_go_eq]
  obtain ⟨_, a2, a3, a4, a5⟩ := filterGo_spec (decPred_ok pred) b.items.length b () 0 [] trivial
  exact ⟨by simpa using a2, by dsimp only; omega, a3, a4⟩

theorem removePred_eq (t : Table) (pred : Item → Bool) :
    removePred t pred = ((filterTbl (decPred pred) t ()).1, (filterTbl (decPred pred) t ()).2.2) := by
  have hb : ∀ b, removePredBucket pred b
      = ((filterBkt (decPred pred) b ()).1, (filterBkt (decPred pred) b ()).2.2) :=
    fun b => removePredBucket_go_eq pred b.items.length b 0
  have hin : ∀ g : Gen, g.bs.foldl (fun (a : List Bucket × Nat) b =>
        match removePredBucket pred b with
        | (b', r) => (a.1 ++ [b'], a.2 + r)) ([], 0)
      = ((mapState (filterBkt (decPred pred)) g.bs ()).1, (mapState (filterBkt (decPred pred)) g.bs ()).2.2) := by
    intro g
    simp only [hb]
    have := foldl_acc2 (filterBkt (decPred pred)) g.bs [] 0 ()
    simp only [List.nil_append, Nat.zero_add] at this
    exact this
  unfold removePred
  simp only [hin]
  have hout := foldl_acc2 (filterGen (decPred pred)) t.gens [] 0 ()
  simp only [List.nil_append, Nat.zero_add] at hout
  unfold filterTbl
  unfold filterGen at hout ⊢
  simp only at hout ⊢
  rw [hout]

/-- **`Remove(pred)`**: the invariant is kept, exactly the items satisfying the predicate leave the
    traversal, and the returned number is their count -/
theorem removePred_spec (sp : Spec) (hf : Nat → Nat) (t : Table) (pred : Item → Bool)
    (hI : TableInv sp hf t) :
    TableInv sp hf (removePred t pred).1 ∧
    (traverse (removePred t pred).1).Perm ((traverse t).filter (fun x => !pred x)) ∧
    (removePred t pred).2 = ((traverse t).filter pred).length := by
  rw [removePred_eq]
  obtain ⟨a1, a2, _, a4⟩ := filterTbl_spec sp hf (decPred_ok pred) t hI () trivial
  have hpart := List.length_eq_length_filter_add (l := traverse t) pred
  have := a2.length_eq
  exact ⟨a1, a2, by dsimp only; omega⟩

theorem foldl_add_spec (sp : Spec) (hf : Nat → Nat) (ok : SpecOK sp) :
    ∀ (l : List Item) (g : Gen), GenInv sp hf g →
      (sp.unlimited = true ∨ (genItems g).length + l.length ≤ 2 ^ g.L * sp.maxCount) →
      GenInv sp hf (l.foldl (fun g it => match addNogrowGen sp g (hf it.key) it with
        | some (g', _) => g' | none => g) g) ∧
      (genItems (l.foldl (fun g it => match addNogrowGen sp g (hf it.key) it with
        | some (g', _) => g' | none => g) g)).Perm (l ++ genItems g) ∧
      (l.foldl (fun g it => match addNogrowGen sp g (hf it.key) it with
        | some (g', _) => g' | none => g) g).L = g.L := by
  intro l
  induction l with
  | nil => intro g hI _; exact ⟨hI, List.Perm.refl _, rfl⟩
  | cons it rest ih =>
    intro g hI hroom
    simp only [List.foldl_cons]
    have hsome := addNogrowGen_isSome sp g (hf it.key) it hI.len (by
      rcases hroom with h | h
      · exact Or.inl h
      · right; rw [genCount_eq]; simp only [List.length_cons] at h; omega)
    cases hadd : addNogrowGen sp g (hf it.key) it with
    | none => rw [hadd] at hsome; cases hsome
    | some r =>
      obtain ⟨g', idx⟩ := r
      simp only
      obtain ⟨hI', hperm, hL⟩ := addNogrowGen_inv sp hf ok g g' it idx hI hadd
      obtain ⟨a1, a2, a3⟩ := ih g' hI' (by
        rcases hroom with h | h
        · exact Or.inl h
        · right
          have := hperm.length_eq
          simp only [List.length_cons] at this h
          rw [hL]; omega)
      refine ⟨a1, ?_, by rw [a3, hL]⟩
      refine a2.trans ?_
      simp only [List.cons_append]
      exact (List.Perm.append_left _ hperm).trans List.perm_middle

/-- the bucket-array size the copy constructor picks -/
def copyLog (sp : Spec) (t : Table) : Nat := copyOf.pick sp t 64 sp.logStart

/-- the copy's single bucket array has a slot for every element. (It does whenever the count does
    not exceed the capacity of `2^(logStart+63)` buckets: `copyFits_of_cap`.) -/
def CopyFits (sp : Spec) (t : Table) : Prop :=
  sp.unlimited = true ∨ t.count ≤ 2 ^ copyLog sp t * sp.maxCount

instance (sp : Spec) (t : Table) : Decidable (CopyFits sp t) :=
  inferInstanceAs (Decidable (sp.unlimited = true ∨ t.count ≤ 2 ^ copyLog sp t * sp.maxCount))

theorem copyOf_pick_spec (sp : Spec) (t : Table) : ∀ fuel L, (∃ j, j < fuel ∧ t.count ≤ capacityOf sp (L + j)) →
    t.count ≤ capacityOf sp (copyOf.pick sp t fuel L) := by
  intro fuel
  induction fuel with
  | zero => intro L ⟨j, hj, _⟩; omega
  | succ f ih =>
    intro L ⟨j, hj, hc⟩
    simp only [copyOf.pick]
    split
    · rename_i h; exact h
    · rename_i h
      apply ih (L + 1)
      cases j with
      | zero => simp at hc; exact absurd hc h
      | succ j' => exact ⟨j', by omega, by rw [show L + 1 + j' = L + (j' + 1) by omega]; exact hc⟩

theorem copyFits_of_cap (sp : Spec) (ok : SpecOK sp) (t : Table)
    (h : ∃ j, j < 64 ∧ t.count ≤ capacityOf sp (sp.logStart + j)) : CopyFits sp t := by
  unfold CopyFits copyLog
  cases hu : sp.unlimited with
  | true => exact Or.inl rfl
  | false => exact Or.inr (Nat.le_trans (copyOf_pick_spec sp t 64 _ h) (ok.capLe hu _))

theorem copyOf_spec (sp : Spec) (hf : Nat → Nat) (ok : SpecOK sp) (t : Table) (hI : TableInv sp hf t)
    (hfit : CopyFits sp t) :
    TableInv sp hf (copyOf sp hf t) ∧ (traverse (copyOf sp hf t)).Perm (traverse t) := by
  unfold copyOf
  split
  · rename_i h0
    rw [hI.core.traverse_nil h0]
    exact ⟨emptyTable_inv sp hf, List.Perm.refl _⟩
  · simp only
    have hroom : sp.unlimited = true ∨
        (genItems (emptyGen sp (copyLog sp t))).length + (traverse t).length
          ≤ 2 ^ (emptyGen sp (copyLog sp t)).L * sp.maxCount := by
      rcases hfit with h | h
      · exact Or.inl h
      · right; rw [← hI.core.count]; simpa using h
    obtain ⟨a1, a2, a3⟩ := foldl_add_spec sp hf ok (traverse t) (emptyGen sp (copyLog sp t))
      (emptyGen_inv sp hf ok _) hroom
    unfold copyLog at a1 a2 a3
    generalize hg : (traverse t).foldl (fun g it => match addNogrowGen sp g (hf it.key) it with
        | some (g', _) => g' | none => g) (emptyGen sp (copyOf.pick sp t 64 sp.logStart)) = g at *
    simp only [genItems_emptyGen, List.append_nil, emptyGen_L] at a2 a3
    have hp : (traverse { gens := [g], count := t.count, cap := capacityOf sp (copyOf.pick sp t 64 sp.logStart) }).Perm (traverse t) := by
      rw [traverse_eq_gensItems]; simpa using a2
    exact ⟨⟨TableCore.of_perm a1 (fun _ h => by cases h) hp hI.core.nodup hI.core.count
      (fun hu => by rw [a3]; exact ok.capLe hu _), fun _ => Nat.le_refl 1⟩, hp⟩

end Momo.HT
