import Momo.Proof.VerTable
/-!
  # C15 — With exception-mode checks, misuse is reported, never corrupts the container

  "When a container is configured to report argument errors by exception and to track versions, using a handle
  that a later modification has invalidated - a set/map/multimap iterator or position after any insertion,
  removal, clear or growth of that container, a table row reference or selection after any removal or replacement
  of rows - to read, advance, or pass to add/remove/reset-key throws std::invalid_argument and leaves the container
  unchanged; so do an out-of-range index, an end/empty iterator where an element is required, and an iterator of
  another container. Iterators obtained after the last modification, and operations that did not modify the
  container, are never rejected."

  The theorems are about the executable model `Momo.Ver` (lean/Momo/Model/Ver.lean), which mirrors the checks and
  version increments of the C++ entry point by entry point and is compared with the real containers on every run
  (harness/c15_checks.cpp).  `none` = `std::invalid_argument` thrown.  Quantifiers: every world (two objects of the
  family with distinct crews, arbitrary contents and arbitrary ghost increment counters), every handle value, every
  entry point with every argument, every history of entry points.  The only numeric hypothesis is the explicit
  exclusion of a version wrap-around: fewer than 2^64 increments between making and using a handle
  (`C15_wrap_is_the_only_gap` shows the exclusion is necessary).
-/
namespace Momo.Ver

/-! ## VersionKeeper (IteratorUtility.h:178-216) -/

/-- "using a handle that a later modification has invalidated … throws": a snapshot whose cell was incremented
    1 … 2^64-1 times fails `Check()` and `Check(version, allowEmpty)` for every container and both `allowEmpty` -/
theorem C15_stale_keeper_fails (k : Keeper) (cs : Cells) (h : Stale k cs) :
    k.check cs = false ∧ ∀ c ae, k.checkAt cs c ae = false :=
  ⟨h.check, fun c ae => h.checkAt c ae⟩

/-- "Iterators obtained after the last modification … are never rejected": a snapshot passes both checks of its own
    container for as long as its cell is not incremented, whatever happens to other cells -/
theorem C15_fresh_keeper_passes (cs cs' : Cells) (c : Nat) (h : cs' c = cs c) :
    (snap cs c).check cs' = true ∧ ∀ ae, (snap cs c).checkAt cs' c ae = true :=
  ⟨check_of_cell_eq h, fun ae => snap_eq_of_cell_eq h ▸ snap_checkAt cs' c ae⟩

/-- "an iterator of another container": a keeper of a different version cell never passes `Check(version, allowEmpty)` -/
theorem C15_foreign_keeper_fails (k : Keeper) (cs : Cells) (c c' : Nat) (hc : k.cell = some c') (hne : c' ≠ c) (ae : Bool) :
    k.checkAt cs c ae = false :=
  foreign_checkAt hc hne ae

/-- "an end/empty iterator": a default-constructed keeper fails `Check()` and passes `Check(version, allowEmpty)` only
    where the caller allows an empty iterator -/
theorem C15_null_keeper (k : Keeper) (cs : Cells) (c : Nat) (ae : Bool) (hc : k.cell = none) :
    k.check cs = false ∧ k.checkAt cs c ae = ae :=
  ⟨null_check cs hc, null_checkAt cs c ae hc⟩

/-- the excluded case is real: after exactly 2^64 increments an old snapshot is accepted again (that nothing else passes is
    `C15_stale_keeper_fails`; the two together are what the name says) -/
theorem C15_wrap_is_the_only_gap (cs0 : Cells) (c : Nat) : (snap cs0 c).check (bumpN cs0 c W) = true := by
  show ((bumpN cs0 c W c) % W == cs0 c % W) = true
  rw [bumpN_same, Nat.add_mod_right]; exact beq_self_eq_true _

/-! ## HashSet / HashMap -/

/-- **bump_on_mutation** "after any insertion, removal, clear or growth of that container": every entry point of
    HashSet/HashMap (complete list `HOp`; ResetKey aside, which replaces a key in place) keeps the two crews distinct,
    never decreases a version counter, and strictly increases the counter of every crew whose keys or capacity it changed -/
theorem C15_hash_bump_on_mutation (w : HWorld) (hw : w.WF) (op : HOp) (hnr : ∀ o h k, op ≠ .resetKey o h k) :
    (w.step op).1.WF ∧ (∀ c, w.cs c ≤ (w.step op).1.cs c) ∧
    (∀ c, (w.step op).1.shape c ≠ w.shape c → w.cs c < (w.step op).1.cs c) :=
  let f := HWorld.step_facts w hw op
  ⟨f.wf, f.mono, (HWorld.step_moved w hw op hnr).bump⟩

/-- **decidable rejection table**: a call is accepted exactly when the version check (`HOp.vcheck`) and the argument
    checks (`HOp.pre`) that the table lists for the entry point pass -/
theorem C15_hash_rejection_table (w : HWorld) (op : HOp) : (w.step op).2.isSome = (op.vcheck w && op.pre w) :=
  HWorld.accepts_iff w op

/-- "throws std::invalid_argument and leaves the container unchanged" -/
theorem C15_hash_rejected_unchanged (w : HWorld) (op : HOp) (h : (w.step op).2 = none) : (w.step op).1 = w :=
  HWorld.step_reject_unchanged w op h

/-- **stale_rejected**: every entry point that takes a position/iterator (read `deref`, advance `inc`, CheckIterator, Add,
    Add(extracted), Remove, Remove(extracting), ResetKey - on either object) rejects a stale one and changes nothing -/
theorem C15_hash_stale_rejected (w : HWorld) (op : HOp) (h : HPos) (hh : op.handle = some h) (hs : Stale h.kp w.cs) :
    w.step op = (w, none) :=
  HWorld.stale_rejected w op h hh hs

/-- "an iterator of another container" -/
theorem C15_hash_foreign_rejected (w : HWorld) (op : HOp) (h : HPos) (o : Bool) (c' : Nat) (hh : op.handle = some h)
    (ht : op.target = some o) (hc : h.kp.cell = some c') (hne : c' ≠ (w.obj o).cell) : w.step op = (w, none) := by
  exact HWorld.handle_rejected w op h hh (fun hn => nomatch ht.symm.trans hn) fun o' ae ht' _ => by
    cases ht.symm.trans ht'; exact foreign_checkAt hc hne ae

/-- "an end/empty iterator where an element is required": the default-constructed iterator (`GetEnd()`) is rejected by every
    entry point except `CheckIterator(iter, allowEmpty = true)` -/
theorem C15_hash_end_rejected (w : HWorld) (op : HOp) (h : HPos) (hh : op.handle = some h) (hc : h.kp.cell = none)
    (hne : ∀ o, op ≠ .checkIt o h true) : w.step op = (w, none) := by
  refine HWorld.handle_rejected w op h hh (fun _ => null_check w.cs hc) fun o ae _ hae => ?_
  rw [null_checkAt w.cs _ _ hc]
  cases ae
  · rfl
  · exact absurd (hae rfl) (hne o)

/-- an empty position (`Find` of an absent key) where an element is required, and an element position where an empty
    one is required (`Add`) -/
theorem C15_hash_wrong_position_rejected (w : HWorld) (o : Bool) (h : HPos) :
    (h.elem = none → (∀ n, w.step (.remove o h n) = (w, none)) ∧ (∀ k, w.step (.resetKey o h k) = (w, none)) ∧
        w.step (.deref h) = (w, none) ∧ ∀ n, w.step (.inc h n) = (w, none)) ∧
    (h.elem.isSome = true → ∀ k nc, w.step (.add o h k nc) = (w, none)) := by
  constructor
  · intro he
    refine ⟨fun n => ?_, fun k => ?_, ?_, fun n => ?_⟩ <;> apply HWorld.step_eq_of_reject <;> simp [HOp.pre, he]
  · intro he k nc
    apply HWorld.step_eq_of_reject
    cases hh : h.elem <;> simp_all [HOp.pre]

/-- **fresh_accepted** "never rejected": a handle whose keeper is a snapshot of the current version of the crew it is used
    with is rejected only by the argument checks of the table -/
theorem C15_hash_fresh_accepted (w : HWorld) (op : HOp) (h : HPos) (hh : op.handle = some h)
    (hk : ∃ c, h.kp = snap w.cs c ∧ ∀ o, op.target = some o → c = (w.obj o).cell) :
    (w.step op).2.isSome = op.pre w :=
  HWorld.fresh_accepted w op h hh hk

/-- "operations that did not modify the container": a quiet entry point (`HOp.Quiet`: all except `Clear(false)` and `Remove(iter)`,
    which always increment, `ResetKey`, and a `Reserve(n)` that ends with a capacity below `n`; the reasons stand at `HOp.Quiet`) that leaves
    keys and capacity of a crew unchanged does not increment its version -/
theorem C15_hash_no_increment_without_change (w : HWorld) (hw : w.WF) (op : HOp) (hq : op.Quiet) (c : Nat)
    (hs : (w.step op).1.shape c = w.shape c) : (w.step op).1.cs c = w.cs c :=
  HWorld.step_quiet w hw op hq c hs

/-- **all (state, invalidating operation, subsequent use) triples**: a handle made in any world `w0`, any history `ops` of
    entry points in which some call changed keys or capacity of the handle's crew (fewer than 2^64 increments), any
    subsequent use: `std::invalid_argument`, world unchanged -/
theorem C15_hash_history_stale (w0 : HWorld) (hw : w0.WF) (ops : List HOp) (c : Nat) (op : HOp) (h : HPos)
    (hh : op.handle = some h) (hk : h.kp = snap w0.cs c) (hc : HWorld.SomeChange c w0 ops)
    (hlt : (w0.run ops).cs c < w0.cs c + W) : (w0.run ops).step op = (w0.run ops, none) :=
  HWorld.stale_rejected _ op h hh (hk ▸ snap_stale (HWorld.run_change c ops w0 hw hc) hlt)

/-- … and any history of rejected calls and quiet calls that did not touch the crew: the handle is still accepted -/
theorem C15_hash_history_fresh (w0 : HWorld) (hw : w0.WF) (ops : List HOp) (c : Nat) (op : HOp) (h : HPos)
    (hh : op.handle = some h) (hk : h.kp = snap w0.cs c) (hq : HWorld.AllQuiet c w0 ops)
    (ht : ∀ o, op.target = some o → c = ((w0.run ops).obj o).cell) :
    ((w0.run ops).step op).2.isSome = op.pre (w0.run ops) :=
  HWorld.fresh_accepted _ op h hh ⟨c, hk.trans (snap_eq_of_cell_eq (HWorld.run_quiet c ops w0 hw hq)), ht⟩

/-! ## TreeSet / TreeMap -/

/-- **bump_on_mutation** including range removal, `MergeTo` into an empty destination, `pvMergeFast` (source and destination) and
    the item-by-item merge: every change of (keys, root node, node params) of a crew increments its version -/
theorem C15_tree_bump_on_mutation (w : TWorld) (hw : w.WF) (op : TOp) (hnr : ∀ o h k, op ≠ .resetKey o h k) :
    (w.step op).1.WF ∧ (∀ c, w.cs c ≤ (w.step op).1.cs c) ∧
    (∀ c, (w.step op).1.shape c ≠ w.shape c → w.cs c < (w.step op).1.cs c) :=
  let f := TWorld.step_facts w hw op
  ⟨f.wf, f.mono, (TWorld.step_moved w hw op hnr).bump⟩

/-- **decidable rejection table** of TreeSet / TreeMap (as `C15_hash_rejection_table`) -/
theorem C15_tree_rejection_table (w : TWorld) (op : TOp) : (w.step op).2.isSome = (op.vcheck w && op.pre w) :=
  TWorld.accepts_iff w op

/-- "throws std::invalid_argument and leaves the container unchanged" -/
theorem C15_tree_rejected_unchanged (w : TWorld) (op : TOp) (h : (w.step op).2 = none) : (w.step op).1 = w :=
  TWorld.step_reject_unchanged w op h

/-- **stale_rejected**: read, `++`, `--`, CheckIterator, Add, Add(extracted), Remove, Remove(extracting), Remove(begin, end)
    (either bound), ResetKey reject a stale iterator and change nothing -/
theorem C15_tree_stale_rejected (w : TWorld) (op : TOp) (h : TIt) (hh : h ∈ op.handles) (hs : Stale h.kp w.cs)
    (hp : h.pos.isSome = true) : w.step op = (w, none) :=
  TWorld.stale_rejected w op h hh hs hp

/-- "an iterator of another container" (with a node: the node-less `ConstIterator()` has no keeper) -/
theorem C15_tree_foreign_rejected (w : TWorld) (op : TOp) (h : TIt) (o : Bool) (c' : Nat) (hh : h ∈ op.handles)
    (ht : op.target = some o) (hc : h.kp.cell = some c') (hne : c' ≠ (w.obj o).cell) (hp : h.pos.isSome = true) :
    w.step op = (w, none) := by
  exact TWorld.handle_rejected w op h hh hp (fun hn => nomatch ht.symm.trans hn) fun o' ae ht' => by
    cases ht.symm.trans ht'; exact foreign_checkAt hc hne ae

/-- "an end/empty iterator where an element is required": `Remove`, extracting `Remove` and `ResetKey` at the end iterator -/
theorem C15_tree_end_rejected (w : TWorld) (o : Bool) (h : TIt) (he : h.pos = ((w.obj o).endIt w.cs).pos) (k : Nat) (ef : Bool) :
    w.step (.remove o h) = (w, none) ∧ w.step (.removeExt o h ef) = (w, none) ∧ w.step (.resetKey o h k) = (w, none) := by
  have : (h.pos != ((w.obj o).endIt w.cs).pos) = false := by rw [he]; exact bne_self_eq_false _
  refine ⟨?_, ?_, ?_⟩ <;> apply TWorld.step_eq_of_reject <;> dsimp only [TOp.pre] <;> rw [this] <;>
    simp only [Bool.and_false]

/-- reading or advancing the end iterator of a tree (`pos = count`, also on a leaf root), and `--begin` -/
theorem C15_tree_end_read_rejected (w : TWorld) (hw : w.WF) (o : Bool) :
    w.step (.deref ((w.obj o).endIt w.cs)) = (w, none) ∧ w.step (.inc ((w.obj o).endIt w.cs)) = (w, none) ∧
    w.step (.dec ((w.obj o).beginIt w.cs)) = (w, none) := by
  have hat := TWorld.atElem_endIt w hw o
  refine ⟨?_, ?_, ?_⟩ <;> apply TWorld.step_eq_of_reject <;> dsimp only [TOp.pre]
  · rw [hat]; exact Bool.and_false _
  · rw [hat]; exact Bool.and_false _
  · unfold TSet.beginIt
    cases (w.obj o).root <;> exact Bool.and_false _

/-- the default-constructed iterator (no keeper) is rejected wherever an element or a position of the tree is required; by `Add`
    only on a tree with a root node (without one `Add` takes exactly this iterator, pvAddFirst) -/
theorem C15_tree_null_rejected (w : TWorld) (h : TIt) (hc : h.kp.cell = none) :
    w.step (.deref h) = (w, none) ∧ w.step (.inc h) = (w, none) ∧ w.step (.dec h) = (w, none) ∧
    (∀ o, w.step (.checkIt o h false) = (w, none)) ∧ (∀ o, w.step (.remove o h) = (w, none)) ∧
    (∀ o ef, w.step (.removeExt o h ef) = (w, none)) ∧ (∀ o k, w.step (.resetKey o h k) = (w, none)) ∧
    (∀ o ef k, w.step (.addExt o h ef k) = (w, none)) ∧
    (∀ o k, (w.obj o).root = true → w.step (.add o h k) = (w, none)) := by
  have h1 := null_check w.cs hc
  have h2 := fun c => null_checkAt w.cs c false hc
  refine ⟨?_, ?_, ?_, ?_, ?_, ?_, ?_, ?_, ?_⟩
  all_goals (intros; apply TWorld.step_eq_of_reject; dsimp only [TOp.vcheck]; first | rw [h1] | rw [h2])
  all_goals first | rfl | (rename_i hr; rw [hr]; rfl)

/-- **fresh_accepted** (as `C15_hash_fresh_accepted`, for every iterator the entry point takes) -/
theorem C15_tree_fresh_accepted (w : TWorld) (op : TOp)
    (hk : ∀ h ∈ op.handles, ∃ c, h.kp = snap w.cs c ∧ ∀ o, op.target = some o → c = (w.obj o).cell) :
    (w.step op).2.isSome = op.pre w :=
  TWorld.fresh_accepted w op hk

/-- every entry point of TreeSet except `Remove(iter)` / `ResetKey` is quiet: unchanged (keys, root, params) ⇒ no increment -/
theorem C15_tree_no_increment_without_change (w : TWorld) (hw : w.WF) (op : TOp) (hq : op.Quiet) (c : Nat)
    (hs : (w.step op).1.shape c = w.shape c) : (w.step op).1.cs c = w.cs c :=
  TWorld.step_quiet w hw op hq c hs

/-- **all (state, invalidating operation, subsequent use) triples** (as `C15_hash_history_stale`) -/
theorem C15_tree_history_stale (w0 : TWorld) (hw : w0.WF) (ops : List TOp) (c : Nat) (op : TOp) (h : TIt)
    (hh : h ∈ op.handles) (hk : h.kp = snap w0.cs c) (hp : h.pos.isSome = true) (hc : TWorld.SomeChange c w0 ops)
    (hlt : (w0.run ops).cs c < w0.cs c + W) : (w0.run ops).step op = (w0.run ops, none) :=
  TWorld.stale_rejected _ op h hh (hk ▸ snap_stale (TWorld.run_change c ops w0 hw hc) hlt) hp

/-- … and any history of rejected calls and quiet calls that did not touch the crew (as `C15_hash_history_fresh`) -/
theorem C15_tree_history_fresh (w0 : TWorld) (hw : w0.WF) (ops : List TOp) (c : Nat) (op : TOp)
    (hk : ∀ h ∈ op.handles, h.kp = snap w0.cs c) (hq : TWorld.AllQuiet c w0 ops)
    (ht : ∀ o, op.target = some o → c = ((w0.run ops).obj o).cell) :
    ((w0.run ops).step op).2.isSome = op.pre (w0.run ops) :=
  TWorld.fresh_accepted _ op fun h hh => ⟨c, (hk h hh).trans (snap_eq_of_cell_eq (TWorld.run_quiet c ops w0 hw hq)), ht⟩

/-! ## HashMultiMap (key version + value version) -/

/-- **bump_on_mutation**: every mutating entry point keeps the two cells, increments the key version whenever the key
    list or the nested capacity changed, and one of the two versions whenever anything changed
    (`hinv`: a nested map without buckets holds no key) -/
theorem C15_multimap_bump_on_mutation (w : MWorld) (op : MOp) (o : Bool) (ht : op.target = some o)
    (hinv : (w.obj o).cap = 0 → (w.obj o).kv = []) :
    MEff w.cs (w.obj o) (w.step op).1.cs ((w.step op).1.obj o) :=
  MWorld.step_eff w op o ht hinv

/-- a key iterator made before a change of the key set is stale afterwards -/
theorem C15_multimap_key_iterator_stale {cs cs' : Cells} {m m' : MMap} (he : MEff cs m cs' m') (hne : m.kcell ≠ m.vcell)
    (hchg : m'.keysOf ≠ m.keysOf ∨ m'.cap ≠ m.cap) (hlt : cs' m.kcell < cs m.kcell + W) : Stale (snap cs m.kcell) cs' := by
  exact snap_stale ((he.facts hne).2.1 hchg) hlt

/-- a value iterator made before any change has a stale value keeper or a stale key keeper afterwards -/
theorem C15_multimap_value_iterator_stale {cs cs' : Cells} {m m' : MMap} (he : MEff cs m cs' m') (hne : m.kcell ≠ m.vcell)
    (hchg : m'.kv ≠ m.kv) (hlt1 : cs' m.kcell < cs m.kcell + W) (hlt2 : cs' m.vcell < cs m.vcell + W) :
    Stale (snap cs m.vcell) cs' ∨ Stale (snap cs m.kcell) cs' := by
  exact ((he.facts hne).2.2 hchg).symm.imp (snap_stale · hlt2) (snap_stale · hlt1)

/-- **stale_rejected**, key iterators: `keyIter->`, `++`, Add(keyIter, value), AddKeyCrt, Remove(keyIter, index), RemoveValues,
    RemoveKey, ResetKey throw -/
theorem C15_multimap_key_stale_rejected (m : MMap) (cs : Cells) (h : HPos) (hs : Stale h.kp cs) :
    m.kderef cs h = none ∧ (∀ v, m.addAt cs h v = none) ∧ (∀ i to, m.removeAt cs h i to = none) ∧
    (∀ to, m.removeValues cs h to = none) ∧ (∀ nx, m.removeKey cs h nx = none) ∧ (∀ k, m.resetKey cs h k = none) ∧
    (∀ k nc, m.addKey cs h k nc = none) ∧ (∀ n, h.inc cs n = none) :=
  have hd := HPos.deref_none (.inl hs.check)
  have hm := MMap.mutKey_none (m := m) (.inr hd)
  ⟨MMap.kderef_none hd, MMap.addAt_none hm, MMap.removeAt_none hm, MMap.removeValues_none hm, MMap.removeKey_none hm,
   MMap.resetKey_none (.inl (hs.checkAt ..)), MMap.addKey_none (hs.checkAt ..), HPos.inc_none hd⟩

/-- **stale_rejected**, value iterators: `it->`, `++it`, Remove(it), MakeMutableIterator, CheckIterator throw when the value
    version moved, and also when only the key version moved (`InsertKey` / `AddKeyCrt`) -/
theorem C15_multimap_value_stale_rejected (m : MMap) (cs : Cells) (it : VIt) (hv : it.vidx.isSome = true)
    (hs : Stale it.vp cs ∨ Stale it.kit.kp cs) :
    m.vderef cs it = none ∧ (∀ to, MMap.vinc cs it to = none) ∧ (∀ to, m.remove cs it to = none) ∧
    m.makeMutable cs it = none ∧ (∀ ae, m.checkIt cs it ae = none) :=
  have h3 : it.vp.check cs = false ∨ it.vidx = none ∨ it.kit.deref cs = none :=
    hs.elim (fun h => .inl h.check) fun h => .inr (.inr (HPos.deref_none (.inl h.check)))
  have h2 : it.vp.checkAt cs m.vcell false = false ∨ m.mutKey cs it.kit = none :=
    hs.elim (fun h => .inl (h.checkAt ..)) fun h => .inr (MMap.mutKey_none (.inl (h.checkAt ..)))
  ⟨MMap.vderef_none h3, MMap.vinc_none h3, MMap.remove_none (h2.imp_right .inr), MMap.makeMutable_none hv h2,
   fun _ => MMap.checkIt_none (hs.elim (fun h => .inr ⟨hv, h.checkAt ..⟩) fun h => .inl (h.checkAt ..))⟩

/-- "an end/empty iterator where an element is required", value iterators: the end iterator (no value index) cannot be read, advanced
    or removed -/
theorem C15_multimap_end_rejected (m : MMap) (cs : Cells) (it : VIt) (hv : it.vidx = none) :
    m.vderef cs it = none ∧ (∀ to, MMap.vinc cs it to = none) ∧ (∀ to, m.remove cs it to = none) :=
  ⟨MMap.vderef_none (.inr (.inl hv)), MMap.vinc_none (.inr (.inl hv)), MMap.remove_none (.inr (.inl hv))⟩

/-- "an end/empty iterator where an element is required", key iterators: the position of an absent key and the default-constructed
    key iterator are rejected by `keyIter->`, `++`, Add(keyIter, value), Remove(keyIter, index), RemoveValues, RemoveKey, ResetKey and
    MakeIterator(keyIter, index > 0) -/
theorem C15_multimap_key_empty_rejected (m : MMap) (cs : Cells) (h : HPos) (he : h.elem = none) :
    m.kderef cs h = none ∧ (∀ n, h.inc cs n = none) ∧ (∀ v, m.addAt cs h v = none) ∧ (∀ i to, m.removeAt cs h i to = none) ∧
    (∀ to, m.removeValues cs h to = none) ∧ (∀ nx, m.removeKey cs h nx = none) ∧ (∀ k, m.resetKey cs h k = none) ∧
    (∀ i to, i ≠ 0 → m.makeIt cs h i to = none) :=
  have hd := HPos.deref_none (.inr he)
  have hm := MMap.mutKey_none (m := m) (.inr hd)
  ⟨MMap.kderef_none hd, HPos.inc_none hd, MMap.addAt_none hm, MMap.removeAt_none hm, MMap.removeValues_none hm,
   MMap.removeKey_none hm, MMap.resetKey_none (.inr he),
   fun i to hi => MMap.makeIt_none (by rw [beq_false_of_ne hi]; exact Bool.and_false _) hm to⟩

/-- **fresh_accepted**, value iterators: an iterator just made for a stored value is accepted by every entry point that takes one -/
theorem C15_multimap_value_fresh_accepted (m : MMap) (cs : Cells) (k i : Nat) (mv : Bool) (vs : List Nat)
    (hk : m.vals k = some vs) (hi : i < vs.length) :
    let it : VIt := ⟨⟨snap cs m.kcell, some k, mv⟩, snap cs m.vcell, some i⟩
    (m.vderef cs it).isSome = true ∧ (∀ to, (MMap.vinc cs it to).isSome = true) ∧ (∀ to, (m.remove cs it to).isSome = true) ∧
    (m.makeMutable cs it).isSome = true ∧ (∀ ae, (m.checkIt cs it ae).isSome = true) :=
  MMap.value_fresh_accepted m cs k i mv vs hk hi

/-- **fresh_accepted**, key iterators: a key iterator just made for a stored key is accepted by every entry point that takes one
    (`Remove(keyIter, index)` / `MakeIterator` for an index within the value count) -/
theorem C15_multimap_key_fresh_accepted (m : MMap) (cs : Cells) (k : Nat) (mv : Bool) (vs : List Nat)
    (hk : m.vals k = some vs) (hcap : m.cap ≠ 0) :
    let h : HPos := ⟨snap cs m.kcell, some k, mv⟩
    (m.kderef cs h).isSome = true ∧ (∀ v, (m.addAt cs h v).isSome = true) ∧ (∀ to, (m.removeValues cs h to).isSome = true) ∧
    (∀ nx, (m.removeKey cs h nx).isSome = true) ∧ (∀ k', (m.resetKey cs h k').isSome = true) ∧
    (∀ i to, i < vs.length → (m.removeAt cs h i to).isSome = true) ∧ (∀ i to, i ≤ vs.length → (m.makeIt cs h i to).isSome = true) :=
  MMap.key_fresh_accepted m cs k mv vs hk hcap

/-- "throws std::invalid_argument and leaves the container unchanged" -/
theorem C15_multimap_rejected_unchanged (w : MWorld) (op : MOp) (h : (w.step op).2 = none) : (w.step op).1 = w :=
  MWorld.step_reject_unchanged w op h

/-- "an iterator of another container", key iterators: every entry point of map `o` (Add(keyIter, value), AddKeyCrt,
    Remove(keyIter, index), RemoveValues, RemoveKey, ResetKey, MakeIterator, CheckKeyIterator) rejects a key iterator whose
    keeper points to the nested map of another object; nothing changes (`op.on`: what `op.target` is for the set kinds, see `MOp.target`) -/
theorem C15_multimap_key_foreign_rejected (w : MWorld) (op : MOp) (h : HPos) (o : Bool) (c' : Nat) (hh : op.khandle = some h)
    (ht : op.on = some o) (hc : h.kp.cell = some c') (hne : c' ≠ (w.obj o).kcell) : w.step op = (w, none) :=
  MWorld.key_rejected w op h hh (fun hn => nomatch ht.symm.trans hn) fun o' ho ae => by
    cases ht.symm.trans ho; exact foreign_checkAt hc hne ae

/-- "an iterator of another container", value iterators (Remove(iter), MakeMutableIterator, CheckIterator): the value keeper
    or the key keeper belongs to another object -/
theorem C15_multimap_value_foreign_rejected (w : MWorld) (op : MOp) (it : VIt) (o : Bool) (hh : op.vhandle = some it)
    (ht : op.on = some o) (hv : it.vidx.isSome = true)
    (hc : (∃ c', it.vp.cell = some c' ∧ c' ≠ (w.obj o).vcell) ∨ (∃ c', it.kit.kp.cell = some c' ∧ c' ≠ (w.obj o).kcell)) :
    w.step op = (w, none) :=
  MWorld.value_rejected w op it hh hv (fun hn => nomatch ht.symm.trans hn) fun o' ho => by
    cases ht.symm.trans ho
    exact hc.imp (fun ⟨_, h1, h2⟩ => foreign_checkAt h1 h2 false) fun ⟨_, h1, h2⟩ ae => foreign_checkAt h1 h2 ae

/-- **stale_rejected** at the level of the two-object world: every entry point that needs a key iterator (`MOp.khandle`) /
    takes a value iterator (`MOp.vhandle`) throws on a stale one and returns the world unchanged -/
theorem C15_multimap_world_stale_rejected (w : MWorld) (op : MOp) :
    (∀ h, op.khandle = some h → Stale h.kp w.cs → w.step op = (w, none)) ∧
    (∀ it, op.vhandle = some it → it.vidx.isSome = true → (Stale it.vp w.cs ∨ Stale it.kit.kp w.cs) → w.step op = (w, none)) :=
  ⟨fun h hh hs => MWorld.key_rejected w op h hh (fun _ => HPos.deref_none (.inl hs.check)) fun _ _ _ => hs.checkAt ..,
   fun it hh hv hs => MWorld.value_rejected w op it hh hv
     (fun _ => hs.imp (·.check) fun h => HPos.deref_none (.inl h.check)) fun _ _ => hs.imp (·.checkAt ..) fun h _ => h.checkAt ..⟩

/-- **bump_on_mutation** for every entry point of the world (complete list `MOp`, ResetKey aside, Swap included): the four cells
    stay distinct, no counter decreases, each object keeps its value cell, the key version of an object moves whenever its
    key list or nested capacity changed, and its key or value version whenever anything in it changed.
    (`CapOK`: the capacity reported after an insertion is positive; `CapInv`: a map without buckets holds no key.) -/
theorem C15_multimap_world_bump_on_mutation (w : MWorld) (hw : w.WF) (hi : w.CapInv) (op : MOp) (hcap : op.CapOK)
    (hnr : ∀ o h k, op ≠ .resetKey o h k) :
    (w.step op).1.WF ∧ (w.step op).1.CapInv ∧ (∀ c, w.cs c ≤ (w.step op).1.cs c) ∧
    (∀ kc, (w.step op).1.kshape kc ≠ w.kshape kc → w.cs kc < (w.step op).1.cs kc) ∧
    (∀ kc vc, w.vcellOf kc = some vc → (w.step op).1.content kc ≠ w.content kc →
      w.cs kc < (w.step op).1.cs kc ∨ w.cs vc < (w.step op).1.cs vc) :=
  let f := MWorld.step_facts w hw hi op hcap
  ⟨f.wf, f.inv, f.mono, f.kbump hnr, f.vbump hnr⟩

/-- **all (state, invalidating operation, subsequent use) triples**, key iterators: made in any world `w0`, any history in which
    some call changed the key set or the nested capacity of its map (fewer than 2^64 increments), any subsequent use -/
theorem C15_multimap_history_key_stale (w0 : MWorld) (hw : w0.WF) (hi : w0.CapInv) (ops : List MOp) (hc : ∀ op ∈ ops, op.CapOK)
    (kc : Nat) (op : MOp) (h : HPos) (hh : op.khandle = some h) (hk : h.kp = snap w0.cs kc) (hch : MWorld.SomeKeyChange kc w0 ops)
    (hlt : (w0.run ops).cs kc < w0.cs kc + W) : (w0.run ops).step op = (w0.run ops, none) :=
  (C15_multimap_world_stale_rejected _ op).1 h hh (hk ▸ snap_stale (MWorld.run_key_change kc ops w0 hw hi hc hch) hlt)

/-- … value iterators: made in `w0` (keepers of the value version `vc` and the key version `kc` of one object), any history in
    which some call changed anything in that object (a value added or removed, a key inserted or removed, Clear …) -/
theorem C15_multimap_history_value_stale (w0 : MWorld) (hw : w0.WF) (hi : w0.CapInv) (ops : List MOp) (hc : ∀ op ∈ ops, op.CapOK)
    (kc vc : Nat) (hvc : w0.vcellOf kc = some vc) (op : MOp) (it : VIt) (hh : op.vhandle = some it) (hv : it.vidx.isSome = true)
    (hvp : it.vp = snap w0.cs vc) (hkp : it.kit.kp = snap w0.cs kc) (hch : MWorld.SomeChange kc w0 ops)
    (hlt1 : (w0.run ops).cs kc < w0.cs kc + W) (hlt2 : (w0.run ops).cs vc < w0.cs vc + W) :
    (w0.run ops).step op = (w0.run ops, none) :=
  (C15_multimap_world_stale_rejected _ op).2 it hh hv
    ((MWorld.run_change kc vc ops w0 hw hi hc hvc hch).symm.imp (fun h => hvp ▸ snap_stale h hlt2) fun h => hkp ▸ snap_stale h hlt1)

/-- "operations that did not modify the container": a call that throws, a non-mutating entry point (queries, uses of
    iterators, ResetKey, Swap), a call on the other object, `InsertKey` of a stored key and `RemoveKey` of an absent key
    increment neither version of the object with key cell `kc` -/
theorem C15_multimap_no_increment_without_change (w : MWorld) (hw : w.WF) (hi : w.CapInv) (op : MOp) (kc vc : Nat)
    (hvc : w.vcellOf kc = some vc) (hq : MWorld.QuietStep kc w op) :
    (w.step op).1.cs kc = w.cs kc ∧ (w.step op).1.cs vc = w.cs vc :=
  MWorld.step_quiet w hw hi op kc vc hvc hq

/-- **fresh_accepted over histories**, key iterators: after any history of such calls a key iterator made in `w0` for a key that
    is still stored is accepted by every entry point -/
theorem C15_multimap_history_key_fresh (w0 : MWorld) (hw : w0.WF) (hi : w0.CapInv) (ops : List MOp) (hc : ∀ op ∈ ops, op.CapOK)
    (kc vc : Nat) (hvc : w0.vcellOf kc = some vc) (hq : MWorld.AllQuiet kc w0 ops) (m : MMap) (hm : (w0.run ops).byKeyCell kc = some m)
    (k : Nat) (mv : Bool) (vs : List Nat) (hk : m.vals k = some vs) (hcap : m.cap ≠ 0) :
    let h : HPos := ⟨snap w0.cs kc, some k, mv⟩
    let cs := (w0.run ops).cs
    (m.kderef cs h).isSome = true ∧ (∀ v, (m.addAt cs h v).isSome = true) ∧ (∀ to, (m.removeValues cs h to).isSome = true) ∧
    (∀ nx, (m.removeKey cs h nx).isSome = true) ∧ (∀ k', (m.resetKey cs h k').isSome = true) ∧
    (∀ i to, i < vs.length → (m.removeAt cs h i to).isSome = true) ∧ (∀ i to, i ≤ vs.length → (m.makeIt cs h i to).isSome = true) :=
  have hcell := (MWorld.run_quiet kc vc ops w0 hw hi hc hvc hq).1
  (snap_eq_of_cell_eq hcell).symm ▸ MWorld.byKeyCell_kcell hm ▸ MMap.key_fresh_accepted m (w0.run ops).cs k mv vs hk hcap

/-- … value iterators pointing at a value that is still stored -/
theorem C15_multimap_history_value_fresh (w0 : MWorld) (hw : w0.WF) (hi : w0.CapInv) (ops : List MOp) (hc : ∀ op ∈ ops, op.CapOK)
    (kc vc : Nat) (hvc : w0.vcellOf kc = some vc) (hq : MWorld.AllQuiet kc w0 ops) (m : MMap) (hm : (w0.run ops).byKeyCell kc = some m)
    (k i : Nat) (mv : Bool) (vs : List Nat) (hk : m.vals k = some vs) (hi' : i < vs.length) :
    let it : VIt := ⟨⟨snap w0.cs kc, some k, mv⟩, snap w0.cs vc, some i⟩
    let cs := (w0.run ops).cs
    (m.vderef cs it).isSome = true ∧ (∀ to, (MMap.vinc cs it to).isSome = true) ∧ (∀ to, (m.remove cs it to).isSome = true) ∧
    (m.makeMutable cs it).isSome = true ∧ (∀ ae, (m.checkIt cs it ae).isSome = true) :=
  have hcells := MWorld.run_quiet kc vc ops w0 hw hi hc hvc hq
  have hvc' : m.vcell = vc := by
    have := (MWorld.run_inv ops w0 hw hi hc).2.2.2 kc
    rw [hvc, MWorld.vcellOf, hm] at this
    exact Option.some.inj this
  (snap_eq_of_cell_eq hcells.1).symm ▸ (snap_eq_of_cell_eq hcells.2).symm ▸ MWorld.byKeyCell_kcell hm ▸ hvc' ▸
    MMap.value_fresh_accepted m (w0.run ops).cs k i mv vs hk hi'

/-! ## DataTable: row references, selections, hash bounds -/

/-- **bump_on_mutation** "after any removal or replacement of rows": for each mutating entry point (TryAdd, TryInsert,
    TryUpdate(row), TryUpdate(column), Remove/Extract by reference or number, Clear, Remove(filter), Remove(range), Assign)
    the change version moves when the rows changed and the remove version moves when a row is gone -/
theorem C15_table_bump_on_mutation (t : Table) (cs : Cells) :
    (∀ a b, TblEff cs t (t.tryAdd cs a b).1 (t.tryAdd cs a b).2.1) ∧
    (∀ i a b r, t.tryInsert cs i a b = some r → TblEff cs t r.1 r.2.1) ∧
    (∀ i a b r, t.tryUpdateRow cs i a b = some r → TblEff cs t r.1 r.2.1) ∧
    (∀ r b x, t.updateB cs r b = some x → TblEff cs t x.1 x.2) ∧
    (∀ r x, t.removeRef cs r = some x → TblEff cs t x.1 x.2) ∧
    (∀ i x, t.removeNum cs i = some x → TblEff cs t x.1 x.2) ∧
    TblEff cs t (t.clear cs).1 (t.clear cs).2 ∧
    (∀ m r, TblEff cs t (t.removeIf cs m r).1 (t.removeIf cs m r).2.1) ∧
    (∀ rs keep x, t.removeRefs cs rs keep = some x → TblEff cs t x.1 x.2) :=
  ⟨fun a b => (Table.tryAdd_eff t cs a b).1, fun _ _ _ _ h => (Table.tryInsert_eff h).1, fun _ _ _ _ h => (Table.tryUpdateRow_eff h).1,
   fun _ _ _ h => (Table.updateB_eff h).1, fun _ _ h => (Table.removeRef_eff h).1, fun _ _ h => (Table.removeNum_eff h).1,
   (Table.clear_eff t cs).1, fun m r => (Table.removeIf_eff t cs m r).1, fun _ _ _ h => (Table.removeRefs_eff h).1⟩

/-- a row reference taken before a removal / replacement is stale afterwards; hash bounds are stale after any change -/
theorem C15_table_handles_stale {cs cs' : Cells} {t t' : Table} (he : TblEff cs t cs' t') (hne : t.ccell ≠ t.rcell) :
    ((∃ x ∈ t.rows, ∀ y ∈ t'.rows, y.raw ≠ x.raw) → cs' t.rcell < cs t.rcell + W → ∀ raw, Stale (t.mkRef cs raw).kp cs') ∧
    (t'.rows ≠ t.rows → cs' t.ccell < cs t.ccell + W → ∀ v, Stale (t.findMulti cs v).ckp cs') := by
  have f := he.facts hne
  exact ⟨fun hg hl _ => snap_stale (f.rbump hg) hl, fun hch hl _ => snap_stale (f.cbump hch) hl⟩

/-- "a table row reference … after any removal or replacement of rows … throws": reading, Remove/Extract, TryUpdate,
    MakeMutableReference, NewRow(reference), Remove(range) / Assign containing the reference -/
theorem C15_table_ref_stale_rejected (t : Table) (cs : Cells) (r : RowRef) (hs : Stale r.kp cs) :
    r.get cs = none ∧ t.removeRef cs r = none ∧ (∀ b, t.updateB cs r b = none) ∧ t.makeMutable cs r = none ∧
    Table.newRowFrom cs r = none ∧ (∀ rs1 rs2 keep, t.removeRefs cs (rs1 ++ r :: rs2) keep = none) :=
  Table.ref_stale_rejected t cs r hs

/-- "an iterator of another container": a reference into another table -/
theorem C15_table_ref_foreign_rejected (t : Table) (cs : Cells) (r : RowRef) (hne : r.tbl ≠ t.id) :
    t.removeRef cs r = none ∧ (∀ b, t.updateB cs r b = none) ∧ t.makeMutable cs r = none ∧
    (∀ rs1 rs2 keep, t.removeRefs cs (rs1 ++ r :: rs2) keep = none) :=
  have hb := beq_false_of_ne hne
  have hu := Table.ref_uses_rejected (Table.checkRef_none (cs := cs) (.inl hb))
  ⟨hu.1, hu.2.1, hu.2.2, Table.removeRefs_none (by rw [hb]; exact Bool.and_false _)⟩

/-- "… or selection": a stale selection yields only stale references and its column reads (Sort / Group / bounds) throw -/
theorem C15_table_selection_stale_rejected (s : Sel) (cs : Cells) (hs : Stale s.kp cs) :
    (∀ i r, s.at_ i = some r → r.get cs = none) ∧ (s.raws ≠ [] → s.readAll cs = none) :=
  Sel.stale_rejected s cs hs

/-- stale references cannot be stored into a selection (`Set` / `Add` / `Insert`) -/
theorem C15_table_selection_store_stale_rejected (s : Sel) (cs : Cells) (r : RowRef) (hs : Stale r.kp cs) :
    (∀ i, s.set cs i r = none) ∧ s.add cs r = none ∧ (∀ i, s.insert cs i r = none) :=
  Sel.store_rejected s cs r hs.check

/-- stale hash bounds cannot be indexed -/
theorem C15_table_bounds_stale_rejected (m : MBounds) (cs : Cells) (hs : Stale m.ckp cs) (i : Nat) : m.at_ cs i = none :=
  MBounds.stale_rejected m cs hs i

/-- **fresh_accepted**: references, selections and bounds made from the current versions are accepted -/
theorem C15_table_fresh_accepted (t : Table) (cs : Cells) (raw : Nat) :
    ((t.mkRef cs raw).get cs).isSome = true ∧ (t.removeRef cs (t.mkRef cs raw)).isSome = true ∧
    (∀ b, (t.updateB cs (t.mkRef cs raw) b).isSome = true) ∧ (t.makeMutable cs (t.mkRef cs raw)).isSome = true ∧
    (∀ m r, (∀ i x, (t.select cs m r).at_ i = some x → (x.get cs).isSome = true) ∧ ((t.select cs m r).readAll cs).isSome = true) ∧
    (∀ v i, i < (t.findMulti cs v).raws.length → ((t.findMulti cs v).at_ cs i).isSome = true) :=
  let h := Table.ref_fresh_accepted t cs raw
  ⟨h.1, h.2.1, h.2.2.1, h.2.2.2, fun m r => Sel.fresh_accepted t cs m r, fun v i hi => MBounds.fresh_accepted t cs v i hi⟩

/-- "operations that did not modify …": adding / inserting rows and updating one column never invalidate row references -/
theorem C15_table_add_keeps_references (t : Table) (cs : Cells) (hne : t.ccell ≠ t.rcell) :
    (∀ a b, (t.tryAdd cs a b).1 t.rcell = cs t.rcell) ∧
    (∀ i a b r, t.tryInsert cs i a b = some r → r.1 t.rcell = cs t.rcell) ∧
    (∀ r b x, t.updateB cs r b = some x → x.1 t.rcell = cs t.rcell) :=
  ⟨fun a b => (Table.tryAdd_eff t cs a b).2.2 trivial hne, fun _ _ _ _ h => (Table.tryInsert_eff h).2.2 trivial hne,
   fun _ _ _ h => (Table.updateB_eff h).2.2 trivial hne⟩

/-- "an out-of-range index": row numbers and selection indexes -/
theorem C15_table_index_table (t : Table) (cs : Cells) (s : Sel) (i n a b : Nat) :
    (t.at_ cs i).isSome = decide (i < t.rows.length) ∧ (t.removeNum cs i).isSome = decide (i < t.rows.length) ∧
    (t.tryInsert cs i a b).isSome = decide (i ≤ t.rows.length) ∧ (s.at_ i).isSome = decide (i < s.raws.length) ∧
    (s.remove i n).isSome = decide (i + n ≤ s.raws.length) := by
  refine ⟨?_, ?_, ?_, ?_, ?_⟩
  · rw [← ListFacts.isSome_getElem?]; unfold Table.at_
    cases t.rows[i]? <;> rfl
  · rw [← ListFacts.isSome_getElem?]; unfold Table.removeNum
    cases t.rows[i]? <;> rfl
  · unfold Table.tryInsert
    cases decide (i ≤ t.rows.length) with
    | false => rfl
    | true =>
      dsimp only [chk_true, Option.bind_eq_bind, Option.bind_some]
      split <;> rfl
  · rw [← ListFacts.isSome_getElem?]; unfold Sel.at_
    cases s.raws[i]? <;> rfl
  · unfold Sel.remove
    cases decide (i + n ≤ s.raws.length) <;> rfl

/-! ### DataTable as a world of two tables (`BWorld`, entry points `BOp` - the step function the driver runs) -/

/-- "throws std::invalid_argument and leaves the container unchanged" -/
theorem C15_table_rejected_unchanged (w : BWorld) (op : BOp) (h : (w.step op).2 = none) : (w.step op).1 = w :=
  BWorld.step_reject_unchanged w op h

/-- **stale_rejected**: every entry point that is given a stale row reference - `Get` / `GetRaw`, TryUpdate / Update of a column,
    Remove / Extract, MakeMutableReference, NewRow(reference), Remove(begin, end) / Assign(begin, end) with the reference anywhere
    in the range, Selection::Set / Add / Insert - throws and changes nothing -/
theorem C15_table_world_stale_rejected (w : BWorld) (op : BOp) (r : RowRef) (hr : r ∈ op.refs) (hs : Stale r.kp w.cs) :
    w.step op = (w, none) :=
  BWorld.stale_rejected w op r hr hs

/-- "an iterator of another container": a row reference of another table (another column-list object) -/
theorem C15_table_world_foreign_rejected (w : BWorld) (op : BOp) (r : RowRef) (o : Bool) (hr : r ∈ op.refs) (ho : op.on = some o)
    (hne : r.tbl ≠ (w.obj o).id) : w.step op = (w, none) := by
  exact BWorld.ref_rejected w op r hr (fun hn => nomatch ho.symm.trans hn) fun o' ho' => by
    cases ho.symm.trans ho'; exact .inl (beq_false_of_ne hne)

/-- … and it cannot be stored into a selection of the first table -/
theorem C15_table_selection_foreign_store_rejected (w : BWorld) (s : Sel) (r : RowRef) (hne : s.tbl ≠ r.tbl) (i : Nat) :
    w.step (.selSet s i r) = (w, none) ∧ w.step (.selAdd s r) = (w, none) ∧ w.step (.selIns s i r) = (w, none) := by
  have hb := beq_false_of_ne hne
  refine ⟨?_, ?_, ?_⟩ <;> dsimp only [BWorld.step, Sel.set, Sel.add, Sel.insert] <;> rw [hb]
  · cases r.kp.check w.cs <;> cases decide (i < s.raws.length) <;> rfl
  · cases r.kp.check w.cs <;> rfl
  · cases r.kp.check w.cs <;> cases decide (i ≤ s.raws.length) <;> rfl

/-- "a table row reference or selection": a stale selection / row pointer throws on Sort / Group / bounds by column, and every
    reference taken out of it is stale; stale hash bounds cannot be indexed -/
theorem C15_table_world_selection_bounds_stale (w : BWorld) :
    (∀ s : Sel, Stale s.kp w.cs → (s.raws ≠ [] → w.step (.selRead s) = (w, none)) ∧
      (∀ i r, (w.step (.selAt s i)).2 = some (.ref r) → Stale r.kp w.cs)) ∧
    (∀ (m : MBounds) (i : Nat), Stale m.ckp w.cs → w.step (.mbAt m i) = (w, none)) := by
  refine ⟨fun s hs => ⟨fun hne => ?_, fun i r hr => ?_⟩, fun m i hs => ?_⟩
  · dsimp only [BWorld.step]
    rw [(Sel.stale_rejected s w.cs hs).2 hne]; rfl
  · obtain ⟨x, hx, e⟩ := Option.map_eq_some_iff.mp hr
    cases e
    obtain ⟨raw, -, hx⟩ := Option.bind_eq_some_iff.mp hx
    cases hx
    exact hs
  · dsimp only [BWorld.step]
    rw [MBounds.stale_rejected m w.cs hs i]; rfl

/-- "an out-of-range index": row numbers (operator[], Remove / Extract, TryUpdate, TryInsert), selection indexes and counts,
    bounds indexes: `std::invalid_argument`, world unchanged -/
theorem C15_table_index_rejected (w : BWorld) (o : Bool) (s : Sel) (m : MBounds) (i n a b : Nat) :
    ((w.obj o).rows.length ≤ i → w.step (.at_ o i) = (w, none) ∧ w.step (.rmNum o i) = (w, none) ∧ w.step (.updRow o i a b) = (w, none)) ∧
    ((w.obj o).rows.length < i → w.step (.insert o i a b) = (w, none)) ∧
    (s.raws.length ≤ i → w.step (.selAt s i) = (w, none)) ∧
    (s.raws.length < i + n → w.step (.selRm s i n) = (w, none)) ∧
    (m.raws.length ≤ i → w.step (.mbAt m i) = (w, none)) := by
  have T := C15_table_index_table (w.obj o) w.cs s i n a b
  have none_of : ∀ {α : Type} {x : Option α} {p : Prop} [Decidable p], x.isSome = decide p → ¬p → x = none := by
    intro _ x _ _ h hp
    rw [decide_eq_false hp] at h
    cases x
    · rfl
    · cases h
  refine ⟨fun h => ⟨?_, ?_, ?_⟩, fun h => ?_, fun h => ?_, fun h => ?_, fun h => ?_⟩ <;> dsimp only [BWorld.step]
  · rw [none_of T.1 (Nat.not_lt.mpr h)]; rfl
  · rw [none_of T.2.1 (Nat.not_lt.mpr h)]
  · unfold Table.tryUpdateRow
    rw [List.getElem?_eq_none h]; rfl
  · rw [none_of T.2.2.1 (Nat.not_le.mpr h)]
  · rw [none_of T.2.2.2.1 (Nat.not_lt.mpr h)]; rfl
  · rw [none_of T.2.2.2.2 (Nat.not_le.mpr h)]; rfl
  · unfold MBounds.at_
    rw [List.getElem?_eq_none h]; rfl

/-- **bump_on_mutation** for every entry point (complete list `BOp`): column lists and cells stay, no counter decreases, the
    change version of a table moves whenever its rows changed and its remove version whenever one of its rows is gone -/
theorem C15_table_world_bump_on_mutation (w : BWorld) (hw : w.WF) (op : BOp) :
    (w.step op).1.WF ∧ (∀ c, w.cs c ≤ (w.step op).1.cs c) ∧
    (∀ o, ((w.step op).1.obj o).id = (w.obj o).id ∧ ((w.step op).1.obj o).ccell = (w.obj o).ccell ∧ ((w.step op).1.obj o).rcell = (w.obj o).rcell) ∧
    (∀ o, ((w.step op).1.obj o).rows ≠ (w.obj o).rows → w.cs (w.obj o).ccell < (w.step op).1.cs (w.obj o).ccell) ∧
    (∀ o, BWorld.Gone (w.obj o).rows ((w.step op).1.obj o).rows → w.cs (w.obj o).rcell < (w.step op).1.cs (w.obj o).rcell) :=
  let f := BWorld.step_facts w hw op
  ⟨f.wf, f.mono, fun o => (f.obj o).same, fun o => (f.obj o).cbump, fun o => (f.obj o).rbump⟩

/-- **all (state, invalidating operation, subsequent use) triples**, row references: a reference whose keeper was taken in any
    world `w0` (operator[], an insertion, out of a selection / row pointer / bounds made in `w0` …), any history in which a row
    of its table was removed or replaced, any subsequent use -/
theorem C15_table_history_ref_stale (w0 : BWorld) (hw : w0.WF) (ops : List BOp) (o : Bool) (op : BOp) (r : RowRef)
    (hr : r ∈ op.refs) (hk : r.kp = snap w0.cs (w0.obj o).rcell) (hrm : BWorld.SomeRemoval o w0 ops)
    (hlt : (w0.run ops).cs (w0.obj o).rcell < w0.cs (w0.obj o).rcell + W) : (w0.run ops).step op = (w0.run ops, none) :=
  BWorld.stale_rejected _ op r hr (hk ▸ snap_stale (BWorld.run_removal o ops w0 hw hrm) hlt)

/-- … selections and row pointers made in `w0` -/
theorem C15_table_history_selection_stale (w0 : BWorld) (hw : w0.WF) (ops : List BOp) (o : Bool) (s : Sel)
    (hk : s.kp = snap w0.cs (w0.obj o).rcell) (hrm : BWorld.SomeRemoval o w0 ops)
    (hlt : (w0.run ops).cs (w0.obj o).rcell < w0.cs (w0.obj o).rcell + W) :
    (s.raws ≠ [] → (w0.run ops).step (.selRead s) = (w0.run ops, none)) ∧
    (∀ i r, ((w0.run ops).step (.selAt s i)).2 = some (.ref r) → ∀ op, r ∈ op.refs → (w0.run ops).step op = (w0.run ops, none)) :=
  have hs : Stale s.kp (w0.run ops).cs := hk ▸ snap_stale (BWorld.run_removal o ops w0 hw hrm) hlt
  have h := (C15_table_world_selection_bounds_stale (w0.run ops)).1 s hs
  ⟨h.1, fun i r hr op hm => BWorld.stale_rejected _ op r hm (h.2 i r hr)⟩

/-- … hash bounds made in `w0`: rejected after any history that changed the rows of their table in any way -/
theorem C15_table_history_bounds_stale (w0 : BWorld) (hw : w0.WF) (ops : List BOp) (o : Bool) (m : MBounds)
    (hk : m.ckp = snap w0.cs (w0.obj o).ccell) (hch : BWorld.SomeChange o w0 ops)
    (hlt : (w0.run ops).cs (w0.obj o).ccell < w0.cs (w0.obj o).ccell + W) (i : Nat) :
    (w0.run ops).step (.mbAt m i) = (w0.run ops, none) :=
  (C15_table_world_selection_bounds_stale _).2 m i (hk ▸ snap_stale (BWorld.run_change o ops w0 hw hch) hlt)

/-- "operations that did not modify the container": a call that throws, a non-mutating entry point, a call on the other table and
    an insertion / replacement refused by the unique index increment no version of table `o`; insertions and single-column
    updates do not increment its remove version (`chg = false`) -/
theorem C15_table_no_increment_without_reason (w : BWorld) (hw : w.WF) (o : Bool) (chg : Bool) (op : BOp)
    (hq : BWorld.QuietStep o chg w op) :
    (w.step op).1.cs (w.obj o).rcell = w.cs (w.obj o).rcell ∧
    (chg = true → (w.step op).1.cs (w.obj o).ccell = w.cs (w.obj o).ccell) :=
  BWorld.step_quiet w hw o chg op hq

/-- **fresh_accepted over histories**, row references -/
theorem C15_table_history_ref_fresh (w0 : BWorld) (hw : w0.WF) (ops : List BOp) (o : Bool) (hq : BWorld.AllQuiet o false w0 ops) (raw : Nat) :
    let r := (w0.obj o).mkRef w0.cs raw
    let w := w0.run ops
    (w.step (.get r)).2.isSome = true ∧ (∀ b, (w.step (.updB o r b)).2.isSome = true) ∧ (w.step (.rmRef o r)).2.isSome = true ∧
    (w.step (.mkMut o r)).2.isSome = true ∧ (w.step (.newRow r)).2.isSome = true := by
  intro r w
  have hcell := (BWorld.run_quiet o false ops w0 hw hq).1
  obtain ⟨hid, -, hrc⟩ := (BWorld.run_inv ops w0 hw).2.2 o
  have hr : r = (w.obj o).mkRef w.cs raw := by
    simp only [r, w, Table.mkRef, hid, hrc]; rw [snap_eq_of_cell_eq hcell]
  rw [hr]
  exact BWorld.ref_fresh_accepted w o raw

/-- … selections and row pointers -/
theorem C15_table_history_selection_fresh (w0 : BWorld) (hw : w0.WF) (ops : List BOp) (o : Bool) (hq : BWorld.AllQuiet o false w0 ops)
    (s : Sel) (hk : s.kp = snap w0.cs (w0.obj o).rcell) :
    let w := w0.run ops
    (w.step (.selRead s)).2.isSome = true ∧ (∀ i r, (w.step (.selAt s i)).2 = some (.ref r) → (w.step (.get r)).2.isSome = true) := by
  intro w
  have h := Sel.check_accepted s w.cs (hk ▸ check_of_cell_eq (BWorld.run_quiet o false ops w0 hw hq).1)
  refine ⟨(Option.isSome_map ..).trans h.2, fun i r hr => ?_⟩
  obtain ⟨x, hx, e⟩ := Option.map_eq_some_iff.mp hr
  cases e
  exact (Option.isSome_map ..).trans (h.1 i _ hx)

/-- … hash bounds (they also watch the change version) -/
theorem C15_table_history_bounds_fresh (w0 : BWorld) (hw : w0.WF) (ops : List BOp) (o : Bool) (hq : BWorld.AllQuiet o true w0 ops)
    (m : MBounds) (hk : m.ckp = snap w0.cs (w0.obj o).ccell) (i : Nat) (hi : i < m.raws.length) :
    ((w0.run ops).step (.mbAt m i)).2.isSome = true :=
  (Option.isSome_map ..).trans
    (MBounds.check_accepted m _ (hk ▸ check_of_cell_eq ((BWorld.run_quiet o true ops w0 hw hq).2 rfl)) i hi)

/-! ## Array with index iterators, SegmentedArray -/

theorem Arr.remove_length {a a' : Arr} {i n : Nat} (h : a.remove i n = some a') : a'.items.length + n = a.items.length := by
  obtain ⟨hc, h⟩ := chk_bind h
  cases h
  obtain ⟨h1, h2⟩ := Bool.and_eq_true_iff.mp hc
  have h1 := of_decide_eq_true h1
  have h2 := of_decide_eq_true h2
  show (a.items.take i ++ a.items.drop (i + n)).length + n = a.items.length
  rw [List.length_append, List.length_take, List.length_drop]
  omega


/-- "an out-of-range index": the decision table of the index-checked entry points, for all natural arguments (no size_t
    wrap-around: `Remove(index, count)` is accepted exactly when `index + count ≤ count of the array`) -/
theorem C15_array_index_table (a : Arr) (i n v : Nat) :
    (a.at_ i).isSome = decide (i < a.items.length) ∧ (a.insert i n v).isSome = decide (i ≤ a.items.length) ∧
    (a.removeBack n).isSome = decide (n ≤ a.items.length) ∧ (a.remove i n).isSome = decide (i + n ≤ a.items.length) ∧
    (a.items.length < W → a.back.isSome = decide (0 < a.items.length)) := by
  refine ⟨ListFacts.isSome_getElem? a.items i, ?_, ?_, ?_, fun hlen => ?_⟩
  · unfold Arr.insert
    cases decide (i ≤ a.items.length) <;> rfl
  · unfold Arr.removeBack
    cases decide (n ≤ a.items.length) <;> rfl
  · have : decide (i + n ≤ a.items.length) = (decide (i ≤ a.items.length) && decide (n ≤ a.items.length - i)) := by
      rw [← Bool.decide_and]; exact decide_eq_decide.mpr (by omega)
    unfold Arr.remove
    rw [this]
    cases (decide (i ≤ a.items.length) && decide (n ≤ a.items.length - i)) <;> rfl
  · unfold Arr.back w64
    rw [ListFacts.isSome_getElem?]
    unfold W at hlen ⊢
    exact decide_eq_decide.mpr (by omega)

/-- "never corrupts the container": `AddBackNogrow` / `AddBackNogrowVar` / `AddBackNogrowCrt` of Array and SegmentedArray is accepted
    exactly when the count is below the capacity the object reports (otherwise `invalid_argument`, the array is returned
    unchanged - `none` carries no new state), and an accepted call appends exactly the item -/
theorem C15_array_nogrow_table (a : Arr) (cap v : Nat) :
    (a.addBackNogrow cap v).isSome = decide (a.items.length < cap) ∧
    (∀ a', a.addBackNogrow cap v = some a' → a'.items = a.items ++ [v] ∧ a'.id = a.id ∧ a'.seg = a.seg) := by
  unfold Arr.addBackNogrow
  by_cases h : a.items.length < cap
  · refine ⟨by simp [h, chk], ?_⟩
    intro a' ha
    simp [h, chk] at ha
    subst ha
    exact ⟨rfl, rfl, rfl⟩
  · refine ⟨by simp [h, chk], ?_⟩
    intro a' ha
    simp [h, chk] at ha

/-- index iterators: `+=` stays inside `[0, count]`, a null iterator only accepts `+= 0`, iterators of different arrays
    cannot be subtracted / compared, dereferencing a null iterator throws, SegmentedArray iterators also throw at the end -/
theorem C15_array_iterator_table (it jt : AIt) (a : Arr) (count : Nat) (d : Int) :
    (∀ x, it.arr = some x → it.idx ≤ count → count < 9223372036854775808 → -9223372036854775808 ≤ d → d < 9223372036854775808 →
      ((it.add count d).isSome = true ↔ (0 ≤ Int.ofNat it.idx + d ∧ Int.ofNat it.idx + d ≤ Int.ofNat count))) ∧
    (it.arr = none → (it.add count d).isSome = decide (d = 0)) ∧
    (it.sameArray jt).isSome = (it.arr == jt.arr) ∧
    (it.deref a).isSome = (it.arr.isSome && (!a.seg || decide (it.idx < a.items.length))) := by
  refine ⟨fun x ha h1 h2 h3 h4 => ?_, fun ha => ?_, ?_, ?_⟩
  · -- moving before the first element wraps to a huge index, which is above every count
    have key : addDiff it.idx d ≤ count ↔ (0 ≤ Int.ofNat it.idx + d ∧ Int.ofNat it.idx + d ≤ Int.ofNat count) := by
      unfold addDiff W
      simp only [Int.ofNat_eq_natCast]
      omega
    unfold AIt.add
    rw [ha]
    by_cases hk : addDiff it.idx d ≤ count
    · rw [decide_eq_true hk]; exact ⟨fun _ => key.mp hk, fun _ => rfl⟩
    · rw [decide_eq_false hk]; exact ⟨fun h => (nomatch h), fun h => absurd (key.mpr h) hk⟩
  · unfold AIt.add
    rw [ha]
    cases decide (d = 0) <;> rfl
  · unfold AIt.sameArray
    cases (it.arr == jt.arr) <;> rfl
  · unfold AIt.deref
    cases it.arr.isSome
    · rfl
    · cases a.seg
      · rfl
      · exact ListFacts.isSome_getElem? a.items it.idx

/-! ## The model's version table accounts for every increment / check site of the headers (T1) -/

/-- the numbers of `IncVersion()` / `++…Version()` / `…Proxy::Check(` sites found in the current headers equal the numbers
    of sites the model mirrors (lists `incSites…`, `checkSites…` of Model/Ver.lean); HashMap.h and TreeMap.h contain none -/
theorem C15_sites_accounted :
    Extracted.verIncSitesHashSet = incSitesHashSet.length ∧ Extracted.verIncSitesTreeSet = incSitesTreeSet.length ∧
    Extracted.verIncSitesHashMap = 0 ∧ Extracted.verIncSitesTreeMap = 0 ∧
    Extracted.verValueIncSites = incSitesValue.length ∧ Extracted.verChangeIncSites = incSitesChange.length ∧
    Extracted.verRemoveIncSites = incSitesRemove.length ∧ Extracted.verHashSetPosChecks = checkSitesHashSet.length ∧
    Extracted.verTreeSetIterChecks = checkSitesTreeSet.length ∧ Extracted.verMultiMapIterChecks = checkSitesMultiMap.length ∧
    Extracted.verKeeperCheckShape = 1 ∧ Extracted.verKeeperCheckAtShape = 1 ∧ Extracted.verCheckThrowsInvalidArgument = 1 ∧
    Extracted.verCrewIncSites = 1 ∧ Extracted.verSelectionReadChecks = 3 ∧
    Extracted.verTableRefChecks = checkSitesTable.length ∧ Extracted.verSelectionRefChecks = checkSitesSelection.length := by
  decide

/-! ## Non-vacuity: concrete states that satisfy the hypotheses -/

/-- A = {7, 3} (capacity 5, crew cell 0, 12 increments so far), B = {} (cell 1) -/
def exH : HWorld := ⟨fun c => if c = 0 then 12 else 0, ⟨0, [7, 3], 5⟩, ⟨1, [], 0⟩⟩

example : exH.WF := by simp [HWorld.WF, exH]
-- a position of key 7 made now, then `Insert(9)`: the position is stale and `Remove` / read / `Add` are rejected
example : (exH.step (.insert false 9 5)).1.shape 0 ≠ exH.shape 0 := by decide +kernel
example : HWorld.SomeChange 0 exH [.find true 4, .insert false 9 5] := by
  right; left; exact ⟨by intro o h k; simp, by decide +kernel⟩
example : Stale (exH.a.findPos exH.cs 7).kp (exH.run [.find true 4, .insert false 9 5]).cs :=
  ⟨0, 12, rfl, rfl, by decide +kernel, by decide +kernel⟩
example : ((exH.run [.insert false 9 5]).step (.remove false (exH.a.findPos exH.cs 7) none)).2 = none := by decide +kernel
-- `Insert(7)` (already present), `Find`, `Reserve(4)` (≤ capacity) are quiet no-ops: the position stays valid
example : HWorld.AllQuiet 0 exH [.insert false 7 5, .find false 3, .reserve false 4 5] := by
  refine ⟨Or.inr ⟨trivial, by decide +kernel⟩, Or.inr ⟨trivial, by decide +kernel⟩, Or.inr ⟨by simp [HOp.Quiet], by decide +kernel⟩, trivial⟩
example : ((exH.run [.insert false 7 5, .find false 3, .reserve false 4 5]).step (.remove false (exH.a.findPos exH.cs 7) none)).2.isSome = true := by
  decide +kernel
-- a position of A used with B is foreign
example : (exH.step (.remove true (exH.a.findPos exH.cs 7) none)).2 = none := by decide +kernel

/-- A = ⟨2, 5, 8⟩ with root, B = ⟨20, 30⟩: `A.MergeTo(B)` takes the pvMergeFast path -/
def exT : TWorld := ⟨fun _ => 3, ⟨0, [2, 5, 8], true, true, false⟩, ⟨1, [20, 30], true, true, false⟩⟩

example : exT.WF := by simp [TWorld.WF, exT]
example : (exT.step (.mergeTo false)).1.b.keys = [2, 5, 8, 20, 30] ∧ (exT.step (.mergeTo false)).1.a.root = false := by decide +kernel
-- iterators of source and destination made before the fast merge are both rejected afterwards
example : ((exT.step (.mergeTo false)).1.step (.deref (exT.a.beginIt exT.cs))).2 = none ∧
          ((exT.step (.mergeTo false)).1.step (.remove true (exT.b.beginIt exT.cs))).2 = none := by decide +kernel
-- while an iterator made after it is accepted
example : ((exT.step (.mergeTo false)).1.step (.remove true ((exT.step (.mergeTo false)).1.b.beginIt (exT.step (.mergeTo false)).1.cs))).2.isSome = true := by
  decide +kernel
-- `++end` and reading the end iterator are rejected although the root is a leaf
example : (exT.step (.inc (exT.a.endIt exT.cs))).2 = none := by decide +kernel

/-- key 1 ↦ [10, 11], key 2 ↦ [20]: `InsertKey(3)` moves only the key version, yet a value iterator made before is rejected -/
def exM : MMap := ⟨0, 1, [(2, [20]), (1, [10, 11])], 5⟩
example :
    let cs : Cells := fun _ => 0
    let it : VIt := ⟨⟨snap cs 0, some 1, true⟩, snap cs 1, some 0⟩
    (exM.vderef cs it).isSome = true ∧ (exM.insertKey cs 3 5).1 1 = cs 1 ∧
    (MMap.vinc (exM.insertKey cs 3 5).1 it none) = none ∧ ((exM.insertKey cs 3 5).2.1.vderef (exM.insertKey cs 3 5).1 it) = none := by
  decide +kernel

/-- a table with raws 0, 1, 2; removing row 1 makes earlier references and selections stale, adding a row does not -/
def exTbl : Table := ⟨7, 0, 1, [⟨0, 10, 5⟩, ⟨1, 11, 5⟩, ⟨2, 12, 6⟩], 3⟩
example :
    let cs : Cells := fun _ => 0
    let r := exTbl.mkRef cs 2
    ((exTbl.tryAdd cs 13 6).2.1.removeRef (exTbl.tryAdd cs 13 6).1 r).isSome = true ∧
    (∀ x, exTbl.removeNum cs 1 = some x → x.2.removeRef x.1 r = none ∧ (exTbl.select cs 1 0).readAll x.1 = none) := by
  refine ⟨by decide +kernel, ?_⟩
  intro x hx
  have : x = (exTbl.dropRow (fun _ => 0) 1) := by
    simp [Table.removeNum, exTbl] at hx; exact hx.symm
  subst this
  decide +kernel

/-- the multimap `exM` as object A (key cell 0, value cell 1) next to an empty object B (cells 2, 3) -/
def exMW : MWorld := ⟨fun _ => 0, exM, ⟨2, 3, [], 0⟩⟩

example : exMW.WF := by simp [MWorld.WF, exMW, exM]
example : exMW.CapInv := ⟨fun h => absurd h (by decide +kernel), fun _ => rfl⟩
example : exMW.vcellOf 0 = some 1 := by decide +kernel
-- `InsertKey(3)` changes the key set of A: key iterators and value iterators made before are rejected afterwards
example : MWorld.SomeKeyChange 0 exMW [.findKey true 4, .insertKey false 3 5] := by
  right; left; exact ⟨by intro o h k; simp, by decide +kernel⟩
example : MWorld.SomeChange 0 exMW [.findKey true 4, .insertKey false 3 5] := by
  right; left; exact ⟨by intro o h k; simp, by decide +kernel⟩
example : ((exMW.run [.findKey true 4, .insertKey false 3 5]).step (.vderef ⟨⟨snap exMW.cs 0, some 1, true⟩, snap exMW.cs 1, some 0⟩)).2 = none ∧
          ((exMW.run [.findKey true 4, .insertKey false 3 5]).step (.removeValues false ⟨snap exMW.cs 0, some 1, false⟩ none)).2 = none := by
  decide +kernel
-- `Find`, `InsertKey` of a stored key, `RemoveKey` of an absent key and an `Add` to the OTHER map are quiet for A
example : MWorld.AllQuiet 0 exMW [.findKey false 1, .insertKey false 1 5, .removeKeyByKey false 9, .add true 7 70 5] :=
  ⟨Or.inr (Or.inl rfl), Or.inr (Or.inr (Or.inr ⟨trivial, by decide +kernel⟩)), Or.inr (Or.inr (Or.inr ⟨trivial, by decide +kernel⟩)),
   Or.inr (Or.inr (Or.inl ⟨true, rfl, by decide +kernel⟩)), trivial⟩
example : ((exMW.run [.findKey false 1, .insertKey false 1 5, .removeKeyByKey false 9, .add true 7 70 5]).step
            (.remove false ⟨⟨snap exMW.cs 0, some 1, true⟩, snap exMW.cs 1, some 0⟩ none)).2.isSome = true := by
  decide +kernel
-- a key iterator of A used with B is foreign
example : (exMW.step (.removeValues true ⟨snap exMW.cs 0, some 1, false⟩ none)).2 = none := by decide +kernel

/-- the table `exTbl` as table A (change cell 0, remove cell 1) next to a table B with one row (cells 2, 3) -/
def exBW : BWorld := ⟨fun _ => 0, exTbl, ⟨8, 2, 3, [⟨100, 10, 5⟩], 101⟩⟩

example : exBW.WF := by simp [BWorld.WF, exBW, exTbl]
-- adding a row and then removing row 1: a row is gone, the rows changed
example : BWorld.SomeRemoval false exBW [.add false 13 6, .rmNum false 1] := by
  right; left; exact ⟨⟨1, 11, 5⟩, by decide +kernel, by decide +kernel⟩
example : BWorld.SomeChange false exBW [.add false 13 6] := by
  left; decide +kernel
-- a reference, a selection and hash bounds made before are rejected afterwards; a reference into A is foreign for B
example :
    let r := exBW.a.mkRef exBW.cs 2
    let w := exBW.run [.add false 13 6, .rmNum false 1]
    (w.step (.get r)).2 = none ∧ (w.step (.rmRefs false [exBW.a.mkRef w.cs 0, r] false)).2 = none ∧
    (w.step (.selRead (exBW.a.select exBW.cs 1 0))).2 = none ∧ (w.step (.mbAt (exBW.a.findMulti exBW.cs 5) 0)).2 = none ∧
    (exBW.step (.rmRef true r)).2 = none := by
  decide +kernel
-- insertions, a single-column update, a refused insertion, `Clear` of the OTHER table and `Select` are quiet for references into A
example : BWorld.AllQuiet false false exBW
    [.add false 13 6, .updB false (exBW.a.mkRef exBW.cs 0) 9, .add false 10 1, .clear true, .select false 1 0] :=
  ⟨Or.inr (Or.inr (Or.inr (Or.inr ⟨rfl, trivial⟩))), Or.inr (Or.inr (Or.inr (Or.inr ⟨rfl, trivial⟩))),
   Or.inr (Or.inr (Or.inr (Or.inl ⟨_, rfl⟩))), Or.inr (Or.inr (Or.inl rfl)), Or.inr (Or.inl rfl), trivial⟩
example : ((exBW.run [.add false 13 6, .updB false (exBW.a.mkRef exBW.cs 0) 9, .add false 10 1, .clear true, .select false 1 0]).step
            (.rmRef false (exBW.a.mkRef exBW.cs 2))).2.isSome = true := by
  decide +kernel
-- for hash bounds (change version) only calls that leave the rows alone are quiet
example : BWorld.AllQuiet false true exBW [.add false 10 1, .clear true, .findM false 5] :=
  ⟨Or.inr (Or.inr (Or.inr (Or.inl ⟨_, rfl⟩))), Or.inr (Or.inr (Or.inl rfl)), Or.inr (Or.inl rfl), trivial⟩

end Momo.Ver
