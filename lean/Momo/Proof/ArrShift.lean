import Momo.Proof.Arr
/-!
  C05: the four `ArrayShifter` functions refine the list specification; each proof splits the
  array where the function works and rewrites with the loop equations of `Proof/Arr.lean` (core Lean only).
  Suffixes: `_cells` is the statement for arbitrary cells (live or moved-from), `_spec` its all-live form against `Spec`;
  `removeIf_spec` is for arbitrary cells (its right side is `List.filter`, there is no separate live form).
-/
namespace Momo.Arr
variable {α : Type}

/-- the cell-level twin of `Spec.insertList`, right side of both `InsertNogrow` theorems -/
def insCells (a : Cells α) (index : Nat) (vs : Cells α) : Cells α := a.take index ++ vs ++ a.drop index

theorem insCells_split (p r vs : Cells α) {i : Nat} (h : i = p.length) : insCells (p ++ r) i vs = p ++ (vs ++ r) := by
  rw [insCells, List.take_left' h.symm, List.drop_left' h.symm, List.append_assoc]

theorem insCells_set (a vs : Cells α) (index j : Nat) (c : Cell α) (hi : index ≤ a.length) :
    insCells (a.set j c) index vs = (insCells a index vs).set (if j < index then j else j + vs.length) c := by
  obtain ⟨p, r, rfl, rfl⟩ := exists_split a hi
  rw [insCells_split p r vs rfl, List.set_append]
  split
  · next h => rw [insCells_split _ r vs List.length_set.symm, List.set_append_left _ _ h]
  · next h =>
    rw [insCells_split p _ vs rfl, ← List.append_assoc, ← List.append_assoc,
      List.set_append_right _ _ (by rw [List.length_append]; exact Nat.add_le_add_right (Nat.le_of_not_lt h) _),
      List.length_append, Nat.add_sub_add_right]

theorem insCells_live (xs ys : List α) (index : Nat) :
    insCells (xs.map Cell.live) index (ys.map Cell.live) = (Spec.insertList xs index ys).map Cell.live := by
  simp [insCells, Spec.insertList, List.map_take, List.map_drop]

/-- the first two loops of `InsertNogrow` (`index + count < initCount`): the last `|t| = count` cells are appended, the
    block `m` between `index` and them moves up by `count`, and `count` overwritten cells (`junk`) are left at `index`
    for the third loop -/
theorem loop12_split (keeps : Bool) (p m t : Cells α) (ht : 0 < t.length) {i : Nat} (hi : i = p.length + m.length) :
    ∃ junk, junk.length = t.length ∧
      loop2 keeps (loop1 keeps (p ++ (m ++ t)) i t.length) t.length i m.length = p ++ (junk ++ (m ++ t)) := by
  have h1 := loop1_split keeps t (p ++ m) [] (i := i) (by rw [hi, List.length_append])
  rw [List.append_nil, List.nil_append, List.append_assoc, List.append_assoc] at h1
  obtain ⟨junk, hj, h2⟩ := loop2_split keeps m p (t.map (afterMove keeps)) t (by rwa [List.length_map]) hi
  rw [List.length_map] at hj h2
  exact ⟨junk, hj, by rw [h1, h2]⟩

/-- `ArrayShifter::InsertNogrow(array, index, begin, count)` (ArrayUtility.h:226-260), both branches -/
theorem insertNogrowR_cells (keeps mv : Bool) (a : Cells α) (index : Nat) (rs : List (Ref α)) (vs : Cells α)
    (hi : index ≤ a.length) (hg : GoodAll mv index a rs vs) :
    insertNogrowR keeps mv a index rs = insCells a index vs := by
  have hlen := hg.length_eq
  obtain ⟨p, r, ha, hp⟩ := exists_split a hi
  rw [ha, insCells_split p r vs hp.symm]
  unfold insertNogrowR
  split
  · next h0 =>
    cases List.eq_nil_of_length_eq_zero (hlen ▸ h0)
    rfl
  next h0 =>
  have hb0 : AgreeBelow index a (p ++ r) := fun _ _ => by rw [ha]
  rw [List.length_append, hp]
  split
  · next hb =>
    obtain ⟨m, t, rfl, ht⟩ := exists_split_right r (Nat.le_of_lt (Nat.lt_of_add_lt_add_left hb))
    rw [List.length_append, ht, ← Nat.add_assoc, Nat.add_sub_cancel, Nat.add_sub_cancel_left, ← ht]
    obtain ⟨junk, hj, e⟩ := loop12_split keeps p m t (ht ▸ Nat.pos_of_ne_zero h0) (i := index + m.length) (by rw [hp])
    rw [e]
    exact loop3R_split keeps hg junk p (m ++ t) (hj.trans ht) hp.symm (Nat.le_refl _)
      (hb0.tail (Nat.le_of_eq hp.symm) _)
  · next hb =>
    have hr : r.length ≤ rs.length := Nat.le_of_add_le_add_left (Nat.le_of_not_lt hb)
    rw [Nat.add_sub_cancel_left, loopAR_spec keeps (hg.drop r.length) _ hb0
      (by rw [List.length_append, hp]; exact Nat.le_add_right _ _),
      List.append_assoc, loopBR_split keeps hg r p _ hr hp.symm (Nat.le_refl _) (hb0.tail (Nat.le_of_eq hp.symm) _),
      ← List.append_assoc (vs.take _), List.take_append_drop]

/-- `InsertNogrow(array, index, Item&&)` and the `ArrayItemHandler` form of `InsertCrt` -/
theorem insertNogrowR_one (keeps mv : Bool) (a : Cells α) (index : Nat) (r : Ref α) (x : α) (hi : index ≤ a.length)
    (hg : Good mv index a r (.live x)) : insertNogrowR keeps mv a index [r] = insCells a index ([x].map Cell.live) :=
  insertNogrowR_cells keeps mv a index [r] _ hi (.cons hg .nil)

theorem loop3_eq (keeps : Bool) (item : Ref α) : ∀ (c : Nat) (a : Cells α) (i : Nat),
    loop3 a item i c = loop3R keeps false (List.replicate c item) a i
  | 0, _, _ => rfl
  | c+1, a, i => by simp [loop3, loop3R, List.replicate_succ, assignFrom, loop3_eq keeps item c]

theorem loopA_eq (keeps : Bool) (item : Ref α) : ∀ (c : Nat) (a : Cells α),
    loopA a item c = loopAR keeps false (List.replicate c item) a
  | 0, _ => rfl
  | c+1, a => by simp [loopA, loopAR, List.replicate_succ, addBackFrom, loopA_eq keeps item c]

theorem loopB_eq (keeps : Bool) (item : Ref α) : ∀ (c m : Nat) (a : Cells α) (i : Nat), c ≤ m →
    loopB keeps a item i c = loopBR keeps false c (List.replicate m item) a i
  | 0, m, a, i, _ => by cases m <;> rfl
  | c+1, 0, _, _, h => by omega
  | c+1, m+1, a, i, h => by
    simp [loopB, loopBR, List.replicate_succ, assignFrom, loopB_eq keeps item c m _ _ (by omega)]

theorem insertNogrowN_eq (keeps : Bool) (a : Cells α) (index count : Nat) (item : Ref α) (hi : index ≤ a.length) :
    insertNogrowN keeps a index count item = insertNogrowR keeps false a index (List.replicate count item) := by
  unfold insertNogrowN insertNogrowR
  simp only [List.length_replicate]
  by_cases h0 : count = 0
  · simp [h0]
  rw [if_neg h0, if_neg h0]
  by_cases hb : index + count < a.length
  · rw [if_pos hb, if_pos hb, loop3_eq keeps]
  · have e : count - (a.length - index) = index + count - a.length := by omega
    rw [if_neg hb, if_neg hb, List.drop_replicate, ← loopA_eq keeps, ← loopB_eq keeps item _ _ _ _ (by omega), e]

/-- `ArrayShifter::InsertNogrow(array, index, count, item)` (ArrayUtility.h:196-224), both branches; `Good false` admits an
    `item` outside the array or an element below `index` -/
theorem insertNogrowN_cells (keeps : Bool) (a : Cells α) (index count : Nat) (item : Ref α) (v : Cell α)
    (hi : index ≤ a.length) (hg : Good false index a item v) :
    insertNogrowN keeps a index count item = insCells a index (List.replicate count v) := by
  rw [insertNogrowN_eq keeps _ _ _ _ hi,
    insertNogrowR_cells keeps false a index _ (List.replicate count v) hi (goodAll_replicate _ _ _ _ _ hg count)]

/-- `insert(pos, count, x)` -/
theorem insertNogrowN_spec (keeps : Bool) (xs : List α) (index count : Nat) (item : Ref α) (x : α)
    (hi : index ≤ xs.length) (hg : Good false index (xs.map Cell.live) item (.live x)) :
    insertNogrowN keeps (xs.map Cell.live) index count item = (Spec.insertN xs index count x).map Cell.live := by
  rw [insertNogrowN_cells keeps _ index count item _ (by simpa using hi) hg]
  have : List.replicate count (Cell.live x) = (List.replicate count x).map Cell.live := by simp
  rw [this, insCells_live]; rfl

/-- `insert(pos, first, last)` -/
theorem insertNogrowR_spec (keeps mv : Bool) (xs : List α) (index : Nat) (rs : List (Ref α)) (ys : List α)
    (hi : index ≤ xs.length) (hg : GoodAll mv index (xs.map Cell.live) rs (ys.map Cell.live)) :
    insertNogrowR keeps mv (xs.map Cell.live) index rs = (Spec.insertList xs index ys).map Cell.live := by
  rw [insertNogrowR_cells keeps mv _ index rs _ (by simpa using hi) hg, insCells_live]

theorem assignFrom_move_elem (keeps : Bool) (b : Cells α) (i j : Nat) (h : j ≠ i) :
    assignFrom keeps true b (.elem j) i =
      (assignFrom keeps false b (.elem j) i).set j (afterMove keeps (cellAt b j)) := by
  simp only [assignFrom, assignMove, if_neg h, if_true, Bool.false_eq_true, if_false, Ref.read]

/-- `InsertNogrow(array, index, Item&&)` where the item is an element below `index`, which `Good true` excludes -/
theorem insertNogrowR_move_elem (keeps : Bool) (a : Cells α) (index j : Nat) (hi : index ≤ a.length) (hj : j < index) :
    insertNogrowR keeps true a index [.elem j] =
      (insertNogrowR keeps false a index [.elem j]).set j (afterMove keeps (cellAt a j)) := by
  obtain ⟨p, r, rfl, rfl⟩ := exists_split a hi
  have hp : ∀ x, cellAt (p ++ x) j = cellAt p j := fun x => cellAt_append_left p x j hj
  unfold insertNogrowR
  simp only [List.length_singleton, Nat.succ_ne_zero, if_false, List.length_append, Nat.add_sub_cancel_left]
  split
  · next hb =>
    obtain ⟨m, t, rfl, ht⟩ := exists_split_right r (n := 1) (by omega)
    obtain ⟨junk, _, e⟩ := loop12_split keeps p m t (by omega) (i := p.length + m.length) rfl
    rw [ht] at e
    rw [Nat.add_sub_assoc (by omega), List.length_append, ht, Nat.add_sub_cancel, Nat.add_sub_cancel_left]
    simp only [loop3R]
    rw [assignFrom_move_elem _ _ _ _ (by omega), e, hp, hp]
  · next hb =>
    match r, hb with
    | [], _ => simp only [loopAR, loopBR, addBackFrom, addBackMove, Ref.read, if_true, Bool.false_eq_true, if_false,
        List.length_nil, List.drop_zero]
    | [x], _ =>
      simp only [List.length_singleton, List.drop_one, List.tail_cons, loopAR, loopBR]
      rw [assignFrom_move_elem _ _ _ _ (by omega), addBackMove_mid keeps p [] x rfl, hp, hp]
    | _ :: _ :: _, hb => exact absurd hb (by simp +arith)

/-- the block `m` moves down over the `count` cells `g` to be removed; `junk` is what is left at the end for `RemoveBack` -/
theorem loopRem_split (keeps : Bool) : ∀ (m p g q : Cells α) {i : Nat}, 0 < g.length → i = p.length + g.length →
    ∃ junk, junk.length = g.length ∧
      loopRem keeps (p ++ (g ++ (m ++ q))) g.length i m.length = p ++ (m ++ (junk ++ q))
  | [], p, g, q, _, _, _ => ⟨g, rfl, rfl⟩
  | x :: m, p, y :: g, q, i, _, hi => by
    obtain ⟨junk, hj, ih⟩ := loopRem_split keeps m (p ++ [x]) (g ++ [afterMove keeps x]) q (i := i + 1)
      (by simp) (by rw [hi]; simp +arith)
    refine ⟨junk, by simpa using hj, ?_⟩
    simp only [List.length_cons, loopRem, List.cons_append]
    rw [assignMove_down keeps p g (m ++ q) x y (by rw [hi]; simp) (by rw [hi]; simp +arith)]
    simpa using ih

/-- `ArrayShifter::Remove(array, index, count)` (ArrayUtility.h:277-287), its final `RemoveBack(count)` included -/
theorem remove_cells (keeps : Bool) (a : Cells α) (index count : Nat) (h : index + count ≤ a.length) :
    remove keeps a index count = a.take index ++ a.drop (index + count) := by
  unfold remove
  split
  · next h0 => rw [h0, Nat.add_zero, List.take_append_drop]
  next h0 =>
  obtain ⟨p, r, rfl, rfl⟩ := exists_split a (Nat.le_trans (Nat.le_add_right _ _) h)
  obtain ⟨g, m, rfl, rfl⟩ := exists_split r (n := count) (by simp at h; omega)
  obtain ⟨junk, hj, e⟩ := loopRem_split keeps m p g [] (i := p.length + g.length) (by omega) rfl
  have hl : (p ++ (g ++ m)).length - (p.length + g.length) = m.length := by simp +arith
  rw [List.append_nil] at e
  rw [hl, e, List.take_left, ← List.append_assoc p g, ← List.length_append, List.drop_left,
    ← List.append_assoc p m]
  exact List.take_left' (by simp; omega)

/-- `erase(first, last)` -/
theorem remove_spec (keeps : Bool) (xs : List α) (index count : Nat) (h : index + count ≤ xs.length) :
    remove keeps (xs.map Cell.live) index count = (Spec.remove xs index count).map Cell.live := by
  rw [remove_cells keeps _ index count (by simpa using h)]
  simp [Spec.remove, List.map_take, List.map_drop]

/-- the second loop of `Remove(array, itemFilter)`: `p` is already compacted, `g` the gap of selected cells passed so far;
    the cells of `m` the filter rejects move down behind `p`; `junk` is what `RemoveBack` then drops -/
theorem loopFilt_split (keeps : Bool) (pr : Cell α → Bool) : ∀ (m p g : Cells α) {nc i : Nat}, 0 < g.length →
    nc = p.length → i = p.length + g.length →
    ∃ junk, loopFilt keeps pr (p ++ (g ++ m)) nc i m.length =
      (p ++ (m.filter (fun c => !pr c) ++ junk), p.length + (m.filter (fun c => !pr c)).length)
  | [], p, g, nc, i, _, hn, _ => ⟨g, by rw [hn, List.append_nil]; rfl⟩
  | x :: m, p, y :: g, nc, i, _, hn, hi => by
    have hx : cellAt (p ++ (y :: g ++ x :: m)) i = x := by
      rw [← List.append_assoc]; exact cellAt_mid _ _ _ (by rw [hi, List.length_append])
    rw [List.length_cons, loopFilt, hx]
    cases hp : pr x
    · obtain ⟨junk, e⟩ := loopFilt_split keeps pr m (p ++ [x]) (g ++ [afterMove keeps x]) (nc := nc + 1) (i := i + 1)
        (by simp) (by simp [hn]) (by rw [hi]; simp +arith)
      refine ⟨junk, ?_⟩
      rw [if_neg Bool.false_ne_true, List.cons_append,
        assignMove_down keeps p g m x y hn (by rw [hi]; simp +arith)]
      simpa [hp, Nat.add_assoc, Nat.add_comm 1] using e
    · obtain ⟨junk, e⟩ := loopFilt_split keeps pr m p (y :: g ++ [x]) (nc := nc) (i := i + 1)
        (by simp) hn (by rw [hi]; simp +arith)
      exact ⟨junk, by rw [if_pos rfl]; simpa [hp] using e⟩

theorem loopFilt_count_le (keeps : Bool) (p : Cell α → Bool) : ∀ (f : Nat) (a : Cells α) (nc i : Nat),
    (loopFilt keeps p a nc i f).2 ≤ nc + f ∧ (loopFilt keeps p a nc i f).1.length = a.length
  | 0, a, nc, i => by simp [loopFilt]
  | f+1, a, nc, i => by
    simp only [loopFilt]
    split
    · have := loopFilt_count_le keeps p f a nc (i+1); omega
    · have := loopFilt_count_le keeps p f (assignMove keeps a i nc) (nc+1) (i+1)
      rw [assignMove_length] at this; omega

/-- the first `while` loop of `Remove(array, itemFilter)`, which stops at the first cell the filter selects -/
theorem firstHit_split_from (p : Cell α → Bool) : ∀ (r d : Cells α), (∀ c ∈ d, p c = false) →
    ∃ pre rest, d ++ r = pre ++ rest ∧ firstHit p (d ++ r) d.length r.length = pre.length ∧
      (∀ c ∈ pre, p c = false) ∧ ∀ y m, rest = y :: m → p y = true
  | [], d, hd => ⟨d, [], rfl, rfl, hd, fun _ _ h => nomatch h⟩
  | x :: r, d, hd => by
    rw [List.length_cons, firstHit, cellAt_mid d r x rfl, List.length_append, List.length_cons,
      decide_eq_true (Nat.lt_add_of_pos_right (Nat.succ_pos _)), Bool.true_and]
    cases hx : p x
    · obtain ⟨pre, rest, e, hk, h1, h2⟩ := firstHit_split_from p r (d ++ [x]) fun c hc =>
        (List.mem_append.1 hc).elim (hd c) fun h => List.mem_singleton.1 h ▸ hx
      rw [List.append_assoc] at e hk
      rw [List.length_append] at hk
      exact ⟨pre, rest, e, hk, h1, h2⟩
    · exact ⟨d, x :: r, rfl, rfl, hd, fun y m h => (List.cons.inj h).1 ▸ hx⟩

theorem firstHit_split (p : Cell α → Bool) (a : Cells α) :
    ∃ pre rest, a = pre ++ rest ∧ firstHit p a 0 a.length = pre.length ∧
      (∀ c ∈ pre, p c = false) ∧ ∀ y m, rest = y :: m → p y = true :=
  firstHit_split_from p a [] fun _ h => nomatch h

theorem firstHit_le (p : Cell α → Bool) (a : Cells α) : firstHit p a 0 a.length ≤ a.length := by
  obtain ⟨pre, rest, e, hk, _⟩ := firstHit_split p a
  rw [hk, e, List.length_append]; exact Nat.le_add_right _ _

/-- `ArrayShifter::Remove(array, itemFilter)` (ArrayUtility.h:289-307) is `erase_if` -/
theorem removeIf_spec (keeps : Bool) (p : Cell α → Bool) (a : Cells α) :
    removeIf keeps p a = (a.filter (fun c => !p c), a.length - (a.filter (fun c => !p c)).length) := by
  unfold removeIf removeIfAt finishFilt
  obtain ⟨pre, r, ha, hk, hpre, hr⟩ := firstHit_split p a
  have hf : pre.filter (fun c => !p c) = pre := List.filter_eq_self.2 fun c hc => by rw [hpre c hc]; rfl
  rw [hk]; subst ha
  rw [List.filter_append, hf]
  match r, hr with
  | [], _ => simp [loopFilt]
  | y :: m, hr =>
    obtain ⟨junk, e⟩ := loopFilt_split keeps p m pre [y] (nc := pre.length) (i := pre.length + 1) Nat.one_pos rfl rfl
    have hfy : (y :: m).filter (fun c => !p c) = m.filter (fun c => !p c) := by simp [hr y m rfl]
    rw [List.singleton_append] at e
    rw [show (pre ++ y :: m).length - (pre.length + 1) = m.length by simp +arith]
    rw [e, hfy, ← List.append_assoc, ← List.length_append, List.take_left]

theorem filter_map_live (p : α → Bool) (xs : List α) :
    (xs.map Cell.live).filter (fun c => !liftPred p c) = (xs.filter (fun x => !p x)).map Cell.live := by
  induction xs with
  | nil => rfl
  | cons x xs ih =>
    have hl : liftPred p (Cell.live x) = p x := rfl
    cases hp : p x <;> simp [hl, hp, ih]

end Momo.Arr

