import Momo.Proof.TrEqMisc2Sort
import Momo.Proof.TrEqMisc2Math
import Momo.Proof.TrEqMisc2Col
import Momo.Proof.TrEqMisc2Bucket
/-!
  Area Misc of the translator (tools/trspecs/Misc.py → lean/Momo/Translated/Misc.lean; areas and file names: header of
  `TrEqMisc`, which itself is about the base table, not this area): the equivalence proofs, one file per property (each header
  names it); this module collects them.
-/
