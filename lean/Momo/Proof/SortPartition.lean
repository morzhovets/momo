import Momo.Proof.SortRadix
/-!
  C17: the in-place partition of `RadixSorter` (the 5-argument `pvRadixSort`,
  RadixSorter.h:184-208, a cycle-leader / "American flag" permutation) meets `PartSpec`: every swap target lies
  inside the range, the loops terminate, and the result is the range in non-decreasing radix order.
-/
namespace Momo.Sort
variable {σ α : Type}

/-- `Σ_{q<n} g q`; the partition's fuel is `sumTo cumC N - sumTo (cnt B) N`, the increments still possible -/
def sumTo (g : Nat → Nat) : Nat → Nat
  | 0 => 0
  | n + 1 => sumTo g n + g n

theorem sumTo_le {a b : Nat → Nat} : ∀ (n : Nat), (∀ q, q < n → a q ≤ b q) → sumTo a n ≤ sumTo b n := by
  intro n
  induction n with
  | zero => intro _; exact Nat.le_refl _
  | succ n ih => intro h; exact Nat.add_le_add (ih fun q hq => h q (Nat.lt_succ_of_lt hq)) (h n (Nat.lt_succ_self n))

theorem sumTo_update {a a' : Nat → Nat} (r : Nat) (h : ∀ q, a' q = if q = r then a r + 1 else a q) :
    ∀ (n : Nat), sumTo a' n = sumTo a n + (if r < n then 1 else 0) := by
  intro n
  induction n with
  | zero => simp [sumTo]
  | succ n ih =>
    rw [sumTo, sumTo, ih, h n]
    by_cases h1 : r < n
    · rw [if_pos h1, if_neg (Nat.ne_of_gt h1), if_pos (Nat.lt_succ_of_lt h1)]; omega
    · by_cases h2 : n = r
      · subst h2; rw [if_neg h1, if_pos rfl, if_pos (Nat.lt_succ_self n)]; omega
      · rw [if_neg h1, if_neg h2, if_neg (by omega)]; rfl

theorem sumTo_shift {st cu : Nat → Nat} (h0 : st 0 = 0) (hs : ∀ q, st (q + 1) = cu q) :
    ∀ (n : Nat), sumTo st (n + 1) = sumTo cu n := by
  intro n
  induction n with
  | zero => simp [sumTo, h0]
  | succ n ih => rw [sumTo, ih, hs n]; rfl

section
variable (f : α × Nat → Nat)

theorem succ_run_le_countP (l : List (α × Nat)) (q a b p : Nat) (hab : a ≤ b) (hb : b ≤ l.length)
    (hall : ∀ i, a ≤ i → i < b → ky f l i = q) (hp : p < l.length) (hout : p < a ∨ b ≤ p) (hpq : ky f l p = q) :
    b - a + 1 ≤ l.countP (fun x => f x == q) := by
  have hpx : (f (l[p]'hp) == q) = true := beq_iff_eq.2 ((ky_eq f hp).symm.trans hpq)
  have hsplit : l = l.take a ++ ((l.drop a).take (b - a) ++ l.drop b) := by
    have : l.drop b = (l.drop a).drop (b - a) := by rw [List.drop_drop, Nat.add_sub_of_le hab]
    rw [this, List.take_append_drop, List.take_append_drop]
  have hl : ((l.drop a).take (b - a)).length = b - a := by rw [List.length_take, List.length_drop]; omega
  have hmid : ((l.drop a).take (b - a)).countP (fun x => f x == q) = b - a :=
    (List.countP_eq_length.2 fun x hx => by
      obtain ⟨i, hi, rfl⟩ := List.mem_iff_getElem.1 hx
      rw [List.getElem_take, List.getElem_drop]
      exact beq_iff_eq.2 ((ky_eq f _).symm.trans (hall (a + i) (Nat.le_add_right a i) (by omega)))).trans hl
  rw [hsplit, List.countP_append, List.countP_append, hmid]
  rcases hout with h | h
  · have : 0 < (l.take a).countP (fun x => f x == q) :=
      List.countP_pos_iff.2 ⟨l[p], List.mem_iff_getElem.2 ⟨p, by rw [List.length_take]; omega, List.getElem_take⟩, hpx⟩
    omega
  · have : 0 < (l.drop b).countP (fun x => f x == q) :=
      List.countP_pos_iff.2 ⟨l[p], List.mem_iff_getElem.2 ⟨p - b, by rw [List.length_drop]; omega,
        by rw [List.getElem_drop]; exact getElem_congr_idx (Nat.add_sub_of_le h)⟩, hpx⟩
    omega

end

/-- `l` is the current arrangement of the range `seg`, `B` the current `beginIndexes`: each bucket's
cursor lies inside the bucket and everything before a cursor already has the bucket's key -/
structure PInv (f : α × Nat → Nat) (N : Nat) (seg l : List (α × Nat)) (B : Array Nat) : Prop where
  perm : l.Perm seg
  size : B.size = N
  lo : ∀ q, q < N → startC f seg q ≤ cnt B q
  hi : ∀ q, q < N → cnt B q ≤ cumC f seg q
  placed : ∀ q, q < N → ∀ i, startC f seg q ≤ i → i < cnt B q → ky f l i = q

section
variable {f : α × Nat → Nat} {N : Nat} {seg l : List (α × Nat)} {B : Array Nat}

theorem PInv.count_eq (h : PInv f N seg l B) (q : Nat) :
    l.countP (fun x => f x == q) = cumC f seg q - startC f seg q := by
  rw [h.perm.countP_eq, cumC_eq_startC_add]; omega

/-- The one idea of the in-place partition: the cell under a cursor belongs to a bucket that is not full.  Were bucket
`q` full, its whole index range would hold cells of key `q`, and with the cell under the cursor there would be more
such cells than the range has room for (`succ_run_le_countP`). -/
theorem PInv.room (h : PInv f N seg l B) (hkeys : ∀ x ∈ seg, f x < N) {r : Nat} (hr : r < N)
    (hbi : cnt B r < cumC f seg r) (hne : ky f l (cnt B r) ≠ r) :
    ky f l (cnt B r) < N ∧ cnt B (ky f l (cnt B r)) < cumC f seg (ky f l (cnt B r)) := by
  have hlen : l.length = seg.length := h.perm.length_eq
  have hbl : cnt B r < l.length := by have := cumC_le_length f seg r; omega
  have hqN : ky f l (cnt B r) < N := by
    rw [ky_eq f hbl]
    exact hkeys _ (h.perm.mem_iff.1 (List.getElem_mem hbl))
  refine ⟨hqN, ?_⟩
  apply Decidable.byContradiction
  intro hfull
  have hfull' : cnt B (ky f l (cnt B r)) = cumC f seg (ky f l (cnt B r)) := by
    have := h.hi _ hqN; omega
  have hout : cnt B r < startC f seg (ky f l (cnt B r)) ∨ cumC f seg (ky f l (cnt B r)) ≤ cnt B r := by
    rcases Nat.lt_or_gt_of_ne hne with hlt | hgt
    · right; have := cumC_le_startC f seg hlt; have := h.lo r hr; omega
    · left; have := cumC_le_startC f seg hgt; omega
  have := succ_run_le_countP f l (ky f l (cnt B r)) (startC f seg _) (cumC f seg _) (cnt B r) (startC_le_cumC f seg _)
    (by rw [hlen]; exact cumC_le_length f seg _)
    (fun i h1 h2 => h.placed _ hqN i h1 (by omega)) hbl hout rfl
  rw [h.count_eq] at this
  omega

theorem PInv.placed_ne_cursor (h : PInv f N seg l B) {q q' i : Nat} (hq : q < N) (hq' : q' < N)
    (hi1 : startC f seg q ≤ i) (hi2 : i < cnt B q) (hroom : cnt B q' < cumC f seg q') : i ≠ cnt B q' := by
  by_cases hqq : q = q'
  · subst hqq; exact Nat.ne_of_lt hi2
  · exact region_disjoint f seg hqq hi1 (Nat.lt_of_lt_of_le hi2 (h.hi q hq)) (h.lo q' hq') hroom

theorem PInv.step (h : PInv f N seg l B) {l' : List (α × Nat)} {B' : Array Nat} {q : Nat} (hperm : l'.Perm l)
    (hsz : B'.size = B.size) (hq : q < N) (hroom : cnt B q < cumC f seg q)
    (hget : ∀ x, cnt B' x = if x = q then cnt B q + 1 else cnt B x) (hnew : ky f l' (cnt B q) = q)
    (hold : ∀ q', q' < N → ∀ i, startC f seg q' ≤ i → i < cnt B q' → ky f l' i = q') :
    PInv f N seg l' B' ∧ (∀ x, cnt B x ≤ cnt B' x) ∧ sumTo (cnt B') N = sumTo (cnt B) N + 1 := by
  have hmono : ∀ x, cnt B x ≤ cnt B' x := fun x => by
    rw [hget]; split
    · subst x; exact Nat.le_succ _
    · exact Nat.le_refl _
  refine ⟨⟨hperm.trans h.perm, hsz.trans h.size, fun x hx => Nat.le_trans (h.lo x hx) (hmono x), fun x hx => ?_,
    fun q' hq' i hi1 hi2 => ?_⟩, hmono, by rw [sumTo_update q hget N, if_pos hq]⟩
  · rw [hget]; split
    · subst x; exact hroom
    · exact h.hi x hx
  · rw [hget] at hi2
    by_cases hqq : q' = q
    · subst hqq
      rw [if_pos rfl] at hi2
      rcases Nat.eq_or_lt_of_le (Nat.le_of_lt_succ hi2) with rfl | hlt
      · exact hnew
      · exact hold q' hq' i hi1 hlt
    · rw [if_neg hqq] at hi2
      exact hold q' hq' i hi1 hi2

end

section
variable {M : Mem σ α} {abs : σ → List (α × Nat)} {ok : σ → Prop} (L : Lawful M abs ok)
  (pre post : List (α × Nat)) (R shift : Nat) (seg : List (α × Nat))
include L

theorem partInner_spec (r : Nat) (hr : r < 2 ^ R) :
    ∀ (fuel : Nat) (s : σ) (l : List (α × Nat)) (B : Array Nat),
      PInv (rad R shift) (2 ^ R) seg l B → Holds abs ok s (pre ++ l ++ post) →
      sumTo (cumC (rad R shift) seg) (2 ^ R) - sumTo (cnt B) (2 ^ R) < fuel →
      ∃ s' l' B', partInner M R pre.length shift r (cumC (rad R shift) seg r) fuel s B = some (s', B') ∧
        Holds abs ok s' (pre ++ l' ++ post) ∧ PInv (rad R shift) (2 ^ R) seg l' B' ∧
        cnt B' r = cumC (rad R shift) seg r ∧ ∀ q, q < 2 ^ R → cnt B q ≤ cnt B' q := by
  have hkeys : ∀ x ∈ seg, rad R shift x < 2 ^ R := fun x _ => rad_lt x
  intro fuel
  induction fuel with
  | zero => intro s l B _ _ h; omega
  | succ fu ih =>
    intro s l B hinv hh hfuel
    have hBget : ∀ q, q < 2 ^ R → B[q]? = some (cnt B q) := fun q hq => getElem?_eq_cnt (hinv.size ▸ hq)
    rw [partInner, hBget r hr]
    simp only [Option.bind_some]
    by_cases hbi : cnt B r < cumC (rad R shift) seg r
    · have hbl : cnt B r < l.length := by
        have := cumC_le_length (rad R shift) seg r; have := hinv.perm.length_eq; omega
      rw [if_pos hbi, L.code_at hh (cnt B r) hbl]
      simp only [Option.bind_some]
      rw [show getRadix R (l[cnt B r]'hbl).2 shift = ky (rad R shift) l (cnt B r) from (ky_eq (rad R shift) hbl).symm]
      -- an increment that respects `hi` uses up one unit of fuel
      have hrest : ∀ (s' : σ) (l' : List (α × Nat)) (B' : Array Nat), Holds abs ok s' (pre ++ l' ++ post) →
          (PInv (rad R shift) (2 ^ R) seg l' B' ∧ (∀ x, cnt B x ≤ cnt B' x) ∧
            sumTo (cnt B') (2 ^ R) = sumTo (cnt B) (2 ^ R) + 1) →
          ∃ s'' l'' B'', partInner M R pre.length shift r (cumC (rad R shift) seg r) fu s' B' = some (s'', B'') ∧
            Holds abs ok s'' (pre ++ l'' ++ post) ∧ PInv (rad R shift) (2 ^ R) seg l'' B'' ∧
            cnt B'' r = cumC (rad R shift) seg r ∧ ∀ q, q < 2 ^ R → cnt B q ≤ cnt B'' q := by
        intro s' l' B' hh' ⟨hinv', hmono, hsum⟩
        have := sumTo_le (2 ^ R) hinv'.hi
        obtain ⟨s'', l'', B'', g1, g2, g3, g4, g5⟩ := ih s' l' B' hinv' hh' (by omega)
        exact ⟨s'', l'', B'', g1, g2, g3, g4, fun x hx => Nat.le_trans (hmono x) (g5 x hx)⟩
      by_cases hne : ky (rad R shift) l (cnt B r) ≠ r
      · -- the cell under the cursor belongs to bucket `q`: it goes under that bucket's cursor
        obtain ⟨hqN, hroom⟩ := hinv.room hkeys hr hbi hne
        generalize hq : ky (rad R shift) l (cnt B r) = q at hne hqN hroom ⊢
        have hbjl : cnt B q < l.length := by
          have := cumC_le_length (rad R shift) seg q; have := hinv.perm.length_eq; omega
        obtain ⟨s', hs', hh'⟩ := L.swap_at hh (cnt B r) (cnt B q) hbl hbjl
        obtain ⟨B', hB', hsz', hget'⟩ := incr_spec B q (by rw [hinv.size]; exact hqN)
        rw [if_pos hne, hBget q hqN, Option.bind_some, hs', Option.bind_some, hB', Option.bind_some]
        refine hrest s' _ B' hh' (hinv.step swapL_perm hsz' hqN hroom hget' ?_ fun q' hq' i hi1 hi2 => ?_)
        · rw [ky_swapL _ l _ _ _ hbl hbjl, transp_right, hq]
        · rw [ky_swapL _ l _ _ i hbl hbjl, transp_of_ne (hinv.placed_ne_cursor hq' hqN hi1 hi2 hroom)
            (hinv.placed_ne_cursor hq' hr hi1 hi2 hbi)]
          exact hinv.placed q' hq' i hi1 hi2
      · obtain ⟨B', hB', hsz', hget'⟩ := incr_spec B r (by rw [hinv.size]; exact hr)
        rw [if_neg hne, hB', Option.bind_some]
        exact hrest s l B' hh (hinv.step (List.Perm.refl _) hsz' hr hbi hget' (Decidable.not_not.1 hne) hinv.placed)
    · rw [if_neg hbi]
      exact ⟨s, l, B, rfl, hh, hinv, Nat.le_antisymm (hinv.hi r hr) (Nat.le_of_not_lt hbi), fun q _ => Nat.le_refl _⟩

end

theorem bucket_of_index (f : α × Nat → Nat) (l : List (α × Nat)) (i : Nat) :
    ∀ (m : Nat), i < cumC f l m → ∃ q, q ≤ m ∧ startC f l q ≤ i ∧ i < cumC f l q := by
  intro m
  induction m with
  | zero => intro h; exact ⟨0, Nat.le_refl _, by rw [startC_zero]; omega, h⟩
  | succ m ih =>
    intro h
    by_cases hm : i < cumC f l m
    · obtain ⟨q, h1, h2, h3⟩ := ih hm
      exact ⟨q, Nat.le_succ_of_le h1, h2, h3⟩
    · exact ⟨m + 1, Nat.le_refl _, by rw [startC_succ]; omega, h⟩

theorem sorted_of_placed (f : α × Nat → Nat) (l : List (α × Nat)) (N : Nat) (hkeys : ∀ x ∈ l, f x < N + 1)
    (h : ∀ q, q < N + 1 → ∀ i, startC f l q ≤ i → i < cumC f l q → ky f l i = q) :
    l.Pairwise (fun x y => f x ≤ f y) := by
  rw [List.pairwise_iff_getElem]
  intro i j hi hj hij
  have hlast := cumC_last f l N hkeys
  obtain ⟨qi, a1, a2, a3⟩ := bucket_of_index f l i N (by omega)
  obtain ⟨qj, b1, b2, b3⟩ := bucket_of_index f l j N (by omega)
  have e1 := h qi (by omega) i a2 a3
  have e2 := h qj (by omega) j b2 b3
  rw [ky_eq f hi] at e1
  rw [ky_eq f hj] at e2
  rw [e1, e2]
  apply Decidable.byContradiction
  intro hlt
  have := cumC_le_startC f l (show qj < qi by omega)
  omega

section
variable {M : Mem σ α} {abs : σ → List (α × Nat)} {ok : σ → Prop} (L : Lawful M abs ok)
  (pre post : List (α × Nat)) (R shift : Nat) (seg : List (α × Nat)) (E : Array Nat)
  (hEsz : E.size = 2 ^ R) (hEcnt : ∀ q, q < 2 ^ R → cnt E q = cumC (rad R shift) seg q)
include L hEsz hEcnt

theorem partOuter_spec :
    ∀ (n r : Nat) (s : σ) (l : List (α × Nat)) (B : Array Nat), r + n = 2 ^ R →
      PInv (rad R shift) (2 ^ R) seg l B → Holds abs ok s (pre ++ l ++ post) →
      (∀ q, q < r → cnt B q = cumC (rad R shift) seg q) →
      ∃ s' l' B', partOuter M R pre.length shift seg.length E n r s B = some s' ∧
        Holds abs ok s' (pre ++ l' ++ post) ∧ PInv (rad R shift) (2 ^ R) seg l' B' ∧
        ∀ q, q < 2 ^ R → cnt B' q = cumC (rad R shift) seg q := by
  intro n
  induction n with
  | zero =>
    intro r s l B hrn hinv hh hdone
    exact ⟨s, l, B, rfl, hh, hinv, fun q hq => hdone q (Nat.lt_of_lt_of_le hq (Nat.le_of_eq hrn.symm))⟩
  | succ n ih =>
    intro r s l B hrn hinv hh hdone
    have hr : r < 2 ^ R := by omega
    rw [partOuter, getElem?_eq_cnt (hEsz ▸ hr), hEcnt r hr, Option.bind_some]
    -- the fuel `count + 1` exceeds the number of increments still possible
    have hfuel : sumTo (cumC (rad R shift) seg) (2 ^ R) - sumTo (cnt B) (2 ^ R) < seg.length + 1 := by
      obtain ⟨N, hN⟩ : ∃ N, 2 ^ R = N + 1 := ⟨2 ^ R - 1, by omega⟩
      rw [hN]
      have h1 : sumTo (cumC (rad R shift) seg) (N + 1) = sumTo (startC (rad R shift) seg) (N + 1) + seg.length := by
        rw [sumTo, sumTo_shift (startC_zero _ seg) (startC_succ _ seg) N,
          cumC_last (rad R shift) seg N (fun x _ => hN ▸ rad_lt x)]
      have h2 := sumTo_le (a := startC (rad R shift) seg) (b := cnt B) (N + 1) (fun q hq => hinv.lo q (hN ▸ hq))
      omega
    obtain ⟨s', l', B', g1, g2, g3, g4, g5⟩ := partInner_spec L pre post R shift seg r hr (seg.length + 1) s l B hinv hh hfuel
    rw [g1, Option.bind_some]
    refine ih (r + 1) s' l' B' (by omega) g3 g2 fun q hq => ?_
    by_cases hqr : q = r
    · rw [hqr]; exact g4
    · have hq' : q < 2 ^ R := by omega
      exact Nat.le_antisymm (g3.hi q hq') (hdone q (Nat.lt_of_le_of_ne (Nat.le_of_lt_succ hq) hqr) ▸ g5 q hq')

end

theorem cnt_beginIndexes_succ (E : Array Nat) (q : Nat) (h : q + 1 < E.size) : cnt (beginIndexes E) (q + 1) = cnt E q := by
  have h1 : ¬ q + 1 < (#[0] : Array Nat).size := Nat.not_lt.2 (Nat.le_add_left 1 q)
  rw [cnt, cnt, beginIndexes, Array.getElem?_append, if_neg h1, Array.getElem?_pop,
    show q + 1 - (#[0] : Array Nat).size = q from Nat.add_sub_cancel .., if_pos (Nat.lt_sub_of_add_lt h)]

theorem cnt_beginIndexes_zero (E : Array Nat) : cnt (beginIndexes E) 0 = 0 := by
  rw [cnt, beginIndexes, Array.getElem?_append, if_pos (show 0 < (#[0] : Array Nat).size from Nat.one_pos)]; rfl

theorem partition_spec {M : Mem σ α} {abs : σ → List (α × Nat)} {ok : σ → Prop} (L : Lawful M abs ok) (R : Nat) :
    PartSpec abs ok R (partition M R) := by
  intro s pre seg post shift E hh hEsz hEcnt
  unfold partition
  have hpos : 0 < 2 ^ R := Nat.pos_of_ne_zero (by simp)
  have hB : ∀ q, q < 2 ^ R → cnt (beginIndexes E) q = startC (rad R shift) seg q := fun q hq => by
    cases q with
    | zero => rw [startC_zero, cnt_beginIndexes_zero]
    | succ q => rw [cnt_beginIndexes_succ E q (hEsz ▸ hq), hEcnt q (Nat.lt_of_succ_lt hq), ← cumC_def, startC_succ]
  have hinv : PInv (rad R shift) (2 ^ R) seg seg (beginIndexes E) := by
    refine ⟨List.Perm.refl _, ?_, ?_, ?_, ?_⟩
    · unfold beginIndexes; simp; omega
    · intro q hq; rw [hB q hq]; exact Nat.le_refl _
    · intro q hq; rw [hB q hq]; exact startC_le_cumC _ _ _
    · intro q hq i h1 h2; rw [hB q hq] at h2; omega
  obtain ⟨s', l', B', g1, g2, g3, g4⟩ := partOuter_spec L pre post R shift seg E hEsz
    (fun q hq => by rw [hEcnt q hq, cumC_def]) (2 ^ R) 0 s seg (beginIndexes E) (by omega) hinv hh (fun q hq => by omega)
  refine ⟨s', l', g1, g2, g3.perm, ?_⟩
  obtain ⟨N, hN⟩ : ∃ N, 2 ^ R = N + 1 := ⟨2 ^ R - 1, by omega⟩
  apply sorted_of_placed (rad R shift) l' N (fun x _ => hN ▸ rad_lt x)
  intro q hq i h1 h2
  rw [startC_perm _ g3.perm] at h1
  rw [cumC_perm _ g3.perm] at h2
  exact g3.placed q (by omega) i h1 (by rw [g4 q (by omega)]; exact h2)

end Momo.Sort
