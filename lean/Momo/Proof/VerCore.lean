import Momo.Model.Ver
import Momo.Proof.ListFacts
/-!
  What the container kinds of C15 share: `VersionKeeper` snapshots (`Stale`), increments of one version cell (`Bumped`), two containers side by
  side (`owner2`, `Moved`, `Merged`); for the two set kinds, generic in the object type, `SEff`, `SetOutcome`, `StepFacts`.
  *What a handle watches*: the state whose change leaves the handle dangling in the C++ - hash positions: keys and capacity; tree iterators: keys,
  root node, node params; multimap key iterators: key list and nested capacity, value iterators: the contents; row references and selections:
  whether a row is gone; hash bounds: the rows.  "Bump on mutation" says that a change of it increments the version the handle snapshots.
  *Quiet*: conversely, an unchanged watched state implies no increment ("no false positive"); true only of some entry points (`Clear(false)`,
  `Remove(iter)` increment regardless), hence a parameter: `q` of `Bumped` / `SEff` / `SetOutcome`, `hq` of `MWorld.Outcome.upd`, `flag` / `keeps` of `TblEffX`.
  The `bump*` lemmas: an equation without hypothesis takes all its arguments explicitly, one with a disequality only the disequality.
-/
namespace Momo.Ver

theorem W_pos : 0 < W := by decide

theorem chk_eq_none {b : Bool} : chk b = none ↔ b = false := by
  cases b <;> simp [chk]

@[simp] theorem chk_true : chk true = some () := rfl
@[simp] theorem chk_false : chk false = none := rfl

theorem chk_bind {α : Type} {b : Bool} {f : Unit → Option α} {r : α} (h : (chk b >>= f) = some r) :
    b = true ∧ f () = some r := by
  cases b
  · exact nomatch h
  · exact ⟨rfl, h⟩

@[simp] theorem bumpN_same (cs : Cells) (c n : Nat) : bumpN cs c n c = cs c + n := if_pos rfl
theorem bumpN_other {cs : Cells} {c i n : Nat} (h : i ≠ c) : bumpN cs c n i = cs i := if_neg h
theorem le_bumpN (cs : Cells) (c n i : Nat) : cs i ≤ bumpN cs c n i := by
  unfold bumpN; split
  · exact Nat.le_add_right _ _
  · exact Nat.le_refl _
theorem bumpN_zero (cs : Cells) (c : Nat) : bumpN cs c 0 = cs := by
  funext i; unfold bumpN; split <;> rfl
theorem bumpN_one (cs : Cells) (c : Nat) : bumpN cs c 1 = bump cs c := rfl
@[simp] theorem bump_same (cs : Cells) (c : Nat) : bump cs c c = cs c + 1 := bumpN_same cs c 1
theorem bump_other {cs : Cells} {c i : Nat} (h : i ≠ c) : bump cs c i = cs i := bumpN_other h
theorem le_bump (cs : Cells) (c i : Nat) : cs i ≤ bump cs c i := le_bumpN cs c 1 i
theorem bumpN_bumpN (cs : Cells) (c n m : Nat) : bumpN (bumpN cs c n) c m = bumpN cs c (n + m) := by
  funext i; unfold bumpN; split
  · exact Nat.add_assoc _ _ _
  · rfl
theorem bumpN_succ (cs : Cells) (c n : Nat) : bumpN cs c (n + 1) = bump (bumpN cs c n) c :=
  (bumpN_bumpN cs c n 1).symm
theorem bumpN_comm (cs : Cells) (a b n m : Nat) : bumpN (bumpN cs a n) b m = bumpN (bumpN cs b m) a n := by
  funext i; unfold bumpN; split <;> split <;> first | rfl | exact Nat.add_right_comm _ _ _

theorem bump2_fst {cs : Cells} {a b na nb : Nat} (hne : a ≠ b) : bumpN (bumpN cs a na) b nb a = cs a + na := by
  rw [bumpN_other hne, bumpN_same]
theorem bump2_snd {cs : Cells} {a b na nb : Nat} (hne : a ≠ b) : bumpN (bumpN cs a na) b nb b = cs b + nb := by
  rw [bumpN_same, bumpN_other (Ne.symm hne)]
theorem bump2_other {cs : Cells} {a b na nb c : Nat} (h1 : c ≠ a) (h2 : c ≠ b) : bumpN (bumpN cs a na) b nb c = cs c := by
  rw [bumpN_other h2, bumpN_other h1]
theorem le_bump2 (cs : Cells) (a b na nb c : Nat) : cs c ≤ bumpN (bumpN cs a na) b nb c :=
  Nat.le_trans (le_bumpN _ _ _ _) (le_bumpN _ _ _ _)

theorem snap_check (cs : Cells) (c : Nat) : (snap cs c).check cs = true := beq_self_eq_true _

theorem snap_checkAt (cs : Cells) (c : Nat) (ae : Bool) : (snap cs c).checkAt cs c ae = true := by
  show (c == c && stored cs c == stored cs c) = true
  rw [beq_self_eq_true, beq_self_eq_true]; rfl

theorem snap_eq_of_cell_eq {cs cs' : Cells} {c : Nat} (h : cs' c = cs c) : snap cs c = snap cs' c := by
  unfold snap stored; rw [h]

theorem check_of_cell_eq {cs cs' : Cells} {c : Nat} (h : cs' c = cs c) : (snap cs c).check cs' = true :=
  snap_eq_of_cell_eq h ▸ snap_check cs' c

/-- **stale**: the cell was incremented at least once and fewer than 2^64 times since the snapshot -/
def Stale (k : Keeper) (cs : Cells) : Prop :=
  ∃ c n0, k.cell = some c ∧ k.ver = n0 % W ∧ n0 < cs c ∧ cs c < n0 + W

theorem mod_ne_of_lt_add {n0 n : Nat} (h1 : n0 < n) (h2 : n < n0 + W) : n % W ≠ n0 % W := by
  intro h
  have hd : (n - n0) % W = 0 := Nat.sub_mod_eq_zero_of_mod_eq h
  rw [Nat.mod_eq_of_lt (Nat.sub_lt_left_of_lt_add (Nat.le_of_lt h1) h2)] at hd
  exact Nat.not_le_of_lt h1 (Nat.sub_eq_zero_iff_le.mp hd)

theorem Stale.check {k : Keeper} {cs : Cells} (h : Stale k cs) : k.check cs = false := by
  obtain ⟨c, n0, hc, hv, h1, h2⟩ := h
  unfold Keeper.check; rw [hc, hv]
  exact beq_false_of_ne (mod_ne_of_lt_add h1 h2)

theorem Stale.checkAt {k : Keeper} {cs : Cells} (h : Stale k cs) (c : Nat) (ae : Bool) : k.checkAt cs c ae = false := by
  obtain ⟨c', n0, hc, hv, h1, h2⟩ := h
  unfold Keeper.checkAt; rw [hc, hv]
  show (c' == c && n0 % W == cs c % W) = false
  by_cases hcc : c' = c
  · subst hcc
    rw [beq_false_of_ne (Ne.symm (mod_ne_of_lt_add h1 h2))]; exact Bool.and_false _
  · rw [beq_false_of_ne hcc]; rfl

theorem snap_stale {cs0 cs : Cells} {c : Nat} (h1 : cs0 c < cs c) (h2 : cs c < cs0 c + W) : Stale (snap cs0 c) cs :=
  ⟨c, cs0 c, rfl, rfl, h1, h2⟩

theorem foreign_checkAt {k : Keeper} {cs : Cells} {c c' : Nat} (hc : k.cell = some c') (hne : c' ≠ c) (ae : Bool) :
    k.checkAt cs c ae = false := by
  unfold Keeper.checkAt; rw [hc]
  show (c' == c && _) = false
  rw [beq_false_of_ne hne]; rfl

theorem null_check {k : Keeper} (cs : Cells) (hc : k.cell = none) : k.check cs = false := by
  unfold Keeper.check; rw [hc]
theorem null_checkAt {k : Keeper} (cs : Cells) (c : Nat) (ae : Bool) (hc : k.cell = none) : k.checkAt cs c ae = ae := by
  unfold Keeper.checkAt; rw [hc]

theorem checkAt_false_iff {k : Keeper} {cs : Cells} {c : Nat} :
    k.checkAt cs c false = true ↔ k.cell = some c ∧ k.ver = stored cs c := by
  unfold Keeper.checkAt
  cases k.cell with
  | none => exact ⟨fun h => (nomatch h), fun h => (nomatch h.1)⟩
  | some c' =>
    show (c' == c && k.ver == stored cs c) = true ↔ _
    rw [Bool.and_eq_true, beq_iff_eq, beq_iff_eq, Option.some.injEq]

theorem checkAt_false_imp_check {k : Keeper} {cs : Cells} {c : Nat} (h : k.checkAt cs c false = true) : k.check cs = true := by
  obtain ⟨h1, h2⟩ := checkAt_false_iff.mp h
  unfold Keeper.check; rw [h1, h2]
  exact beq_self_eq_true _

/-- cell `c` was incremented some `n` times; `n = 0` only if the watched state stayed the `same`, and - for a quiet entry
    point, `q` - whenever it did -/
def Bumped (q : Prop) (cs : Cells) (c : Nat) (cs' : Cells) (same : Prop) : Prop :=
  ∃ n, cs' = bumpN cs c n ∧ (n = 0 → same) ∧ (q → same → n = 0)

theorem Bumped.refl {q : Prop} {cs : Cells} {c : Nat} {same : Prop} (h : same) : Bumped q cs c cs same :=
  ⟨0, (bumpN_zero cs c).symm, fun _ => h, fun _ _ => rfl⟩

theorem Bumped.one {q : Prop} {cs : Cells} {c : Nat} {same : Prop} (h : q → ¬same) : Bumped q cs c (bump cs c) same :=
  ⟨1, rfl, fun h0 => (nomatch h0), fun hq hs => absurd hs (h hq)⟩

/-- `Insert(begin, end)` of the set containers: each step increments as often as it lengthens -/
theorem foldl_counted {S : Type} (cell len : S → Nat) (f : Cells × S → Nat → Cells × S)
    (hf : ∀ cs s k, ∃ n, (f (cs, s) k).1 = bumpN cs (cell s) n ∧ cell (f (cs, s) k).2 = cell s ∧
      len (f (cs, s) k).2 = len s + n ∧ (n = 0 → (f (cs, s) k).2 = s)) :
    ∀ (ks : List Nat) (cs : Cells) (s : S), ∃ n, (ks.foldl f (cs, s)).1 = bumpN cs (cell s) n ∧
      cell (ks.foldl f (cs, s)).2 = cell s ∧ len (ks.foldl f (cs, s)).2 = len s + n ∧ (n = 0 → (ks.foldl f (cs, s)).2 = s) := by
  intro ks
  induction ks with
  | nil => exact fun cs s => ⟨0, (bumpN_zero _ _).symm, rfl, rfl, fun _ => rfl⟩
  | cons k ks ih =>
    intro cs s
    obtain ⟨n1, e1, c1, l1, z1⟩ := hf cs s k
    obtain ⟨n2, e2, c2, l2, z2⟩ := ih (f (cs, s) k).1 (f (cs, s) k).2
    refine ⟨n1 + n2, ?_, c2.trans c1, ?_, fun h0 => ?_⟩
    · rw [List.foldl_cons, e2, e1, c1, bumpN_bumpN]
    · rw [List.foldl_cons, l2, l1, Nat.add_assoc]
    · rw [List.foldl_cons, z2 (Nat.eq_zero_of_add_eq_zero_left h0), z1 (Nat.eq_zero_of_add_eq_zero_right h0)]

/-- what the owner of cell `c` holds, when `ca` belongs to a container holding `sa` and `cb` to one holding `sb` -/
def owner2 {σ : Type} (ca cb : Nat) (sa sb : σ) (c : Nat) : Option σ :=
  if ca = c then some sa else if cb = c then some sb else none

theorem owner2_swap {σ : Type} {ca cb : Nat} (hne : ca ≠ cb) (sa sb : σ) (c : Nat) :
    owner2 cb ca sb sa c = owner2 ca cb sa sb c := by
  unfold owner2
  by_cases h1 : ca = c
  · rw [if_pos h1, if_neg (fun h2 => hne (h1.trans h2.symm)), if_pos h1]
  · rw [if_neg h1, if_neg h1]

/-- the counters of a call against what the handles watch.  `sh`, `sh'`: the watched state of the owner of each cell before and after
    the call (`owner2` in the worlds of two objects); `quiet` only for a call claimed quiet, `q` -/
structure Moved {σ : Type} (q : Prop) (cs cs' : Cells) (sh sh' : Nat → Option σ) : Prop where
  mono : ∀ c, cs c ≤ cs' c
  bump : ∀ c, sh' c ≠ sh c → cs c < cs' c
  quiet : q → ∀ c, sh' c = sh c → cs' c = cs c

theorem Moved.refl {σ : Type} (q : Prop) (cs : Cells) (sh : Nat → Option σ) : Moved q cs cs sh sh :=
  ⟨fun _ => Nat.le_refl _, fun _ h => absurd rfl h, fun _ _ _ => rfl⟩

theorem Moved.of_two {σ : Type} {q : Prop} {cs : Cells} {ca cb na nb : Nat} {sa sa' sb sb' : σ} (hne : ca ≠ cb)
    (ha : na = 0 → sa' = sa) (hb : nb = 0 → sb' = sb) (qa : q → sa' = sa → na = 0) (qb : q → sb' = sb → nb = 0) :
    Moved q cs (bumpN (bumpN cs ca na) cb nb) (owner2 ca cb sa sb) (owner2 ca cb sa' sb') := by
  have key : ∀ c, (owner2 ca cb sa' sb' c ≠ owner2 ca cb sa sb c → cs c < bumpN (bumpN cs ca na) cb nb c) ∧
      (q → owner2 ca cb sa' sb' c = owner2 ca cb sa sb c → bumpN (bumpN cs ca na) cb nb c = cs c) := by
    intro c
    unfold owner2
    by_cases h1 : ca = c
    · rw [if_pos h1, if_pos h1, ← h1, bump2_fst hne]
      exact ⟨fun h => Nat.lt_add_of_pos_right (Nat.pos_of_ne_zero fun h0 => h (congrArg some (ha h0))),
        fun hq h => by rw [qa hq (Option.some.inj h)]; rfl⟩
    · rw [if_neg h1, if_neg h1]
      by_cases h2 : cb = c
      · rw [if_pos h2, if_pos h2, ← h2, bump2_snd hne]
        exact ⟨fun h => Nat.lt_add_of_pos_right (Nat.pos_of_ne_zero fun h0 => h (congrArg some (hb h0))),
          fun hq h => by rw [qb hq (Option.some.inj h)]; rfl⟩
      · rw [if_neg h2, if_neg h2, bump2_other (Ne.symm h1) (Ne.symm h2)]
        exact ⟨fun h => absurd rfl h, fun _ _ => rfl⟩
  exact ⟨le_bump2 _ _ _ _ _, fun c => (key c).1, fun hq c => (key c).2 hq⟩

/-- what `MergeTo` does to the two objects, `r` = (new counters, new source, new destination): the cells stay and both versions
    get the same number `n` of increments; `n = 0` leaves both objects as they were, and conversely - MergeTo is quiet in both
    objects - unchanged `keys` of either object mean `n = 0` (a key that moves changes both key lists) -/
def Merged {S : Type} (cell : S → Nat) (keys : S → List Nat) (cs : Cells) (src dst : S) (r : Cells × S × S) : Prop :=
  cell r.2.1 = cell src ∧ cell r.2.2 = cell dst ∧ ∃ n, r.1 = bumpN (bumpN cs (cell src) n) (cell dst) n ∧
    (n = 0 → r.2.1 = src ∧ r.2.2 = dst) ∧ ((keys r.2.1 = keys src ∨ keys r.2.2 = keys dst) → n = 0)

theorem Merged.none {S : Type} {cell : S → Nat} {keys : S → List Nat} {cs : Cells} {src dst : S} :
    Merged cell keys cs src dst (cs, src, dst) :=
  ⟨rfl, rfl, 0, by rw [bumpN_zero, bumpN_zero], fun _ => ⟨rfl, rfl⟩, fun _ => rfl⟩

theorem Merged.some {S : Type} {cell : S → Nat} {keys : S → List Nat} {cs : Cells} {src dst src' dst' : S} {n : Nat}
    (hs : cell src' = cell src) (hd : cell dst' = cell dst) (hn : n ≠ 0) (hks : keys src' ≠ keys src) (hkd : keys dst' ≠ keys dst) :
    Merged cell keys cs src dst (bumpN (bumpN cs (cell src) n) (cell dst) n, src', dst') :=
  ⟨hs, hd, n, rfl, fun h0 => absurd h0 hn, fun h => h.elim (absurd · hks) (absurd · hkd)⟩

/-! ### a set kind: objects `S` with a version cell `cell` and the state `shapeOf` that its handles watch -/
section setKind
variable {S σ : Type} {cell : S → Nat} {shapeOf : S → σ} {q notReset : Prop} {cs cs' : Cells} {a b a' b' s s' : S} {acc : Bool}

/-- the effect of one call on one object of a set kind: its version cell stays and is `Bumped` against the watched state `shapeOf`.
    The `*_eff` lemmas of VerHash / VerTree conclude it (as `HEff` / `TEff`; `mergeTo_eff` concludes `Merged`); `SetOutcome.ofEff` is how the
    world level consumes it -/
def SEff (cell : S → Nat) (shapeOf : S → σ) (q : Prop) (cs : Cells) (s : S) (cs' : Cells) (s' : S) : Prop :=
  cell s' = cell s ∧ Bumped q cs (cell s) cs' (shapeOf s' = shapeOf s)

theorem SEff.refl (cs : Cells) (s : S) : SEff cell shapeOf q cs s cs s := ⟨rfl, Bumped.refl rfl⟩

theorem SEff.one (hc : cell s' = cell s) (hne : q → shapeOf s' ≠ shapeOf s) : SEff cell shapeOf q cs s (bump cs (cell s)) s' :=
  ⟨hc, Bumped.one hne⟩

/-- what one call does to a world (counters, first object, second object) of two objects: the cells stay distinct, no counter
    decreases and - unless the call is ResetKey, `notReset` - the counters are `Moved` with the watched states -/
structure StepFacts (cell : S → Nat) (shapeOf : S → σ) (q notReset : Prop) (cs : Cells) (a b : S) (cs' : Cells) (a' b' : S) : Prop where
  wf : cell a' ≠ cell b'
  mono : ∀ c, cs c ≤ cs' c
  moved : notReset → Moved q cs cs' (owner2 (cell a) (cell b) (shapeOf a) (shapeOf b))
    (owner2 (cell a') (cell b') (shapeOf a') (shapeOf b'))

/-- the results a call of a set container can have; the last index says that it did not throw.  `same`: queries, uses of
    handles, calls that throw; `upd`: the cells stay, the first gets `na` and the second `nb` increments (a call on one object: the
    other number is 0; MergeTo: both); `reset`: ResetKey replaces a key in place and moves no version; `swap`: Swap -/
inductive SetOutcome (cell : S → Nat) (shapeOf : S → σ) (q notReset : Prop) (cs : Cells) (a b : S) : Cells → S → S → Bool → Prop
  | same (acc : Bool) : SetOutcome cell shapeOf q notReset cs a b cs a b acc
  | upd {a' b' : S} (na nb : Nat) (hca : cell a' = cell a) (hcb : cell b' = cell b)
      (ha : na = 0 → shapeOf a' = shapeOf a) (hb : nb = 0 → shapeOf b' = shapeOf b)
      (qa : q → shapeOf a' = shapeOf a → na = 0) (qb : q → shapeOf b' = shapeOf b → nb = 0) :
      SetOutcome cell shapeOf q notReset cs a b (bumpN (bumpN cs (cell a) na) (cell b) nb) a' b' true
  | reset {a' b' : S} (hca : cell a' = cell a) (hcb : cell b' = cell b) (hnr : ¬notReset) :
      SetOutcome cell shapeOf q notReset cs a b cs a' b' true
  | swap : SetOutcome cell shapeOf q notReset cs a b cs b a true

theorem SetOutcome.facts (hw : cell a ≠ cell b) (h : SetOutcome cell shapeOf q notReset cs a b cs' a' b' acc) :
    StepFacts cell shapeOf q notReset cs a b cs' a' b' := by
  cases h with
  | same => exact ⟨hw, fun _ => Nat.le_refl _, fun _ => Moved.refl ..⟩
  | upd na nb hca hcb ha hb qa qb =>
    refine ⟨by rw [hca, hcb]; exact hw, le_bump2 _ _ _ _ _, fun _ => ?_⟩
    rw [hca, hcb]; exact Moved.of_two hw ha hb qa qb
  | reset hca hcb hnr => exact ⟨by rw [hca, hcb]; exact hw, fun _ => Nat.le_refl _, fun h => absurd h hnr⟩
  | swap =>
    exact ⟨Ne.symm hw, fun _ => Nat.le_refl _, fun _ => ⟨fun _ => Nat.le_refl _, fun c h => absurd (owner2_swap hw ..) h,
      fun _ _ _ => rfl⟩⟩

theorem SetOutcome.rejected (h : SetOutcome cell shapeOf q notReset cs a b cs' a' b' false) : cs' = cs ∧ a' = a ∧ b' = b := by
  cases h; exact ⟨rfl, rfl, rfl⟩

theorem SetOutcome.symm (h : SetOutcome cell shapeOf q notReset cs a b cs' a' b' acc) :
    SetOutcome cell shapeOf q notReset cs b a cs' b' a' acc := by
  cases h with
  | same => exact .same _
  | upd na nb hca hcb ha hb qa qb => rw [bumpN_comm]; exact .upd nb na hcb hca hb ha qb qa
  | reset hca hcb hnr => exact .reset hcb hca hnr
  | swap => exact .swap

theorem SetOutcome.ofEff (he : SEff cell shapeOf q cs a cs' a') : SetOutcome cell shapeOf q notReset cs a b cs' a' b true := by
  obtain ⟨hc, n, rfl, h0, hq⟩ := he
  have := SetOutcome.upd (notReset := notReset) (cs := cs) (b := b) n 0 hc rfl h0 (fun _ => rfl) hq (fun _ _ => rfl)
  rwa [bumpN_zero] at this

theorem SetOutcome.ofMerged {keys : S → List Nat} (hk : ∀ s s' : S, shapeOf s' = shapeOf s → keys s' = keys s)
    {r : Cells × S × S} (hm : Merged cell keys cs a b r) : SetOutcome cell shapeOf True notReset cs a b r.1 r.2.1 r.2.2 true := by
  obtain ⟨hc1, hc2, n, hn, h0, hq⟩ := hm
  rw [hn]
  exact .upd n n hc1 hc2 (fun h => congrArg _ (h0 h).1) (fun h => congrArg _ (h0 h).2) (fun _ h => hq (.inl (hk _ _ h)))
    (fun _ h => hq (.inr (hk _ _ h)))

end setKind

/-- a call whose acceptance condition `b` fails returns the world unchanged -/
theorem eq_of_reject {Wd R : Type} {w : Wd} {x : Wd × Option R} {b : Bool} (hacc : x.2.isSome = b)
    (hun : x.2 = none → x.1 = w) (hb : b = false) : x = (w, none) := by
  obtain ⟨w', r⟩ := x
  cases r with
  | none => exact congrArg (·, none) (hun rfl)
  | some _ => exact nomatch hacc.trans hb

end Momo.Ver
