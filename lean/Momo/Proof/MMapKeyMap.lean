import Momo.Model.MMap
/-!
  C08: the contract of the key map (what HashMultiMap relies on of its HashMap — this is
  property C01 for the hash-table model) and the reference instance.
-/
namespace Momo.MMap
open Momo

/-- What the multimap layer needs of the key map. Nothing is asked of `tag` / `setTag` beyond keeping the keys: no theorem of C08
    observes the tag (`MM.resetKey_spec` says that nothing else changes); the correspondence runs do, through `arrSum`. -/
structure KeyMap.Lawful {σ : Type} (K : KeyMap σ) where
  Inv : σ → Prop
  /-- the fault combinations the contract covers -/
  FOK : HT.Faults → Prop
  fok_default : FOK {}
  inv_empty : Inv K.empty
  keys_empty : K.keys K.empty = []
  has_iff : ∀ s k, Inv s → (K.has s k = true ↔ k ∈ K.keys s)
  nodup : ∀ s, Inv s → (K.keys s).Nodup
  add_ok : ∀ s k tg f, Inv s → FOK f → K.has s k = false → (K.add s k tg f).2 = .ok →
    Inv (K.add s k tg f).1 ∧ (K.keys (K.add s k tg f).1).Perm (k :: K.keys s)
  add_fail : ∀ s k tg f, (K.add s k tg f).2 ≠ .ok → (K.add s k tg f).1 = s
  del_ok : ∀ s k, Inv s → K.has s k = true → Inv (K.del s k) ∧ (k :: K.keys (K.del s k)).Perm (K.keys s)
  clear_ok : ∀ s, Inv s → Inv (K.clear s) ∧ K.keys (K.clear s) = []
  reserve_ok : ∀ s n, Inv s → Inv (K.reserve s n) ∧ (K.keys (K.reserve s n)).Perm (K.keys s)
  setTag_ok : ∀ s k tg, Inv s → Inv (K.setTag s k tg) ∧ K.keys (K.setTag s k tg) = K.keys s

theorem KeyMap.Lawful.has_cases {σ : Type} {K : KeyMap σ} (L : K.Lawful) {s : σ} (h : L.Inv s) (k : Nat) :
    (K.has s k = true ∧ k ∈ K.keys s) ∨ (K.has s k = false ∧ k ∉ K.keys s) := by
  cases hh : K.has s k with
  | true => exact .inl ⟨rfl, (L.has_iff s k h).mp hh⟩
  | false => exact .inr ⟨rfl, fun hk => by rw [(L.has_iff s k h).mpr hk] at hh; cases hh⟩

theorem list_any_key (l : List (Nat × Nat)) (k : Nat) :
    l.any (fun e => e.1 == k) = true ↔ k ∈ l.map (·.1) := by
  simp [List.any_eq_true, List.mem_map]

theorem list_filter_ne_keys (l : List (Nat × Nat)) (k : Nat) (hn : (l.map (·.1)).Nodup) (hk : k ∈ l.map (·.1)) :
    (k :: (l.filter (fun e => e.1 != k)).map (·.1)).Perm (l.map (·.1)) := by
  rw [show (l.filter (fun e => e.1 != k)).map (·.1) = (l.map (·.1)).filter (· != k) from
    (List.filter_map (f := fun e : Nat × Nat => e.1) (p := (· != k))).symm, ← hn.erase_eq_filter k]
  exact (List.perm_cons_erase hk).symm

def listLawful : KeyMap.Lawful listKeyMap where
  Inv l := (l.map (fun e => e.1)).Nodup
  FOK _ := True
  fok_default := trivial
  inv_empty := by simp [listKeyMap]
  keys_empty := rfl
  has_iff l k _ := list_any_key l k
  nodup l h := by simpa [listKeyMap] using h
  add_ok l k tg f hI _ hh hok := by
    have hnk : k ∉ l.map (·.1) := by
      intro hm; have := (list_any_key l k).mpr hm
      simp only [listKeyMap] at hh; rw [hh] at this; cases this
    simp only [listKeyMap] at hok ⊢
    by_cases hf : f.refuseAdd = true
    · simp [hf] at hok
    · simp only [hf, Bool.false_eq_true, if_false, List.map_append, List.map_cons, List.map_nil]
      refine ⟨?_, List.perm_append_singleton _ _⟩
      exact (List.perm_append_singleton k _).nodup_iff.mpr (List.nodup_cons.mpr ⟨hnk, hI⟩)
  add_fail l k tg f hne := by
    simp only [listKeyMap] at hne ⊢
    by_cases hf : f.refuseAdd = true
    · simp [hf]
    · simp [hf] at hne
  del_ok l k hI hh := by
    have hk := (list_any_key l k).mp hh
    have hp := list_filter_ne_keys l k hI hk
    refine ⟨?_, hp⟩
    exact (List.nodup_cons.mp (hp.nodup_iff.mpr hI)).2
  clear_ok _ _ := ⟨by simp [listKeyMap], rfl⟩
  reserve_ok l _ h := ⟨h, List.Perm.refl _⟩
  setTag_ok l k tg hI := by
    have hk : (listKeyMap.setTag l k tg).map (·.1) = l.map (·.1) := by
      simp only [listKeyMap, List.map_map]
      apply List.map_congr_left
      intro e _
      by_cases he : e.1 = k
      · simp [he]
      · simp [he]
    exact ⟨by show ((listKeyMap.setTag l k tg).map (·.1)).Nodup; rw [hk]; exact hI, hk⟩

theorem htSetTag_gens_length (sp : HT.Spec) (hf : Nat → Nat) (t : HT.Table) (k tg : Nat) :
    (htSetTag sp hf t k tg).gens.length = t.gens.length := by
  unfold htSetTag
  cases HT.findTable sp hf t k with
  | none => rfl
  | some r => exact List.length_modify ..

end Momo.MMap
