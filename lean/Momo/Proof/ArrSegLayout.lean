import Momo.Proof.ArrSegStep
import Momo.Proof.SegIdeal
/-!
  C05: where the two models of the index arithmetic meet. `Layout` (`Model/ArrSeg.lean`) and `Momo.Seg.Func` with `L0`
  (`Model/Seg.lean`, C16) carry literally the same formulas (`segItem_eq`, `index_eq`, `segsFor_eq`), so the sizing laws `Layout.Ok`
  that `ArrSegStep.lean` assumes hold for every layout, from the laws proved in `SegIdeal.lean` (`layout_ok`).
-/
namespace Momo.Arr.Seg
open Momo.Arr

/-- the sizing of C16's model that corresponds to a `Layout` -/
def Layout.func (lay : Layout) : Momo.Seg.Func := if lay.sqrt then .sqrt else .cnst

theorem segItem_eq (lay : Layout) (n : Nat) : lay.segItem n = Momo.Seg.getSeg lay.func lay.L n := by
  unfold Layout.segItem Layout.func
  cases lay.sqrt <;> rfl

theorem index_eq (lay : Layout) (s o : Nat) : lay.index s o = Momo.Seg.getIndex lay.func lay.L s o := by
  unfold Layout.index Layout.func
  cases lay.sqrt <;> rfl

theorem segsFor_eq (lay : Layout) (n : Nat) :
    lay.segsFor n = Momo.Seg.Arr.segsFor (Momo.Seg.sizing lay.func lay.L) n := by
  unfold Layout.segsFor; rw [segItem_eq]; rfl

theorem layout_ok (lay : Layout) : lay.Ok := by
  have h := Momo.Seg.sizing_lawful lay.func lay.L
  refine ⟨fun n => ?_, fun a b hab => ?_, fun n k hk => ?_, fun n k hk => ?_, fun k => ?_⟩
  · rw [segsFor_eq, index_eq]; exact h.le_cap_segsFor n
  · rw [index_eq, index_eq]; exact h.cap_mono hab
  · rw [index_eq] at hk; rw [segItem_eq]; exact (h.seg_lt_iff n k).mpr hk
  · rw [segItem_eq] at hk; rw [index_eq]; exact (h.seg_lt_iff n k).mp hk
  · rw [index_eq, index_eq]; exact h.cap_strict (Nat.lt_succ_self k)

theorem cnst_ok (L : Nat) : Layout.Ok { sqrt := false, L := L } := layout_ok _

theorem segsFor_index (lay : Layout) (k : Nat) : lay.segsFor (lay.index k 0) = k := by
  rw [segsFor_eq, index_eq]; exact (Momo.Seg.sizing_lawful lay.func lay.L).segsFor_cap k

end Momo.Arr.Seg
