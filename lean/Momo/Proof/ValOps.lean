import Momo.Proof.ValLedger
/-!
  What the operations of the value-semantics model compute (C14): contents, traces (`Trace`, `Quiet`), move, swap, self-assignment,
  native move and copy assignment, the null state, the wrappers' copy assignment.
  The lemmas about two slots `i j` take `hij : i ≠ j` right after them; `swap_exact` and the `C14_null_*` theorems have it
  after the two objects.
-/
namespace Momo.Val

/-- the copy constructor's layout function keeps the elements and their order -/
def RebuildOk (k : Kind) : Prop := ∀ ls, (k.rebuild ls).flatten = ls.flatten

theorem contents_of_alloc (m : Mgr) (ls : List (List Elem)) (H : Heap) (mgr : Option Mgr) (aux : List Nat) (inl : List Elem)
    (cap : Nat) : contents (allocCells m ls H).2 ⟨mgr, aux, inl, (allocCells m ls H).1, cap⟩ = inl ++ ls.flatten := by
  simp only [contents, layout]
  rw [allocCells_items]

theorem copyLay_flatten {k : Kind} (hrb : RebuildOk k) (H : Heap) (s : Cont) :
    (copyLay k H s).inl ++ (copyLay k H s).cells.flatten = contents H s := by
  unfold copyLay
  split
  · exact List.append_nil _
  · rw [hrb]
    unfold contents
    by_cases h : s.inl = [] <;> simp [h]

theorem contents_null (k : Kind) (H : Heap) (s : Cont) : contents H (nullOf k s) = [] := by
  simp [contents, layout, nullOf]

theorem contents_untouched {w : World} (wf : WF w) {i j : Nat} (hij : i ≠ j) {ci cj : Cont}
    (hi : w.objs i = some ci) (hj : w.objs j = some cj) {H' : Heap}
    (hg : ∀ h, h ∉ ci.owned → H'.get h = w.heap.get h) : contents H' cj = contents w.heap cj :=
  (contents_agree (fun h hh => hg h (fun hc => wf.disj i j ci cj hij hi hj h hc hh))).1

theorem contents_cleared {H : Heap} {c : Cont} (hnd : c.body.Nodup) (keep cap : Nat) :
    contents (freeCells (c.body.drop keep) (emptyCells (c.body.take keep) H))
      { c with inl := [], body := c.body.take keep, cap := cap } = [] := by
  simp only [contents, layout, List.nil_append]
  apply List.flatten_eq_nil_iff.mpr
  intro l hl
  obtain ⟨h, hh, rfl⟩ := List.mem_map.mp hl
  have hnd' : h ∉ c.body.drop keep := by
    intro hd
    have := hnd
    rw [← List.take_append_drop keep c.body, List.nodup_append] at this
    exact this.2.2 h hh h hd rfl
  unfold itemsAt
  rw [freeCells_get, emptyCells_get]
  simp only [hnd', if_false, hh, if_true]
  cases H.get h <;> simp

theorem freeCells_nil (H : Heap) : freeCells [] H = H := rfl

/-- the state a moved-from object is left in (`nullOf`): no block, no internal item; the manager may still be there -/
def IsNull (c : Cont) : Prop := c.owned = [] ∧ c.inl = []
theorem nullOf_isNull (k : Kind) (s : Cont) : IsNull (nullOf k s) := ⟨rfl, rfl⟩

theorem IsNull.body {c : Cont} (h : IsNull c) : c.body = [] := by
  have := h.1; unfold Cont.owned at this; exact (List.append_eq_nil_iff.mp this).2

theorem IsNull.contents {c : Cont} (h : IsNull c) (H : Heap) : contents H c = [] := by
  simp [Val.contents, layout, h.2, h.body]

theorem exec_destroy_null (k : Kind) (w : World) (i : Nat) (c : Cont) (hi : w.objs i = some c) (hn : IsNull c) :
    (Prim.destroy i).exec k w = some (⟨w.heap, upd w.objs i none⟩, []) := by
  cases hm : c.mgr with
  | none => exact Exec.exec ⟨c, hi, by rw [hn.1]; rfl, .inl ⟨hm, hn.1, hn.2, rfl⟩⟩
  | some m =>
    have := Exec.exec (k := k) (p := .destroy i) ⟨c, hi, rfl, .inr ⟨m, hm, rfl⟩⟩
    rwa [hn.1, hn.contents, destroyEvs_nil] at this

theorem exec_copy_some (k : Kind) (w : World) (T j : Nat) (a : Mgr) (cj : Cont) (hT : w.objs T = none)
    (hj : w.objs j = some cj) (hm : cj.mgr.isSome = true) :
    ∃ wA eA t, (Prim.copy T j a).exec k w = some (wA, eA) ∧ wA.objs = upd w.objs T (some t) :=
  ⟨_, _, _, Exec.exec (p := .copy T j a) ⟨cj, hT, hj, by cases h : cj.mgr <;> simp_all, rfl, rfl⟩, rfl⟩

/-- `Data dst(std::move(src)); src.~Data();` -/
theorem run_relocate (k : Kind) (w : World) (dst src : Nat) (s : Cont) (hd : w.objs dst = none) (hs : w.objs src = some s)
    (ps : List Prim) :
    run k w (.move dst src :: .destroy src :: ps) =
      (run k ⟨w.heap, upd (upd (upd w.objs src (some (nullOf k s))) dst (some s)) src none⟩ ps).map
        fun r => (r.1, relocEvs k s.inl ++ r.2) := by
  have hne : src ≠ dst := fun e => by rw [e, hd] at hs; cases hs
  rw [run_cons_some _ (Exec.exec (p := .move dst src) ⟨s, hs, hd, rfl, rfl⟩),
    run_cons_some _ (exec_destroy_null k _ src (nullOf k s) ((upd_other _ _ hne).trans (upd_same _ _ _)) (nullOf_isNull _ _))]
  cases run k _ ps <;> rfl

/-- `T.Swap(i); T.~C();` with `i` in the null state -/
theorem run_swapDestroy_null (k : Kind) (w : World) (T i : Nat) (hTi : T ≠ i) (t ci : Cont) (hT : w.objs T = some t)
    (hi : w.objs i = some ci) (hn : IsNull ci) :
    run k w [.swap T i, .destroy T] = some (⟨w.heap, upd (upd (upd w.objs T (some ci)) i (some t)) T none⟩, []) := by
  rw [run_cons_some _ (Exec.exec (p := .swap T i) ⟨t, ci, hT, hi, rfl, rfl⟩), run_single,
    exec_destroy_null k _ T ci ((upd_other _ _ hTi).trans (upd_same _ _ _)) hn]
  rfl

/-- what a trace shows of an operation to the memory managers and to movable elements: `A m h` bounds the allocations
    (manager `m` hands out block `h`), `F m h` the frees; `copy` is C14's "without copy-constructing any movable element".
    Built from the pieces of an event list by `Trace.append` and one lemma per kind of piece; the property theorems
    project the three fields -/
structure Trace (k : Kind) (A F : Mgr → Nat → Prop) (evs : List Ev) : Prop where
  copy : k.movable = true → ∀ e, Ev.copy e ∉ evs
  alloc : ∀ m h, Ev.alloc m h ∈ evs → A m h
  free : ∀ m h, Ev.free m h ∈ evs → F m h

/-- a `Trace` without allocations: what moves, swaps and move assignments show (they only release, through `F`) -/
abbrev Quiet (k : Kind) (F : Mgr → Nat → Prop) (evs : List Ev) : Prop := Trace k (fun _ _ => False) F evs

section
variable {k : Kind} {A F : Mgr → Nat → Prop}

theorem Trace.nil : Trace k A F [] :=
  ⟨fun _ _ => List.not_mem_nil, fun _ _ h => absurd h List.not_mem_nil, fun _ _ h => absurd h List.not_mem_nil⟩

theorem Trace.append {a b : List Ev} (qa : Trace k A F a) (qb : Trace k A F b) : Trace k A F (a ++ b) :=
  ⟨fun hm e he => (List.mem_append.mp he).elim (qa.copy hm e) (qb.copy hm e),
   fun m h he => (List.mem_append.mp he).elim (qa.alloc m h) (qb.alloc m h),
   fun m h he => (List.mem_append.mp he).elim (qa.free m h) (qb.free m h)⟩

theorem Trace.mono {A' F' : Mgr → Nat → Prop} {evs : List Ev} (q : Trace k A F evs) (hA : ∀ m x, A m x → A' m x)
    (hF : ∀ m x, F m x → F' m x) : Trace k A' F' evs :=
  ⟨q.copy, fun m x he => hA m x (q.alloc m x he), fun m x he => hF m x (q.free m x he)⟩

theorem Trace.neutral {evs : List Ev} (hn : ∀ e ∈ evs, isMemEv e = false) (hc : k.movable = true → ∀ e, Ev.copy e ∉ evs) :
    Trace k A F evs :=
  ⟨hc, fun _ _ h => (nomatch hn _ h), fun _ _ h => (nomatch hn _ h)⟩

theorem Trace.relocs (xs : List Elem) : Trace k A F (relocEvs k xs) :=
  .neutral (neutral_relocEvs k xs) fun hm e h => by
    obtain ⟨_, ⟨h, _⟩ | ⟨_, hf⟩ | h⟩ := mem_relocEvs h
    · cases h
    · rw [hm] at hf; cases hf
    · cases h

theorem Trace.destroys (xs : List Elem) : Trace k A F (destroyEvs k xs) :=
  .neutral (neutral_destroyEvs k xs) fun _ e h => by obtain ⟨_, h⟩ := mem_destroyEvs h; cases h

theorem Trace.xfers (w : World) (src : Option Nat) : Trace k A F (srcXfer k w src) :=
  .neutral (neutral_srcXfer k w src) fun hm e h => by
    cases src with
    | none => cases h
    | some s =>
      simp only [srcXfer] at h
      split at h
      · obtain ⟨x, _, hx⟩ := List.mem_map.mp h; rw [hm] at hx; cases hx
      · cases h

theorem Trace.allocs {m : Mgr} {hs : List Nat} (h : ∀ x ∈ hs, A m x) : Trace k A F (hs.map (Ev.alloc m)) := by
  refine ⟨fun _ e he => ?_, fun m' x he => ?_, fun m' x he => ?_⟩ <;> obtain ⟨y, hy, e⟩ := List.mem_map.mp he <;> cases e
  exact h _ hy

theorem Trace.frees {m : Mgr} {hs : List Nat} (h : ∀ x ∈ hs, F m x) : Trace k A F (hs.map (Ev.free m)) := by
  refine ⟨fun _ e he => ?_, fun m' x he => ?_, fun m' x he => ?_⟩ <;> obtain ⟨y, hy, e⟩ := List.mem_map.mp he <;> cases e
  exact h _ hy

end

theorem destroy_quiet {k : Kind} {w w' : World} {i : Nat} {evs : List Ev} (h : (Prim.destroy i).exec k w = some (w', evs)) :
    ∃ c, w.objs i = some c ∧ w'.objs = upd w.objs i none ∧
      (∀ h, h ∉ c.owned → w'.heap.get h = w.heap.get h) ∧
      Quiet k (fun m h => c.mgr = some m ∧ h ∈ c.owned) evs := by
  obtain ⟨c, hi, rfl, hev⟩ := Exec.of_exec h
  refine ⟨c, hi, rfl, fun h hh => (freeCells_get _ _ h).trans (if_neg hh), ?_⟩
  obtain ⟨_, _, _, rfl⟩ | ⟨m, hm, rfl⟩ := hev
  · exact .nil
  · exact (Trace.destroys _).append (.frees fun h hh => ⟨hm, hh⟩)

theorem copy_step_spec (k : Kind) (hrb : RebuildOk k) {w wA : World} {eA : List Ev} (wf : WF w) (T j : Nat) (a : Mgr)
    (cj : Cont) (hj : w.objs j = some cj) (hA : (Prim.copy T j a).exec k w = some (wA, eA)) :
    WF wA ∧ w.objs T = none ∧ j ≠ T ∧ (∀ x, x ≠ T → wA.objs x = w.objs x) ∧
      (∃ t, wA.objs T = some t ∧ t.mgr = some a ∧ t.aux.length = k.auxCount ∧
        contents wA.heap t = contents w.heap cj ∧ contents wA.heap cj = contents w.heap cj ∧
        (∀ c x, x ≠ T → w.objs x = some c → contents wA.heap c = contents w.heap c)) ∧
      (∀ e, Ev.move e ∉ eA) ∧ (∀ m' h', Ev.free m' h' ∉ eA) ∧ (∀ m' h', Ev.alloc m' h' ∈ eA → m' = a) := by
  obtain ⟨wfA, fA, _, _⟩ := prim_effect k wf _ hA
  have hcon : ∀ c x, x ≠ T → w.objs x = some c → contents wA.heap c = contents w.heap c := fun c x hx hc =>
    (fA.contents (x := x) (fun h => hx (List.mem_singleton.mp h)) hc).2
  obtain ⟨s, hT, hs, _, rfl, rfl⟩ := Exec.of_exec hA
  cases hj.symm.trans hs
  have hjT := ne_of_live_dead hj hT
  refine ⟨wfA, hT, hjT, fun x hx => upd_other _ _ hx, ⟨_, upd_same _ _ _, rfl, ?_, ?_, hcon cj j hjT hj, hcon⟩, ?_, ?_, ?_⟩
  · simp only [allocCells_fst, List.length_range', List.length_replicate]
  · rw [contents_of_alloc, copyLay_flatten hrb]
  · intro e; simp
  · intro m' h'; simp
  · intro m' h' hm
    simp at hm
    rcases hm with ⟨_, _, rfl, _⟩ | ⟨_, _, rfl, _⟩ <;> rfl

theorem moveCtor_spec (cfg : Cfg) {w w1 : World} {evs : List Ev} (b a : Nat)
    (h : step cfg w (.moveCtor b a) = some (w1, evs)) :
    ∃ s, w.objs a = some s ∧ w.objs b = none ∧ w1.heap = w.heap ∧ w1.objs b = some s ∧
      w1.objs a = some (nullOf cfg.k s) ∧ (∀ x, x ≠ a → x ≠ b → w1.objs x = w.objs x) ∧ evs = relocEvs cfg.k s.inl := by
  simp only [step, expand, run_single] at h
  obtain ⟨s, ha, hb, rfl, rfl⟩ := Exec.of_exec h
  have hab := ne_of_live_dead ha hb
  exact ⟨s, ha, hb, rfl, upd_same _ _ _, (upd_other _ _ hab).trans (upd_same _ _ _),
    fun x hxa hxb => (upd_other _ _ hxb).trans (upd_other _ _ hxa), rfl⟩

/-- `Array::Swap`: three `Data` moves -/
theorem swap_array (cfg : Cfg) (hk : cfg.k.arrayStyle = true) (w : World) (i j : Nat) (hij : i ≠ j) (a b : Cont)
    (hi : w.objs i = some a) (hj : w.objs j = some b) (ht : w.objs cfg.t1 = none) :
    ∃ w1, step cfg w (.swap i j) = some (w1, relocEvs cfg.k a.inl ++ (relocEvs cfg.k b.inl ++ relocEvs cfg.k a.inl)) ∧
      w1.heap = w.heap ∧ w1.objs i = some b ∧ w1.objs j = some a ∧
      ∀ x, x ≠ i → x ≠ j → w1.objs x = w.objs x := by
  have hti := (ne_of_live_dead hi ht).symm
  have htj := (ne_of_live_dead hj ht).symm
  have hji : j ≠ i := fun e => hij e.symm
  have hjt : j ≠ cfg.t1 := fun e => htj e.symm
  apply Exists.intro
  refine ⟨?_, ?_⟩
  · simp only [step, expand, nativeSwap, hk, if_true, hij, if_false]
    rw [run_relocate cfg.k w cfg.t1 i a ht hi,
      run_relocate cfg.k _ i j b (upd_same _ _ _)
        ((upd_other _ _ hji).trans ((upd_other _ _ hjt).trans ((upd_other _ _ hji).trans hj))),
      run_relocate cfg.k _ j cfg.t1 a (upd_same _ _ _)
        ((upd_other _ _ htj).trans ((upd_other _ _ hti).trans ((upd_other _ _ htj).trans
          ((upd_other _ _ hti).trans (upd_same _ _ _)))))]
    simp only [run, Option.map_some, List.append_nil]
    rfl
  · refine ⟨rfl, ?_, ?_, fun x hxi hxj => ?_⟩
    · simp [upd, hij, Ne.symm hti]
    · simp [upd, hjt]
    · by_cases hxt : x = cfg.t1
      · subst hxt; simp [upd, ht]
      · simp [upd, hxi, hxj, hxt]

theorem swap_ptr (cfg : Cfg) (hk : cfg.k.arrayStyle = false) (w : World) (i j : Nat) (a b : Cont)
    (hi : w.objs i = some a) (hj : w.objs j = some b) :
    step cfg w (.swap i j) = some (⟨w.heap, upd (upd w.objs i (some b)) j (some a)⟩, []) := by
  simp only [step, expand, nativeSwap, hk, Bool.false_eq_true, if_false, run_single]
  exact Exec.exec ⟨a, b, hi, hj, rfl, rfl⟩

theorem swap_exact (cfg : Cfg) (w : World) (i j : Nat) (a b : Cont) (hij : i ≠ j)
    (hi : w.objs i = some a) (hj : w.objs j = some b) (ht : w.objs cfg.t1 = none) :
    ∃ w1 evs, step cfg w (.swap i j) = some (w1, evs) ∧
      w1.heap = w.heap ∧ w1.objs i = some b ∧ w1.objs j = some a ∧ (∀ x, x ≠ i → x ≠ j → w1.objs x = w.objs x) ∧
      (cfg.k.movable = true → ∀ e, Ev.copy e ∉ evs) ∧ (∀ m h, Ev.alloc m h ∉ evs) ∧ (∀ m h, Ev.free m h ∉ evs) := by
  cases hk : cfg.k.arrayStyle with
  | true =>
    obtain ⟨w1, hs, h1, h2, h3, h4⟩ := swap_array cfg hk w i j hij a b hi hj ht
    have q : Quiet cfg.k (fun _ _ => False) _ :=
      (Trace.relocs a.inl).append ((Trace.relocs b.inl).append (.relocs a.inl))
    exact ⟨w1, _, hs, h1, h2, h3, h4, q.copy, q.alloc, q.free⟩
  | false =>
    refine ⟨_, _, swap_ptr cfg hk w i j a b hi hj, rfl, ?_, ?_, ?_, by simp, by simp, by simp⟩
    · simp [upd, hij]
    · simp [upd]
    · intro x hxi hxj; simp [upd, hxi, hxj]

theorem upd_self_eq (f : Nat → Option Cont) (i : Nat) (c : Option Cont) (h : f i = c) : upd f i c = f := by
  funext x; by_cases hx : x = i
  · subst hx; simp [upd, h]
  · simp [upd, hx]

theorem swap_self (cfg : Cfg) (w : World) (i : Nat) (c : Cont) (hi : w.objs i = some c) :
    step cfg w (.swap i i) = some (w, []) := by
  cases hk : cfg.k.arrayStyle with
  | true => simp [step, expand, nativeSwap, hk, run]
  | false => rw [swap_ptr cfg hk w i i c c hi hi, upd_self_eq _ i _ (upd_same _ _ _), upd_self_eq _ i _ hi]

theorem copyAssign_self (cfg : Cfg) (w : World) (i : Nat) : step cfg w (.copyAssign i i) = some (w, []) := by
  simp [step, expand, run]

theorem wCopyAssign_self (cfg : Cfg) (w : World) (i : Nat) : step cfg w (.wCopyAssign i i) = some (w, []) := by
  simp [step, expand, run]

theorem wMoveAssign_self (cfg : Cfg) (w : World) (i : Nat) (lay : Lay) (keep : Nat) :
    step cfg w (.wMoveAssign i i lay keep) = some (w, []) := by
  simp [step, expand, run]

/-- `x = std::move(x)`: `Array` tests `this != &data`; the others run `C(std::move(x)).Swap(x)`, which hands
    everything back -/
theorem moveAssign_self (cfg : Cfg) (w : World) (i : Nat) (c : Cont) (hi : w.objs i = some c) (ht : w.objs cfg.t1 = none) :
    step cfg w (.moveAssign i i) = some (w, if cfg.k.arrayStyle then [] else relocEvs cfg.k c.inl) := by
  cases hk : cfg.k.arrayStyle with
  | true => simp [step, expand, nativeMoveAssign, hk, run]
  | false =>
    have hti := (ne_of_live_dead hi ht).symm
    simp only [step, expand, nativeMoveAssign, hk, Bool.false_eq_true, if_false]
    rw [run_cons_some _ (Exec.exec (p := .move cfg.t1 i) ⟨c, hi, ht, rfl, rfl⟩),
      run_swapDestroy_null cfg.k _ cfg.t1 i hti c (nullOf cfg.k c) (upd_same _ _ _)
        ((upd_other _ _ (Ne.symm hti)).trans (upd_same _ _ _)) (nullOf_isNull _ _)]
    have : upd (upd (upd (upd (upd w.objs i (some (nullOf cfg.k c))) cfg.t1 (some c)) cfg.t1 (some (nullOf cfg.k c))) i (some c)) cfg.t1 none = w.objs := by
      funext x
      by_cases hx : x = cfg.t1
      · subst hx; simp [upd, ht]
      · by_cases hxi : x = i
        · subst hxi; simp [upd, hx, hi]
        · simp [upd, hx, hxi]
    simp only [Option.map_some, List.append_nil, this]

/-- `T.Swap(i); T.~C();` -/
theorem swapDestroy_spec (k : Kind) {w w1 : World} {evs : List Ev} (T i : Nat) (hTi : T ≠ i) (t ci : Cont)
    (hT : w.objs T = some t) (hi : w.objs i = some ci) (h : run k w [.swap T i, .destroy T] = some (w1, evs)) :
    w1.objs i = some t ∧ w1.objs T = none ∧ (∀ x, x ≠ i → x ≠ T → w1.objs x = w.objs x) ∧
      (∀ h, h ∉ ci.owned → w1.heap.get h = w.heap.get h) ∧
      Quiet k (fun m h => ci.mgr = some m ∧ h ∈ ci.owned) evs := by
  obtain ⟨wB, eB, eC, hB, hC, rfl⟩ := run_cons_inv h
  rw [run_single] at hC
  obtain ⟨a, b, ha, hb, rfl, rfl⟩ := Exec.of_exec hB
  cases hT.symm.trans ha
  cases hi.symm.trans hb
  obtain ⟨c, hc, ho, hg, q⟩ := destroy_quiet hC
  cases ((upd_other _ _ hTi).trans (upd_same _ _ _)).symm.trans hc
  refine ⟨?_, ?_, fun x hxi hxT => ?_, hg, q⟩
  · rw [ho]; exact (upd_other _ _ (Ne.symm hTi)).trans (upd_same _ _ _)
  · rw [ho]; exact upd_same _ _ _
  · rw [ho]; exact (upd_other _ _ hxT).trans ((upd_other _ _ hxi).trans (upd_other _ _ hxT))

theorem nativeMoveAssign_spec (cfg : Cfg) {w w1 : World} {evs : List Ev} (i j : Nat) (hij : i ≠ j)
    (ci cj : Cont) (hi : w.objs i = some ci) (hj : w.objs j = some cj)
    (h : run cfg.k w (nativeMoveAssign cfg i j) = some (w1, evs)) :
    w1.objs i = some cj ∧ w1.objs j = some (nullOf cfg.k cj) ∧
      (∀ x, x ≠ i → x ≠ j → w1.objs x = w.objs x) ∧
      (∀ h, h ∉ ci.owned → w1.heap.get h = w.heap.get h) ∧
      Quiet cfg.k (fun m h => ci.mgr = some m ∧ h ∈ ci.owned) evs := by
  have hji : j ≠ i := fun e => hij e.symm
  cases hk : cfg.k.arrayStyle with
  | true =>
    simp only [nativeMoveAssign, hk, if_true, hij, if_false] at h
    obtain ⟨wA, eA, eB, hA, hB, rfl⟩ := run_cons_inv h
    rw [run_single] at hB
    obtain ⟨c, hc, hoA, hgA, qA⟩ := destroy_quiet hA
    cases hi.symm.trans hc
    obtain ⟨s, hs, _, rfl, rfl⟩ := Exec.of_exec hB
    rw [hoA, upd_other _ _ hji, hj] at hs
    cases hs
    refine ⟨upd_same _ _ _, (upd_other _ _ hji).trans (upd_same _ _ _), fun x hxi hxj => ?_, hgA,
      qA.append (.relocs _)⟩
    rw [hoA]; exact (upd_other _ _ hxi).trans ((upd_other _ _ hxj).trans (upd_other _ _ hxi))
  | false =>
    simp only [nativeMoveAssign, hk, Bool.false_eq_true, if_false] at h
    obtain ⟨wA, eA, e', hA, h', rfl⟩ := run_cons_inv h
    obtain ⟨s, hs, ht, rfl, rfl⟩ := Exec.of_exec hA
    cases hj.symm.trans hs
    have hti := (ne_of_live_dead hi ht).symm
    have htj := (ne_of_live_dead hj ht).symm
    obtain ⟨g1, g2, g3, g4, q⟩ := swapDestroy_spec cfg.k cfg.t1 i hti cj ci (upd_same _ _ _)
      ((upd_other _ _ (Ne.symm hti)).trans ((upd_other _ _ hij).trans hi)) h'
    refine ⟨g1, (g3 j hji (Ne.symm htj)).trans ((upd_other _ _ (Ne.symm htj)).trans (upd_same _ _ _)),
      fun x hxi hxj => ?_, g4, (Trace.relocs _).append q⟩
    by_cases hxt : x = cfg.t1
    · rw [hxt, g2, ht]
    · exact (g3 x hxi hxt).trans ((upd_other _ _ hxt).trans (upd_other _ _ hxj))

theorem moveAssign_spec (cfg : Cfg) {w w1 : World} {evs : List Ev} (wf : WF w) (i j : Nat) (hij : i ≠ j)
    (ci cj : Cont) (hi : w.objs i = some ci) (hj : w.objs j = some cj)
    (h : step cfg w (.moveAssign i j) = some (w1, evs)) :
    w1.objs i = some cj ∧ w1.objs j = some (nullOf cfg.k cj) ∧ contents w1.heap cj = contents w.heap cj ∧
      (∀ x, x ≠ i → x ≠ j → w1.objs x = w.objs x) ∧
      Quiet cfg.k (fun m h => ci.mgr = some m ∧ h ∈ ci.owned) evs := by
  simp only [step, expand] at h
  obtain ⟨h1, h2, h3, h4, q⟩ := nativeMoveAssign_spec cfg i j hij ci cj hi hj h
  exact ⟨h1, h2, contents_untouched wf hij hi hj h4, h3, q⟩

/-- the tail `i = std::move(T); ~T` shared by all assignments through a temporary -/
theorem assignFromTemp_spec (cfg : Cfg) {wA w1 : World} {evs : List Ev} (wfA : WF wA) (i T : Nat) (hiT : i ≠ T)
    (ci t : Cont) (hi : wA.objs i = some ci) (hT : wA.objs T = some t)
    (h : run cfg.k wA (nativeMoveAssign cfg i T ++ [Prim.destroy T]) = some (w1, evs)) :
    w1.objs i = some t ∧ contents w1.heap t = contents wA.heap t ∧
      (∀ x, x ≠ i → x ≠ T → w1.objs x = wA.objs x) ∧
      (∀ x c, x ≠ i → wA.objs x = some c → contents w1.heap c = contents wA.heap c) ∧
      Quiet cfg.k (fun m h => ci.mgr = some m ∧ h ∈ ci.owned) evs := by
  obtain ⟨wB, eB, eC, hB, hC, rfl⟩ := run_append_inv h
  rw [run_single] at hC
  obtain ⟨hBi, hBT, hBo, hBg, qB⟩ := nativeMoveAssign_spec cfg i T hiT ci t hi hT hB
  obtain ⟨c, hc, ho, hg, qC⟩ := destroy_quiet hC
  cases hBT.symm.trans hc
  have hg' : ∀ h, w1.heap.get h = wB.heap.get h := fun h => hg h List.not_mem_nil
  have hcon : ∀ x c, x ≠ i → wA.objs x = some c → contents w1.heap c = contents wA.heap c := fun x c hxi hc =>
    (contents_agree fun h _ => hg' h).1.trans (contents_untouched wfA (Ne.symm hxi) hi hc hBg)
  refine ⟨?_, hcon T t (Ne.symm hiT) hT, fun x hxi hxT => ?_, hcon,
    qB.append (qC.mono (fun _ _ => id) fun m x hx => absurd hx.2 List.not_mem_nil)⟩
  · rw [ho]; exact (upd_other _ _ hiT).trans hBi
  · rw [ho]; exact (upd_other _ _ hxT).trans (hBo x hxi hxT)

/-- `[copy T j a] ++ (i = std::move(T)) ++ [~T]`: `Array::operator=(const Array&)`, and the wrappers' `operator=(const W&)` -/
theorem copyThenAssign_spec (cfg : Cfg) (hrb : RebuildOk cfg.k) {w w1 : World} {evs : List Ev} (wf : WF w)
    (i j : Nat) (hij : i ≠ j) (T : Nat) (a : Mgr) (ci cj : Cont) (hi : w.objs i = some ci) (hj : w.objs j = some cj)
    (h : run cfg.k w ([Prim.copy T j a] ++ nativeMoveAssign cfg i T ++ [Prim.destroy T]) = some (w1, evs)) :
    ∃ t, w1.objs i = some t ∧ t.mgr = some a ∧ t.aux.length = cfg.k.auxCount ∧
      contents w1.heap t = contents w.heap cj ∧ w1.objs j = some cj ∧ contents w1.heap cj = contents w.heap cj := by
  rw [List.append_assoc] at h
  obtain ⟨wA, eA, e', hA, h', rfl⟩ := run_append_inv h
  rw [run_single] at hA
  obtain ⟨wfA, hT, hjT, hfr, ⟨t, hAT, htm, hta, hct, hcj, _⟩, _⟩ := copy_step_spec cfg.k hrb wf T j a cj hj hA
  have hiT := ne_of_live_dead hi hT
  have hAj : wA.objs j = some cj := (hfr j hjT).trans hj
  obtain ⟨g1, g3, g4, g5, _⟩ := assignFromTemp_spec cfg wfA i T hiT ci t ((hfr i hiT).trans hi) hAT h'
  exact ⟨t, g1, htm, hta, g3.trans hct, (g4 j (Ne.symm hij) hjT).trans hAj, (g5 j cj (Ne.symm hij) hAj).trans hcj⟩

theorem copyAssign_spec (cfg : Cfg) (hrb : RebuildOk cfg.k) {w w1 : World} {evs : List Ev} (wf : WF w)
    (i j : Nat) (hij : i ≠ j) (ci cj : Cont) (hi : w.objs i = some ci) (hj : w.objs j = some cj)
    (h : step cfg w (.copyAssign i j) = some (w1, evs)) :
    ∃ t, w1.objs i = some t ∧ t.mgr = cj.mgr.map cfg.sel ∧ usable cfg.k t = true ∧
      contents w1.heap t = contents w.heap cj ∧ w1.objs j = some cj ∧ contents w1.heap cj = contents w.heap cj := by
  simp only [step, expand, hij, if_false, allocOf, hj, Option.bind_some] at h
  cases hm : cj.mgr with
  | none => simp [hm] at h
  | some m =>
    simp only [hm] at h
    cases hk : cfg.k.arrayStyle with
    | true =>
      simp only [hk, if_true] at h
      -- the temporary cannot be `i`: `i` is alive, the slot of the temporary must be free
      obtain ⟨_, _, _, hA, _, _⟩ := run_cons_inv h
      have hiT : i ≠ cfg.t1 := fun e => by
        obtain ⟨_, hT, _⟩ := Exec.of_exec hA; rw [← e, hi] at hT; cases hT
      have : run cfg.k w ([Prim.copy cfg.t1 j (cfg.sel m)] ++ nativeMoveAssign cfg i cfg.t1 ++ [Prim.destroy cfg.t1]) = some (w1, evs) := by
        simpa [nativeMoveAssign, hk, hiT] using h
      obtain ⟨t, h1, h2, h3, h4, h5, h6⟩ := copyThenAssign_spec cfg hrb wf i j hij cfg.t1 _ ci cj hi hj this
      exact ⟨t, h1, by simp [h2], by simp [usable, h2, h3], h4, h5, h6⟩
    | false =>
      simp only [hk, Bool.false_eq_true, if_false] at h
      obtain ⟨wA, eA, e', hA, h', rfl⟩ := run_cons_inv h
      obtain ⟨wfA, hT, hjT, hfr, ⟨t, hAT, htm, hta, hct, hcj, _⟩, _⟩ := copy_step_spec cfg.k hrb wf cfg.t1 j _ cj hj hA
      have hiT := ne_of_live_dead hi hT
      have hAi : wA.objs i = some ci := (hfr i hiT).trans hi
      have hAj : wA.objs j = some cj := (hfr j hjT).trans hj
      obtain ⟨g1, _, g3, g4, _⟩ := swapDestroy_spec cfg.k cfg.t1 i (Ne.symm hiT) t ci hAT hAi h'
      refine ⟨t, g1, by simp [htm], by simp [usable, htm, hta], ?_, (g3 j (Ne.symm hij) hjT).trans hAj, ?_⟩
      · rw [contents_untouched wfA hiT hAi hAT g4, hct]
      · rw [contents_untouched wfA hij hAi hAj g4, hcj]

theorem copyAssign_null_defined (cfg : Cfg) (w : World) (i j : Nat) (hij : i ≠ j) (ci cj : Cont)
    (hi : w.objs i = some ci) (hn : IsNull ci) (hj : w.objs j = some cj) (hm : cj.mgr.isSome = true)
    (ht : w.objs cfg.t1 = none) : (step cfg w (.copyAssign i j)).isSome = true := by
  have hti := (ne_of_live_dead hi ht).symm
  obtain ⟨m, hmm⟩ := Option.isSome_iff_exists.mp hm
  obtain ⟨wA, eA, t, hA, hoA⟩ := exec_copy_some cfg.k w cfg.t1 j (cfg.sel m) cj ht hj hm
  have hAT : wA.objs cfg.t1 = some t := by rw [hoA]; exact upd_same _ _ _
  have hAi : wA.objs i = some ci := by rw [hoA]; exact (upd_other _ _ (Ne.symm hti)).trans hi
  simp only [step, expand, hij, if_false, allocOf, hj, Option.bind_some, hmm]
  cases hk : cfg.k.arrayStyle with
  | false =>
    simp only [Bool.false_eq_true, if_false]
    rw [run_cons_some _ hA, run_swapDestroy_null cfg.k wA cfg.t1 i hti t ci hAT hAi hn]; rfl
  | true =>
    simp only [if_true]
    rw [run_cons_some _ hA, run_cons_some _ (exec_destroy_null cfg.k wA i ci hAi hn),
      run_relocate cfg.k _ i cfg.t1 t (upd_same _ _ _) ((upd_other _ _ hti).trans hAT)]
    rfl

theorem moveAssign_null_defined (cfg : Cfg) (w : World) (i j : Nat) (hij : i ≠ j) (ci cj : Cont)
    (hi : w.objs i = some ci) (hn : IsNull ci) (hj : w.objs j = some cj) (ht : w.objs cfg.t1 = none) :
    (step cfg w (.moveAssign i j)).isSome = true := by
  have hti := (ne_of_live_dead hi ht).symm
  simp only [step, expand, nativeMoveAssign]
  cases hk : cfg.k.arrayStyle with
  | false =>
    simp only [Bool.false_eq_true, if_false]
    rw [run_cons_some _ (Exec.exec (p := .move cfg.t1 j) ⟨cj, hj, ht, rfl, rfl⟩),
      run_swapDestroy_null cfg.k _ cfg.t1 i hti cj ci (upd_same _ _ _)
        ((upd_other _ _ (Ne.symm hti)).trans ((upd_other _ _ hij).trans hi)) hn]
    rfl
  | true =>
    simp only [if_true, hij, if_false]
    rw [run_cons_some _ (exec_destroy_null cfg.k w i ci hi hn), run_single,
      Exec.exec (p := .move i j) ⟨cj, (upd_other _ _ (Ne.symm hij)).trans hj, upd_same _ _ _, rfl, rfl⟩]
    rfl

/-- array-like containers: manager held inside the object, no constructor blocks -/
theorem null_usable_inline (k : Kind) (hc : k.crewPtr = false) (ha : k.ctorAux = 0) (s : Cont) (hs : s.mgr.isSome = true) :
    usable k (nullOf k s) = true := by
  simp [usable, nullOf, hc, hs, Kind.auxCount, ha]

theorem mutate_defined (cfg : Cfg) (w : World) (i : Nat) (c : Cont) (hi : w.objs i = some c) (hu : usable cfg.k c = true)
    (inl : List Elem) (cells : List (List Elem)) (cap : Nat) : (step cfg w (.mutate i inl cells cap)).isSome = true := by
  simp only [usable, Bool.and_eq_true, beq_iff_eq] at hu
  obtain ⟨m, hm⟩ := Option.isSome_iff_exists.mp hu.1
  simp only [step, expand, run_single,
    Exec.exec (k := cfg.k) (p := .setLayout i inl cells cap none) ⟨c, m, hi, hm, hu.2, rfl, rfl⟩]; rfl

/-- slot of the temporary nested container built by the wrappers' `operator=` -/
def tmpT (cfg : Cfg) : Nat := if cfg.k.arrayStyle then cfg.t1 else cfg.t2

theorem wCopyAssign_expand (cfg : Cfg) (w : World) (i j : Nat) (hij : i ≠ j) (a : Mgr)
    (ha : allocOf w (if cfg.isEmpty || cfg.pocca then j else i) = some a) (hiT : cfg.k.arrayStyle = true → i ≠ cfg.t1) :
    expand cfg w (.wCopyAssign i j) =
      some ([Prim.copy (tmpT cfg) j a] ++ nativeMoveAssign cfg i (tmpT cfg) ++ [Prim.destroy (tmpT cfg)]) := by
  simp only [expand, hij, if_false, ha, tmpT, nativeMoveAssign]
  rcases Bool.eq_false_or_eq_true cfg.k.arrayStyle with hk | hk
  · simp [hk, hiT hk]
  · simp [hk]

theorem wCopyAssign_spec (cfg : Cfg) (hrb : RebuildOk cfg.k) {w w1 : World} {evs : List Ev} (wf : WF w)
    (i j : Nat) (hij : i ≠ j) (ci cj : Cont) (hi : w.objs i = some ci) (hj : w.objs j = some cj)
    (h : step cfg w (.wCopyAssign i j) = some (w1, evs)) :
    ∃ t a, allocOf w (if cfg.isEmpty || cfg.pocca then j else i) = some a ∧
      w1.objs i = some t ∧ t.mgr = some a ∧ usable cfg.k t = true ∧
      contents w1.heap t = contents w.heap cj ∧ w1.objs j = some cj ∧ contents w1.heap cj = contents w.heap cj := by
  cases ha : allocOf w (if cfg.isEmpty || cfg.pocca then j else i) with
  | none => simp only [step, expand, hij, if_false, ha] at h; cases h
  | some a =>
    have hiT : cfg.k.arrayStyle = true → i ≠ cfg.t1 := by
      intro hk e
      simp only [step, expand, hij, if_false, ha, hk, if_true] at h
      obtain ⟨wA, eA, e', hA, _, _⟩ := run_cons_inv h
      obtain ⟨_, hT, _⟩ := Exec.of_exec hA; rw [← e, hi] at hT; cases hT
    simp only [step, wCopyAssign_expand cfg w i j hij a ha hiT] at h
    obtain ⟨t, h1, h2, h3, h4, h5, h6⟩ := copyThenAssign_spec cfg hrb wf i j hij (tmpT cfg) a ci cj hi hj h
    exact ⟨t, a, rfl, h1, h2, by simp [usable, h2, h3], h4, h5, h6⟩

end Momo.Val
