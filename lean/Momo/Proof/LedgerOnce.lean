import Momo.Proof.Ledger
/-!
  Consequences of the discipline, stated on the list of events by positions (splits of the list) and by counting:
  every `alloc` is followed by exactly one matching `dealloc` before anything else happens to that block, every
  element that begins to exist ceases to exist exactly once, nothing is used after its end (core Lean only).
-/
namespace Momo.Ledger

variable {β : Type} [DecidableEq β]
set_option linter.unusedSectionVars false

theorem openAs_iff_split (b : β) (m n : Nat) (pre : List (Ev β)) :
    OpenAs b m n pre ↔ ∃ p1 p2, pre = p1 ++ .alloc m b n :: p2 ∧ ∀ ev ∈ p2, ev.lifeB b = false := by
  unfold OpenAs lastB
  rw [ListFacts.getLast?_filter_eq_some]
  constructor
  · rintro ⟨p1, p2, h, _, hall⟩; exact ⟨p1, p2, h, hall⟩
  · rintro ⟨p1, p2, h, hall⟩; exact ⟨p1, p2, h, by simp [Ev.lifeB], hall⟩

theorem lifeB_cases {b : β} {ev : Ev β} (h : ev.lifeB b = true) :
    (∃ m n, ev = .alloc m b n) ∨ (∃ m n, ev = .dealloc m b n) := by
  cases ev with
  | alloc m b' n => simp [Ev.lifeB] at h; subst h; exact Or.inl ⟨m, n, rfl⟩
  | dealloc m b' n => simp [Ev.lifeB] at h; subst h; exact Or.inr ⟨m, n, rfl⟩
  | construct e => simp [Ev.lifeB] at h
  | destroy e => simp [Ev.lifeB] at h
  | relocate a d => simp [Ev.lifeB] at h
  | use e => simp [Ev.lifeB] at h
  | touch b' off len => simp [Ev.lifeB] at h

theorem released_once {tr pre post : List (Ev β)} {b : β} {m n : Nat} (hd : Disciplined tr) (hc : ¬ Open b tr)
    (htr : tr = pre ++ .alloc m b n :: post) :
    ∃ mid post', post = mid ++ .dealloc m b n :: post' ∧ ∀ ev ∈ mid, ev.lifeB b = false := by
  rcases ListFacts.first_or_none (Ev.lifeB b) post with hnone | ⟨mid, x, post', rfl, hx, hall⟩
  · exact absurd ⟨m, n, (openAs_iff_split b m n tr).mpr ⟨pre, post, htr, hnone⟩⟩ hc
  · have hopen : OpenAs b m n (pre ++ .alloc m b n :: mid) :=
      (openAs_iff_split b m n _).mpr ⟨pre, mid, rfl, hall⟩
    have hadm : Admissible (pre ++ .alloc m b n :: mid) x := hd _ x post' (by rw [htr]; simp)
    rcases lifeB_cases hx with ⟨m', n', rfl⟩ | ⟨m', n', rfl⟩
    · exact absurd ⟨m, n, hopen⟩ hadm
    · have : OpenAs b m' n' (pre ++ .alloc m b n :: mid) := hadm
      unfold OpenAs at this hopen
      rw [hopen] at this
      injection this with this
      injection this with h1 _ h3
      subst h1; subst h3
      exact ⟨mid, post', rfl, hall⟩

theorem dealloc_matches {tr pre post : List (Ev β)} {b : β} {m n : Nat} (hd : Disciplined tr)
    (htr : tr = pre ++ .dealloc m b n :: post) :
    ∃ p1 p2, pre = p1 ++ .alloc m b n :: p2 ∧ ∀ ev ∈ p2, ev.lifeB b = false :=
  (openAs_iff_split b m n pre).mp (hd pre _ post htr)

theorem alive_iff_split (e : Nat) (pre : List (Ev β)) :
    Alive e pre ↔ ∃ p1 ev p2, pre = p1 ++ ev :: p2 ∧ ev.begins e = true ∧ ev.ends e = false ∧
      ∀ x ∈ p2, x.lifeE e = false := by
  unfold Alive lastE
  constructor
  · rintro ⟨ev, h, hb, he⟩
    obtain ⟨p1, p2, h1, _, hall⟩ := (ListFacts.getLast?_filter_eq_some _ _ _).mp h
    exact ⟨p1, ev, p2, h1, hb, he, hall⟩
  · rintro ⟨p1, ev, p2, h1, hb, he, hall⟩
    exact ⟨ev, (ListFacts.getLast?_filter_eq_some _ _ _).mpr ⟨p1, p2, h1, by simp [Ev.lifeE, hb], hall⟩, hb, he⟩

theorem ends_of_alive {pre : List (Ev β)} {x : Ev β} {e : Nat} (ha : Alive e pre) (hadm : Admissible pre x)
    (hx : x.lifeE e = true) : x.ends e = true ∧ x.begins e = false := by
  cases x with
  | construct e' =>
    simp only [Ev.lifeE, Ev.begins, Ev.ends, Bool.or_false, decide_eq_true_eq] at hx
    subst hx; exact absurd ha hadm
  | destroy e' => exact ⟨by simpa [Ev.lifeE, Ev.begins, Ev.ends] using hx, rfl⟩
  | relocate a d =>
    have hd : d ≠ e := fun hd => by subst hd; exact hadm.2.2 ha
    simpa [Ev.lifeE, Ev.begins, Ev.ends, hd] using hx
  | _ => simp [Ev.lifeE, Ev.begins, Ev.ends] at hx

theorem ended_once {tr pre post : List (Ev β)} {e : Nat} {ev : Ev β} (hd : Disciplined tr) (hc : ¬ Alive e tr)
    (htr : tr = pre ++ ev :: post) (hb : ev.begins e = true) :
    ∃ mid x post', post = mid ++ x :: post' ∧ x.ends e = true ∧ x.begins e = false ∧ ∀ y ∈ mid, y.lifeE e = false := by
  -- the beginning event itself does not end `e` (a relocation onto itself is not admissible)
  have hne : ev.ends e = false := by
    cases ev with
    | relocate a d =>
      simp only [Ev.begins, decide_eq_true_eq] at hb
      subst hb
      simpa [Ev.ends] using (hd pre _ post htr : Admissible pre (.relocate a d)).1
    | destroy e' => cases hb
    | _ => rfl
  rcases ListFacts.first_or_none (Ev.lifeE e) post with hnone | ⟨mid, x, post', rfl, hx, hall⟩
  · exact absurd ((alive_iff_split e tr).mpr ⟨pre, ev, post, htr, hb, hne, hnone⟩) hc
  · obtain ⟨h1, h2⟩ := ends_of_alive ((alive_iff_split e _).mpr ⟨pre, ev, mid, rfl, hb, hne, hall⟩)
      (hd (pre ++ ev :: mid) x post' (by rw [htr]; simp)) hx
    exact ⟨mid, x, post', rfl, h1, h2, hall⟩

theorem not_alive_after_end {pre : List (Ev β)} {x : Ev β} {e : Nat} (hx : x.ends e = true) :
    ∀ mid : List (Ev β), (∀ y ∈ mid, y.begins e = false) → ¬ Alive e (pre ++ x :: mid) := by
  intro mid
  induction mid using ListFacts.snoc_induction with
  | nil =>
    intro _ h
    rw [alive_snoc] at h
    simp [Ev.lifeE, hx] at h
  | append_singleton mid y ih =>
    intro hall h
    rw [show pre ++ x :: (mid ++ [y]) = (pre ++ x :: mid) ++ [y] by simp, alive_snoc] at h
    by_cases hy : y.lifeE e = true
    · rw [if_pos hy, hall y (by simp)] at h; exact Bool.noConfusion h.1
    · rw [if_neg hy] at h; exact ih (fun z hz => hall z (List.mem_append_left _ hz)) h

theorem no_use_after_end {tr pre mid post : List (Ev β)} {e : Nat} {x : Ev β} (hd : Disciplined tr)
    (htr : tr = pre ++ x :: (mid ++ .use e :: post)) (hx : x.ends e = true) :
    ∃ y ∈ mid, y.begins e = true := by
  rcases ListFacts.first_or_none (fun y => y.begins e) mid with hnone | ⟨m1, y, m2, rfl, hy, _⟩
  · exact absurd (hd (pre ++ x :: mid) (.use e) post (by rw [htr]; simp)) (not_alive_after_end hx mid hnone)
  · exact ⟨y, by simp, hy⟩

def Ev.isAllocOf (b : β) : Ev β → Bool
  | .alloc _ b' _ => decide (b' = b)
  | _ => false
def Ev.isDeallocOf (b : β) : Ev β → Bool
  | .dealloc _ b' _ => decide (b' = b)
  | _ => false

def allocs (b : β) (tr : List (Ev β)) : Nat := (tr.filter (Ev.isAllocOf b)).length
def deallocs (b : β) (tr : List (Ev β)) : Nat := (tr.filter (Ev.isDeallocOf b)).length

def openCount (s : St β) (b : β) : Nat := if (findB b s.blocks).isSome then 1 else 0

/-- a counter of the state that an accepted `p`-event raises and an accepted `q`-event lowers balances the two counts -/
theorem count_run (p q : Ev β → Bool) (c : St β → Nat)
    (hstep : ∀ {s : St β} {ev : Ev β}, StepOK s ev → (if p ev then 1 else 0) + c s = (if q ev then 1 else 0) + c (next s ev)) :
    ∀ (tr : List (Ev β)) (s s' : St β), run s tr = some s' →
      (tr.filter p).length + c s = (tr.filter q).length + c s'
  | [], _, _, h => by cases h; rfl
  | ev :: r, s, s', h => by
    by_cases hok : StepOK s ev
    · rw [run_cons_ok hok] at h
      have h1 := count_run p q c hstep r _ s' h
      have h2 := hstep hok
      rw [ListFacts.length_filter_cons, ListFacts.length_filter_cons]
      omega
    · rw [run_cons_reject hok] at h; cases h

theorem openCount_next {s : St β} {ev : Ev β} (h : StepOK s ev) (b : β) :
    (if ev.isAllocOf b then 1 else 0) + openCount s b = (if ev.isDeallocOf b then 1 else 0) + openCount (next s ev) b := by
  unfold openCount
  rw [findB_next]
  cases ev with
  | alloc m b' n =>
    by_cases hb : b' = b
    · subst hb; simp [Ev.isAllocOf, Ev.isDeallocOf, show findB b' s.blocks = none from h]
    · simp [Ev.isAllocOf, Ev.isDeallocOf, hb]
  | dealloc m b' n =>
    by_cases hb : b' = b
    · subst hb; simp [Ev.isAllocOf, Ev.isDeallocOf, show findB b' s.blocks = some (m, n) from h]
    · simp [Ev.isAllocOf, Ev.isDeallocOf, hb]
  | _ => simp [Ev.isAllocOf, Ev.isDeallocOf]

theorem count_blocks (b : β) (tr : List (Ev β)) : ∀ (s s' : St β), run s tr = some s' →
    allocs b tr + openCount s b = deallocs b tr + openCount s' b :=
  count_run _ _ (openCount · b) (fun hok => openCount_next hok b) tr

def begun (e : Nat) (tr : List (Ev β)) : Nat := (tr.filter (Ev.begins e)).length
def ended (e : Nat) (tr : List (Ev β)) : Nat := (tr.filter (Ev.ends e)).length
def aliveCount (s : St β) (e : Nat) : Nat := if memE e s.elems then 1 else 0

theorem aliveCount_next {s : St β} {ev : Ev β} (h : StepOK s ev) (e : Nat) :
    (if ev.begins e then 1 else 0) + aliveCount s e = (if ev.ends e then 1 else 0) + aliveCount (next s ev) e := by
  unfold aliveCount
  rw [memE_next]
  cases ev with
  | construct e' =>
    by_cases hb : e' = e
    · subst hb; simp [Ev.begins, Ev.ends, show memE e' s.elems = false from h]
    · simp [Ev.begins, Ev.ends, hb]
  | destroy e' =>
    by_cases hb : e' = e
    · subst hb; simp [Ev.begins, Ev.ends, show memE e' s.elems = true from h]
    · simp [Ev.begins, Ev.ends, hb]
  | relocate a d =>
    obtain ⟨had, ha, hd⟩ := h
    by_cases hde : d = e
    · subst hde; simp [Ev.begins, Ev.ends, had, hd]
    · by_cases hae : a = e
      · subst hae; simp [Ev.begins, Ev.ends, hde, ha]
      · simp [Ev.begins, Ev.ends, hde, hae]
  | _ => simp [Ev.begins, Ev.ends]

theorem count_elems (e : Nat) (tr : List (Ev β)) : ∀ (s s' : St β), run s tr = some s' →
    begun e tr + aliveCount s e = ended e tr + aliveCount s' e :=
  count_run _ _ (aliveCount · e) (fun hok => aliveCount_next hok e) tr

end Momo.Ledger
