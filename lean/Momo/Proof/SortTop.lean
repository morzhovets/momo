import Momo.Proof.SortFind
import Momo.Proof.SortIsSorted
import Momo.Proof.SortGroup
import Momo.Proof.SortPartition
/-!
  C17: the list-level statements.  The sequence is the list of cells `(item, code)` that a
  lawful memory holds; the index-function statements (SortSearch, SortFind, SortIsSorted) and the frame statements
  (SortSel, SortGroup, SortCount … SortPartition) are restated for it, through `GroupedCells`, `ConsL` and the bridges to
  `ContigF` / `SortedF`.
-/
namespace Momo.Sort
variable {σ α : Type}

def GroupedCells (eq : α → α → Bool) (l : List (α × Nat)) : Prop :=
  ∀ i j k (_ : i < j) (_ : j < k) (hk : k < l.length), eq (l[i]).1 (l[k]).1 = true → eq (l[i]).1 (l[j]).1 = true

def ConsL (eq : α → α → Bool) (l : List (α × Nat)) : Prop :=
  ∀ x ∈ l, ∀ y ∈ l, eq x.1 y.1 = true → x.2 = y.2

theorem groupedCells_iff_contigF (eq : α → α → Bool) (l : List (α × Nat)) (d : α × Nat) :
    GroupedCells eq l ↔ ContigF eq (fun i => l.getD i d) l.length := by
  constructor
  · intro h i j k hij hjk hk hik
    simp only [ListFacts.getD_eq_getElem (show i < l.length by omega), ListFacts.getD_eq_getElem (show j < l.length by omega), ListFacts.getD_eq_getElem hk] at hik ⊢
    exact h i j k hij hjk hk hik
  · intro h i j k hij hjk hk hik
    have := h i j k hij hjk hk
    simp only [ListFacts.getD_eq_getElem (show i < l.length by omega), ListFacts.getD_eq_getElem (show j < l.length by omega), ListFacts.getD_eq_getElem hk] at this
    exact this hik

theorem sortedL_iff_sortedF (l : List (α × Nat)) (d : α × Nat) : SortedL l ↔ SortedF (fun i => l.getD i d) l.length := by
  rw [sortedL_iff_cd]
  constructor
  · intro h i j hij hj
    by_cases he : i = j
    · subst he; exact Nat.le_refl _
    · have := h i j (by omega) hj
      rw [cd_eq (by omega), cd_eq hj] at this
      simpa only [ListFacts.getD_eq_getElem (show i < l.length by omega), ListFacts.getD_eq_getElem hj] using this
  · intro h a b hab hb
    have := h a b (by omega) hb
    simp only [ListFacts.getD_eq_getElem (show a < l.length by omega), ListFacts.getD_eq_getElem hb] at this
    rw [cd_eq (by omega), cd_eq hb]
    exact this

section
variable {M : Mem σ α} {abs : σ → List (α × Nat)} {ok : σ → Prop} (L : Lawful M abs ok)
include L

theorem Lawful.mrepr (s : σ) (hok : ok s) (d : α × Nat) : MRepr M s (fun i => (abs s).getD i d) (abs s).length := by
  intro i hi
  rw [L.item s hok, L.code s hok, List.getElem?_eq_getElem hi]
  simp only [ListFacts.getD_eq_getElem hi]
  exact ⟨rfl, rfl⟩

omit L in
theorem resp_getD {eq : α → α → Bool} {l : List (α × Nat)} {item : α} {itemHash : Nat} (d : α × Nat)
    (hresp : ∀ x ∈ l, eq x.1 item = true → x.2 = itemHash) :
    ∀ i, i < l.length → eq (l.getD i d).1 item = true → (l.getD i d).2 = itemHash := fun i hi h => by
  rw [ListFacts.getD_eq_getElem hi] at h ⊢; exact hresp _ (List.getElem_mem hi) h

/-! In the three theorems below `n` is the `count` passed to the routine: the number of cells. -/

theorem find_list {eq : α → α → Bool} (he : IsEqv eq) (s : σ) (hok : ok s) (n : Nat) (hn : (abs s).length = n)
    (hs : SortedL (abs s)) (hg : GroupedCells eq (abs s)) (item : α) (itemHash : Nat) (hh : itemHash < 2 ^ 64)
    (hresp : ∀ x ∈ abs s, eq x.1 item = true → x.2 = itemHash) :
    ∃ idx found, find M eq s n item itemHash = some (idx, found) ∧ idx ≤ n ∧
      found = (abs s).any (fun x => eq x.1 item) ∧
      (found = true → ∃ x, (abs s)[idx]? = some x ∧ eq x.1 item = true) := by
  subst hn
  cases hl : abs s with
  | nil => exact ⟨0, false, rfl, Nat.le_refl _, rfl, fun h => nomatch h⟩
  | cons d t =>
    rw [← hl]
    obtain ⟨⟨idx, found⟩, hres, hpost⟩ := find_spec (L.mrepr s hok d) he ((sortedL_iff_sortedF _ d).1 hs)
      ((groupedCells_iff_contigF eq _ d).1 hg) item itemHash hh (resp_getD d hresp)
    cases found with
    | true =>
      obtain ⟨h1, h2⟩ := hpost.1 rfl
      simp only [ListFacts.getD_eq_getElem h1] at h2
      exact ⟨idx, true, hres, Nat.le_of_lt h1, (List.any_eq_true.2 ⟨_, List.getElem_mem h1, h2⟩).symm,
        fun _ => ⟨_, List.getElem?_eq_getElem h1, h2⟩⟩
    | false =>
      obtain ⟨h1, h2⟩ := hpost.2 rfl
      refine ⟨idx, false, hres, h1, (List.any_eq_false.2 fun x hx hxe => ?_).symm, fun h => nomatch h⟩
      obtain ⟨i, hi, rfl⟩ := List.mem_iff_getElem.1 hx
      have := h2 i hi
      simp only [ListFacts.getD_eq_getElem hi, hxe] at this
      cases this

theorem getBounds_list {eq : α → α → Bool} (he : IsEqv eq) (s : σ) (hok : ok s) (n : Nat) (hn : (abs s).length = n)
    (hs : SortedL (abs s)) (hg : GroupedCells eq (abs s)) (item : α) (itemHash : Nat) (hh : itemHash < 2 ^ 64)
    (hresp : ∀ x ∈ abs s, eq x.1 item = true → x.2 = itemHash) :
    ∃ b e, getBounds M eq s n item itemHash = some (b, e) ∧ b ≤ e ∧ e ≤ n ∧
      ∀ k (hk : k < (abs s).length), eq ((abs s)[k]).1 item = true ↔ b ≤ k ∧ k < e := by
  subst hn
  cases hl : abs s with
  | nil => exact ⟨0, 0, rfl, Nat.le_refl _, Nat.le_refl _, fun k hk => absurd hk (Nat.not_lt_zero _)⟩
  | cons d t =>
    rw [← hl]
    obtain ⟨res, hres, h1, h2, h3⟩ := getBounds_spec (L.mrepr s hok d) he ((sortedL_iff_sortedF _ d).1 hs)
      ((groupedCells_iff_contigF eq _ d).1 hg) item itemHash hh (resp_getD d hresp)
    exact ⟨res.1, res.2, hres, h1, h2, fun k hk => by simpa only [ListFacts.getD_eq_getElem hk] using h3 k hk⟩

theorem isSorted_list {eq : α → α → Bool} (he : IsEqv eq) (s : σ) (hok : ok s) (n : Nat) (hn : (abs s).length = n)
    (hcons : ConsL eq (abs s)) :
    ∃ b, isSorted M eq s n = some b ∧ (b = true ↔ SortedL (abs s) ∧ GroupedCells eq (abs s)) := by
  subst hn
  cases hl : abs s with
  | nil =>
    exact ⟨true, rfl, iff_of_true rfl ⟨List.Pairwise.nil, fun i j k _ _ hk => absurd hk (Nat.not_lt_zero _)⟩⟩
  | cons d t =>
    rw [← hl]
    obtain ⟨b, hb, hbi⟩ := isSorted_spec he (L.mrepr s hok d) fun i j hi hj h => by
      rw [ListFacts.getD_eq_getElem hi, ListFacts.getD_eq_getElem hj] at h ⊢
      exact hcons _ (List.getElem_mem hi) _ (List.getElem_mem hj) h
    exact ⟨b, hb, by rw [hbi, ← sortedL_iff_sortedF _ d, ← groupedCells_iff_contigF eq _ d]⟩

end

/-- The `Q` of `GoodP` / `GroupSpec` for `HashSorter` is membership in the list `l0` the sort started from: every cell of
every block is one of its cells, and in `l0` equal items carry equal codes, so they cannot end up in two radix buckets. -/
theorem groupedCells_goodP {eq : α → α → Bool} {l0 : List (α × Nat)} (hc : ConsL eq l0) :
    GoodP (fun x : α × Nat => x ∈ l0) (GroupedCells eq) where
  small := fun l hl i j k hij hjk hk => by omega
  append := by
    intro l1 l2 hQ1 hQ2 h1 h2 hsep
    cases l1 with
    | nil => exact h2
    | cons d t =>
      generalize d :: t = l1 at *
      rw [groupedCells_iff_contigF eq _ d] at h1 h2 ⊢
      rw [List.length_append]
      refine ContigF.append (h1.congr fun i hi => (ListFacts.getD_append_left hi).symm)
        (by rw [Nat.add_sub_cancel_left]; exact h2.congr fun i hi => (ListFacts.getD_append_right hi).symm) fun a c ha hpc hc' hac => ?_
      -- a cell of `l1` and a cell of `l2` have different codes, so their items cannot be equal
      obtain ⟨k, rfl⟩ := Nat.exists_eq_add_of_le hpc
      have hk : k < l2.length := Nat.lt_of_add_lt_add_left hc'
      have hac : eq ((l1 ++ l2).getD a d).1 ((l1 ++ l2).getD (l1.length + k) d).1 = true := hac
      rw [ListFacts.getD_append_left ha, ListFacts.getD_append_right hk, ListFacts.getD_eq_getElem ha, ListFacts.getD_eq_getElem hk] at hac
      have := hsep _ (List.getElem_mem ha) _ (List.getElem_mem hk)
      rw [hc _ (hQ1 _ (List.getElem_mem ha)) _ (hQ2 _ (List.getElem_mem hk)) hac] at this
      exact Nat.lt_irrefl _ this

theorem group_list {M : Mem σ α} {abs : σ → List (α × Nat)} {ok : σ → Prop} (L : Lawful M abs ok)
    {eq : α → α → Bool} (he : IsEqv eq) (pre post : List (α × Nat)) (s : σ) (seg : List (α × Nat))
    (hh : Holds abs ok s (pre ++ seg ++ post)) :
    ∃ s' seg', group M eq s pre.length seg.length = some s' ∧
      Holds abs ok s' (pre ++ seg' ++ post) ∧ seg'.Perm seg ∧ GroupedCells eq seg' := by
  cases seg with
  | nil => exact ⟨s, [], rfl, hh, List.Perm.refl _, fun i j k _ _ hk => absurd hk (Nat.not_lt_zero _)⟩
  | cons d t =>
    obtain ⟨s', seg', h1, h2, h3, h4⟩ := group_spec L he pre post d s (d :: t) hh
    exact ⟨s', seg', h1, h2, h3, (groupedCells_iff_contigF eq seg' d).2 h4⟩

theorem hsGroupFn_spec {M : Mem σ α} {abs : σ → List (α × Nat)} {ok : σ → Prop} (L : Lawful M abs ok)
    {eq : α → α → Bool} (he : IsEqv eq) (Q : α × Nat → Prop) :
    GroupSpec abs ok Q (GroupedCells eq) (hsGroupFn M eq) := by
  intro s pre seg post hh _ _
  unfold hsGroupFn
  by_cases h2 : seg.length > 2
  · rw [if_pos h2]
    exact group_list L he pre post s seg hh
  · rw [if_neg h2]
    exact ⟨s, seg, rfl, hh, List.Perm.refl _, fun i j k hij hjk hk => by omega⟩

theorem noGroupFn_spec {abs : σ → List (α × Nat)} {ok : σ → Prop} :
    GroupSpec abs ok (fun _ => True) (fun _ => True) (noGroupFn (σ := σ)) := by
  intro s pre seg post hh _ _
  exact ⟨s, seg, rfl, hh, List.Perm.refl _, trivial⟩

theorem trivial_goodP : GoodP (fun _ : α × Nat => True) (fun _ => True) where
  small := fun _ _ => trivial
  append := fun _ _ _ _ _ _ _ => trivial

section
variable {M : Mem σ α} {abs : σ → List (α × Nat)} {ok : σ → Prop} (L : Lawful M abs ok)
include L

theorem hashSort_list {eq : α → α → Bool} (he : IsEqv eq) (s : σ) (hok : ok s) (n : Nat) (hn : (abs s).length = n)
    (hcons : ConsL eq (abs s)) (h64 : ∀ x ∈ abs s, x.2 < 2 ^ 64) :
    ∃ s', hashSort M eq s n = some s' ∧ ok s' ∧ (abs s').Perm (abs s) ∧
      SortedL (abs s') ∧ GroupedCells eq (abs s') := by
  subst hn
  obtain ⟨s', l', h1, ⟨h2, rfl⟩, h3, h4, h5⟩ := radixSorterSortWith_spec L (hsGroupFn_spec L he _) (groupedCells_goodP hcons)
    (partition_spec L Extracted.rsDefaultRadixSize) (by decide) 64 s (abs s) ⟨hok, rfl⟩ (fun _ h => h) h64
  exact ⟨s', h1, h2, h3, h4, h5⟩

theorem radixSort_list (R W : Nat) (hR : 0 < R) (s : σ) (hok : ok s) (n : Nat) (hn : (abs s).length = n)
    (hW : ∀ x ∈ abs s, x.2 < 2 ^ W) :
    ∃ s', radixSorterSort M R W noGroupFn s n = some s' ∧ ok s' ∧ (abs s').Perm (abs s) ∧ SortedL (abs s') := by
  subst hn
  obtain ⟨s', l', h1, ⟨h2, rfl⟩, h3, h4, _⟩ := radixSorterSortWith_spec L noGroupFn_spec trivial_goodP
    (partition_spec L R) hR W s (abs s) ⟨hok, rfl⟩ (fun _ _ => trivial) hW
  exact ⟨s', h1, h2, h3, h4⟩

end

end Momo.Sort
