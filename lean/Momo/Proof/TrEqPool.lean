import Momo.Translated.Pool
import Momo.Proof.Word64
import Momo.Proof.PoolGeometry
import Momo.Proof.PoolOps
/-!
  C09: the address / size arithmetic of `momo::MemPool` as translated from MemPool.h / Utility.h (`Momo.Tr.pool_*`,
  lean/Momo/Translated/Pool.lean) computes the model functions of `Momo/Model/Pool.lean` part (a) the C09 layout theorems are about.

  The generated defs work on 64-bit words (`size_t`, `uintptr_t`, `Byte*` = `Nat` reduced mod 2^64) and on `ptrdiff_t` /
  `int8_t` values (`Int`, every signed result reduced to two's complement); the model works on unbounded `Int`.
  Each theorem states the hypotheses under which nothing wraps: the parameters are `size_t` values, `blockSize`,
  `blockAlignment < 2^63` where the C++ casts them to `ptrdiff_t`, and the addresses computed stay below 2^64.
  That `index * blockSize` fits `ptrdiff_t` (no signed overflow in the C++) is not needed for the equalities, since the product is
  only added to an address (`ofI64_wI64`); `tr_getBlockIndex` and `tr_getBlock_of_inside` state it all the same.

  The model's `Params` has `Int` fields, the generated functions take the words `S A N`. A function that reads one or two of them
  takes the equations it needs (`hS : P.S = S`, `hA : P.A = A`); one that reads all three, and every step of `pvNewBuffer`
  (`step2w_eq` … `firstBlock64_eq`, which are used together), takes the record `IsParams P S A N`; the theorems for legal pools
  take `LegalFit`, which contains it.
-/
namespace Momo.TrEq
open Momo Momo.Seg Momo.Pool

/-- the `size_t` parameters of a pool as the C++ functions read them -/
structure IsParams (P : Params) (S A N : Nat) : Prop where
  hS : P.S = S
  hA : P.A = A
  hN : P.N = N

/-! ### words and `ptrdiff_t` values as integers: every operation is the exact one reduced mod 2^64 -/

theorem toI64_of_lt {n : Nat} (h : n < 2 ^ 63) : Tr.toI64 n = (n : Int) := by
  unfold Tr.toI64
  rw [Nat.mod_eq_of_lt (Nat.lt_trans h (by decide)), if_pos h]

theorem ofI64_cast (x : Int) : ((Tr.ofI64 x : Nat) : Int) = x % 18446744073709551616 :=
  Int.toNat_of_nonneg (Int.emod_nonneg x (by decide))

theorem ofI64_lt (x : Int) : Tr.ofI64 x < 2 ^ 64 :=
  Int.ofNat_lt.mp (by rw [ofI64_cast]; exact Int.emod_lt_of_pos x (by decide))

theorem ofI64_natCast {a : Nat} (h : a < 2 ^ 64) : Tr.ofI64 (a : Int) = a :=
  Int.ofNat_inj.mp (by rw [ofI64_cast]; exact Int.emod_eq_of_lt (Int.natCast_nonneg a) (Int.ofNat_lt.mpr h))

theorem ofI64_toI64 {n : Nat} (h : n < 2 ^ 64) : Tr.ofI64 (Tr.toI64 n) = n := by
  unfold Tr.toI64
  rw [Nat.mod_eq_of_lt h]
  split
  · exact ofI64_natCast h
  · unfold Tr.ofI64; rw [Int.sub_emod_right]; exact ofI64_natCast h

/-- `static_cast<size_t>` of a signed result does not see its reduction to two's complement: a product or difference that is
    only added to an address has to be right mod 2^64, not to fit `ptrdiff_t` -/
theorem ofI64_wI64 (x : Int) : Tr.ofI64 (Tr.wI64 x) = Tr.ofI64 x := ofI64_toI64 (ofI64_lt x)

theorem w64_cast (n : Nat) : ((w64 n : Nat) : Int) = (n : Int) % 18446744073709551616 := by
  rw [w64_eq]; exact Int.natCast_emod n _

theorem add64_cast (a b : Nat) : ((add64 a b : Nat) : Int) = ((a : Int) + b) % 18446744073709551616 := by
  unfold add64; rw [w64_cast, Int.natCast_add]

theorem sub64_cast (a b : Nat) (ha : a < 2 ^ 64) (hb : b < 2 ^ 64) :
    ((sub64 a b : Nat) : Int) = ((a : Int) - b) % 18446744073709551616 := by
  unfold sub64
  split
  · next h => rw [Int.natCast_sub h, Int.emod_eq_of_lt (by omega) (by omega)]
  · next h =>
    have e : ((a + 18446744073709551616 - b : Nat) : Int) = (a : Int) - b + 18446744073709551616 := by omega
    rw [w64_cast, e, Int.add_emod_right]

theorem wI64_of_bounds {x : Int} (h1 : -2 ^ 63 ≤ x) (h2 : x < 2 ^ 63) : Tr.wI64 x = x := by
  unfold Tr.wI64 Tr.toI64
  rw [Nat.mod_eq_of_lt (ofI64_lt x)]
  have := ofI64_cast x
  split <;> omega

theorem wI8_of_bounds {x : Int} (h1 : -128 ≤ x) (h2 : x < 128) : Tr.wI8 x = x := by
  unfold Tr.wI8
  rw [Int.emod_eq_of_lt (by omega) (by omega)]; omega

theorem sub64_ofI64_mod (b : Nat) (x : Int) (hb : b < 2 ^ 64) :
    ((sub64 b (Tr.ofI64 x) : Nat) : Int) = ((b : Int) - x) % 18446744073709551616 := by
  rw [sub64_cast b _ hb (ofI64_lt x), ofI64_cast, Int.sub_emod_emod]

theorem mul64_cast (a b : Nat) : ((mul64 a b : Nat) : Int) = ((a : Int) * b) % 18446744073709551616 := by
  unfold mul64; rw [w64_cast, Int.natCast_mul]

theorem add64_add64_ofI64 (b : Nat) (x y : Int) (h0 : 0 ≤ (b : Int) + x + y) (h1 : (b : Int) + x + y < 2 ^ 64) :
    ((add64 (add64 b (Tr.ofI64 x)) (Tr.ofI64 y) : Nat) : Int) = b + x + y := by
  rw [add64_cast, add64_cast, ofI64_cast, ofI64_cast, Int.add_emod_emod, Int.add_emod_emod, Int.emod_add_emod]
  exact Int.emod_eq_of_lt h0 h1

theorem sub64_sub64_ofI64 (b : Nat) (x y : Int) (hb : b < 2 ^ 64) (h0 : 0 ≤ (b : Int) - x - y)
    (h1 : (b : Int) - x - y < 2 ^ 64) :
    ((sub64 (sub64 b (Tr.ofI64 x)) (Tr.ofI64 y) : Nat) : Int) = b - x - y := by
  rw [sub64_ofI64_mod _ y (sub64_lt _ hb), sub64_ofI64_mod b x hb, Int.emod_sub_emod]
  exact Int.emod_eq_of_lt h0 h1

/-! ### `a & -1 = a`, `a & 0 = 0` on `ptrdiff_t`: the masks `A & -dir`, `N & (dir - 1)` for a bit `dir` -/

theorem andI64_zero (x : Int) : Tr.andI64 x 0 = 0 := by
  unfold Tr.andI64
  rw [show Tr.ofI64 0 = 0 from rfl, Nat.and_zero]; rfl

theorem andI64_neg_one (a : Nat) (ha : a < 2 ^ 63) : Tr.andI64 (Tr.toI64 a) (-1) = a := by
  have ha' : a < 2 ^ 64 := Nat.lt_trans ha (by decide)
  unfold Tr.andI64
  rw [toI64_of_lt ha, ofI64_natCast ha', show Tr.ofI64 (-1) = 2 ^ 64 - 1 from rfl,
    Nat.and_two_pow_sub_one_eq_mod, Nat.mod_eq_of_lt ha', toI64_of_lt ha]

theorem andI64_neg_bit (a d : Nat) (ha : a < 2 ^ 63) (hd : d < 2) :
    Tr.andI64 (Tr.toI64 a) (Tr.negI64 (Tr.toI64 d)) = if (d : Int) = 1 then (a : Int) else 0 := by
  obtain rfl | rfl : d = 0 ∨ d = 1 := by omega
  · exact andI64_zero _
  · exact andI64_neg_one a ha

theorem andI64_pred_bit (a d : Nat) (ha : a < 2 ^ 63) (hd : d < 2) :
    Tr.andI64 (Tr.toI64 a) (Tr.subI64 (Tr.toI64 d) 1) = if (d : Int) = 0 then (a : Int) else 0 := by
  obtain rfl | rfl : d = 0 ∨ d = 1 := by omega
  · exact andI64_neg_one a ha
  · exact andI64_zero _

theorem tr_ceil_nat (v m : Nat) (hm : 0 < m) (h : v + m < 2 ^ 64) :
    Tr.pool_Ceil v m = (v + m - 1) / m * m := ceil64 hm h

theorem tr_ceil_bounds (v m : Nat) (hm : 0 < m) (h : v + m < 2 ^ 64) :
    v ≤ Tr.pool_Ceil v m ∧ Tr.pool_Ceil v m < v + m := by
  have h1 := Nat.div_add_mod (v + m - 1) m
  have h2 := Nat.mod_lt (v + m - 1) hm
  rw [Nat.mul_comm] at h1
  rw [tr_ceil_nat v m hm h]
  omega

theorem tr_ceil (v m : Nat) (hm : 0 < m) (h : v + m < 2 ^ 64) :
    ((Tr.pool_Ceil v m : Nat) : Int) = ceilTo v m := by
  rw [tr_ceil_nat v m hm h, ceilTo, Int.natCast_mul, Int.natCast_ediv,
    Int.natCast_sub (Nat.le_trans hm (Nat.le_add_left m v)), Int.natCast_add]
  rfl

/-- `a & (~a + 1)`, as the translator writes `a & -a` on `size_t` -/
theorem lowBit_eq (a : Nat) (h0 : 0 < a) (h : a < 2 ^ 64) :
    a &&& add64 (Tr.not64 a) 1 = lowBit a := by
  unfold lowBit Tr.not64
  rw [Nat.mod_eq_of_lt (by omega), add64_of_lt (by omega)]
  congr 1; omega

theorem tr_alignAddend (P : Params) (A : Nat) (hA : P.A = A) (h0 : 0 < A) (h : A < 2 ^ 64) :
    ((Tr.pool_pvGetAlignmentAddend A : Nat) : Int) = P.alignAddend := by
  unfold Tr.pool_pvGetAlignmentAddend Params.alignAddend Params.allocAlign
  rw [lowBit_eq A h0 h, hA, Int.toNat_natCast]
  have hl : lowBit A ≤ A := Nat.and_le_left
  have hm : (if decide (lowBit A < maxAllocAlignment) = true then lowBit A else maxAllocAlignment) =
      min maxAllocAlignment (lowBit A) := by
    rw [Nat.min_def]; simp only [decide_eq_true_eq]; split <;> split <;> omega
  rw [hm, sub64_of_le (Nat.le_trans (Nat.min_le_right _ _) hl), Int.natCast_sub (Nat.le_trans (Nat.min_le_right _ _) hl)]
  rfl

theorem tr_correctBlockSize (S A N : Nat) (h0 : 0 < A) (h : S + A < 2 ^ 64) (h2 : 2 * A < 2 ^ 64) :
    ((Tr.pool_CorrectBlockSize S A N : Nat) : Int) = correctBlockSize S A N := by
  unfold Tr.pool_CorrectBlockSize correctBlockSize
  simp only [decide_eq_true_eq, gt_iff_lt, Int.natCast_pos, Int.ofNat_le]
  by_cases hN : N = 1
  · rw [if_pos hN, if_pos (show (N : Int) = 1 by rw [hN]; rfl)]
    split <;> rfl
  · rw [if_neg hN, if_neg (fun h : (N : Int) = 1 => hN (Int.ofNat_inj.mp h))]
    split
    · rw [mul64_of_lt h2]; rfl
    · exact tr_ceil S A h0 h

theorem sizeof_toNat : sizeofBufferBytes.toNat = 2 ∧ sizeofPtr.toNat = 8 ∧ sizeofU16.toNat = 2 := ⟨rfl, rfl, rfl⟩

theorem tr_bytesNear (P : Params) (A : Nat) (hA : P.A = A) : Tr.pool_pvIsBufferBytesNear A = P.bytesNear := by
  unfold Tr.pool_pvIsBufferBytesNear Params.bytesNear
  rw [sizeof_toNat.1, show add64 2 1 = 3 from rfl, hA]
  exact decide_eq_decide.mpr Int.ofNat_le.symm

theorem tr_useCache (P : Params) (S : Nat) (hS : P.S = S) : Tr.pool_pvUseCache P.C S = P.useCache := by
  unfold Tr.pool_pvUseCache Params.useCache
  rw [sizeof_toNat.2.1, hS]
  exact congrArg _ (decide_eq_decide.mpr Int.ofNat_le.symm)

theorem tr_bufferSize0 (P : Params) (S A : Nat) (hS : P.S = S) (hA : P.A = A) :
    ((Tr.pool_pvGetBufferSize0 S A : Nat) : Int) = P.bufferSize0 := by
  unfold Tr.pool_pvGetBufferSize0 Params.bufferSize0
  rw [hS, hA]
  simp only [decide_eq_true_eq, ge_iff_le, Int.ofNat_le]
  rcases Nat.lt_or_ge A S with h | h
  · rw [if_pos h, if_pos (Nat.le_of_lt h)]
  · rw [if_neg (Nat.not_lt.mpr h)]
    split
    · next h' => rw [Nat.le_antisymm h h']
    · rfl

theorem tr_bufferSize1 (P : Params) (S A : Nat) (hS : P.S = S) (hA : P.A = A) (h0 : 0 < A) (hA64 : A < 2 ^ 64)
    (hfit : P.bufferSize1 < 2 ^ 64) : ((Tr.pool_pvGetBufferSize1 S A : Nat) : Int) = P.bufferSize1 := by
  unfold Params.bufferSize1 at hfit ⊢
  unfold Tr.pool_pvGetBufferSize1
  rw [← tr_alignAddend P A hA h0 hA64, hS] at hfit ⊢
  rw [add64_cast, add64_cast, Int.emod_add_emod]
  exact Int.emod_eq_of_lt (by omega) hfit

theorem tr_bufferSize (P : Params) (S A N : Nat) (hp : IsParams P S A N) (h0 : 0 < A) (hA64 : A < 2 ^ 64)
    (hfit : P.bufferSize < 2 ^ 64) : ((Tr.pool_pvGetBufferSize S A N : Nat) : Int) = P.bufferSize := by
  -- the model's sum as the cast of a natural number: it is nonnegative, so below `2^64` it is its own residue
  have key : ((N * S + Tr.pool_pvGetAlignmentAddend A + (2 + S / A % 2) * A +
      (if Tr.pool_pvIsBufferBytesNear A then 0 else 2) + 2 * 8 + 2 : Nat) : Int) = P.bufferSize := by
    unfold Params.bufferSize
    rw [← tr_alignAddend P A hp.hA h0 hA64, ← tr_bytesNear P A hp.hA, hp.hS, hp.hA, hp.hN]
    simp only [Int.natCast_add, Int.natCast_mul, Int.natCast_ediv, Int.natCast_emod]
    split <;> rfl
  have hr : 2 + S / A % 2 < 2 ^ 64 := Nat.lt_of_lt_of_le (Nat.add_lt_add_left (Nat.mod_lt _ (by decide)) 2) (by decide)
  rw [← key] at hfit ⊢
  unfold Tr.pool_pvGetBufferSize
  rw [add64_of_lt hr]
  simp only [add64_cast, mul64_cast, Int.emod_add_emod, Int.add_emod_emod, ← Int.natCast_add, ← Int.natCast_mul]
  exact Int.emod_eq_of_lt (Int.natCast_nonneg _) hfit

/-- `MemPoolConst::GetBlockAlignment`: the recursion halves `maxAlignment`, so fuel `f` suffices below `2^f`, for the
    translated function and for the model alike -/
theorem tr_getBlockAlignment_fuel (bs : Nat) : ∀ (f m : Nat), m < 2 ^ f →
    ((Tr.pool_GetBlockAlignment_fuel f bs m : Nat) : Int) = getBlockAlignment bs f m
  | 0, m, hm => by rw [Nat.lt_one_iff.mp hm]; rfl
  | f+1, m, hm => by
    have ih := tr_getBlockAlignment_fuel bs f (m / 2) (Nat.div_lt_of_lt_mul (Nat.mul_comm _ _ ▸ hm))
    have e : ((m : Int) > bs ∧ (m : Int) > 1) = (m > bs ∧ m > 1) := propext (by omega)
    unfold Tr.pool_GetBlockAlignment_fuel getBlockAlignment
    simp only [Bool.and_eq_true, decide_eq_true_eq, e]
    split
    · rw [ih]; rfl
    · rfl

/-- `MemPoolConst::GetBlockAlignment(blockSize, maxAlignment)` for `size_t` arguments is the model function the driver
    runs (fuel 64) -/
theorem tr_getBlockAlignment (bs m : Nat) (hm : m < 2 ^ 64) :
    ((Tr.pool_GetBlockAlignment bs m : Nat) : Int) = getBlockAlignment bs 64 m :=
  tr_getBlockAlignment_fuel bs 64 m hm

theorem tr_getBlock (P : Params) (S A N : Nat) (hp : IsParams P S A N) (buf : Nat) (i : Int)
    (hS : S < 2 ^ 63) (hA : A < 2 ^ 63) (h0 : 0 ≤ getBlock P buf i) (h1 : getBlock P buf i < 2 ^ 64) :
    ((Tr.pool_pvGetBlock S A buf i : Nat) : Int) = getBlock P buf i := by
  unfold getBlock at h0 h1 ⊢
  unfold Tr.pool_pvGetBlock Tr.mulI64
  rw [hp.hS, hp.hA] at h0 h1 ⊢
  have hmask : Tr.andI64 (Tr.toI64 A) (Tr.negI64 (if decide (i ≥ 0) = true then 1 else 0)) =
      if 0 ≤ i then (A : Int) else 0 := by
    by_cases hi : 0 ≤ i
    · rw [if_pos hi, if_pos (decide_eq_true hi)]; exact andI64_neg_one A hA
    · rw [if_neg hi, if_neg (by rw [decide_eq_false hi]; decide)]; exact andI64_zero _
  rw [toI64_of_lt hS, ofI64_wI64, hmask]
  exact add64_add64_ofI64 buf _ _ h0 h1

/-- `index = q - (N or 0)` of `pvGetBlockIndex`, `q < N < 128`, is exact in `ptrdiff_t` and in `int8_t` -/
theorem index_exact (q N : Nat) (x : Int) (hq : q < N) (hN : N < 128) (hx : x = N ∨ x = 0) :
    Tr.subI64 q x = q - x ∧ Tr.wI8 (q - x) = q - x := by
  have h : -128 ≤ (q : Int) - x ∧ (q : Int) - x < 128 := by omega
  exact ⟨wI64_of_bounds (by omega) (by omega), wI8_of_bounds h.1 h.2⟩

/-- `pvGetBlockIndex` when the buffer address it returns is a 64-bit address; `index * blockSize` need not fit `ptrdiff_t` -/
theorem tr_getBlockIndex_word (P : Params) (S A N : Nat) (hp : IsParams P S A N) (b : Nat) (hb : b < 2 ^ 64)
    (hS : S < 2 ^ 63) (hA : A < 2 ^ 63) (hN0 : 0 < N) (hN : N < 128)
    (h0 : 0 ≤ blockBuf P b) (h1 : blockBuf P b < 2 ^ 64) :
    (Tr.pool_pvGetBlockIndex S A N b).1 = blockIdx P b ∧
    (((Tr.pool_pvGetBlockIndex S A N b).2 : Nat) : Int) = blockBuf P b := by
  have hdir : blockDir P b = ((b % S / A % 2 : Nat) : Int) := by
    simp only [blockDir, hp.hS, hp.hA, Int.natCast_emod, Int.natCast_ediv]; rfl
  have hq : ((b : Int) / P.S) % P.N = ((b / S % N : Nat) : Int) := by
    simp only [hp.hS, hp.hN, Int.natCast_emod, Int.natCast_ediv]
  have hd2 : b % S / A % 2 < 2 := Nat.mod_lt _ (by decide)
  have hq2 : b / S % N < N := Nat.mod_lt _ hN0
  unfold blockBuf at h0 h1 ⊢
  unfold blockIdx at h0 h1 ⊢
  rw [hdir, hq] at h0 h1 ⊢
  rw [hp.hS, hp.hN, hp.hA] at h0 h1 ⊢
  unfold Tr.pool_pvGetBlockIndex Tr.mulI64
  simp only [id]
  generalize b % S / A % 2 = d at h0 h1 hd2 ⊢
  generalize b / S % N = q at h0 h1 hq2 ⊢
  rw [andI64_pred_bit N d (by omega) hd2, andI64_neg_bit A d hA hd2, toI64_of_lt (n := q) (by omega), toI64_of_lt hS]
  obtain ⟨hi, hi8⟩ := index_exact q N (if (d : Int) = 0 then (N : Int) else 0) hq2 hN (ite_eq_or_eq _ _ _)
  rw [hi, ofI64_wI64]
  exact ⟨hi8, sub64_sub64_ofI64 b _ _ hb h0 h1⟩

/-- the same with `hm1 hm2`: `index * blockSize` fits `ptrdiff_t`, i.e. the C++ multiplication does not overflow -/
theorem tr_getBlockIndex (P : Params) (S A N : Nat) (hp : IsParams P S A N) (b : Nat) (hb : b < 2 ^ 64)
    (hS : S < 2 ^ 63) (hA : A < 2 ^ 63) (hN0 : 0 < N) (hN : N < 128)
    (hm1 : -2 ^ 63 ≤ blockIdx P b * P.S) (hm2 : blockIdx P b * P.S < 2 ^ 63)
    (h0 : 0 ≤ blockBuf P b) (h1 : blockBuf P b < 2 ^ 64) :
    (Tr.pool_pvGetBlockIndex S A N b).1 = blockIdx P b ∧
    (((Tr.pool_pvGetBlockIndex S A N b).2 : Nat) : Int) = blockBuf P b :=
  tr_getBlockIndex_word P S A N hp b hb hS hA hN0 hN h0 h1

/-- `pvNewBlock1` up to the write of the offset: `(block, offset)` -/
theorem tr_newBlock1 (P : Params) (A : Nat) (hA : P.A = A) (base : Nat) (h0 : 0 < A) (hfit : base + A < 2 ^ 64) :
    (((Tr.pool_pvNewBlock1 A base).1 : Nat) : Int) = (newBlock1 P base).1 ∧
    (((Tr.pool_pvNewBlock1 A base).2 : Nat) : Int) = (newBlock1 P base).2 := by
  have hc := tr_ceil base A h0 hfit
  obtain ⟨hl, hr⟩ := tr_ceil_bounds base A h0 hfit
  have hlt : Tr.pool_Ceil base A < 2 ^ 64 := Nat.lt_trans hr hfit
  unfold Tr.pool_pvNewBlock1 newBlock1
  simp only [id]
  rw [hA, ← hc, sub64_of_le hl, add64_of_lt (by rw [Nat.add_sub_cancel' hl]; exact hlt), Nat.add_sub_cancel' hl]
  exact ⟨rfl, Int.natCast_sub hl⟩

/-- `Pool.step2/3/4` on machine words: the three conditional adjustments in the text of the generated `pvNewBuffer` -/
def step2w (S A u : Nat) : Nat := add64 u ((u % S) % (mul64 2 A))
def step3w (S A u : Nat) : Nat := if decide ((add64 u A) % S = 0) then add64 u A else u
def step4w (S A N u : Nat) : Nat := if decide ((u / S) % N = 0) then add64 u A else u

/-- `Ceil` and the three adjustments: the block address in the text of the generated `pvNewBuffer` (`tr_newBuffer_shape`) -/
def firstBlock64 (S A N base : Nat) : Nat := step4w S A N (step3w S A (step2w S A (Tr.pool_Ceil base A)))

theorem tr_newBuffer_shape (S A N base : Nat) : Tr.pool_pvNewBuffer S A N base =
    (sub64 (firstBlock64 S A N base) base, add64 base (sub64 (firstBlock64 S A N base) base),
     (Tr.pool_pvGetBlockIndex S A N (add64 base (sub64 (firstBlock64 S A N base) base))).2,
     (Tr.pool_pvGetBlockIndex S A N (add64 base (sub64 (firstBlock64 S A N base) base))).1) := rfl

theorem step2w_eq (P : Params) (S A N : Nat) (hp : IsParams P S A N) (u : Nat) (h0 : 0 < A) (h : u + 2 * A < 2 ^ 64) :
    ((step2w S A u : Nat) : Int) = step2 P u ∧ u ≤ step2w S A u ∧ step2w S A u < u + 2 * A := by
  have hl : u % S % (2 * A) < 2 * A := Nat.mod_lt _ (by omega)
  unfold step2w step2
  rw [mul64_of_lt (by omega), add64_of_lt (by omega), hp.hS, hp.hA]
  exact ⟨rfl, Nat.le_add_right _ _, Nat.add_lt_add_left hl u⟩

theorem step3w_eq (P : Params) (S A N : Nat) (hp : IsParams P S A N) (u : Nat) (h : u + A < 2 ^ 64) :
    ((step3w S A u : Nat) : Int) = step3 P u ∧ u ≤ step3w S A u ∧ step3w S A u ≤ u + A := by
  unfold step3w step3
  rw [add64_of_lt h, hp.hS, hp.hA]
  have e : (((u : Int) + A) % S = 0) ↔ ((u + A) % S = 0) := by
    rw [← Int.natCast_add, ← Int.natCast_emod]; exact Int.natCast_eq_zero
  simp only [decide_eq_true_eq, e]
  split
  · exact ⟨rfl, Nat.le_add_right _ _, Nat.le_refl _⟩
  · exact ⟨rfl, Nat.le_refl _, Nat.le_add_right _ _⟩

theorem step4w_eq (P : Params) (S A N : Nat) (hp : IsParams P S A N) (u : Nat) (h : u + A < 2 ^ 64) :
    ((step4w S A N u : Nat) : Int) = step4 P u ∧ u ≤ step4w S A N u ∧ step4w S A N u ≤ u + A := by
  unfold step4w step4
  rw [add64_of_lt h, hp.hS, hp.hA, hp.hN]
  have e : (((u : Int) / S) % N = 0) ↔ ((u / S) % N = 0) := by
    rw [← Int.natCast_ediv, ← Int.natCast_emod]; exact Int.natCast_eq_zero
  simp only [decide_eq_true_eq, e]
  split
  · exact ⟨rfl, Nat.le_add_right _ _, Nat.le_refl _⟩
  · exact ⟨rfl, Nat.le_refl _, Nat.le_add_right _ _⟩

theorem firstBlock64_eq (P : Params) (S A N : Nat) (hp : IsParams P S A N) (base : Nat) (h0 : 0 < A)
    (hfit : base + 5 * A < 2 ^ 64) :
    ((firstBlock64 S A N base : Nat) : Int) = firstBlock P base ∧ base ≤ firstBlock64 S A N base ∧
      firstBlock64 S A N base < base + 5 * A := by
  have hA : base + A < 2 ^ 64 := by omega
  have b0 := tr_ceil_bounds base A h0 hA
  unfold firstBlock64 firstBlock
  generalize hu0 : Tr.pool_Ceil base A = u0 at b0 ⊢
  have p2 : u0 + 2 * A < 2 ^ 64 := by omega
  have b2 := (step2w_eq P S A N hp u0 h0 p2).2
  have p3 : step2w S A u0 + A < 2 ^ 64 := by omega
  have b3 := (step3w_eq P S A N hp _ p3).2
  have p4 : step3w S A (step2w S A u0) + A < 2 ^ 64 := by omega
  have b4 := (step4w_eq P S A N hp _ p4).2
  refine ⟨?_, by omega, by omega⟩
  rw [(step4w_eq P S A N hp _ p4).1, (step3w_eq P S A N hp _ p3).1, (step2w_eq P S A N hp _ h0 p2).1, ← hu0,
    tr_ceil base A h0 hA, hp.hA]

/-- the position functions (`firstBlockIndex` = the byte at `buffer`): all metadata positions, when the end of the
    metadata is a 64-bit address and the first index is one `pvNewBuffer` produces (`-N ≤ first ≤ 0`) -/
theorem tr_positions (P : Params) (S A N : Nat) (hp : IsParams P S A N) (buf : Nat) (first : Int)
    (h0 : 0 < A) (hN : N < 2 ^ 64) (hf1 : -P.N ≤ first) (hf2 : first ≤ 0) (hfit : metaEnd P buf first < 2 ^ 64) :
    ((Tr.pool_pvGetBlocksEndPosition S A N first buf : Nat) : Int) = blocksEnd P buf first ∧
    ((Tr.pool_pvGetBufferBytesPosition S A N first buf : Nat) : Int) = bytesPos P buf first ∧
    ((Tr.pool_pvGetPrevBufferPosition S A N first buf : Nat) : Int) = prevPos P buf first ∧
    ((Tr.pool_pvGetNextBufferPosition S A N first buf : Nat) : Int) = nextPos P buf first ∧
    ((Tr.pool_pvGetBeginOffsetPosition S A N first buf : Nat) : Int) = beginOffPos P buf first := by
  rw [hp.hN] at hf1
  have hnb : (if P.bytesNear = true then (0 : Int) else sizeofBufferBytes) =
      ((if P.bytesNear = true then 0 else 2 : Nat) : Int) := by split <;> rfl
  unfold metaEnd beginOffPos nextPos prevPos at hfit
  unfold beginOffPos nextPos prevPos bytesPos
  rw [hnb] at hfit ⊢
  simp only [sizeofPtr, sizeofU16] at hfit ⊢
  -- the end of the blocks: `N - (-first)` blocks above `buffer + A`
  have hk : ((sub64 N (Tr.ofI64 (-first)) : Nat) : Int) = N + first := by
    rw [sub64_ofI64_mod N (-first) hN, Int.sub_neg]; exact Int.emod_eq_of_lt (by omega) (by omega)
  have hE : ((Tr.pool_pvGetBlocksEndPosition S A N first buf : Nat) : Int) = blocksEnd P buf first ∧
      (buf : Int) + A ≤ blocksEnd P buf first := by
    have hm : 0 ≤ (S : Int) * (N + first) := Int.mul_nonneg (Int.natCast_nonneg S) (by omega)
    unfold Tr.pool_pvGetBlocksEndPosition
    unfold blocksEnd at hfit ⊢
    rw [hp.hS, hp.hA, hp.hN] at hfit ⊢
    rw [add64_cast, add64_cast, mul64_cast, hk, Int.emod_add_emod, Int.add_emod_emod]
    generalize (S : Int) * (N + first) = t at hm hfit ⊢
    exact ⟨Int.emod_eq_of_lt (by omega) (by omega), by omega⟩
  obtain ⟨hE1, hE2⟩ := hE
  unfold Tr.pool_pvGetBeginOffsetPosition Tr.pool_pvGetNextBufferPosition Tr.pool_pvGetPrevBufferPosition
    Tr.pool_pvGetBufferBytesPosition
  rw [tr_bytesNear P A hp.hA, sizeof_toNat.1, sizeof_toNat.2.1]
  rw [← hE1] at hfit hE2 ⊢
  generalize Tr.pool_pvGetBlocksEndPosition S A N first buf = E at hfit hE2 ⊢
  generalize (if P.bytesNear = true then 0 else 2 : Nat) = nb at hfit ⊢
  have h4 : E + nb + 8 + 8 + 2 < 2 ^ 64 := by omega
  have h3 := Nat.lt_of_add_right_lt h4
  have h2 := Nat.lt_of_add_right_lt h3
  have h1 := Nat.lt_of_add_right_lt h2
  rw [add64_of_lt h1, add64_of_lt h2, add64_of_lt h3, add64_of_lt (a := buf) (by omega)]
  refine ⟨rfl, ?_, rfl, rfl, rfl⟩
  split <;> rfl

/-- the metadata byte ranges of a buffer (`Pool.metaRanges`: first-index byte, `BufferBytes`, the two link pointers, the
    begin offset) at the positions the translated position functions compute -/
def metaRangesTr (S A N : Nat) (buf : Nat) (first : Int) : List (Int × Int) :=
  [((buf : Nat), 1),
   ((Tr.pool_pvGetBufferBytesPosition S A N first buf : Nat), sizeofBufferBytes),
   ((Tr.pool_pvGetPrevBufferPosition S A N first buf : Nat), sizeofPtr),
   ((Tr.pool_pvGetNextBufferPosition S A N first buf : Nat), sizeofPtr),
   ((Tr.pool_pvGetBeginOffsetPosition S A N first buf : Nat), sizeofU16)]

theorem metaRangesTr_eq (P : Params) (S A N : Nat) (hp : IsParams P S A N) (buf : Nat) (first : Int)
    (h0 : 0 < A) (hN : N < 2 ^ 64) (hf1 : -P.N ≤ first) (hf2 : first ≤ 0) (hfit : metaEnd P buf first < 2 ^ 64) :
    metaRangesTr S A N buf first = metaRanges P buf first := by
  obtain ⟨_, e2, e3, e4, e5⟩ := tr_positions P S A N hp buf first h0 hN hf1 hf2 hfit
  unfold metaRangesTr metaRanges
  rw [e2, e3, e4, e5]

/-! ### legal parameters (`pvCheckParams`), several blocks per buffer

`legal_sizes` is a fact about the model alone (no generated function occurs in it): the bounds the theorems after it need. -/

theorem isParams_mk (S A N C : Nat) : IsParams ⟨S, A, N, C⟩ S A N := ⟨rfl, rfl, rfl⟩

theorem legal_sizes {P : Params} (hL : P.Legal) (hN2 : 2 ≤ P.N) :
    0 < P.A ∧ P.A ≤ 1024 ∧ P.N < 128 ∧ 2 * P.A ≤ P.S ∧ 2 * P.S ≤ P.N * P.S ∧ 0 ≤ P.alignAddend ∧
      P.N * P.S + P.alignAddend + 2 * P.A + 18 ≤ P.bufferSize := by
  obtain ⟨hM, hA2⟩ := Legal.multi hL hN2
  have hA := hM.hA
  have hS : 2 * P.A ≤ P.S := by
    have := Int.mul_le_mul_of_nonneg_left hM.hk (Int.le_of_lt hA)
    rw [← hM.hS] at this; omega
  have hNS : 2 * P.S ≤ P.N * P.S := Int.mul_le_mul_of_nonneg_right hN2 (by omega)
  obtain ⟨_, g1, _⟩ := allocAlign_spec P hA hA2
  have had : 0 ≤ P.alignAddend := Int.sub_nonneg_of_le (Int.le_of_dvd hA g1)
  refine ⟨hA, hA2, hL.2.1, hS, hNS, had, ?_⟩
  unfold Params.bufferSize
  have hnn : 0 ≤ ((P.S / P.A) % 2) * P.A := Int.mul_nonneg (Int.emod_nonneg _ (by decide)) (Int.le_of_lt hA)
  rw [show ((Extracted.poolBufSizeAlignMul : Nat) : Int) = 2 from rfl, Int.add_mul]
  simp only [sizeofBufferBytes, sizeofPtr, sizeofU16]
  split <;> omega

/-- `pvGetBlock` for the indices of a buffer, `hi hi2`: with `hNS` they say that `index * blockSize` does not overflow in the C++ -/
theorem tr_getBlock_of_inside (P : Params) (S A N : Nat) (hp : IsParams P S A N) (buf : Nat) (i : Int)
    (hA : A ≤ 1024) (hi : -(N : Int) ≤ i) (hi2 : i ≤ N) (hNS : (N : Int) * S < 2 ^ 63) (hN1 : 1 ≤ N)
    (h0 : 0 ≤ getBlock P buf i) (h1 : getBlock P buf i < 2 ^ 63) :
    ((Tr.pool_pvGetBlock S A buf i : Nat) : Int) = getBlock P buf i := by
  have hS : 1 * (S : Int) ≤ N * S := Int.mul_le_mul_of_nonneg_right (Int.ofNat_le.mpr hN1) (Int.natCast_nonneg S)
  exact tr_getBlock P S A N hp buf i (by omega) (Nat.lt_of_le_of_lt hA (by decide)) h0 (Int.lt_trans h1 (by decide))

/-- a legal pool with several blocks per buffer, its parameters read as machine words, whose `N` blocks span less than
    `2^63` bytes: what the block functions need to stay inside `ptrdiff_t` -/
structure LegalFit (P : Params) (S A N : Nat) : Prop where
  params : IsParams P S A N
  legal : P.Legal
  multi : 2 ≤ P.N
  span : (N : Int) * S < 2 ^ 63

/-- the bounds on the words `S A N` of a `LegalFit` pool -/
structure LegalFit.Words (S A N : Nat) : Prop where
  A_pos : 0 < A
  A_le : A ≤ 1024
  N_ge : 2 ≤ N
  N_lt : N < 128
  S_lt : S < 2 ^ 63

theorem LegalFit.words {P : Params} {S A N : Nat} (h : LegalFit P S A N) : LegalFit.Words S A N := by
  obtain ⟨sA, sA2, sN, -, sNS, -, -⟩ := legal_sizes h.legal h.multi
  have hN2 := h.multi
  have hs := h.span
  rw [h.params.hA] at sA sA2; rw [h.params.hN] at sN sNS hN2; rw [h.params.hS] at sNS
  exact ⟨Int.ofNat_lt.mp sA, Int.ofNat_le.mp sA2, Int.ofNat_le.mp hN2, Int.ofNat_lt.mp sN, by omega⟩

theorem LegalFit.of_bufferSize {P : Params} {S A N : Nat} (hp : IsParams P S A N) (hL : P.Legal) (hN2 : 2 ≤ P.N)
    (base : Nat) (hfit : (base : Int) + P.bufferSize < 2 ^ 63) : LegalFit P S A N := by
  obtain ⟨sA, -, -, -, -, sad, sB⟩ := legal_sizes hL hN2
  exact ⟨hp, hL, hN2, by rw [← hp.hN, ← hp.hS]; omega⟩

theorem tr_getBlock_fit {P : Params} {S A N : Nat} (h : LegalFit P S A N) (buf : Nat) (i : Int)
    (hi : -(N : Int) ≤ i) (hi2 : i ≤ N) (h0 : 0 ≤ getBlock P buf i) (h1 : getBlock P buf i < 2 ^ 63) :
    ((Tr.pool_pvGetBlock S A buf i : Nat) : Int) = getBlock P buf i :=
  tr_getBlock_of_inside P S A N h.params buf i h.words.A_le hi hi2 h.span (Nat.le_of_succ_le h.words.N_ge) h0 h1

theorem tr_getBlockIndex_fit {P : Params} {S A N : Nat} (h : LegalFit P S A N) (b : Nat) (hb : b < 2 ^ 64)
    (h0 : 0 ≤ blockBuf P b) (h1 : blockBuf P b < 2 ^ 64) :
    (Tr.pool_pvGetBlockIndex S A N b).1 = blockIdx P b ∧
    (((Tr.pool_pvGetBlockIndex S A N b).2 : Nat) : Int) = blockBuf P b :=
  have w := h.words
  tr_getBlockIndex_word P S A N h.params b hb w.S_lt (Nat.lt_of_le_of_lt w.A_le (by decide)) (Nat.lt_of_lt_of_le (by decide) w.N_ge)
    w.N_lt h0 h1

/-- `pvNewBuffer` up to the first write into the buffer, for every legal pool with several blocks per buffer and every
    address `base` the memory manager may return with `base + pvGetBufferSize() < 2^63`: the results
    `(beginOffset, block, buffer, blockIndex)` are the fields of `newBuffer`, the block is `firstBlock` and lies less than
    `4 * A` above `base`, and `pvGetBufferSize` does not wrap. -/
theorem tr_newBuffer_legal (S A N C : Nat) (hL : (Params.mk S A N C).Legal) (hN2 : 2 ≤ N) (base : Nat)
    (hfit : (base : Int) + (Params.mk S A N C).bufferSize < 2 ^ 63) :
    (((Tr.pool_pvNewBuffer S A N base).1 : Nat) : Int) = (newBuffer ⟨S, A, N, C⟩ base).beginOffset ∧
    (((Tr.pool_pvNewBuffer S A N base).2.1 : Nat) : Int) = firstBlock ⟨S, A, N, C⟩ base ∧
    (((Tr.pool_pvNewBuffer S A N base).2.2.1 : Nat) : Int) = (newBuffer ⟨S, A, N, C⟩ base).buf ∧
    (Tr.pool_pvNewBuffer S A N base).2.2.2 = (newBuffer ⟨S, A, N, C⟩ base).first ∧
    ((Tr.pool_pvGetBufferSize S A N : Nat) : Int) = (Params.mk S A N C).bufferSize ∧
    firstBlock ⟨S, A, N, C⟩ base < base + 4 * A := by
  have hp := isParams_mk S A N C
  have hN : (2 : Int) ≤ (Params.mk S A N C).N := Int.ofNat_le.mpr hN2
  -- what follows uses the record only through `hp`
  generalize Params.mk S A N C = P at hL hfit hp hN ⊢
  have hF := LegalFit.of_bufferSize hp hL hN base hfit
  have a0 := hF.words.A_pos
  have a1 := hF.words.A_le
  obtain ⟨-, -, -, -, -, sad, sB⟩ := legal_sizes hL hN
  obtain ⟨r3, r4, r5⟩ := (Legal.multi hL hN).1.newBuffer_range base
  rw [hp.hA] at sB r5
  -- the steps stay below `base + 5 * A`, so the block is `firstBlock` and `base + beginOffset` does not wrap
  obtain ⟨e, l, r⟩ := firstBlock64_eq P S A N hp base a0 (by omega)
  rw [tr_newBuffer_shape]
  simp only [newBuffer] at r3 r4 ⊢
  rw [← e] at r3 r4 r5 ⊢
  rw [sub64_of_le l, add64_of_lt (by omega), Nat.add_sub_cancel' l]
  generalize P.N * P.S = ns at sB r4
  obtain ⟨g1, g2⟩ := tr_getBlockIndex_fit hF (firstBlock64 S A N base) (by omega) (by omega) (by omega)
  exact ⟨Int.natCast_sub l, rfl, g2, g1, tr_bufferSize P S A N hp a0 (by omega) (by omega), r5⟩

end Momo.TrEq
