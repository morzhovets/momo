import Momo.Proof.BTreeTree
/-!
  C02, operations by key and histories: `pvInsert` is stable upper-bound insertion (unique keys: no insertion when an
  equivalent key is present, the returned iterator names it); `pvFind / ContainsKey / GetKeyCount`. Every loop over a
  container in this and the later files is stated on `Cur cfg t pos l i` (the container with an iterator stands for the list
  `l` with a cursor at `i`; one lemma per operation). The reference semantics `Spec.step` / `Spec.run` on sorted lists come
  with the history theorem for the positional operations (`run_spec`); the complete operation set (`OpFull`, `Spec.stepFull`)
  is only defined here, its theorems are in `BTreeMore` and `BTreeHistory`.
-/
namespace Momo.BTree
open Node
variable {α : Type}

/-- two keys are equivalent for the strict order `lt`: neither is less (what unique-key insertion and `Remove(key)` compare by) -/
def equiv (lt : α → α → Bool) (a b : α) : Bool := !lt a b && !lt b a

theorem equiv_iff {lt : α → α → Bool} {a b : α} : equiv lt a b = true ↔ lt a b = false ∧ lt b a = false := by
  simp only [equiv, Bool.and_eq_true, Bool.not_eq_true']

theorem tree_pos_eq_of_idx (cfg : Cfg) (t : Tree α) (hw : t.WF cfg) {p q : Pos} (hp : t.ValidPos p) (hq : t.ValidPos q)
    (h : t.idxOf p = t.idxOf q) : p = q := by
  obtain ⟨_ | r, count⟩ := t
  · exact hp.trans hq.symm
  · obtain ⟨d, hb⟩ := hw.bal r rfl
    exact validPos_eq_of_idx hb hp hq h

theorem tree_validElem_of_idx_lt (cfg : Cfg) (t : Tree α) (hw : t.WF cfg) (pos : Pos) (hv : t.ValidPos pos)
    (h : t.idxOf pos < t.toList.length) : t.ValidElem pos := by
  obtain ⟨_ | r, count⟩ := t
  · exact absurd h (Nat.not_lt_zero _)
  · obtain ⟨d, hb⟩ := hw.bal r rfl
    rcases hv with hv | rfl
    · exact hv
    · exact absurd h (Nat.not_lt_of_le (Nat.le_of_eq (idxOf_endPos hb).symm))

theorem tree_validPos_idx_le (cfg : Cfg) (t : Tree α) (hw : t.WF cfg) (p : Pos) (hp : t.ValidPos p) :
    t.idxOf p ≤ t.toList.length := by
  obtain ⟨_ | r, count⟩ := t
  · exact Nat.le_refl 0
  · obtain ⟨d, hb⟩ := hw.bal r rfl
    exact validPos_idx_le hb hp

theorem validElem_validPos (t : Tree α) (p : Pos) (h : t.ValidElem p) : t.ValidPos p := by
  obtain ⟨_ | r, count⟩ := t
  · exact h.elim
  · exact Or.inl h

theorem tree_validElem_idx_lt (cfg : Cfg) (t : Tree α) (hw : t.WF cfg) (p : Pos) (h : t.ValidElem p) :
    t.idxOf p < t.toList.length := by
  obtain ⟨x, _, hx⟩ := tree_elemAt_spec cfg t hw p h
  exact ListFacts.lt_of_getElem? hx

/-- the container `t` with its iterator `pos` stands for the list `l` with a cursor in front of element `i`
    (`i = l.length`: `GetEnd()`). The loops over a container are inductions over this pair, stated on `l` and `i`. -/
structure Cur (cfg : Cfg) (t : Tree α) (pos : Pos) (l : List α) (i : Nat) : Prop where
  wf : t.WF cfg
  valid : t.ValidPos pos
  list : t.toList = l
  idx : t.idxOf pos = i

namespace Cur
variable {cfg : Cfg} {t : Tree α} {pos : Pos} {l : List α} {i : Nat}

theorem le (h : Cur cfg t pos l i) : i ≤ l.length := by
  obtain ⟨hw, hv, rfl, rfl⟩ := h
  exact tree_validPos_idx_le cfg t hw pos hv

theorem validElem (h : Cur cfg t pos l i) (hi : i < l.length) : t.ValidElem pos := by
  obtain ⟨hw, hv, rfl, rfl⟩ := h
  exact tree_validElem_of_idx_lt cfg t hw pos hv hi

/-- what a loop `if pos = GetEnd() then … else match *pos` sees -/
theorem cases (h : Cur cfg t pos l i) :
    (pos = t.endPos ∧ i = l.length) ∨ (pos ≠ t.endPos ∧ ∃ x, t.elemAt? pos = some x ∧ l[i]? = some x) := by
  obtain ⟨hw, hv, rfl, rfl⟩ := h
  obtain ⟨b3, b4⟩ := tree_end_spec cfg t hw
  by_cases hend : pos = t.endPos
  · exact Or.inl ⟨hend, hend ▸ b3⟩
  · -- an iterator other than `GetEnd()` has a smaller index (`tree_pos_eq_of_idx`), so it names an element
    have hve := tree_validElem_of_idx_lt cfg t hw pos hv (Nat.lt_of_le_of_ne (tree_validPos_idx_le cfg t hw pos hv)
      (fun e => hend (tree_pos_eq_of_idx cfg t hw hv b4 (e.trans b3.symm))))
    exact Or.inr ⟨hend, tree_elemAt_spec cfg t hw pos hve⟩

theorem begin (hw : t.WF cfg) : Cur cfg t t.beginPos t.toList 0 :=
  have ⟨b1, b2⟩ := tree_begin_spec cfg t hw
  ⟨hw, b2, rfl, b1⟩

theorem next (h : Cur cfg t pos l i) (hi : i < l.length) : Cur cfg t (t.next pos) l (i + 1) := by
  have ⟨n1, n2⟩ := tree_next_spec cfg t h.wf pos (h.validElem hi)
  exact ⟨h.wf, n2, h.list, h.idx ▸ n1⟩

theorem remove (h : Cur cfg t pos l i) (hi : i < l.length) :
    Cur cfg (t.remove cfg pos).1 (t.remove cfg pos).2 (l.eraseIdx i) i := by
  have ⟨r1, r2, r3, r4⟩ := tree_remove_spec cfg t h.wf pos (h.validElem hi)
  exact ⟨r2, r4, h.list ▸ h.idx ▸ r1, h.idx ▸ r3⟩

theorem add (hmax : 0 < cfg.maxCap) (h : Cur cfg t pos l i) (x : α) :
    Cur cfg (t.add cfg pos x).1 (t.add cfg pos x).2 (l.insertIdx i x) i := by
  have ⟨a1, a2, a3, a4⟩ := tree_add_spec cfg hmax t h.wf pos h.valid x
  exact ⟨a2, validElem_validPos _ _ a4, h.list ▸ h.idx ▸ a1, h.idx ▸ a3⟩

theorem prev (h : Cur cfg t pos l i) (hi : 0 < i) : Cur cfg t (t.prev pos) l (i - 1) := by
  have ⟨p1, p2⟩ := tree_prev_spec cfg t h.wf pos h.valid (h.idx ▸ hi)
  exact ⟨h.wf, validElem_validPos _ _ p2, h.list, by rw [← h.idx, ← p1]; rfl⟩

theorem eq_begin_iff (h : Cur cfg t pos l i) : pos = t.beginPos ↔ i = 0 := by
  have b := Cur.begin h.wf
  exact ⟨fun e => h.idx.symm.trans (e ▸ b.idx),
    fun e => tree_pos_eq_of_idx cfg t h.wf h.valid b.valid (h.idx.trans (e.trans b.idx.symm))⟩

theorem isGreater (lt : α → α → Bool) (h : Cur cfg t pos l i) (k : α) :
    Tree.isGreater lt t pos k = (match l[i]? with
      | some x => lt k x
      | none => true) := by
  obtain ⟨hw, hv, rfl, rfl⟩ := h
  exact tree_isGreater_spec lt cfg t hw pos hv k

/-- `std::next(GetBegin(), i)` -/
theorem posOfIdx (hw : t.WF cfg) (hi : i ≤ t.toList.length) : Cur cfg t (t.posOfIdx i) t.toList i := by
  induction i with
  | zero => exact Cur.begin hw
  | succ j ih => exact (ih (Nat.le_of_succ_le hi)).next hi

end Cur

section insert
variable (lt : α → α → Bool)

theorem upperIdx_facts (ho : Order lt) (l : List α) (x : α) (hs : l.Pairwise (fun a b => lt b a = false)) :
    upperIdx lt l x ≤ l.length ∧ (∀ j y, j < upperIdx lt l x → l[j]? = some y → lt x y = false) ∧
    (∀ j y, upperIdx lt l x ≤ j → l[j]? = some y → lt x y = true) := by
  rw [← firstTrue_upper]
  exact ⟨firstTrue_le _ l, fun j y hj hy => firstTrue_false_before _ l j hj y hy,
    fun j y hj hy => (mono_upper ho x hs).true_after j hj y hy⟩

theorem upperIdx_le (l : List α) (x : α) : upperIdx lt l x ≤ l.length := by
  unfold upperIdx; exact (List.takeWhile_sublist _).length_le

theorem lowerIdx_facts (ho : Order lt) (l : List α) (x : α) (hs : l.Pairwise (fun a b => lt b a = false)) :
    lowerIdx lt l x ≤ l.length ∧ (∀ j y, j < lowerIdx lt l x → l[j]? = some y → lt y x = true) ∧
    (∀ j y, lowerIdx lt l x ≤ j → l[j]? = some y → lt y x = false) := by
  rw [← firstTrue_lower]
  refine ⟨firstTrue_le _ l, fun j y hj hy => ?_, fun j y hj hy => ?_⟩
  · have := firstTrue_false_before _ l j hj y hy; simpa using this
  · have := (mono_lower ho x hs).true_after j hj y hy; simpa using this

theorem equiv_iff_prev_upper (ho : Order lt) (l : List α) (x : α) (hs : l.Pairwise (fun a b => lt b a = false)) :
    (∃ y ∈ l, equiv lt y x = true) ↔
      (0 < upperIdx lt l x ∧ ∃ z, l[upperIdx lt l x - 1]? = some z ∧ lt z x = false) := by
  obtain ⟨h1, h2, h3⟩ := upperIdx_facts lt ho l x hs
  constructor
  · rintro ⟨y, hy, he⟩
    rw [equiv_iff] at he
    obtain ⟨j, hj⟩ := List.getElem?_of_mem hy
    have hju : j < upperIdx lt l x := by
      apply Decidable.byContradiction; intro hc
      have := h3 j y (Nat.le_of_not_lt hc) hj
      rw [he.2] at this; cases this
    obtain ⟨z, hz⟩ := ListFacts.getElem?_of_lt (l := l) (i := upperIdx lt l x - 1) (by omega)
    refine ⟨Nat.zero_lt_of_lt hju, z, hz, ?_⟩
    by_cases hjz : j = upperIdx lt l x - 1
    · subst hjz; rw [hj] at hz; cases hz; exact he.1
    · -- y ≤ z by sortedness, x ≤ y, so x ≤ z
      exact ho.le_trans x y z he.1 (ListFacts.pairwise_getElem? hs (by omega) hj hz)
  · rintro ⟨hpos, z, hz, hzx⟩
    exact ⟨z, List.mem_of_getElem? hz, equiv_iff.mpr ⟨hzx, h2 _ z (by omega) hz⟩⟩

theorem sortedBy_insertIdx_upper (ho : Order lt) (multi : Bool) (l : List α) (x : α) (hs : SortedBy lt multi l)
    (hne : ¬ (multi = false ∧ ∃ y ∈ l, equiv lt y x = true)) :
    SortedBy lt multi (l.insertIdx (upperIdx lt l x) x) := by
  obtain ⟨f1, f2, f3⟩ := upperIdx_facts lt ho l x (hs.weak ho)
  unfold SortedBy at hs ⊢
  cases multi with
  | true =>
    rw [if_pos rfl] at hs ⊢
    exact ListFacts.pairwise_insertIdx f1 hs f2 (fun j y hj hy => ho.asymm _ _ (f3 j y hj hy))
  | false =>
    rw [if_neg Bool.false_ne_true] at hs ⊢
    refine ListFacts.pairwise_insertIdx f1 hs (fun j y hj hy => ?_) f3
    -- not equivalent and not greater, hence less
    cases hyx : lt y x with
    | true => rfl
    | false => exact absurd ⟨rfl, y, List.mem_of_getElem? hy, equiv_iff.mpr ⟨hyx, f2 j y hj hy⟩⟩ hne

theorem tree_insert_spec (ho : Order lt) (cfg : Cfg) (hmax : 0 < cfg.maxCap) (t : Tree α) (hw : t.WF cfg)
    (hs : SortedBy lt cfg.multi t.toList) (x : α) :
    (if cfg.multi = false ∧ ∃ y ∈ t.toList, equiv lt y x = true then
        (Tree.insert lt cfg t x).1 = t ∧ (Tree.insert lt cfg t x).2.2 = false ∧
        ∃ z, t.toList[t.idxOf (Tree.insert lt cfg t x).2.1]? = some z ∧ equiv lt z x = true
      else
        (Tree.insert lt cfg t x).1.toList = t.toList.insertIdx (upperIdx lt t.toList x) x ∧
        (Tree.insert lt cfg t x).2.2 = true ∧
        (Tree.insert lt cfg t x).1.idxOf (Tree.insert lt cfg t x).2.1 = upperIdx lt t.toList x) ∧
    (Tree.insert lt cfg t x).1.WF cfg ∧ SortedBy lt cfg.multi (Tree.insert lt cfg t x).1.toList ∧
    (Tree.insert lt cfg t x).1.ValidElem (Tree.insert lt cfg t x).2.1 := by
  have hsw := hs.weak ho
  obtain ⟨u1, u2⟩ := tree_upperBound_spec lt ho cfg t hw hsw x
  have hu : Cur cfg t (Tree.upperBound lt cfg t x) t.toList (upperIdx lt t.toList x) := ⟨hw, u2, rfl, u1⟩
  obtain ⟨f1, f2, f3⟩ := upperIdx_facts lt ho t.toList x hsw
  -- the position test `iter != GetBegin()` is the index test `0 < upper bound`
  have hbegin : (Tree.upperBound lt cfg t x ≠ t.beginPos) ↔ 0 < upperIdx lt t.toList x :=
    (not_congr hu.eq_begin_iff).trans Nat.pos_iff_ne_zero.symm
  have hprev : 0 < upperIdx lt t.toList x →
      ∃ z, t.elemAt? (t.prev (Tree.upperBound lt cfg t x)) = some z ∧
        t.toList[upperIdx lt t.toList x - 1]? = some z ∧
        t.idxOf (t.prev (Tree.upperBound lt cfg t x)) = upperIdx lt t.toList x - 1 ∧
        t.ValidElem (t.prev (Tree.upperBound lt cfg t x)) := by
    intro hpos
    have hp := hu.prev hpos
    rcases hp.cases with ⟨_, e⟩ | ⟨_, z, hz1, hz2⟩
    · omega
    · exact ⟨z, hz1, hz2, hp.idx, hp.validElem (ListFacts.lt_of_getElem? hz2)⟩
  have hequiv := equiv_iff_prev_upper lt ho t.toList x hsw
  unfold Tree.insert
  by_cases hcase : cfg.multi = false ∧ ∃ y ∈ t.toList, equiv lt y x = true
  · -- unique keys and the key is present
    obtain ⟨hmulti, hex⟩ := hcase
    obtain ⟨hpos, z, hz, hzx⟩ := hequiv.mp hex
    obtain ⟨z', hz1, hz2, hz3, hz4⟩ := hprev hpos
    rw [hz] at hz2; cases hz2
    have hcond : (!cfg.multi && decide (Tree.upperBound lt cfg t x ≠ t.beginPos) &&
        Tree.prevNotLess lt t (Tree.upperBound lt cfg t x) x) = true := by
      simp [Tree.prevNotLess, hmulti, hbegin.mpr hpos, hz1, hzx]
    rw [if_pos hcond, if_pos ⟨hmulti, hex⟩]
    exact ⟨⟨rfl, rfl, z, by rw [hz3]; exact hz, equiv_iff.mpr ⟨hzx, f2 _ z (by omega) hz⟩⟩, hw, hs, hz4⟩
  · -- insertion at the upper bound
    have hcond : ¬ ((!cfg.multi && decide (Tree.upperBound lt cfg t x ≠ t.beginPos) &&
        Tree.prevNotLess lt t (Tree.upperBound lt cfg t x) x) = true) := by
      intro hc
      simp only [Bool.and_eq_true, Bool.not_eq_true', decide_eq_true_eq] at hc
      obtain ⟨⟨hm, hne⟩, hm3⟩ := hc
      have hpos := hbegin.mp hne
      obtain ⟨z, hz1, hz2, _, _⟩ := hprev hpos
      simp only [Tree.prevNotLess, hz1, Bool.not_eq_true'] at hm3
      exact hcase ⟨hm, hequiv.mpr ⟨hpos, z, hz2, hm3⟩⟩
    rw [if_neg hcond, if_neg hcase]
    obtain ⟨a1, a2, a3, a4⟩ := tree_add_spec cfg hmax t hw _ u2 x
    rw [u1] at a1 a3
    exact ⟨⟨a1, rfl, a3⟩, a2, a1 ▸ sortedBy_insertIdx_upper lt ho _ _ x hs hcase, a4⟩

/-- an insertion that reports `inserted` put the element at its upper bound -/
theorem tree_insert_inserted (ho : Order lt) (cfg : Cfg) (hmax : 0 < cfg.maxCap) (t : Tree α) (hw : t.WF cfg)
    (hs : SortedBy lt cfg.multi t.toList) (x : α) (h : (Tree.insert lt cfg t x).2.2 = true) :
    (Tree.insert lt cfg t x).1.toList = t.toList.insertIdx (upperIdx lt t.toList x) x := by
  obtain ⟨c1, -⟩ := tree_insert_spec lt ho cfg hmax t hw hs x
  by_cases hc : cfg.multi = false ∧ ∃ y ∈ t.toList, equiv lt y x = true
  · rw [if_pos hc, h] at c1; cases c1.2.1
  · rw [if_neg hc] at c1
    exact c1.1

theorem tree_find_spec (ho : Order lt) (cfg : Cfg) (t : Tree α) (hw : t.WF cfg)
    (hs : t.toList.Pairwise (fun a b => lt b a = false)) (k : α) :
    (Tree.contains lt cfg t k = true ↔ ∃ y ∈ t.toList, equiv lt y k = true) ∧
    t.idxOf (Tree.find lt cfg t k) =
      (if Tree.contains lt cfg t k then lowerIdx lt t.toList k else t.toList.length) := by
  obtain ⟨l1, l2⟩ := tree_lowerBound_spec lt ho cfg t hw hs k
  obtain ⟨f1, f2, f3⟩ := lowerIdx_facts lt ho t.toList k hs
  have hg := (Cur.mk hw l2 rfl l1).isGreater lt k
  have b3 := (tree_end_spec cfg t hw).1
  constructor
  · unfold Tree.contains
    rw [hg]
    constructor
    · intro h
      cases hx : t.toList[lowerIdx lt t.toList k]? with
      | none => simp [hx] at h
      | some y =>
        simp only [hx, Bool.not_eq_true'] at h
        exact ⟨y, List.mem_of_getElem? hx, equiv_iff.mpr ⟨f3 _ y (Nat.le_refl _) hx, h⟩⟩
    · rintro ⟨y, hy, he⟩
      rw [equiv_iff] at he
      obtain ⟨j, hj⟩ := List.getElem?_of_mem hy
      have hjl : lowerIdx lt t.toList k ≤ j := by
        apply Decidable.byContradiction; intro hc
        have := f2 j y (Nat.lt_of_not_le hc) hj
        rw [he.1] at this; cases this
      obtain ⟨z, hz⟩ := ListFacts.getElem?_of_lt (l := t.toList) (i := lowerIdx lt t.toList k)
        (Nat.lt_of_le_of_lt hjl (ListFacts.lt_of_getElem? hj))
      simp only [hz, Bool.not_eq_true']
      by_cases hjz : j = lowerIdx lt t.toList k
      · subst hjz; rw [hj] at hz; cases hz; exact he.2
      · -- z ≤ y ≤ k
        exact ho.le_trans z y k (ListFacts.pairwise_getElem? hs (by omega) hz hj) he.2
  · unfold Tree.find Tree.contains
    by_cases h : (!Tree.isGreater lt t (Tree.lowerBound lt cfg t k) k) = true
    · rw [if_pos h, if_pos h]; exact l1
    · rw [if_neg h, if_neg h]; exact b3

end insert

section keycount
variable (lt : α → α → Bool)

theorem lowerIdx_le_upperIdx (ho : Order lt) (l : List α) (k : α) (hs : l.Pairwise (fun a b => lt b a = false)) :
    lowerIdx lt l k ≤ upperIdx lt l k := by
  obtain ⟨l1, l2, l3⟩ := lowerIdx_facts lt ho l k hs
  obtain ⟨u1, u2, u3⟩ := upperIdx_facts lt ho l k hs
  apply Decidable.byContradiction; intro hc
  obtain ⟨y, hy⟩ := ListFacts.getElem?_of_lt (l := l) (i := upperIdx lt l k) (by omega)
  have h1 := u3 _ y (Nat.le_refl _) hy
  have h2 := l2 _ y (by omega) hy
  rw [ho.asymm _ _ h2] at h1; cases h1

theorem tree_contains_iff_lt (ho : Order lt) (cfg : Cfg) (t : Tree α) (hw : t.WF cfg)
    (hs : t.toList.Pairwise (fun a b => lt b a = false)) (k : α) :
    Tree.contains lt cfg t k = true ↔ lowerIdx lt t.toList k < upperIdx lt t.toList k := by
  obtain ⟨l1, l2⟩ := tree_lowerBound_spec lt ho cfg t hw hs k
  obtain ⟨u1, u2, u3⟩ := upperIdx_facts lt ho t.toList k hs
  have hg := (Cur.mk hw l2 rfl l1).isGreater lt k
  unfold Tree.contains
  rw [hg]
  constructor
  · intro h
    apply Decidable.byContradiction; intro hc
    cases hy : t.toList[lowerIdx lt t.toList k]? with
    | none => simp [hy] at h
    | some y => simp [hy, u3 _ y (Nat.le_of_not_lt hc) hy] at h
  · intro h
    obtain ⟨y, hy⟩ := ListFacts.getElem?_of_lt (l := t.toList) (i := lowerIdx lt t.toList k) (Nat.lt_of_lt_of_le h u1)
    simp [hy, u2 _ y h hy]

/-- the run of elements not greater than `k`, walked from a cursor in front of the upper bound: both loops over it, the one that
    counts (`pvGetKeyCount`) and the one that moves the iterator (`Remove(key)`), end at the upper bound -/
theorem keyRun_spec (ho : Order lt) {cfg : Cfg} {t : Tree α} {pos : Pos} {l : List α} {i : Nat} (h : Cur cfg t pos l i)
    (hs : l.Pairwise (fun a b => lt b a = false)) (k : α) (fuel : Nat) (hj : i ≤ upperIdx lt l k)
    (hf : upperIdx lt l k ≤ i + fuel) :
    Cur cfg t (Tree.posAfterRun lt t k fuel pos) l (upperIdx lt l k) ∧
    Tree.keyRun lt t k fuel pos = upperIdx lt l k - i := by
  obtain ⟨u1, u2, u3⟩ := upperIdx_facts lt ho l k hs
  induction fuel generalizing pos i with
  | zero =>
    obtain rfl : i = upperIdx lt l k := Nat.le_antisymm hj hf
    exact ⟨h, (Nat.sub_self _).symm⟩
  | succ f ih =>
    simp only [Tree.posAfterRun, Tree.keyRun, h.isGreater lt k]
    by_cases hlt : i < upperIdx lt l k
    · obtain ⟨y, hy⟩ := ListFacts.getElem?_of_lt (Nat.lt_of_lt_of_le hlt u1)
      simp only [hy, u2 _ y hlt hy, Bool.false_eq_true, if_false]
      obtain ⟨i1, i2⟩ := ih (h.next (ListFacts.lt_of_getElem? hy)) (by omega) (by omega)
      exact ⟨i1, by rw [i2]; omega⟩
    · obtain rfl : i = upperIdx lt l k := Nat.le_antisymm hj (Nat.le_of_not_lt hlt)
      rw [Nat.sub_self]
      cases hy : l[upperIdx lt l k]? with
      | none => exact ⟨h, rfl⟩
      | some y => simp only [u3 _ y (Nat.le_refl _) hy, if_true]; exact ⟨h, trivial⟩

theorem tree_keyCount_spec (ho : Order lt) (cfg : Cfg) (t : Tree α) (hw : t.WF cfg)
    (hs : SortedBy lt cfg.multi t.toList) (k : α) :
    Tree.keyCount lt cfg t k = upperIdx lt t.toList k - lowerIdx lt t.toList k := by
  have hsw := hs.weak ho
  obtain ⟨l1, l2⟩ := tree_lowerBound_spec lt ho cfg t hw hsw k
  obtain ⟨f1, f2, f3⟩ := lowerIdx_facts lt ho t.toList k hsw
  obtain ⟨u1, u2, u3⟩ := upperIdx_facts lt ho t.toList k hsw
  have hle := lowerIdx_le_upperIdx lt ho t.toList k hsw
  unfold Tree.keyCount
  cases hm : cfg.multi with
  | true =>
    simp only [if_true]
    exact (keyRun_spec lt ho ⟨hw, l2, rfl, l1⟩ hsw k t.count hle (by rw [hw.count]; omega)).2
  | false =>
    simp only [Bool.false_eq_true, if_false]
    have hstrict : t.toList.Pairwise (fun a b => lt a b = true) := by
      unfold SortedBy at hs; simpa [hm] using hs
    have hle1 : upperIdx lt t.toList k ≤ lowerIdx lt t.toList k + 1 := by
      apply Decidable.byContradiction; intro hc
      obtain ⟨a, ha⟩ := ListFacts.getElem?_of_lt (l := t.toList) (i := lowerIdx lt t.toList k) (by omega)
      obtain ⟨b, hb⟩ := ListFacts.getElem?_of_lt (l := t.toList) (i := lowerIdx lt t.toList k + 1) (by omega)
      have hab : lt a b = true := ListFacts.pairwise_getElem? hstrict (Nat.lt_succ_self _) ha hb
      have h1 : lt k b = false := u2 _ b (by omega) hb
      have h2 : lt a k = false := f3 _ a (Nat.le_refl _) ha
      rw [ho.le_trans b k a h1 h2] at hab; cases hab
    have hc := tree_contains_iff_lt lt ho cfg t hw hsw k
    by_cases h : Tree.contains lt cfg t k = true
    · rw [if_pos h]; have := hc.mp h; omega
    · rw [if_neg h]; have := mt hc.mpr h; omega

end keycount

/-- the positional core of the operation set, with a decidable reference run (`Spec.run`; used by the examples of
    `Props/C02.lean`); the complete set is `OpFull`. Iterators are given by their in-order index
    (`std::next(GetBegin(), i)`); `Extract` + `Insert(ExtractedItem)` is `removeAt` followed by `insert` -/
inductive Op (α : Type) where
  | insert (x : α)
  | addHint (i : Nat) (x : α)
  | removeAt (i : Nat)
  | resetKey (i : Nat) (x : α)
  | clear

def Tree.runOp (lt : α → α → Bool) (cfg : Cfg) (t : Tree α) : Op α → Tree α
  | .insert x => (Tree.insert lt cfg t x).1
  | .addHint i x => (Tree.add cfg t (t.posOfIdx i) x).1
  | .removeAt i => (Tree.remove cfg t (t.posOfIdx i)).1
  | .resetKey i x => Tree.resetKey t (t.posOfIdx i) x
  | .clear => {}

instance (lt : α → α → Bool) (multi : Bool) (l : List α) : Decidable (SortedBy lt multi l) := by
  unfold SortedBy; cases multi <;> exact inferInstance

/-- reference semantics of `Insert(item)` on the sorted list: nothing for unique keys with an equivalent element present, else insertion at
    the upper bound (stable). The `.insert` arm of `Spec.step` is the same formula. -/
def Spec.insert1 (lt : α → α → Bool) (multi : Bool) (l : List α) (x : α) : List α :=
  if multi = false ∧ l.any (fun y => equiv lt y x) then l else l.insertIdx (upperIdx lt l x) x

/-- reference semantics on the sorted sequence; `none` = the operation's precondition does not hold
    (index out of range, hint or new key that would break the order) -/
def Spec.step (lt : α → α → Bool) (multi : Bool) (l : List α) : Op α → Option (List α)
  | .insert x => if multi = false ∧ l.any (fun y => equiv lt y x) then some l
                 else some (l.insertIdx (upperIdx lt l x) x)
  | .addHint i x => if i ≤ l.length ∧ SortedBy lt multi (l.insertIdx i x) then some (l.insertIdx i x) else none
  | .removeAt i => if i < l.length then some (l.eraseIdx i) else none
  | .resetKey i x => if i < l.length ∧ SortedBy lt multi (l.set i x) then some (l.set i x) else none
  | .clear => some []

def Spec.run (lt : α → α → Bool) (multi : Bool) : List α → List (Op α) → Option (List α)
  | l, [] => some l
  | l, op :: ops => match Spec.step lt multi l op with
    | some l' => Spec.run lt multi l' ops
    | none => none

theorem sortedBy_sublist (lt : α → α → Bool) (multi : Bool) {l l' : List α} (h : l'.Sublist l)
    (hs : SortedBy lt multi l) : SortedBy lt multi l' := by
  unfold SortedBy at hs ⊢
  cases multi with
  | true => simp only [if_true] at hs ⊢; exact List.Pairwise.sublist h hs
  | false => simp only [Bool.false_eq_true, if_false] at hs ⊢; exact List.Pairwise.sublist h hs

theorem sortedBy_eraseIdx (lt : α → α → Bool) (multi : Bool) (l : List α) (i : Nat) (h : SortedBy lt multi l) :
    SortedBy lt multi (l.eraseIdx i) :=
  sortedBy_sublist lt multi (List.eraseIdx_sublist _ _) h

theorem Spec.step_insert (lt : α → α → Bool) (multi : Bool) (l : List α) (x : α) :
    Spec.step lt multi l (.insert x) = some (Spec.insert1 lt multi l x) := by
  simp only [Spec.step, Spec.insert1]; split <;> rfl

theorem any_equiv_iff (lt : α → α → Bool) (l : List α) (x : α) : (l.any (fun y => equiv lt y x) = true) ↔ ∃ y ∈ l, equiv lt y x = true := by
  simp [List.any_eq_true]

theorem tree_insert_insert1 (lt : α → α → Bool) (ho : Order lt) (cfg : Cfg) (hmax : 0 < cfg.maxCap) (t : Tree α) (hw : t.WF cfg)
    (hs : SortedBy lt cfg.multi t.toList) (x : α) :
    (Tree.insert lt cfg t x).1.toList = Spec.insert1 lt cfg.multi t.toList x ∧
    ((Tree.insert lt cfg t x).2.2 = false → (Tree.insert lt cfg t x).1 = t) ∧
    (Tree.insert lt cfg t x).1.WF cfg ∧ SortedBy lt cfg.multi (Tree.insert lt cfg t x).1.toList ∧
    (Tree.insert lt cfg t x).1.ValidElem (Tree.insert lt cfg t x).2.1 ∧
    ∃ z, (Tree.insert lt cfg t x).1.toList[(Tree.insert lt cfg t x).1.idxOf (Tree.insert lt cfg t x).2.1]? = some z ∧
      lt z x = false ∧ lt x z = false := by
  obtain ⟨a, b, c, d⟩ := tree_insert_spec lt ho cfg hmax t hw hs x
  unfold Spec.insert1
  by_cases hc : cfg.multi = false ∧ ∃ y ∈ t.toList, equiv lt y x = true
  · rw [if_pos hc] at a
    rw [if_pos ⟨hc.1, (any_equiv_iff lt _ _).mpr hc.2⟩]
    obtain ⟨a1, a2, z, hz, he⟩ := a
    rw [equiv_iff] at he
    exact ⟨by rw [a1], fun _ => a1, b, c, d, z, by rw [a1]; exact hz, he.1, he.2⟩
  · rw [if_neg hc] at a
    rw [if_neg (fun h => hc ⟨h.1, (any_equiv_iff lt _ _).mp h.2⟩)]
    obtain ⟨a1, a2, a3⟩ := a
    refine ⟨a1, (fun h => by rw [a2] at h; cases h), b, c, d, x, ?_, ho.irrefl x, ho.irrefl x⟩
    rw [a1, a3]
    exact List.getElem?_insertIdx_self.trans (if_pos (upperIdx_facts lt ho t.toList x (hs.weak ho)).1)

theorem runOp_spec (lt : α → α → Bool) (ho : Order lt) (cfg : Cfg) (hmax : 0 < cfg.maxCap) (t : Tree α)
    (hw : t.WF cfg) (hs : SortedBy lt cfg.multi t.toList) (op : Op α) (l' : List α)
    (h : Spec.step lt cfg.multi t.toList op = some l') :
    (Tree.runOp lt cfg t op).toList = l' ∧ (Tree.runOp lt cfg t op).WF cfg ∧
    SortedBy lt cfg.multi (Tree.runOp lt cfg t op).toList := by
  cases op with
  | insert x =>
    rw [Spec.step_insert] at h
    cases h
    obtain ⟨a, _, b, c, _⟩ := tree_insert_insert1 lt ho cfg hmax t hw hs x
    exact ⟨a, b, c⟩
  | addHint i x =>
    simp only [Spec.step] at h
    split at h
    · rename_i hc
      cases h
      have a := (Cur.posOfIdx hw hc.1).add hmax x
      simp only [Tree.runOp]
      exact ⟨a.list, a.wf, by rw [a.list]; exact hc.2⟩
    · cases h
  | removeAt i =>
    simp only [Spec.step] at h
    split at h
    · rename_i hc
      cases h
      have a := (Cur.posOfIdx hw (Nat.le_of_lt hc)).remove hc
      simp only [Tree.runOp]
      exact ⟨a.list, a.wf, by rw [a.list]; exact sortedBy_eraseIdx lt _ _ i hs⟩
    · cases h
  | resetKey i x =>
    simp only [Spec.step] at h
    split at h
    · rename_i hc
      cases h
      have p := Cur.posOfIdx hw (Nat.le_of_lt hc.1)
      obtain ⟨a1, a2⟩ := tree_resetKey_spec cfg t hw _ (p.validElem hc.1) x
      rw [p.idx] at a1
      simp only [Tree.runOp]
      exact ⟨a1, a2, by rw [a1]; exact hc.2⟩
    · cases h
  | clear =>
    simp only [Spec.step] at h
    cases h
    simp only [Tree.runOp]
    exact ⟨rfl, Tree.wf_empty cfg, sortedBy_nil lt _⟩

theorem run_spec (lt : α → α → Bool) (ho : Order lt) (cfg : Cfg) (hmax : 0 < cfg.maxCap) (ops : List (Op α))
    (t : Tree α) (hw : t.WF cfg) (hs : SortedBy lt cfg.multi t.toList) (l' : List α)
    (h : Spec.run lt cfg.multi t.toList ops = some l') :
    (ops.foldl (Tree.runOp lt cfg) t).toList = l' ∧ (ops.foldl (Tree.runOp lt cfg) t).WF cfg ∧
    SortedBy lt cfg.multi (ops.foldl (Tree.runOp lt cfg) t).toList := by
  induction ops generalizing t with
  | nil => simp only [Spec.run] at h; cases h; exact ⟨rfl, hw, hs⟩
  | cons op ops ih =>
    simp only [Spec.run] at h
    cases hstep : Spec.step lt cfg.multi t.toList op with
    | none => simp [hstep] at h
    | some l1 =>
      simp only [hstep] at h
      obtain ⟨a, b, c⟩ := runOp_spec lt ho cfg hmax t hw hs op l1 hstep
      simp only [List.foldl_cons]
      exact ih _ b c (by rw [a]; exact h)

/-- every operation the property names, on one container; merging takes the other container as a value -/
inductive OpFull (α : Type) where
  | base (op : Op α)
  | removeKey (k : α)
  | removeRange (i j : Nat)
  | removeIf (f : α → Bool)
  | insertRange (xs : List α)
  /-- `src.MergeTo(*this)` / `this->MergeFrom(src)` -/
  | mergeFrom (src : Tree α)
  /-- replace the container by a copy of itself (copy construction + swap) -/
  | copy

def Tree.runOpFull (lt : α → α → Bool) (cfg : Cfg) (t : Tree α) : OpFull α → Tree α
  | .base op => Tree.runOp lt cfg t op
  | .removeKey k => (Tree.removeKey lt cfg t k).1
  | .removeRange i j => (Tree.removeRange cfg t (t.posOfIdx i) (t.posOfIdx j) (j - i)).1
  | .removeIf f => Tree.removeIf cfg f t
  | .insertRange xs => Tree.insertRange lt cfg t xs
  | .mergeFrom src => (Tree.mergeTo lt cfg src t).2
  | .copy => Tree.copy cfg t

/-- `pvIsOrdered` on two elements -/
def Spec.ordered (lt : α → α → Bool) (multi : Bool) (a b : α) : Bool := if multi then !lt b a else lt a b

/-- reference semantics of a merge: everything in front when the whole source precedes the destination, everything
    behind when it follows, else one stable insertion after the other -/
def Spec.merge (lt : α → α → Bool) (multi : Bool) (src dst : List α) : List α :=
  match src.getLast?, dst.head? with
  | none, _ => dst
  | _, none => src
  | some a, some b =>
    if Spec.ordered lt multi a b then src ++ dst
    else match dst.getLast?, src.head? with
      | some c, some d => if Spec.ordered lt multi c d then dst ++ src else src.foldl (Spec.insert1 lt multi) dst
      | _, _ => src.foldl (Spec.insert1 lt multi) dst

open Classical in
/-- reference semantics of the complete operation set. Classical because the `mergeFrom` arm tests `src.WF cfg`, a proposition: merging
    is specified only for a well-formed sorted source. -/
noncomputable def Spec.stepFull (lt : α → α → Bool) (cfg : Cfg) (l : List α) : OpFull α → Option (List α)
  | .base op => Spec.step lt cfg.multi l op
  | .removeKey k => some (l.filter (fun y => !equiv lt y k))
  | .removeRange i j => if i ≤ j ∧ j ≤ l.length then some (l.take i ++ l.drop j) else none
  | .removeIf f => some (l.filter (fun y => !f y))
  | .insertRange xs => some (xs.foldl (Spec.insert1 lt cfg.multi) l)
  | .mergeFrom src =>
      if src.WF cfg ∧ SortedBy lt cfg.multi src.toList then some (Spec.merge lt cfg.multi src.toList l) else none
  | .copy => some l

noncomputable def Spec.runFull (lt : α → α → Bool) (cfg : Cfg) : List α → List (OpFull α) → Option (List α)
  | l, [] => some l
  | l, op :: ops => match Spec.stepFull lt cfg l op with
    | some l' => Spec.runFull lt cfg l' ops
    | none => none

end Momo.BTree
