import Momo.Translated
import Momo.Translated.Misc
import Momo.Proof.Word64
import Momo.Proof.SortArith
import Momo.Proof.TrEqMisc
/-!
  C17: the integer kernels of `HashSorter` / `RadixSorter` as translated from the headers (area Misc,
  lean/Momo/Translated/Misc.lean) are the model functions of `Momo/Model/Sort.lean`:
  `pvMultShift = multShift`, `pvCompare = pvCompare`, `pvGetRadix = getRadix`, the shift clamp of `RadixSorter::Sort`,
  `nextShift`, `selectionSortMaxCount`, `radixCount`, and the index updates of `pvFindHash`, `pvExponentialSearch`,
  `pvBinarySearch` are the expressions the model loops (`findHashLoop`, `expLoop`, `binLoop`) use.
  The 64-bit operations `add64`, `sub64`, `mul64`, `shl64` and their no-wrap lemmas are those of `Momo.Seg` (`Proof/Word64`); `Sort.w64` is the
  model's own truncation; `tr_stepCount` is in TrEqMisc.
  The generated definitions are rewritten by tools/translate.py from the current headers on every check; a changed
  function body makes the equalities below fail to elaborate.
-/
namespace Momo.TrEq
open Momo Momo.Seg

/-- `pvMultShift`: every 64-bit product and sum wraps in the translation exactly where the model wraps — no hypothesis. -/
theorem tr_multShift (v1 v2 : Nat) : Tr.hs_pvMultShift v1 v2 = Sort.multShift v1 v2 := by
  have hm : Seg.sub64 (Seg.shl64 1 32) 1 = 2 ^ 32 - 1 := by decide
  unfold Tr.hs_pvMultShift Sort.multShift
  simp only [hm, Seg.add64, Seg.mul64, w64_eq, Sort.w64, Sort.halfSize, Sort.halfMask, Extracted.hsHalfSizeFactor]

theorem tr_pvCompare (v1 v2 : Nat) : Tr.hs_pvCompare v1 v2 = Sort.pvCompare v1 v2 := by
  unfold Tr.hs_pvCompare Sort.pvCompare
  by_cases h1 : v1 < v2
  · simp [h1]
  · by_cases h2 : v1 = v2 <;> simp [h1, h2]

theorem tr_findHash_start (h n : Nat) : Tr.hs_findHash_start h n = Sort.multShift h n := tr_multShift h n

/-- `middleIndex += pvMultShift(itemHash - middleHash, count)`: the model's unbounded `mid + multShift (h - mh) n`
    when `middleHash ≤ itemHash` (the branch condition) and the sum is a `size_t`. -/
theorem tr_findHash_up (mid h mh n : Nat) (hle : mh ≤ h) (hw : mid + Sort.multShift (h - mh) n < 2 ^ 64) :
    Tr.hs_findHash_up mid h mh n = mid + Sort.multShift (h - mh) n := by
  unfold Tr.hs_findHash_up
  rw [tr_multShift, sub64_of_le hle, add64_of_lt hw]

theorem tr_findHash_diff (h mh n : Nat) (hle : h ≤ mh) : Tr.hs_findHash_diff h mh n = Sort.multShift (mh - h) n := by
  unfold Tr.hs_findHash_diff
  rw [tr_multShift, sub64_of_le hle]

theorem tr_findHash_downBreak (l d m : Nat) (hw : l + d < 2 ^ 64) : Tr.hs_findHash_downBreak l d m = decide (l + d > m) := by
  unfold Tr.hs_findHash_downBreak
  rw [add64_of_lt hw]

theorem tr_findHash_down (m d : Nat) (hle : d ≤ m) : Tr.hs_findHash_down m d = m - d := by
  unfold Tr.hs_findHash_down
  rw [sub64_of_le hle]

theorem tr_expSearch_next (i : Nat) (hw : i * 2 + 2 < 2 ^ 64) : Tr.hs_expSearch_next i = i * 2 + 2 := by
  unfold Tr.hs_expSearch_next
  rw [mul64_of_lt (by omega), add64_of_lt hw]

theorem tr_binSearch_middle (l r : Nat) (hw : l + r < 2 ^ 64) : Tr.hs_binSearch_middle l r = (l + r) / 2 := by
  unfold Tr.hs_binSearch_middle
  rw [add64_of_lt hw]

/-- one iteration of the `while (true)` loop of `pvFindHash` (model `Sort.findHashLoop`) with every index computation
    replaced by the code translated from the header. Hypotheses: what holds in the C++ at that point — the hashes are
    `size_t`, `leftIndex ≤ middleIndex < count ≤ 2^63`. -/
theorem findHashLoop_translated {σ α : Type} (M : Sort.Mem σ α) (s : σ) (count itemHash f step left right mid mh : Nat)
    (hc : M.code s mid = some mh) (hh : itemHash < 2 ^ 64) (hmh : mh < 2 ^ 64)
    (hl : left ≤ mid) (hmid : mid < count) (hn : count ≤ 2 ^ 63) :
    Sort.findHashLoop M s count itemHash (f + 1) step left right mid =
      if mh < itemHash then
        if step = 0 then
          (Sort.csub right (mid + 1)).bind fun n =>
            (Sort.exponentialSearch (Sort.hashCmp (M.fwd s (mid + 1)) itemHash) n).map fun r => (mid + 1 + r.1, r.2)
        else if Tr.hs_findHash_up mid itemHash mh count ≥ right then
          (Sort.csub right (mid + 1)).bind fun n => Sort.binarySearchAt (Sort.hashCmp (M.fwd s 0) itemHash) (mid + 1) n
        else Sort.findHashLoop M s count itemHash f (step - 1) (mid + 1) right (Tr.hs_findHash_up mid itemHash mh count)
      else if mh > itemHash then
        if step = 0 then
          (Sort.csub mid left).bind fun n =>
            (Sort.exponentialSearch (Sort.revHashCmp (M.rev s mid) itemHash) n).bind fun r =>
              (Sort.csub mid (r.1 + (if r.2 then 1 else 0))).map fun idx => (idx, r.2)
        else if Tr.hs_findHash_downBreak left (Tr.hs_findHash_diff itemHash mh count) mid = true then
          (Sort.csub mid left).bind fun n => Sort.binarySearchAt (Sort.hashCmp (M.fwd s 0) itemHash) left n
        else Sort.findHashLoop M s count itemHash f (step - 1) left mid
          (Tr.hs_findHash_down mid (Tr.hs_findHash_diff itemHash mh count))
      else some (mid, true) := by
  have hc0 : 0 < count := Nat.zero_lt_of_lt hmid
  rw [Sort.findHashLoop, hc]
  simp only [Option.bind_some]
  by_cases h1 : mh < itemHash
  · -- `pvMultShift(d, n) < n`, so the new middle index is a `size_t`
    have hd := Sort.multShift_lt (itemHash - mh) count (Nat.lt_of_le_of_lt (Nat.sub_le _ _) hh) hc0
    rw [if_pos h1, if_pos h1,
      tr_findHash_up mid itemHash mh count (Nat.le_of_lt h1) (add_lt_two_pow_64 hmid (Nat.le_of_lt hd) hn)]
  · rw [if_neg h1, if_neg h1]
    by_cases h2 : mh > itemHash
    · have hd := Sort.multShift_lt (mh - itemHash) count (Nat.lt_of_le_of_lt (Nat.sub_le _ _) hmh) hc0
      rw [if_pos h2, if_pos h2, tr_findHash_diff itemHash mh count (Nat.le_of_lt h2),
        tr_findHash_downBreak _ _ _ (add_lt_two_pow_64 (Nat.lt_of_le_of_lt hl hmid) (Nat.le_of_lt hd) hn)]
      simp only [decide_eq_true_eq]
      by_cases h3 : step = 0
      · rw [if_pos h3, if_pos h3]
      · rw [if_neg h3, if_neg h3]
        by_cases h4 : left + Sort.multShift (mh - itemHash) count > mid
        · rw [if_pos h4, if_pos h4]
        · rw [if_neg h4, if_neg h4,
            tr_findHash_down _ _ (Nat.le_trans (Nat.le_add_left _ _) (Nat.le_of_not_lt h4))]
    · rw [if_neg h2, if_neg h2]

/-- `pvFindHash` itself: the start of the loop uses the translated `pvGetStepCount` and `pvMultShift(itemHash, count)` -/
theorem findHash_translated {σ α : Type} (M : Sort.Mem σ α) (s : σ) (count itemHash : Nat) :
    Sort.findHash M s count itemHash =
      if count = 0 then some (0, false)
      else Sort.findHashLoop M s count itemHash (Tr.hs_pvGetStepCount count + 1) (Tr.hs_pvGetStepCount count) 0 count
        (Tr.hs_findHash_start itemHash count) := by
  rw [tr_stepCount, tr_findHash_start]
  rfl

/-- one iteration of the `for` loop of `pvExponentialSearch` (model `Sort.expLoop`): the next probe index is the
    translated `i = i * 2 + 2` (`i < count ≤ 2^62`, so nothing wraps) -/
theorem expLoop_translated (cmp : Sort.Cmp) (count f i left : Nat) (hi : i < count) (hn : count ≤ 2 ^ 62) :
    Sort.expLoop cmp count (f + 1) i left =
      (cmp i).bind fun c =>
        if c > 0 then (Sort.csub i left).bind fun n => Sort.binarySearchAt cmp left n
        else if c = 0 then some (i, true)
        else Sort.expLoop cmp count f (Tr.hs_expSearch_next i) (i + 1) := by
  rw [Sort.expLoop, if_pos hi, tr_expSearch_next i (by omega)]

/-- one iteration of the loop of `pvBinarySearch` (model `Sort.binLoop`): the probe index is the translated
    `(leftIndex + rightIndex) / 2` (`leftIndex < rightIndex ≤ 2^63`, so the sum does not wrap) -/
theorem binLoop_translated (cmp : Sort.Cmp) (f l r : Nat) (hlr : l < r) (hr : r ≤ 2 ^ 63) :
    Sort.binLoop cmp (f + 1) l r =
      (cmp (Tr.hs_binSearch_middle l r)).bind fun c =>
        if c < 0 then Sort.binLoop cmp f (Tr.hs_binSearch_middle l r + 1) r
        else if c > 0 then Sort.binLoop cmp f l (Tr.hs_binSearch_middle l r)
        else some (Tr.hs_binSearch_middle l r, true) := by
  rw [Sort.binLoop, if_pos hlr, tr_binSearch_middle l r (add_lt_two_pow_64 (Nat.lt_of_lt_of_le hlr hr) hr (Nat.le_refl _))]

theorem tr_getRadix (R code shift : Nat) (hR : R < 64) : Tr.rs_pvGetRadix R code shift = Sort.getRadix R code shift := by
  unfold Tr.rs_pvGetRadix Sort.getRadix
  rw [mask_eq hR]

theorem tr_radixCount (R : Nat) (hR : R < 64) : Tr.rs_radixCount R = 2 ^ R := shl64_one hR

theorem tr_selectionSortMaxCount (R : Nat) (hR : R < 126) : Tr.rs_selectionSortMaxCount R = Sort.selectionSortMaxCount R := by
  unfold Tr.rs_selectionSortMaxCount Sort.selectionSortMaxCount
  simp only [Extracted.rsSelDiv, Extracted.rsSelAdd]
  rw [add64_of_lt (by omega), shl64_one (by omega)]

theorem tr_nextShift (R shift : Nat) : Tr.rs_nextShift R shift = Sort.nextShift R shift := by
  unfold Tr.rs_nextShift Sort.nextShift
  by_cases h : shift > R
  · rw [if_pos (decide_eq_true h), if_pos h, sub64_of_le (Nat.le_of_lt h)]
  · rw [if_neg (by rw [decide_eq_false h]; decide), if_neg h]

/-- the `shift` argument `RadixSorter::Sort` passes to `pvSort`, clamp included: the model's
    `if W > R then W - R else 0` for codes of `W = 8 * sizeof(Code)` bits; the same clamp as `nextShift` -/
theorem tr_sortShift (R sz : Nat) (hsz : sz < 2 ^ 61) :
    Tr.rs_Sort_shift R sz = if 8 * sz > R then 8 * sz - R else 0 := by
  rw [show Tr.rs_Sort_shift R sz = Tr.rs_nextShift R (mul64 8 sz) from rfl, mul64_of_lt (by omega), tr_nextShift]
  rfl

end Momo.TrEq
