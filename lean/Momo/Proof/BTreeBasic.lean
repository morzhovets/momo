import Momo.Model.BTree
import Momo.Proof.ListFacts
/-!
  C02, the ground under the B-tree proofs: the structure predicates `Bal` and `Caps`; the in-order list of an internal node
  cut around a child (`inter_split` with `preOf` / `postOf`), through which every structural proof goes; positions
  (`ValidElem`); and `Bal.path_rec`, the induction along a path of a balanced node that most path recursions of the later
  files use. A lemma about a model function takes that function's arguments in the model's order; facts about plain lists are
  in `ListFacts` and cited qualified. Core Lean only.
-/
namespace Momo.BTree
open Node
variable {α : Type}

/-- every internal node has one more child than items and all leaves are at depth `d` -/
inductive Bal : Nat → Node α → Prop
  | leaf (cap : Nat) (items : List α) : Bal 0 (leaf cap items)
  | inner (d : Nat) (items : List α) (cs : List (Node α)) :
      cs.length = items.length + 1 → (∀ c ∈ cs, Bal d c) → Bal (d+1) (inner items cs)

/-- capacities: `count ≤ capacity ≤ maxCapacity` in every node (what `AcceptBackItem` asserts) -/
inductive Caps (maxCap : Nat) : Node α → Prop
  | leaf (cap : Nat) (items : List α) : items.length ≤ cap → cap ≤ maxCap → Caps maxCap (leaf cap items)
  | inner (items : List α) (cs : List (Node α)) :
      items.length ≤ maxCap → (∀ c ∈ cs, Caps maxCap c) → Caps maxCap (inner items cs)

theorem Bal.inner_len {d : Nat} {items : List α} {cs : List (Node α)} (h : Bal d (Node.inner items cs)) :
    cs.length = items.length + 1 := by
  cases h; assumption

theorem Bal.inner_child {d : Nat} {items : List α} {cs : List (Node α)} (h : Bal (d+1) (Node.inner items cs)) :
    ∀ c ∈ cs, Bal d c := by
  cases h; assumption

theorem Bal.inner_depth {d : Nat} {items : List α} {cs : List (Node α)} (h : Bal d (Node.inner items cs)) :
    ∃ d', d = d' + 1 ∧ ∀ c ∈ cs, Bal d' c := by
  cases h with
  | inner d' _ _ _ hall => exact ⟨d', rfl, hall⟩

theorem Bal.leaf_depth {d cap : Nat} {items : List α} (h : Bal d (Node.leaf cap items)) : d = 0 := by
  cases h; rfl

theorem Bal.zero_isLeaf {n : Node α} (h : Bal 0 n) : ∃ cap items, n = Node.leaf cap items := by
  cases h with
  | leaf cap items => exact ⟨cap, items, rfl⟩

theorem Bal.getElem {d : Nat} {items : List α} {cs : List (Node α)} (h : Bal (d+1) (Node.inner items cs))
    {i : Nat} {c : Node α} (hc : cs[i]? = some c) : Bal d c :=
  h.inner_child c (List.mem_of_getElem? hc)

theorem Bal.set_child {d : Nat} {items : List α} {cs : List (Node α)} (h : Bal (d+1) (Node.inner items cs)) (c : Nat)
    {ch : Node α} (hch : Bal d ch) : Bal (d+1) (Node.inner items (cs.set c ch)) :=
  Bal.inner d _ _ (by rw [List.length_set]; exact h.inner_len) (ListFacts.forall_mem_set h.inner_child c hch)

theorem Bal.pair {d : Nat} {a b : Node α} (sep : α) (ha : Bal d a) (hb : Bal d b) : Bal (d+1) (Node.inner [sep] [a, b]) :=
  Bal.inner d _ _ rfl (fun c hc => by
    rcases List.mem_cons.mp hc with rfl | hc
    · exact ha
    · exact (List.mem_singleton.mp hc) ▸ hb)

theorem Caps.inner_items {maxCap : Nat} {items : List α} {cs : List (Node α)} (h : Caps maxCap (Node.inner items cs)) :
    items.length ≤ maxCap := by
  cases h; assumption

theorem Caps.inner_child {maxCap : Nat} {items : List α} {cs : List (Node α)} (h : Caps maxCap (Node.inner items cs)) :
    ∀ c ∈ cs, Caps maxCap c := by
  cases h; assumption

theorem Caps.getElem {maxCap : Nat} {items : List α} {cs : List (Node α)} (h : Caps maxCap (Node.inner items cs))
    {i : Nat} {c : Node α} (hc : cs[i]? = some c) : Caps maxCap c :=
  h.inner_child c (List.mem_of_getElem? hc)

theorem Caps.pair {maxCap : Nat} {a b : Node α} (sep : α) (hmax : 0 < maxCap) (ha : Caps maxCap a) (hb : Caps maxCap b) :
    Caps maxCap (Node.inner [sep] [a, b]) :=
  Caps.inner _ _ hmax (fun c hc => by
    rcases List.mem_cons.mp hc with rfl | hc
    · exact ha
    · exact (List.mem_singleton.mp hc) ▸ hb)

theorem Caps.set_child {maxCap : Nat} {items : List α} {cs : List (Node α)} (h : Caps maxCap (Node.inner items cs))
    (c : Nat) {ch : Node α} (hch : Caps maxCap ch) : Caps maxCap (Node.inner items (cs.set c ch)) :=
  Caps.inner _ _ h.inner_items (ListFacts.forall_mem_set h.inner_child c hch)

@[simp] theorem toList_leaf (cap : Nat) (items : List α) : toList (leaf cap items) = items := by simp [toList]
@[simp] theorem toList_inner (items : List α) (cs : List (Node α)) : toList (inner items cs) = inter cs items := by
  simp [toList]

theorem innerCountL_eq (cs : List (Node α)) : innerCountL cs = (cs.map innerCount).sum := by
  induction cs with
  | nil => simp [innerCountL]
  | cons c cs ih => simp [innerCountL, ih]

@[simp] theorem innerCount_leaf (cap : Nat) (items : List α) : innerCount (leaf cap items) = 0 := by simp [innerCount]
@[simp] theorem innerCount_inner (items : List α) (cs : List (Node α)) :
    innerCount (inner items cs) = (cs.map innerCount).sum + 1 := by
  simp [innerCount, innerCountL_eq]

@[simp] theorem inter_nil (is : List α) : inter ([] : List (Node α)) is = [] := by simp [inter]
@[simp] theorem inter_cons_nil (c : Node α) (cs : List (Node α)) : inter (c :: cs) [] = toList c ++ inter cs [] := by
  simp [inter]
@[simp] theorem inter_cons_cons (c : Node α) (cs : List (Node α)) (i : α) (is : List α) :
    inter (c :: cs) (i :: is) = toList c ++ i :: inter cs is := by simp [inter]

theorem inter_single (c : Node α) (is : List α) : inter [c] is = toList c ++ (match is with
    | [] => []
    | i :: _ => [i]) := by
  cases is <;> simp

/-- what follows child `i` in the in-order list of `inner is cs` -/
def postOf (cs : List (Node α)) (is : List α) (i : Nat) : List α :=
  match is.drop i with
  | [] => []
  | s :: rest => s :: inter (cs.drop (i + 1)) rest

/-- what precedes child `i`: the children `0..i-1`, each followed by its item -/
def preOf (cs : List (Node α)) (is : List α) (i : Nat) : List α := inter (cs.take i) (is.take i)

/-- The in-order list of an internal node as three segments around child `i`. Every structural proof goes through this
    decomposition: an operation below child `i` changes only the middle segment (`inter_set`), and `(preOf cs is i).length`
    is the in-order offset of that child (`preOf_length`). -/
theorem inter_split (cs : List (Node α)) (is : List α) (i : Nat) (c : Node α) (hc : cs[i]? = some c)
    (hlen : cs.length = is.length + 1) :
    inter cs is = preOf cs is i ++ toList c ++ postOf cs is i := by
  induction cs generalizing is i with
  | nil => simp at hc
  | cons c0 cs ih =>
    cases i with
    | zero =>
      simp at hc; subst hc
      cases is with
      | nil => simp at hlen; subst hlen; simp [preOf, postOf]
      | cons s is' => simp [preOf, postOf]
    | succ j =>
      cases is with
      | nil => simp at hlen; subst hlen; simp at hc
      | cons s is' =>
        have := ih is' j (by simpa using hc) (by simpa using hlen)
        simp only [inter_cons_cons, this]
        simp [preOf, postOf]

theorem sum_take_succ (cs : List (Node α)) (i : Nat) (c : Node α) (hc : cs[i]? = some c) :
    ((cs.take (i+1)).map (fun c => size c)).sum = ((cs.take i).map (fun c => size c)).sum + size c :=
  ListFacts.sum_map_take_succ _ hc

theorem sum_take_mono (cs : List (Node α)) {a b : Nat} (h : a ≤ b) :
    ((cs.take a).map (fun c => size c)).sum ≤ ((cs.take b).map (fun c => size c)).sum :=
  ListFacts.sum_map_take_mono _ cs h

theorem sum_take_le (cs : List (Node α)) (i : Nat) :
    ((cs.take i).map (fun c => size c)).sum ≤ (cs.map (fun c => size c)).sum :=
  ListFacts.sum_map_take_le _ cs i

theorem sum_take_split (cs : List (Node α)) (a k : Nat) :
    ((cs.take (a + k)).map (fun c => size c)).sum =
      ((cs.take a).map (fun c => size c)).sum + (((cs.drop a).take k).map (fun c => size c)).sum :=
  ListFacts.sum_map_take_add _ cs a k

theorem preOf_succ (cs : List (Node α)) (is : List α) (a : Nat) (c : Node α) (x : α) (hc : cs[a]? = some c)
    (hx : is[a]? = some x) : preOf cs is (a + 1) = preOf cs is a ++ toList c ++ [x] := by
  induction cs generalizing is a with
  | nil => simp at hc
  | cons c0 cs ih =>
    cases is with
    | nil => simp at hx
    | cons s is' =>
      cases a with
      | zero => simp at hc hx; subst hc; subst hx; simp [preOf]
      | succ k =>
        have := ih is' k (by simpa using hc) (by simpa using hx)
        simp only [preOf] at this ⊢
        simp only [List.take_succ_cons, inter_cons_cons, this]
        simp

theorem preOf_length (cs : List (Node α)) (is : List α) (i : Nat) (hi : i ≤ is.length)
    (hlen : cs.length = is.length + 1) :
    (preOf cs is i).length = ((cs.take i).map (fun c => size c)).sum + i := by
  induction i with
  | zero => simp [preOf]
  | succ k ih =>
    obtain ⟨c, hc⟩ := ListFacts.getElem?_of_lt (l := cs) (i := k) (by omega)
    obtain ⟨s, hs⟩ := ListFacts.getElem?_of_lt (l := is) (i := k) hi
    rw [preOf_succ cs is k c s hc hs, sum_take_succ cs k c hc, List.length_append, List.length_append,
      ih (Nat.le_of_succ_le hi), size]
    simp only [List.length_cons, List.length_nil]; omega

theorem inter_set (cs : List (Node α)) (is : List α) (i : Nat) (c c' : Node α) (hc : cs[i]? = some c)
    (hlen : cs.length = is.length + 1) :
    inter (cs.set i c') is = preOf cs is i ++ toList c' ++ postOf cs is i := by
  have h1 : (cs.set i c')[i]? = some c' := by
    have : i < cs.length := by
      rcases List.getElem?_eq_some_iff.mp hc with ⟨h, _⟩; exact h
    simp [this]
  have h2 := inter_split (cs.set i c') is i c' h1 (by simpa using hlen)
  rw [h2]
  simp [preOf, postOf, List.take_set_of_le, List.drop_set_of_lt]

theorem size_inter_split (cs : List (Node α)) (is : List α) (i : Nat) (c : Node α) (hc : cs[i]? = some c)
    (hlen : cs.length = is.length + 1) (hi : i ≤ is.length) :
    (inter cs is).length = ((cs.take i).map (fun c => size c)).sum + i + size c + (postOf cs is i).length := by
  rw [inter_split cs is i c hc hlen]
  simp [preOf_length cs is i hi hlen, size]
  omega

theorem exists_child {cs : List (Node α)} {is : List α} (hlen : cs.length = is.length + 1) {i : Nat}
    (hi : i ≤ is.length) : ∃ c, cs[i]? = some c :=
  ListFacts.getElem?_of_lt (Nat.lt_of_lt_of_eq (Nat.lt_succ_of_le hi) hlen.symm)

theorem postOf_of_getElem? (cs : List (Node α)) {is : List α} {i : Nat} {x : α} (h : is[i]? = some x) :
    postOf cs is i = x :: inter (cs.drop (i + 1)) (is.drop (i + 1)) := by
  simp only [postOf, ListFacts.drop_of_getElem? h]

theorem findFirstAt_eq (lin : Bool) (p : α → Bool) (cs : List (Node α)) (i : Nat) :
    findFirstAt lin p cs i = (match cs[i]? with
      | some c => findFirst lin p c
      | none => none) := by
  induction cs generalizing i with
  | nil => simp [findFirstAt]
  | cons c cs ih => cases i with
    | zero => simp [findFirstAt]
    | succ j => simp [findFirstAt, ih]

theorem rightPathAt_eq (cs : List (Node α)) (i : Nat) :
    rightPathAt cs i = (match cs[i]? with
      | some c => rightPath c
      | none => ⟨[], 0⟩) := by
  induction cs generalizing i with
  | nil => simp [rightPathAt]
  | cons c cs ih => cases i with
    | zero => simp [rightPathAt]
    | succ j => simp [rightPathAt, ih]

theorem popLastAt_eq (cs : List (Node α)) (i : Nat) :
    popLastAt cs i = (match cs[i]? with
      | some c => popLast c
      | none => none) := by
  induction cs generalizing i with
  | nil => simp [popLastAt]
  | cons c cs ih => cases i with
    | zero => simp [popLastAt]
    | succ j => simp [popLastAt, ih]

theorem leftPathHead_eq (cs : List (Node α)) :
    leftPathHead cs = (match cs[0]? with
      | some c => leftPath c
      | none => []) := by
  cases cs <;> simp [leftPathHead]

theorem heightHead_eq (cs : List (Node α)) :
    heightHead cs = (match cs[0]? with
      | some c => height c
      | none => 0) := by
  cases cs <;> simp [heightHead]

theorem popFirstHead_eq (cs : List (Node α)) :
    popFirstHead cs = (match cs[0]? with
      | some c => popFirst c
      | none => none) := by
  cases cs <;> simp [popFirstHead]

@[simp] theorem nodeAt?_nil (n : Node α) : nodeAt? n [] = some n := by
  cases n <;> simp [nodeAt?]

@[simp] theorem nodeAt?_leaf_cons (cap : Nat) (is : List α) (c : Nat) (p : List Nat) :
    nodeAt? (leaf cap is) (c :: p) = none := by simp [nodeAt?]

@[simp] theorem nodeAt?_inner_cons (is : List α) (cs : List (Node α)) (c : Nat) (p : List Nat) :
    nodeAt? (inner is cs) (c :: p) = (match cs[c]? with
      | some ch => nodeAt? ch p
      | none => none) := by cases h : cs[c]? <;> simp [nodeAt?, h]

theorem nodeAt?_cons_some {n m : Node α} {c : Nat} {p : List Nat} (h : nodeAt? n (c :: p) = some m) :
    ∃ is cs ch, n = inner is cs ∧ cs[c]? = some ch ∧ nodeAt? ch p = some m := by
  cases n with
  | leaf cap is => simp at h
  | inner is cs =>
    rw [nodeAt?_inner_cons] at h
    cases hc : cs[c]? with
    | none => simp [hc] at h
    | some ch => exact ⟨is, cs, ch, rfl, hc, by simpa [hc] using h⟩

theorem nodeAt?_append (n : Node α) (p q : List Nat) :
    nodeAt? n (p ++ q) = (match nodeAt? n p with
      | some m => nodeAt? m q
      | none => none) := by
  induction p generalizing n with
  | nil => simp
  | cons c p ih =>
    cases n with
    | leaf cap is => simp
    | inner is cs =>
      simp only [List.cons_append, nodeAt?_inner_cons]
      cases cs[c]? with
      | none => simp
      | some ch => simp [ih]

/-- node-level lemmas take path and index apart (`moveIf_spec hb path i …` speaks of `⟨path, i⟩`), container-level ones take a
    `pos : Pos`; this is the step between the two -/
theorem Pos.eta (pos : Pos) : (⟨pos.path, pos.idx⟩ : Pos) = pos := rfl

/-- the position `(path, i)` names an element of `n`: the path leads to a node and `i` is below its count. This is what
    `operator++`, removal and `operator*` require of an iterator. -/
def ValidElem (n : Node α) (path : List Nat) (i : Nat) : Prop :=
  ∃ m, nodeAt? n path = some m ∧ i < m.count

@[elab_as_elim] theorem Bal.path_rec {m : Node α} {motive : Nat → Node α → List Nat → Prop}
    (nil : ∀ d, Bal d m → motive d m [])
    (cons : ∀ d is cs c ch p, Bal (d+1) (Node.inner is cs) → cs.length = is.length + 1 → cs[c]? = some ch → Bal d ch →
      nodeAt? ch p = some m → motive d ch p → motive (d+1) (Node.inner is cs) (c :: p))
    {d : Nat} {n : Node α} (hb : Bal d n) {p : List Nat} (hm : nodeAt? n p = some m) : motive d n p := by
  induction p generalizing n d with
  | nil =>
    obtain rfl : n = m := by simpa using hm
    exact nil d hb
  | cons c p ih =>
    obtain ⟨is, cs, ch, rfl, hc, hm⟩ := nodeAt?_cons_some hm
    obtain ⟨d', rfl, hall⟩ := hb.inner_depth
    have hbch := hall ch (List.mem_of_getElem? hc)
    exact cons d' is cs c ch p hb hb.inner_len hc hbch hm (ih hbch hm)

theorem Bal.nodeAt {d : Nat} {n m : Node α} (hb : Bal d n) {path : List Nat} (h : nodeAt? n path = some m) :
    Bal (d - path.length) m ∧ path.length ≤ d := by
  refine Bal.path_rec ?_ ?_ hb h
  · exact fun d hb => ⟨hb, Nat.zero_le _⟩
  · intro d _ _ _ _ p _ _ _ _ _ ih
    exact ⟨by simpa using ih.1, Nat.succ_le_succ ih.2⟩

theorem Caps.nodeAt {maxCap : Nat} {r m : Node α} (h : Caps maxCap r) {path : List Nat} (hm : nodeAt? r path = some m) :
    Caps maxCap m := by
  induction path generalizing r with
  | nil => simp at hm; subst hm; exact h
  | cons c p ih =>
    obtain ⟨is, cs, ch, rfl, hc, hm⟩ := nodeAt?_cons_some hm
    exact ih (h.getElem hc) hm

@[simp] theorem idxOf_leaf (cap : Nat) (is : List α) (p : List Nat) (i : Nat) : idxOf (leaf cap is) p i = i := by
  simp [idxOf]

@[simp] theorem idxOf_inner_nil (is : List α) (cs : List (Node α)) (i : Nat) :
    idxOf (inner is cs) [] i = ((cs.take (i+1)).map (fun c => size c)).sum + i := by simp [idxOf]

@[simp] theorem idxOf_inner_cons (is : List α) (cs : List (Node α)) (c : Nat) (p : List Nat) (i : Nat) :
    idxOf (inner is cs) (c :: p) i = ((cs.take c).map (fun ch => size ch)).sum + c +
      (match cs[c]? with
       | some ch => idxOf ch p i
       | none => 0) := by cases h : cs[c]? <;> simp [idxOf, h]

theorem idxOf_inner_cons' {is : List α} {cs : List (Node α)} {c : Nat} {ch : Node α} (hc : cs[c]? = some ch)
    (p : List Nat) (i : Nat) :
    idxOf (inner is cs) (c :: p) i = ((cs.take c).map (fun ch => size ch)).sum + c + idxOf ch p i := by
  simp [hc]

theorem nodeAt?_inner_cons' {is : List α} {cs : List (Node α)} {c : Nat} {ch : Node α} (hc : cs[c]? = some ch)
    (p : List Nat) : nodeAt? (inner is cs) (c :: p) = nodeAt? ch p := by
  simp [hc]

theorem size_inner (is : List α) (cs : List (Node α)) (hlen : cs.length = is.length + 1) :
    size (inner is cs) = (cs.map (fun c => size c)).sum + is.length := by
  induction cs generalizing is with
  | nil => simp at hlen
  | cons c cs ih =>
    cases is with
    | nil =>
      simp at hlen; subst hlen; simp [size]
    | cons s is' =>
      have := ih is' (by simpa using hlen)
      simp only [size, toList_inner] at this
      simp only [size, toList_inner, inter_cons_cons, List.length_append, List.length_cons, this, List.map_cons,
        List.sum_cons]
      omega

theorem idxOf_end (is : List α) (cs : List (Node α)) (hlen : cs.length = is.length + 1) :
    idxOf (inner is cs) [] is.length = size (inner is cs) := by
  rw [idxOf_inner_nil, size_inner is cs hlen, List.take_of_length_le (by omega)]

theorem idxOf_count {d : Nat} {m : Node α} (hb : Bal d m) : idxOf m [] m.count = size m := by
  cases hb with
  | leaf cap items => simp [Node.count, size]
  | inner d items cs hlen hall => simpa [Node.count] using idxOf_end items cs hlen

theorem idxOf_inner_nil_length {is : List α} {cs : List (Node α)} {i : Nat} {c : Node α} (hc : cs[i]? = some c)
    (hi : i ≤ is.length) (hlen : cs.length = is.length + 1) :
    idxOf (inner is cs) [] i = (preOf cs is i ++ toList c).length := by
  rw [idxOf_inner_nil, sum_take_succ cs i c hc, List.length_append, preOf_length cs is i hi hlen, size]; omega

theorem idxOf_inner_cons_length {is : List α} {cs : List (Node α)} {c : Nat} {ch : Node α} (hc : cs[c]? = some ch)
    (hlen : cs.length = is.length + 1) (p : List Nat) (i : Nat) :
    idxOf (inner is cs) (c :: p) i = (preOf cs is c).length + idxOf ch p i := by
  rw [idxOf_inner_cons' hc, preOf_length cs is c (by have := ListFacts.lt_of_getElem? hc; omega) hlen]

theorem preOf_eq_take (cs : List (Node α)) (is : List α) (k : Nat) (hk : k ≤ is.length)
    (hlen : cs.length = is.length + 1) :
    preOf cs is k = (inter cs is).take (((cs.take k).map (fun c => size c)).sum + k) := by
  obtain ⟨c, hc⟩ := exists_child hlen hk
  rw [inter_split cs is k c hc hlen, ← preOf_length cs is k hk hlen, List.append_assoc, List.take_left']
  rfl

theorem inter_prefix (cs1 cs2 : List (Node α)) (is1 is2 : List α) (h : cs1.length = is1.length) :
    inter (cs1 ++ cs2) (is1 ++ is2) = inter cs1 is1 ++ inter cs2 is2 := by
  induction cs1 generalizing is1 with
  | nil =>
    have : is1 = [] := by simpa using h.symm
    subst this; simp
  | cons c cs ih =>
    cases is1 with
    | nil => simp at h
    | cons s is' => simp [ih is' (by simpa using h)]

theorem inter_append (cs1 cs2 : List (Node α)) (is1 is2 : List α) (sep : α) (h : cs1.length = is1.length + 1) :
    inter (cs1 ++ cs2) (is1 ++ sep :: is2) = inter cs1 is1 ++ sep :: inter cs2 is2 := by
  induction cs1 generalizing is1 with
  | nil => simp at h
  | cons c cs ih =>
    cases is1 with
    | nil =>
      simp at h; subst h; simp
    | cons s is' =>
      simp only [List.cons_append, inter_cons_cons, ih is' (by simpa using h), List.append_assoc]

theorem inter_drop_child (cs : List (Node α)) (is : List α) (c : Nat) (ch tl : Node α) (hc : cs[c]? = some ch)
    (hlen : cs.length = is.length + 1) :
    inter (tl :: cs.drop (c + 1)) (is.drop c) = toList tl ++ postOf cs is c := by
  simp only [postOf]
  cases hd : is.drop c with
  | nil =>
    have hcl := ListFacts.lt_of_getElem? hc
    have : is.length ≤ c := by simpa using hd
    have : cs.drop (c + 1) = [] := by apply List.drop_of_length_le; omega
    simp [this]
  | cons s rest => simp

theorem inter_take_child (cs : List (Node α)) (is : List α) (c : Nat) (tr : Node α) (hc : c < cs.length)
    (hlen : cs.length = is.length + 1) :
    inter (cs.take c ++ [tr]) (is.take c) = preOf cs is c ++ toList tr := by
  induction cs generalizing is c with
  | nil => simp at hc
  | cons c0 cs ih =>
    cases c with
    | zero => simp [preOf]
    | succ k =>
      cases is with
      | nil => simp at hlen; subst hlen; simp at hc
      | cons s is' =>
        have := ih is' k (by simpa using hc) (by simpa using hlen)
        simp only [List.take_succ_cons, List.cons_append, inter_cons_cons, this]
        simp [preOf]

theorem inter_last_empty (cs : List (Node α)) (is : List α) (x : α) (c : Node α) (hlen : cs.length = is.length + 1)
    (hx : is.getLast? = some x) (hc : cs[is.length]? = some c) (he : toList c = []) :
    inter cs is = inter (cs.eraseIdx is.length) (is.eraseIdx (is.length - 1)) ++ [x] := by
  obtain ⟨is', rfl⟩ := List.getLast?_eq_some_iff.mp hx
  obtain ⟨cs0, rfl⟩ : ∃ cs0, cs = cs0 ++ [c] := by
    have := List.take_append_drop (is' ++ [x]).length cs
    rw [ListFacts.drop_of_getElem? hc, List.drop_of_length_le (Nat.le_of_eq hlen)] at this
    exact ⟨_, this.symm⟩
  have hl : cs0.length = is'.length + 1 := by simpa using hlen
  rw [List.eraseIdx_eq_dropLast (by simp [hl]), List.eraseIdx_eq_dropLast (by simp), List.dropLast_concat,
    List.dropLast_concat, inter_append _ _ _ _ _ hl]
  simp [he]

theorem inter_eraseIdx_empty (cs : List (Node α)) (is : List α) (i : Nat) (c : Node α) (x : α)
    (hc : cs[i]? = some c) (hx : is[i]? = some x) (hlen : cs.length = is.length + 1) (he : toList c = []) :
    inter cs is = preOf cs is i ++ x :: inter (cs.drop (i+1)) (is.drop (i+1)) ∧
    inter (cs.eraseIdx i) (is.eraseIdx i) = preOf cs is i ++ inter (cs.drop (i+1)) (is.drop (i+1)) := by
  induction cs generalizing is i with
  | nil => simp at hc
  | cons c0 cs ih =>
    cases is with
    | nil => simp at hx
    | cons s is' =>
      cases i with
      | zero =>
        simp at hc hx; subst hc; subst hx
        simp [preOf, he]
      | succ k =>
        obtain ⟨a, b⟩ := ih is' k (by simpa using hc) (by simpa using hx) (by simpa using hlen)
        simp only [List.eraseIdx_cons_succ, inter_cons_cons, List.drop_succ_cons, a, b]
        simp [preOf]

theorem inter_set_pred (cs : List (Node α)) (is : List α) (i : Nat) (c c' : Node α) (x y : α)
    (hc : cs[i]? = some c) (hx : is[i]? = some x) (hlen : cs.length = is.length + 1)
    (hp : toList c = toList c' ++ [y]) :
    inter cs is = preOf cs is i ++ toList c' ++ y :: x :: inter (cs.drop (i+1)) (is.drop (i+1)) ∧
    inter (cs.set i c') (is.set i y) = preOf cs is i ++ toList c' ++ y :: inter (cs.drop (i+1)) (is.drop (i+1)) := by
  induction cs generalizing is i with
  | nil => simp at hc
  | cons c0 cs ih =>
    cases is with
    | nil => simp at hx
    | cons s is' =>
      cases i with
      | zero =>
        simp at hc hx; subst hc; subst hx
        simp [preOf, hp]
      | succ k =>
        obtain ⟨a, b⟩ := ih is' k (by simpa using hc) (by simpa using hx) (by simpa using hlen)
        simp only [List.set_cons_succ, inter_cons_cons, List.drop_succ_cons, a, b]
        simp [preOf]

theorem elemAt_toList {d : Nat} {n : Node α} (hb : Bal d n) {path : List Nat} {i : Nat} {x : α}
    (h : elemAt? n ⟨path, i⟩ = some x) : (toList n)[idxOf n path i]? = some x := by
  induction path generalizing n d with
  | nil =>
    cases n with
    | leaf cap is => simpa [elemAt?, Node.items] using h
    | inner is cs =>
      simp only [elemAt?, nodeAt?_nil, Node.items] at h
      have hi : i < is.length := ListFacts.lt_of_getElem? h
      have hlen := hb.inner_len
      obtain ⟨c, hc⟩ := exists_child hlen (Nat.le_of_lt hi)
      rw [toList_inner, inter_split cs is i c hc hlen, idxOf_inner_nil_length hc (Nat.le_of_lt hi) hlen,
        List.getElem?_append_right (Nat.le_refl _), Nat.sub_self, postOf_of_getElem? cs h]
      rfl
  | cons c p ih =>
    cases n with
    | leaf cap is => simp [elemAt?] at h
    | inner is cs =>
      obtain ⟨d', rfl, hall⟩ := hb.inner_depth
      have hlen := hb.inner_len
      simp only [elemAt?, nodeAt?_inner_cons] at h
      cases hc : cs[c]? with
      | none => simp [hc] at h
      | some ch =>
        simp only [hc] at h
        have := ih (hall ch (List.mem_of_getElem? hc)) (by simpa [elemAt?] using h)
        rw [toList_inner, inter_split cs is c ch hc hlen, idxOf_inner_cons_length hc hlen, List.append_assoc,
          List.getElem?_append_right (Nat.le_add_right _ _), Nat.add_sub_cancel_left,
          List.getElem?_append_left (ListFacts.lt_of_getElem? this)]
        exact this

end Momo.BTree
