import Momo.Proof.MMapArr
import Momo.Proof.MMapKeyMap
/-!
  C08: the multimap layer.  Invariant `MM.Inv`, abstraction `MM.abs : Key → Option (List Value)` (`none` = key absent,
  `some []` = key present without values; `MM.vals` = the list, `[]` in both cases), the state change every operation is an
  instance of (`MM.Inv.change`: one key's array and presence change, the abstraction changes at that key,
  `AMap.alter`) and one refinement lemma per operation.
-/
namespace Momo.MMap
open Momo

@[simp] theorem getArr_nil (k : Nat) : getArr [] k = VArr.empty := rfl

theorem getArr_delArr (l : List (Nat × VArr)) (k k' : Nat) :
    getArr (delArr l k) k' = if k' = k then VArr.empty else getArr l k' := by
  unfold getArr delArr
  by_cases h : k' = k
  · subst h; simp [ListFacts.lookup_filter_ne_self]
  · simp [h, ListFacts.lookup_filter_ne l h]

theorem getArr_setArr (l : List (Nat × VArr)) (k : Nat) (a : VArr) (k' : Nat) :
    getArr (setArr l k a) k' = if k' = k then a else getArr l k' := by
  by_cases h : k' = k
  · subst h; simp [getArr, setArr]
  · have hne : (k' == k) = false := by simpa using h
    have := getArr_delArr l k k'
    simp only [h, if_false] at this ⊢
    rw [← this]
    simp [getArr, setArr, List.lookup_cons, hne]

/-- the total `T` when one key's array shrinks from `x` to `y` values and the model subtracts `d = x - y` from `mValueCount`: the form
    `MM.Inv.change` asks for (new total + old size = old total + new size) -/
theorem count_sub {T x y d : Nat} (hle : x ≤ T) (hxy : y + d = x) : T - d + x = T + y := by omega

/-- the same for `Remove(pairFilter)`, whose model subtracts `x - y` (sizes before and after the scan); second part: with `n` = the number
    of values removed, new total + `n` = old total -/
theorem count_sub_sub {T x y n : Nat} (hle : x ≤ T) (hxy : y + n = x) : T - (x - y) + x = T + y ∧ T - (x - y) + n = T := by
  omega

section
variable {σ : Type} (K : KeyMap σ) (L : K.Lawful) (mf : Nat)

structure MM.Inv (m : MM σ) : Prop where
  km : L.Inv m.km
  wf : ∀ k, (getArr m.arrs k).WF mf
  absent : ∀ k, k ∉ K.keys m.km → getArr m.arrs k = VArr.empty
  total : m.count = ((K.keys m.km).map (fun k => (getArr m.arrs k).bounds.length)).sum

def MM.abs (m : MM σ) : Nat → Option (List Nat) :=
  fun k => if k ∈ K.keys m.km then some (getArr m.arrs k).bounds else none

theorem MM.empty_inv : MM.Inv K L mf (MM.empty K) where
  km := L.inv_empty
  wf _ := VArr.empty_wf mf
  absent _ _ := rfl
  total := by simp [MM.empty, L.keys_empty]

include L in
theorem MM.empty_abs : MM.abs K (MM.empty K) = fun _ => none := by
  funext k; simp [MM.abs, MM.empty, L.keys_empty]

theorem MM.abs_of_mem {m : MM σ} {k : Nat} (hk : k ∈ K.keys m.km) :
    MM.abs K m k = some (getArr m.arrs k).bounds := by simp [MM.abs, hk]

theorem MM.abs_of_not_mem {m : MM σ} {k : Nat} (hk : k ∉ K.keys m.km) : MM.abs K m k = none := by
  simp [MM.abs, hk]

def MM.vals (m : MM σ) (k : Nat) : List Nat := (MM.abs K m k).getD []

theorem MM.vals_of_mem {m : MM σ} {k : Nat} (hk : k ∈ K.keys m.km) : MM.vals K m k = (getArr m.arrs k).bounds := by
  simp [MM.vals, MM.abs, hk]

theorem MM.vals_of_not_mem {m : MM σ} {k : Nat} (hk : k ∉ K.keys m.km) : MM.vals K m k = [] := by
  simp [MM.vals, MM.abs, hk]

theorem MM.vals_eq_bounds (m : MM σ) (hI : MM.Inv K L mf m) (k : Nat) : MM.vals K m k = (getArr m.arrs k).bounds := by
  by_cases hk : k ∈ K.keys m.km
  · exact MM.vals_of_mem K hk
  · rw [MM.vals_of_not_mem K hk, hI.absent k hk]; rfl

theorem MM.mem_keys_of_abs_ne {m : MM σ} {k : Nat} (h : MM.abs K m k ≠ none) : k ∈ K.keys m.km :=
  Decidable.byContradiction fun hk => h (MM.abs_of_not_mem K hk)

theorem MM.mem_keys_of_vals_ne {m : MM σ} {k : Nat} (h : MM.vals K m k ≠ []) : k ∈ K.keys m.km := by
  apply Decidable.byContradiction
  intro hk; exact h (MM.vals_of_not_mem K hk)

variable {K L mf} in
theorem MM.Inv.count_eq {m : MM σ} (hI : MM.Inv K L mf m) (hmf : mf < Extracted.abMaxFastLimit) (k : Nat) :
    (getArr m.arrs k).count = (getArr m.arrs k).bounds.length := by
  rw [(hI.wf k).bounds_eq hmf, (hI.wf k).count_eq hmf]

variable {K L mf} in
theorem MM.Inv.le_count {m : MM σ} (hI : MM.Inv K L mf m) {k : Nat} (hk : k ∈ K.keys m.km) :
    (getArr m.arrs k).bounds.length ≤ m.count :=
  hI.total ▸ ListFacts.le_sum_map_of_mem (fun k' => (getArr m.arrs k').bounds.length) hk

variable {K L mf} in
theorem MM.Inv.split_key {m : MM σ} (hI : MM.Inv K L mf m) {k : Nat} (hk : k ∈ K.keys m.km) :
    ∃ rest, k ∉ rest ∧ (K.keys m.km).Perm (k :: rest) :=
  ⟨_, (List.nodup_cons.mp ((List.perm_cons_erase hk).nodup_iff.mp (L.nodup _ hI.km))).1, List.perm_cons_erase hk⟩

end

abbrev AMap := Nat → Option (List Nat)

/-- What every operation but `removeIf` and `clear` does to the abstract map. The ledger layer has the same notion for
    `Key → List Value`: `MML.Spec.set`. -/
def AMap.alter (A : AMap) (k : Nat) (x : Option (List Nat)) : AMap := fun k' => if k' = k then x else A k'

theorem AMap.alter_self (A : AMap) (k : Nat) : A.alter k (A k) = A := by
  funext k'; unfold AMap.alter; split
  · rename_i e; rw [e]
  · rfl

section
variable {σ : Type} {K : KeyMap σ} {L : K.Lawful} {mf : Nat}

/-- `rest` being the keys other than `k`: key `k` is present before / after the change as `old` / `new` say, its array becomes
    `a'` (the empty array when `k` is absent afterwards), every other array stays -/
theorem MM.Inv.change {m : MM σ} (hI : MM.Inv K L mf m) {k : Nat} {rest : List Nat} (hk : k ∉ rest) (old new : Bool)
    (ho : (K.keys m.km).Perm (if old then k :: rest else rest))
    {km' : σ} (hkm : L.Inv km') (hn : (K.keys km').Perm (if new then k :: rest else rest))
    {arrs' : List (Nat × VArr)} {a' : VArr} (c' : Nat)
    (hget : ∀ k', getArr arrs' k' = if k' = k then a' else getArr m.arrs k') (hw : a'.WF mf)
    (ha : new = false → a' = VArr.empty)
    (hc : c' + (getArr m.arrs k).bounds.length = m.count + a'.bounds.length) :
    MM.Inv K L mf ⟨km', arrs', c'⟩ ∧
    MM.abs K ⟨km', arrs', c'⟩ = AMap.alter (MM.abs K m) k (if new then some a'.bounds else none) := by
  have memo : ∀ k', k' ∈ K.keys m.km ↔ (k' = k ∧ old = true) ∨ k' ∈ rest := by
    intro k'; rw [ho.mem_iff]; cases old <;> simp
  have memn : ∀ k', k' ∈ K.keys km' ↔ (k' = k ∧ new = true) ∨ k' ∈ rest := by
    intro k'; rw [hn.mem_iff]; cases new <;> simp
  have hrest : ∀ k', k' ∈ rest → k' ≠ k := fun k' h e => hk (e ▸ h)
  refine ⟨⟨hkm, ?_, ?_, ?_⟩, ?_⟩
  · intro k'; show (getArr arrs' k').WF mf
    rw [hget]; split
    · exact hw
    · exact hI.wf k'
  · intro k' hk'
    show getArr arrs' k' = VArr.empty
    have hk'' : k' ∉ K.keys km' := hk'
    rw [memn, not_or] at hk''
    rw [hget]
    by_cases e : k' = k
    · rw [if_pos e]
      cases new with
      | false => exact ha rfl
      | true => exact absurd ⟨e, rfl⟩ hk''.1
    · rw [if_neg e]
      exact hI.absent k' (fun h => ((memo k').mp h).elim (fun h => e h.1) hk''.2)
  · show c' = ((K.keys km').map (fun k' => (getArr arrs' k').bounds.length)).sum
    have hS : (rest.map fun k' => (getArr arrs' k').bounds.length).sum = (rest.map fun k' => (getArr m.arrs k').bounds.length).sum :=
      congrArg List.sum (List.map_congr_left fun k' h => by rw [hget, if_neg (hrest k' h)])
    -- a key that is absent has the empty array, so both totals are "array of `k` plus the rest"
    have h1 : m.count = (getArr m.arrs k).bounds.length + (rest.map (fun k' => (getArr m.arrs k').bounds.length)).sum := by
      rw [hI.total, (ho.map _).sum_nat]
      cases old with
      | true => rfl
      | false => rw [hI.absent k (fun h => ((memo k).mp h).elim (fun h => nomatch h.2) hk)]; exact (Nat.zero_add _).symm
    rw [(hn.map _).sum_nat]
    cases new with
    | true => simp only [if_true, List.map_cons, List.sum_cons, hget k, hS]; omega
    | false => rw [ha rfl] at hc; simp only [Bool.false_eq_true, if_false, hS]; change _ = _ + 0 at hc; omega
  · funext k'
    simp only [AMap.alter, MM.abs, memn, memo]
    by_cases e : k' = k
    · subst e; cases new <;> simp [hk, hget]
    · simp [e, hget]

theorem MM.Inv.upd {m : MM σ} (hI : MM.Inv K L mf m) {k : Nat} (hk : k ∈ K.keys m.km) {arrs' : List (Nat × VArr)}
    {a' : VArr} (c' : Nat) (hget : ∀ k', getArr arrs' k' = if k' = k then a' else getArr m.arrs k') (hw : a'.WF mf)
    (hc : c' + (getArr m.arrs k).bounds.length = m.count + a'.bounds.length) :
    MM.Inv K L mf ⟨m.km, arrs', c'⟩ ∧ MM.abs K ⟨m.km, arrs', c'⟩ = AMap.alter (MM.abs K m) k (some a'.bounds) :=
  have ⟨_, hr, hp⟩ := hI.split_key hk
  hI.change hr true true hp hI.km hp c' hget hw nofun hc

/-- an operation that finds its key absent, or leaves the array of a present key as it is, changes nothing -/
theorem MM.abs_alter_self (m : MM σ) (k : Nat) : MM.abs K m = AMap.alter (MM.abs K m) k (MM.abs K m k) :=
  (AMap.alter_self _ k).symm

end

/-! The five per-key operations are `AMap.alter A k _` written out (equal by `rfl`; the `_spec` proofs below close with that `rfl` after
  `Inv.change` has produced the `alter` form). -/

def AMap.add (A : AMap) (k v : Nat) : AMap := fun k' => if k' = k then some ((A k).getD [] ++ [v]) else A k'
def AMap.insertKey (A : AMap) (k : Nat) : AMap := fun k' => if k' = k then some ((A k).getD []) else A k'
def AMap.removeValue (A : AMap) (k i : Nat) : AMap :=
  fun k' => if k' = k then (A k).map (fun l => swapRemove l i) else A k'
def AMap.removeValues (A : AMap) (k : Nat) : AMap := fun k' => if k' = k then (A k).map (fun _ => []) else A k'
def AMap.removeKey (A : AMap) (k : Nat) : AMap := fun k' => if k' = k then none else A k'
def AMap.removeIf (A : AMap) (p : Nat → Nat → Bool) : AMap :=
  fun k' => (A k').map (fun l => swapFilter (p k') l.length l 0)

section
variable {σ : Type} (K : KeyMap σ) (L : K.Lawful) (mf : Nat)

theorem MM.add_spec (h1 : 1 ≤ mf) (hmf : mf < Extracted.abMaxFastLimit) (m : MM σ) (hI : MM.Inv K L mf m)
    (k tg v : Nat) (f : HT.Faults) (fv : Bool) (hF : L.FOK f) :
    MM.Inv K L mf (MM.add K mf m k tg v f fv).1 ∧
    MM.abs K (MM.add K mf m k tg v f fv).1 =
      (if (MM.add K mf m k tg v f fv).2 = .ok then AMap.add (MM.abs K m) k v else MM.abs K m) := by
  unfold MM.add
  rcases L.has_cases hI.km k with ⟨hh, hk⟩ | ⟨hh, hk⟩
  · rw [if_pos hh]
    cases fv with
    | true => rw [if_pos rfl]; exact ⟨hI, (if_neg nofun).symm⟩
    | false =>
      rw [if_neg Bool.false_ne_true]
      obtain ⟨hw, hb⟩ := VArr.addBack_spec h1 hmf (hI.wf k) v
      obtain ⟨i1, i2⟩ := hI.upd hk (m.count + 1) (getArr_setArr _ _ _) hw
        (by rw [hb, List.length_append]; exact Nat.add_right_comm ..)
      exact ⟨i1, i2.trans (by rw [hb, if_pos rfl]; unfold AMap.add; rw [MM.abs_of_mem K hk]; rfl)⟩
  · rw [if_neg (by rw [hh]; nofun)]
    by_cases hok : (K.add m.km k tg f).2 = .ok
    · rw [if_pos hok]
      obtain ⟨a1, a2⟩ := L.add_ok m.km k tg f hI.km hF hh hok
      obtain ⟨hw, hb⟩ := VArr.addBack_spec h1 hmf (VArr.empty_wf mf) v
      obtain ⟨i1, i2⟩ := hI.change hk false true (.refl _) a1 a2 (m.count + 1) (getArr_setArr _ _ _)
        hw nofun (by rw [hI.absent k hk, hb]; rfl)
      exact ⟨i1, i2.trans (by rw [hb, if_pos rfl]; unfold AMap.add; rw [MM.abs_of_not_mem K hk]; rfl)⟩
    · rw [if_neg hok, L.add_fail m.km k tg f hok]
      exact ⟨hI, (if_neg hok).symm⟩

theorem MM.insertKey_spec (m : MM σ) (hI : MM.Inv K L mf m) (k tg : Nat) (f : HT.Faults) (hF : L.FOK f) :
    MM.Inv K L mf (MM.insertKey K m k tg f).1 ∧
    MM.abs K (MM.insertKey K m k tg f).1 =
      (if (MM.insertKey K m k tg f).2.1 = .ok then AMap.insertKey (MM.abs K m) k else MM.abs K m) ∧
    ((MM.insertKey K m k tg f).2.2 = true ↔ ((MM.insertKey K m k tg f).2.1 = .ok ∧ MM.abs K m k = none)) := by
  unfold MM.insertKey
  rcases L.has_cases hI.km k with ⟨hh, hk⟩ | ⟨hh, hk⟩
  · rw [if_pos hh]
    refine ⟨hI, (MM.abs_alter_self m k).trans ?_, by simp [MM.abs_of_mem K hk]⟩
    rw [if_pos rfl]; unfold AMap.insertKey; rw [MM.abs_of_mem K hk]; rfl
  · rw [if_neg (by rw [hh]; nofun)]
    by_cases hok : (K.add m.km k tg f).2 = .ok
    · rw [if_pos hok]
      obtain ⟨a1, a2⟩ := L.add_ok m.km k tg f hI.km hF hh hok
      obtain ⟨i1, i2⟩ := hI.change hk false true (.refl _) a1 a2 m.count (getArr_delArr _ _)
        (VArr.empty_wf mf) nofun (by rw [hI.absent k hk])
      refine ⟨i1, i2.trans ?_, by simp [MM.abs_of_not_mem K hk]⟩
      rw [if_pos rfl]; unfold AMap.insertKey; rw [MM.abs_of_not_mem K hk]; rfl
    · rw [if_neg hok, L.add_fail m.km k tg f hok]
      exact ⟨hI, (if_neg hok).symm, by simp [hok]⟩

/-- outside its precondition (`MOMO_CHECK`) `Remove(keyIter, valueIndex)` does nothing; inside: `removeValue_spec` -/
theorem MM.removeValue_of_not {m : MM σ} {k i : Nat} (sf : Bool) (h : ¬ (K.has m.km k = true ∧ i < (getArr m.arrs k).count)) :
    MM.removeValue K m k i sf = m := if_neg h

theorem MM.removeValue_spec (hmf : mf < Extracted.abMaxFastLimit) (m : MM σ) (hI : MM.Inv K L mf m)
    (k i : Nat) (sf : Bool) (hk : k ∈ K.keys m.km) (hi : i < (getArr m.arrs k).bounds.length) :
    MM.Inv K L mf (MM.removeValue K m k i sf) ∧
    MM.abs K (MM.removeValue K m k i sf) = AMap.removeValue (MM.abs K m) k i ∧
    (MM.removeValue K m k i sf).count + 1 = m.count := by
  unfold MM.removeValue
  rw [if_pos ⟨(L.has_iff _ k hI.km).mpr hk, hI.count_eq hmf k ▸ hi⟩]
  obtain ⟨hw, hb⟩ := VArr.removeAt_spec hmf (hI.wf k) i sf
  obtain ⟨i1, i2⟩ := hI.upd hk (m.count - 1) (getArr_setArr _ _ _) hw
    (by rw [hb]; exact count_sub (hI.le_count hk) (swapRemove_length hi))
  refine ⟨i1, i2.trans ?_, Nat.sub_add_cancel (Nat.le_trans (Nat.zero_lt_of_lt hi) (hI.le_count hk))⟩
  rw [hb]; unfold AMap.removeValue; rw [MM.abs_of_mem K hk]; rfl

theorem MM.removeValues_spec (hmf : mf < Extracted.abMaxFastLimit) (m : MM σ) (hI : MM.Inv K L mf m) (k : Nat) :
    MM.Inv K L mf (MM.removeValues K m k) ∧
    MM.abs K (MM.removeValues K m k) = AMap.removeValues (MM.abs K m) k := by
  unfold MM.removeValues
  rcases L.has_cases hI.km k with ⟨hh, hk⟩ | ⟨hh, hk⟩
  · rw [if_pos hh]
    obtain ⟨i1, i2⟩ := hI.upd hk (m.count - (getArr m.arrs k).count) (getArr_delArr _ _) (VArr.empty_wf mf)
      (by rw [hI.count_eq hmf k]; exact count_sub (hI.le_count hk) (Nat.zero_add _))
    exact ⟨i1, i2.trans (by unfold AMap.removeValues; rw [MM.abs_of_mem K hk]; rfl)⟩
  · rw [if_neg (by rw [hh]; nofun)]
    exact ⟨hI, (MM.abs_alter_self m k).trans (by unfold AMap.removeValues; rw [MM.abs_of_not_mem K hk]; rfl)⟩

theorem MM.removeKey_spec (hmf : mf < Extracted.abMaxFastLimit) (m : MM σ) (hI : MM.Inv K L mf m) (k : Nat) :
    MM.Inv K L mf (MM.removeKey K m k).1 ∧
    MM.abs K (MM.removeKey K m k).1 = AMap.removeKey (MM.abs K m) k ∧
    (MM.removeKey K m k).2 = (MM.vals K m k).length ∧
    (MM.removeKey K m k).1.count + (MM.removeKey K m k).2 = m.count := by
  unfold MM.removeKey
  rcases L.has_cases hI.km k with ⟨hh, hk⟩ | ⟨hh, hk⟩
  · rw [if_pos hh, hI.count_eq hmf k]
    obtain ⟨d1, d2⟩ := L.del_ok m.km k hI.km hh
    obtain ⟨i1, i2⟩ := hI.change (List.nodup_cons.mp (d2.nodup_iff.mpr (L.nodup _ hI.km))).1 true false d2.symm d1 (.refl _)
      _ (getArr_delArr _ _) (VArr.empty_wf mf) (fun _ => rfl) (Nat.sub_add_cancel (hI.le_count hk))
    exact ⟨i1, i2, by rw [MM.vals_of_mem K hk], Nat.sub_add_cancel (hI.le_count hk)⟩
  · rw [if_neg (by rw [hh]; nofun)]
    exact ⟨hI, (MM.abs_alter_self m k).trans (by rw [MM.abs_of_not_mem K hk]; rfl), by rw [MM.vals_of_not_mem K hk]; rfl, rfl⟩

theorem MM.removeKey_has (hmf : mf < Extracted.abMaxFastLimit) (m : MM σ) (hI : MM.Inv K L mf m) (k : Nat) :
    K.has (MM.removeKey K m k).1.km k = false := by
  obtain ⟨i1, i2, _⟩ := MM.removeKey_spec K L mf hmf m hI k
  rcases L.has_cases i1.km k with ⟨_, hk⟩ | ⟨hh, _⟩
  · have := MM.abs_of_mem K hk
    rw [i2, AMap.removeKey, if_pos rfl] at this
    cases this
  · exact hh

theorem MM.resetKey_spec (m : MM σ) (hI : MM.Inv K L mf m) (k tg : Nat) :
    MM.Inv K L mf (MM.resetKey K m k tg) ∧ MM.abs K (MM.resetKey K m k tg) = MM.abs K m := by
  unfold MM.resetKey
  split
  · obtain ⟨s1, s2⟩ := L.setTag_ok m.km k tg hI.km
    refine ⟨⟨s1, hI.wf, ?_, ?_⟩, ?_⟩
    · intro k' hk'; exact hI.absent k' (by rw [← s2]; exact hk')
    · show m.count = _; rw [s2]; exact hI.total
    · funext k'; simp only [MM.abs, s2]
  · exact ⟨hI, rfl⟩

theorem MM.clear_spec (m : MM σ) (hI : MM.Inv K L mf m) :
    MM.Inv K L mf (MM.clear K m) ∧ MM.abs K (MM.clear K m) = fun _ => none := by
  obtain ⟨c1, c2⟩ := L.clear_ok m.km hI.km
  refine ⟨⟨c1, fun _ => VArr.empty_wf mf, fun _ _ => rfl, ?_⟩, ?_⟩
  · show 0 = _; simp [MM.clear, c2]
  · funext k'; simp [MM.abs, MM.clear, c2]

/-- one key of `Remove(pairFilter)`. The fourth conjunct is `VArr.removeIf_spec` for this key's array with `count` rewritten to
    `bounds.length`: the form in which `removeIf_fold` carries the new value list along -/
theorem MM.removeIfKey_spec (hmf : mf < Extracted.abMaxFastLimit) (m : MM σ) (hI : MM.Inv K L mf m)
    (p : Nat → Nat → Bool) (k : Nat) (hk : k ∈ K.keys m.km) :
    MM.Inv K L mf (MM.removeIfKey p m k) ∧ (MM.removeIfKey p m k).km = m.km ∧
    (∀ k', getArr (MM.removeIfKey p m k).arrs k' =
        if k' = k then VArr.removeIf (p k) (getArr m.arrs k).count (getArr m.arrs k) 0 else getArr m.arrs k') ∧
    (VArr.removeIf (p k) (getArr m.arrs k).count (getArr m.arrs k) 0).bounds
        = swapFilter (p k) (getArr m.arrs k).bounds.length (getArr m.arrs k).bounds 0 ∧
    (MM.removeIfKey p m k).count + (getArr m.arrs k).bounds.countP (p k) = m.count := by
  have hcnt := hI.count_eq hmf k
  obtain ⟨hw, hb⟩ := VArr.removeIf_spec (p k) hmf (getArr m.arrs k).count (getArr m.arrs k) 0 (hI.wf k)
  have hcnt' : (VArr.removeIf (p k) (getArr m.arrs k).count (getArr m.arrs k) 0).count = _ :=
    (hw.count_eq hmf).trans (congrArg List.length (hw.bounds_eq hmf).symm)
  rw [hcnt] at hb
  have hlen := swapFilter_length (p k) (getArr m.arrs k).bounds
  rw [← hb] at hlen
  have hle := hI.le_count hk
  unfold MM.removeIfKey
  obtain ⟨i1, _⟩ := hI.upd hk
    (m.count - ((getArr m.arrs k).count - (VArr.removeIf (p k) (getArr m.arrs k).count (getArr m.arrs k) 0).count))
    (getArr_setArr _ _ _) hw (by rw [hcnt', hcnt]; exact (count_sub_sub hle hlen).1)
  refine ⟨i1, rfl, getArr_setArr _ _ _, hcnt ▸ hb, ?_⟩
  show m.count - _ + _ = m.count
  rw [hcnt', hcnt]
  exact (count_sub_sub hle hlen).2

theorem MM.removeIf_fold (hmf : mf < Extracted.abMaxFastLimit) (p : Nat → Nat → Bool) :
    ∀ (ks : List Nat) (m : MM σ), MM.Inv K L mf m → ks.Nodup → (∀ k ∈ ks, k ∈ K.keys m.km) →
      MM.Inv K L mf (ks.foldl (MM.removeIfKey p) m) ∧ (ks.foldl (MM.removeIfKey p) m).km = m.km ∧
      (∀ k', (getArr (ks.foldl (MM.removeIfKey p) m).arrs k').bounds =
          if k' ∈ ks then swapFilter (p k') (getArr m.arrs k').bounds.length (getArr m.arrs k').bounds 0
          else (getArr m.arrs k').bounds) ∧
      (ks.foldl (MM.removeIfKey p) m).count + (ks.map (fun k => (getArr m.arrs k).bounds.countP (p k))).sum = m.count := by
  intro ks
  induction ks with
  | nil => intro m hI _ _; exact ⟨hI, rfl, fun _ => by simp, by simp⟩
  | cons k ks ih =>
    intro m hI hn hsub
    simp only [List.nodup_cons] at hn
    obtain ⟨s1, s2, s3, s4, s5⟩ := MM.removeIfKey_spec K L mf hmf m hI p k (hsub k (by simp))
    obtain ⟨f1, f2, f3, f4⟩ := ih (MM.removeIfKey p m k) s1 hn.2
      (fun k' hk' => by rw [s2]; exact hsub k' (by simp [hk']))
    simp only [List.foldl_cons]
    refine ⟨f1, by rw [f2, s2], ?_, ?_⟩
    · intro k'
      rw [f3 k', s3 k']
      by_cases e : k' = k
      · subst e; simp [hn.1, s4]
      · simp [e]
    · have : (ks.map (fun k' => (getArr (MM.removeIfKey p m k).arrs k').bounds.countP (p k')))
          = (ks.map (fun k' => (getArr m.arrs k').bounds.countP (p k'))) := by
        apply List.map_congr_left
        intro k' hk'
        have e : k' ≠ k := fun e => hn.1 (e ▸ hk')
        rw [s3 k', if_neg e]
      rw [this] at f4
      simp only [List.map_cons, List.sum_cons]
      omega

theorem MM.removeIf_spec (hmf : mf < Extracted.abMaxFastLimit) (m : MM σ) (hI : MM.Inv K L mf m)
    (p : Nat → Nat → Bool) :
    MM.Inv K L mf (MM.removeIf K m p).1 ∧
    MM.abs K (MM.removeIf K m p).1 = AMap.removeIf (MM.abs K m) p ∧
    (MM.removeIf K m p).2 = ((K.keys m.km).map (fun k => (getArr m.arrs k).bounds.countP (p k))).sum ∧
    (MM.removeIf K m p).1.count + (MM.removeIf K m p).2 = m.count := by
  obtain ⟨f1, f2, f3, f4⟩ := MM.removeIf_fold K L mf hmf p (K.keys m.km) m hI (L.nodup _ hI.km) (fun _ h => h)
  unfold MM.removeIf
  refine ⟨f1, ?_, by simp only; omega, by simp only; omega⟩
  funext k'
  simp only [AMap.removeIf, MM.abs, f2]
  by_cases hk : k' ∈ K.keys m.km
  · simp [hk, f3 k']
  · simp [hk]

theorem MM.copy_fold_none (src : MM σ) (ks : List Nat) :
    ks.foldl (MM.copyStep K mf src) none = none := by
  induction ks with
  | nil => rfl
  | cons k ks ih => simpa [MM.copyStep] using ih

/-- invariant of the copy constructor's loop: `d` is the copy after the keys `done` were inserted (its keys are `done`, its arrays the copies of
    the source's, all others empty; `count` was set to the source's before the loop) -/
structure MM.PartialCopy (src d : MM σ) (done : List Nat) : Prop where
  km : L.Inv d.km
  keys : (K.keys d.km).Perm done
  arrs : ∀ k, getArr d.arrs k = if k ∈ done then (getArr src.arrs k).copy mf else VArr.empty
  count : d.count = src.count

theorem MM.copy_fold (src : MM σ) : ∀ (ks : List Nat) (d : MM σ) (done : List Nat) (m' : MM σ),
    ks.foldl (MM.copyStep K mf src) (some d) = some m' →
    MM.PartialCopy K L mf src d done → (∀ k ∈ ks, k ∉ done) → ks.Nodup → MM.PartialCopy K L mf src m' (done ++ ks) := by
  intro ks
  induction ks with
  | nil => intro d done m' h hP _ _; cases h; rwa [List.append_nil]
  | cons k ks ih =>
    intro d done m' h hP hnot hn
    have hn := List.nodup_cons.mp hn
    have hkd : k ∉ done := hnot k (List.mem_cons_self ..)
    rcases L.has_cases hP.km k with ⟨_, hk⟩ | ⟨hh, _⟩
    · exact absurd (hP.keys.mem_iff.mp hk) hkd
    simp only [List.foldl_cons, MM.copyStep, hh, Bool.false_eq_true, if_false] at h
    by_cases hok : (K.add d.km k (K.tag src.km k) {}).2 = .ok
    · rw [if_pos hok] at h
      obtain ⟨a1, a2⟩ := L.add_ok d.km k (K.tag src.km k) {} hP.km L.fok_default hh hok
      rw [List.append_cons]
      refine ih _ (done ++ [k]) m' h
        ⟨a1, a2.trans ((hP.keys.cons k).trans (List.perm_append_singleton k done).symm), fun k' => ?_, hP.count⟩
        (fun k' hk' hmem => ?_) hn.2
      · show getArr (setArr d.arrs k _) k' = _
        rw [getArr_setArr, hP.arrs k']
        by_cases e : k' = k
        · subst e; simp
        · simp [e]
      · rcases List.mem_append.mp hmem with e | e
        · exact hnot k' (List.mem_cons_of_mem _ hk') e
        · exact hn.1 (List.mem_singleton.mp e ▸ hk')
    · rw [if_neg hok, MM.copy_fold_none] at h
      cases h

theorem MM.copy_spec (hmf : mf < Extracted.abMaxFastLimit) (m m' : MM σ) (hI : MM.Inv K L mf m)
    (h : MM.copy K mf m = some m') :
    MM.Inv K L mf m' ∧ MM.abs K m' = MM.abs K m ∧ m'.count = m.count := by
  unfold MM.copy at h
  obtain ⟨r1, r2⟩ := L.reserve_ok K.empty (K.keys m.km).length L.inv_empty
  rw [L.keys_empty] at r2
  have hPC := MM.copy_fold K L mf m (K.keys m.km) _ [] m' h ⟨r1, r2, fun k => by simp, rfl⟩ (fun _ _ => List.not_mem_nil)
    (L.nodup _ hI.km)
  rw [List.nil_append] at hPC
  have hb : ∀ k, (getArr m'.arrs k).bounds = (getArr m.arrs k).bounds := by
    intro k
    rw [hPC.arrs k]
    by_cases hk : k ∈ K.keys m.km
    · rw [if_pos hk]; exact (VArr.copy_spec hmf).2
    · rw [if_neg hk, hI.absent k hk]
  refine ⟨⟨hPC.km, ?_, ?_, ?_⟩, ?_, hPC.count⟩
  · intro k
    rw [hPC.arrs k]; split
    · exact (VArr.copy_spec hmf).1
    · exact VArr.empty_wf mf
  · intro k hk
    rw [hPC.arrs k, if_neg (fun e => hk (hPC.keys.mem_iff.mpr e))]
  · rw [hPC.count, hI.total, ← (hPC.keys.map _).sum_nat]
    congr 1
    exact List.map_congr_left (fun k _ => (hb k).symm ▸ rfl)
  · funext k
    simp only [MM.abs, hPC.keys.mem_iff, hb]

end

end Momo.MMap
