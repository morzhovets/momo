import Momo.Translated.OpenBytes
import Momo.Proof.Word64
import Momo.Proof.OpenBytesHT
/-!
  C13 / C01: the byte-level functions of `BucketOpenN1` / `BucketOpen8` as translated from the headers (`Momo.Tr.openN1_*`,
  `Momo.Tr.open8_*`, Momo/Translated/OpenBytes.lean, regenerated by tools/translate.py on every check) compute the model functions of
  Momo/Model/OpenBytes.lean; a changed function body makes an equality below fail to elaborate.
  Hypotheses (all true in the C++): `0 < maxCount`, the source's own assertions (`count < maxCount` for AddCrt,
  `index < count` for Remove), 8-byte words `< 2^64`.
-/
namespace Momo.TrEq
open Momo Momo.Seg Momo.OpenB

theorem ob_upd_eq (a : Nat → Nat) (i v : Nat) : Tr.upd a i v = OpenB.upd a i v := rfl

theorem tr_ob_calcShortHash (h : Nat) : Tr.openN1_ptCalcShortHash h = calcShortHash h := by
  unfold Tr.openN1_ptCalcShortHash calcShortHash u8
  simp only [Seg.w32_eq, (by decide : Seg.sub64 (Seg.mul64 8 8) 24 = 40), emptyShortHash, Extracted.openN1ShortHashBits, Extracted.openN1ShortHashShift]

theorem tr_ob_stateIndex (b : Bucket) (h0 : 0 < b.maxCount) :
    Tr.openN1_stateIndex b.reverse b.maxCount = b.stateIdx := by
  unfold Tr.openN1_stateIndex Bucket.stateIdx
  rw [sub64_of_le h0]

theorem tr_ob_itemIndex (mc : Nat) (rev : Bool) (i : Nat) (hi : i < mc) :
    Tr.openN1_itemIndex rev mc i = phys mc rev i := by
  unfold Tr.openN1_itemIndex phys
  rw [sub64_sub64 (Nat.add_comm 1 i ▸ hi)]

theorem tr_ob_shortHashIndex (b : Bucket) (i : Nat) (hi : i < b.maxCount) :
    Tr.openN1_shortHashIndex b.reverse b.maxCount i = b.pos i := tr_ob_itemIndex b.maxCount b.reverse i hi

theorem tr_ob_getState (b : Bucket) (h0 : 0 < b.maxCount) :
    Tr.openN1_pvGetState b.data b.reverse b.maxCount = b.state := congrArg b.data (tr_ob_stateIndex b h0)

theorem tr_ob_getCount (b : Bucket) (h0 : 0 < b.maxCount) :
    Tr.openN1_pvGetCount b.data b.reverse b.maxCount = b.count := by
  unfold Tr.openN1_pvGetCount Bucket.count
  simp only [tr_ob_getState b h0, decide_eq_true_eq]
  split
  · exact sub64_of_le ‹_›
  · rfl

theorem tr_ob_isFull (b : Bucket) (h0 : 0 < b.maxCount) :
    Tr.openN1_IsFull b.data b.reverse b.maxCount = b.isFull := by
  unfold Tr.openN1_IsFull Bucket.isFull
  rw [tr_ob_getState b h0]

theorem tr_ob_wasFull (b : Bucket) : Tr.openN1_WasFull = b.wasFull := rfl

theorem tr_ob_addCrt (b : Bucket) (h : Nat) (h0 : 0 < b.maxCount) (hc : b.count < b.maxCount) (hm : b.maxCount < 2 ^ 64) :
    Tr.openN1_AddCrt b.data b.reverse b.maxCount h = (b.addCrt h).data := by
  show _ = b.addBytes h
  unfold Tr.openN1_AddCrt Bucket.addBytes
  simp only [tr_ob_getCount b h0, tr_ob_stateIndex b h0, tr_ob_shortHashIndex b _ hc, tr_ob_calcShortHash, ob_upd_eq, u8]
  rw [add64_of_lt (Nat.lt_of_le_of_lt hc hm)]
  by_cases c : b.count + 1 < b.maxCount
  · simp only [decide_eq_true c, if_true, if_pos c]
  · simp only [decide_eq_false c, if_neg c]
    rfl

theorem tr_ob_remove (b : Bucket) (index : Nat) (h0 : 0 < b.maxCount) (hi : index < b.count) (hc : b.count ≤ b.maxCount) :
    Tr.openN1_Remove b.data b.reverse b.maxCount index = (b.remove index).data := by
  show _ = b.removeBytes index
  unfold Tr.openN1_Remove Bucket.removeBytes Bucket.compact
  have hs : sub64 b.count 1 = b.count - 1 := sub64_of_le (Nat.lt_of_le_of_lt (Nat.zero_le _) hi)
  simp only [tr_ob_getCount b h0, tr_ob_stateIndex b h0, hs, tr_ob_shortHashIndex b index (Nat.lt_of_lt_of_le hi hc),
    tr_ob_shortHashIndex b (b.count - 1) (by omega), ob_upd_eq, u8, emptyShortHash]
  by_cases c : b.count < b.maxCount
  · simp only [decide_eq_true c, if_true, if_pos c, dec_byte]
  · simp only [decide_eq_false c, if_neg c, Bool.false_eq_true, if_false]
    congr 1
    exact dec_byte_pos (Extracted.openN1EmptyShortHash + b.maxCount % 256) (Nat.add_pos_left (by decide) _)

theorem tr_ob_candidate (d : Nat → Nat) (i sh : Nat) : Tr.openN1_Find_candidate d i sh = (d i == sh) :=
  (beq_eq_decide _ _).symm

theorem tr_ob_swarMask (sh w : Nat) (hw : w < 2 ^ 64) : Tr.open8_swarMask sh w = swarMask sh w := by
  have hx : mul64 sh 72340172838076673 ^^^ w < 2 ^ 64 := by
    unfold mul64; rw [Seg.w64_eq]; exact Nat.xor_lt_two_pow (Nat.mod_lt _ (by decide)) hw
  unfold Tr.open8_swarMask Tr.not64
  dsimp only
  rw [sub64_eq_mod _ hx, Nat.mod_eq_of_lt (show _ < 18446744073709551616 from hx)]
  unfold mul64; rw [Seg.w64_eq]; rfl

theorem ob_ctz_le : ∀ (fuel m : Nat), ctz fuel m ≤ fuel
  | 0, _ => Nat.le_refl _
  | fuel+1, m => by
    unfold ctz
    split
    · omega
    · have := ob_ctz_le fuel (m / 2); omega

theorem tr_ob_swarIndex (mask : Nat) : Tr.open8_swarIndex mask = ctz 64 mask >>> Extracted.open8SwarIndexShift := by
  unfold Tr.open8_swarIndex
  rw [Seg.w64_of_lt (Nat.lt_of_le_of_lt (ob_ctz_le 64 mask) (by decide))]

theorem tr_ob_swarNext (mask : Nat) (h : mask ≠ 0) : Tr.open8_swarNext mask = mask &&& (mask - 1) := by
  unfold Tr.open8_swarNext
  rw [sub64_of_le (Nat.pos_of_ne_zero h)]

theorem tr_ob_swarContinue (mask : Nat) : Tr.open8_swarContinue mask = !(mask == 0) := by
  unfold Tr.open8_swarContinue
  by_cases h : mask = 0 <;> simp [h]

/-- the candidate loop of `BucketOpen8::Find` (`#else` branch) assembled from the TRANSLATED statements: loop test, lane index,
    predicate call, loop step -/
def trSwarLoop (pred : Nat → Bool) : Nat → Nat → Option Nat
  | 0, _ => none
  | fuel+1, mask =>
    if Tr.open8_swarContinue mask then
      if pred (Tr.open8_swarIndex mask) then some (Tr.open8_swarIndex mask)
      else trSwarLoop pred fuel (Tr.open8_swarNext mask)
    else none

/-- `BucketOpen8::Find` without SSE2 over the translated statements: short hash, 8-byte load, mask, loop -/
def trFind8swar (data : Nat → Nat) (h : Nat) (pred : Nat → Bool) : Option Nat :=
  trSwarLoop pred 64 (Tr.open8_swarMask (Tr.openN1_ptCalcShortHash h) (word8 data))

theorem trSwarLoop_eq (pred : Nat → Bool) : ∀ fuel mask, trSwarLoop pred fuel mask = swarLoop pred fuel mask := by
  intro fuel
  induction fuel with
  | zero => intro mask; rfl
  | succ n ih =>
    intro mask
    unfold trSwarLoop swarLoop
    rw [tr_ob_swarContinue, tr_ob_swarIndex]
    by_cases h : mask = 0
    · simp [h]
    · rw [tr_ob_swarNext mask h, ih]
      simp [h]

theorem ob_cons_byte_lt {a r : Nat} (k : Nat) (ha : a < 256) (hr : r < 2 ^ k) : a + 256 * r < 2 ^ (k + 8) := by
  rw [Nat.pow_add]; omega

theorem ob_word8_lt (d : Nat → Nat) (hd : ∀ j, j < 8 → d j < 256) : word8 d < 2 ^ 64 :=
  ob_cons_byte_lt 56 (hd 0 (by decide)) <| ob_cons_byte_lt 48 (hd 1 (by decide)) <| ob_cons_byte_lt 40 (hd 2 (by decide)) <|
  ob_cons_byte_lt 32 (hd 3 (by decide)) <| ob_cons_byte_lt 24 (hd 4 (by decide)) <| ob_cons_byte_lt 16 (hd 5 (by decide)) <|
  ob_cons_byte_lt 8 (hd 6 (by decide)) (hd 7 (by decide))

theorem trFind8swar_eq (b : Bucket) (h : Nat) (pred : Nat → Bool) (hd : ∀ j, j < 8 → b.data j < 256) :
    trFind8swar b.data h pred = b.find8swar h pred := by
  unfold trFind8swar Bucket.find8swar
  rw [trSwarLoop_eq, tr_ob_calcShortHash, tr_ob_swarMask _ _ (ob_word8_lt _ hd)]

/-- the translated function reads the model's table, at `uint32_t(mask - 1)` -/
theorem tr_ob_ctzTab15 (m : Nat) (h0 : 0 < m) (h : m < 2 ^ 32) : Tr.open8_ctz15_table m = ctzTab15 m := by
  have e : Seg.w32 (m + 4294967296 - 1) = m - 1 := by rw [Seg.w32_eq]; omega
  unfold Tr.open8_ctz15_table
  rw [e]; rfl

theorem tr_ob_ctz15_table : ∀ m, m < 128 → 0 < m → Tr.open8_ctz15_table m = ctz 32 m := fun m h1 h0 =>
  (tr_ob_ctzTab15 m h0 (Nat.lt_trans h1 (by decide))).trans (ctzTab15_eq m h1 h0)

def trObStep (rev : Bool) (mc : Nat) (d : Nat → Nat) : OpenB.Op → Nat → Nat
  | .add h => Tr.openN1_AddCrt d rev mc h
  | .rem index => Tr.openN1_Remove d rev mc index

theorem trObStep_eq (b : Bucket) (hs : List Nat) (op : OpenB.Op) (hI : b.Inv hs) (hop : op.legal b.maxCount hs) :
    trObStep b.reverse b.maxCount b.data op = (b.step op).data := by
  have hc := count_decode hI
  have h0 := hI.pos
  have h8 : b.maxCount < 2 ^ 64 := Nat.lt_trans hI.maxCount_lt (by decide)
  cases op with
  | add h => exact tr_ob_addCrt b h h0 (by rw [hc]; exact hop.1) h8
  | rem index => exact tr_ob_remove b index h0 (by rw [hc]; exact hop) (by rw [hc]; exact hI.length_le)

theorem trObRun_eq (ops : List OpenB.Op) : ∀ (b : Bucket) (hs : List Nat), b.Inv hs → legalHist b.maxCount hs ops →
    ops.foldl (trObStep b.reverse b.maxCount) b.data = (ops.foldl Bucket.step b).data := by
  induction ops with
  | nil => intro b hs _ _; rfl
  | cons op rest ih =>
    intro b hs hI hl
    simp only [List.foldl_cons]
    rw [trObStep_eq b hs op hI hl.1]
    have := ih (b.step op) (absStep hs op) (step_inv hI op hl.1) (by rw [step_maxCount]; exact hl.2)
    rw [step_maxCount, step_reverse] at this
    exact this

end Momo.TrEq
