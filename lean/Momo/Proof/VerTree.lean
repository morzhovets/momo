import Momo.Proof.VerHash
/-!
  TreeSet / TreeMap (C15), laid out as `VerHash`.  What iterators depend on here is (keys, root node, node params).
  One route differs: an entry point may take two iterators (`Remove(begin, end)`), and `Add` / `Remove(begin, end)` skip the version
  check on a tree without root node, so in place of `HWorld.vcheck_eq` there are the two directions `checked_of_accepted` (an accepted
  call checked every iterator that has a node) and `vcheck_of_checked`.
-/
namespace Momo.Ver

/-- what iterators of a tree depend on: the sorted keys and the presence of root node / node params -/
def TSet.shapeOf (s : TSet) : List Nat × Bool × Bool := (s.keys, s.root, s.params)

def TEff (q : Prop) (cs : Cells) (s : TSet) (cs' : Cells) (s' : TSet) : Prop := SEff TSet.cell TSet.shapeOf q cs s cs' s'

theorem shape_ne_of_len {s s' : TSet} (h : s'.keys.length ≠ s.keys.length) : s'.shapeOf ≠ s.shapeOf :=
  fun e => h (congrArg (fun p => p.1.length) e)

theorem length_insertAt (keys : List Nat) (i k : Nat) : (insertAt keys i k).length = keys.length + 1 := by
  rw [insertAt, List.length_append, List.length_cons, ← Nat.add_assoc, ← List.length_append, List.take_append_drop]

theorem upperIdx_le (keys : List Nat) (k : Nat) : upperIdx keys k ≤ keys.length := List.length_filter_le _ _

theorem lowerIdx_le_upperIdx (keys : List Nat) (k : Nat) : lowerIdx keys k ≤ upperIdx keys k := by
  unfold lowerIdx upperIdx
  rw [← List.countP_eq_length_filter, ← List.countP_eq_length_filter]
  exact List.countP_mono_left fun x _ h => decide_eq_true (Nat.le_of_lt (of_decide_eq_true h))

theorem lowerIdx_lt_of_mem {keys : List Nat} {k : Nat} (h : k ∈ keys) : lowerIdx keys k < upperIdx keys k := by
  induction keys with
  | nil => exact nomatch h
  | cons x xs ih =>
    unfold lowerIdx upperIdx
    rw [List.filter_cons, List.filter_cons]
    rcases List.mem_cons.mp h with rfl | h'
    · rw [if_neg (fun h => Nat.lt_irrefl _ (of_decide_eq_true h)), if_pos (decide_eq_true (Nat.le_refl _))]
      exact Nat.lt_succ_of_le (lowerIdx_le_upperIdx xs _)
    · have := ih h'
      by_cases h1 : x < k
      · rw [if_pos (decide_eq_true h1), if_pos (decide_eq_true (Nat.le_of_lt h1))]
        exact Nat.succ_lt_succ this
      · rw [if_neg (fun h => h1 (of_decide_eq_true h))]
        by_cases h2 : x ≤ k
        · rw [if_pos (decide_eq_true h2)]
          exact Nat.lt_succ_of_lt this
        · rw [if_neg (fun h => h2 (of_decide_eq_true h))]
          exact this

namespace TSet

theorem addAt_eff {q : Prop} (s : TSet) (cs : Cells) (i k : Nat) : TEff q cs s (s.addAt cs i k).1 (s.addAt cs i k).2.1 :=
  SEff.one rfl fun _ => shape_ne_of_len (by rw [addAt, length_insertAt]; exact Nat.succ_ne_self _)

theorem insert_eff {q : Prop} (s : TSet) (cs : Cells) (k : Nat) : TEff q cs s (s.insert cs k).1 (s.insert cs k).2.1 := by
  unfold insert
  split
  · exact SEff.refl cs s
  · exact addAt_eff s cs _ k

theorem insertExt_eff {q : Prop} {s : TSet} {cs : Cells} {ef : Bool} {k : Nat} {r} (hr : s.insertExt cs ef k = some r) :
    TEff q cs s r.1 r.2.1 := by
  obtain ⟨-, hr⟩ := chk_bind hr
  cases hr
  exact insert_eff s cs k

theorem add_eff {q : Prop} {s : TSet} {cs : Cells} {h : TIt} {k : Nat} {r} (hr : s.add cs h k = some r) : TEff q cs s r.1 r.2.1 := by
  unfold add at hr
  split at hr
  · obtain ⟨-, hr⟩ := chk_bind hr
    cases hr
    exact addAt_eff s cs 0 k
  · obtain ⟨-, hr⟩ := chk_bind hr
    obtain ⟨i, -, hr⟩ := Option.bind_eq_some_iff.mp hr
    cases hr
    exact addAt_eff s cs i k

theorem addExt_eff {q : Prop} {s : TSet} {cs : Cells} {h : TIt} {ef : Bool} {k : Nat} {r} (hr : s.addExt cs h ef k = some r) :
    TEff q cs s r.1 r.2.1 := by
  obtain ⟨-, hr⟩ := chk_bind hr
  obtain ⟨-, hr⟩ := chk_bind hr
  obtain ⟨i, -, hr⟩ := Option.bind_eq_some_iff.mp hr
  obtain ⟨-, hr⟩ := chk_bind hr
  cases hr
  exact addAt_eff s cs i k

/-- removing the element at a valid position `i < count` changes the key list, so this holds for every `q` that guarantees `hi` -/
theorem removeAt_eff {q : Prop} (s : TSet) (cs : Cells) (i : Nat) (hi : q → i < s.keys.length) :
    TEff q cs s (s.removeAt cs i).1 (s.removeAt cs i).2.1 := by
  refine SEff.one rfl fun hq => shape_ne_of_len ?_
  have := hi hq
  simp only [removeAt, List.length_eraseIdx, this, ↓reduceIte]
  omega

/-- `Remove(iter)` is not claimed quiet: an accepted position is only known not to be the end position, not to be `< count`, which
    `removeAt_eff` would need -/
theorem remove_eff {s : TSet} {cs : Cells} {h : TIt} {r} (hr : s.remove cs h = some r) : TEff False cs s r.1 r.2.1 := by
  obtain ⟨-, hr⟩ := chk_bind hr
  obtain ⟨-, hr⟩ := chk_bind hr
  obtain ⟨i, -, hr⟩ := Option.bind_eq_some_iff.mp hr
  cases hr
  exact removeAt_eff s cs i fun hq => hq.elim

theorem removeExt_eff {s : TSet} {cs : Cells} {h : TIt} {ef : Bool} {r} (hr : s.removeExt cs h ef = some r) :
    TEff False cs s r.1 r.2.1 :=
  remove_eff (chk_bind hr).2

theorem clear_eff {q : Prop} (s : TSet) (cs : Cells) : TEff q cs s (s.clear cs).1 (s.clear cs).2 := by
  unfold clear
  split
  · exact SEff.refl cs s
  · next h =>
    refine SEff.one rfl fun _ e => h ?_
    have hp : false = s.params := congrArg (fun p => p.2.2) e
    rw [← hp]; rfl

theorem removeSpan_eff {q : Prop} (s : TSet) (cs : Cells) (i j : Nat) (e : TIt) (hj : j ≤ s.keys.length) :
    TEff q cs s (s.removeSpan cs i j e).1 (s.removeSpan cs i j e).2.1 := by
  unfold removeSpan
  split
  · exact SEff.refl cs s
  · split
    · exact clear_eff s cs
    · next h0 _ =>
      refine SEff.one rfl fun _ => shape_ne_of_len ?_
      have h0' : j - i ≠ 0 := fun e => h0 (beq_iff_eq.mpr e)
      rw [List.length_append, List.length_take, List.length_drop]
      omega

theorem removeRange_eff {q : Prop} {s : TSet} {cs : Cells} {b e : TIt} {r} (hr : s.removeRange cs b e = some r) :
    TEff q cs s r.1 r.2.1 := by
  unfold removeRange at hr
  split at hr
  · obtain ⟨-, hr⟩ := chk_bind hr
    cases hr
    exact SEff.refl cs s
  · obtain ⟨-, hr⟩ := chk_bind hr
    obtain ⟨-, hr⟩ := chk_bind hr
    obtain ⟨i, -, hr⟩ := Option.bind_eq_some_iff.mp hr
    obtain ⟨j, -, hr⟩ := Option.bind_eq_some_iff.mp hr
    obtain ⟨hij, hr⟩ := chk_bind hr
    cases hr
    exact removeSpan_eff s cs i j e (of_decide_eq_true (Bool.and_eq_true_iff.mp hij).2)

theorem removeKey_eff {q : Prop} (s : TSet) (cs : Cells) (k : Nat) : TEff q cs s (s.removeKey cs k).1 (s.removeKey cs k).2.1 := by
  unfold removeKey
  split
  · exact SEff.refl cs s
  · next hk =>
    have hm : k ∈ s.keys := by
      cases hc : s.keys.contains k with
      | true => exact List.contains_iff_mem.mp hc
      | false => exact absurd (by rw [hc]; rfl) hk
    split
    · exact removeAt_eff s cs _ fun _ => Nat.lt_of_lt_of_le (lowerIdx_lt_of_mem hm) (upperIdx_le _ _)
    · exact removeSpan_eff s cs _ _ _ (upperIdx_le _ _)

theorem removeIf_eff {q : Prop} (s : TSet) (cs : Cells) (m r : Nat) : TEff q cs s (s.removeIf cs m r).1 (s.removeIf cs m r).2.1 :=
  ⟨rfl, _, rfl, fun h0 => congrArg (·, s.root, s.params) (ListFacts.filter_length_eq_zero_iff.mp h0),
    fun _ h => ListFacts.filter_length_eq_zero_iff.mpr (congrArg Prod.fst h)⟩

theorem insertRange_eff {q : Prop} (ks : List Nat) (s : TSet) (cs : Cells) :
    TEff q cs s (s.insertRange cs ks).1 (s.insertRange cs ks).2 := by
  obtain ⟨n, hn, hc, hl, h0⟩ := foldl_counted TSet.cell (fun s => s.keys.length)
    (fun (acc : Cells × TSet) k => ((acc.2.insert acc.1 k).1, (acc.2.insert acc.1 k).2.1)) (fun cs s k => by
      show ∃ n, (s.insert cs k).1 = _ ∧ (s.insert cs k).2.1.cell = _ ∧ (s.insert cs k).2.1.keys.length = _ ∧
        (n = 0 → (s.insert cs k).2.1 = s)
      unfold insert
      split
      · exact ⟨0, (bumpN_zero _ _).symm, rfl, rfl, fun _ => rfl⟩
      · exact ⟨1, rfl, rfl, length_insertAt .., fun h => nomatch h⟩) ks cs s
  exact ⟨hc, n, hn, fun h => congrArg shapeOf (h0 h),
    fun _ h => Nat.add_left_cancel (n := s.keys.length) (hl.symm.trans (congrArg (fun p => p.1.length) h))⟩

theorem resetKey_cell {s : TSet} {cs : Cells} {h : TIt} {k : Nat} {s'} (hr : s.resetKey cs h k = some s') :
    s'.cell = s.cell := by
  obtain ⟨-, hr⟩ := chk_bind hr
  obtain ⟨-, hr⟩ := chk_bind hr
  obtain ⟨i, -, hr⟩ := Option.bind_eq_some_iff.mp hr
  cases hr
  rfl

theorem length_foldl_insSorted (moved : List Nat) : ∀ l : List Nat, (moved.foldl insSorted l).length = l.length + moved.length := by
  induction moved with
  | nil => intro l; rfl
  | cons x xs ih =>
    intro l
    rw [List.foldl_cons, ih, insSorted, length_insertAt, List.length_cons, Nat.add_assoc, Nat.add_comm 1]

theorem mergeTo_merged (cs : Cells) (src dst : TSet) : Merged TSet.cell TSet.keys cs src dst (TSet.mergeTo cs src dst) := by
  have ne : ∀ {l : List Nat}, ¬l.isEmpty = true → l ≠ [] := fun h e => h (List.isEmpty_iff.mpr e)
  -- the three ways in which the destination takes over all keys at once (empty destination, `pvMergeFast` before / behind)
  have fast : ∀ {src' dst' : TSet}, src'.cell = src.cell → dst'.cell = dst.cell → src.keys ≠ [] → src'.keys = [] →
      dst'.keys ≠ dst.keys → Merged TSet.cell TSet.keys cs src dst (bump (bump cs src.cell) dst.cell, src', dst') :=
    fun h1 h2 hs h3 h4 => Merged.some (n := 1) h1 h2 Nat.one_ne_zero (fun e => hs (e.symm.trans h3)) h4
  fun_cases TSet.mergeTo cs src dst
  case case1 | case5 => exact Merged.none
  case case2 hs hd => exact fast rfl rfl (ne hs) rfl fun e => ne hs (e.trans (List.isEmpty_iff.mp hd))
  case case3 hs _ _ => exact fast rfl rfl (ne hs) rfl fun e => ne hs (List.append_left_eq_self.mp e)
  case case4 hs _ _ _ => exact fast rfl rfl (ne hs) rfl fun e => ne hs (List.append_right_eq_self.mp e)
  case case6 hs _ _ _ hm =>
    have hpos : (movedKeys src.multi src.keys dst.keys).length ≠ 0 := fun h0 => ne hm (List.length_eq_zero_iff.mp h0)
    refine Merged.some rfl rfl hpos (fun h => hpos ?_) (fun h => hpos ?_)
    · unfold stayKeys at h
      unfold movedKeys
      split at h
      · exact absurd h.symm (ne hs)
      · next hmu =>
        rw [if_neg hmu]
        have := ListFacts.length_filter_add_length_filter_not (fun k => dst.keys.contains k) src.keys
        rw [show src.keys.filter (fun k => dst.keys.contains k) = src.keys from h] at this
        exact Nat.add_left_cancel this
    · have := congrArg List.length h
      rw [length_foldl_insSorted] at this
      exact Nat.add_left_cancel this

end TSet

/-- entry points for which "nothing changed" implies "no version increment" (all except `Remove(iter)`, see
    `TSet.remove_eff`, and `ResetKey`, as for `HOp.Quiet`) -/
def TOp.Quiet : TOp → Prop
  | .resetKey _ _ _ => False
  | .remove _ _ => False
  | .removeExt _ _ _ => False
  | _ => True

namespace TWorld

def WF (w : TWorld) : Prop := w.a.cell ≠ w.b.cell

/-- it is `owner2 w.a.cell w.b.cell w.a.shapeOf w.b.shapeOf` (`shape_eq`, as `HWorld.shape`) -/
def shape (w : TWorld) (c : Nat) : Option (List Nat × Bool × Bool) :=
  if w.a.cell = c then some w.a.shapeOf else if w.b.cell = c then some w.b.shapeOf else none

theorem shape_eq (w : TWorld) : w.shape = owner2 w.a.cell w.b.cell w.a.shapeOf w.b.shapeOf := rfl

def Out (q notReset : Prop) (w : TWorld) (x : TWorld × Option TRes) : Prop :=
  SetOutcome TSet.cell TSet.shapeOf q notReset w.cs w.a w.b x.1.cs x.1.a x.1.b x.2.isSome

theorem out_of_eff (w : TWorld) (o : Bool) {q notReset : Prop} {cs' : Cells} {s' : TSet} {r : TRes}
    (he : TEff q w.cs (w.obj o) cs' s') : Out q notReset w (w.setObj o cs' s', some r) := by
  cases o
  · exact .ofEff he
  · exact (SetOutcome.ofEff he).symm

theorem step_outcome (w : TWorld) (op : TOp) : Out op.Quiet (∀ o h k, op ≠ .resetKey o h k) w (w.step op) := by
  -- one case per branch of `TWorld.step`, numbered in its order; every branch not listed returns the world
  fun_cases TWorld.step w op
  case case10 o k r => exact out_of_eff w o (TSet.insert_eff ..)
  case case11 o ef k r hr => exact out_of_eff w o (TSet.insertExt_eff hr)
  case case13 o h k r hr => exact out_of_eff w o (TSet.add_eff hr)
  case case15 o h ef k r hr => exact out_of_eff w o (TSet.addExt_eff hr)
  case case17 o h r hr => exact out_of_eff w o (TSet.remove_eff hr)
  case case19 o h ef r hr => exact out_of_eff w o (TSet.removeExt_eff hr)
  case case21 o b e r hr => exact out_of_eff w o (TSet.removeRange_eff hr)
  case case23 o k r => exact out_of_eff w o (TSet.removeKey_eff ..)
  case case24 o m r x => exact out_of_eff w o (TSet.removeIf_eff ..)
  case case25 o h k s hs =>
    cases o
    · exact .reset (TSet.resetKey_cell hs) rfl fun hnr => hnr _ _ _ rfl
    · exact .reset rfl (TSet.resetKey_cell hs) fun hnr => hnr _ _ _ rfl
  case case27 o r => exact out_of_eff w o (TSet.clear_eff ..)
  case case28 o ks r => exact out_of_eff w o (TSet.insertRange_eff ..)
  case case29 => exact .swap
  case case30 o r =>
    cases o
    · exact .ofMerged (fun _ _ h => congrArg Prod.fst h) (TSet.mergeTo_merged w.cs w.a w.b)
    · exact (SetOutcome.ofMerged (fun _ _ h => congrArg Prod.fst h) (TSet.mergeTo_merged w.cs w.b w.a)).symm
  all_goals exact .same _

theorem step_facts (w : TWorld) (hw : w.WF) (op : TOp) :
    StepFacts TSet.cell TSet.shapeOf op.Quiet (∀ o h k, op ≠ .resetKey o h k) w.cs w.a w.b (w.step op).1.cs (w.step op).1.a (w.step op).1.b :=
  (step_outcome w op).facts hw

theorem step_moved (w : TWorld) (hw : w.WF) (op : TOp) (hnr : ∀ o h k, op ≠ .resetKey o h k) :
    Moved op.Quiet w.cs (w.step op).1.cs w.shape (w.step op).1.shape := by
  rw [shape_eq, shape_eq]; exact (step_facts w hw op).moved hnr

theorem step_reject_unchanged (w : TWorld) (op : TOp) (h : (w.step op).2 = none) : (w.step op).1 = w := by
  have ho := step_outcome w op
  generalize w.step op = x at h ho
  obtain ⟨⟨cs', a', b'⟩, r⟩ := x
  cases h
  obtain ⟨rfl, rfl, rfl⟩ := ho.rejected
  rfl

theorem countOf_mkIt (w : TWorld) (hw : w.WF) (o : Bool) (i : Nat) : w.countOf ((w.obj o).mkIt w.cs i) = (w.obj o).keys.length := by
  cases o <;> simp only [countOf, TSet.mkIt, snap, byCell, obj, Bool.false_eq_true, ↓reduceIte, beq_self_eq_true, beq_false_of_ne hw]

theorem atElem_endIt (w : TWorld) (hw : w.WF) (o : Bool) : w.atElem ((w.obj o).endIt w.cs) = false := by
  unfold TSet.endIt
  cases (w.obj o).root
  · rfl
  · show decide (_ < w.countOf ((w.obj o).mkIt w.cs _)) = false
    rw [countOf_mkIt w hw]
    exact decide_eq_false (Nat.lt_irrefl _)

theorem deref_isSome (w : TWorld) (h : TIt) :
    (w.deref h).isSome = (h.kp.check w.cs && w.atElem h) := by
  obtain ⟨⟨cell, ver⟩, pos⟩ := h
  cases cell with
  | none => rfl
  | some c =>
    cases pos with
    | none => dsimp only [deref, atElem, Keeper.check]; cases (stored w.cs c == ver) <;> rfl
    | some i =>
      dsimp only [deref, atElem, countOf, Keeper.check, Option.bind_eq_bind, Option.bind_some]
      have key : ∀ x : Option TSet, (x.bind fun s => s.keys[i]?).isSome =
          decide (i < match x with | some s => s.keys.length | none => 0) := fun x => by
        cases x
        · rfl
        · exact ListFacts.isSome_getElem? ..
      cases (stored w.cs c == ver)
      · rfl
      · exact key _

theorem inc_isSome (w : TWorld) (h : TIt) : (w.inc h).isSome = (w.deref h).isSome := by
  obtain ⟨kp, pos⟩ := h
  cases pos with
  | none => unfold inc deref; cases chk (kp.check w.cs) <;> rfl
  | some i => unfold inc; cases w.deref ⟨kp, some i⟩ <;> rfl

theorem accepts_iff (w : TWorld) (op : TOp) : (w.step op).2.isSome = (op.vcheck w && op.pre w) := by
  cases op with
  | deref h => exact (Option.isSome_map ..).trans (deref_isSome w h)
  | inc h => exact (Option.isSome_map ..).trans ((inc_isSome w h).trans (deref_isSome w h))
  | dec h =>
    dsimp only [step, TOp.vcheck, TOp.pre, dec, TIt.notFirst]
    cases h.kp.check w.cs <;> cases h.pos with
    | none => rfl
    | some i => cases i <;> rfl
  | checkIt o h ae =>
    dsimp only [step, TOp.vcheck, TOp.pre, TSet.checkIt]
    cases h.kp.checkAt w.cs (w.obj o).cell ae <;> cases ae <;> cases h.pos <;> rfl
  | insertExt o ef k =>
    dsimp only [step, TOp.vcheck, TOp.pre, TSet.insertExt]
    cases ef <;> rfl
  | add o h k =>
    dsimp only [step, TOp.vcheck, TOp.pre, TSet.add]
    cases (w.obj o).root <;> cases h.kp.checkAt w.cs (w.obj o).cell false <;> cases h.pos <;> rfl
  | addExt o h ef k =>
    dsimp only [step, TOp.vcheck, TOp.pre, TSet.addExt]
    cases (w.obj o).root <;> cases h.kp.checkAt w.cs (w.obj o).cell false <;> cases h.pos <;> cases ef <;> rfl
  | remove o h =>
    dsimp only [step, TOp.vcheck, TOp.pre, TSet.remove]
    cases h.kp.checkAt w.cs (w.obj o).cell false <;> cases (h.pos != ((w.obj o).endIt w.cs).pos) <;> cases h.pos <;> rfl
  | removeExt o h ef =>
    dsimp only [step, TOp.vcheck, TOp.pre, TSet.removeExt, TSet.remove]
    cases ef <;> cases h.kp.checkAt w.cs (w.obj o).cell false <;> cases (h.pos != ((w.obj o).endIt w.cs).pos) <;>
      cases h.pos <;> rfl
  | removeRange o b e =>
    dsimp only [step, TOp.vcheck, TOp.pre, TSet.removeRange]
    cases (w.obj o).root
    · cases b.pos <;> cases e.pos <;> rfl
    · cases b.kp.checkAt w.cs (w.obj o).cell false
      · rfl
      · cases e.kp.checkAt w.cs (w.obj o).cell false
        · rfl
        · cases b.pos <;> cases e.pos <;> try rfl
          next i j =>
            dsimp only [Option.bind_eq_bind, Option.bind_some]
            cases decide (i ≤ j) <;> cases decide (j ≤ (w.obj o).keys.length) <;> rfl
  | resetKey o h k =>
    dsimp only [step, TOp.vcheck, TOp.pre, TSet.resetKey]
    cases h.kp.checkAt w.cs (w.obj o).cell false <;> cases (h.pos != ((w.obj o).endIt w.cs).pos) <;> cases h.pos <;> rfl
  | _ => rfl

theorem step_eq_of_reject (w : TWorld) (op : TOp) (h : (op.vcheck w && op.pre w) = false) : w.step op = (w, none) :=
  eq_of_reject (accepts_iff w op) (step_reject_unchanged w op) h

/-- `Add` / `Remove(begin, end)` on a tree without root node do not check versions, but then accept only node-less iterators -/
theorem checked_of_accepted (w : TWorld) (op : TOp) (h : TIt) (hh : h ∈ op.handles) (hp : h.pos.isSome = true)
    (hv : op.vcheck w = true) (hpre : op.pre w = true) :
    (op.target = none ∧ h.kp.check w.cs = true) ∨ ∃ o ae, op.target = some o ∧ h.kp.checkAt w.cs (w.obj o).cell ae = true := by
  have hn : h.pos.isNone = false := Option.isNone_eq_false_iff.mpr hp
  cases op <;> simp only [TOp.handles, List.mem_cons, List.not_mem_nil, or_false] at hh
  case deref | inc | dec => subst hh; exact .inl ⟨rfl, hv⟩
  case add o h' k =>
    subst hh
    dsimp only [TOp.vcheck, TOp.pre] at hv hpre
    cases hr : (w.obj o).root
    · rw [hr, if_neg Bool.false_ne_true, hn] at hpre; cases hpre
    · rw [hr] at hv; exact .inr ⟨o, false, rfl, hv⟩
  case removeRange o b e =>
    dsimp only [TOp.vcheck, TOp.pre] at hv hpre
    cases hr : (w.obj o).root
    · rw [hr, if_neg Bool.false_ne_true] at hpre
      rcases hh with rfl | rfl <;> rw [hn] at hpre <;> first | cases hpre | (rw [Bool.and_false] at hpre; cases hpre)
    · rw [hr] at hv
      have := Bool.and_eq_true_iff.mp hv
      rcases hh with rfl | rfl
      · exact .inr ⟨o, false, rfl, this.1⟩
      · exact .inr ⟨o, false, rfl, this.2⟩
  all_goals (subst hh; exact .inr ⟨_, _, rfl, hv⟩)

/-- an iterator with a node that fails the version check of every entry point taking it makes the call throw, world unchanged (stale
    and foreign iterators are the instances).  `hd`: entry points of the iterator itself; `hs`: entry points of an object -/
theorem handle_rejected (w : TWorld) (op : TOp) (h : TIt) (hh : h ∈ op.handles) (hp : h.pos.isSome = true)
    (hd : op.target = none → h.kp.check w.cs = false)
    (hs : ∀ o ae, op.target = some o → h.kp.checkAt w.cs (w.obj o).cell ae = false) : w.step op = (w, none) := by
  apply step_eq_of_reject
  apply Bool.eq_false_iff.mpr
  intro hacc
  obtain ⟨hv, hpre⟩ := Bool.and_eq_true_iff.mp hacc
  rcases checked_of_accepted w op h hh hp hv hpre with ⟨ht, e⟩ | ⟨o, ae, ht, e⟩
  · rw [hd ht] at e; cases e
  · rw [hs o ae ht] at e; cases e

/-- `hp`: an iterator with a version keeper always has a node; the node-less `ConstIterator()` has no keeper and cannot be stale -/
theorem stale_rejected (w : TWorld) (op : TOp) (h : TIt) (hh : h ∈ op.handles) (hs : Stale h.kp w.cs)
    (hp : h.pos.isSome = true) : w.step op = (w, none) :=
  handle_rejected w op h hh hp (fun _ => hs.check) fun _ _ _ => hs.checkAt ..

theorem vcheck_of_checked (w : TWorld) (op : TOp)
    (H : ∀ h ∈ op.handles, h.kp.check w.cs = true ∧ ∀ o ae, op.target = some o → h.kp.checkAt w.cs (w.obj o).cell ae = true) :
    op.vcheck w = true := by
  cases op with
  | deref h | inc h | dec h => exact (H h (List.mem_singleton.mpr rfl)).1
  | checkIt o h ae | addExt o h ef k | remove o h | removeExt o h ef | resetKey o h k =>
    exact (H h (List.mem_singleton.mpr rfl)).2 o _ rfl
  | add o h k =>
    dsimp only [TOp.vcheck]
    rw [(H h (List.mem_singleton.mpr rfl)).2 o _ rfl]; exact Bool.or_true _
  | removeRange o b e =>
    dsimp only [TOp.vcheck]
    rw [(H b (List.mem_cons_self ..)).2 o _ rfl, (H e (List.mem_cons_of_mem _ (List.mem_singleton.mpr rfl))).2 o _ rfl]
    exact Bool.or_true _
  | _ => rfl

theorem fresh_accepted (w : TWorld) (op : TOp)
    (hk : ∀ h ∈ op.handles, ∃ c, h.kp = snap w.cs c ∧ ∀ o, op.target = some o → c = (w.obj o).cell) :
    (w.step op).2.isSome = op.pre w := by
  rw [accepts_iff, vcheck_of_checked w op fun h hh => ?_]
  · rfl
  · obtain ⟨c, e, hc⟩ := hk h hh
    rw [e]
    exact ⟨snap_check .., fun o ae ht => hc o ht ▸ snap_checkAt ..⟩

theorem step_quiet (w : TWorld) (hw : w.WF) (op : TOp) (hq : op.Quiet) (c : Nat)
    (hs : (w.step op).1.shape c = w.shape c) : (w.step op).1.cs c = w.cs c :=
  (step_moved w hw op fun _ _ _ e => by subst e; exact hq).quiet hq c hs

def run (w : TWorld) : List TOp → TWorld
  | [] => w
  | op :: ops => run (w.step op).1 ops

theorem run_inv (ops : List TOp) : ∀ (w : TWorld), w.WF → (w.run ops).WF ∧ ∀ c, w.cs c ≤ (w.run ops).cs c := by
  induction ops with
  | nil => intro w hw; exact ⟨hw, fun _ => Nat.le_refl _⟩
  | cons op ops ih =>
    intro w hw
    have h1 := step_facts w hw op
    have h2 := ih _ h1.wf
    exact ⟨h2.1, fun c => Nat.le_trans (h1.mono c) (h2.2 c)⟩

/-- every call of the history is rejected, or is a quiet entry point that left (keys, root, params) of crew `c` alone -/
def AllQuiet (c : Nat) : TWorld → List TOp → Prop
  | _, [] => True
  | w, op :: ops => ((w.step op).2 = none ∨ (op.Quiet ∧ (w.step op).1.shape c = w.shape c)) ∧ AllQuiet c (w.step op).1 ops

/-- some call of the history (other than ResetKey) changed (keys, root, params) of crew `c` -/
def SomeChange (c : Nat) : TWorld → List TOp → Prop
  | _, [] => False
  | w, op :: ops => ((∀ o h k, op ≠ .resetKey o h k) ∧ (w.step op).1.shape c ≠ w.shape c) ∨ SomeChange c (w.step op).1 ops

theorem run_quiet (c : Nat) (ops : List TOp) : ∀ (w : TWorld), w.WF → AllQuiet c w ops → (w.run ops).cs c = w.cs c := by
  induction ops with
  | nil => intro w _ _; rfl
  | cons op ops ih =>
    intro w hw hq
    refine (ih _ (step_facts w hw op).wf hq.2).trans ?_
    rcases hq.1 with hr | ⟨hq1, hs⟩
    · rw [step_reject_unchanged w op hr]
    · exact step_quiet w hw op hq1 c hs

theorem run_change (c : Nat) (ops : List TOp) : ∀ (w : TWorld), w.WF → SomeChange c w ops → w.cs c < (w.run ops).cs c := by
  induction ops with
  | nil => intro w _ h; exact h.elim
  | cons op ops ih =>
    intro w hw hc
    have h1 := step_facts w hw op
    rcases hc with ⟨hnr, hs⟩ | hc
    · exact Nat.lt_of_lt_of_le ((step_moved w hw op hnr).bump c hs) ((run_inv ops _ h1.wf).2 c)
    · exact Nat.lt_of_le_of_lt (h1.mono c) (ih _ h1.wf hc)

end TWorld
end Momo.Ver
