import Momo.Translated.Wave2
import Momo.Proof.Word64
/-!
  C16: the capacity arithmetic of `SegmentedArray` (SegmentedArray.h) as translated from the header (area Wave2,
  lean/Momo/Translated/Wave2.lean) is that of the container model `Seg.Arr` (`Momo/Model/Seg.lean`), for every sizing `S`: the
  number of segments `pvIncCapacity` / `pvDecCapacity` need for a capacity (`if (itemIndex > 0) ++segIndex`), the loop test of
  `pvIncCapacity`, the number of segments `pvDecCapacity` removes, the tests of `Reserve`, `Shrink(capacity)`, `AddBackCrt`,
  `pvIncCount`. The `Reserve(segCount + 1)` of `pvIncCapacity` (`tr_seg_incCap_reserve`) concerns the array of segment pointers,
  which the model does not have: it only does not wrap.
-/
namespace Momo.TrEq
open Momo Momo.Seg

/-- head of `pvIncCapacity` and, with the same text, of `pvDecCapacity` (`tr_seg_decCap_segCount`); `segIndex + 1` does not wrap:
    segment indexes are far below `2^64` -/
theorem tr_seg_incCap_segCount (S : Sizing) (cap : Nat) (h : (S.getSeg cap).1 < 2 ^ 64 - 1) :
    Tr.seg_incCap_segCount (S.getSeg cap).1 (S.getSeg cap).2 = Arr.segsFor S cap := by
  unfold Tr.seg_incCap_segCount Arr.segsFor
  simp only [decide_eq_true_eq]
  rw [add64_one h]

theorem tr_seg_decCap_segCount (S : Sizing) (cap : Nat) (h : (S.getSeg cap).1 < 2 ^ 64 - 1) :
    Tr.seg_decCap_segCount (S.getSeg cap).1 (S.getSeg cap).2 = Arr.segsFor S cap :=
  tr_seg_incCap_segCount S cap h

/-! the argument names abbreviate the parameters of the generated functions (`segCount segIndex`,
    `capacity initCapacity`, `curCapacity capacity`, `mCount capacity`, …), and `tr_seg_Shrink_target` has the `if` of the model's
    `Arr.shrink` (where `Momo.Arr.shrink` has a `max`, `tr_arr_Shrink_target` has one) so that `seg_capacity_ops_translated` closes by `rfl` -/
theorem tr_seg_incCap_more (c i : Nat) : (Tr.seg_incCap_more c i = true) ↔ c < i := by simp [Tr.seg_incCap_more]
theorem tr_seg_incCap_reserve (c : Nat) (h : c < 2 ^ 64 - 1) : Tr.seg_incCap_reserve c = c + 1 :=
  add64_one h
/-- `segCount - segIndex` in `pvDecCapacity` (`capacity <= GetCapacity()` is asserted, so `segIndex ≤ segCount`) -/
theorem tr_seg_decCap_removed (c i : Nat) (h : i ≤ c) : Tr.seg_decCap_removed c i = c - i :=
  sub64_of_le h
theorem tr_seg_Reserve_grows (cap ini : Nat) : (Tr.seg_Reserve_grows cap ini = true) ↔ cap > ini := by simp [Tr.seg_Reserve_grows]
theorem tr_seg_Shrink_keeps (cur cap : Nat) : (Tr.seg_Shrink_keeps cur cap = true) ↔ cur ≤ cap := by simp [Tr.seg_Shrink_keeps]
theorem tr_seg_Shrink_target (cnt cap : Nat) : Tr.seg_Shrink_target cnt cap = if cap < cnt then cnt else cap := by
  simp [Tr.seg_Shrink_target]
theorem tr_seg_AddBack_hasRoom (i c : Nat) : (Tr.seg_AddBack_hasRoom i c = true) ↔ i < c := by simp [Tr.seg_AddBack_hasRoom]
theorem tr_seg_incCount_grows (n ini : Nat) : (Tr.seg_incCount_grows n ini = true) ↔ n > ini := by simp [Tr.seg_incCount_grows]

/-- the loop `for (segCount = GetCount(); segCount < segIndex; ++segCount)` of `pvIncCapacity` run with the translated test:
    it allocates `segIndex - segCount` segments -/
theorem allocSegs_loop (S : Sizing) : ∀ (n : Nat) (a : Arr) (target : Nat), target - a.segs.length = n →
    Arr.allocSegs S n a =
      (if Tr.seg_incCap_more a.segs.length target = true then
        Arr.allocSegs S (n - 1) { a with segs := a.segs ++ [⟨a.next, S.itemCount a.segs.length⟩], next := a.next + 1 }
       else a)
  | 0, a, target, h => by
    rw [if_neg (fun hm => Nat.not_lt.mpr (Nat.le_of_sub_eq_zero h) ((tr_seg_incCap_more _ _).mp hm))]; rfl
  | n+1, a, target, h => by
    rw [if_pos ((tr_seg_incCap_more _ _).mpr (Nat.lt_of_sub_pos (h ▸ Nat.succ_pos n)))]; rfl

theorem seg_capacity_ops_translated (S : Sizing) (a : Arr) (cap : Nat) (hseg : (S.getSeg cap).1 < 2 ^ 64 - 1) :
    a.incCapacity S cap = Arr.allocSegs S (Tr.seg_incCap_segCount (S.getSeg cap).1 (S.getSeg cap).2 - a.segs.length) a ∧
    a.decCapacity S cap = { a with segs := a.segs.take (Tr.seg_decCap_segCount (S.getSeg cap).1 (S.getSeg cap).2) } ∧
    (Tr.seg_decCap_segCount (S.getSeg cap).1 (S.getSeg cap).2 ≤ a.segs.length →
      (a.decCapacity S cap).segs.length
        = a.segs.length - Tr.seg_decCap_removed a.segs.length (Tr.seg_decCap_segCount (S.getSeg cap).1 (S.getSeg cap).2)) ∧
    a.reserve S cap = (if Tr.seg_Reserve_grows cap (a.capacity S) = true then a.incCapacity S cap else a) ∧
    a.shrink S cap = (if Tr.seg_Shrink_keeps (a.capacity S) cap = true then a
                      else a.decCapacity S (Tr.seg_Shrink_target a.count cap)) ∧
    a.addBack S = (if Tr.seg_AddBack_hasRoom (S.getSeg a.count).1 a.segs.length = true then { a with count := a.count + 1 }
                   else { (Arr.allocSegs S 1 a) with count := a.count + 1 }) ∧
    a.setCount S cap = (if cap < a.count then { a with count := cap }
                        else if cap > a.count then
                          { (if Tr.seg_incCount_grows cap (a.capacity S) = true then a.incCapacity S cap else a) with count := cap }
                        else a) := by
  refine ⟨?_, ?_, ?_, ?_, ?_, ?_, ?_⟩
  · rw [tr_seg_incCap_segCount S cap hseg]; rfl
  · rw [tr_seg_decCap_segCount S cap hseg]; rfl
  · intro hle
    rw [tr_seg_decCap_removed _ _ hle, tr_seg_decCap_segCount S cap hseg] at *
    simp only [Arr.decCapacity, List.length_take]
    rw [Nat.min_eq_left hle, Nat.sub_sub_self hle]
  · simp only [tr_seg_Reserve_grows]; rfl
  · simp only [tr_seg_Shrink_keeps, tr_seg_Shrink_target]; rfl
  · simp only [tr_seg_AddBack_hasRoom]; rfl
  · simp only [tr_seg_incCount_grows]; rfl

end Momo.TrEq
