import Momo.Proof.HashTableAdd
/-!
  C01/C11: removal inside a bucket array and the migration `pvRelocateItems`
  (`drainGen`, `relocGens`, `relocate`): wherever the migration stops — any budget `stop`, a
  "table is full" inside the migration, any number of coexisting generations — every generation
  keeps its invariant and the items are conserved (the C11 statement). Also `TableCore.of_perm`, the way every later file establishes
  `TableCore` for a rebuilt table.
-/
namespace Momo.HT
open Momo Momo.Probe

theorem removeBkt_inv (sp : Spec) (hf : Nat → Nat) (g : Gen) (i j : Nat) (hI : GenInv sp hf g) :
    GenInv sp hf { g with bs := updBkt sp g.bs i (removeAt j) } :=
  hI.of_updBkt i _ (.of_subset (mem_removeAt j _) (by rw [length_removeAt]; exact Nat.sub_le _ _) rfl rfl)

theorem removeBkt_items (sp : Spec) (g : Gen) (i j : Nat) (hi : i < g.bs.length)
    (hj : j < (bkt sp g.bs i).items.length) :
    ((bkt sp g.bs i).items[j] :: genItems { g with bs := updBkt sp g.bs i (removeAt j) }).Perm
      (genItems g) :=
  genItems_upd_remove sp g i (removeAt j) _ hi (removeAt_perm j _ hj)

theorem removeLast_items (sp : Spec) (g : Gen) (i : Nat) (it : Item) (hi : i < g.bs.length)
    (hl : (bkt sp g.bs i).items.getLast? = some it) :
    (it :: genItems { g with bs := updBkt sp g.bs i (removeAt ((bkt sp g.bs i).items.length - 1)) }).Perm (genItems g) := by
  have hne : (bkt sp g.bs i).items ≠ [] := fun h0 => by rw [h0] at hl; cases hl
  have := removeBkt_items sp g i _ hi (Nat.sub_lt (List.length_pos_iff.mpr hne) Nat.one_pos)
  rwa [← List.getLast_eq_getElem hne,
    Option.some.inj ((List.getLast?_eq_getLast_of_ne_nil hne).symm.trans hl)] at this

theorem genItems_nil_of_findIdx (g : Gen)
    (h : g.bs.length ≤ g.bs.findIdx (fun b => !b.items.isEmpty)) : genItems g = [] := by
  have hall : ∀ b ∈ g.bs, (!b.items.isEmpty) = false := by
    have : g.bs.findIdx (fun b => !b.items.isEmpty) = g.bs.length :=
      Nat.le_antisymm List.findIdx_le_length h
    exact List.findIdx_eq_length.mp this
  unfold genItems
  rw [List.flatten_eq_nil_iff]
  intro l hl
  obtain ⟨b, hb, rfl⟩ := List.mem_map.mp hl
  have := hall b hb
  simp only [Bool.not_eq_false', List.isEmpty_iff] at this
  simp [this]

theorem perm_of_count {l l' : List Item} (h : ∀ a, l.count a = l'.count a) : l.Perm l' :=
  List.perm_iff_count.mpr h

/-- **one generation drained into the head, stopped anywhere**: both bucket arrays keep `GenInv`, items conserved, the head keeps
    its size. Conjunct 5: with enough fuel, "not stopped" means `g` is drained (what lets `relocGens_spec` drop the generation);
    last conjunct: without a stop request the loop is only stopped when the head is completely full -/
theorem drainGen_spec (sp : Spec) (hf : Nat → Nat) (ok : SpecOK sp)
    (fuel : Nat) (head g : Gen) (moved : Nat) (stop : Option Nat) (hH : GenInv sp hf head) (hG : GenInv sp hf g)
    {head' g' : Gen} {moved' : Nat} {stopped : Bool}
    (h : drainGen sp hf fuel head g moved stop = (head', g', moved', stopped)) :
    GenInv sp hf head' ∧ GenInv sp hf g' ∧
    (genItems g' ++ genItems head').Perm (genItems g ++ genItems head) ∧ head'.L = head.L ∧
    (genCount g < fuel → stopped = false → genItems g' = []) ∧
    (stop = none →
      (sp.unlimited = true ∨ (genItems head).length + (genItems g).length ≤ 2 ^ head.L * sp.maxCount) →
      stopped = false) := by
  -- the exits of the loop in the order of the model: no fuel, no item left, (no last item), stop request, head full, item moved
  fun_induction drainGen sp hf fuel head g moved stop
  case case1 => cases h; exact ⟨hH, hG, .refl _, rfl, fun h => absurd h (Nat.not_lt_zero _), fun _ _ => rfl⟩
  case case2 hge => cases h; exact ⟨hH, hG, .refl _, rfl, fun _ _ => genItems_nil_of_findIdx _ hge, fun _ _ => rfl⟩
  case case3 g _ _ i hlt hnone =>
    -- the bucket `findIdx` stops at is not empty
    have h1 := List.findIdx_getElem (w := Nat.lt_of_not_le hlt) (p := fun b : Bucket => !b.items.isEmpty)
    rw [← bkt_of_lt sp g.bs i (Nat.lt_of_not_le hlt), List.getLast?_eq_none_iff.mp hnone] at h1
    cases h1
  case case4 hst => cases h; exact ⟨hH, hG, .refl _, rfl, (fun _ h => nomatch h), fun hs _ => by rw [hs] at hst; cases hst⟩
  case case5 i hlt it hlast _ hadd =>
    cases h
    refine ⟨hH, hG, .refl _, rfl, (fun _ h => nomatch h), fun _ hroom => ?_⟩
    have hlen := (removeLast_items sp g' i it (Nat.lt_of_not_le hlt) hlast).length_eq
    have := addNogrowGen_isSome sp head' (hf it.key) it hH.len
      (hroom.imp_right fun h => by rw [genCount_eq]; rw [List.length_cons] at hlen; omega)
    rw [hadd] at this; cases this
  case case6 _ head g _ _ i hlt it hlast _ head1 idx hadd g1 ih =>
    have hrem : (it :: genItems g1).Perm (genItems g) := removeLast_items sp g i it (Nat.lt_of_not_le hlt) hlast
    obtain ⟨hH', hperm, hL'⟩ := addNogrowGen_inv sp hf ok head head1 it idx hH hadd
    have hlenG := hrem.length_eq
    have hlenH := hperm.length_eq
    rw [List.length_cons] at hlenG hlenH
    obtain ⟨a1, a2, a3, a4, a5, a6⟩ := ih hH' (removeBkt_inv sp hf g i _ hG) h
    refine ⟨a1, a2, ?_, a4.trans hL', fun hfuel => a5 (by rw [genCount_eq] at hfuel ⊢; omega),
      fun hs hroom => a6 hs (hroom.imp_right fun h => by rw [hL']; omega)⟩
    exact a3.trans ((List.Perm.append_left _ hperm).trans (List.perm_middle.trans (List.Perm.append_right _ hrem)))

/-- what `relocGens` leaves, stopped anywhere: head `head'`, surviving old generations `olds'` -/
structure Relocated (sp : Spec) (hf : Nat → Nat) (stop : Option Nat) (head : Gen) (olds : List Gen)
    (head' : Gen) (olds' : List Gen) (stopped : Bool) : Prop where
  headInv : GenInv sp hf head'
  oldsInv : ∀ g ∈ olds', GenInv sp hf g
  perm : (gensItems olds' ++ genItems head').Perm (gensItems olds ++ genItems head)
  headL : head'.L = head.L
  len : olds'.length ≤ olds.length
  /-- a migration that was not stopped leaves no old generation -/
  drained : stopped = false → olds' = []
  /-- without a stop request it is only stopped when the head is completely full -/
  unstopped : stop = none →
    (sp.unlimited = true ∨ (genItems head).length + (gensItems olds).length ≤ 2 ^ head.L * sp.maxCount) → stopped = false

theorem relocGens_spec (sp : Spec) (hf : Nat → Nat) (ok : SpecOK sp) (head : Gen) (olds : List Gen) (moved : Nat)
    (stop : Option Nat) (hH : GenInv sp hf head) (hO : ∀ g ∈ olds, GenInv sp hf g)
    {head' : Gen} {olds' : List Gen} {moved' : Nat} {stopped : Bool}
    (h : relocGens sp hf head olds moved stop = (head', olds', moved', stopped)) :
    Relocated sp hf stop head olds head' olds' stopped := by
  -- the outcomes in the order of the model: no old generation, stopped among the older ones, stopped while draining `g`, `g` drained
  fun_induction relocGens sp hf head olds moved stop generalizing head' olds' moved' stopped
  case case1 => cases h; exact ⟨hH, nofun, .refl _, rfl, Nat.le_refl _, fun _ => rfl, fun _ _ => rfl⟩
  case case2 g rest _ _ head1 rest1 moved1 hr1 ih =>
    cases h
    obtain ⟨hG, hR⟩ := List.forall_mem_cons.mp hO
    obtain ⟨b1, b2, b3, b4, b5, _, b7⟩ := ih hR hr1
    refine ⟨b1, List.forall_mem_cons.mpr ⟨hG, b2⟩, ?_, b4, Nat.succ_le_succ b5, nofun,
      fun hs hroom => b7 hs (hroom.imp_right fun h => ?_)⟩
    · rw [gensItems_cons, gensItems_cons, List.append_assoc, List.append_assoc]; exact b3.append_left _
    · simp only [gensItems_cons, List.length_append] at h; omega
  case case3 g rest _ _ head1 rest1 moved1 stopped1 hr1 hns head2 g2 moved2 hr2 ih =>
    cases h
    obtain ⟨hG, hR⟩ := List.forall_mem_cons.mp hO
    obtain ⟨b1, _, b3, b4, _, b6, _⟩ := ih hR hr1
    obtain rfl : rest1 = [] := b6 (Bool.eq_false_iff.mpr hns)
    obtain ⟨a1, a2, a3, a4, _, a6⟩ := drainGen_spec sp hf ok _ head1 g moved1 _ b1 hG hr2
    refine ⟨a1, fun g' hg' => List.mem_singleton.mp hg' ▸ a2, ?_, a4.trans b4, Nat.succ_le_succ (Nat.zero_le _), nofun,
      fun hs hroom => a6 hs (hroom.imp_right fun h => ?_)⟩
    · rw [gensItems_cons, gensItems_cons, gensItems_nil, List.append_nil, List.append_assoc]
      exact a3.trans (List.Perm.append_left _ b3)
    · have := b3.length_eq
      simp only [gensItems_cons, gensItems_nil, List.nil_append, List.length_append] at h this
      rw [b4]; omega
  case case4 g rest _ _ head1 rest1 moved1 stopped1 hr1 hns head2 g2 moved2 stopped2 hr2 hns2 ih =>
    cases h
    obtain ⟨hG, hR⟩ := List.forall_mem_cons.mp hO
    obtain ⟨b1, _, b3, b4, _, b6, _⟩ := ih hR hr1
    obtain rfl : rest1 = [] := b6 (Bool.eq_false_iff.mpr hns)
    obtain ⟨a1, _, a3, a4, a5, _⟩ := drainGen_spec sp hf ok _ head1 g moved1 _ b1 hG hr2
    rw [a5 (Nat.lt_succ_self _) (Bool.eq_false_iff.mpr hns2)] at a3
    refine ⟨a1, nofun, ?_, a4.trans b4, Nat.zero_le _, fun _ => rfl, fun _ _ => rfl⟩
    rw [gensItems_cons, List.append_assoc]
    exact a3.trans (List.Perm.append_left _ b3)

theorem relocate_of_cons {sp : Spec} {hf : Nat → Nat} {t : Table} {head : Gen} {olds : List Gen} (hg : t.gens = head :: olds)
    (stop : Option Nat) :
    relocate sp hf t stop =
      { t with gens := (relocGens sp hf head olds 0 stop).1 :: (relocGens sp hf head olds 0 stop).2.1 } := by
  rw [relocate, hg]

/-- **C11: the migration may stop anywhere.** For every stopping point (`stop` = any number of items moved, or a full head
    table), with any number of coexisting generations, `TableCore` (the state in the middle of `pvAdd` / `Reserve`) holds
    afterwards and the traversal is a rearrangement of the old one. -/
theorem relocate_core (sp : Spec) (hf : Nat → Nat) (ok : SpecOK sp) (t : Table) (hI : TableCore sp hf t)
    (stop : Option Nat) :
    TableCore sp hf (relocate sp hf t stop) ∧ (traverse (relocate sp hf t stop)).Perm (traverse t) ∧
      (relocate sp hf t stop).gens.length ≤ t.gens.length ∧
      (relocate sp hf t stop).count = t.count ∧ (relocate sp hf t stop).cap = t.cap := by
  cases hg : t.gens with
  | nil => rw [relocate, hg]; exact ⟨hI, List.Perm.refl _, by rw [hg], rfl, rfl⟩
  | cons head olds =>
    rw [relocate_of_cons hg]
    generalize hr : relocGens sp hf head olds 0 stop = r
    obtain ⟨head', olds', moved', stopped'⟩ := r
    have r := relocGens_spec sp hf ok head olds 0 stop (hI.gens_cons hg).1 (hI.gens_cons hg).2 hr
    have hperm : (traverse { t with gens := head' :: olds' }).Perm (traverse t) := by
      rw [traverse_eq_gensItems, traverse_eq_gensItems, hg]
      exact List.perm_append_comm.trans (r.perm.trans List.perm_append_comm)
    refine ⟨TableCore.of_perm r.headInv r.oldsInv hperm hI.nodup hI.count ?_, hperm, Nat.succ_le_succ r.len, rfl, rfl⟩
    intro hu
    rw [r.headL]; exact hI.capLe hu head olds hg

/-- the same for `TableInv`: the migration never adds a generation, so the single-generation clause survives -/
theorem relocate_inv (sp : Spec) (hf : Nat → Nat) (ok : SpecOK sp) (t : Table) (hI : TableInv sp hf t)
    (stop : Option Nat) :
    TableInv sp hf (relocate sp hf t stop) ∧ (traverse (relocate sp hf t stop)).Perm (traverse t) := by
  obtain ⟨c, p, l, _, _⟩ := relocate_core sp hf ok t hI.core stop
  exact ⟨⟨c, fun h => Nat.le_trans l (hI.single h)⟩, p⟩

/-- **later operations complete the migration**: without a stop request, and as long as the head
    bucket array has a slot for every element, exactly one generation remains -/
theorem relocate_complete (sp : Spec) (hf : Nat → Nat) (ok : SpecOK sp) (t : Table)
    (hI : TableCore sp hf t) (head : Gen) (olds : List Gen) (hg : t.gens = head :: olds)
    (hroom : sp.unlimited = true ∨ (traverse t).length ≤ 2 ^ head.L * sp.maxCount) :
    (relocate sp hf t none).gens.length = 1 := by
  have r := relocGens_spec sp hf ok head olds 0 none (hI.gens_cons hg).1 (hI.gens_cons hg).2 rfl
  rw [traverse_eq_gensItems, hg, gensItems_cons, List.length_append] at hroom
  rw [relocate_of_cons hg, r.drained (r.unstopped rfl hroom)]
  rfl

/-- the newest generation stays the newest and keeps its size (`pvAddGrow` / `Reserve` chose it) -/
theorem relocate_head (sp : Spec) (hf : Nat → Nat) (ok : SpecOK sp) (t : Table) (hI : TableCore sp hf t)
    (stop : Option Nat) (head : Gen) (olds : List Gen) (hg : t.gens = head :: olds) :
    ∃ head' olds', (relocate sp hf t stop).gens = head' :: olds' ∧ head'.L = head.L := by
  rw [relocate_of_cons hg]
  exact ⟨_, _, rfl, (relocGens_spec sp hf ok head olds 0 stop (hI.gens_cons hg).1 (hI.gens_cons hg).2 rfl).headL⟩

/-! Without the invariant: how many generations a migration leaves, and that those which survive keep their sizes. -/

theorem relocGens_length (sp : Spec) (hf : Nat → Nat) (head : Gen) (olds : List Gen) (moved : Nat) (stop : Option Nat) :
    (relocGens sp hf head olds moved stop).2.1.length ≤ olds.length := by
  fun_induction relocGens sp hf head olds moved stop with
  | case1 => exact Nat.le_refl _
  | case2 g rest moved stop head1 rest1 moved1 h1 ih => rw [h1] at ih; exact Nat.succ_le_succ ih
  | case3 => exact Nat.succ_le_succ (Nat.zero_le _)
  | case4 => exact Nat.zero_le _

theorem relocate_length (sp : Spec) (hf : Nat → Nat) (t : Table) (stop : Option Nat) :
    (relocate sp hf t stop).gens.length ≤ t.gens.length ∧ (t.gens ≠ [] → 1 ≤ (relocate sp hf t stop).gens.length) := by
  unfold relocate
  cases hg : t.gens with
  | nil => simp [hg]
  | cons head olds =>
    simp only
    have := relocGens_length sp hf head olds 0 stop
    generalize relocGens sp hf head olds 0 stop = r at this ⊢
    obtain ⟨head', olds', moved', stopped'⟩ := r
    simp only at this ⊢
    simp; omega

theorem drainGen_L (sp : Spec) (hf : Nat → Nat) (stop : Option Nat) (fuel : Nat) (head g : Gen) (moved : Nat) :
    (drainGen sp hf fuel head g moved stop).1.L = head.L ∧ (drainGen sp hf fuel head g moved stop).2.1.L = g.L := by
  fun_induction drainGen sp hf fuel head g moved stop with
  | case1 | case2 | case3 | case4 | case5 => exact ⟨rfl, rfl⟩
  | case6 fuel head g moved stop _ _ it _ _ head' idx hadd _ ih => exact ⟨ih.1.trans (addNogrowGen_L sp head head' _ _ idx hadd), ih.2⟩

theorem relocGens_L (sp : Spec) (hf : Nat → Nat) (head : Gen) (olds : List Gen) (moved : Nat) (stop : Option Nat) :
    (relocGens sp hf head olds moved stop).1.L = head.L ∧
    (relocGens sp hf head olds moved stop).2.1.map (·.L) =
      (olds.map (·.L)).take (relocGens sp hf head olds moved stop).2.1.length := by
  -- arms: 1 no older generation; 2 stopped further back; 3 / 4 the generation `g` is drained (stopped inside it / emptied)
  fun_induction relocGens sp hf head olds moved stop with
  | case1 => exact ⟨rfl, rfl⟩
  | case2 g rest moved stop head1 rest1 moved1 h1 ih =>
    rw [h1] at ih
    exact ⟨ih.1, by simp only [List.map_cons, List.length_cons, List.take_succ_cons, ih.2]⟩
  | case3 g rest moved stop head1 rest1 moved1 stopped1 h1 _ head2 g2 moved2 h2 ih =>
    obtain ⟨d1, d2⟩ := h2 ▸ drainGen_L sp hf stop (genCount g + 1) head1 g moved1
    rw [h1] at ih
    exact ⟨d1.trans ih.1, by simp [show g2.L = g.L from d2]⟩
  | case4 g rest moved stop head1 rest1 moved1 stopped1 h1 _ head2 g2 moved2 stopped2 h2 _ ih =>
    rw [h1] at ih
    exact ⟨(h2 ▸ drainGen_L sp hf stop (genCount g + 1) head1 g moved1).1.trans ih.1, by simp⟩

theorem relocate_L (sp : Spec) (hf : Nat → Nat) (t : Table) (stop : Option Nat) :
    (relocate sp hf t stop).gens.map (·.L) = (t.gens.map (·.L)).take (relocate sp hf t stop).gens.length := by
  unfold relocate
  cases hg : t.gens with
  | nil => simp [hg]
  | cons head olds =>
    simp only
    obtain ⟨i1, i2⟩ := relocGens_L sp hf head olds 0 stop
    generalize relocGens sp hf head olds 0 stop = r at i1 i2 ⊢
    obtain ⟨head', olds', moved', stopped'⟩ := r
    simp only at i1 i2 ⊢
    simp only [List.map_cons, List.length_cons, List.take_succ_cons, i1, i2]

end Momo.HT
