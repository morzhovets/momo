import Momo.Model.PoolWalk
import Momo.Proof.PoolDll
/-!
  Pointer level of `MemPool` (C09), traversals: on a heap that holds the buffer list of the state machine, reading `prev` /
  `next` is reading the list view (`Pool.nextOf` / `Pool.prevOf`), walking the links from the head visits exactly `post` /
  `pre`, the two loops of `DeallocateAll` delete `pre ++ post` in the order of the list-level model, and the two loops of
  `DeallocateIf` visit exactly the buffers the list-level loops visit, whatever the sweeps do to the visited buffer.
-/
namespace Momo.Pool

/-- `pvGetNextBuffer` / `pvGetPrevBuffer` read the list view (`Pool.nextOf` / `Pool.prevOf`) -/
theorem dll_reads (h : Heap) (l : List Int) (hd : IsDll h l) (x : Int) (hx : x ∈ l) :
    (h x).next = succIn l x ∧ (h x).prev = succIn l.reverse x := by
  obtain ⟨hnd, hs⟩ := hd
  obtain ⟨A, T, rfl⟩ := List.append_of_mem hx
  have hnd' := List.nodup_append.mp hnd
  have hxA : x ∉ A := fun hm => hnd'.2.2 x hm x (by simp) rfl
  have hxT : x ∉ T := (List.nodup_cons.mp hnd'.2.1).1
  obtain ⟨hp, hn⟩ := Seg_middle hs
  constructor
  · rw [hn, succIn_split A T x hxA, headOr_none_eq]
  · rw [hp]
    have : (A ++ x :: T).reverse = T.reverse ++ x :: A.reverse := by simp
    rw [this, succIn_split T.reverse A.reverse x (by simpa using hxT), lastOr_none_eq]

/-- first loop of `DeallocateAll`; the order is that in which `deleteAllPre` takes the buffers from `pre` -/
theorem ptrDeleteAllPre_spec (h : Heap) (pre rest : List Int) (head : Int) (fuel : Nat) (hf : pre.length ≤ fuel)
    (hd : IsDll h (pre.reverse ++ head :: rest)) :
    (ptrDeleteAllPre head fuel h).1 = pre ∧ IsDll (ptrDeleteAllPre head fuel h).2 (head :: rest) ∧
    ∀ x, x ∉ pre.reverse ++ head :: rest → (ptrDeleteAllPre head fuel h).2 x = h x := by
  induction pre generalizing h fuel with
  | nil =>
    have hp : (h head).prev = none := by
      have := hd.2; simp only [List.reverse_nil, List.nil_append] at this; exact this.1
    have : ptrDeleteAllPre head fuel h = ([], h) := by
      cases fuel with
      | zero => rfl
      | succ f => simp [ptrDeleteAllPre, hp]
    rw [this]; exact ⟨rfl, by simpa using hd, fun _ _ => rfl⟩
  | cons a pre ih =>
    cases fuel with
    | zero => simp at hf
    | succ f =>
      have e : (a :: pre).reverse ++ head :: rest = pre.reverse ++ a :: head :: rest := by simp
      rw [e] at hd ⊢
      have hp : (h head).prev = some a := ((Seg_append h _ _ none none).mp hd.2).2.2.2.1
      obtain ⟨hu, hframe⟩ := ptrUnlink_split h pre.reverse (head :: rest) a hd
      obtain ⟨i1, i2, i3⟩ := ih (ptrUnlink h a) f (Nat.le_of_succ_le_succ hf) hu
      simp only [ptrDeleteAllPre, hp]
      refine ⟨by rw [i1], i2, fun x hx => ?_⟩
      rw [i3 x (fun m => hx (List.perm_middle.mem_iff.mpr (List.mem_cons_of_mem _ m))), hframe x hx]

theorem ptrDeleteAllPost_spec (h : Heap) (l : List Int) (fuel : Nat) (hf : l.length ≤ fuel) (hd : IsDll h l) :
    (ptrDeleteAllPost fuel h l.head?).1 = l ∧ ∀ x, x ∉ l → (ptrDeleteAllPost fuel h l.head?).2 x = h x := by
  induction l generalizing h fuel with
  | nil => cases fuel <;> exact ⟨rfl, fun _ _ => rfl⟩
  | cons b t ih =>
    cases fuel with
    | zero => simp at hf
    | succ f =>
      have hn : (h b).next = t.head? := by rw [hd.2.2.1, headOr_none_eq]
      obtain ⟨hu, hframe⟩ := ptrUnlink_split h [] t b (by simpa using hd)
      obtain ⟨i1, i2⟩ := ih (ptrUnlink h b) f (by simpa using hf) (by simpa using hu)
      simp only [List.head?_cons, ptrDeleteAllPost, hn]
      refine ⟨by rw [i1], ?_⟩
      intro x hx
      rw [i2 x (fun hm => hx (by simp [hm]))]
      exact hframe x (by simpa using hx)

/-- `DeallocateAll`: the order `pre ++ post` is that of `deleteAllPre` then `deleteAllPost` -/
theorem ptrDeallocateAll_refines (h : Heap) (pre rest : List Int) (head : Int) (fuel : Nat)
    (hf1 : rest.length < fuel) (hf2 : pre.length ≤ fuel) (hd : IsDll h (pre.reverse ++ head :: rest)) :
    (ptrDeallocateAll fuel h head).1 = pre ++ head :: rest ∧
    ∀ x, x ∉ pre.reverse ++ head :: rest → (ptrDeallocateAll fuel h head).2 x = h x := by
  obtain ⟨a1, a2, a3⟩ := ptrDeleteAllPre_spec h pre rest head fuel hf2 hd
  obtain ⟨b1, b2⟩ := ptrDeleteAllPost_spec (ptrDeleteAllPre head fuel h).2 (head :: rest) fuel hf1 a2
  unfold ptrDeallocateAll
  refine ⟨by rw [a1]; exact congrArg _ b1, fun x hx => ?_⟩
  exact (b2 x (fun hm => hx (List.mem_append_right _ hm))).trans (a3 x hx)

/-- what the forward loop of `DeallocateIf` needs of the sweep of one buffer (`pvDeleteBlocks(buffer)`): the list stays a
    well-formed doubly linked list and the buffers behind the swept one keep their places. `sweep_unlink_ok` shows it for
    a sweep that leaves the links alone or unlinks the buffer (`pvDeleteBuffer`); for one that moves it before the head
    (`pvMoveBufferToHead`) it is not shown. -/
def SweepFwdOK (sweep : Int → Heap → Heap) : Prop :=
  ∀ (h : Heap) (A T : List Int) (b : Int), IsDll h (A ++ b :: T) → ∃ A', IsDll (sweep b h) (A' ++ T)
/-- the same for the backward loop: the buffers before the swept one keep their places -/
def SweepBwdOK (sweep : Int → Heap → Heap) : Prop :=
  ∀ (h : Heap) (T Z : List Int) (b : Int), IsDll h (T ++ b :: Z) → ∃ Z', IsDll (sweep b h) (T ++ Z')

theorem ptrDifForward_visits (sweep : Int → Heap → Heap) (hs : SweepFwdOK sweep) :
    ∀ (h : Heap) (A T : List Int) (b : Int) (fuel : Nat), T.length < fuel → IsDll h (A ++ b :: T) →
    (ptrDifForward sweep fuel h b).1 = b :: T ∧ ∃ A', IsDll (ptrDifForward sweep fuel h b).2 A' := by
  intro h A T
  induction T generalizing h A with
  | nil =>
    intro b fuel hf hd
    cases fuel with
    | zero => simp at hf
    | succ f =>
      have hn : (h b).next = none := (Seg_middle hd.2).2
      obtain ⟨A', hA'⟩ := hs h A [] b hd
      simp only [ptrDifForward, hn]
      exact ⟨trivial, A' ++ [], hA'⟩
  | cons n T ih =>
    intro b fuel hf hd
    cases fuel with
    | zero => simp at hf
    | succ f =>
      have hn : (h b).next = some n := (Seg_middle hd.2).2
      obtain ⟨A', hA'⟩ := hs h A (n :: T) b hd
      obtain ⟨i1, i2⟩ := ih (sweep b h) A' n f (by simpa using hf) hA'
      simp only [ptrDifForward, hn]
      exact ⟨by rw [i1], i2⟩

theorem ptrDifBackward_visits (sweep : Int → Heap → Heap) (hs : SweepBwdOK sweep) :
    ∀ (h : Heap) (pre Z : List Int) (fuel : Nat), pre.length ≤ fuel → IsDll h (pre.reverse ++ Z) →
    (ptrDifBackward sweep fuel h pre.head?).1 = pre ∧ ∃ L, IsDll (ptrDifBackward sweep fuel h pre.head?).2 L := by
  intro h pre
  induction pre generalizing h with
  | nil =>
    intro Z fuel _ hd
    have hd0 : IsDll h Z := by simpa using hd
    cases fuel <;> exact ⟨rfl, Z, hd0⟩
  | cons a pre ih =>
    intro Z fuel hf hd
    cases fuel with
    | zero => simp at hf
    | succ f =>
      have hd' : IsDll h (pre.reverse ++ a :: Z) := by simpa [List.reverse_cons, List.append_assoc] using hd
      have hp : (h a).prev = pre.head? := by
        rw [(Seg_middle hd'.2).1, lastOr_none_eq, List.reverse_reverse]
      obtain ⟨Z', hZ'⟩ := hs h pre.reverse Z a hd'
      obtain ⟨i1, i2⟩ := ih (sweep a h) Z' f (by simpa using hf) hZ'
      simp only [List.head?_cons, ptrDifBackward, hp]
      exact ⟨by rw [i1], i2⟩

/-- the plain walks are the loops of `DeallocateIf` with a sweep that does nothing -/
theorem ptrWalk_eq (h : Heap) : ∀ (fuel : Nat) (b : Int), ptrWalk fuel h b = (ptrDifForward (fun _ h => h) fuel h b).1
  | 0, _ => rfl
  | f+1, b => by
    unfold ptrWalk ptrDifForward
    cases (h b).next with
    | none => rfl
    | some n => exact congrArg _ (ptrWalk_eq h f n)

theorem ptrWalkBack_eq (h : Heap) : ∀ (fuel : Nat) (b : Option Int),
    ptrWalkBack fuel h b = (ptrDifBackward (fun _ h => h) fuel h b).1
  | 0, _ => rfl
  | _+1, none => rfl
  | f+1, some b => by
    unfold ptrWalkBack ptrDifBackward
    exact congrArg _ (ptrWalkBack_eq h f _)

/-- `pre.reverse ++ head :: rest` is `Pool.order` with `post = head :: rest`; the walks start at `mFreeBufferHead` and at
    `pvGetPrevBuffer(mFreeBufferHead)` -/
theorem ptrWalk_refines (h : Heap) (pre rest : List Int) (head : Int) (fuel : Nat)
    (hf1 : rest.length < fuel) (hf2 : pre.length ≤ fuel) (hd : IsDll h (pre.reverse ++ head :: rest)) :
    ptrWalk fuel h head = head :: rest ∧ ptrWalkBack fuel h (h head).prev = pre := by
  have hp : (h head).prev = pre.head? := by rw [(Seg_middle hd.2).1, lastOr_none_eq, List.reverse_reverse]
  rw [ptrWalk_eq, ptrWalkBack_eq, hp]
  exact ⟨(ptrDifForward_visits _ (fun h A T b hd => ⟨A ++ [b], by simpa using hd⟩) h _ rest head fuel hf1 hd).1,
    (ptrDifBackward_visits _ (fun h T Z b hd => ⟨b :: Z, hd⟩) h pre _ fuel hf2 hd).1⟩

/-- the sweeps of the source that delete the swept buffer (all its blocks were selected) or leave the links alone satisfy
    both conditions -/
theorem sweep_unlink_ok (del : Int → Bool) :
    SweepFwdOK (fun b h => if del b then ptrUnlink h b else h) ∧
    SweepBwdOK (fun b h => if del b then ptrUnlink h b else h) := by
  constructor
  · intro h A T b hd
    by_cases hb : del b = true
    · exact ⟨A, by simp only [hb, if_true]; exact (ptrUnlink_split h A T b hd).1⟩
    · exact ⟨A ++ [b], by simp only [hb]; simpa using hd⟩
  · intro h T Z b hd
    by_cases hb : del b = true
    · exact ⟨Z, by simp only [hb, if_true]; exact (ptrUnlink_split h T Z b hd).1⟩
    · exact ⟨b :: Z, by simp only [hb]; simpa using hd⟩

end Momo.Pool
