import Momo.Translated
import Momo.Proof.SegLog
/-!
  C16: `SegmentedArraySettings<sqrt|cnst>::GetSegItemIndexes / GetIndex` and `<sqrt>::GetItemCount` (`<cnst>`: `TrEqMisc2Math`) as
  translated from the header (base table, lean/Momo/Translated.lean; areas and file names: header of `TrEqMisc`) are the
  machine-level model functions `segItem64 / getIndex64 / itemCount64`.
-/
namespace Momo.TrEq
open Momo Momo.Seg

theorem tr_sqrt_indexToLog (i1 : Nat) : Tr.segSqrt_pvIndexToLogItemCount i1 = sqrtIndexToLog64 i1 := by
  unfold Tr.segSqrt_pvIndexToLogItemCount sqrtIndexToLog64
  have := log2db64_lt i1
  rw [add64_of_lt (by omega)]

theorem tr_sqrt_segToLog (s : Nat) : Tr.segSqrt_pvSegIndexToLogItemCount s = sqrtSegToLog64 s := rfl

theorem tr_sqrt_getSegItemIndexes (L0 index : Nat) :
    Tr.segSqrt_GetSegItemIndexes L0 index = segItem64 .sqrt L0 index := by
  unfold Tr.segSqrt_GetSegItemIndexes segItem64
  simp only [tr_sqrt_indexToLog]
  rfl

theorem tr_sqrt_getIndex (L0 s o : Nat) : Tr.segSqrt_GetIndex L0 s o = getIndex64 .sqrt L0 s o := by
  unfold Tr.segSqrt_GetIndex getIndex64
  simp only [tr_sqrt_segToLog]
  rfl

/-- `hL`: the C++ adds `logItemCount < 64` and `logInitialItemCount` as `size_t`; any bound that keeps the sum from wrapping does -/
theorem tr_sqrt_getItemCount (L0 s : Nat) (hL : L0 < 2 ^ 63) : Tr.segSqrt_GetItemCount L0 s = itemCount64 .sqrt L0 s := by
  unfold Tr.segSqrt_GetItemCount itemCount64
  simp only [tr_sqrt_segToLog]
  have : sqrtSegToLog64 s < 64 := log2db64_lt _
  rw [add64_of_lt (by omega)]

theorem tr_cnst_getSegItemIndexes (L0 index : Nat) : Tr.segCnst_GetSegItemIndexes L0 index = segItem64 .cnst L0 index := rfl
theorem tr_cnst_getIndex (L0 s o : Nat) : Tr.segCnst_GetIndex L0 s o = getIndex64 .cnst L0 s o := rfl

end Momo.TrEq
