import Momo.Proof.StdWrapBounds
import Momo.Model.StdSpec
/-!
  C06, section 3 of `Model/StdWrap.lean`: what `set::pvCheckHint` / `map_base::pvFind(hint)` decide, in terms of lower/upper bound.
  With equivalent keys allowed the valid insertion positions are `lb … ub`; with distinct keys they are `ub … lb`,
  i.e. the single position `lb = ub` of an absent key.
-/
namespace Momo.StdWrap
open List

theorem key_lt_of_mem_take {xs : List Item} (hs : Sorted xs) {k i : Nat} (h : i ≤ lb k xs) {a : Item}
    (ha : a ∈ xs.take i) : a.1 < k := by
  obtain ⟨j, hj, rfl⟩ := mem_take_iff_getElem.mp ha
  rw [← keyAt_eq xs j (Nat.lt_of_lt_of_le hj (Nat.min_le_right _ _))]
  exact ((lt_lb_iff hs).mp (Nat.lt_of_lt_of_le (Nat.lt_of_lt_of_le hj (Nat.min_le_left _ _)) h)).2

theorem le_key_of_mem_drop {xs : List Item} (hs : Sorted xs) {k i : Nat} (h : lb k xs ≤ i) {b : Item}
    (hb : b ∈ xs.drop i) : k ≤ b.1 := by
  obtain ⟨j, hj, rfl⟩ := mem_drop_iff_getElem.mp hb
  have hj : i + j < xs.length := Nat.add_comm i j ▸ hj
  rw [← keyAt_eq xs (i + j) hj]
  exact Nat.le_of_not_lt fun hlt =>
    Nat.not_lt.mpr (Nat.le_trans h (Nat.le_add_right i j)) ((lt_lb_iff hs).mpr ⟨hj, hlt⟩)

theorem insertAt_pairwise {R : Item → Item → Prop} {xs : List Item} (h : xs.Pairwise R) (x : Item) (i : Nat)
    (ha : ∀ a ∈ xs.take i, R a x) (hb : ∀ b ∈ xs.drop i, R x b) : (insertAt xs i x).Pairwise R := by
  have hsplit : (xs.take i ++ xs.drop i).Pairwise R := (take_append_drop i xs).symm ▸ h
  obtain ⟨p1, p2, p3⟩ := pairwise_append.mp hsplit
  exact pairwise_append.mpr ⟨p1, pairwise_cons.mpr ⟨hb, p2⟩,
    fun a hat b hbt => (mem_cons.mp hbt).elim (fun e => e ▸ ha a hat) (p3 a hat b)⟩

theorem insertAt_sorted (xs : List Item) (hs : Sorted xs) (x : Item) {i : Nat}
    (h1 : lb x.1 xs ≤ i) (h2 : i ≤ ub x.1 xs) : Sorted (insertAt xs i x) :=
  insertAt_pairwise hs x i
    (fun _ ha => Nat.lt_succ_iff.mp (key_lt_of_mem_take hs (ub_eq_lb_succ x.1 xs ▸ h2) ha))
    (fun _ => le_key_of_mem_drop hs h1)

theorem insertAt_strict (xs : List Item) (hs : StrictSorted xs) (x : Item) {i : Nat}
    (h1 : ub x.1 xs ≤ i) (h2 : i ≤ lb x.1 xs) : StrictSorted (insertAt xs i x) :=
  insertAt_pairwise hs x i (fun _ => key_lt_of_mem_take hs.sorted h2)
    (fun _ => le_key_of_mem_drop hs.sorted (ub_eq_lb_succ x.1 xs ▸ h1))

/-! The two tests of `pvCheckHint` / `pvFind(hint)` for a hint `h ≤ xs.length`, as comparisons of `h` with a bound.
First test, `hint != begin() && !ordered(key(prev(hint)), k)`: `ub k xs < h` when equivalent keys are allowed (`ub_lt_iff`), `lb k xs < h`
with distinct keys (`lb_lt_iff`). Second test, `hint != end() && !ordered(k, key(*hint))`: `h < lb k xs` (`lt_lb_iff'`) resp. `h < ub k xs`
(`lt_ub_iff'`); the primes tell these from `lt_lb_iff` / `lt_ub_iff`, which have `i < xs.length` where these have `h ≠ xs.length`.
Binders in the `StdWrap*` / `StdW*` files: the equivalences that place a position against a bound take sequence and key implicitly (they are used through
`.mp` / `.mpr` / `rw [←]`); every other lemma takes, explicitly, the sequence, its order hypothesis, then the function's further arguments, each followed by
the hypothesis that bounds it (`mapFind_multi xs hs h hl k`). -/

theorem lb_lt_iff {k : Nat} {xs : List Item} (hs : Sorted xs) {h : Nat} (hl : h ≤ xs.length) :
    lb k xs < h ↔ h ≠ 0 ∧ ¬ keyAt xs (h - 1) < k := by
  cases h with
  | zero => exact ⟨fun hh => absurd hh (Nat.not_lt_zero _), fun hh => absurd rfl hh.1⟩
  | succ j =>
    rw [Nat.lt_succ_iff, ← Nat.not_lt, lt_lb_iff hs]
    exact ⟨fun hh => ⟨Nat.succ_ne_zero j, fun hk => hh ⟨hl, hk⟩⟩, fun hh hk => hh.2 hk.2⟩

theorem ub_lt_iff {k : Nat} {xs : List Item} (hs : Sorted xs) {h : Nat} (hl : h ≤ xs.length) :
    ub k xs < h ↔ h ≠ 0 ∧ k < keyAt xs (h - 1) := by
  rw [ub_eq_lb_succ, lb_lt_iff hs hl, Nat.not_lt]; exact Iff.rfl

theorem lt_lb_iff' {k : Nat} {xs : List Item} (hs : Sorted xs) {h : Nat} (hl : h ≤ xs.length) :
    h < lb k xs ↔ h ≠ xs.length ∧ keyAt xs h < k := by
  rw [lt_lb_iff hs, Nat.lt_iff_le_and_ne]
  exact ⟨fun hh => ⟨hh.1.2, hh.2⟩, fun hh => ⟨⟨hl, hh.1⟩, hh.2⟩⟩

theorem lt_ub_iff' {k : Nat} {xs : List Item} (hs : Sorted xs) {h : Nat} (hl : h ≤ xs.length) :
    h < ub k xs ↔ h ≠ xs.length ∧ ¬ k < keyAt xs h := by
  rw [ub_eq_lb_succ, lt_lb_iff' hs hl, Nat.lt_succ_iff, Nat.not_lt]

theorem isOrdered_true (a b : Nat) : isOrdered true a b = !decide (b < a) := rfl
theorem isOrdered_false (a b : Nat) : isOrdered false a b = decide (a < b) := rfl

/-- `TreeSet::pvInsert` / `pvFind(nullptr)` with equivalent keys allowed: behind the last equivalent item -/
theorem treeFind_multi (xs : List Item) (k : Nat) : treeFind true xs k = (ub k xs, true) := rfl

theorem treeFind_unique (xs : List Item) (hs : StrictSorted xs) (k : Nat) :
    treeFind false xs k = if lb k xs < ub k xs then (lb k xs, false) else (lb k xs, true) := by
  unfold treeFind
  -- the test `ub ≠ 0 ∧ ¬ key(ub - 1) < k` is `lb k xs < ub k xs` (`lb_lt_iff` at `h := ub k xs`)
  simp only [Bool.not_false, Bool.true_and, Bool.and_eq_true, decide_eq_true_eq, Bool.not_eq_true',
    decide_eq_false_iff_not, ← lb_lt_iff hs.sorted (ub_le_length k xs)]
  by_cases h : lb k xs < ub k xs
  · rw [if_pos h, if_pos h, Nat.sub_eq_of_eq_add (Nat.le_antisymm (ub_le_lb_succ xs hs k) h)]
  · rw [if_neg h, if_neg h, Nat.le_antisymm (Nat.le_of_not_lt h) (lb_le_ub k xs)]

/-- the valid insertion position closest to the hint, as `max`/`min`; the specification writes the same as a cascade,
    `StdSpec.closest` (`closest_eq_clamp`) -/
def clamp (h lo hi : Nat) : Nat := max lo (min h hi)

theorem clamp_of_le {h lo hi : Nat} (hh : h ≤ lo) : clamp h lo hi = lo :=
  Nat.max_eq_left (Nat.le_trans (Nat.min_le_left _ _) hh)

theorem clamp_of_ge {h lo hi : Nat} (hle : lo ≤ hi) (hh : hi ≤ h) : clamp h lo hi = hi := by
  rw [clamp, Nat.min_eq_right hh, Nat.max_eq_right hle]

theorem clamp_of_mem {h lo hi : Nat} (h1 : lo ≤ h) (h2 : h ≤ hi) : clamp h lo hi = h := by
  rw [clamp, Nat.min_eq_left h2, Nat.max_eq_right h1]

theorem le_clamp (h lo hi : Nat) : lo ≤ clamp h lo hi := Nat.le_max_left _ _

theorem clamp_le (h : Nat) {lo hi : Nat} (hle : lo ≤ hi) : clamp h lo hi ≤ hi :=
  Nat.max_le.mpr ⟨hle, Nat.min_le_right _ _⟩

theorem clamp_closest (h : Nat) {lo hi : Nat} (hle : lo ≤ hi) (p : Nat) (h1 : lo ≤ p) (h2 : p ≤ hi) :
    (if h ≤ clamp h lo hi then clamp h lo hi - h else h - clamp h lo hi) ≤ (if h ≤ p then p - h else h - p) := by
  by_cases hlo : h ≤ lo
  · rw [clamp_of_le hlo, if_pos hlo, if_pos (Nat.le_trans hlo h1)]; exact Nat.sub_le_sub_right h1 h
  · by_cases hhi : h ≤ hi
    · rw [clamp_of_mem (Nat.le_of_not_le hlo) hhi, if_pos (Nat.le_refl h), Nat.sub_self]; exact Nat.zero_le _
    · rw [clamp_of_ge hle (Nat.le_of_not_le hhi), if_neg hhi, if_neg fun hp => hhi (Nat.le_trans hp h2)]
      exact Nat.sub_le_sub_left h2 h

theorem closest_eq_clamp (h lo hi : Nat) (hle : lo ≤ hi) : StdSpec.closest h lo hi = clamp h lo hi := by
  unfold StdSpec.closest
  by_cases h1 : h < lo
  · rw [if_pos h1, clamp_of_le (Nat.le_of_lt h1)]
  · by_cases h2 : hi < h
    · rw [if_neg h1, if_pos h2, clamp_of_ge hle (Nat.le_of_lt h2)]
    · rw [if_neg h1, if_neg h2, clamp_of_mem (Nat.le_of_not_lt h1) (Nat.le_of_not_lt h2)]

theorem checkHint_multi (xs : List Item) (hs : Sorted xs) (h : Nat) (hl : h ≤ xs.length) (k : Nat) :
    checkHint true xs h k = if ub k xs < h then none else some (clamp h (lb k xs) (ub k xs)) := by
  rw [checkHint]
  simp only [isOrdered_true, Bool.not_not, Bool.and_eq_true, decide_eq_true_eq, ← ub_lt_iff hs hl, ← lt_lb_iff' hs hl,
    if_true]
  by_cases hu : ub k xs < h
  · rw [if_pos hu, if_pos hu]
  · rw [if_neg hu, if_neg hu]
    by_cases hlo : h < lb k xs
    · rw [if_pos hlo, clamp_of_le (Nat.le_of_lt hlo)]
    · rw [if_neg hlo, clamp_of_mem (Nat.le_of_not_lt hlo) (Nat.le_of_not_lt hu)]

theorem checkHint_unique (xs : List Item) (hs : StrictSorted xs) (h : Nat) (hl : h ≤ xs.length) (k : Nat) :
    checkHint false xs h k = if h ≤ lb k xs ∧ ub k xs ≤ h then some h else none := by
  have hsr := hs.sorted
  rw [checkHint]
  simp only [isOrdered_false, Bool.and_eq_true, decide_eq_true_eq, Bool.not_eq_true', decide_eq_false_iff_not,
    ← lb_lt_iff hsr hl, ← lt_ub_iff' hsr hl, Bool.false_eq_true, if_false]
  by_cases h1 : lb k xs < h
  · rw [if_pos h1, if_neg fun hh => Nat.not_lt.mpr hh.1 h1]
  · rw [if_neg h1]
    by_cases h2 : h < ub k xs
    · rw [if_pos h2, if_neg fun hh => Nat.not_lt.mpr hh.2 h2]
    · rw [if_neg h2, if_pos ⟨Nat.le_of_not_lt h1, Nat.le_of_not_lt h2⟩]

/-- `map_base::pvFind(hint, key)` takes the same decisions as `set::pvCheckHint` followed by the
    fall-back to the un-hinted search -/
theorem mapFind_hint (multi : Bool) (xs : List Item) (h k : Nat) :
    mapFind multi xs (some h) k =
      match checkHint multi xs h k with
      | none => treeFind multi xs k
      | some h' => (h', true) := by
  rw [mapFind, checkHint]
  generalize (decide (h ≠ 0) && !isOrdered multi (keyAt xs (h - 1)) k) = c1
  generalize (decide (h ≠ xs.length) && !isOrdered multi k (keyAt xs h)) = c2
  cases c1 with
  | true => rfl
  | false =>
    cases c2 with
    | true => cases multi <;> rfl
    | false => rfl

theorem mapFind_multi (xs : List Item) (hs : Sorted xs) (h : Nat) (hl : h ≤ xs.length) (k : Nat) :
    mapFind true xs (some h) k = (clamp h (lb k xs) (ub k xs), true) := by
  rw [mapFind_hint, checkHint_multi xs hs h hl k]
  by_cases hu : ub k xs < h
  · rw [if_pos hu, clamp_of_ge (lb_le_ub k xs) (Nat.le_of_lt hu)]; rfl
  · rw [if_neg hu]

theorem hint_some {h n : Nat} (hl : h ≤ n) : ∀ h', some h = some h' → h' ≤ n := fun _ e => Option.some.inj e ▸ hl

theorem mapFind_unique (xs : List Item) (hs : StrictSorted xs) (hint : Option Nat)
    (hl : ∀ h, hint = some h → h ≤ xs.length) (k : Nat) :
    mapFind false xs hint k = if lb k xs < ub k xs then (lb k xs, false) else (lb k xs, true) := by
  cases hint with
  | none => exact treeFind_unique xs hs k
  | some h =>
    rw [mapFind_hint, checkHint_unique xs hs h (hl h rfl) k]
    by_cases hv : h ≤ lb k xs ∧ ub k xs ≤ h
    · rw [if_pos hv, if_neg (Nat.not_lt.mpr (Nat.le_trans hv.2 hv.1)),
        Nat.le_antisymm hv.1 (Nat.le_trans (lb_le_ub k xs) hv.2)]
    · rw [if_neg hv]; exact treeFind_unique xs hs k

/-- read from map to set; the sibling `setInsertNodeHint_eq` reads the other way, there the map side is the simpler definition -/
theorem mapInsert_hint (multi : Bool) (xs : List Item) (h : Nat) (x : Item) :
    mapInsert multi xs (some h) x = setInsertHint multi xs h x := by
  unfold mapInsert setInsertHint treeInsert
  rw [mapFind_hint]
  cases checkHint multi xs h x.1 <;> rfl

/-- the fall-backs differ (`insert(node)` for the set, the un-hinted `pvFind` for the map), the outcome does not -/
theorem setInsertNodeHint_eq (multi : Bool) (xs : List Item) (h : Nat) (node : Option Item) :
    setInsertNodeHint multi xs h node = mapInsertNodeHint multi xs h node := by
  cases node with
  | none => rfl
  | some x =>
    rw [setInsertNodeHint, mapInsertNodeHint, mapFind_hint]
    cases checkHint multi xs h x.1 with
    | none =>
      rw [insertNode, treeInsert]
      generalize treeFind multi xs x.1 = r
      obtain ⟨p, b⟩ := r
      cases b <;> rfl
    | some h' => rfl

theorem mapInsert_multi (xs : List Item) (hs : Sorted xs) (h : Nat) (hl : h ≤ xs.length) (x : Item) :
    mapInsert true xs (some h) x =
      (insertAt xs (clamp h (lb x.1 xs) (ub x.1 xs)) x, clamp h (lb x.1 xs) (ub x.1 xs), true) := by
  rw [mapInsert, mapFind_multi xs hs h hl x.1]; rfl

theorem mapInsert_unique (xs : List Item) (hs : StrictSorted xs) (hint : Option Nat)
    (hl : ∀ h, hint = some h → h ≤ xs.length) (x : Item) :
    mapInsert false xs hint x =
      (if lb x.1 xs < ub x.1 xs then (xs, lb x.1 xs, false) else (insertAt xs (lb x.1 xs) x, lb x.1 xs, true)) := by
  rw [mapInsert, mapFind_unique xs hs hint hl x.1]
  by_cases h : lb x.1 xs < ub x.1 xs
  · rw [if_pos h, if_pos h]; rfl
  · rw [if_neg h, if_neg h]; rfl

theorem mapInsertOrAssign_unique (xs : List Item) (hs : StrictSorted xs) (hint : Option Nat)
    (hl : ∀ h, hint = some h → h ≤ xs.length) (x : Item) :
    mapInsertOrAssign xs hint x =
      (if lb x.1 xs < ub x.1 xs then (xs.set (lb x.1 xs) x, lb x.1 xs, false)
       else (insertAt xs (lb x.1 xs) x, lb x.1 xs, true)) := by
  rw [mapInsertOrAssign, mapInsert_unique xs hs hint hl x]
  by_cases hp : lb x.1 xs < ub x.1 xs
  · rw [if_pos hp, if_pos hp]
    exact congrArg (fun a => (xs.set (lb x.1 xs) (a, x.2), lb x.1 xs, false)) (keyAt_lb_present xs hs.sorted x.1 hp)
  · rw [if_neg hp, if_neg hp]; rfl

theorem mapInsertNodeHint_multi (xs : List Item) (hs : Sorted xs) (h : Nat) (hl : h ≤ xs.length) (x : Item) :
    mapInsertNodeHint true xs h (some x) =
      (insertAt xs (clamp h (lb x.1 xs) (ub x.1 xs)) x, clamp h (lb x.1 xs) (ub x.1 xs), none) := by
  rw [mapInsertNodeHint, mapFind_multi xs hs h hl x.1]; rfl

theorem mapInsertNodeHint_unique (xs : List Item) (hs : StrictSorted xs) (h : Nat) (hl : h ≤ xs.length) (x : Item) :
    mapInsertNodeHint false xs h (some x) =
      (if lb x.1 xs < ub x.1 xs then (xs, lb x.1 xs, some x) else (insertAt xs (lb x.1 xs) x, lb x.1 xs, none)) := by
  rw [mapInsertNodeHint, mapFind_unique xs hs (some h) (hint_some hl) x.1]
  by_cases hp : lb x.1 xs < ub x.1 xs
  · rw [if_pos hp, if_pos hp]; rfl
  · rw [if_neg hp, if_neg hp]; rfl

theorem insertNode_unique (xs : List Item) (hs : StrictSorted xs) (x : Item) :
    insertNode false xs (some x) =
      (if lb x.1 xs < ub x.1 xs then (xs, lb x.1 xs, false, some x) else (insertAt xs (lb x.1 xs) x, lb x.1 xs, true, none)) := by
  rw [insertNode, treeInsert, treeFind_unique xs hs x.1]
  by_cases h : lb x.1 xs < ub x.1 xs
  · rw [if_pos h, if_pos h]; rfl
  · rw [if_neg h, if_neg h]; rfl

end Momo.StdWrap
