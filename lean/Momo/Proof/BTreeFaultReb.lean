import Momo.Proof.BTreeFaultLedger
import Momo.Proof.BTreeRebalance
/-!
  C02 / C04 / C10 for the B-tree family: the loop of `pvRebalance(node, savedNode, fast)` for every fault schedule. A node merge
  whose item relocation throws (items that are not nothrow relocatable) is swallowed by the `catch (...)` of `pvRebalance` and
  ends the loop; whatever prefix of the loop ran, the in-order list, the balance, the capacities and the saved leaf are kept
  (`rebalanceF_spec`), and the item ledger is back where it was. Without construction faults the loop is the loop of the
  fault-free model (`rebalanceF_free`), so the specification of the plain pass (`rebalance_spec`) is this one at the schedule
  without faults.
-/
namespace Momo.BTreeF
open Momo Momo.BTree Momo.BTree.Node
variable {α : Type}

theorem tryMergeF_spec (S : Sched) (ic : ICfg α) (cfg : Cfg) (items : List α) (cs : List (Node α)) (i : Nat)
    (saved : Option (List Nat)) (w : W) :
    (tryMergeF S ic cfg items cs i saved w).2.led = w.led ∧
    (∀ n' s', (tryMergeF S ic cfg items cs i saved w).1 = .merged n' s' → tryMerge cfg items cs i saved = some (n', s')) ∧
    ((tryMergeF S ic cfg items cs i saved w).1 = .noMerge → tryMerge cfg items cs i saved = none) ∧
    (S.NoCtor → (tryMergeF S ic cfg items cs i saved w).1 = (match tryMerge cfg items cs i saved with
        | some (n', s') => .merged n' s'
        | none => .noMerge)) := by
  unfold tryMergeF
  cases tryMerge cfg items cs i saved with
  | none => exact ⟨rfl, nofun, fun _ => rfl, fun _ => rfl⟩
  | some r =>
    obtain ⟨n', saved'⟩ := r
    simp only
    cases ic.reloc
    · rw [if_neg Bool.false_ne_true]
      have ku := copyLoop_undo S (match cs[i + 1]? with | some n2 => n2.count | none => 0) w
      obtain ⟨-, -, c⟩ := copyLoop_spec S (match cs[i + 1]? with | some n2 => n2.count | none => 0) w
      generalize copyLoop S (match cs[i + 1]? with | some n2 => n2.count | none => 0) w = g at ku c ⊢
      obtain ⟨d, t, w1⟩ := g
      cases t
      · simp only
        cases hf : S.ctor w1.ctorN
        · exact ⟨ku, fun _ _ hh => by cases hh; rfl, nofun, fun _ => rfl⟩
        · exact ⟨ku, nofun, nofun, fun hn => nomatch (hn _).symm.trans hf⟩
      · exact ⟨ku, nofun, nofun, fun hn => nomatch c hn⟩
    · exact ⟨rfl, fun _ _ hh => by cases hh; rfl, nofun, fun _ => rfl⟩

/-- one round under faults leaves the ledger alone (also when a merge was aborted: the `catch (...)` has destroyed the copies),
    without construction faults it is the fault-free round, and in any case its node is the old node or a merge the fault-free
    round could have made at `c` or `c - 1` -/
theorem rebStepF_free (S : Sched) (ic : ICfg α) (cfg : Cfg) (fast : Bool) (items : List α) (cs : List (Node α))
    (c : Nat) (saved : Option (List Nat)) (w : W) :
    (rebStepF S ic cfg fast items cs c saved w).2.led = w.led ∧
    (S.NoCtor → (rebStepF S ic cfg fast items cs c saved w).1 = rebStep cfg fast items cs c saved) ∧
    (((rebStepF S ic cfg fast items cs c saved w).1.1 = inner items cs ∧ (rebStepF S ic cfg fast items cs c saved w).1.2.1 = saved) ∨
      ∃ i, tryMerge cfg items cs i saved =
        some ((rebStepF S ic cfg fast items cs c saved w).1.1, (rebStepF S ic cfg fast items cs c saved w).1.2.1)) := by
  have noAbort : ∀ {i : Nat} {m : MergeRes α}, m = .aborted → ¬ m = (match tryMerge cfg items cs i saved with
      | some (n', s') => .merged n' s'
      | none => .noMerge) := by
    rintro i m rfl h; split at h <;> cases h
  obtain ⟨a1, a2, a3, a4⟩ := tryMergeF_spec S ic cfg items cs c saved w
  unfold rebStepF rebStep
  generalize tryMergeF S ic cfg items cs c saved w = g at a1 a2 a3 a4 ⊢
  obtain ⟨res, w1⟩ := g
  cases res with
  | merged n' saved' => rw [a2 n' saved' rfl]; exact ⟨a1, fun _ => rfl, Or.inr ⟨c, a2 n' saved' rfl⟩⟩
  | aborted => exact ⟨a1, fun hn => absurd (a4 hn) (noAbort rfl), Or.inl ⟨rfl, rfl⟩⟩
  | noMerge =>
    rw [a3 rfl]
    simp only
    split
    · obtain ⟨b1, b2, b3, b4⟩ := tryMergeF_spec S ic cfg items cs (c - 1) saved w1
      generalize tryMergeF S ic cfg items cs (c - 1) saved w1 = g2 at b1 b2 b3 b4 ⊢
      obtain ⟨res2, w2⟩ := g2
      cases res2 with
      | merged n' saved' => rw [b2 n' saved' rfl]; exact ⟨b1.trans a1, fun _ => rfl, Or.inr ⟨c - 1, b2 n' saved' rfl⟩⟩
      | aborted => exact ⟨b1.trans a1, fun hn => absurd (b4 hn) (noAbort rfl), Or.inl ⟨rfl, rfl⟩⟩
      | noMerge => rw [b3 rfl]; exact ⟨b1.trans a1, fun _ => rfl, Or.inl ⟨rfl, rfl⟩⟩
    · exact ⟨a1, fun _ => rfl, Or.inl ⟨rfl, rfl⟩⟩

theorem rebStepF_spec (S : Sched) (ic : ICfg α) (cfg : Cfg) (fast : Bool) {d : Nat} {items : List α} {cs : List (Node α)}
    (hb : Bal (d+1) (inner items cs)) (c : Nat) (saved : Option (List Nat)) (w : W) :
    toList (rebStepF S ic cfg fast items cs c saved w).1.1 = inter cs items ∧
    Bal (d+1) (rebStepF S ic cfg fast items cs c saved w).1.1 ∧
    SavedOk (inner items cs) saved (rebStepF S ic cfg fast items cs c saved w).1.1 (rebStepF S ic cfg fast items cs c saved w).1.2.1 ∧
    (Caps cfg.maxCap (inner items cs) → Caps cfg.maxCap (rebStepF S ic cfg fast items cs c saved w).1.1) := by
  rcases (rebStepF_free S ic cfg fast items cs c saved w).2.2 with ⟨e1, e2⟩ | ⟨i, e⟩
  · rw [e1, e2]; exact ⟨toList_inner _ _, hb, SavedOk.refl _ _, id⟩
  · obtain ⟨x, y, z⟩ := tryMerge_spec hb e
    exact ⟨x, y, z, fun hc => tryMerge_caps hc e⟩

theorem rebAuxF_free (S : Sched) (ic : ICfg α) (cfg : Cfg) (fast : Bool) (n : Node α) (p : List Nat)
    (saved : Option (List Nat)) (w : W) :
    (rebAuxF S ic cfg fast n p saved w).2.led = w.led ∧
    (S.NoCtor → (rebAuxF S ic cfg fast n p saved w).1 = rebAux cfg fast n p saved) := by
  -- the arms of `rebAuxF`: path exhausted; a leaf; no such child; the child's loop goes on (one round here); it has stopped
  fun_induction rebAuxF S ic cfg fast n p saved w with
  | case1 | case2 => exact ⟨rfl, fun _ => rfl⟩
  | case3 items cs c p saved w hc => exact ⟨rfl, fun _ => by simp only [rebAux, hc]⟩
  | case4 items cs c p saved w ch hc ch' savedC w1 hrec ih =>
    rw [hrec] at ih
    obtain ⟨k1, k2, -⟩ := rebStepF_free S ic cfg fast items (cs.set c ch') c (savedLift saved c savedC) w1
    exact ⟨k1.trans ih.1, fun hn => by simp only [rebAux, hc, ← ih.2 hn, if_pos]; exact k2 hn⟩
  | case5 items cs c p saved w ch hc ch' savedC w1 hrec ih =>
    rw [hrec] at ih
    exact ⟨ih.1, fun hn => by simp only [rebAux, hc, ← ih.2 hn]; rfl⟩

theorem rebAuxF_spec (S : Sched) (ic : ICfg α) (cfg : Cfg) (fast : Bool) {d : Nat} {n : Node α} (hb : Bal d n) (p : List Nat)
    (saved : Option (List Nat)) (w : W) :
    toList (rebAuxF S ic cfg fast n p saved w).1.1 = toList n ∧ Bal d (rebAuxF S ic cfg fast n p saved w).1.1 ∧
    SavedOk n saved (rebAuxF S ic cfg fast n p saved w).1.1 (rebAuxF S ic cfg fast n p saved w).1.2.1 ∧
    (Caps cfg.maxCap n → Caps cfg.maxCap (rebAuxF S ic cfg fast n p saved w).1.1) := by
  induction p generalizing n d saved w with
  | nil => exact ⟨rfl, hb, SavedOk.refl _ _, id⟩
  | cons c p ih =>
    cases n with
    | leaf cap is => exact ⟨rfl, hb, SavedOk.refl _ _, id⟩
    | inner items cs =>
      obtain ⟨d', rfl, hall⟩ := hb.inner_depth
      have hlen := hb.inner_len
      simp only [rebAuxF]
      cases hc : cs[c]? with
      | none => exact ⟨rfl, hb, SavedOk.refl _ _, id⟩
      | some ch =>
        obtain ⟨i1, i2, i3, i4⟩ := ih (hall ch (List.mem_of_getElem? hc)) (savedBelow saved c) w
        simp only
        generalize rebAuxF S ic cfg fast ch p (savedBelow saved c) w = g at i1 i2 i3 i4 ⊢
        obtain ⟨⟨ch', savedC, goOn⟩, w1⟩ := g
        simp only at i1 i2 i3 i4
        have hb1 : Bal (d'+1) (inner items (cs.set c ch')) := hb.set_child c i2
        have ht1 : inter (cs.set c ch') items = inter cs items := by
          rw [inter_set cs items c ch ch' hc hlen, inter_split cs items c ch hc hlen, i1]
        have hs1 := savedOk_set_child items cs c ch ch' saved savedC hc (by simp [size, i1]) i3
        have hc1 : Caps cfg.maxCap (inner items cs) → Caps cfg.maxCap (inner items (cs.set c ch')) :=
          fun hcaps => hcaps.set_child c (i4 (hcaps.getElem hc))
        cases goOn with
        | true =>
          obtain ⟨a, b, e, f⟩ := rebStepF_spec S ic cfg fast hb1 c (savedLift saved c savedC) w1
          exact ⟨by rw [a, toList_inner, ht1], b, hs1.trans e, fun h => f (hc1 h)⟩
        | false => exact ⟨by rw [toList_inner, toList_inner, ht1], hb1, hs1, hc1⟩

/-- the ledger clause holds under every schedule (a swallowed fault included); it is what `removeAtF_spec` takes -/
theorem rebalanceF_free (S : Sched) (ic : ICfg α) (cfg : Cfg) (fast : Bool) (r : Node α) (path saved : List Nat) (w : W) :
    (rebalanceF S ic cfg fast r path saved w).2.led = w.led ∧
    (S.NoCtor → (rebalanceF S ic cfg fast r path saved w).1 = rebalance cfg fast r path saved) := by
  unfold rebalanceF rebalance
  generalize collapseRoot r saved path = C
  obtain ⟨r1, saved1, path1⟩ := C
  obtain ⟨a, b⟩ := rebAuxF_free S ic cfg fast r1 path1 (some saved1) w
  exact ⟨a, fun hn => by simp only [← b hn]⟩

theorem rebalanceF_spec (S : Sched) (ic : ICfg α) (cfg : Cfg) (fast : Bool) (w : W) :
    RebOK cfg (fun r path saved => (rebalanceF S ic cfg fast r path saved w).1) := by
  intro d r hb path saved
  dsimp only
  obtain ⟨a, ⟨d1, b⟩, e, f⟩ := collapseRoot_spec hb saved path
  unfold rebalanceF
  generalize collapseRoot r saved path = C at a b e f
  obtain ⟨r1, saved1, path1⟩ := C
  simp only at a b e f ⊢
  obtain ⟨a2, b2, e2, f2⟩ := rebAuxF_spec S ic cfg fast b path1 (some saved1) w
  generalize rebAuxF S ic cfg fast r1 path1 (some saved1) w = g at a2 b2 e2 f2 ⊢
  obtain ⟨⟨r2, saved2, go⟩, w'⟩ := g
  refine ⟨a2.trans a, ⟨d1, b2⟩, fun cap its hnode => ?_, fun h => f2 (f _ h)⟩
  obtain ⟨e1a, e1b⟩ := e cap its hnode
  obtain ⟨sp', cap', its', g1, g2', g3, g4⟩ := e2 saved1 cap its rfl e1a
  subst g1
  exact ⟨cap', its', g2', g3, g4.trans e1b⟩

end Momo.BTreeF

namespace Momo.BTree
open Momo.BTreeF Node
variable {α : Type}

/-- `RebOK cfg (rebalance cfg fast)` written out (`rebOK_rebalance`) -/
theorem rebalance_spec (cfg : Cfg) (fast : Bool) {d : Nat} {r : Node α} (hb : Bal d r) (path saved : List Nat) :
    toList (rebalance cfg fast r path saved).1 = toList r ∧ (∃ d', Bal d' (rebalance cfg fast r path saved).1) ∧
    (∀ cap its, nodeAt? r saved = some (leaf cap its) →
      ∃ cap' its', nodeAt? (rebalance cfg fast r path saved).1 (rebalance cfg fast r path saved).2 = some (leaf cap' its') ∧
        its.length ≤ its'.length ∧
        offsetOf (rebalance cfg fast r path saved).1 (rebalance cfg fast r path saved).2 = offsetOf r saved) ∧
    (Caps cfg.maxCap r → Caps cfg.maxCap (rebalance cfg fast r path saved).1) := by
  have h := rebalanceF_spec Sched.clean { reloc := true, assign := true } cfg fast {} hb path saved
  dsimp only at h
  rwa [(rebalanceF_free Sched.clean _ cfg fast r path saved {}).2 Sched.clean_clean.ctor] at h

end Momo.BTree
