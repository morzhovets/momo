import Momo.Proof.SortCount
/-!
  C17: `RadixSorter::pvRadixSort` / `pvSort` / `Sort` (RadixSorter.h:71-182) sort their range,
  for every radix size `R ≥ 1`, every code width and every `groupFunc` meeting its contract - given a
  partition step meeting `PartSpec` (shown for the real in-place partition in `SortPartition.lean`).  The recursion keeps `HighEq`
  (all codes of the range agree above the current digit).  Before the recursion stands what its bucket loop needs: after the partition step the
  range is the concatenation of its radix buckets and the `endIndexes` array lists the bucket ends (`exists_buckets`; the loop itself is
  `bucketLoop_sorts` in SortSel).
-/
namespace Momo.Sort
variable {σ α : Type}

/-- contract of the partition step `pvRadixSort(begin, codeGetter, iterSwapper, shift, endIndexes)`: given the
cumulative radix counts it permutes the range into non-decreasing radix order -/
def PartSpec (abs : σ → List (α × Nat)) (ok : σ → Prop) (R : Nat) (Pt : PartFn σ) : Prop :=
  ∀ s pre seg post shift (E : Array Nat), Holds abs ok s (pre ++ seg ++ post) → E.size = 2 ^ R →
    (∀ q, q < 2 ^ R → cnt E q = seg.countP (fun x => decide (rad R shift x ≤ q))) →
    ∃ s' seg', Pt s pre.length seg.length shift E = some s' ∧ Holds abs ok s' (pre ++ seg' ++ post) ∧ seg'.Perm seg ∧
      seg'.Pairwise (fun x y => rad R shift x ≤ rad R shift y)

/-- all codes of the range agree above bit `k`: the invariant of the radix recursion.  `pvRadixSort` at `shift` is entered with `HighEq seg (shift + R)`; a
bucket of one radix satisfies `HighEq · shift` (`HighEq.lower`), so buckets in radix order are in code order (`code_lt_of_rad_lt`), and at `shift = 0`
a bucket has one code (`HighEq.const`). -/
def HighEq (seg : List (α × Nat)) (k : Nat) : Prop := ∀ x ∈ seg, ∀ y ∈ seg, x.2 / 2 ^ k = y.2 / 2 ^ k

theorem HighEq.mono {seg : List (α × Nat)} {k k' : Nat} (h : HighEq seg k) (hk : k ≤ k') : HighEq seg k' := by
  intro x hx y hy
  have e : ∀ c : Nat, c / 2 ^ k' = c / 2 ^ k / 2 ^ (k' - k) := by
    intro c
    rw [Nat.div_div_eq_div_mul, ← Nat.pow_add, show k + (k' - k) = k' by omega]
  rw [e, e, h x hx y hy]

theorem HighEq.sub {seg seg' : List (α × Nat)} {k : Nat} (h : HighEq seg k) (hs : ∀ x ∈ seg', x ∈ seg) : HighEq seg' k :=
  fun x hx y hy => h x (hs x hx) y (hs y hy)

theorem HighEq.lower {seg : List (α × Nat)} {R shift : Nat} (h : HighEq seg (shift + R))
    (hr : ∀ x ∈ seg, ∀ y ∈ seg, rad R shift x = rad R shift y) : HighEq seg shift := by
  intro x hx y hy
  rw [shift_split R x.2 shift, shift_split R y.2 shift, h x hx y hy]
  have := hr x hx y hy
  unfold rad at this
  rw [this]

theorem HighEq.const {seg : List (α × Nat)} (h : HighEq seg 0) : ∀ x ∈ seg, ∀ y ∈ seg, x.2 = y.2 := fun x hx y hy => by
  have := h x hx y hy
  rwa [Nat.pow_zero, Nat.div_one, Nat.div_one] at this

theorem le_nextShift_add (R shift : Nat) : shift ≤ nextShift R shift + R := by
  unfold nextShift; split <;> omega

theorem nextShift_lt (R shift : Nat) (hR : 0 < R) (hs : 0 < shift) : nextShift R shift < shift := by
  unfold nextShift; split <;> omega

theorem code_lt_of_rad_lt {R shift : Nat} {x y : α × Nat} (hhi : x.2 / 2 ^ (shift + R) = y.2 / 2 ^ (shift + R))
    (hr : rad R shift x < rad R shift y) : x.2 < y.2 := by
  apply Decidable.byContradiction
  intro hge
  have h1 : y.2 / 2 ^ shift ≤ x.2 / 2 ^ shift := Nat.div_le_div_right (by omega)
  rw [shift_split R x.2 shift, shift_split R y.2 shift, hhi] at h1
  unfold rad at hr
  omega

theorem filter_lt_succ (f : α × Nat → Nat) (l : List (α × Nat)) (n : Nat) (hp : l.Pairwise (fun x y => f x ≤ f y)) :
    l.filter (fun x => decide (f x < n + 1)) = l.filter (fun x => decide (f x < n)) ++ l.filter (fun x => f x == n) := by
  induction l with
  | nil => rfl
  | cons a t ih =>
    obtain ⟨ha, ht⟩ := List.pairwise_cons.1 hp
    simp only [List.filter_cons, decide_eq_true_eq, beq_iff_eq, ih ht]
    rcases Nat.lt_trichotomy (f a) n with h | h | h
    · rw [if_pos (Nat.lt_succ_of_lt h), if_pos h, if_neg (Nat.ne_of_lt h), List.cons_append]
    · -- `a` is the first cell of key `n`: no key below `n` follows
      rw [if_pos (Nat.lt_succ_of_le (Nat.le_of_eq h)), if_neg (Nat.not_lt.2 (Nat.le_of_eq h.symm)), if_pos h,
        List.filter_eq_nil_iff.2 fun y hy => by simpa using Nat.le_trans (Nat.le_of_eq h.symm) (ha y hy), List.nil_append, List.nil_append]
    · rw [if_neg (Nat.not_lt.2 h), if_neg (Nat.not_lt.2 (Nat.le_of_lt h)), if_neg (Nat.ne_of_gt h)]

/-- the buckets `0 … n-1` of a range by key `f` (empty ones included, as `endIndexes` has an entry for every radix); for a range in key order they
are its consecutive blocks (`flatten_classes`) and `endIndexes` lists their ends (`toList_eq_ends`) -/
def classes (f : α × Nat → Nat) (l : List (α × Nat)) (n : Nat) : List (List (α × Nat)) :=
  (List.range n).map fun q => l.filter fun x => f x == q

theorem flatten_classes (f : α × Nat → Nat) (l : List (α × Nat)) (n : Nat) (hp : l.Pairwise (fun x y => f x ≤ f y))
    (hlt : ∀ x ∈ l, f x < n) : (classes f l n).flatten = l := by
  have h : ∀ m, (classes f l m).flatten = l.filter (fun x => decide (f x < m)) := fun m => by
    induction m with
    | zero => exact (List.filter_eq_nil_iff.2 fun x _ => by simp).symm
    | succ m ih =>
      rw [classes, List.range_succ, List.map_append, List.flatten_append, ← classes, ih, filter_lt_succ f l m hp]
      simp only [List.map_cons, List.map_nil, List.flatten_cons, List.flatten_nil, List.append_nil]
  rw [h n, List.filter_eq_self.2 fun x hx => decide_eq_true (hlt x hx)]

theorem ends_classes (f : α × Nat → Nat) (l : List (α × Nat)) :
    ∀ (m a : Nat), ends (startC f l a) ((List.range' a m).map fun q => l.filter fun x => f x == q) = (List.range' a m).map (cumC f l) := by
  intro m
  induction m with
  | zero => intro a; rfl
  | succ m ih =>
    intro a
    simp only [List.range'_succ, List.map_cons, ends]
    rw [← List.countP_eq_length_filter, ← cumC_eq_startC_add, ← startC_succ, ih (a + 1), startC_succ]

theorem toList_eq_ends (f : α × Nat → Nat) (l : List (α × Nat)) (n : Nat) (E : Array Nat) (hE : E.size = n)
    (hcnt : ∀ q, q < n → cnt E q = cumC f l q) :
    E.toList = ends 0 (classes f l n) := by
  have h0 := ends_classes f l n 0
  rw [startC_zero, ← List.range_eq_range'] at h0
  rw [classes, h0]
  apply List.ext_getElem?
  intro k
  rw [Array.getElem?_toList, List.getElem?_map]
  by_cases hk : k < n
  · rw [List.getElem?_range hk, getElem?_eq_cnt (hE ▸ hk), hcnt k hk]; rfl
  · rw [Array.getElem?_eq_none (hE ▸ Nat.le_of_not_lt hk), List.getElem?_eq_none (by rw [List.length_range]; exact Nat.le_of_not_lt hk)]
    rfl

theorem exists_buckets (f : α × Nat → Nat) (l : List (α × Nat)) (n : Nat) (E : Array Nat) (hE : E.size = n)
    (hcnt : ∀ q, q < n → cnt E q = cumC f l q) (hp : l.Pairwise (fun x y => f x ≤ f y))
    (hlt : ∀ x ∈ l, f x < n) :
    ∃ bs : List (List (α × Nat)), bs.flatten = l ∧ E.toList = ends 0 bs ∧
      (∀ b ∈ bs, (∀ x ∈ b, x ∈ l) ∧ ∀ x ∈ b, ∀ y ∈ b, f x = f y) ∧
      bs.Pairwise (fun b1 b2 => ∀ x ∈ b1, ∀ y ∈ b2, f x < f y) := by
  refine ⟨classes f l n, flatten_classes f l n hp hlt, toList_eq_ends f l n E hE hcnt, fun b hb => ?_, ?_⟩
  · obtain ⟨q, _, rfl⟩ := List.mem_map.1 hb
    refine ⟨fun x hx => (List.mem_filter.1 hx).1, fun x hx y hy => ?_⟩
    rw [beq_iff_eq.1 (List.mem_filter.1 hx).2, beq_iff_eq.1 (List.mem_filter.1 hy).2]
  · refine List.pairwise_map.2 (List.Pairwise.imp ?_ (List.pairwise_lt_range (n := n)))
    intro q q' hqq x hx y hy
    rw [beq_iff_eq.1 (List.mem_filter.1 hx).2, beq_iff_eq.1 (List.mem_filter.1 hy).2]; exact hqq

section
variable {M : Mem σ α} {abs : σ → List (α × Nat)} {ok : σ → Prop} (L : Lawful M abs ok)
  {Q : α × Nat → Prop} {P : List (α × Nat) → Prop} {G : GroupFn σ} {Pt : PartFn σ} {R : Nat}
  (hG : GroupSpec abs ok Q P G) (hP : GoodP Q P) (hPt : PartSpec abs ok R Pt) (hR : 0 < R)
include L hG hP hPt hR

theorem radixSortF_spec :
    ∀ (fuel : Nat) (s : σ) (pre seg post : List (α × Nat)) (shift : Nat), shift < fuel →
      Holds abs ok s (pre ++ seg ++ post) → (∀ x ∈ seg, Q x) → 0 < seg.length → HighEq seg (shift + R) →
      ∃ s' seg', radixSortF M R G Pt fuel s pre.length seg.length shift = some s' ∧
        Holds abs ok s' (pre ++ seg' ++ post) ∧ SortPost P seg seg' := by
  intro fuel
  induction fuel with
  | zero => intro s pre seg post shift h; exact absurd h (Nat.not_lt_zero _)
  | succ f ih =>
    intro s pre seg post shift hf hh hQ hlen hhigh
    cases seg with
    | nil => exact absurd hlen (Nat.lt_irrefl 0)
    | cons x0 t =>
    have hc0 : M.code s pre.length = some x0.2 := L.code_at hh 0 hlen
    -- the C++ counts cell 0 before its loop; that is one more iteration of the loop, started on the empty histogram
    obtain ⟨E, sc, sr, hcl, hEsz, hEcnt, hsc, hsr⟩ := countLoop_spec L pre post R shift x0.2 (getRadix R x0.2 shift) s (x0 :: t) hh
      (t.length + 1) 0 (Array.replicate (2 ^ R) 0) true true (Nat.zero_add _) Array.size_replicate
      (fun q => cnt_replicate _ q) (iff_of_true rfl fun _ h => nomatch h) (iff_of_true rfl fun _ h => nomatch h)
    rw [countLoop, Nat.add_zero, hc0, Option.bind_some] at hcl
    simp only [beq_self_eq_true, Bool.and_self, Nat.zero_add] at hcl
    obtain ⟨E0, hE0, hcl⟩ := Option.bind_eq_some_iff.1 hcl
    rw [radixSortF, if_neg (Nat.ne_of_gt hlen), hc0, Option.bind_some, hE0, Option.bind_some,
      show (x0 :: t).length - 1 = t.length from rfl, hcl]
    simp only [Option.bind_some]
    by_cases hscv : sc = true
    · -- singleCode: groupFunc on the whole range
      rw [if_pos hscv]
      exact hG.sortPost hh hQ fun x hx y hy => (hsc.1 hscv x hx).trans (hsc.1 hscv y hy).symm
    · rw [if_neg hscv]
      by_cases hsrv : sr = true
      · -- singleRadix: same range, next digit
        have hlow : HighEq (x0 :: t) shift := hhigh.lower fun x hx y hy => (hsr.1 hsrv x hx).trans (hsr.1 hsrv y hy).symm
        have hs0 : shift ≠ 0 := fun h0 => hscv (hsc.2 fun x hx => (h0 ▸ hlow).const x hx x0 List.mem_cons_self)
        rw [if_pos hsrv, if_neg hs0]
        exact ih s pre (x0 :: t) post (nextShift R shift)
          (Nat.lt_of_lt_of_le (nextShift_lt R shift hR (Nat.pos_of_ne_zero hs0)) (Nat.le_of_lt_succ hf))
          hh hQ hlen (hlow.mono (le_nextShift_add R shift))
      · obtain ⟨E', hE', hE'sz, hE'cnt⟩ := prefixSums_spec (x0 :: t) (rad R shift) (2 ^ R) (2 ^ R - 1) 1 E (Nat.le_refl 1)
          (Nat.add_sub_of_le (Nat.two_pow_pos R)) hEsz
          (fun q hq => by rw [Nat.lt_one_iff.1 hq, hEcnt 0, cumC_zero])
          (fun q _ => hEcnt q)
        obtain ⟨s1, seg1, hp1, hh1, hperm1, hpw1⟩ := hPt s pre (x0 :: t) post shift E' hh hE'sz
          fun q hq => (hE'cnt q hq).trans (cumC_def _ _ q)
        rw [if_neg hsrv, hE', Option.bind_some, hp1, Option.bind_some]
        obtain ⟨bs, hflat, hends, hbs, hrad⟩ := exists_buckets (rad R shift) seg1 (2 ^ R) E' hE'sz
          (fun q hq => (hE'cnt q hq).trans (cumC_perm _ hperm1 q).symm) hpw1 (fun x _ => rad_lt x)
        subst hflat
        have hmem : ∀ b ∈ bs, ∀ x ∈ b, x ∈ x0 :: t := fun b hb x hx => hperm1.mem_iff.1 (List.mem_flatten.2 ⟨b, hb, hx⟩)
        have hbucket : ∀ b ∈ bs, (∀ x ∈ b, Q x) ∧ HighEq b shift := fun b hb =>
          ⟨fun x hx => hQ x (hmem b hb x hx), (hhigh.sub (hmem b hb)).lower (hbs b hb).2⟩
        have hstrict : bs.Pairwise (fun b1 b2 => ∀ x ∈ b1, ∀ y ∈ b2, x.2 < y.2) :=
          hrad.imp_of_mem fun hb1 hb2 h x hx y hy => code_lt_of_rad_lt (hhigh x (hmem _ hb1 x hx) y (hmem _ hb2 y hy)) (h x hx y hy)
        have finish : ∀ (fn : σ → Nat → Nat → Option σ),
            (∀ b ∈ bs, ∀ (s : σ) (pre' post' : List (α × Nat)), Holds abs ok s (pre' ++ b ++ post') →
              ∃ s' b', fn s pre'.length b.length = some s' ∧ Holds abs ok s' (pre' ++ b' ++ post') ∧ SortPost P b b') →
            ∃ s' seg', bucketLoop fn pre.length E'.toList s1 0 = some s' ∧
              Holds abs ok s' (pre ++ seg' ++ post) ∧ SortPost P (x0 :: t) seg' := by
          intro fn hfn
          obtain ⟨s2, tail, g1, g2, p1, p2, p3⟩ := bucketLoop_sorts pre post hP fn bs s1 [] hh1 hfn hstrict fun b hb => (hbucket b hb).1
          exact ⟨s2, tail, hends ▸ g1, g2, p1.trans hperm1, p2, p3⟩
        by_cases hsp : shift > 0
        · rw [if_pos hsp]
          refine finish _ fun b hb s' pre' post' hhb => ?_
          obtain ⟨hbQ, hbh⟩ := hbucket b hb
          refine pvSortWith_spec L hG hP pre' post' R _ s' b hhb hbQ fun h2 _ => ?_
          exact ih s' pre' b post' (nextShift R shift) (Nat.lt_of_lt_of_le (nextShift_lt R shift hR hsp) (Nat.le_of_lt_succ hf))
            hhb hbQ (Nat.lt_trans Nat.zero_lt_two h2) (hbh.mono (le_nextShift_add R shift))
        · rw [if_neg hsp]
          refine finish _ fun b hb s' pre' post' hhb => ?_
          obtain ⟨hbQ, hbh⟩ := hbucket b hb
          exact hG.sortPost hhb hbQ ((Nat.eq_zero_of_not_pos hsp ▸ hbh).const)

theorem radixSorterSortWith_spec (W : Nat) (s : σ) (l : List (α × Nat)) (hh : Holds abs ok s l)
    (hQ : ∀ x ∈ l, Q x) (hW : ∀ x ∈ l, x.2 < 2 ^ W) :
    ∃ s' l', radixSorterSortWith M R W G Pt s l.length = some s' ∧ Holds abs ok s' l' ∧ SortPost P l l' := by
  unfold radixSorterSortWith
  have hh' : Holds abs ok s ([] ++ l ++ []) := by simpa using hh
  obtain ⟨s', l', g1, g2, g3⟩ := pvSortWith_spec L hG hP [] [] R
    (fun s b n => radixSortF M R G Pt ((if W > R then W - R else 0) + 1) s b n (if W > R then W - R else 0)) s l hh' hQ
    (by
      intro h2 _
      apply radixSortF_spec L hG hP hPt hR _ s [] l [] _ (by omega) hh' hQ (by omega)
      intro x hx y hy
      have hk : W ≤ (if W > R then W - R else 0) + R := by split <;> omega
      have e : ∀ c : Nat, c < 2 ^ W → c / 2 ^ ((if W > R then W - R else 0) + R) = 0 := by
        intro c hc
        apply Nat.div_eq_of_lt
        exact Nat.lt_of_lt_of_le hc (Nat.pow_le_pow_right (by omega) hk)
      rw [e _ (hW x hx), e _ (hW y hy)])
  exact ⟨s', l', by simpa using g1, by simpa using g2, g3⟩

end

end Momo.Sort
