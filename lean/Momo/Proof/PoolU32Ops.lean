import Momo.Proof.PoolU32
/-!
  `MemPoolUInt32` (C09): invariant of the state machine (free chain stored in the free blocks, buffers that do not overlap,
  count) and its preservation by `Allocate` / `pvNewBuffer` / `Deallocate` / `pvClear` / `DeallocateAll` / destructor;
  exact ledger of the memory manager over every legal history.
-/
namespace Momo.PoolU32
open Momo
open Momo.Pool (Ev ledger Disj Inside Settles length_filter_not_mem)

/-- the link word of block `i` as the pool sees it -/
def lk (C : Cfg) (st : State) (i : Nat) : Option Nat := st.mem (rp C st i)

def Chain (l : Nat → Option Nat) : Nat → List Nat → Prop
  | s, [] => s = nullPtr
  | s, x :: xs => s = x ∧ ∃ v, l x = some v ∧ Chain l v xs

theorem Chain_congr {l l' : Nat → Option Nat} {ch : List Nat} (h : ∀ x ∈ ch, l' x = l x) (s : Nat) :
    Chain l s ch → Chain l' s ch := by
  induction ch generalizing s with
  | nil => intro h0; exact h0
  | cons x xs ih =>
    intro ⟨h1, v, h2, h3⟩
    exact ⟨h1, v, by rw [h x (by simp)]; exact h2, ih (fun y hy => h y (by simp [hy])) v h3⟩

theorem Chain_block (l : Nat → Option Nat) (B N : Nat)
    (h : ∀ o, o < N → l (B + o) = some (if o + 1 < N then B + o + 1 else nullPtr)) :
    ∀ k o, o + k = N → Chain l (if k = 0 then nullPtr else B + o) (List.range' (B + o) k) := by
  intro k
  induction k with
  | zero => intro o _; rfl
  | succ k ih =>
    intro o hk
    rw [if_neg (Nat.succ_ne_zero k), List.range'_succ]
    refine ⟨rfl, _, h o (by omega), ?_⟩
    have := ih (o + 1) (by omega)
    by_cases hk0 : k = 0
    · rw [if_neg (by omega)]; rwa [if_pos hk0] at this
    · rw [if_pos (by omega)]; rwa [if_neg hk0] at this

/-- the invariant of `MemPoolUInt32`: the number of buffers is within `mMaxBufferCount` (`lenMax`) and the capacity of `mBuffers`
    (`lenCap`), the buffers do not overlap (`disj`), and the free chain threaded through the first words of the free blocks, from
    `mBlockHead` to `nullPtr`, visits each free block once: a block is live iff the pool does not own its link word, and `mAllocCount`
    counts the live ones (`chain`). -/
structure WF (C : Cfg) (st : State) : Prop where
  lenMax : st.bufs.length ≤ C.maxBuf
  lenCap : st.bufs.length ≤ st.arrCap
  disj : st.bufs.Pairwise (fun a b => Disj a C.bufferSize b C.bufferSize)
  chain : ∃ ch : List Nat, Chain (lk C st) st.head ch ∧ ch.Nodup ∧ (∀ i ∈ ch, i < st.bufs.length * C.N) ∧
            (∀ i, i < st.bufs.length * C.N → (lk C st i = none ↔ i ∉ ch)) ∧
            st.allocCount + ch.length = st.bufs.length * C.N

theorem WF.empty (C : Cfg) : WF C State.empty := by
  refine ⟨by simp [State.empty], by simp [State.empty], by simp [State.empty], [], ?_, by simp, by simp, ?_, by simp [State.empty]⟩
  · show State.empty.head = nullPtr; rfl
  · intro i hi; simp [State.empty] at hi

theorem mem_live (C : Cfg) (st : State) (i : Nat) :
    i ∈ live C st ↔ i < st.bufs.length * C.N ∧ lk C st i = none := by
  unfold live lk
  simp [List.mem_filter, List.mem_range, Option.isNone_iff_eq_none]

theorem live_nodup (C : Cfg) (st : State) : (live C st).Nodup := List.nodup_range.filter _

theorem WF.count_exact {C : Cfg} {st : State} (h : WF C st) : st.allocCount = (live C st).length := by
  obtain ⟨ch, _, hnd, hlt, hnone, hcnt⟩ := h.chain
  have e : live C st = (List.range (st.bufs.length * C.N)).filter (fun x => !ch.contains x) := by
    unfold live
    apply List.filter_congr
    intro i hi
    have hi' := List.mem_range.mp hi
    have := hnone i hi'
    unfold lk at this
    by_cases hc : i ∈ ch
    · have hne : st.mem (rp C st i) ≠ none := fun e => (this.mp e) hc
      cases hm : st.mem (rp C st i) with
      | none => exact absurd hm hne
      | some v => simp [hc]
    · simp [hc, this.mpr hc]
  have := length_filter_not_mem (List.nodup_range (n := st.bufs.length * C.N)) ch hnd
    (fun c hc => List.mem_range.mpr (hlt c hc))
  rw [e]; simp only [List.length_range] at this; omega

theorem WF.chain_nil {C : Cfg} (hC : C.Legal) {st : State} (h : WF C st) (hh : st.head = nullPtr) :
    (∀ i, i < st.bufs.length * C.N → lk C st i = none) ∧ st.allocCount = st.bufs.length * C.N := by
  obtain ⟨ch, hch, _, hlt, hnone, hcnt⟩ := h.chain
  cases ch with
  | nil => exact ⟨fun i hi => (hnone i hi).mpr (by simp), by simpa using hcnt⟩
  | cons x xs =>
    have hx := hlt x (by simp)
    have : st.head = x := hch.1
    have h1 : st.bufs.length * C.N ≤ C.maxBuf * C.N := Nat.mul_le_mul_right _ h.lenMax
    have h2 := hC.hMax
    omega

theorem freeChain_succ (C : Cfg) (st : State) (f i : Nat) :
    freeChain C st (f + 1) i =
      if i = nullPtr then some []
      else match realPtr C st i with
        | none => none
        | some a => match st.mem a with
          | none => none
          | some nxt => (freeChain C st f nxt).map (i :: ·) := rfl

theorem freeChain_of_Chain (C : Cfg) (st : State) : ∀ (ch : List Nat) (s : Nat), Chain (lk C st) s ch →
    (∀ i ∈ ch, i < st.bufs.length * C.N ∧ i ≠ nullPtr) → freeChain C st (ch.length + 1) s = some ch := by
  intro ch
  induction ch with
  | nil => intro s h _; have : s = nullPtr := h; simp [freeChain, this]
  | cons x xs ih =>
    intro s ⟨h1, v, h2, h3⟩ hlt
    subst h1
    obtain ⟨hx, hxn⟩ := hlt s (by simp)
    obtain ⟨b, _, _, hrp, hrpe⟩ := rp_eq C st s hx
    have hrp' : realPtr C st s = some (rp C st s) := by rw [hrp, hrpe]
    have h2' : st.mem (rp C st s) = some v := h2
    rw [List.length_cons, freeChain_succ, if_neg hxn, hrp']
    simp only [h2']
    rw [ih v h3 (fun i hi => hlt i (by simp [hi]))]
    rfl

theorem WF.chain_live {C : Cfg} (hC : C.Legal) {st : State} (h : WF C st) :
    ∃ ch, freeChain C st (ch.length + 1) st.head = some ch ∧ ch.Nodup ∧ (∀ i ∈ ch, i ∉ live C st) ∧
      (∀ i, i < st.bufs.length * C.N → (i ∈ ch ∨ i ∈ live C st)) := by
  obtain ⟨ch, hch, hnd, hlt, hnone, _⟩ := h.chain
  have hb : ∀ i ∈ ch, i < st.bufs.length * C.N ∧ i ≠ nullPtr := by
    intro i hi
    have h1 : st.bufs.length * C.N ≤ C.maxBuf * C.N := Nat.mul_le_mul_right _ h.lenMax
    have := hC.hMax
    have := hlt i hi
    exact ⟨this, by omega⟩
  refine ⟨ch, freeChain_of_Chain C st ch st.head hch hb, hnd, ?_, ?_⟩
  · intro i hi hl
    obtain ⟨h1, h2⟩ := (mem_live C st i).mp hl
    exact ((hnone i h1).mp h2) hi
  · intro i hi
    by_cases hc : i ∈ ch
    · exact Or.inl hc
    · exact Or.inr ((mem_live C st i).mpr ⟨hi, (hnone i hi).mpr hc⟩)

theorem rp_congr (C : Cfg) {st st' : State} (hb : st'.bufs = st.bufs) (i : Nat) :
    rp C st' i = rp C st i := by
  unfold rp realPtr; rw [hb]

/-- the pool-visible part of the state is unchanged (the storage of `mBuffers` may have grown) -/
def SameU (st st' : State) : Prop :=
  st'.bufs = st.bufs ∧ st'.head = st.head ∧ st'.mem = st.mem ∧ st'.allocCount = st.allocCount

theorem WF.sameU {C : Cfg} {st st' : State} (h : WF C st) (hs : SameU st st') (hcap : st.bufs.length ≤ st'.arrCap) :
    WF C st' ∧ ∀ i, i ∈ live C st' ↔ i ∈ live C st := by
  obtain ⟨hb, hh, hm, ha⟩ := hs
  have hl : ∀ i, lk C st' i = lk C st i := by intro i; unfold lk; rw [rp_congr C hb, hm]
  have hlk : lk C st' = lk C st := funext hl
  constructor
  · refine ⟨by rw [hb]; exact h.lenMax, by rw [hb]; exact hcap, by rw [hb]; exact h.disj, ?_⟩
    rw [hlk, hh, hb, ha]; exact h.chain
  · intro i; rw [mem_live, mem_live, hl, hb]

theorem rp_ne {C : Cfg} (hC : C.Legal) {st : State} (h : WF C st) (i j : Nat) (hi : i < st.bufs.length * C.N)
    (hj : j < st.bufs.length * C.N) (hij : i ≠ j) : rp C st i ≠ rp C st j := by
  have := rp_disj C hC.hN st h.disj i j hi hj hij
  have hS := hC.hS
  simp only [sizeofU32] at hS
  unfold Disj at this; omega

/-- one link write: different blocks have different real pointers -/
theorem lk_setW {C : Cfg} (hC : C.Legal) {st st' : State} (h : WF C st) (hb : st'.bufs = st.bufs) {k : Nat}
    {v : Option Nat} (hm : st'.mem = setW st.mem (rp C st k) v) (hk : k < st.bufs.length * C.N) (i : Nat)
    (hi : i < st.bufs.length * C.N) : lk C st' i = if i = k then v else lk C st i := by
  unfold lk
  rw [rp_congr C hb i, hm]
  unfold setW
  by_cases hi' : i = k
  · rw [hi', if_pos rfl, if_pos rfl]
  · rw [if_neg (rp_ne hC h i k hi hk hi'), if_neg hi']

theorem old_rp_eq (C : Cfg) (st : State) (base : Int) (st' : State) (hb : st'.bufs = st.bufs ++ [base])
    (i : Nat) (hi : i < st.bufs.length * C.N) : rp C st' i = rp C st i := by
  have hk := bufferOf_lt C _ i hi
  unfold rp realPtr
  rw [hb, List.getElem?_append_left hk]

theorem new_rp_eq (C : Cfg) (hN : 0 < C.N) (st : State) (base : Int) (st' : State) (hb : st'.bufs = st.bufs ++ [base])
    (o : Nat) (ho : o < C.N) : rp C st' (st.bufs.length * C.N + o) = base + ((C.S * o : Nat) : Int) := by
  obtain ⟨e1, e2⟩ := (index_roundtrip C hN).2 st.bufs.length o ho
  unfold rp realPtr
  rw [e1, e2, hb]
  simp [Nat.mul_comm]

theorem initLinks_out (C : Cfg) (n : Nat) (base : Int) : ∀ (is : List Nat) (m : Int → Option Nat) (a : Int),
    (∀ i ∈ is, a ≠ base + ((C.S * i : Nat) : Int)) → initLinks C n base is m a = m a := by
  intro is
  induction is with
  | nil => intro m a _; rfl
  | cons j js ih =>
    intro m a h
    simp only [initLinks]
    rw [ih _ a (fun i hi => h i (by simp [hi]))]
    unfold setW
    rw [if_neg (h j (by simp))]

theorem initLinks_in (C : Cfg) (n : Nat) (base : Int) (hS : 0 < C.S) : ∀ (is : List Nat) (m : Int → Option Nat) (i : Nat),
    is.Nodup → i ∈ is →
    initLinks C n base is m (base + ((C.S * i : Nat) : Int)) =
      some (if i + 1 < C.N then w32 (n * C.N + i + 1) else nullPtr) := by
  intro is
  induction is with
  | nil => intro m i _ hi; simp at hi
  | cons j js ih =>
    intro m i hnd hi
    simp only [initLinks]
    by_cases hij : i = j
    · subst hij
      rw [initLinks_out C n base js _ _ ?_]
      · simp [setW]
      · intro i' hi' e
        have hne : i' ≠ i := fun e' => (List.nodup_cons.mp hnd).1 (e' ▸ hi')
        have : C.S * i = C.S * i' := by omega
        exact hne (Nat.eq_of_mul_eq_mul_left hS this).symm
    · exact ih _ i (List.nodup_cons.mp hnd).2 (by simpa [hij] using hi)

/-- the state `addBuffer` leaves -/
def addedState (C : Cfg) (st : State) (base : Int) : State :=
  { st with bufs := st.bufs ++ [base], head := w32 (st.bufs.length * C.N),
            mem := initLinks C st.bufs.length base (List.range C.N) st.mem }

theorem lk_added_old (C : Cfg) (hN : 0 < C.N) (hS : 0 < C.S) (st : State) (base : Int)
    (hdis : ∀ b ∈ st.bufs, Disj base C.bufferSize b C.bufferSize) (i : Nat) (hi : i < st.bufs.length * C.N) :
    lk C (addedState C st base) i = lk C st i := by
  unfold lk
  rw [old_rp_eq C st base _ rfl i hi]
  refine initLinks_out C _ base _ _ _ fun j hj e => ?_
  obtain ⟨b, hbm, _, hin⟩ := rp_inside C hN st i hi
  have := hdis b hbm
  have hm := mul_succ_le C.S j C.N (List.mem_range.mp hj)
  unfold Inside at hin; unfold Disj at this; unfold Cfg.bufferSize at *
  omega

theorem lk_added_new (C : Cfg) (hN : 0 < C.N) (hS : 0 < C.S) (st : State) (base : Int)
    (hfit : st.bufs.length * C.N + C.N ≤ nullPtr) (o : Nat) (ho : o < C.N) :
    lk C (addedState C st base) (st.bufs.length * C.N + o) =
      some (if o + 1 < C.N then st.bufs.length * C.N + o + 1 else nullPtr) := by
  unfold lk
  rw [new_rp_eq C hN st base _ rfl o ho]
  show initLinks C st.bufs.length base (List.range C.N) st.mem _ = _
  rw [initLinks_in C _ base hS _ _ o List.nodup_range (List.mem_range.mpr ho)]
  congr 1; split
  · unfold w32; simp only [nullPtr] at hfit; omega
  · rfl

/-- `Settles` of the two `owned` lists (buffers and the storage of `mBuffers`), written out (`ledgerOKU_iff_settles`) -/
def LedgerOKU (C : Cfg) (st : State) (evs : List Ev) (st' : State) : Prop :=
  ∃ L', ledger (owned C st) evs = some L' ∧ L'.Perm (owned C st')

theorem ledgerOKU_iff_settles {C : Cfg} {st st' : State} {evs : List Ev} :
    LedgerOKU C st evs st' ↔ Settles (owned C st) evs (owned C st') := Iff.rfl

theorem LedgerOKU.nil {C : Cfg} {st st' : State} (h : owned C st' = owned C st) : LedgerOKU C st [] st' :=
  Pool.Settles.nil (h ▸ List.Perm.refl _)

theorem LedgerOKU.trans {C : Cfg} {s1 s2 s3 : State} {e1 e2 : List Ev}
    (h1 : LedgerOKU C s1 e1 s2) (h2 : LedgerOKU C s2 e2 s3) : LedgerOKU C s1 (e1 ++ e2) s3 :=
  Pool.Settles.trans h1 h2

/-- growth of the storage of `mBuffers`: new storage first, then the old one goes back -/
theorem grow_ledger (C : Cfg) (st : State) (a : Int) (c' : Nat) (hc : st.arrCap < c') :
    LedgerOKU C st ([Ev.malloc a ((c' * sizeofPtr : Nat) : Int)] ++
        (if st.arrCap > 0 then [Ev.free st.arrAddr ((st.arrCap * sizeofPtr : Nat) : Int)] else []))
      { st with arrCap := c', arrAddr := a } := by
  unfold LedgerOKU owned
  have hc' : c' > 0 := by omega
  simp only [hc', if_true]
  by_cases h0 : st.arrCap > 0
  · rw [if_pos h0, if_pos h0]
    refine (Pool.Settles.malloc _ _ _).trans (Pool.Settles.free ?_)
    exact ((List.perm_append_singleton _ _).cons _).trans
      ((List.Perm.swap _ _ _).trans ((List.perm_append_singleton _ _).symm.cons _))
  · rw [if_neg h0, if_neg h0, List.append_nil, List.append_nil]
    exact ⟨_, rfl, (List.perm_append_singleton _ _).symm⟩

theorem addBuffer_ledger (C : Cfg) (st st' : State) (base : Int) (hb : st'.bufs = st.bufs ++ [base])
    (hc : st'.arrCap = st.arrCap) (ha : st'.arrAddr = st.arrAddr) :
    LedgerOKU C st [Ev.malloc base C.bufferSize] st' := by
  unfold LedgerOKU owned
  rw [hb, hc, ha]
  refine ⟨_, rfl, ?_⟩
  simp only [List.map_append, List.map_cons, List.map_nil, List.append_assoc]
  exact (List.perm_middle).symm

/-- the buffer part of `pvNewBuffer` (906-915), called when the free chain is empty -/
theorem addBuffer_ok {C : Cfg} (hC : C.Legal) {st : State} (h : WF C st) (hhead : st.head = nullPtr)
    (hlen : st.bufs.length < C.maxBuf) (hcap : st.bufs.length + 1 ≤ st.arrCap) (base : Int)
    (hdis : ∀ b ∈ st.bufs, Disj base C.bufferSize b C.bufferSize) (evs : List Ev) :
    ∃ st', addBuffer C st (some base) evs = .ok () st' (evs ++ [.malloc base C.bufferSize]) ∧ WF C st' ∧
      st'.head = st.bufs.length * C.N ∧ st'.head ≠ nullPtr ∧
      (∀ i, i ∈ live C st' ↔ i ∈ live C st) ∧ st'.allocCount = st.allocCount ∧
      st'.bufs = st.bufs ++ [base] ∧ st'.arrCap = st.arrCap ∧ st'.arrAddr = st.arrAddr := by
  have hN := hC.hN
  obtain ⟨hall, hcnt⟩ := h.chain_nil hC hhead
  have hfit : st.bufs.length * C.N + C.N ≤ nullPtr := by
    have := Nat.mul_le_mul_right C.N hlen
    rw [Nat.succ_mul] at this; exact Nat.le_trans this (Nat.le_of_lt hC.hMax)
  have hS : 0 < C.S := Nat.lt_of_lt_of_le (by decide) hC.hS
  have hold := lk_added_old C hN hS st base hdis
  have hnew := lk_added_new C hN hS st base hfit
  have hB : st.bufs.length * C.N < nullPtr := Nat.lt_of_lt_of_le (Nat.lt_add_of_pos_right hN) hfit
  have hw : w32 (st.bufs.length * C.N) = st.bufs.length * C.N := Nat.mod_eq_of_lt (Nat.lt_succ_of_lt hB)
  have hlen' : (addedState C st base).bufs.length * C.N = st.bufs.length * C.N + C.N := by
    show (st.bufs ++ [base]).length * C.N = _
    rw [List.length_append, List.length_singleton, Nat.succ_mul]
  -- an index of the new state is an old one or a block of the new buffer
  have hsplit : ∀ i, i < st.bufs.length * C.N + C.N →
      i < st.bufs.length * C.N ∨ ∃ o, o < C.N ∧ i = st.bufs.length * C.N + o := fun i hi =>
    (Nat.lt_or_ge i _).imp id fun hge => by
      obtain ⟨o, rfl⟩ := Nat.exists_eq_add_of_le hge
      exact ⟨o, Nat.lt_of_add_lt_add_left hi, rfl⟩
  refine ⟨addedState C st base, rfl, ⟨?_, ?_, ?_, List.range' (st.bufs.length * C.N) C.N, ?_, List.nodup_range' .., ?_, ?_, ?_⟩,
    hw, ?_, fun i => ?_, rfl, rfl, rfl, rfl⟩
  · show (st.bufs ++ [base]).length ≤ C.maxBuf
    rw [List.length_append]; exact hlen
  · show (st.bufs ++ [base]).length ≤ st.arrCap
    rw [List.length_append]; exact hcap
  · refine List.pairwise_append.mpr ⟨h.disj, List.pairwise_singleton _ _, fun a ha b hbb => ?_⟩
    rw [List.mem_singleton.mp hbb]; exact (hdis a ha).symm
  · have := Chain_block _ _ _ hnew C.N 0 (Nat.zero_add _)
    rw [if_neg (Nat.ne_of_gt hN)] at this
    show Chain _ (w32 _) _
    rw [hw]; exact this
  · intro i hi
    rw [hlen']; exact (List.mem_range'_1.mp hi).2
  · intro i hi
    rw [hlen'] at hi
    rw [List.mem_range'_1]
    rcases hsplit i hi with h1 | ⟨o, ho, rfl⟩
    · rw [hold i h1, hall i h1]
      exact iff_of_true rfl fun hm => Nat.not_le.mpr h1 hm.1
    · rw [hnew o ho]
      exact iff_of_false (fun e => by cases e) fun hm => hm ⟨Nat.le_add_right _ _, Nat.add_lt_add_left ho _⟩
  · rw [List.length_range', hlen', ← hcnt]; rfl
  · show w32 _ ≠ nullPtr
    rw [hw]; exact Nat.ne_of_lt hB
  · rw [mem_live, mem_live, hlen']
    constructor
    · rintro ⟨h1, h2⟩
      rcases hsplit i h1 with h3 | ⟨o, ho, rfl⟩
      · exact ⟨h3, hall i h3⟩
      · rw [hnew o ho] at h2; cases h2
    · rintro ⟨h1, h2⟩
      exact ⟨Nat.lt_add_right _ h1, (hold i h1).trans h2⟩

theorem growCapacity_ge (cap n : Nat) : n ≤ Arr.growCapacity true cap n true false := by
  unfold Arr.growCapacity
  simp only [Bool.not_true, Bool.and_false]
  exact Nat.le_max_right _ _

/-- the answer of the manager that becomes the new buffer -/
def bufAnswer (st : State) (orc : Oracle) : Option Int :=
  if st.bufs.length + 1 > st.arrCap then orc 1 else orc 0

/-- contract of the memory manager for one `Allocate`: the new buffer overlaps no buffer the pool holds -/
def ContractU (C : Cfg) (st : State) (orc : Oracle) : Prop :=
  ∀ base, bufAnswer st orc = some base → ∀ b ∈ st.bufs, Disj base C.bufferSize b C.bufferSize

/-- **`pvNewBuffer` (900-916)**, called with an empty free chain -/
theorem newBuffer_ok {C : Cfg} (hC : C.Legal) {st : State} (h : WF C st) (hhead : st.head = nullPtr) {orc : Oracle}
    (hc : ContractU C st orc) :
    match newBuffer C st orc with
    | .ok _ st' evs => WF C st' ∧ st'.head ≠ nullPtr ∧ (∀ i, i ∈ live C st' ↔ i ∈ live C st) ∧
        st'.allocCount = st.allocCount ∧ LedgerOKU C st evs st'
    | .badAlloc st' evs => SameU st st' ∧ WF C st' ∧ LedgerOKU C st evs st'
    | .lengthError st' => st' = st
    | .stuck _ => False := by
  unfold newBuffer
  by_cases hmax : st.bufs.length ≥ C.maxBuf
  · rw [if_pos hmax]
  · rw [if_neg hmax]
    by_cases hg : st.bufs.length + 1 > st.arrCap
    · rw [if_pos hg]
      cases h0 : orc 0 with
      | none => exact ⟨⟨rfl, rfl, rfl, rfl⟩, h, LedgerOKU.nil rfl⟩
      | some a =>
        simp only
        have hge := growCapacity_ge st.arrCap (st.bufs.length + 1)
        generalize Arr.growCapacity true st.arrCap (st.bufs.length + 1) true false = c' at *
        have hl1 := grow_ledger C st a c' (by omega)
        have hs1 : SameU st { st with arrCap := c', arrAddr := a } := ⟨rfl, rfl, rfl, rfl⟩
        obtain ⟨hwf1, hlive1⟩ := h.sameU hs1 (by show st.bufs.length ≤ c'; omega)
        cases h1 : orc 1 with
        | none => exact ⟨hs1, hwf1, hl1⟩
        | some base =>
          have hdis := hc base (by unfold bufAnswer; rw [if_pos hg]; exact h1)
          obtain ⟨st', he, hwf, _, hnn, hlive, hac, hb, hcp, had⟩ :=
            addBuffer_ok hC hwf1 hhead (by show st.bufs.length < C.maxBuf; omega) (by show st.bufs.length + 1 ≤ c'; omega)
              base hdis ([Ev.malloc a ((c' * sizeofPtr : Nat) : Int)] ++
                (if st.arrCap > 0 then [Ev.free st.arrAddr ((st.arrCap * sizeofPtr : Nat) : Int)] else []))
          rw [he]
          exact ⟨hwf, hnn, fun i => (hlive i).trans (hlive1 i), hac, hl1.trans (addBuffer_ledger C _ st' base hb hcp had)⟩
    · rw [if_neg hg]
      cases h0 : orc 0 with
      | none => exact ⟨⟨rfl, rfl, rfl, rfl⟩, h, LedgerOKU.nil rfl⟩
      | some base =>
        have hdis := hc base (by unfold bufAnswer; rw [if_neg hg]; exact h0)
        obtain ⟨st', he, hwf, _, hnn, hlive, hac, hb, hcp, had⟩ :=
          addBuffer_ok hC h hhead (by omega) (by omega) base hdis []
        rw [he]
        exact ⟨hwf, hnn, hlive, hac, by simpa using addBuffer_ledger C st st' base hb hcp had⟩

/-- the second half of `Allocate` (866-869) -/
theorem takeHead_ok {C : Cfg} (hC : C.Legal) {st : State} (h : WF C st) (hh : st.head ≠ nullPtr) (evs : List Ev) :
    ∃ st', takeHead C st evs = .ok st.head st' evs ∧ WF C st' ∧ st.head ∉ live C st ∧
      (∀ i, i ∈ live C st' ↔ i = st.head ∨ i ∈ live C st) ∧ st'.allocCount = st.allocCount + 1 ∧
      st.head < st.bufs.length * C.N ∧ st'.bufs = st.bufs ∧ owned C st' = owned C st := by
  obtain ⟨ch, hch, hnd, hlt, hnone, hcnt⟩ := h.chain
  cases ch with
  | nil => exact absurd hch hh
  | cons x xs =>
    obtain ⟨hx, v, hv, hrest⟩ := hch
    subst hx
    have hxl := hlt st.head List.mem_cons_self
    have hxn : st.head ∉ xs := (List.nodup_cons.mp hnd).1
    have hv : st.mem (rp C st st.head) = some v := hv
    obtain ⟨b, _, _, hrp, hrpe⟩ := rp_eq C st st.head hxl
    have hlk := lk_setW hC h
      (st' := { st with head := v, mem := setW st.mem (rp C st st.head) none, allocCount := st.allocCount + 1 })
      rfl rfl hxl
    refine ⟨{ st with head := v, mem := setW st.mem (rp C st st.head) none, allocCount := st.allocCount + 1 }, ?_,
      ⟨h.lenMax, h.lenCap, h.disj, xs, ?_, (List.nodup_cons.mp hnd).2,
      fun i hi => hlt i (List.mem_cons_of_mem _ hi), fun i hi => ?_, ?_⟩, ?_, fun i => ?_, rfl, hxl, rfl, rfl⟩
    · unfold takeHead
      rw [if_neg hh, hrp, ← hrpe]; simp only [hv]
    · refine Chain_congr (fun y hy => ?_) v hrest
      rw [hlk y (hlt y (List.mem_cons_of_mem _ hy)), if_neg (fun e => hxn (by rw [← e]; exact hy))]
    · rw [hlk i hi]
      by_cases he : i = st.head
      · rw [if_pos he, he]; exact iff_of_true rfl hxn
      · rw [if_neg he, hnone i hi, List.mem_cons, not_or]; exact ⟨fun hm => hm.2, fun hm => ⟨he, hm⟩⟩
    · show st.allocCount + 1 + xs.length = st.bufs.length * C.N
      rw [← hcnt, List.length_cons]; omega
    · rw [mem_live]
      intro hm; rw [show lk C st st.head = some v from hv] at hm; cases hm.2
    · rw [mem_live, mem_live]
      show i < st.bufs.length * C.N ∧ _ ↔ _
      by_cases he : i = st.head
      · rw [he]; exact iff_of_true ⟨hxl, by rw [hlk _ hxl, if_pos rfl]⟩ (Or.inl rfl)
      · exact ⟨fun ⟨h1, h2⟩ => Or.inr ⟨h1, by rwa [hlk i h1, if_neg he] at h2⟩,
          fun hm => (hm.resolve_left he).imp_right fun h2 => by rwa [hlk i (hm.resolve_left he).1, if_neg he]⟩

structure AllocSpecU (C : Cfg) (st st' : State) (blk : Nat) (evs : List Ev) : Prop where
  wf : WF C st'
  fresh : blk ∉ live C st
  liveIff : ∀ i, i ∈ live C st' ↔ i = blk ∨ i ∈ live C st
  count : st'.allocCount = st.allocCount + 1
  inside : blk < st'.bufs.length * C.N
  ledger : LedgerOKU C st evs st'

/-- `Allocate` (862-870); `.badAlloc` = `std::bad_alloc` of the manager, `.lengthError` = `std::length_error` at the buffer limit -/
theorem allocate_ok {C : Cfg} (hC : C.Legal) {st : State} (h : WF C st) {orc : Oracle} (hc : ContractU C st orc) :
    match allocate C st orc with
    | .ok blk st' evs => AllocSpecU C st st' blk evs
    | .badAlloc st' evs => SameU st st' ∧ WF C st' ∧ LedgerOKU C st evs st'
    | .lengthError st' => st' = st
    | .stuck _ => False := by
  unfold allocate
  by_cases hh : st.head = nullPtr
  · rw [if_pos hh]
    have hnb := newBuffer_ok hC h hh hc
    cases hres : newBuffer C st orc with
    | stuck w => rw [hres] at hnb; exact hnb.elim
    | lengthError st1 => rw [hres] at hnb; exact hnb
    | badAlloc st1 evs => rw [hres] at hnb; exact hnb
    | ok u st1 evs =>
      rw [hres] at hnb
      obtain ⟨hwf1, hnn, hlive1, hac1, hl1⟩ := hnb
      obtain ⟨st', he, hwf, hfr, hlive, hac, hin, hb, hown⟩ := takeHead_ok hC hwf1 hnn evs
      simp only [he]
      refine ⟨hwf, fun hm => hfr ((hlive1 _).mpr hm), fun i => ?_, by rw [hac, hac1], by rw [hb]; exact hin, ?_⟩
      · rw [hlive i, hlive1 i]
      · obtain ⟨L, e1, e2⟩ := hl1
        exact ⟨L, e1, by rw [hown]; exact e2⟩
  · rw [if_neg hh]
    obtain ⟨st', he, hwf, hfr, hlive, hac, hin, hb, hown⟩ := takeHead_ok hC h hh []
    rw [he]
    exact ⟨hwf, hfr, hlive, hac, by rw [hb]; exact hin, LedgerOKU.nil hown⟩

/-- `pvClear` (918-926) on a pool without live blocks -/
theorem clear_ok (C : Cfg) (st : State) (h0 : st.allocCount = 0) :
    WF C (clear C st).1 ∧ Pool.Frees (owned C st) (clear C st).2 [] ∧ owned C (clear C st).1 = [] ∧
    live C (clear C st).1 = [] ∧ (clear C st).1.allocCount = 0 := by
  refine ⟨?_, ?_, ?_, ?_, h0⟩
  · refine ⟨by simp [clear], by simp [clear], by simp [clear], [], ?_, by simp, by simp, ?_, ?_⟩
    · show (clear C st).1.head = nullPtr; rfl
    · intro i hi; simp [clear] at hi
    · show st.allocCount + 0 = 0 * C.N; rw [h0]; simp
  · -- `pvClear` frees exactly what the pool holds
    refine ⟨owned C st, ?_, by rw [List.append_nil]⟩
    unfold owned clear
    rw [List.map_append, List.map_map]
    split <;> rfl
  · simp [owned, clear]
  · simp [live, clear]

structure DeallocSpecU (C : Cfg) (st st' : State) (blk : Nat) (evs : List Ev) : Prop where
  wf : WF C st'
  liveIff : ∀ i, i ∈ live C st ↔ i = blk ∨ i ∈ live C st'
  notLive : blk ∉ live C st'
  count : st'.allocCount + 1 = st.allocCount
  ledger : LedgerOKU C st evs st'

/-- `Deallocate` (872-881) of a live index -/
theorem deallocate_ok {C : Cfg} (hC : C.Legal) {st : State} (h : WF C st) (blk : Nat) (hb : blk ∈ live C st) :
    ∃ st' evs, deallocate C st blk = .ok () st' evs ∧ DeallocSpecU C st st' blk evs := by
  obtain ⟨hbl, hbn⟩ := (mem_live C st blk).mp hb
  have hpos : st.allocCount ≠ 0 := fun e => by
    rw [h.count_exact, List.length_eq_zero_iff] at e; rw [e] at hb; cases hb
  have hnull : blk ≠ nullPtr := by
    have h1 : st.bufs.length * C.N ≤ C.maxBuf * C.N := Nat.mul_le_mul_right _ h.lenMax
    have := hC.hMax; omega
  have hsucc : st.allocCount - 1 + 1 = st.allocCount := Nat.sub_add_cancel (Nat.pos_of_ne_zero hpos)
  obtain ⟨b, _, _, hrp, hrpe⟩ := rp_eq C st blk hbl
  obtain ⟨ch, hch, hnd, hlt, hnone, hc⟩ := h.chain
  have hbch : blk ∉ ch := (hnone blk hbl).mp hbn
  -- the state after the link write: `blk` is the new head of the chain
  have hlk := lk_setW hC h
    (st' := { st with mem := setW st.mem (rp C st blk) (some st.head), head := blk, allocCount := st.allocCount - 1 })
    rfl rfl hbl
  generalize hs1 : ({ st with mem := setW st.mem (rp C st blk) (some st.head), head := blk,
                              allocCount := st.allocCount - 1 } : State) = st1 at hlk
  have hb1 : st1.bufs = st.bufs := by rw [← hs1]
  have ha1 : st1.allocCount = st.allocCount - 1 := by rw [← hs1]
  have hown1 : owned C st1 = owned C st := by rw [← hs1]; rfl
  have hwf1 : WF C st1 := by
    refine ⟨by rw [hb1]; exact h.lenMax, by rw [← hs1]; exact h.lenCap, by rw [hb1]; exact h.disj, blk :: ch, ?_,
      List.nodup_cons.mpr ⟨hbch, hnd⟩, ?_, ?_, ?_⟩
    · rw [show st1.head = blk by rw [← hs1]]
      refine ⟨rfl, st.head, by rw [hlk blk hbl, if_pos rfl], Chain_congr (fun y hy => ?_) _ hch⟩
      rw [hlk y (hlt y hy), if_neg (fun e => hbch (by rw [← e]; exact hy))]
    · intro i hi
      rw [hb1]
      rcases List.mem_cons.mp hi with rfl | hi
      · exact hbl
      · exact hlt i hi
    · intro i hi
      rw [hb1] at hi
      rw [hlk i hi]
      by_cases he : i = blk
      · rw [if_pos he, he]; exact iff_of_false (fun e => by cases e) (fun hm => hm List.mem_cons_self)
      · rw [if_neg he, hnone i hi, List.mem_cons, not_or]; exact ⟨fun hm => ⟨he, hm⟩, fun hm => hm.2⟩
    · rw [hb1, ha1, List.length_cons, ← hc, ← Nat.add_assoc, Nat.add_right_comm, hsucc]
  have hlive1 : ∀ i, i ∈ live C st ↔ i = blk ∨ i ∈ live C st1 := by
    intro i
    rw [mem_live, mem_live, hb1]
    by_cases he : i = blk
    · rw [he]; exact iff_of_true ⟨hbl, hbn⟩ (Or.inl rfl)
    · exact ⟨fun ⟨h1, h2⟩ => Or.inr ⟨h1, by rwa [hlk i h1, if_neg he]⟩,
        fun hm => (hm.resolve_left he).imp_right fun h2 => by rwa [hlk i (hm.resolve_left he).1, if_neg he] at h2⟩
  have hnl1 : blk ∉ live C st1 := by
    rw [mem_live, hb1]; intro ⟨h1, h2⟩
    rw [hlk blk h1, if_pos rfl] at h2; cases h2
  unfold deallocate
  rw [if_neg hnull, if_neg hpos, hrp, ← hrpe]
  simp only [hs1]
  by_cases hcl : st.allocCount - 1 = 0 ∧ st.bufs.length > 2
  · rw [if_pos hcl]
    obtain ⟨c1, c2, c3, c4, c5⟩ := clear_ok C st1 (ha1.trans hcl.1)
    -- no block of `st1` is live, so `blk` was the only live block
    have hnil1 : live C st1 = [] := List.length_eq_zero_iff.mp (by rw [← hwf1.count_exact, ha1, hcl.1])
    refine ⟨_, _, rfl, c1, fun i => ?_, by rw [c4]; exact List.not_mem_nil, by rw [c5, ← hcl.1]; exact hsucc,
      by rw [ledgerOKU_iff_settles, ← hown1, c3]; exact c2.settles⟩
    rw [c4, ← hnil1]; exact hlive1 i
  · rw [if_neg hcl]
    exact ⟨st1, [], rfl, hwf1, hlive1, hnl1, ha1 ▸ hsucc, LedgerOKU.nil hown1⟩

/-- `DeallocateAll` (883-887) at any time; the destructor (835-839) is `destroy_ok` -/
theorem deallocateAll_ok (C : Cfg) (st : State) :
    ∃ st' evs, deallocateAll C st = .ok () st' evs ∧ WF C st' ∧ Pool.Frees (owned C st) evs [] ∧ owned C st' = [] ∧
      live C st' = [] ∧ st'.allocCount = 0 := by
  obtain ⟨c1, c2, c3, c4, _⟩ := clear_ok C { st with allocCount := 0 } rfl
  exact ⟨_, _, rfl, c1, c2, c3, c4, rfl⟩

theorem destroy_ok (C : Cfg) (st : State) (h0 : st.allocCount = 0) :
    ∃ st' evs, destroy C st = .ok () st' evs ∧ Pool.Frees (owned C st) evs [] ∧ owned C st' = [] := by
  obtain ⟨_, c2, c3, _, _⟩ := clear_ok C st h0
  refine ⟨_, _, ?_, c2, c3⟩
  unfold destroy
  rw [if_neg (by simpa using h0)]

/-- legal histories of a `MemPoolUInt32` with all calls made to the memory manager so far: `Allocate` (succeeding,
    refused by the manager, or stopped by the buffer limit) with a manager that honours `ContractU`, `Deallocate` of live
    indices, `DeallocateAll` -/
inductive ReachU (C : Cfg) : State → List Ev → Prop
  | init : ReachU C State.empty []
  | alloc {st es orc blk st' evs} : ReachU C st es → ContractU C st orc →
      allocate C st orc = .ok blk st' evs → ReachU C st' (es ++ evs)
  | allocFail {st es orc st' evs} : ReachU C st es → ContractU C st orc →
      allocate C st orc = .badAlloc st' evs → ReachU C st' (es ++ evs)
  | allocLimit {st es orc st'} : ReachU C st es → ContractU C st orc →
      allocate C st orc = .lengthError st' → ReachU C st' es
  | dealloc {st es blk st' evs} : ReachU C st es → blk ∈ live C st →
      deallocate C st blk = .ok () st' evs → ReachU C st' (es ++ evs)
  | deallocAll {st es st' evs} : ReachU C st es →
      deallocateAll C st = .ok () st' evs → ReachU C st' (es ++ evs)

/-- the ledger of all events so far is exactly the memory the pool holds (`ledgerIsU_iff_settles`) -/
def LedgerIsU (C : Cfg) (es : List Ev) (st : State) : Prop :=
  ∃ L, ledger [] es = some L ∧ L.Perm (owned C st)

theorem ledgerIsU_iff_settles {C : Cfg} {es : List Ev} {st : State} :
    LedgerIsU C es st ↔ Settles [] es (owned C st) := Iff.rfl

theorem LedgerIsU.step {C : Cfg} {es evs : List Ev} {st st' : State} (h : LedgerIsU C es st)
    (hl : LedgerOKU C st evs st') : LedgerIsU C (es ++ evs) st' :=
  Pool.Settles.trans h hl

theorem ReachU.inv {C : Cfg} (hC : C.Legal) {st : State} {es : List Ev} (h : ReachU C st es) :
    WF C st ∧ LedgerIsU C es st := by
  induction h with
  | init => exact ⟨WF.empty C, [], rfl, by simp [owned, State.empty]⟩
  | @alloc st es orc blk st' evs _ hc he ih =>
    have := allocate_ok hC ih.1 hc
    rw [he] at this
    exact ⟨this.wf, ih.2.step this.ledger⟩
  | @allocFail st es orc st' evs _ hc he ih =>
    have := allocate_ok hC ih.1 hc
    rw [he] at this
    exact ⟨this.2.1, ih.2.step this.2.2⟩
  | @allocLimit st es orc st' _ hc he ih =>
    have := allocate_ok hC ih.1 hc
    rw [he] at this
    rw [this]; exact ih
  | @dealloc st es blk st' evs _ hb he ih =>
    obtain ⟨s2, e2, h2, hs⟩ := deallocate_ok hC ih.1 blk hb
    rw [he] at h2; cases h2
    exact ⟨hs.wf, ih.2.step hs.ledger⟩
  | @deallocAll st es st' evs _ he ih =>
    obtain ⟨s2, e2, h2, hwf, hl, hown, _⟩ := deallocateAll_ok C st
    rw [he] at h2; cases h2
    exact ⟨hwf, ih.2.step (by rw [ledgerOKU_iff_settles, hown]; exact hl.settles)⟩

end Momo.PoolU32
