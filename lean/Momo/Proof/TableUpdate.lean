import Momo.Proof.TableRows
/-!
  C07, table level: `DataIndexes::UpdateRaw(oldRaw, newRaw)` and `TryUpdate(rowNumber, row)`: a unique index
  either re-keys the entry of the old row (same key), refuses (another row has the key) or adds the new entry and removes
  the old one; a multi index adds the new raw and removes the old one; accepted: the invariant holds for the rows with
  the new row in place of the old one; refused / failed: the table is unchanged. Notions: `updStore` (the store the indexes
  are consistent with after an accepted update), `UIdx.accUpd` / `rejUpd`, `MIdx.accUpd` / `rejUpd` (the accept and the reject
  phase of one index).
-/
namespace Momo.Table
open List

/-- the accept / the reject phase of `UpdateRaw(oldRaw, newRaw)` on one unique index: `AcceptAdd(newRaw)` + `AcceptRemove()`,
    `RejectAdd(newRaw)` + `RejectRemove()` -/
def UIdx.accUpd (u : UIdx) (new : Nat) : UIdx := (u.acceptAddRaw new).acceptRemove
def UIdx.rejUpd (u : UIdx) (new : Nat) : UIdx := (u.rejectAddRaw new).rejectRemove

theorem UIdx.rejUpd_noPos (u : UIdx) (new : Nat) (h : u.posAdd = none ∧ u.posRem = none) : u.rejUpd new = u := by
  unfold UIdx.rejUpd UIdx.rejectAddRaw UIdx.rejectRemove
  rw [h.1]; cases u; simp_all

/-- the rows after an accepted `UpdateRaw`, as a store: the new raw appended, the old one gone (the table has the new row at
    the place of the old one: `updStore_perm_set`) -/
def updStore (st0 : Store) (r : Row) (oldId : Nat) : Store := keepRows (st0 ++ [r]) (fun x => x != oldId)

theorem UIdx.rejUpd_prepare (vis : Vis) (acc : Acc) (st : Store) (u : UIdx) (raw new : Nat) :
    (u.prepareRemove vis acc st raw).rejUpd new = u.rejUpd new := by
  obtain ⟨c, e, pa, pr⟩ := u
  unfold UIdx.rejUpd UIdx.rejectRemove UIdx.rejectAddRaw UIdx.prepareRemove UIdx.idAt
  cases pa with
  | none => rfl
  | some p => dsimp only; split <;> rfl

theorem UIdx.rejUpd_uAdded (acc : Acc) (u : UIdx) (raw : Nat) (vals : List Nat) (h : u.posAdd = none ∧ u.posRem = none) :
    (uAdded acc u raw vals).rejUpd raw = u := by
  cases u; cases h.1; cases h.2
  simp [UIdx.rejUpd, UIdx.rejectAddRaw, UIdx.rejectRemove, uAdded, UIdx.idAt, eraseIdx_append_of_length_le]

/-- `ResetKey(mPositionAdd, raw)` on the entry `Add` has just made for `raw` changes nothing -/
theorem UIdx.accUpd_prepare_uAdded (vis : Vis) (acc : Acc) (st : Store) (u : UIdx) (raw old : Nat) (vals : List Nat) :
    ((uAdded acc u raw vals).prepareRemove vis acc st old).accUpd raw =
      ((uAdded acc u raw vals).acceptAdd.prepareRemove vis acc st old).acceptRemove := by
  have : (u.ents ++ [UEntry.mk raw (hashVals acc u.cols vals)]).modify u.ents.length (fun e => { e with id := raw }) =
      u.ents ++ [⟨raw, hashVals acc u.cols vals⟩] := ListFacts.modify_split (A := u.ents) (B := []) _ rfl
  unfold UIdx.accUpd UIdx.acceptAddRaw UIdx.prepareRemove uAdded UIdx.acceptAdd
  dsimp only
  rw [this]; rfl

/-- `AcceptAdd(newRaw)` + `AcceptRemove()` when `Add` found the entry of the old row at `p` (`mPositionAdd = p`, nothing to
    remove): `ResetKey` puts the new raw into that entry. Stated on the fields; an index with `UInv` has this form by `UInv.eta`. -/
theorem UIdx.accUpd_same (cols : List Nat) (ents : List UEntry) (p new : Nat) :
    UIdx.accUpd ⟨cols, ents, some p, none⟩ new = ⟨cols, ents.modify p (fun e => { e with id := new }), none, none⟩ := by
  simp [UIdx.accUpd, UIdx.acceptAddRaw, UIdx.acceptRemove]

/-- in the same situation `RejectAdd(newRaw)` leaves the entry alone, since it does not hold the new raw -/
theorem UIdx.rejUpd_same (cols : List Nat) (ents : List UEntry) (p new : Nat) (h : (ents.getD p default).id ≠ new) :
    UIdx.rejUpd ⟨cols, ents, some p, none⟩ new = ⟨cols, ents, none, none⟩ := by
  have h' : ¬ ((UIdx.idAt ⟨cols, ents, some p, none⟩ p == new) = true) := by
    unfold UIdx.idAt; simpa using h
  unfold UIdx.rejUpd UIdx.rejectAddRaw UIdx.rejectRemove
  simp only
  rw [if_neg h']

section updU
variable {vis : Vis} (hc : Complete vis) (acc : Acc) {st0 : Store} (hnd : (ids st0).Nodup) {r : Row} (hr : r.id ∉ ids st0)
  {old : Row} (hold : old ∈ st0)
include hnd hr hold

/-- the new row has the key of the old one: `ResetKey` on the entry of the old row -/
theorem UIdx.upd_same (u : UIdx) (hu : UInv acc st0 u) (hk : keyEq u.cols r.vals old.vals = true) {p : Nat}
    (hp : p < u.ents.length) (hid : u.idAt p = old.id) :
    UInv acc (updStore st0 r old.id) (UIdx.accUpd { u with posAdd := some p } r.id) ∧
    UIdx.rejUpd { u with posAdd := some p } r.id = u ∧
    ∀ y ∈ st0, y.id ≠ old.id → keyEq u.cols r.vals y.vals = false := by
  have holdin : old.id ∈ ids st0 := mem_ids_iff.mpr ⟨old, hold, rfl⟩
  have hne : r.id ≠ old.id := fun e => hr (e ▸ holdin)
  have heid : u.ents[p].id = old.id := by rw [← u.idAt_lt hp]; exact hid
  have hno : ∀ y ∈ st0, y.id ≠ old.id → keyEq u.cols r.vals y.vals = false := by
    intro y hy hyo
    by_contra hcon
    have hky : keyEq u.cols r.vals y.vals = true := by simpa using hcon
    have := hu.uniq old.id holdin y.id (mem_ids_iff.mpr ⟨y, hy, rfl⟩)
      (by rw [valsOf_mem hnd hold, valsOf_mem hnd hy]; exact keyEq_trans (by rw [keyEq_symm]; exact hk) hky)
    exact hyo this.symm
  refine ⟨?_, ?_, hno⟩
  · -- without the entry of the old row, then with an entry for the new one: the same entries in another order
    have h1 : UInv acc (keepRows st0 (fun x => x != old.id)) ⟨u.cols, u.ents.eraseIdx p, none, none⟩ :=
      UInv_filter acc hu (u' := ⟨u.cols, u.ents.eraseIdx p, none, none⟩) _ rfl ⟨rfl, rfl⟩ (by
        show (u.ents.eraseIdx p).Perm _
        rw [ListFacts.eraseIdx_eq_filter_of_nodup_map (·.id) u.ents p hp (hu.perm.nodup_iff.mpr hnd), heid])
    have h2 := UInv_add acc (keepRows_nodup hnd _) h1 (r := r) (by rw [ids_keepRows]; exact fun h => hr (mem_filter.mp h).1)
      (fun x hx => hno x (mem_filter.mp hx).1 (by simpa using (mem_filter.mp hx).2))
    have hst : updStore st0 r old.id = keepRows st0 (fun x => x != old.id) ++ [r] := by
      unfold updStore keepRows; rw [filter_append]; simp [hne]
    rw [hst, hu.eta]
    show UInv _ _ (UIdx.accUpd ⟨u.cols, u.ents, some p, none⟩ r.id)
    rw [UIdx.accUpd_same]
    refine h2.of_perm ?_
    obtain ⟨A, B, hsplit, hA⟩ := ListFacts.split_of_getElem? (getElem?_eq_getElem hp)
    subst hA
    have he : ({ u.ents[A.length] with id := r.id } : UEntry) = ⟨r.id, hashVals acc u.cols r.vals⟩ := by
      rw [UEntry.mk.injEq]
      exact ⟨rfl, by rw [hu.hash _ (getElem_mem hp), heid, valsOf_mem hnd hold]; exact (hashVals_congr acc u.cols _ _ hk).symm⟩
    have herase : u.ents.eraseIdx A.length = A ++ B := by
      conv_lhs => rw [hsplit]
      rw [eraseIdx_append_of_length_le (Nat.le_refl _), Nat.sub_self, eraseIdx_cons_zero]
    rw [ListFacts.modify_split _ hsplit, he]
    show (A ++ _ :: B).Perm (u.ents.eraseIdx A.length ++ [_])
    rw [herase]
    exact perm_middle.trans (perm_append_singleton _ _).symm
  · rw [hu.eta]
    show UIdx.rejUpd ⟨u.cols, u.ents, some p, none⟩ r.id = _
    rw [UIdx.rejUpd_same _ _ _ _ (by
      have : (u.ents.getD p default).id = old.id := hid
      rw [this]; exact hne.symm)]

include hc

/-- the new row has a key no row has: `Add`, then `PrepareRemove(oldRaw)` -/
theorem UIdx.upd_new (u : UIdx) (hu : UInv acc st0 u) (hno : ∀ x ∈ st0, keyEq u.cols r.vals x.vals = false) :
    UInv acc (updStore st0 r old.id) (UIdx.accUpd ((uAdded acc u r.id r.vals).prepareRemove vis acc (st0 ++ [r]) old.id) r.id) ∧
    UIdx.rejUpd ((uAdded acc u r.id r.vals).prepareRemove vis acc (st0 ++ [r]) old.id) r.id = u := by
  have holdin : old.id ∈ ids st0 := mem_ids_iff.mpr ⟨old, hold, rfl⟩
  have hnd1 : (ids (st0 ++ [r])).Nodup := ids_append_nodup hnd hr
  have hu1 := UInv_add acc hnd hu hr hno
  have hrem := UIdx.remove_spec hc acc hnd1 _ hu1 (raw := old.id) (by rw [ids_append]; simp [holdin])
  exact ⟨by rw [UIdx.accUpd_prepare_uAdded]; exact hrem,
    by rw [UIdx.rejUpd_prepare, UIdx.rejUpd_uAdded acc u r.id r.vals hu.noPos]⟩

theorem uUpdAll_step (f : Fault) (u : UIdx) (hu : UInv acc st0 u) (j : Nat) (rest : List UIdx) :
    PassStep (uUpdAll vis acc (st0 ++ [r]) old.id r.id f) j u rest (fun u' => u = u'.rejUpd r.id)
      (fun x => ∃ row ∈ st0, row.id = x ∧ x ≠ old.id ∧ keyEq u.cols r.vals row.vals = true)
      (fun u' => UInv acc (updStore st0 r old.id) (u'.accUpd r.id) ∧
        ∀ y ∈ st0, y.id ≠ old.id → keyEq u.cols r.vals y.vals = false) (f ≠ .none) := by
  have hne : r.id ≠ old.id := fun e => hr (e ▸ mem_ids_iff.mpr ⟨old, hold, rfl⟩)
  rcases UIdx.add_new hc acc hnd (st := st0 ++ [r]) (fun x hx => valsOf_append_left [r] hx) (valsOf_append_right r hr) u hu
    with ⟨x, hx, p, hp, hidp, hk, he⟩ | ⟨hno, he⟩
  · by_cases hxo : x.id = old.id
    · -- the entry of the old row has the key of the new one
      have hxeq : x = old := row_eq_of_id_eq hnd hx hold hxo
      subst hxeq
      obtain ⟨h1, h2, h3⟩ := UIdx.upd_same acc hnd hr hold u hu hk hp hidp
      refine Or.inr (Or.inr ⟨_, ?_, h2.symm, h1, h3⟩)
      rw [uUpdAll, he _ (f.hits j), if_pos rfl]
      dsimp only
      rw [if_neg (by simp), if_neg (by simpa using hne.symm)]
    · -- another row has the key: refused
      have hxr : x.id ≠ r.id := fun e => hr (e ▸ mem_ids_iff.mpr ⟨x, hx, rfl⟩)
      refine Or.inr (Or.inl ⟨u, x.id, ?_, (UIdx.rejUpd_noPos u r.id hu.noPos).symm, x, hx, rfl, hxo, hk⟩)
      rw [uUpdAll, he (some old.id) (f.hits j), if_neg (fun e => hxo (Option.some.inj e).symm)]
      exact if_pos (by simp [hxr, hxo])
  · by_cases hf : f.hits j = true
    · refine Or.inl ⟨u, ?_, (UIdx.rejUpd_noPos u r.id hu.noPos).symm, Fault.ne_none_of_hits hf⟩
      rw [uUpdAll, he (some old.id) (f.hits j), if_pos hf]
    · obtain ⟨h1, h2⟩ := UIdx.upd_new hc acc hnd hr hold u hu hno
      refine Or.inr (Or.inr ⟨_, ?_, h2.symm, h1, fun y hy _ => hno y hy⟩)
      rw [uUpdAll, he (some old.id) (f.hits j), if_neg hf]
      dsimp only
      rw [if_neg (by simp), if_pos (by simp)]

end updU

/-- the same phases on one multi index: `AcceptAdd()` + `AcceptRemove(oldRaw)`, `RejectAdd()` + `RejectRemove()`; the
    single-column update has these too, with the raw itself for `oldRaw` -/
def MIdx.accUpd (m : MIdx) (st : Store) (old : Nat) : MIdx := m.acceptAdd.acceptRemove st old
def MIdx.rejUpd (m : MIdx) : MIdx := m.rejectAdd.rejectRemove

theorem MIdx.rejectAdd_kRem (m : MIdx) : m.rejectAdd.kRem = m.kRem := by
  unfold MIdx.rejectAdd; split
  · rfl
  · split <;> rfl

theorem MIdx.rejUpd_of_kRem (m : MIdx) (h : m.kRem = none) : m.rejUpd = m.rejectAdd := by
  have := m.rejectAdd_kRem
  rw [h] at this
  unfold MIdx.rejUpd MIdx.rejectRemove
  cases hm : m.rejectAdd with
  | mk c g a k => rw [hm] at this; simp only at this; subst this; rfl

theorem MIdx.rejUpd_prepare (vis : Vis) (acc : Acc) (st : Store) (m : MIdx) (raw : Nat) :
    (m.prepareRemove vis acc st raw).rejUpd = m.rejUpd := by
  unfold MIdx.rejUpd MIdx.prepareRemove MIdx.rejectAdd MIdx.rejectRemove
  simp only
  split
  · rfl
  · split <;> rfl

theorem MIdx.rejUpd_noPos (m : MIdx) (h : m.kAdd = none ∧ m.kRem = none) : m.rejUpd = m := by
  rw [m.rejUpd_of_kRem h.2, MIdx.rejectAdd_noPos m h.1]

theorem MInv.rejUpd_self {acc : Acc} {st : Store} {m : MIdx} (hm : MInv acc st m) : MEquiv m m.rejUpd ∧ MInv acc st m.rejUpd := by
  rw [MIdx.rejUpd_noPos m hm.noPos]; exact ⟨MEquiv.refl m, hm⟩

theorem MIdx.add_kRem (vis : Vis) (acc : Acc) (st : Store) (m : MIdx) (raw : Nat) (fail : Bool) :
    (m.add vis acc st raw fail).1.kRem = m.kRem := by
  unfold MIdx.add
  cases m.findRaw vis acc st raw with
  | none => cases fail <;> rfl
  | some p => dsimp only; split <;> cases fail <;> rfl

theorem MIdx.accUpd_prepare (vis : Vis) (acc : Acc) (st : Store) (m : MIdx) (raw : Nat) :
    (m.prepareRemove vis acc st raw).accUpd st raw = (m.acceptAdd.prepareRemove vis acc st raw).acceptRemove st raw := rfl

section updPassM
variable {vis : Vis} (hc : Complete vis) (acc : Acc) {st0 : Store} (hnd : (ids st0).Nodup) (hai : AddrInj st0)
  {r : Row} (hr : r.id ∉ ids st0) (hra : r.addr ∉ st0.map (·.addr)) {old : Row} (hold : old ∈ st0)
include hc hnd hai hr hra hold

theorem mUpdAll_step (f : Fault) (m : MIdx) (hm : MInv acc st0 m) (j : Nat) (rest : List MIdx) :
    PassStep (mUpdAll vis acc (st0 ++ [r]) old.id r.id f) j m rest (fun m' => MEquiv m m'.rejUpd ∧ MInv acc st0 m'.rejUpd)
      (fun _ => False) (fun m' => MInv acc (updStore st0 r old.id) (m'.accUpd (st0 ++ [r]) old.id)) (f ≠ .none) := by
  obtain ⟨hacc, hall⟩ := MIdx.add_spec hc acc hnd hai hr (StoreAgree.refl _) m hm
  obtain ⟨h2, hrej⟩ := hall (f.hits j)
  have hkr : (m.add vis acc (st0 ++ [r]) r.id (f.hits j)).1.kRem = none := by
    rw [MIdx.add_kRem]; exact hm.noPos.2
  rw [← MIdx.rejUpd_of_kRem _ hkr] at hrej
  by_cases hf : f.hits j = true
  · refine Or.inl ⟨_, ?_, hrej, Fault.ne_none_of_hits hf⟩
    rw [mUpdAll, if_neg (by rw [h2, hf]; simp)]
  · have hff : f.hits j = false := by simpa using hf
    refine Or.inr (Or.inr ⟨(m.add vis acc (st0 ++ [r]) r.id (f.hits j)).1.prepareRemove vis acc (st0 ++ [r]) old.id, ?_,
      by beta_reduce; rw [MIdx.rejUpd_prepare]; exact hrej, ?_⟩)
    · rw [mUpdAll, if_pos (by rw [h2, hff]; rfl)]
    · beta_reduce
      rw [MIdx.accUpd_prepare, hff]
      exact MIdx.remove_spec hc acc (ids_append_nodup hnd hr) _ hacc
        (hacc.members_addr_nodup (ids_append_nodup hnd hr) (addrInj_append hai hra))
        (by rw [ids_append]; exact mem_append_left _ (mem_ids_iff.mpr ⟨old, hold, rfl⟩))

end updPassM

section tryUpdate
variable {vis : Vis} (hc : Complete vis) (acc : Acc) (keep : Bool)
include hc

omit hc in
theorem updateRaw_eq_indexPass (t : Table) (st : Store) (oldRaw newRaw : Nat) (f : Fault) :
    updateRaw vis acc t st oldRaw newRaw f = indexPass (uUpdAll vis acc st oldRaw newRaw f) (mUpdAll vis acc st oldRaw newRaw f)
      (fun u => u.accUpd newRaw) (fun u => u.rejUpd newRaw) (fun m => m.accUpd st oldRaw) MIdx.rejUpd t := rfl

theorem updateRaw_spec (t : Table) (hinv : Inv acc keep t) (r : Row) (hr : r.id ∉ ids t.rows)
    (hra : r.addr ∉ t.rows.map (·.addr)) (old : Row) (hold : old ∈ t.rows) (f : Fault) :
    match (updateRaw vis acc t (t.rows ++ [r]) old.id r.id f).2 with
    | .none => (∀ u ∈ (updateRaw vis acc t (t.rows ++ [r]) old.id r.id f).1.uidx, UInv acc (updStore t.rows r old.id) u) ∧
               (∀ m ∈ (updateRaw vis acc t (t.rows ++ [r]) old.id r.id f).1.midx, MInv acc (updStore t.rows r old.id) m) ∧
               (∀ u ∈ t.uidx, ∀ y ∈ t.rows, y.id ≠ old.id → keyEq u.cols r.vals y.vals = false)
    | .dup x j => TEquiv t (updateRaw vis acc t (t.rows ++ [r]) old.id r.id f).1 ∧
               Inv acc keep (updateRaw vis acc t (t.rows ++ [r]) old.id r.id f).1 ∧
               ∃ u, t.uidx[j]? = some u ∧ (∃ row ∈ t.rows, row.id = x ∧ x ≠ old.id ∧ keyEq u.cols r.vals row.vals = true) ∧
                 ∀ i' u', i' < j → t.uidx[i']? = some u' → ∀ y ∈ t.rows, y.id ≠ old.id → keyEq u'.cols r.vals y.vals = false
    | .fault => TEquiv t (updateRaw vis acc t (t.rows ++ [r]) old.id r.id f).1 ∧
               Inv acc keep (updateRaw vis acc t (t.rows ++ [r]) old.id r.id f).1 ∧ f ≠ .none := by
  rw [updateRaw_eq_indexPass]
  exact indexPass_spec acc keep hinv (updStore t.rows r old.id) (uUpdAll vis acc (t.rows ++ [r]) old.id r.id f)
    (mUpdAll vis acc (t.rows ++ [r]) old.id r.id f) (fun u => u.accUpd r.id) (fun u => u.rejUpd r.id)
    (fun m => m.accUpd (t.rows ++ [r]) old.id) MIdx.rejUpd
    (fun u x => ∃ row ∈ t.rows, row.id = x ∧ x ≠ old.id ∧ keyEq u.cols r.vals row.vals = true)
    (fun u => ∀ y ∈ t.rows, y.id ≠ old.id → keyEq u.cols r.vals y.vals = false) (f ≠ .none) (fun _ => rfl) (fun _ => rfl)
    (fun u hu => ⟨(UIdx.rejUpd_noPos u r.id (hinv.uinv u hu).noPos).symm,
      uUpdAll_step hc acc hinv.idsNodup hr hold f u (hinv.uinv u hu)⟩)
    (fun m hm => ⟨(MIdx.rejUpd_noPos m (hinv.minv m hm).noPos).symm,
      mUpdAll_step hc acc hinv.idsNodup hinv.addrInj hr hra hold f m (hinv.minv m hm)⟩)

omit hc in
theorem updStore_perm_set {st : Store} (hnd : (ids st).Nodup) {r : Row} (hr : r.id ∉ ids st) {n : Nat} (hn : n < st.length) :
    (updStore st r st[n].id).Perm (st.set n r) := by
  have hnd1 : (ids (st ++ [r])).Nodup := ids_append_nodup hnd hr
  have hn1 : n < (st ++ [r]).length := by simp; omega
  have hget : (st ++ [r])[n] = st[n] := getElem_append_left hn
  unfold updStore
  rw [← hget, keepRows_ne_eq_eraseIdx hnd1 hn1, eraseIdx_append_of_lt_length hn, eraseIdx_eq_take_drop_succ,
    set_eq_take_append_cons_drop, if_pos hn, append_assoc]
  exact Perm.append_left _ (perm_append_singleton _ _)

theorem tryUpdate_spec (t : Table) (hinv : Inv acc keep t) (n : Nat) (r : Row) (hr : r.id ∉ ids t.rows)
    (hra : r.addr ∉ t.rows.map (·.addr)) (f : Fault) :
    Inv acc keep (tryUpdate vis acc keep t n r f).1 ∧
    match t.rows[n]? with
    | none => tryUpdate vis acc keep t n r f = (t, .outOfRange)
    | some old =>
      match (tryUpdate vis acc keep t n r f).2 with
      | .ok => (tryUpdate vis acc keep t n r f).1.rows = t.rows.set n (setNum keep r n) ∧
               (∀ u ∈ t.uidx, ∀ y ∈ t.rows, y.id ≠ old.id → keyEq u.cols r.vals y.vals = false)
      | .dup x j => TEquiv t (tryUpdate vis acc keep t n r f).1 ∧
               ∃ u row, t.uidx[j]? = some u ∧ row ∈ t.rows ∧ row.id = x ∧ x ≠ old.id ∧ keyEq u.cols r.vals row.vals = true ∧
                 ∀ i' u', i' < j → t.uidx[i']? = some u' → ∀ y ∈ t.rows, y.id ≠ old.id → keyEq u'.cols r.vals y.vals = false
      | .badAlloc => TEquiv t (tryUpdate vis acc keep t n r f).1 ∧ f ≠ .none
      | .outOfRange => False := by
  unfold tryUpdate
  cases hro : t.rows[n]? with
  | none => exact ⟨hinv, rfl⟩
  | some old =>
    simp only
    obtain ⟨hn, hrn⟩ := List.getElem?_eq_some_iff.mp hro
    have hold : old ∈ t.rows := hrn ▸ getElem_mem hn
    by_cases hf : f = .pre
    · rw [if_pos hf]
      exact ⟨hinv, TEquiv.refl t, by rw [hf]; simp⟩
    · rw [if_neg hf]
      have h := updateRaw_spec hc acc keep t hinv r hr hra old hold f
      generalize updateRaw vis acc t (t.rows ++ [r]) old.id r.id f = res at h ⊢
      obtain ⟨t', s⟩ := res
      cases s with
      | none =>
        obtain ⟨hu, hm, hno⟩ := h
        refine ⟨?_, rfl, hno⟩
        have hnd1 : (ids (t.rows ++ [r])).Nodup := ids_append_nodup hinv.idsNodup hr
        have hai1 : AddrInj (t.rows ++ [r]) := addrInj_append hinv.addrInj hra
        refine Inv_of_perm_rel (t := { t' with rows := t.rows.set n (setNum keep r n) })
          (keepRows_nodup hnd1 _) (addrInj_keepRows hai1 _) (by rw [← hrn]; exact updStore_perm_set hinv.idsNodup hr hn)
          (forall₂_rowRel_set t.rows n (rowRel_setNum _ _ _)) ?_ hu hm
        intro hk
        subst hk
        exact nums_set (hinv.nums rfl) n (setNum_num r n)
      | dup x j =>
        obtain ⟨he, hi, u, hu, ⟨row, hrow, hid, hxo, hk⟩, hprev⟩ := h
        exact ⟨hi, he, u, row, hu, hrow, hid, hxo, hk, hprev⟩
      | fault => exact ⟨h.2.1, h.1, h.2.2⟩

end tryUpdate
end Momo.Table
