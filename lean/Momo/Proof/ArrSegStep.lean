import Momo.Proof.ArrStep
import Momo.Model.ArrSeg
/-!
  C05: every operation of `momo::SegmentedArray` refines the reference sequence, keeps `mCount <= GetCapacity()` and
  calls no memory manager while there is room (`step_sized`, with `Box.Sized` of `ArrStep.lean`), under the sizing laws
  `Layout.Ok` (proved for both sizings in `ArrSegLayout.lean`); histories (`hist`). Capacity changes never touch an item, and
  growing only appends to `mSegments`.
-/
namespace Momo.Arr.Seg
open Momo.Arr
variable {α : Type}

theorem addSegs_cells (cfg : SCfg) : ∀ (f : Nat) (s : SState α), (addSegs cfg f s).1.cells = s.cells
  | 0, _ => rfl
  | f+1, s => by simp only [addSegs]; rw [addSegs_cells cfg f]; rfl

theorem reserveOp_cells (cfg : SCfg) (s : SState α) (n : Nat) : (reserveOp cfg s n).1.cells = s.cells := by
  unfold reserveOp; split
  · exact addSegs_cells cfg _ s
  · rfl

theorem shrinkOp_cells (cfg : SCfg) (s : SState α) (n : Nat) : (shrinkOp cfg s n).1.cells = s.cells := by
  unfold shrinkOp
  split <;> rfl

theorem addSeg_segs_cells (cfg : SCfg) (s : SState α) :
    (addSeg cfg s).1.segs.cells = s.segs.cells ++ [.live (segCount s)] := by
  show (Arr.reserve cfg.segs s.segs (segCount s + 1)).1.cells ++ _ = _
  rw [reserve_cells]

theorem addSegs_segs_cells (cfg : SCfg) : ∀ (f : Nat) (s : SState α),
    ∃ extra, (addSegs cfg f s).1.segs.cells = s.segs.cells ++ extra ∧ extra.length = f
  | 0, s => ⟨[], (List.append_nil _).symm, rfl⟩
  | f+1, s => by
    obtain ⟨extra, he, hl⟩ := addSegs_segs_cells cfg f (addSeg cfg s).1
    exact ⟨_ :: extra, by rw [addSegs, he, addSeg_segs_cells]; exact List.append_assoc _ _ _, congrArg (· + 1) hl⟩

theorem addSegs_segCount (cfg : SCfg) (f : Nat) (s : SState α) : segCount (addSegs cfg f s).1 = segCount s + f := by
  obtain ⟨extra, he, hl⟩ := addSegs_segs_cells cfg f s
  rw [segCount, he, List.length_append, hl]; rfl

/-- `RemoveBack(segCount - m)` in `pvDecCapacity` keeps the first `m` segment pointers -/
theorem take_sub_sub {β : Type} (l : List β) (m : Nat) : l.take (l.length - (l.length - m)) = l.take m := by
  rcases Nat.le_total m l.length with h | h
  · rw [Nat.sub_sub_self h]
  · rw [Nat.sub_eq_zero_of_le h, Nat.sub_zero, List.take_length, List.take_of_length_le h]

theorem reserveOp_segs_cells (cfg : SCfg) (s : SState α) (n : Nat) :
    ∃ extra, (reserveOp cfg s n).1.segs.cells = s.segs.cells ++ extra := by
  unfold reserveOp
  split
  · obtain ⟨extra, he, _⟩ := addSegs_segs_cells cfg (cfg.lay.segsFor n - segCount s) s
    exact ⟨extra, he⟩
  · exact ⟨[], (List.append_nil _).symm⟩

theorem reserveOp_cap (cfg : SCfg) (hlay : cfg.lay.Ok) (s : SState α) (n : Nat) :
    n ≤ capacity cfg (reserveOp cfg s n).1 := by
  unfold reserveOp
  split
  · unfold incCapacity capacity
    rw [addSegs_segCount]
    exact Nat.le_trans (hlay.cap_segsFor n) (hlay.cap_mono _ _ (by omega))
  · show n ≤ capacity cfg s
    omega

theorem reserveOp_cap_mono (cfg : SCfg) (hlay : cfg.lay.Ok) (s : SState α) (n : Nat) :
    capacity cfg s ≤ capacity cfg (reserveOp cfg s n).1 := by
  obtain ⟨extra, he⟩ := reserveOp_segs_cells cfg s n
  exact hlay.cap_mono _ _ (by rw [segCount, segCount, he, List.length_append]; exact Nat.le_add_right _ _)

theorem reserveOp_noop (cfg : SCfg) (s : SState α) (n : Nat) (h : n ≤ capacity cfg s) : reserveOp cfg s n = (s, []) := by
  unfold reserveOp; rw [if_neg (by omega)]

/-- `mCount <= GetCapacity()` — with `Layout.Ok` this is what `MOMO_CHECK(segIndex < mSegments.GetCount())` of
    `AddBackNogrowCrt` and the `operator[]` calls of `ArrayShifter` need -/
def Inv (cfg : SCfg) (s : SState α) : Prop := s.cells.length ≤ capacity cfg s

theorem reserveOp_inv (cfg : SCfg) (hlay : cfg.lay.Ok) (s : SState α) (n : Nat) (w : Inv cfg s) :
    Inv cfg (reserveOp cfg s n).1 := by
  show (reserveOp cfg s n).1.cells.length ≤ _
  rw [reserveOp_cells]; exact Nat.le_trans w (reserveOp_cap_mono cfg hlay s n)

/-- `pvDecCapacity(max(capacity, mCount))` keeps the segments the items need -/
theorem shrinkOp_inv (cfg : SCfg) (hlay : cfg.lay.Ok) (s : SState α) (n : Nat) (w : Inv cfg s) :
    Inv cfg (shrinkOp cfg s n).1 := by
  show (shrinkOp cfg s n).1.cells.length ≤ capacity cfg (shrinkOp cfg s n).1
  rw [shrinkOp_cells]
  unfold shrinkOp
  by_cases h : capacity cfg s ≤ n
  · rw [if_pos h]; exact w
  · rw [if_neg h]
    show s.cells.length ≤ cfg.lay.index (Arr.shrink cfg.segs _ _).1.cells.length 0
    rw [shrink_cells]
    show s.cells.length ≤ cfg.lay.index (s.segs.cells.take (s.segs.cells.length -
      (s.segs.cells.length - cfg.lay.segsFor (Nat.max n s.cells.length)))).length 0
    rw [take_sub_sub, List.length_take]
    rcases Nat.le_total (cfg.lay.segsFor (Nat.max n s.cells.length)) s.segs.cells.length with h | h
    · rw [Nat.min_eq_left h]; exact Nat.le_trans (Nat.le_max_right _ _) (hlay.cap_segsFor _)
    · rw [Nat.min_eq_right h]; exact w

def box (cfg : SCfg) : Box (SState α) α := ⟨SState.cells, capacity cfg, Inv cfg⟩

abbrev Sized (cfg : SCfg) (s : SState α) (r : SState α × List SEv) (cs : Cells α) (ok : Prop) : Prop :=
  (box cfg).Sized s r cs ok

theorem Sized.same {cfg : SCfg} {s : SState α} {cs cs' : Cells α} {m : Nat} {ok : Prop} (e : cs' = cs)
    (hl : cs.length = m) (h : Inv cfg s → m ≤ capacity cfg s) : Sized cfg s ({ s with cells := cs' }, []) cs ok :=
  ⟨e, fun w => show cs'.length ≤ capacity cfg s from e ▸ hl ▸ h w, fun _ _ => ⟨rfl, rfl⟩⟩

theorem Sized.reserve {cfg : SCfg} (hlay : cfg.lay.Ok) {s : SState α} {cs : Cells α} {m : Nat} {ok : Prop}
    (f : Cells α → Cells α) (e : f s.cells = cs) (hl : cs.length = m) :
    Sized cfg s (withCells (reserveOp cfg s m) f) cs ok :=
  have ec : f (reserveOp cfg s m).1.cells = cs := by rw [reserveOp_cells]; exact e
  ⟨ec, fun _ => by
    show (f (reserveOp cfg s m).1.cells).length ≤ capacity cfg (reserveOp cfg s m).1
    rw [ec, hl]; exact reserveOp_cap cfg hlay s m,
   fun _ h => by rw [reserveOp_noop cfg s m (hl ▸ h)]; exact ⟨rfl, rfl⟩⟩

variable [Inhabited α]

set_option linter.unusedSectionVars false in
theorem addSeg_cells (cfg : SCfg) (s : SState α) : (addSeg cfg s).1.cells = s.cells := rfl

theorem addBackCrt_sized (cfg : SCfg) (hlay : cfg.lay.Ok) (s : SState α) (xs : List α) (item : Ref α) (ok : Prop)
    (hs : s.cells = xs.map Cell.live) (hr : Spec.refOk xs item) :
    Sized cfg s (addBackCrt cfg s false item) ((xs ++ [Spec.refVal xs item]).map Cell.live) ok := by
  have e := addBack_live s.cells xs item hs hr
  have hl := addBack_live_length s.cells xs (Spec.refVal xs item) hs
  unfold addBackCrt
  by_cases h : (cfg.lay.segItem s.cells.length).1 < segCount s
  · rw [if_pos h]; exact .same e hl fun _ => hlay.lt_of_seg _ _ h
  · rw [if_neg h]
    refine ⟨e, fun w => ?_, fun _ hc => absurd (hlay.seg_lt _ _ (hl ▸ hc :)) h⟩
    show (s.cells ++ [item.read s.cells]).length ≤ cfg.lay.index (segCount (addSeg cfg s).1) 0
    rw [e, hl, show segCount (addSeg cfg s).1 = segCount s + 1 from addSegs_segCount cfg 1 s]
    exact Nat.lt_of_le_of_lt w (hlay.cap_strict (segCount s))

theorem addAll_sized (cfg : SCfg) (hlay : cfg.lay.Ok) (ok : Prop) : ∀ (ys : List α) (s : SState α) (xs : List α),
    s.cells = xs.map Cell.live → Sized cfg s (addAll cfg s (ys.map Cell.live)) ((xs ++ ys).map Cell.live) ok
  | [], s, xs, hs => by rw [List.append_nil]; exact .refl hs
  | y :: ys, s, xs, hs => by
    have h1 := addBackCrt_sized cfg hlay s xs (.ext (.live y)) ok hs trivial
    have h2 := addAll_sized cfg hlay ok ys _ (xs ++ [y]) h1.1
    rw [List.append_assoc] at h2
    exact h1.seq h2 (by simp only [List.length_map, List.length_append, List.length_cons, List.length_nil]; omega)

theorem insertCrt_sized (cfg : SCfg) (hlay : cfg.lay.Ok) (s : SState α) (xs : List α) (index : Nat) (item : Ref α)
    (ok : Prop) (hs : s.cells = xs.map Cell.live) (hi : index ≤ xs.length) (hr : Spec.refOk xs item) :
    Sized cfg s (insertCrt cfg s index false item) ((Spec.insertN xs index 1 (Spec.refVal xs item)).map Cell.live) ok :=
  .reserve (s := s) hlay _ (insertCrt_live cfg.keeps s.cells xs index item hs hi hr)
    (insertN_live_length s.cells xs index 1 _ hs hi)

theorem insertInput_sized (cfg : SCfg) (hlay : cfg.lay.Ok) (ok : Prop) : ∀ (ys : List α) (s : SState α) (xs : List α)
    (index : Nat), s.cells = xs.map Cell.live → index ≤ xs.length →
    Sized cfg s (insertInput cfg s index (ys.map Cell.live)) ((Spec.insertList xs index ys).map Cell.live) ok
  | [], s, xs, index, hs, hi => by
    rw [show Spec.insertList xs index [] = xs by simp [Spec.insertList]]; exact .refl hs
  | y :: ys, s, xs, index, hs, hi => by
    have h1 := insertCrt_sized cfg hlay s xs index (.ext (.live y)) ok hs hi trivial
    have h2 := insertInput_sized cfg hlay ok ys _ (Spec.insertN xs index 1 y) (index + 1) h1.1
      (by rw [Spec.insertN_length xs index 1 y hi]; exact Nat.succ_le_succ hi)
    rw [Spec.insertList_cons xs index y ys hi] at h2
    exact h1.seq h2 (by
      rw [List.length_map, List.length_map, Spec.insertN_length _ _ _ _ hi, Spec.insertList_length _ _ _ hi]
      exact Nat.add_le_add_left (Nat.succ_pos _) _)

theorem setCount_sized (cfg : SCfg) (hlay : cfg.lay.Ok) (s : SState α) (xs : List α) (count : Nat) (item : Ref α)
    (ok : Prop) (hs : s.cells = xs.map Cell.live) (hr : Spec.refOk xs item) :
    Sized cfg s (setCount cfg s count item) ((Spec.setCount xs count (Spec.refVal xs item)).map Cell.live) ok := by
  have hn : s.cells.length = xs.length := by rw [hs, List.length_map]
  have hl : ((Spec.setCount xs count (Spec.refVal xs item)).map Cell.live).length = count := by
    rw [List.length_map, Spec.setCount_length]
  unfold setCount
  rw [hn]
  rcases Nat.lt_trichotomy count xs.length with h | h | h
  · rw [if_pos h]
    exact .same (by rw [hs, ← List.map_take, Spec.setCount, if_pos (Nat.le_of_lt h)]) hl
      fun w => Nat.le_trans (Nat.le_of_lt h) (hn ▸ w)
  · subst h
    rw [if_neg (Nat.lt_irrefl _), if_neg (Nat.lt_irrefl _)]
    exact .refl (by rw [Spec.setCount, if_pos (Nat.le_refl _), List.take_length]; exact hs)
  · rw [if_neg (Nat.lt_asymm h), if_pos h]
    show Sized cfg s (withCells (reserveOp cfg s count) _) _ ok
    exact .reserve hlay _ (by rw [hn, hs, read_live xs item hr, Spec.setCount, if_neg (Nat.not_le.mpr h), List.map_append,
      List.map_replicate]) hl

theorem insertN_sized (cfg : SCfg) (hlay : cfg.lay.Ok) (s : SState α) (xs : List α) (index count : Nat) (item : Ref α)
    (ok : Prop) (hs : s.cells = xs.map Cell.live) (hi : index ≤ xs.length) (hr : Spec.refOk xs item) :
    Sized cfg s (insertN cfg s index count item) ((Spec.insertN xs index count (Spec.refVal xs item)).map Cell.live) ok :=
  .reserve hlay _ (insertN_live cfg.keeps s.cells xs index count item hs hi hr)
    (insertN_live_length s.cells xs index count _ hs hi)

theorem insertRange_sized (cfg : SCfg) (hlay : cfg.lay.Ok) (s : SState α) (xs ys : List α) (index : Nat) (ok : Prop)
    (hs : s.cells = xs.map Cell.live) (hi : index ≤ xs.length) :
    Sized cfg s (insertRange cfg s index (ys.map Cell.live)) ((Spec.insertList xs index ys).map Cell.live) ok :=
  .reserve hlay _ (insertRange_live cfg.keeps s.cells xs ys index hs hi) (insertList_live_length s.cells xs ys index hs hi)

theorem step_sized (cfg : SCfg) (hlay : cfg.lay.Ok) (s : SState α) (xs : List α) (op : Op α)
    (hs : s.cells = xs.map Cell.live) (hv : Spec.valid xs op) :
    Sized cfg s (step cfg s op) ((Spec.step xs op).map Cell.live) op.sizeOp := by
  have hn : s.cells.length = xs.length := by rw [hs, List.length_map]
  have fs : ∀ {k}, k ≤ xs.length → Inv cfg s → k ≤ capacity cfg s := fun h w => Nat.le_trans h (hn ▸ w)
  cases op with
  | addBackCopy item | addBackCrt item => exact addBackCrt_sized cfg hlay s xs item _ hs hv
  | insertCrt index item => exact insertCrt_sized cfg hlay s xs index item _ hs hv.1 hv.2
  | insertN index count item => exact insertN_sized cfg hlay s xs index count item _ hs hv.1 hv.2
  | insertRange index ys => exact insertRange_sized cfg hlay s xs ys index _ hs hv
  | insertInput index ys => exact insertInput_sized cfg hlay _ ys s xs index hs hv
  | setCount count item => exact setCount_sized cfg hlay s xs count item _ hs hv
  | removeBack count =>
    exact .same (by rw [hs, List.length_map, ← List.map_take]; rfl) (List.length_map _) (fs (List.length_take_le' _ _))
  | remove index count =>
    exact .same (by rw [hs]; exact remove_spec cfg.keeps xs index count hv) (List.length_map _)
      (fs (Spec.remove_length_le xs index count))
  | removeIf p =>
    exact .same (by rw [hs, removeIf_spec, filter_map_live]; rfl) (List.length_map _) (fs (List.length_filter_le _ _))
  | setItem j x =>
    exact .same (by rw [hs, ← List.map_set]; rfl) (List.length_map _) (fs (Nat.le_of_eq List.length_set))
  | oracle b => exact ⟨hs, id, fun _ _ => ⟨rfl, rfl⟩⟩
  | clear f =>
    cases f with
    | false => exact .same rfl rfl fun _ => Nat.zero_le _
    | true => exact ⟨rfl, fun _ => Nat.zero_le _, fun h => Bool.noConfusion h⟩
  | reserve n => exact ⟨(reserveOp_cells cfg s n).trans hs, reserveOp_inv cfg hlay s n, False.elim⟩
  | shrink n => exact ⟨(shrinkOp_cells cfg s n).trans hs, shrinkOp_inv cfg hlay s n, False.elim⟩
  | assignFill count item =>
    have hr : Spec.refOk xs item := hv
    obtain ⟨c, i, _⟩ := setCount_sized cfg hlay (SState.initO s.segs.oracle) [] count (.ext (item.read s.cells)) False rfl
      (by rw [hs, read_live xs item hr]; trivial)
    refine ⟨c.trans ?_, fun _ => i (Nat.zero_le _), False.elim⟩
    rw [hs, read_live xs item hr]
    show (Spec.setCount [] count _).map Cell.live = (List.replicate count _).map Cell.live
    cases count <;> rfl
  | assignRange ys =>
    obtain ⟨c, i, _⟩ := addAll_sized cfg hlay False ys (SState.initO s.segs.oracle) [] rfl
    exact ⟨c, fun _ => i (Nat.zero_le _), False.elim⟩

theorem hist (cfg : SCfg) (hlay : cfg.lay.Ok) (ops : List (Op α)) (s : SState α) (xs : List α)
    (hs : s.cells = xs.map Cell.live) (hv : Spec.validAll xs ops) :
    (run cfg s ops).1.cells = (Spec.run xs ops).map Cell.live ∧ (Inv cfg s → Inv cfg (run cfg s ops).1) ∧
    ∀ n, n ≤ capacity cfg s → (∀ op ∈ ops, op.sizeOp) → sizesLe xs ops n → (run cfg s ops).2 = [] :=
  Box.hist (box cfg) (step cfg) (run cfg) (fun _ => rfl) (fun _ _ _ => rfl) (step_sized cfg hlay) ops s xs hs hv


end Momo.Arr.Seg
