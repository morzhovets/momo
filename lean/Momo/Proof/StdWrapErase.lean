import Momo.Model.StdWrap
import Momo.Proof.ListFacts
/-!
  C06, section 1 of `Model/StdWrap.lean`: `reach` is the enumeration `reachU` and `reachMM` perform, with one lemma per shape of range (`reach_here`, `reach_one`,
  `reach_all`, `reach_key`), from which `Props/C06.lean` shows that `erase(first, last)` of the unordered wrappers removes exactly the elements the iterators
  enumerate between `first` and `last`. For the multimap: the run of equal keys that starts at a position (`runLen`, `gend`), also for a key list given by its
  layout, and the positions `RemoveKey` removes (`erased_key`).
-/
namespace Momo.StdWrap
open List

/-- what `reachU` and `reachMM` compute, for any `++` -/
def reach (next : It → It) (n : Nat) : Nat → It → It → Option (List Nat)
  | 0, _, _ => none
  | f+1, it, last =>
    if it.pos = last.pos then some []
    else if it.pos ≥ n then none
    else (reach next n f (next it) last).map (it.pos :: ·)

theorem reachU_eq (n : Nat) : ∀ fuel it last, reachU n fuel it last = reach (nextU n) n fuel it last
  | 0, _, _ => rfl
  | f+1, it, last => by rw [reachU, reach, reachU_eq n f]

theorem reachMM_eq (ks : List Nat) : ∀ fuel it last, reachMM ks fuel it last = reach (nextMM ks) ks.length fuel it last
  | 0, _, _ => rfl
  | f+1, it, last => by rw [reachMM, reach, reachMM_eq ks f]

theorem reach_here {next : It → It} {n fuel : Nat} {it last : It} (hf : 0 < fuel) (h : it.pos = last.pos) :
    reach next n fuel it last = some [] := by
  obtain ⟨f, rfl⟩ := Nat.exists_eq_succ_of_ne_zero (Nat.ne_of_gt hf)
  rw [reach, if_pos h]

theorem reach_step {next : It → It} {n f : Nat} {it last : It} (h1 : it.pos ≠ last.pos) (h2 : it.pos < n) :
    reach next n (f + 1) it last = (reach next n f (next it) last).map (it.pos :: ·) := by
  rw [reach, if_neg h1, if_neg (Nat.not_le.mpr h2)]

theorem reach_one {next : It → It} {n fuel : Nat} {it last : It} (h1 : it.pos ≠ last.pos) (h2 : it.pos < n)
    (h3 : (next it).pos = last.pos) (hf : n < fuel) : reach next n fuel it last = some [it.pos] := by
  obtain ⟨f, rfl⟩ := Nat.exists_eq_succ_of_ne_zero (Nat.ne_of_gt (Nat.lt_trans (Nat.lt_of_le_of_lt (Nat.zero_le _) h2) hf))
  rw [reach_step h1 h2, reach_here (Nat.lt_of_le_of_lt (Nat.zero_le _) (Nat.lt_of_lt_of_le h2 (Nat.le_of_lt_succ hf))) h3]; rfl

/-- a traversal iterator (`mv = true`, "movable") walks from `p` to any later position `l`, whatever kind of iterator `last` is -/
theorem reach_mv {next : It → It} {n : Nat} (hnext : ∀ p, next ⟨p, true⟩ = ⟨p + 1, true⟩) (fuel p l : Nat) (b : Bool)
    (hpl : p ≤ l) (hln : l ≤ n) (hf : l - p < fuel) :
    reach next n fuel ⟨p, true⟩ ⟨l, b⟩ = some (range' p (l - p)) := by
  obtain ⟨d, rfl⟩ := Nat.exists_eq_add_of_le hpl
  rw [Nat.add_sub_cancel_left] at hf ⊢
  induction d generalizing p fuel with
  | zero => exact reach_here (Nat.lt_of_le_of_lt (Nat.zero_le _) hf) rfl
  | succ d ih =>
    obtain ⟨f, rfl⟩ := Nat.exists_eq_succ_of_ne_zero (Nat.ne_of_gt (Nat.lt_of_le_of_lt (Nat.zero_le _) hf))
    have hlt : p < p + (d + 1) := Nat.lt_add_of_pos_right (Nat.succ_pos d)
    have e : p + (d + 1) = p + 1 + d := Nat.add_right_comm p d 1
    rw [reach_step (Nat.ne_of_lt hlt) (Nat.lt_of_lt_of_le hlt hln), hnext, e,
      ih f (p + 1) (Nat.le_add_right _ _) (e ▸ hln) (Nat.lt_of_succ_lt_succ hf)]
    rfl

theorem reach_all {next : It → It} (hnext : ∀ p, next ⟨p, true⟩ = ⟨p + 1, true⟩) (n : Nat) (b : Bool) :
    reach next n (n + 1) ⟨0, true⟩ ⟨n, b⟩ = some (range n) :=
  range_eq_range' ▸ reach_mv hnext _ 0 n b (Nat.zero_le _) (Nat.le_refl _) (Nat.lt_succ_self _)

theorem runLen_le (k : Nat) (l : List Nat) : runLen k l ≤ l.length := by
  fun_induction runLen k l with
  | case1 => exact Nat.le_refl _
  | case2 _ ih => exact Nat.succ_le_succ ih
  | case3 => exact Nat.zero_le _

theorem getElem?_of_lt_runLen {k : Nat} {l : List Nat} {i : Nat} (h : i < runLen k l) : l[i]? = some k := by
  fun_induction runLen k l generalizing i with
  | case1 => exact absurd h (Nat.not_lt_zero _)
  | case2 t ih =>
    cases i with
    | zero => exact getElem?_cons_zero
    | succ j => rw [getElem?_cons_succ]; exact ih (Nat.lt_of_succ_lt_succ h)
  | case3 => exact absurd h (Nat.not_lt_zero _)

theorem getElem?_runLen_ne (k : Nat) (l : List Nat) : l[runLen k l]? ≠ some k := by
  fun_induction runLen k l with
  | case1 => exact fun h => nomatch h
  | case2 t ih => rw [getElem?_cons_succ]; exact ih
  | case3 x t hx => rw [getElem?_cons_zero]; exact fun h => hx (Option.some.inj h)

theorem gend_eq (ks : List Nat) (p : Nat) (hp : p < ks.length) : gend ks p = p + runLen ks[p] (ks.drop p) := by
  rw [gend, getElem?_eq_getElem hp]

theorem run_key (ks : List Nat) (p q : Nat) (hp : p < ks.length) (hpq : p ≤ q) (hq : q < gend ks p) : ks[q]? = ks[p]? := by
  obtain ⟨d, rfl⟩ := Nat.exists_eq_add_of_le hpq
  rw [gend_eq ks p hp] at hq
  rw [← getElem?_drop, getElem?_of_lt_runLen (Nat.lt_of_add_lt_add_left hq), getElem?_eq_getElem hp]

theorem run_stop (ks : List Nat) (p : Nat) (hp : p < ks.length) : ks[gend ks p]? ≠ ks[p]? := by
  rw [gend_eq ks p hp, getElem?_eq_getElem hp, ← getElem?_drop]
  exact getElem?_runLen_ne _ _

theorem lt_gend_le (ks : List Nat) (p : Nat) (hp : p < ks.length) :
    p < gend ks p ∧ gend ks p ≤ ks.length := by
  have h1 := runLen_le ks[p] (ks.drop p)
  have h2 : runLen ks[p] (ks.drop p) ≠ 0 := fun h0 => by
    have := getElem?_runLen_ne ks[p] (ks.drop p)
    rw [h0, getElem?_drop, Nat.add_zero, getElem?_eq_getElem hp] at this
    exact this rfl
  rw [length_drop] at h1
  rw [gend_eq ks p hp]
  exact ⟨Nat.lt_add_of_pos_right (Nat.pos_of_ne_zero h2), Nat.add_le_of_le_sub' (Nat.le_of_lt hp) h1⟩

theorem next_in_run_iff (ks : List Nat) (p : Nat) (hp : p < ks.length) :
    (p + 1 < ks.length ∧ ks[p+1]? = ks[p]?) ↔ p + 1 < gend ks p := by
  have hb := lt_gend_le ks p hp
  constructor
  · intro ⟨_, h2⟩
    exact Nat.lt_of_le_of_ne hb.1 fun e => run_stop ks p hp (e ▸ h2)
  · intro h
    exact ⟨Nat.lt_of_lt_of_le h hb.2, run_key ks p (p + 1) hp (Nat.le_succ p) h⟩

theorem gend_same (ks : List Nat) (p : Nat) (hp : p < ks.length) (h : p + 1 < gend ks p) : gend ks (p+1) = gend ks p := by
  have hb := lt_gend_le ks p hp
  have hp1 : p + 1 < ks.length := Nat.lt_of_lt_of_le h hb.2
  have hb1 := lt_gend_le ks (p + 1) hp1
  have hk := run_key ks p (p + 1) hp (Nat.le_succ p) h
  rcases Nat.lt_trichotomy (gend ks (p+1)) (gend ks p) with hlt | heq | hgt
  · exact absurd ((run_key ks p _ hp (Nat.le_of_lt (Nat.lt_trans (Nat.lt_succ_self p) hb1.1)) hlt).trans hk.symm)
      (run_stop ks (p + 1) hp1)
  · exact heq
  · exact absurd ((run_key ks (p + 1) _ hp1 (Nat.le_of_lt h) hgt).trans hk) (run_stop ks p hp)

/-! the run of a key that is laid out as `A ++ k :: (replicate j k ++ B)` -/

theorem runLen_replicate_append (k : Nat) (B : List Nat) (hB : B.head? ≠ some k) : ∀ j, runLen k (replicate j k ++ B) = j
  | 0 => by
    cases B with
    | nil => rfl
    | cons x t => rw [replicate_zero, nil_append, runLen, if_neg fun hx => hB (congrArg some hx)]
  | j + 1 => by rw [replicate_succ, cons_append, runLen, if_pos rfl, runLen_replicate_append k B hB j]

theorem gend_layout (A B : List Nat) (k j : Nat) (hB : B.head? ≠ some k) :
    gend (A ++ k :: (replicate j k ++ B)) A.length = A.length + 1 + j := by
  have hp : A.length < (A ++ k :: (replicate j k ++ B)).length := by
    rw [length_append, length_cons]; exact Nat.lt_add_of_pos_right (Nat.succ_pos _)
  have hk : (A ++ k :: (replicate j k ++ B))[A.length] = k := by
    rw [getElem_append_right (Nat.le_refl _)]; simp only [Nat.sub_self, getElem_cons_zero]
  rw [gend_eq _ _ hp, hk, drop_left, runLen, if_pos rfl, runLen_replicate_append k B hB j, Nat.add_assoc, Nat.add_comm j 1]

theorem isRunStart_layout (A T : List Nat) (k : Nat) (hA : k ∉ A) : isRunStart (A ++ k :: T) A.length = true := by
  rw [isRunStart, Bool.or_eq_true, decide_eq_true_eq, bne_iff_ne]
  by_cases h0 : A.length = 0
  · exact Or.inl h0
  · refine Or.inr fun h => hA ?_
    rw [getElem?_append_left (Nat.sub_lt (Nat.pos_of_ne_zero h0) Nat.one_pos), getElem?_append_right (Nat.le_refl _),
      Nat.sub_self, getElem?_cons_zero] at h
    exact mem_of_getElem? h

theorem nextMM_mv (ks : List Nat) (p : Nat) : nextMM ks ⟨p, true⟩ = ⟨p + 1, true⟩ := by
  rw [nextMM]; split <;> rfl

/-- a lookup result walks through the remaining values of its key and then becomes `end()` -/
theorem reach_run (ks : List Nat) (d : Nat) : ∀ (fuel p : Nat) (b : Bool), p < ks.length → gend ks p = p + d + 1 → d + 1 < fuel →
    reach (nextMM ks) ks.length fuel ⟨p, false⟩ ⟨ks.length, b⟩ = some (range' p (d + 1)) := by
  induction d with
  | zero =>
    intro fuel p b hp hg hf
    obtain ⟨f, rfl⟩ := Nat.exists_eq_succ_of_ne_zero (Nat.ne_of_gt (Nat.lt_trans (Nat.succ_pos _) hf))
    have h : ¬ (p + 1 < ks.length ∧ ks[p+1]? = ks[p]?) := fun h =>
      Nat.lt_irrefl _ (hg ▸ (next_in_run_iff ks p hp).mp h)
    rw [reach_step (Nat.ne_of_lt hp) hp, nextMM, if_neg h, if_neg Bool.false_ne_true,
      reach_here (it := ⟨ks.length, false⟩) (last := ⟨ks.length, b⟩) (Nat.lt_of_succ_lt_succ hf) rfl]
    rfl
  | succ d ih =>
    intro fuel p b hp hg hf
    obtain ⟨f, rfl⟩ := Nat.exists_eq_succ_of_ne_zero (Nat.ne_of_gt (Nat.lt_trans (Nat.succ_pos _) hf))
    have hlt : p + 1 < gend ks p := hg ▸ Nat.succ_lt_succ (Nat.lt_add_of_pos_right (Nat.succ_pos d))
    have h := (next_in_run_iff ks p hp).mpr hlt
    rw [reach_step (Nat.ne_of_lt hp) hp, nextMM, if_pos h,
      ih f (p + 1) b h.1 ((gend_same ks p hp hlt).trans (hg.trans (by omega))) (Nat.lt_of_succ_lt_succ hf)]
    rfl

/-- from the element at `p` to `MakeIterator(keyIter, count)`, by a traversal iterator or a lookup result: the rest of the key's run -/
theorem reach_key (ks : List Nat) (first : It) (lm : Bool) (hlt : first.pos < ks.length) :
    reach (nextMM ks) ks.length (ks.length + 1) first ⟨makeIterEnd ks first, lm⟩ =
      some (range' first.pos (gend ks first.pos - first.pos)) := by
  have hb := lt_gend_le ks first.pos hlt
  obtain ⟨fp, fm⟩ := first
  cases fm with
  | true =>
    exact reach_mv (nextMM_mv ks) _ fp _ lm (Nat.le_of_lt hb.1) hb.2 (Nat.lt_succ_of_le (Nat.le_trans (Nat.sub_le _ _) hb.2))
  | false =>
    obtain ⟨d, hd⟩ := Nat.exists_eq_add_of_lt hb.1
    rw [hd, Nat.add_assoc, Nat.add_sub_cancel_left]
    exact reach_run ks d _ fp lm hlt hd (by omega)

theorem key_positions (ks : List Nat) (hg : Grouped ks) (p : Nat) (hp : p < ks.length)
    (hs : isRunStart ks p = true) (q : Nat) (hq : q < ks.length) :
    ((ks[q]? == ks[p]?) = true ↔ p ≤ q ∧ q < gend ks p) := by
  have hb := lt_gend_le ks p hp
  rw [beq_iff_eq]
  constructor
  · intro h
    constructor
    · -- `q < p` contradicts the run start: the key at `p - 1` lies between two equal keys
      apply Decidable.byContradiction; intro hlt
      obtain ⟨p', rfl⟩ := Nat.exists_eq_succ_of_ne_zero (Nat.ne_of_gt (Nat.lt_of_le_of_lt (Nat.zero_le q) (Nat.lt_of_not_le hlt)))
      have hs' : ks[p']? ≠ ks[p'+1]? := by
        rw [isRunStart, Bool.or_eq_true, decide_eq_true_eq, bne_iff_ne] at hs
        exact hs.resolve_left (Nat.succ_ne_zero p')
      by_cases hqp : q = p'
      · exact hs' (hqp ▸ h)
      · exact hs' ((hg q p' (p' + 1) (Nat.lt_of_le_of_ne (Nat.le_of_lt_succ (Nat.lt_of_not_le hlt)) hqp)
          (Nat.lt_succ_self p') hp h).trans h)
    · -- `gend ≤ q` contradicts the end of the run in the same way
      apply Decidable.byContradiction; intro hge
      have hstop := run_stop ks p hp
      by_cases hqe : q = gend ks p
      · exact hstop (hqe ▸ h)
      · exact hstop (hg p (gend ks p) q hb.1 (Nat.lt_of_le_of_ne (Nat.le_of_not_lt hge) (Ne.symm hqe)) hq h.symm)
  · exact fun ⟨h1, h2⟩ => run_key ks p q hp h1 h2

theorem erased_key (ks : List Nat) (hg : Grouped ks) (p : Nat) (hp : p < ks.length)
    (hs : isRunStart ks p = true) :
    erasedMM ks (.key p) = range' p (gend ks p - p) :=
  ListFacts.filter_range_interval ks.length p (gend ks p) _ (Nat.le_of_lt (lt_gend_le ks p hp).1) (lt_gend_le ks p hp).2
    (key_positions ks hg p hp hs)

/-- decidable form of `Grouped` (for concrete layouts) -/
def groupedB (ks : List Nat) : Bool :=
  (List.range ks.length).all fun l => (List.range l).all fun j => (List.range j).all fun i =>
    !(ks[i]? == ks[l]?) || (ks[j]? == ks[i]?)

theorem grouped_of_groupedB (ks : List Nat) (h : groupedB ks = true) : Grouped ks := by
  intro i j l hij hjl hl he
  unfold groupedB at h
  simp only [List.all_eq_true, List.mem_range] at h
  have := h l hl j hjl i hij
  rw [he, beq_self_eq_true, Bool.not_true, Bool.false_or, beq_iff_eq] at this
  exact this.trans he.symm

end Momo.StdWrap
