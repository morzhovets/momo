import Momo.Proof.PoolSingle
/-!
  State machine of `MemPool` (C09): the cache layer - `pvFlushDeallocate`, the flush, `Deallocate` - proved once for either
  kind of pool. `Allocate` / `Deallocate` / the flush are the same code for `blockCount > 1` and `blockCount == 1`; the model
  branches on `P.N` only inside `deleteBlock` (and in the fresh-block part of `allocate`), and so do `Pool.blocks`,
  `Pool.held` and `Below` here. `AnyWF` is `PoolWF` resp. `SingleWF`; what the property theorems state with the records of the
  two kinds are instances at the end.
-/
namespace Momo.Pool

/-- the parameters of a pool of one of the two kinds; `pvCheckParams` gives it (`Legal.kind`) -/
def Params.Kind (P : Params) : Prop := P.N = 1 ∨ (2 ≤ P.N ∧ P.A ≤ 1024 ∧ Multi P (P.S / P.A))

theorem Legal.kind {P : Params} (hL : P.Legal) : P.Kind := by
  by_cases h2 : 2 ≤ P.N
  · exact Or.inr ⟨h2, (Legal.multi hL h2).2, (Legal.multi hL h2).1⟩
  · exact Or.inl (by have := hL.1; omega)

theorem Multi.kind {P : Params} {k : Int} (hM : Multi P k) (hN2 : 2 ≤ P.N) (hA2 : P.A ≤ 1024) : P.Kind :=
  Or.inr ⟨hN2, hA2, by rw [hM.hS, Int.mul_ediv_cancel_left _ (Int.ne_of_gt hM.hA)]; exact hM⟩

/-- the memory a pool holds, as (address, size) of its allocations.
    For the pool of an object of a world this is `PoolObj.mem` (PoolWorld, `PoolObj.mem_eq_held`), whose test it copies. -/
def Pool.held (P : Params) (p : Pool) : List (Int × Int) := if 2 ≤ P.N then owned P p.store else owned1 P p.singles

theorem held_multi {P : Params} (hN2 : 2 ≤ P.N) (p : Pool) : p.held P = owned P p.store := if_pos hN2

theorem held_single {P : Params} (hN1 : P.N = 1) (p : Pool) : p.held P = owned1 P p.singles := if_neg (by omega)

/-- invariant of the layer below the cache -/
structure Below (P : Params) (p : Pool) : Prop where
  multi : 2 ≤ P.N → CoreWF P p ∧ p.singles = []
  single : P.N = 1 → SinglesOK P p.singles ∧ (p.store = [] ∧ p.pre = [] ∧ p.post = [])

theorem Below.congr {P : Params} {p q : Pool} (h : Below P p) (hs : q.store = p.store) (hpre : q.pre = p.pre)
    (hpost : q.post = p.post) (hsg : q.singles = p.singles) : Below P q :=
  ⟨fun h2 => ⟨(h.multi h2).1.congr hs hpre hpost, hsg ▸ (h.multi h2).2⟩,
    fun h1 => by rw [hs, hpre, hpost, hsg]; exact h.single h1⟩

theorem Below.blocks_nodup {P : Params} (hK : P.Kind) {p : Pool} (h : Below P p) : (p.blocks P).Nodup := by
  unfold Pool.blocks
  rcases hK with h1 | ⟨h2, _, hM⟩
  · rw [if_neg (by omega)]; exact (h.single h1).1.keys
  · rw [if_pos (by omega)]; exact (h.multi h2).1.taken_nodup hM

/-- what `pvDeleteBlock` on the blocks `gone` does, seen from the layer below the cache -/
structure Released (P : Params) (p p' : Pool) (gone : List Int) (evs : List Ev) : Prop where
  below : Below P p'
  blocks : (p.blocks P).Perm (gone ++ p'.blocks P)
  cache : p'.cache = p.cache
  count : p'.allocCount = p.allocCount
  frees : Frees (p.held P) evs (p'.held P)
  bufs : ∀ x ∈ bufs p'.store, x ∈ bufs p.store

theorem Released.nil {P : Params} {p : Pool} (h : Below P p) : Released P p p [] [] :=
  ⟨h, List.Perm.refl _, rfl, rfl, Frees.nil (List.Perm.refl _), fun _ hx => hx⟩

theorem Released.trans {P : Params} {p p1 p2 : Pool} {g1 g2 : List Int} {e1 e2 : List Ev} (h1 : Released P p p1 g1 e1)
    (h2 : Released P p1 p2 g2 e2) : Released P p p2 (g1 ++ g2) (e1 ++ e2) :=
  ⟨h2.below, h1.blocks.trans (by rw [List.append_assoc]; exact h2.blocks.append_left g1), h2.cache.trans h1.cache,
    h2.count.trans h1.count, h1.frees.trans h2.frees, fun x hx => h1.bufs x (h2.bufs x hx)⟩

/-- `pvDeleteBlock(void*)` (470-478) on a block the layer below has handed out: the one place where the two kinds of pool
    are told apart -/
theorem deleteBlock_any {P : Params} (hK : P.Kind) {p : Pool} (h : Below P p) (c : Int) (hc : c ∈ p.blocks P) :
    ∃ p' evs, deleteBlock P p c = .ok () p' evs ∧ Released P p p' [c] evs := by
  rcases hK with hN1 | ⟨h2, hA2, hM⟩
  · have hb := blocks_single (P := P) hN1
    rw [hb] at hc
    obtain ⟨evs, hd, hok, hperm, hl⟩ := deleteBlock_single hN1 (h.single hN1).1 c hc
    exact ⟨_, evs, hd, ⟨fun e => by omega, fun _ => ⟨hok, (h.single hN1).2⟩⟩, by rw [hb, hb]; exact hperm, rfl, rfl,
      by rw [held_single hN1, held_single hN1]; exact hl, fun _ hx => hx⟩
  · have hb := blocks_multi (P := P) h2
    rw [hb] at hc
    obtain ⟨p', evs, hd, hs⟩ := deleteBlockN_ok hM h2 hA2 (h.multi h2).1 c hc
    exact ⟨p', evs, by rw [deleteBlock_eq_N h2, hd], ⟨fun _ => ⟨hs.wf, hs.same.2.2.trans (h.multi h2).2⟩, fun e => by omega⟩,
      by rw [hb, hb]; exact hs.perm, hs.same.1, hs.same.2.1, by rw [held_multi h2, held_multi h2]; exact hs.frees, hs.sub⟩

/-- `pvFlushDeallocate` (459-468) -/
theorem flushList_any {P : Params} (hK : P.Kind) :
    ∀ (cs : List Int) (p : Pool), Below P p → cs.Nodup → (∀ c ∈ cs, c ∈ p.blocks P) →
    ∃ p' evs, flushList P cs p = .ok () p' evs ∧ Released P p p' cs evs := by
  intro cs
  induction cs with
  | nil => intro p h _ _; exact ⟨p, [], rfl, Released.nil h⟩
  | cons c cs ih =>
    intro p h hnd hsub
    obtain ⟨p1, e1, hd1, hr1⟩ := deleteBlock_any hK h c (hsub c List.mem_cons_self)
    have hsub1 : ∀ x ∈ cs, x ∈ p1.blocks P := fun x hx =>
      (List.mem_cons.mp (hr1.blocks.subset (hsub x (List.mem_cons_of_mem _ hx)))).resolve_left
        fun e => (List.nodup_cons.mp hnd).1 (e ▸ hx)
    obtain ⟨p2, e2, hd2, hr2⟩ := ih p1 hr1.below (List.nodup_cons.mp hnd).2 hsub1
    exact ⟨p2, e1 ++ e2, by simp only [flushList, hd1, Outcome.bind, hd2], hr1.trans hr2⟩

/-- the invariant of a pool of either kind: the layer below the cache is in order (`Below`), and the cache holds distinct blocks
    that this layer has handed out, with `allocCount` counting the others (`CacheOK` over `Pool.blocks`). It is `PoolWF` resp.
    `SingleWF` (`PoolWF.any`, `AnyWF.poolWF`, `SingleWF.any`, `AnyWF.singleWF`). -/
structure AnyWF (P : Params) (p : Pool) : Prop where
  below : Below P p
  cache : CacheOK (p.blocks P) p.cache p.allocCount
  cacheOff : P.useCache = false → p.cache = []

theorem AnyWF.count_exact {P : Params} (hK : P.Kind) {p : Pool} (h : AnyWF P p) : p.allocCount = (p.live P).length := by
  rw [live_blocks]; exact h.cache.count_exact (h.below.blocks_nodup hK)

/-- what a flush leaves (`blocks`: the blocks before were the cached ones plus those that stay) -/
structure Flushed (P : Params) (p p' : Pool) (evs : List Ev) : Prop where
  wf : AnyWF P p'
  noCache : p'.cache = []
  live : (p.live P).Perm (p'.live P)
  count : p'.allocCount = p.allocCount
  frees : Frees (p.held P) evs (p'.held P)
  blocks : (p.blocks P).Perm (p.cache ++ p'.blocks P)
  bufs : ∀ x ∈ bufs p'.store, x ∈ bufs p.store

/-- the flush (`pvFlushDeallocate` of the whole cache) -/
theorem flush_any {P : Params} (hK : P.Kind) {p : Pool} (h : AnyWF P p) :
    ∃ p' evs, flush P p = .ok () p' evs ∧ Flushed P p p' evs := by
  obtain ⟨p1, e1, hf1, hb1, hperm1, hc1, ha1, hl1, hs1⟩ :=
    flushList_any hK p.cache { p with cache := [] } (h.below.congr rfl rfl rfl rfl) h.cache.nodup h.cache.sub
  have hc1 : p1.cache = [] := hc1
  have hperm1 : (p.blocks P).Perm (p.cache ++ p1.blocks P) := hperm1
  have hok : CacheOK (p1.blocks P) p1.cache p1.allocCount := by
    rw [hc1, show p1.allocCount = p.allocCount from ha1]; exact h.cache.flushed hperm1
  refine ⟨p1, e1, hf1, ⟨hb1, hok, fun _ => hc1⟩, hc1, ?_, ha1, hl1, hperm1, hs1⟩
  rw [live_of_no_cache P hc1, live_blocks]
  exact filter_not_mem_of_perm_append (h.below.blocks_nodup hK) hperm1

/-- the flush at the start of `DeallocateIf` and `MergeFrom`: with or without a cache, none is left -/
theorem flushIf_any {P : Params} (hK : P.Kind) {p : Pool} (h : AnyWF P p) :
    ∃ p' evs, (if P.useCache = true then flush P p else Outcome.ok () p []) = .ok () p' evs ∧ Flushed P p p' evs := by
  by_cases hu : P.useCache = true
  · rw [if_pos hu]; exact flush_any hK h
  · rw [if_neg hu]
    have hc := h.cacheOff (Bool.not_eq_true _ ▸ hu)
    exact ⟨p, [], rfl, h, hc, List.Perm.refl _, rfl, Frees.nil (List.Perm.refl _), by rw [hc]; rfl, fun _ hx => hx⟩

/-- the cache branch of `Deallocate`; the last conjunct says `0 < p.allocCount` (as in `CacheOK.push`) -/
theorem AnyWF.cachePush {P : Params} (hK : P.Kind) {p : Pool} (h : AnyWF P p) (hu : P.useCache = true) {blk : Int}
    (hblk : blk ∈ p.live P) :
    AnyWF P { ({ p with cache := blk :: p.cache } : Pool) with allocCount := p.allocCount - 1 } ∧
      (p.live P).Perm (blk :: Pool.live P { ({ p with cache := blk :: p.cache } : Pool) with allocCount := p.allocCount - 1 }) ∧
      p.allocCount - 1 + 1 = p.allocCount := by
  rw [live_blocks] at hblk
  obtain ⟨hok, hcnt, hperm⟩ := h.cache.push (h.below.blocks_nodup hK) hblk
  exact ⟨⟨h.below.congr rfl rfl rfl rfl, hok, fun e => Bool.noConfusion (hu.symm.trans e)⟩,
    by rw [live_blocks, live_blocks]; exact hperm, hcnt⟩

/-- **`Deallocate` (308-325)** of a live block -/
theorem deallocate_any {P : Params} (hK : P.Kind) {p : Pool} (h : AnyWF P p) (blk : Int) (hblk : blk ∈ p.live P) :
    ∃ p' evs, deallocate P p blk = .ok () p' evs ∧ AnyWF P p' ∧ (p.live P).Perm (blk :: p'.live P) ∧
      p'.allocCount + 1 = p.allocCount ∧ Frees (p.held P) evs (p'.held P) := by
  have hpos : p.allocCount ≠ 0 := fun e => by
    rw [h.count_exact hK, List.length_eq_zero_iff] at e; rw [e] at hblk; cases hblk
  unfold deallocate
  rw [if_neg hpos]
  by_cases hu : P.useCache = true
  · rw [if_pos hu]
    by_cases hfl : p.cache.length ≥ P.C
    · -- the cache is full: flush, then cache the block
      rw [if_pos hfl]
      obtain ⟨p1, e1, hf1, hwf1, _, hlive1, ha1, hl1, _⟩ := flush_any hK h
      obtain ⟨hwf, hperm, hcnt⟩ := hwf1.cachePush hK hu (hlive1.subset hblk)
      exact ⟨_, e1 ++ [] ++ [], by simp only [hf1, Outcome.bind], hwf, hlive1.trans hperm, hcnt.trans ha1,
        by rw [List.append_nil, List.append_nil]; exact hl1⟩
    · rw [if_neg hfl]
      obtain ⟨hwf, hperm, hcnt⟩ := h.cachePush hK hu hblk
      exact ⟨_, [], rfl, hwf, hperm, hcnt, Frees.nil (List.Perm.refl _)⟩
  · rw [if_neg hu]
    have hcnil : p.cache = [] := h.cacheOff (Bool.not_eq_true _ ▸ hu)
    have hlive := live_of_no_cache P hcnil
    obtain ⟨p1, e1, hd1, hb1, hperm1, hc1, ha1, hl1, _⟩ := deleteBlock_any hK h.below blk (hlive ▸ hblk)
    have hc1' : p1.cache = [] := hc1.trans hcnil
    obtain ⟨hok, hcnt⟩ := (hcnil ▸ h.cache).shrink hperm1
    refine ⟨{ p1 with allocCount := p1.allocCount - 1 }, e1 ++ [], by simp only [hd1, Outcome.bind],
      ⟨hb1.congr rfl rfl rfl rfl, by rw [hc1', ha1]; exact hok, fun _ => hc1'⟩, ?_,
      by show p1.allocCount - 1 + 1 = _; rw [ha1]; exact hcnt, by rw [List.append_nil]; exact hl1⟩
    rw [hlive, live_of_no_cache P (p := { p1 with allocCount := p1.allocCount - 1 }) hc1']
    exact hperm1

theorem PoolWF.any {P : Params} (hN2 : 2 ≤ P.N) {p : Pool} (h : PoolWF P p) : AnyWF P p :=
  ⟨⟨fun _ => ⟨h.core, h.singlesNil⟩, fun e => by omega⟩,
    by unfold Pool.blocks; rw [if_pos (by omega)]; exact h.cacheOK, h.cacheOff⟩

theorem AnyWF.poolWF {P : Params} (hN2 : 2 ≤ P.N) {p : Pool} (h : AnyWF P p) : PoolWF P p := by
  have hc := h.cache
  unfold Pool.blocks at hc; rw [if_pos (by omega)] at hc
  exact ⟨(h.below.multi hN2).1, hc.nodup, hc.sub, h.cacheOff, hc.count, (h.below.multi hN2).2⟩

theorem SingleWF.any {P : Params} (hN1 : P.N = 1) {p : Pool} (h : SingleWF P p) : AnyWF P p :=
  ⟨⟨fun e => by omega, fun _ => ⟨h.singlesOK, h.noBuffers⟩⟩,
    by unfold Pool.blocks; rw [if_neg (by omega)]; exact h.cacheOK, h.cacheOff⟩

theorem AnyWF.singleWF {P : Params} (hN1 : P.N = 1) {p : Pool} (h : AnyWF P p) : SingleWF P p := by
  have hc := h.cache
  unfold Pool.blocks at hc; rw [if_neg (by omega)] at hc
  obtain ⟨hs, hnb⟩ := h.below.single hN1
  exact ⟨hnb, hs.keys, hs.entries, hc.nodup, hc.sub, h.cacheOff, by have := hc.count; rwa [List.length_map] at this⟩

/-- **`Deallocate` (308-325), `blockCount > 1`** -/
theorem deallocate_ok {P : Params} {k : Int} (hM : Multi P k) (hN2 : 2 ≤ P.N) (hA2 : P.A ≤ 1024) {p : Pool}
    (h : PoolWF P p) (blk : Int) (hblk : blk ∈ p.live P) :
    ∃ p' evs, deallocate P p blk = .ok () p' evs ∧ DeallocSpec P p p' blk evs := by
  obtain ⟨p', evs, he, hwf, hlive, hcnt, hf⟩ := deallocate_any (hM.kind hN2 hA2) (h.any hN2) blk hblk
  rw [held_multi hN2, held_multi hN2] at hf
  exact ⟨p', evs, he, hwf.poolWF hN2, hlive, hcnt, hf.settles⟩

/-- **`Deallocate` (308-325), `blockCount == 1`** -/
theorem deallocate_single_ok {P : Params} (hN1 : P.N = 1) {p : Pool} (h : SingleWF P p) (blk : Int)
    (hblk : blk ∈ p.live P) : ∃ p' evs, deallocate P p blk = .ok () p' evs ∧ Dealloc1Spec P p p' blk evs := by
  obtain ⟨p', evs, he, hwf, hlive, hcnt, hf⟩ := deallocate_any (Or.inl hN1) (h.any hN1) blk hblk
  rw [held_single hN1, held_single hN1] at hf
  exact ⟨p', evs, he, hwf.singleWF hN1, hlive, hcnt, hf.settles⟩

end Momo.Pool
