import Momo.Proof.HashMetaChain
import Momo.Proof.HashMetaBucket
import Momo.Proof.TrEqHashMeta
import Momo.Proof.TrEqWave2Bucket
import Momo.Proof.TrEqWave3
/-!
# C12 — Growth reusing stored hash bits places elements where a full rehash would

Statement (properties.jsonl): for every hash value, every table size, every collision displacement and every
growth step, an element stored in a hash table is still found after the table grows, whether the table recomputes
its hash or reconstructs the needed hash bits from what it stored next to the element; reconstruction is used only
when the stored bits suffice. The same holds across any chain of successive growths.

Quantifier: all 64-bit hash codes × log2(bucket count) 0..57 × growth steps × probe distance × slot ×
bucket types that store hash parts (LimP4, Open2N2, One) × chains of growth steps.
-/
namespace Momo.HashMeta

/-- **C12 (a), LimP4: "reconstructs the needed hash bits from what it stored next to the element".**
For every 64-bit hash code `h`, every table size `2^L` (`L ≤ 57`), every displacement `p` (the byte was written by
`pvSetHashProbe(h, L, p)` for the element that linear probing put `p` buckets after its start bucket) and every new
size `2^L'`: whenever `GetHashCodePart` does not call the full getter, the code it returns is exactly the low
`knownBits L` bits of `h` plus the seven top bits of `h`; it selects the same start bucket in the new table, has the same short hash,
and makes `pvSetHashProbe` write the same byte for every displacement `p'` in the new table. -/
theorem C12_limp4_reconstruct (h L L' p full : Nat) (hh : h < 2 ^ 64) (hL : L ≤ 57)
    (hu : P4.useFull (P4.encByte h L p) L L' = false) :
    P4.getHashCodePart (P4.encByte h L p) (P4.shortHash h) (Probe.seqLin L (Probe.start L h) p) L L' full
        = partOf (P4.knownBits L) h ∧
    Probe.start L' (P4.getHashCodePart (P4.encByte h L p) (P4.shortHash h) (Probe.seqLin L (Probe.start L h) p) L L' full)
        = Probe.start L' h ∧
    P4.shortHash (P4.getHashCodePart (P4.encByte h L p) (P4.shortHash h) (Probe.seqLin L (Probe.start L h) p) L L' full)
        = P4.shortHash h ∧
    ∀ p', P4.encByte (P4.getHashCodePart (P4.encByte h L p) (P4.shortHash h) (Probe.seqLin L (Probe.start L h) p) L L' full) L' p'
        = P4.encByte h L' p' := by
  obtain ⟨e, hg⟩ := P4.part_of_not_full h L L' p full hh hL hu
  have hag : Agree (gbits L') (partOf (gbits L) h) h := by rw [← hg]; exact partOf_agree _ h (gbits_le L hL)
  obtain ⟨a1, a2, a3⟩ := P4.agree_all hag
  rw [seqLin_start, e, P4.knownBits_eq, Probe.start_eq, Probe.start_eq]
  exact ⟨rfl, a1, a2, a3⟩

/-- **C12 (a), Open2N2** (triangular displacement, eight payload bits). Growth always enlarges the table (`L < L'`:
`pvGetNewLogBucketCount` checks `shift > 0`). Whenever the full getter is not called, the returned code is exactly
the low `knownBits L` bits plus the seven top bits of `h`, selects the same start bucket, has the same short hash, and —
unless the new size is the last of its group (`O2.probeShift L' = 0`), whose byte is never read
(`C12_open2n2_first_size_byte_never_read`) — makes `AddCrt` write the same byte. -/
theorem C12_open2n2_reconstruct (h L L' p full : Nat) (hh : h < 2 ^ 64) (hL : L ≤ 57) (hlt : L < L')
    (hu : O2.useFull (O2.encByte h L p) L L' = false) :
    O2.getHashCodePart (O2.encByte h L p) (O2.shortHash h) (Probe.seqQuad L (Probe.start L h) p) L L' full
        = partOf (O2.knownBits L) h ∧
    Probe.start L' (O2.getHashCodePart (O2.encByte h L p) (O2.shortHash h) (Probe.seqQuad L (Probe.start L h) p) L L' full)
        = Probe.start L' h ∧
    O2.shortHash (O2.getHashCodePart (O2.encByte h L p) (O2.shortHash h) (Probe.seqQuad L (Probe.start L h) p) L L' full)
        = O2.shortHash h ∧
    (0 < O2.probeShift L' → ∀ p',
      O2.encByte (O2.getHashCodePart (O2.encByte h L p) (O2.shortHash h) (Probe.seqQuad L (Probe.start L h) p) L L' full) L' p'
        = O2.encByte h L' p') := by
  obtain ⟨e, hg, hs0⟩ := O2.part_of_not_full h L L' p full hh hL hlt hu
  have hag : Agree (gbits L') (partOf (gbits L) h) h := by rw [← hg]; exact partOf_agree _ h (gbits_le L hL)
  obtain ⟨a1, a2, a3⟩ := O2.agree_all hag
  rw [seqQuad_start, e, O2.knownBits_eq L hs0, Probe.start_eq, Probe.start_eq]
  exact ⟨rfl, a1, a2, a3⟩

/-- **C12 (a), One** (8-byte state `(hashCode << 1) | 1`): `GetHashCodePart` returns the hash code without its top
bit; for every table size up to `2^63` this selects the same start bucket, and `AddCrt` stores the same state
(so `Find`, which compares whole states, still matches). With a smaller state the full getter is always called. -/
theorem C12_one_reconstruct (h full L' : Nat) (hL' : L' ≤ 63) :
    One.getHashCodePart 8 (One.hashState 8 h) full = h % 2 ^ 63 ∧
    Probe.start L' (One.getHashCodePart 8 (One.hashState 8 h) full) = Probe.start L' h ∧
    One.hashState 8 (One.getHashCodePart 8 (One.hashState 8 h) full) = One.hashState 8 h ∧
    (∀ stateSize state, stateSize < 8 → One.getHashCodePart stateSize state full = full) := by
  rw [One.part8]
  refine ⟨rfl, ?_, One.state8_congr (Nat.mod_mod _ _), ?_⟩
  · rw [Probe.start_eq, Probe.start_eq, Nat.mod_mod_of_dvd h (Nat.pow_dvd_pow 2 hL')]
  · intro s st hs; simp [One.getHashCodePart, hs]

/-- **C12 (b): "reconstruction is used only when the stored bits suffice".** If `GetHashCodePart` of LimP4 does not
call the full getter then the consumed byte is a genuine hash-probe byte (marker bit set, not the empty value — in
particular not a short hash that took over the slot) and every index bit of the new size lies among the bits the
byte and the bucket index yield (`L' ≤ knownBits L`). For Open2N2 (growth `L < L'`) likewise, and the probe shift is
positive (the `MOMO_ASSERT(probeShift > 0)` of the source can not fire). -/
theorem C12_reconstruction_only_when_bits_suffice (byte L L' : Nat) (hb : byte < 256) :
    (P4.useFull byte L L' = false → 128 ≤ byte ∧ byte ≠ 255 ∧ L' ≤ P4.knownBits L ∧ P4.knownBits L' = P4.knownBits L) ∧
    (O2.useFull byte L L' = false → L < L' →
        byte ≠ 255 ∧ 0 < O2.probeShift L ∧ L' ≤ O2.knownBits L) := by
  constructor
  · intro hu
    obtain ⟨hu1, hgrp⟩ := P4.useFull_false.mp hu
    have h1 : ¬ ((byte + 1) % 256 ≤ 128) := hu1
    rw [P4.knownBits_eq, P4.knownBits_eq, P4.gbits_of_group hgrp]
    exact ⟨by omega, by omega, le_gbits L', rfl⟩
  · intro hu hlt
    obtain ⟨hu1, hgrp⟩ := O2.useFull_false.mp hu
    have hs0 := O2.probeShift_pos hlt hgrp
    rw [O2.knownBits_eq L hs0, O2.gbits_of_group hgrp]
    exact ⟨hu1, hs0, le_gbits L'⟩

/-- Open2N2's payload boundary is offset by one from the sufficiency test: a byte written at the last size of a group
(`probeShift = 0`, i.e. `L ≡ 1 mod 8`: `O2.group 9 = 1`, `O2.group 10 = 2`; "first" in the name counts in the payload cycle
`(L + 7) / 8`, not in `O2.group`) from a reconstructed code may hold bits the code does not have — and no later growth ever reads it. -/
theorem C12_open2n2_first_size_byte_never_read (byte L L' : Nat) (hs : O2.probeShift L = 0) (hlt : L < L') :
    O2.useFull byte L L' = true := by
  cases hu : O2.useFull byte L L' with
  | true => rfl
  | false => exact absurd hs (Nat.ne_of_gt (O2.probeShift_pos hlt (O2.useFull_false.mp hu).2))

/-- **C12 (c): "placed exactly where a full rehash would place it … across any chain of successive growths".**
For every bucket kind, every 64-bit hash code, every initial table `2^L0` with any occupancy `f0`, and every chain of
growth steps (strictly increasing sizes up to `2^57`, each with an arbitrary occupancy of the new table at the moment
the element is re-inserted): re-inserting at every step with the code from `GetHashCodePart` (`chainPart`) yields the
same start bucket, displacement, landing bucket, short hash and hash-probe byte as recomputing the hash at every step
(`chainFull`) — and fails ("Hash table is full") exactly when that fails. (The byte may differ only for Open2N2 at the
last size of a group, `probeShift = 0`, where it is never read: `Placed.sameAs`.) -/
theorem C12_chain (k : Kind) (h : Nat) (hh : h < 2 ^ 64) (L0 : Nat) (hL0 : L0 ≤ 57) (f0 : Nat → Bool)
    (steps : List (Nat × (Nat → Bool))) (hch : GrowthChain 57 L0 steps) :
    sameAsOpt k (chainPart k h (place k L0 f0 h) steps) (chainFull k h (place k L0 f0 h) steps) :=
  chain_same k h hh steps L0 _ _ (rel_of_place k h L0 h f0 hh hL0 (AgreeK.refl k L0 h)) hch

/-- one growth step is the chain of length one -/
theorem C12_growth_step (k : Kind) (h : Nat) (hh : h < 2 ^ 64) (L L' : Nat) (hlt : L < L') (hL' : L' ≤ 57)
    (f f' : Nat → Bool) (st : Placed) (hst : place k L f h = some st) :
    sameAsOpt k (relocate k h st L' f') (rehash k h L' f') := by
  have := C12_chain k h hh L (by omega) f [(L', f')] ⟨hlt, hL', trivial⟩
  rw [hst] at this
  simpa [chainPart, chainFull] using this

/-- **C12 (d): "an element stored in a hash table is still found after the table grows".** Wherever a chain of
growths (performed with the stored bits) leaves the element, a lookup with the true hash code finds it: the start
bucket of the element is the start bucket `pvFind` computes from `h` (so the max-probe bound that `UpdateMaxProbe`
recorded there covers it, C13), its bucket is the one the probe sequence of `h` reaches after `probe` steps, hence among the buckets
`pvFind` examines for any bound `≥ probe`, and the stored short hash / hash state is the one `Find` compares with. -/
theorem C12_still_found (k : Kind) (h : Nat) (hh : h < 2 ^ 64) (L0 : Nat) (hL0 : L0 ≤ 57) (f0 : Nat → Bool)
    (steps : List (Nat × (Nat → Bool))) (hch : GrowthChain 57 L0 steps) (st : Placed)
    (hres : chainPart k h (place k L0 f0 h) steps = some st) (maxProbe : Nat) (hmp : st.probe ≤ maxProbe) :
    st.start = Probe.start st.L h ∧ st.short = k.short h ∧
    st.idx = Probe.seqOf k.quad st.L (Probe.start st.L h) st.probe ∧
    st.idx ∈ Probe.findSeq k.quad st.L (Probe.start st.L h) maxProbe := by
  have hs := C12_chain k h hh L0 hL0 f0 steps hch
  rw [hres] at hs
  cases hf : chainFull k h (place k L0 f0 h) steps with
  | none => rw [hf] at hs; exact hs.elim
  | some b =>
    rw [hf] at hs
    obtain ⟨hL, hstart, hprobe, hidx, hshort, _⟩ := hs
    obtain ⟨L, f, hpl⟩ := chainFull_some k h steps _ b (fun x hx => ⟨L0, f0, hx⟩) hf
    obtain ⟨e1, e2, e3, e4, _⟩ := place_spec k L h f b hpl
    rw [hL, hstart, hprobe, hidx, hshort, e1, e2, e4]
    refine ⟨rfl, rfl, e3, ?_⟩
    rw [e3, Probe.findSeq]
    exact List.mem_map.mpr ⟨b.probe, List.mem_range.mpr (by omega), by cases k.quad <;> rfl⟩

/-- **C12 (e), LimP4 `meta_inv` + `count_decode`.** Over every legal add/remove history of one bucket (any
`hashCount ≥ 4`, `maxCount ≤ 4`), with `a` the abstract content (which element is at which array position now):
`pvGetCount` decodes the number of elements, `IsFull` is `count = maxCount`, every short hash belongs to the element
at its position, and every byte that `GetHashCodePart` would consume without calling the full getter is the byte
`pvSetHashProbe` wrote for the element that is at that position *now* (the compaction rules of `Remove`). -/
theorem C12_limp4_meta_inv (hc maxCount minMpi : Nat) (h4 : 4 ≤ hc) (hm : maxCount ≤ 4) (ops : List Op)
    (hl : legalHistP4 maxCount Abs.init ops) :
    (ops.foldl P4.Bucket.step (P4.Bucket.new hc maxCount minMpi)).count = (ops.foldl Abs.stepP4 Abs.init).n ∧
    (0 < maxCount → (ops.foldl P4.Bucket.step (P4.Bucket.new hc maxCount minMpi)).isFull
        = decide ((ops.foldl Abs.stepP4 Abs.init).n = maxCount)) ∧
    ∀ i, i < (ops.foldl Abs.stepP4 Abs.init).n →
      ((ops.foldl Abs.stepP4 Abs.init).it i).h < 2 ^ 64 ∧
      (ops.foldl P4.Bucket.step (P4.Bucket.new hc maxCount minMpi)).sh i
        = P4.shortHash ((ops.foldl Abs.stepP4 Abs.init).it i).h ∧
      ∀ L L', P4.useFull ((ops.foldl P4.Bucket.step (P4.Bucket.new hc maxCount minMpi)).sh
                ((ops.foldl P4.Bucket.step (P4.Bucket.new hc maxCount minMpi)).hc - 1 - i)) L L' = false →
        (ops.foldl P4.Bucket.step (P4.Bucket.new hc maxCount minMpi)).sh
            ((ops.foldl P4.Bucket.step (P4.Bucket.new hc maxCount minMpi)).hc - 1 - i)
          = P4.encByte ((ops.foldl Abs.stepP4 Abs.init).it i).h ((ops.foldl Abs.stepP4 Abs.init).it i).L
              ((ops.foldl Abs.stepP4 Abs.init).it i).p := by
  have hinv := P4.run_inv_new hc maxCount minMpi h4 hm ops hl
  have hmc : (ops.foldl P4.Bucket.step (P4.Bucket.new hc maxCount minMpi)).maxCount = maxCount := P4.run_maxCount ops _
  refine ⟨P4.count_decode hinv, fun hpos => ?_, fun i hi => ?_⟩
  · have := P4.isFull_decode hinv (by rw [hmc]; exact hpos)
    rw [hmc] at this
    exact this
  · obtain ⟨h64, hsh⟩ := hinv.short i hi
    exact ⟨h64, hsh, fun L L' hu => hinv.probe i hi (P4.useFull_false.mp hu).1⟩

/-- **C12 (e), Open2N2.** Over every legal add/remove history of one bucket (`maxCount ≤ 3`): the count field, the
short hash and the hash-probe byte of every occupied position belong to the element that is at that position now
(`Remove` moves both bytes together with the element), free positions hold the empty short hash (so `IsFull` reads
position 0 correctly). -/
theorem C12_open2n2_meta_inv (maxCount : Nat) (hm : maxCount ≤ 3) (ops : List Op)
    (hl : legalHistO2 maxCount Abs.init ops) :
    (ops.foldl O2.Bucket.step (O2.Bucket.new maxCount)).cnt = (ops.foldl (Abs.stepO2 maxCount) Abs.init).n ∧
    (∀ i, maxCount - (ops.foldl (Abs.stepO2 maxCount) Abs.init).n ≤ i → i < maxCount →
      (ops.foldl O2.Bucket.step (O2.Bucket.new maxCount)).sh i
        = O2.shortHash ((ops.foldl (Abs.stepO2 maxCount) Abs.init).it i).h ∧
      (ops.foldl O2.Bucket.step (O2.Bucket.new maxCount)).hp i
        = O2.encByte ((ops.foldl (Abs.stepO2 maxCount) Abs.init).it i).h
            ((ops.foldl (Abs.stepO2 maxCount) Abs.init).it i).L ((ops.foldl (Abs.stepO2 maxCount) Abs.init).it i).p) ∧
    (∀ i, i < maxCount - (ops.foldl (Abs.stepO2 maxCount) Abs.init).n →
      (ops.foldl O2.Bucket.step (O2.Bucket.new maxCount)).sh i = O2.emptyShortHash) := by
  have hinv := O2.run_inv_new maxCount hm ops hl
  have hmc : (ops.foldl O2.Bucket.step (O2.Bucket.new maxCount)).maxCount = maxCount := O2.run_maxCount ops _
  refine ⟨hinv.cnt, fun i h1 h2 => ?_, fun i h1 => hinv.free i (by rw [hmc]; exact h1)⟩
  exact (hinv.live i (by rw [hmc]; exact h1) (by rw [hmc]; exact h2)).2

/-- **C12, bucket level end to end (LimP4).** After any legal history of a bucket, for the element now at position
`i` — added with hash code `h` at table size `2^L` (`L ≤ 57`) with displacement `p`, the bucket sitting where linear
probing puts it — the code `GetHashCodePart` returns for any new size `2^L'` (the full
getter returning the true hash code `h`) selects the same start bucket as `h`, has the same short hash and makes
`pvSetHashProbe` write the same byte. -/
theorem C12_limp4_bucket_part (hc maxCount minMpi : Nat) (h4 : 4 ≤ hc) (hm : maxCount ≤ 4) (ops : List Op)
    (hl : legalHistP4 maxCount Abs.init ops) (i : Nat) (hi : i < (ops.foldl Abs.stepP4 Abs.init).n)
    (hL : ((ops.foldl Abs.stepP4 Abs.init).it i).L ≤ 57) (L' : Nat) :
    let b := ops.foldl P4.Bucket.step (P4.Bucket.new hc maxCount minMpi)
    let e := (ops.foldl Abs.stepP4 Abs.init).it i
    let c := b.getHashCodePart i (Probe.seqLin e.L (Probe.start e.L e.h) e.p) e.L L' e.h
    Probe.start L' c = Probe.start L' e.h ∧ P4.shortHash c = P4.shortHash e.h ∧
      ∀ p', P4.encByte c L' p' = P4.encByte e.h L' p' := by
  intro b e c
  have hinv := P4.run_inv_new hc maxCount minMpi h4 hm ops hl
  obtain ⟨a1, a2, a3⟩ := P4.agree_all (P4.inv_part hinv i hi hL L')
  rw [← seqLin_start] at a1 a2 a3
  rw [Probe.start_eq, Probe.start_eq]
  exact ⟨a1, a2, a3⟩

/-! ## The same statements for the code as translated from the headers

`Momo.Tr.*` (Momo/Translated/HashMeta.lean, HashProbe.lean) are regenerated by tools/translate.py from the current text of the headers
on every check; `Momo/Proof/TrEqHashMeta.lean`, `TrEqHashProbe.lean` prove them equal to the model functions used above. -/

/-- **C12 (a) for `BucketLimP4` as translated from the header.** An element with 64-bit hash code `h` is added at table size
`2^L` (`L ≤ 57`) after `p` steps of the translated probe sequence, at position `index` of a bucket with `hashCount = hc` metadata
bytes whose hash-probe slot `hc-1-index` is not taken by a short hash: the translated `pvSetHashProbe` then the short-hash write
of `AddCrt`. For every new size `2^L'` the code the translated `GetHashCodePart` returns (the full getter returning the true hash
code) selects the same start bucket as `h` (translated `GetStartBucketIndex`), has the same short hash (translated
`pvCalcShortHash`) and makes the translated `pvSetHashProbe` write the same bytes for every displacement. -/
theorem C12_limp4_reconstruct_translated (sh : Nat → Nat) (hc index h L L' p : Nat) (hh : h < 2 ^ 64) (hL : L ≤ 57)
    (hL' : L' ≤ 63) (hp : p ≤ 2 ^ L) (hpos : index < hc - 1 - index) :
    let sh1 := Tr.upd (Tr.limp4_pvSetHashProbe sh true hc index h L p) index (Tr.limp4_pvCalcShortHash h)
    let c := Tr.limp4_GetHashCodePart sh1 true hc index h (TrEq.trSeq .limp4 L h p) L L'
    Tr.base_GetStartBucketIndex c (2 ^ L') = Tr.base_GetStartBucketIndex h (2 ^ L') ∧
    Tr.limp4_pvCalcShortHash c = Tr.limp4_pvCalcShortHash h ∧
    ∀ sh' p', Tr.limp4_pvSetHashProbe sh' true hc index c L' p' = Tr.limp4_pvSetHashProbe sh' true hc index h L' p' := by
  intro sh1 c
  have hi : index < hc := by omega
  have hne : hc - 1 - index ≠ index := by omega
  have hbyte : sh1 (hc - 1 - index) = P4.encByte h L p := by
    show Tr.upd _ _ _ _ = _
    rw [TrEq.tr_limp4_setHashProbe sh hc index h L p hi (by omega)]
    simp only [Tr.upd, P4.setHashProbe, hne, if_false]
    rw [if_neg (by omega)]
    simp [upd]
  have hshort : sh1 index = P4.shortHash h := by
    show Tr.upd _ _ _ _ = _
    simp [Tr.upd, TrEq.tr_limp4_shortHash]
  have hseq : TrEq.trSeq .limp4 L h p = (h % 2 ^ L + p) % 2 ^ L := by
    rw [TrEq.trSeq_eq .limp4 L h p (by omega) hp, ← seqLin_start]; simp [Probe.seqOf, TrEq.NextFn.quad]
  have hc' : c = P4.getHashCodePart (P4.encByte h L p) (P4.shortHash h) ((h % 2 ^ L + p) % 2 ^ L) L L' h := by
    show Tr.limp4_GetHashCodePart sh1 true hc index h _ L L' = _
    have hb : sh1 (hc - 1 - index) < 256 := by rw [hbyte]; exact Nat.lt_succ_of_le (P4.encByte_ge h L p).2
    have hidx : TrEq.trSeq .limp4 L h p < 2 ^ L := by rw [hseq]; exact Nat.mod_lt _ (Nat.two_pow_pos L)
    rw [TrEq.tr_limp4_getHashCodePart sh1 hc index h _ L L' hi hb hidx (by omega) hL', hbyte, hshort, hseq]
  obtain ⟨k1, k2, k3⟩ := P4.agree_all (P4.part_agree h h L L' p hh hh hL (Agree.refl _ _)).1
  rw [← hc'] at k1 k2 k3
  refine ⟨?_, ?_, ?_⟩
  · rw [TrEq.tr_start, TrEq.tr_start, Probe.start_eq, Probe.start_eq]; exact k1
  · rw [TrEq.tr_limp4_shortHash, TrEq.tr_limp4_shortHash]; exact k2
  · intro sh' p'
    rw [TrEq.tr_limp4_setHashProbe sh' hc index c L' p' hi hL', TrEq.tr_limp4_setHashProbe sh' hc index h L' p' hi hL',
      P4.setHashProbe, P4.setHashProbe, k3 p']

/-- **C12 (a) for `BucketOpen2N2` as translated from the header.** The element is added by the translated `AddCrt` (metadata part) to a
bucket `b` (`mState[1] = s1` holding the count) of a table of `2^L` buckets after `p` steps of the translated quadratic probe
sequence; the table grows to `2^L'` (`L < L' ≤ 63`). The code returned by the translated `GetHashCodePart` for that element selects
the same start bucket as `h`, has the same short hash, and — unless the new size is the last of its group (`O2.probeShift L' = 0`), whose byte is never
read — makes the translated `AddCrt` write the same bytes into any bucket `b'`. -/
theorem C12_open2n2_reconstruct_translated (b : O2.Bucket) (s1 h L L' p : Nat) (hs : s1 < 256) (hcnt : s1 % 4 = b.cnt)
    (hlt : b.cnt < b.maxCount) (hm : b.maxCount ≤ 3) (hh : h < 2 ^ 64) (hL : L ≤ 57) (hLL : L < L') (hL' : L' ≤ 63) (hp : p ≤ 2 ^ L) :
    let r := Tr.open2n2_AddCrt b.sh b.hp s1 true b.maxCount h L p
    let c := Tr.open2n2_GetHashCodePart r.1 r.2.1 true (b.maxCount - 1 - b.cnt) h (TrEq.trSeq .open2n2 L h p) L L'
    Tr.base_GetStartBucketIndex c (2 ^ L') = Tr.base_GetStartBucketIndex h (2 ^ L') ∧
    Tr.open2n2_pvCalcShortHash c = Tr.open2n2_pvCalcShortHash h ∧
    (0 < O2.probeShift L' → ∀ (b' : O2.Bucket) (s1' p' : Nat), s1' < 256 → s1' % 4 = b'.cnt → b'.cnt < b'.maxCount → b'.maxCount ≤ 3 →
      (Tr.open2n2_AddCrt b'.sh b'.hp s1' true b'.maxCount c L' p').1 = (Tr.open2n2_AddCrt b'.sh b'.hp s1' true b'.maxCount h L' p').1 ∧
      (Tr.open2n2_AddCrt b'.sh b'.hp s1' true b'.maxCount c L' p').2.1 = (Tr.open2n2_AddCrt b'.sh b'.hp s1' true b'.maxCount h L' p').2.1) := by
  intro r c
  obtain ⟨e1, e2, _, _, _⟩ := TrEq.tr_open2n2_addCrt b s1 h L p hs hcnt hlt hm (by omega)
  have hbyte : r.2.1 (b.maxCount - 1 - b.cnt) = O2.encByte h L p := by
    show (Tr.open2n2_AddCrt b.sh b.hp s1 true b.maxCount h L p).2.1 _ = _
    rw [e2]; simp [O2.Bucket.addCrt, upd]
  have hshort : r.1 (b.maxCount - 1 - b.cnt) = O2.shortHash h := by
    show (Tr.open2n2_AddCrt b.sh b.hp s1 true b.maxCount h L p).1 _ = _
    rw [e1]; simp [O2.Bucket.addCrt, upd]
  have hseq : TrEq.trSeq .open2n2 L h p = (h % 2 ^ L + Probe.tri p) % 2 ^ L := by
    rw [TrEq.trSeq_eq .open2n2 L h p (by omega) hp, ← seqQuad_start]; simp [Probe.seqOf, TrEq.NextFn.quad]
  have hc' : c = O2.getHashCodePart (O2.encByte h L p) (O2.shortHash h) ((h % 2 ^ L + Probe.tri p) % 2 ^ L) L L' h := by
    show Tr.open2n2_GetHashCodePart r.1 r.2.1 true _ h _ L L' = _
    have hb : r.2.1 (b.maxCount - 1 - b.cnt) < 256 := by rw [hbyte]; exact TrEq.enc_lt .open2 h L p
    have hidx : TrEq.trSeq .open2n2 L h p < 2 ^ 64 := by
      rw [hseq]
      exact Nat.lt_of_lt_of_le (Nat.mod_lt _ (Nat.two_pow_pos L)) (Nat.pow_le_pow_right (by decide) (by omega))
    rw [TrEq.tr_open2n2_getHashCodePart r.1 r.2.1 _ h _ L L' hb hidx (by omega) hL', hbyte, hshort, hseq]
  obtain ⟨k1, k2, k3⟩ := O2.agree_all (O2.part_agree h h L L' p hh hh hL hLL (Agree.refl _ _)).1
  rw [← hc'] at k1 k2 k3
  refine ⟨?_, ?_, ?_⟩
  · rw [TrEq.tr_start, TrEq.tr_start, Probe.start_eq, Probe.start_eq]; exact k1
  · rw [TrEq.tr_open2n2_shortHash, TrEq.tr_open2n2_shortHash]; exact k2
  · intro hs' b' s1' p' h1 h2 h3 h4
    obtain ⟨a1, a2, _, _, _⟩ := TrEq.tr_open2n2_addCrt b' s1' c L' p' h1 h2 h3 h4 hL'
    obtain ⟨b1, b2, _, _, _⟩ := TrEq.tr_open2n2_addCrt b' s1' h L' p' h1 h2 h3 h4 hL'
    rw [a1, a2, b1, b2, O2.Bucket.addCrt, O2.Bucket.addCrt, k2, k3 hs' p']
    exact ⟨rfl, rfl⟩

/-- **C12 (a) for `BucketOne` as translated from the header** (8-byte state): the translated `GetHashCodePart` applied to the state
the translated `pvGetHashState` stored selects the same start bucket for every table size up to `2^63` and is stored as the same
state; with a narrower state the translated function returns what the full getter returns. -/
theorem C12_one_reconstruct_translated (h full L' : Nat) (hL' : L' ≤ 63) :
    Tr.base_GetStartBucketIndex (Tr.one_GetHashCodePart (Tr.one_pvGetHashState8 h) 8 full) (2 ^ L') = Tr.base_GetStartBucketIndex h (2 ^ L') ∧
    Tr.one_pvGetHashState8 (Tr.one_GetHashCodePart (Tr.one_pvGetHashState8 h) 8 full) = Tr.one_pvGetHashState8 h ∧
    (∀ stateSize state, stateSize < 8 → Tr.one_GetHashCodePart state stateSize full = full) := by
  have := C12_one_reconstruct h full L' hL'
  simp only [TrEq.tr_start, TrEq.tr_one_hashState8, TrEq.tr_one_getHashCodePart]
  exact ⟨this.2.1, this.2.2.1, this.2.2.2⟩

/-- the shape of `GetHashCodePart`: `useFull ? full : decoded` -/
theorem getter_iff (u : Bool) (d : Nat) : (∀ full : Nat, (if u = true then full else d) = full) ↔ u = true := by
  cases u
  · exact ⟨fun h => absurd ((h d).symm.trans (h (d + 1))) (Nat.succ_ne_self d).symm, fun h => nomatch h⟩
  · exact ⟨fun _ => rfl, fun _ _ => rfl⟩

theorem getter_ignored (u : Bool) (d : Nat) {a b : Nat} (hne : a ≠ b)
    (h : (if u = true then a else d) = (if u = true then b else d)) : u = false := by
  cases u
  · rfl
  · exact absurd h hne

/-- **C12 (b) for the translated `GetHashCodePart`: the stored bits are used exactly when they suffice.** LimP4: the translated
function returns the value of the full getter for every value of it iff the model's `useFull` flag is set; and whenever it
returns the same code for two different values of the full getter (i.e. it did not consult it), the byte it consumed is a
genuine hash-probe byte and every index bit of the new size lies among the stored bits. -/
theorem C12_reconstruction_only_when_bits_suffice_translated (sh : Nat → Nat) (hc index idx L L' : Nat) (hi : index < hc)
    (hb : sh (hc - 1 - index) < 256) (hidx : idx < 2 ^ L) (hL : L ≤ 63) (hL' : L' ≤ 63) :
    ((∀ full, Tr.limp4_GetHashCodePart sh true hc index full idx L L' = full) ↔ P4.useFull (sh (hc - 1 - index)) L L' = true) ∧
    (∀ full1 full2, full1 ≠ full2 →
      Tr.limp4_GetHashCodePart sh true hc index full1 idx L L' = Tr.limp4_GetHashCodePart sh true hc index full2 idx L L' →
      128 ≤ sh (hc - 1 - index) ∧ sh (hc - 1 - index) ≠ 255 ∧ L' ≤ P4.knownBits L) := by
  have e : ∀ full, Tr.limp4_GetHashCodePart sh true hc index full idx L L'
      = if P4.useFull (sh (hc - 1 - index)) L L' = true then full else P4.decode (sh (hc - 1 - index)) (sh index) idx L :=
    fun full => TrEq.tr_limp4_getHashCodePart sh hc index full idx L L' hi hb hidx hL hL'
  simp only [e]
  refine ⟨getter_iff _ _, fun full1 full2 hne hsame => ?_⟩
  have := (C12_reconstruction_only_when_bits_suffice (sh (hc - 1 - index)) L L' hb).1 (getter_ignored _ _ hne hsame)
  exact ⟨this.1, this.2.1, this.2.2.1⟩

/-- **C12 (b), Open2N2, translated** (growth `L < L'`): the same, and the probe shift is positive (the `MOMO_ASSERT(probeShift > 0)`
the translator lists as dropped cannot fire). -/
theorem C12_open2n2_only_when_bits_suffice_translated (sh hp : Nat → Nat) (index idx L L' : Nat) (hb : hp index < 256)
    (hidx : idx < 2 ^ 64) (hL : L ≤ 63) (hLL : L < L') (hL' : L' ≤ 63) :
    ((∀ full, Tr.open2n2_GetHashCodePart sh hp true index full idx L L' = full) ↔ O2.useFull (hp index) L L' = true) ∧
    (∀ full1 full2, full1 ≠ full2 →
      Tr.open2n2_GetHashCodePart sh hp true index full1 idx L L' = Tr.open2n2_GetHashCodePart sh hp true index full2 idx L L' →
      hp index ≠ 255 ∧ 0 < Tr.open2n2_pvGetProbeShift L ∧ L' ≤ O2.knownBits L) := by
  have e : ∀ full, Tr.open2n2_GetHashCodePart sh hp true index full idx L L'
      = if O2.useFull (hp index) L L' = true then full else O2.decode (hp index) (sh index) idx L :=
    fun full => TrEq.tr_open2n2_getHashCodePart sh hp index full idx L L' hb hidx hL hL'
  simp only [e]
  refine ⟨getter_iff _ _, fun full1 full2 hne hsame => ?_⟩
  rw [TrEq.tr_open2n2_probeShift L hL]
  exact (C12_reconstruction_only_when_bits_suffice (hp index) L L' hb).2 (getter_ignored _ _ hne hsame) hLL

/-- **C12 (c) for the translated functions: along any chain of growths the element lands where a full rehash puts it.**
`TrEq.trPlace` is `pvAddNogrow` for one element (probe loop over the translated `GetStartBucketIndex` / `GetNextBucketIndex`, short
hash and hash-probe byte by the translated `pvCalcShortHash` / `pvSetHashProbe` / `AddCrt` / `pvGetHashState`), `TrEq.trCodeOf` the
translated `GetHashCodePart` on those bytes; `trChainPart` re-inserts with that code at every step, `trChainFull` with the true hash. -/
theorem C12_chain_translated (k : Kind) (h : Nat) (hh : h < 2 ^ 64) (L0 : Nat) (hL0 : L0 ≤ 57) (f0 : Nat → Bool)
    (steps : List (Nat × (Nat → Bool))) (hch : GrowthChain 57 L0 steps) :
    sameAsOpt k (TrEq.trChainPart k h (TrEq.trPlace k L0 f0 h) steps) (TrEq.trChainFull k h (TrEq.trPlace k L0 f0 h) steps) := by
  rw [TrEq.trPlace_eq k L0 f0 h (by omega),
    TrEq.trChainPart_eq k h steps L0 _ (fun st hst => TrEq.place_wf k L0 f0 h st hst) hL0 hch,
    TrEq.trChainFull_eq k h steps L0 _ hch]
  exact C12_chain k h hh L0 hL0 f0 steps hch

/-- **C12 (d) for the translated functions: the element is still found.** Wherever the translated chain leaves the element, its
start bucket is the one the translated `GetStartBucketIndex` computes from the true hash (so `pvFind` starts there), its bucket is
the one the translated probe sequence of `h` reaches after `probe` steps, and the stored short hash / state is the translated
short hash of `h`. -/
theorem C12_still_found_translated (k : Kind) (h : Nat) (hh : h < 2 ^ 64) (L0 : Nat) (hL0 : L0 ≤ 57) (f0 : Nat → Bool)
    (steps : List (Nat × (Nat → Bool))) (hch : GrowthChain 57 L0 steps) (st : Placed)
    (hres : TrEq.trChainPart k h (TrEq.trPlace k L0 f0 h) steps = some st) :
    st.start = Tr.base_GetStartBucketIndex h (2 ^ st.L) ∧ st.short = TrEq.trShort k h ∧
    st.idx = TrEq.trSeq (TrEq.trNext k) st.L h st.probe := by
  rw [TrEq.trPlace_eq k L0 f0 h (by omega),
    TrEq.trChainPart_eq k h steps L0 _ (fun st hst => TrEq.place_wf k L0 f0 h st hst) hL0 hch] at hres
  obtain ⟨hp, hL⟩ := TrEq.chainPart_bounds k h steps L0 _ (fun st hst => TrEq.place_probe_lt k L0 f0 h st hst) hL0 hch st hres
  obtain ⟨a, b, c, _⟩ := C12_still_found k h hh L0 hL0 f0 steps hch st hres st.probe (Nat.le_refl _)
  refine ⟨?_, ?_, ?_⟩
  · rw [TrEq.tr_start]; exact a
  · rw [TrEq.trShort_eq]; exact b
  · rw [TrEq.trSeq_eq _ st.L h st.probe (by omega) (by omega), TrEq.trNext_quad]; exact c

/-- **C12 (e) for the translated byte compaction of `BucketLimP4::Remove` and the translated `pvGetCount` / `IsFull`**: over every
legal add/remove history of a bucket, the translated `pvGetCount` and `IsFull` applied to the model's byte array decode the number of elements
/ fullness, and the byte array after a `Remove` of the model is the one the translated `else` block computes. -/
theorem C12_limp4_meta_translated (hc maxCount minMpi : Nat) (h4 : 4 ≤ hc) (hm : maxCount ≤ 4) (hpos : 0 < maxCount) (ops : List Op)
    (hl : legalHistP4 maxCount Abs.init ops) :
    let b := ops.foldl P4.Bucket.step (P4.Bucket.new hc maxCount minMpi)
    Tr.limp4_pvGetCount b.sh = (ops.foldl Abs.stepP4 Abs.init).n ∧
    Tr.limp4_IsFull b.sh maxCount = decide ((ops.foldl Abs.stepP4 Abs.init).n = maxCount) ∧
    (∀ index, 1 < b.count → index < hc → (b.remove index).sh = Tr.limp4_Remove_compact b.sh true hc b.count index) := by
  intro b
  have hinv := P4.run_inv_new hc maxCount minMpi h4 hm ops hl
  have hbm : b.maxCount = maxCount := P4.run_maxCount ops _
  have hbh : b.hc = hc := P4.run_hc ops _
  refine ⟨?_, ?_, ?_⟩
  · rw [TrEq.tr_limp4_getCount]; exact P4.count_decode hinv
  · have hb0 : 0 < b.maxCount := by omega
    have := TrEq.tr_limp4_isFull b hb0
    rw [hbm] at this
    rw [this, P4.isFull_decode hinv hb0, hbm]
  · intro index hcnt hidx
    have hcl : b.count ≤ 4 := by rw [P4.count_decode hinv]; exact Nat.le_trans hinv.n_le hinv.mc4
    rw [TrEq.tr_limp4_removeBytes b.sh hc b.count index (by omega) (by omega) hidx, P4.Bucket.remove,
      if_neg (by omega), hbh]

/-- **`BucketLimP4::AddCrt`, all five paths, from the header text** (`Momo/Translated/Wave2Meta.lean`; equivalence:
`Proof/TrEqWave2Bucket.lean`). The metadata writes of the real `AddCrt` — `items == nullptr` (`pvSetHashProbe(0, …)` then `pvAdd0`), the
`switch (memPoolIndex)` with `case 1`, `case 2`, `default` (each `pvSetHashProbe(k, …)` then `pvAdd<k>`: short hash at `count = k`, pool
index `k + 1`), and the in-place block, each translated from its own fragment of details/HashBucketLimP4.h (`TrEq.trLimp4AddCrt`) — are
the model's `P4.Bucket.addCrt`, the step `C12_limp4_meta_inv` and `C12_limp4_meta_translated` are about, under the assertions of the
source (`count < maxCount ≤ 4 ≤ hashCount`, `0 < count` for a non-null bucket) and `logBucketCount ≤ 63`. -/
theorem C12_limp4_addCrt_translated (b : P4.Bucket) (h L p : Nat) (hL : L ≤ 63) (h4 : 4 ≤ b.hc) (hm : b.maxCount ≤ 4)
    (hroom : b.count < b.maxCount) (hassert : b.nonnull = true → 0 < b.count) :
    TrEq.trLimp4AddCrt b h L p = b.addCrt h L p :=
  TrEq.tr_limp4_addCrt b h L p hL h4 (by omega) (fun hn hg => by have := hassert hn; omega)

-- the translated `AddCrt` run on concrete values: second element of a bucket whose array has one slot (case 1 of the switch)
example : (TrEq.trLimp4AddCrt (TrEq.trLimp4AddCrt (P4.Bucket.new 4 4 1) 0x123456789ABCDEF0 10 0) 0xFEDCBA9876543210 10 1).mpi = 2 := by
  decide +kernel

/-! #### Layout constants and small arithmetic (tools/trspecs/Wave3.py → `Momo/Translated/Wave3.lean`; equivalences: `Proof/TrEqWave3.lean`) -/

/-- **The layout constants of `BucketLimP4` from the header text.** `hashCodeShift`, `maskEmpty`, `emptyHashProbe` as translated from
    details/HashBucketLimP4.h are the constants the model `P4` (and therefore every `C12_limp4_*` theorem) is stated with. -/
theorem C12_limp4_constants_translated :
    Tr.limp4_hashCodeShift = P4.hashCodeShift ∧ Tr.limp4_maskEmpty = P4.maskEmpty ∧ Tr.limp4_emptyHashProbe = P4.emptyHashProbe :=
  ⟨TrEq.tr_limp4_hashCodeShift, TrEq.tr_limp4_maskEmpty, TrEq.tr_limp4_emptyHashProbe⟩

/-- **`BucketOpen2N2::hashCodeShift` from the header text** is the model's `O2.hashCodeShift`. -/
theorem C12_open2n2_hashCodeShift_translated : Tr.open2n2_hashCodeShift = O2.hashCodeShift := TrEq.tr_open2n2_hashCodeShift

/-- **`BucketLimP4::WasFull` from the header text** is the model's `P4.Bucket.wasFull` (with `pvGetMemPoolIndex()` = `mpi`). -/
theorem C12_limp4_WasFull_translated (b : P4.Bucket) : Tr.limp4_WasFull b.maxCount b.mpi = b.wasFull := TrEq.tr_limp4_WasFull b

/-- **`UIntMath::DivByConst` / `BucketLim4::pvGetMemPoolIndex()` / `BucketOne::hashCodeShift` from the header text** compute the plain
    quotient / remainder, `state / 2^(32 - logMaxCount) + 1` and `(8 - stateSize) * 8` (no wrap under the stated bounds). -/
theorem C12_lim4_arith_translated (v m L s k : Nat) (hv : v < 2 ^ 64) (hL : L ≤ 32) (hs : s < 2 ^ 32) (hk : k ≤ 8) :
    Tr.um_DivByConst_quotient v m = v / m ∧ Tr.um_DivByConst_remainder v m (Tr.um_DivByConst_quotient v m) = v % m ∧
    Tr.lim4_pvGetMemPoolIndex L s = s / 2 ^ (32 - L) + 1 ∧ Tr.lim4_maxCount L = 2 ^ L ∧ Tr.one_hashCodeShift k = (8 - k) * 8 :=
  ⟨(TrEq.tr_um_DivByConst v m hv).1, (TrEq.tr_um_DivByConst v m hv).2, TrEq.tr_lim4_pvGetMemPoolIndex L s hL hs,
   TrEq.tr_lim4_maxCount L (by omega), TrEq.tr_one_hashCodeShift k hk⟩

/-! Non-vacuity: concrete states meeting the hypotheses. -/

-- a byte that is consumed: L = 10 → L' = 11 (same group), displacement 0
example : P4.useFull (P4.encByte 0x123456789ABCDEF0 10 0) 10 11 = false := by decide +kernel
example : P4.getHashCodePart (P4.encByte 0x123456789ABCDEF0 10 0) (P4.shortHash 0x123456789ABCDEF0)
    (Probe.seqLin 10 (Probe.start 10 0x123456789ABCDEF0) 0) 10 11 0 = 0x120000000000DEF0 := by decide +kernel
-- a displaced element: L = 15 (probe shift 5), displacement 19
example : P4.useFull (P4.encByte 0xFEDCBA9876543210 15 19) 15 17 = false := by decide +kernel
-- group boundary: 17 → 18 needs more bits than are stored, the full getter is called
example : P4.useFull (P4.encByte 0x123456789ABCDEF0 17 0) 17 18 = true := by decide +kernel
example : O2.useFull (O2.encByte 0xFEDCBA9876543210 12 5) 12 14 = false := by decide +kernel
example : O2.probeShift 9 = 0 ∧ O2.useFull 77 9 10 = true := by decide +kernel
-- a chain 4 → 6 → 9 → 10 with collisions in the new tables
example : GrowthChain 57 4 [(6, fun i => i == 16), (9, fun _ => false), (10, fun i => i < 600)] := by
  simp [GrowthChain]
example : (place .limp4 4 (fun i => i == 0) 0x123456789ABCDE10).map (·.probe) = some 1 := by decide +kernel
example : legalHistP4 4 Abs.init [.add 5 4 0, .add (2 ^ 63) 4 1, .rem 0, .add 77 4 2] := by
  simp [legalHistP4, Op.legalP4, Abs.stepP4, Abs.init]
example : legalHistO2 3 Abs.init [.add 5 4 0, .add (2 ^ 63) 4 1, .rem 2, .add 77 4 2] := by
  simp [legalHistO2, Op.legalO2, Abs.stepO2, Abs.init]
-- the translated code run on concrete values: L = 10 → L' = 11, displacement 0, element at position 0 of a 4-byte LimP4 bucket
example : Tr.limp4_GetHashCodePart
    (Tr.upd (Tr.limp4_pvSetHashProbe (fun _ => 255) true 4 0 0x123456789ABCDEF0 10 0) 0 (Tr.limp4_pvCalcShortHash 0x123456789ABCDEF0))
    true 4 0 0 (TrEq.trSeq .limp4 10 0x123456789ABCDEF0 0) 10 11 = 0x120000000000DEF0 := by decide +kernel
example : (TrEq.trPlace .limp4 4 (fun i => i == 0) 0x123456789ABCDE10).map (·.probe) = some 1 := by decide +kernel
example : TrEq.trCodeOf .open2 ⟨12, 0x210, 5, TrEq.trSeq .open2n2 12 0xFEDCBA9876543210 5, Tr.open2n2_pvCalcShortHash 0xFEDCBA9876543210,
    TrEq.trEnc .open2 0xFEDCBA9876543210 12 5⟩ 14 0 % 2 ^ 14 = 0xFEDCBA9876543210 % 2 ^ 14 := by decide +kernel

end Momo.HashMeta
