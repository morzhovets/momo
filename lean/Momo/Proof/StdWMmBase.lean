import Momo.Proof.StdWUnoBase
import Momo.Proof.ListFacts
/-!
  C06 history theorem, `unordered_multimap`: the flat traversal (`MM.pairs`) of a table
  key -> value array with distinct keys, and what the native operations do to it.
-/
namespace Momo.StdW
open Momo.StdWrap List
open Momo.StdSpec hiding Item

/-- `NodupKeys` (StdWUnoBase) for the multimap's entry type (key, value array) -/
def KeysNodup (m : MM) : Prop := (m.map (·.1)).Nodup

theorem keysNodup_iff {m : MM} : KeysNodup m ↔ (m.map (·.1)).Nodup := Iff.rfl

theorem keysNodup_nil : KeysNodup [] := by simp [KeysNodup]

theorem KeysNodup.tail {e : Nat × List Nat} {t : MM} (h : KeysNodup (e :: t)) : KeysNodup t ∧ e.1 ∉ t.map (·.1) := by
  unfold KeysNodup at h ⊢; simp only [map_cons, nodup_cons] at h; exact ⟨h.2, h.1⟩

theorem KeysNodup.perm {m m' : MM} (h : KeysNodup m) (hp : m'.Perm m) : KeysNodup m' :=
  (Perm.nodup_iff (Perm.map (fun e : Nat × List Nat => e.1) hp)).mpr h

theorem KeysNodup.filter {m : MM} (h : KeysNodup m) (p : Nat × List Nat → Bool) : KeysNodup (m.filter p) :=
  Nodup.sublist (Sublist.map (fun e : Nat × List Nat => e.1) filter_sublist) h

theorem MSt.put_get (w : MSt) (c : Side) : w.put c (w.get c) = w := by cases c <;> rfl

theorem pairs_nil : MM.pairs [] = [] := rfl

theorem pairs_append (a b : MM) : MM.pairs (a ++ b) = MM.pairs a ++ MM.pairs b := flatMap_append

theorem pairs_perm {m m' : MM} (h : m'.Perm m) : (MM.pairs m').Perm (MM.pairs m) := Perm.flatMap_right _ h

theorem lookup_absent (t : MM) (k : Nat) (h : k ∉ t.map (·.1)) : t.lookup k = none :=
  (ListFacts.lookup_eq_none_iff_keys t k).mpr h

theorem count_lookup (m : MM) (hn : KeysNodup m) (k : Nat) : ((m.lookup k).getD []).length = countKey k (MM.pairs m) := by
  unfold countKey
  rw [countP_eq_length_filter, pairs_filter_key m (keysNodup_iff.mp hn) k, length_map]

theorem hasKey_lookup (m : MM) (hn : KeysNodup m) (k : Nat) :
    decide (0 < ((m.lookup k).getD []).length) = hasKey k (MM.pairs m) := by
  rw [count_lookup m hn k, Bool.eq_iff_iff, decide_eq_true_iff, hasKey_iff, countKey, countP_pos_iff]
  exact exists_congr fun e => and_congr_right fun _ => beq_iff_eq

theorem pairs_removeKey (m : MM) (k : Nat) : MM.pairs (mmRemoveKey m k) = (MM.pairs m).filter (fun e => e.1 != k) := by
  induction m with
  | nil => rfl
  | cons e t ih =>
    rw [pairs_cons, filter_append, ListFacts.filter_map_fst (· != k), ← ih, mmRemoveKey, filter_cons]
    by_cases hk : (e.1 != k) = true
    · rw [if_pos hk, if_pos hk, pairs_cons]; rfl
    · rw [if_neg hk, if_neg hk, nil_append]; rfl

/-- `erase_if`: the values go, every key stays -/
theorem pairs_removeIf (m : MM) (f : Nat → Bool) :
    MM.pairs (m.map (fun e => (e.1, e.2.filter (fun _ => f e.1)))) = (MM.pairs m).filter (fun e => f e.1) := by
  induction m with
  | nil => rfl
  | cons e t ih =>
    rw [map_cons, pairs_cons, pairs_cons, filter_append, ih, ListFacts.filter_map_fst f]
    by_cases hf : f e.1 = true
    · rw [if_pos hf, filter_eq_self.mpr fun _ _ => hf]
    · rw [if_neg hf, filter_eq_nil_iff.mpr fun _ _ => hf]; rfl

/-- the entry of a key splits the flat traversal in three; a change of its value array changes the middle part only -/
theorem entry_split (m : MM) (hn : KeysNodup m) (k : Nat) (vs : List Nat) (h : m.lookup k = some vs) :
    ∃ A B : List Item, (∀ x ∈ A, x.1 ≠ k) ∧ (∀ x ∈ B, x.1 ≠ k) ∧
      MM.pairs m = A ++ (vs.map (fun v => (k, v)) ++ B) ∧
      ∀ g : List Nat → List Nat,
        MM.pairs (m.map (fun e => if e.1 == k then (e.1, g e.2) else e)) = A ++ ((g vs).map (fun v => (k, v)) ++ B) := by
  induction m with
  | nil => cases h
  | cons e t ih =>
    obtain ⟨hn', he⟩ := hn.tail
    obtain ⟨k', vs'⟩ := e
    rw [ListFacts.lookup_cons_ite] at h
    by_cases hk : k = k'
    · subst hk
      rw [if_pos rfl] at h
      obtain rfl := Option.some.inj h
      refine ⟨[], MM.pairs t, nofun, fun x hx hxk => he (hxk ▸ mem_pairs_key hx), pairs_cons _ _, fun g => ?_⟩
      have hid : t.map (fun e => if e.1 == k then (e.1, g e.2) else e) = t :=
        (map_congr_left fun e he' => if_neg fun hek => he (mem_map.mpr ⟨e, he', beq_iff_eq.mp hek⟩)).trans (map_id _)
      rw [map_cons, hid, if_pos (beq_self_eq_true k)]; exact pairs_cons _ _
    · rw [if_neg hk] at h
      obtain ⟨A, B, hA, hB, hP, hU⟩ := ih hn' h
      refine ⟨vs'.map (fun v => (k', v)) ++ A, B, fun x hx => ?_, hB, ?_, fun g => ?_⟩
      · rcases mem_append.mp hx with hx | hx
        · obtain ⟨v, _, rfl⟩ := mem_map.mp hx; exact Ne.symm hk
        · exact hA x hx
      · rw [pairs_cons, hP, append_assoc]
      · rw [map_cons, if_neg fun hek => hk (beq_iff_eq.mp hek).symm, pairs_cons, hU g, append_assoc]

theorem mmAdd_rel {m : MM} {s : List Item} (hp : (MM.pairs m).Perm s) (hn : KeysNodup m) (x : Item) :
    (MM.pairs (mmAdd m x)).Perm (s ++ [x]) ∧ KeysNodup (mmAdd m x) := by
  refine And.imp_left (Perm.trans · (Perm.append_right _ hp)) ?_
  rw [mmAdd]
  cases hl : m.lookup x.1 with
  | none =>
    rw [Option.isSome_none, if_neg Bool.false_ne_true, pairs_append]
    refine ⟨Perm.refl _, ?_⟩
    rw [KeysNodup, map_append, nodup_append]
    refine ⟨hn, pairwise_singleton _ _, fun a ha b hb hab => ?_⟩
    exact (ListFacts.lookup_eq_none_iff_keys m x.1).mp hl ((hab.trans (mem_singleton.mp hb) : a = x.1) ▸ ha)
  | some vs =>
    obtain ⟨A, B, _, _, hP, hU⟩ := entry_split m hn x.1 vs hl
    rw [Option.isSome_some, if_pos rfl, hU (· ++ [x.2]), hP, map_append]
    refine ⟨?_, ListFacts.nodup_keys_map hn _ fun e => by split <;> rfl⟩
    simp only [append_assoc]
    exact Perm.append_left _ (Perm.append_left _ perm_append_comm)

theorem mmAddMany_rel (ys : List Item) : ∀ {m : MM} {s : List Item}, (MM.pairs m).Perm s → KeysNodup m →
    (MM.pairs (ys.foldl mmAdd m)).Perm (s ++ ys) ∧ KeysNodup (ys.foldl mmAdd m) := by
  induction ys with
  | nil => intro m s hp hn; exact ⟨(append_nil s).symm ▸ hp, hn⟩
  | cons y t ih =>
    intro m s hp hn
    obtain ⟨h1, h2⟩ := mmAdd_rel hp hn y
    obtain ⟨h3, h4⟩ := ih h1 h2
    exact ⟨append_assoc s [y] t ▸ h3, h4⟩

/-- `AssignAnywayValue(last, slot); RemoveBack`: the array loses exactly the value of that slot -/
theorem arrRemoveAt_perm (vs : List Nat) (i : Nat) (h : i < vs.length) : (arrRemoveAt vs i).Perm (vs.eraseIdx i) := by
  obtain ⟨z, hz⟩ : ∃ z, vs.getLast? = some z := Option.isSome_iff_exists.mp (by
    rw [getLast?_isSome]; intro e; rw [e] at h; cases h)
  rw [arrRemoveAt, hz, Option.getD_some]
  exact ListFacts.swapRemove_perm hz h

theorem wmEraseElem_rel {m : MM} {s : List Item} (hp : (MM.pairs m).Perm s) (hn : KeysNodup m) (x : Item) (hx : x ∈ MM.pairs m) :
    (MM.pairs (wmEraseElem m x)).Perm (s.erase x) ∧ KeysNodup (wmEraseElem m x) := by
  refine And.imp_left (Perm.trans · (hp.erase x)) ?_
  obtain ⟨k, v⟩ := x
  have hmem : (k, v) ∈ (MM.pairs m).filter (fun e => e.1 == k) := mem_filter.mpr ⟨hx, beq_self_eq_true k⟩
  rw [pairs_filter_key m (keysNodup_iff.mp hn) k] at hmem
  obtain ⟨v', hv, hvv⟩ := mem_map.mp hmem
  obtain rfl : v' = v := (Prod.mk.inj hvv).2
  cases hl : m.lookup k with
  | none => rw [hl] at hv; exact absurd hv not_mem_nil
  | some vs =>
    rw [hl, Option.getD_some] at hv
    obtain ⟨A, B, hA, hB, hP, hU⟩ := entry_split m hn k vs hl
    have hAx : (k, v') ∉ A := fun hh => hA _ hh rfl
    rw [wmEraseElem, hl, Option.getD_some, hP, erase_append_right _ hAx,
      erase_append_left _ (mem_map_of_mem (f := fun w => (k, w)) hv)]
    by_cases hc : vs.length = 1
    · -- the only value: `RemoveKey`
      obtain ⟨w, rfl⟩ := length_eq_one_iff.mp hc
      obtain rfl : v' = w := mem_singleton.mp hv
      rw [if_pos hc, pairs_removeKey, hP, filter_append, filter_append, ListFacts.filter_map_fst (· != k),
        if_neg (by rw [bne_self_eq_false]; exact Bool.false_ne_true),
        filter_eq_self.mpr fun y hy => bne_iff_ne.mpr (hA y hy), filter_eq_self.mpr fun y hy => bne_iff_ne.mpr (hB y hy)]
      exact ⟨by rw [map_cons, map_nil, erase_cons_head], hn.filter _⟩
    · rw [if_neg hc, mmRemoveValue, hU fun l => arrRemoveAt l (l.idxOf v')]
      refine ⟨Perm.append_left _ (Perm.append_right _ ?_), ListFacts.nodup_keys_map hn _ fun e => by split <;> rfl⟩
      -- both sides are `vs` without one `v'`, mapped to pairs
      have h1 : arrRemoveAt vs (vs.idxOf v') ~ vs.erase v' := by
        rw [erase_eq_eraseIdx_of_idxOf rfl]; exact arrRemoveAt_perm vs _ (idxOf_lt_length_of_mem hv)
      have h2 := ((perm_cons_erase hv).map (fun w => (k, w))).symm.trans
        (perm_cons_erase (mem_map_of_mem (f := fun w => (k, w)) hv))
      exact (h1.map _).trans (Perm.cons_inv h2)

end Momo.StdW
