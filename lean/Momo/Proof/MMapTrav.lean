import Momo.Proof.MMapInv
/-!
  C08: traversal and the std-style wrapper. `MM.pairs` (the storage-order sequence of pairs) holds the pairs of each key as one block
  (`MM.pairs_block`), hence contains every pair `(k, v)` exactly as often as `v` occurs in `MM.vals K m k` (`MM.pairs_count`); its length is
  `mValueCount`. Two multimaps have the same multiset of pairs iff their `vals` agree key by key up to the order of the values (value-less keys
  play no role), and the wrapper's `count`, `equal_range`, `erase`, `erase_if`, `operator==` are functions of that multiset.
  The pair iterator (`GetBegin`, `operator++` with `pvMove` skipping value-less keys) enumerates `pairs` (`MM.iterAll_eq`).
-/
namespace Momo.MMap
open Momo

theorem count_map_pair (k v : Nat) (l : List Nat) : (l.map (fun x => (k, x))).count (k, v) = l.count v := by
  induction l with
  | nil => rfl
  | cons x xs ih => simp [List.count_cons, ih]

/-! ### a list of pairs in which the pairs of key `k` are one block: `P ++ (l.map (k, ·) ++ Q)`, no pair of `P`, `Q` with key `k` -/

section block
variable {P Q : List (Nat × Nat)} {k : Nat} {l : List Nat} (hP : ∀ e ∈ P, e.1 ≠ k) (hQ : ∀ e ∈ Q, e.1 ≠ k)
include hP

omit hP in
theorem map_pair_fst {e : Nat × Nat} (he : e ∈ l.map (fun v => (k, v))) : e.1 = k := by
  obtain ⟨v, _, rfl⟩ := List.mem_map.mp he; rfl

theorem groupStart_block (hne : l ≠ []) : groupStart (P ++ (l.map (fun v => (k, v)) ++ Q)) k = P.length := by
  unfold groupStart
  rw [List.takeWhile_append_of_pos (by intro a ha; simpa using hP a ha)]
  cases l with
  | nil => exact absurd rfl hne
  | cons v l' => simp

include hQ

theorem block_filter : (P ++ (l.map (fun v => (k, v)) ++ Q)).filter (fun e => e.1 == k) = l.map (fun v => (k, v)) ∧
    (P ++ (l.map (fun v => (k, v)) ++ Q)).filter (fun e => e.1 != k) = P ++ Q := by
  simp only [List.filter_append]
  rw [(List.filter_eq_nil_iff (l := P)).mpr (fun e he => by simpa using hP e he),
    (List.filter_eq_nil_iff (l := Q)).mpr (fun e he => by simpa using hQ e he),
    (List.filter_eq_self (l := l.map _)).mpr (fun e he => by simpa using map_pair_fst he),
    (List.filter_eq_self (l := P)).mpr (fun e he => by simpa using hP e he),
    (List.filter_eq_self (l := Q)).mpr (fun e he => by simpa using hQ e he),
    (List.filter_eq_nil_iff (l := l.map _)).mpr (fun e he => by simpa using map_pair_fst he)]
  exact ⟨by simp, by simp⟩

theorem block_at {i v : Nat} (h : (P ++ (l.map (fun v => (k, v)) ++ Q))[i]? = some (k, v)) :
    P.length ≤ i ∧ l[i - P.length]? = some v := by
  by_cases hi : i < P.length
  · rw [List.getElem?_append_left hi] at h; exact absurd rfl (hP _ (List.mem_of_getElem? h))
  · have hle := Nat.le_of_not_lt hi
    rw [List.getElem?_append_right hle] at h
    refine ⟨hle, ?_⟩
    by_cases hj : i - P.length < (l.map (fun v => (k, v))).length
    · rw [List.getElem?_append_left hj, List.getElem?_map] at h
      obtain ⟨v1, hv1, e⟩ := Option.map_eq_some_iff.mp h
      cases e; exact hv1
    · rw [List.getElem?_append_right (Nat.le_of_not_lt hj)] at h; exact absurd rfl (hQ _ (List.mem_of_getElem? h))

end block

section
variable {σ : Type} (K : KeyMap σ) (L : K.Lawful) (mf : Nat)

def pairsOf (arrs : List (Nat × VArr)) (ks : List Nat) : List (Nat × Nat) :=
  ks.flatMap (fun k => (getArr arrs k).bounds.map (fun v => (k, v)))

theorem MM.pairs_eq (m : MM σ) : MM.pairs K m = pairsOf m.arrs (K.keys m.km) := rfl

theorem MM.pairs_length (m : MM σ) (hI : MM.Inv K L mf m) : (MM.pairs K m).length = m.count := by
  rw [MM.pairs, List.length_flatMap, hI.total]
  simp only [List.length_map]

theorem pairsOf_fst_mem (arrs : List (Nat × VArr)) (ks : List Nat) (e : Nat × Nat) (h : e ∈ pairsOf arrs ks) :
    e.1 ∈ ks := by
  simp only [pairsOf, List.mem_flatMap, List.mem_map] at h
  obtain ⟨k, hk, v, _, rfl⟩ := h
  exact hk

theorem pairsOf_keys_ne (arrs : List (Nat × VArr)) {ks : List Nat} {k : Nat} (hk : k ∉ ks) : ∀ e ∈ pairsOf arrs ks, e.1 ≠ k :=
  fun e he h => hk (h ▸ pairsOf_fst_mem arrs ks e he)

/-- What follows about `pairs` and one key is read off this decomposition with `block_filter`, `block_at`, `groupStart_block`. -/
theorem MM.pairs_block (m : MM σ) (hI : MM.Inv K L mf m) {k : Nat} (hk : k ∈ K.keys m.km) :
    ∃ P Q, MM.pairs K m = P ++ ((getArr m.arrs k).bounds.map (fun v => (k, v)) ++ Q) ∧
      (∀ e ∈ P, e.1 ≠ k) ∧ (∀ e ∈ Q, e.1 ≠ k) := by
  obtain ⟨A, B, hAB⟩ := List.append_of_mem hk
  have hd := List.nodup_append.mp (hAB ▸ L.nodup _ hI.km)
  refine ⟨pairsOf m.arrs A, pairsOf m.arrs B, ?_, pairsOf_keys_ne m.arrs (fun h => hd.2.2 k h k (List.mem_cons_self ..) rfl),
    pairsOf_keys_ne m.arrs (List.nodup_cons.mp hd.2.1).1⟩
  rw [MM.pairs_eq, hAB]
  exact List.flatMap_append

theorem MM.pairs_filter_key (m : MM σ) (hI : MM.Inv K L mf m) (k : Nat) :
    (MM.pairs K m).filter (fun e => e.1 == k) = (MM.vals K m k).map (fun v => (k, v)) := by
  by_cases hk : k ∈ K.keys m.km
  · obtain ⟨P, Q, hs, hP, hQ⟩ := MM.pairs_block K L mf m hI hk
    rw [hs, (block_filter hP hQ).1, MM.vals_of_mem K hk]
  · rw [MM.vals_of_not_mem K hk]
    exact List.filter_eq_nil_iff.mpr (fun e he => by simpa using pairsOf_keys_ne m.arrs hk e he)

theorem MM.pairs_count (m : MM σ) (hI : MM.Inv K L mf m) (k v : Nat) :
    (MM.pairs K m).count (k, v) = (MM.vals K m k).count v := by
  rw [← List.count_filter (p := fun e => e.1 == k) (beq_self_eq_true k), MM.pairs_filter_key K L mf m hI, count_map_pair]

theorem MM.pairs_perm_iff {σ₂ : Type} (K₂ : KeyMap σ₂) (L₂ : K₂.Lawful)
    (m1 : MM σ) (m2 : MM σ₂) (h1 : MM.Inv K L mf m1) (h2 : MM.Inv K₂ L₂ mf m2) :
    (MM.pairs K m1).Perm (MM.pairs K₂ m2) ↔ ∀ k, (MM.vals K m1 k).Perm (MM.vals K₂ m2 k) := by
  rw [List.perm_iff_count]
  constructor
  · intro h k
    rw [List.perm_iff_count]; intro v
    have := h (k, v)
    rwa [MM.pairs_count K L mf m1 h1, MM.pairs_count K₂ L₂ mf m2 h2] at this
  · intro h a
    obtain ⟨k, v⟩ := a
    rw [MM.pairs_count K L mf m1 h1, MM.pairs_count K₂ L₂ mf m2 h2]
    exact (List.perm_iff_count.mp (h k)) v

theorem MM.wCount_eq (hmf : mf < Extracted.abMaxFastLimit) (m : MM σ) (hI : MM.Inv K L mf m) (k : Nat) :
    MM.wCount K m k = ((MM.pairs K m).filter (fun e => e.1 == k)).length := by
  rw [MM.pairs_filter_key K L mf m hI, List.length_map]
  unfold MM.wCount
  rcases L.has_cases hI.km k with ⟨hh, hk⟩ | ⟨hh, hk⟩
  · rw [if_pos hh, MM.vals_of_mem K hk, hI.count_eq hmf k]
  · rw [if_neg (by rw [hh]; nofun), MM.vals_of_not_mem K hk]; rfl

theorem MM.wRange_eq (m : MM σ) (hI : MM.Inv K L mf m) (k : Nat) :
    MM.wRange K m k = ((MM.pairs K m).filter (fun e => e.1 == k)).map (·.2) := by
  rw [MM.pairs_filter_key K L mf m hI, List.map_map]
  have : ((fun x : Nat × Nat => x.2) ∘ fun v => (k, v)) = id := rfl
  rw [this, List.map_id]
  unfold MM.wRange
  rcases L.has_cases hI.km k with ⟨hh, hk⟩ | ⟨hh, hk⟩
  · rw [if_pos hh, MM.vals_of_mem K hk]
  · rw [if_neg (by rw [hh]; nofun), MM.vals_of_not_mem K hk]

theorem MM.wEraseKey_spec (hmf : mf < Extracted.abMaxFastLimit) (m : MM σ) (hI : MM.Inv K L mf m) (k : Nat) :
    MM.Inv K L mf (MM.wEraseKey K m k).1 ∧
    (MM.wEraseKey K m k).2 = ((MM.pairs K m).filter (fun e => e.1 == k)).length ∧
    (MM.pairs K (MM.wEraseKey K m k).1).Perm ((MM.pairs K m).filter (fun e => e.1 != k)) := by
  obtain ⟨i1, i2, i3, _⟩ := MM.removeKey_spec K L mf hmf m hI k
  refine ⟨i1, ?_, ?_⟩
  · show (MM.removeKey K m k).2 = _
    rw [i3, MM.pairs_filter_key K L mf m hI, List.length_map]
  · show (MM.pairs K (MM.removeKey K m k).1).Perm _
    rw [List.perm_iff_count]
    intro a
    obtain ⟨k', v⟩ := a
    rw [MM.pairs_count K L mf _ i1, ListFacts.count_filter_ite, MM.pairs_count K L mf m hI]
    simp only [MM.vals, i2, AMap.removeKey]
    by_cases e : k' = k
    · subst e; simp
    · simp [e]

theorem MM.pairs_erase (m m' : MM σ) (hI : MM.Inv K L mf m) (hI' : MM.Inv K L mf m') {k v : Nat}
    (hk : (v :: MM.vals K m' k).Perm (MM.vals K m k)) (hne : ∀ k', k' ≠ k → MM.vals K m' k' = MM.vals K m k') :
    (MM.pairs K m').Perm ((MM.pairs K m).erase (k, v)) := by
  have hmem : (k, v) ∈ MM.pairs K m :=
    List.count_pos_iff.mp (by rw [MM.pairs_count K L mf m hI]; exact List.count_pos_iff.mpr (hk.subset (List.mem_cons_self ..)))
  refine (List.perm_cons (k, v)).mp (List.Perm.trans ?_ (List.perm_cons_erase hmem))
  rw [List.perm_iff_count]
  intro a
  obtain ⟨k', v'⟩ := a
  rw [List.count_cons, MM.pairs_count K L mf m' hI', MM.pairs_count K L mf m hI]
  by_cases e : k' = k
  · subst e
    have := (List.perm_iff_count.mp hk) v'
    rw [List.count_cons] at this
    simpa using this
  · have : ((k, v) == (k', v')) = false := by simpa using fun h _ => e h.symm
    rw [hne k' e, this]; rfl

theorem MM.wEraseAt_spec (hmf : mf < Extracted.abMaxFastLimit) (m : MM σ) (hI : MM.Inv K L mf m)
    (k i : Nat) (v : Nat) (hk : k ∈ K.keys m.km) (hv : (getArr m.arrs k).bounds[i]? = some v) :
    MM.Inv K L mf (MM.wEraseAt K m k i) ∧
    (MM.pairs K (MM.wEraseAt K m k i)).Perm ((MM.pairs K m).erase (k, v)) := by
  obtain ⟨hi, hvi⟩ := List.getElem?_eq_some_iff.mp hv
  have hcnt := hI.count_eq hmf k
  unfold MM.wEraseAt
  by_cases hone : (getArr m.arrs k).count = 1
  · rw [if_pos hone]
    obtain ⟨i1, i2, _, _⟩ := MM.removeKey_spec K L mf hmf m hI k
    refine ⟨i1, MM.pairs_erase K L mf m _ hI i1 ?_ (fun k' e => by simp only [MM.vals, i2, AMap.removeKey, if_neg e])⟩
    have hsingle : (getArr m.arrs k).bounds = [v] := by
      have hmemv := List.mem_of_getElem? hv
      rw [hcnt] at hone
      match hb : (getArr m.arrs k).bounds, hone with
      | [x], _ => rw [hb, List.mem_singleton] at hmemv; rw [hmemv]
    simp only [MM.vals, i2, AMap.removeKey, MM.abs_of_mem K hk, hsingle, if_true, Option.getD_none, Option.getD_some]
    exact .refl _
  · rw [if_neg hone]
    obtain ⟨i1, i2, _⟩ := MM.removeValue_spec K L mf hmf m hI k i false hk hi
    refine ⟨i1, MM.pairs_erase K L mf m _ hI i1 ?_ (fun k' e => by simp only [MM.vals, i2, AMap.removeValue, if_neg e])⟩
    simp only [MM.vals, i2, AMap.removeValue, MM.abs_of_mem K hk, if_true, Option.map_some, Option.getD_some]
    exact cons_swapRemove_perm hv

theorem MM.vals_removeIf (m : MM σ) (p : Nat → Nat → Bool) (k : Nat) :
    ((AMap.removeIf (MM.abs K m) p k).getD []) = swapFilter (p k) (MM.vals K m k).length (MM.vals K m k) 0 := by
  simp only [AMap.removeIf, MM.vals]
  cases MM.abs K m k with
  | none => simp [swapFilter]
  | some l => simp

/-- `erase_if` of the wrapper calls `HashMultiMap::Remove(pairFilter)` directly: `MM.removeIf` at the level of pairs -/
theorem MM.removeIf_pairs (hmf : mf < Extracted.abMaxFastLimit) (m : MM σ) (hI : MM.Inv K L mf m)
    (p : Nat → Nat → Bool) :
    MM.Inv K L mf (MM.removeIf K m p).1 ∧
    (MM.pairs K (MM.removeIf K m p).1).Perm ((MM.pairs K m).filter (fun e => !p e.1 e.2)) ∧
    (MM.removeIf K m p).2 = (MM.pairs K m).countP (fun e => p e.1 e.2) := by
  obtain ⟨i1, i2, i3, _⟩ := MM.removeIf_spec K L mf hmf m hI p
  refine ⟨i1, ?_, ?_⟩
  · rw [List.perm_iff_count]
    intro a
    obtain ⟨k, v⟩ := a
    rw [MM.pairs_count K L mf _ i1, ListFacts.count_filter_ite, MM.pairs_count K L mf m hI]
    have := MM.vals_removeIf K m p k
    simp only [MM.vals] at this ⊢
    rw [i2, this, (List.perm_iff_count.mp (swapFilter_all_perm (p k) _)) v, ListFacts.count_filter_ite]
  · rw [i3, MM.pairs_eq, pairsOf, List.countP_flatMap]
    congr 1
    apply List.map_congr_left
    intro k _
    simp only [Function.comp, List.countP_map]
    rfl

theorem MM.wEq_iff (hmf : mf < Extracted.abMaxFastLimit)
    (m1 m2 : MM σ) (h1 : MM.Inv K L mf m1) (h2 : MM.Inv K L mf m2) :
    MM.wEq K m1 m2 = true ↔ (MM.pairs K m1).Perm (MM.pairs K m2) := by
  constructor
  · intro h
    simp only [MM.wEq, Bool.and_eq_true, beq_iff_eq, List.all_eq_true, Bool.or_eq_true] at h
    obtain ⟨hcount, hall⟩ := h
    apply ListFacts.perm_of_count_le
    · intro a
      obtain ⟨k, v⟩ := a
      rw [MM.pairs_count K L mf m1 h1, MM.pairs_count K L mf m2 h2]
      by_cases hk : k ∈ K.keys m1.km
      · rcases hall k hk with h0 | ⟨⟨hh, _⟩, hperm⟩
        · rw [h1.count_eq hmf] at h0
          have : (getArr m1.arrs k).bounds = [] := List.length_eq_zero_iff.mp h0
          rw [MM.vals_of_mem K hk, this]; simp
        · have hk2 := (L.has_iff _ k h2.km).mp hh
          rw [MM.vals_of_mem K hk, MM.vals_of_mem K hk2]
          exact Nat.le_of_eq ((List.perm_iff_count.mp (List.isPerm_iff.mp hperm)) v)
      · rw [MM.vals_of_not_mem K hk]; simp
    · rw [MM.pairs_length K L mf m1 h1, MM.pairs_length K L mf m2 h2]; exact hcount
  · intro h
    have hv := (MM.pairs_perm_iff K L mf K L m1 m2 h1 h2).mp h
    simp only [MM.wEq, Bool.and_eq_true, beq_iff_eq, List.all_eq_true, Bool.or_eq_true]
    refine ⟨?_, ?_⟩
    · rw [← MM.pairs_length K L mf m1 h1, ← MM.pairs_length K L mf m2 h2]; exact h.length_eq
    · intro k hk
      by_cases h0 : (getArr m1.arrs k).count = 0
      · exact Or.inl h0
      · right
        have hne : MM.vals K m1 k ≠ [] := by
          rw [MM.vals_of_mem K hk]; intro e; rw [h1.count_eq hmf, e] at h0; exact h0 rfl
        have hne2 : MM.vals K m2 k ≠ [] := fun e => hne (by have := hv k; rw [e] at this; exact this.eq_nil)
        have hk2 := MM.mem_keys_of_vals_ne K hne2
        have hp := hv k
        rw [MM.vals_of_mem K hk, MM.vals_of_mem K hk2] at hp
        refine ⟨⟨(L.has_iff _ k h2.km).mpr hk2, ?_⟩, List.isPerm_iff.mpr hp⟩
        rw [h1.count_eq hmf, h2.count_eq hmf]; exact hp.length_eq

theorem skipEmpty_eq_itMove (arrs : List (Nat × VArr)) (ks : List Nat) : skipEmpty arrs ks = itMove arrs ks 0 := by
  cases ks with
  | nil => rfl
  | cons k rest =>
    simp only [skipEmpty, itMove]
    by_cases h : (getArr arrs k).count = 0
    · have h' : ¬ (0 ≠ (getArr arrs k).count) := by omega
      simp [h]
    · have h' : 0 ≠ (getArr arrs k).count := by omega
      simp [h, h']

/-- what is still ahead of the iterator position (key iterator `ks`, value index `i`) -/
def remPairs (arrs : List (Nat × VArr)) : List Nat → Nat → List (Nat × Nat)
  | [], _ => []
  | k :: rest, i => ((getArr arrs k).bounds.drop i).map (fun v => (k, v)) ++ pairsOf arrs rest

theorem remPairs_zero (arrs : List (Nat × VArr)) (ks : List Nat) : remPairs arrs ks 0 = pairsOf arrs ks := by
  cases ks with
  | nil => rfl
  | cons k rest => simp [remPairs, pairsOf]

theorem iterFrom_end (arrs : List (Nat × VArr)) (fuel i : Nat) : iterFrom arrs fuel ([], i) = [] := by
  cases fuel <;> simp [iterFrom, itDeref]

section
variable (arrs : List (Nat × VArr)) (hc : ∀ k, (getArr arrs k).count = (getArr arrs k).bounds.length) (k : Nat) (rest : List Nat)
include hc

theorem itMove_done : itMove arrs (k :: rest) (getArr arrs k).bounds.length = itMove arrs rest 0 := by
  rw [itMove, hc k, if_neg (fun h => h rfl)]
  exact skipEmpty_eq_itMove arrs rest

omit hc in
theorem remPairs_done : remPairs arrs (k :: rest) (getArr arrs k).bounds.length = remPairs arrs rest 0 := by
  rw [remPairs_zero, remPairs, List.drop_length]; rfl

theorem itMove_lt {i : Nat} (hi : i < (getArr arrs k).bounds.length) : itMove arrs (k :: rest) i = (k :: rest, i) := by
  rw [itMove, hc k, if_pos (Nat.ne_of_lt hi)]

omit hc in
theorem remPairs_lt {i : Nat} (hi : i < (getArr arrs k).bounds.length) :
    remPairs arrs (k :: rest) i = (k, (getArr arrs k).bounds[i]) :: remPairs arrs (k :: rest) (i + 1) := by
  rw [remPairs, List.drop_eq_getElem_cons hi]; rfl

/-- the values of one key from index `i` on, then (`ih`) the keys after it -/
theorem iterFrom_key (ih : ∀ fuel, (remPairs arrs rest 0).length ≤ fuel → iterFrom arrs fuel (itMove arrs rest 0) = remPairs arrs rest 0) :
    ∀ (n i fuel : Nat), i + n = (getArr arrs k).bounds.length → (remPairs arrs (k :: rest) i).length ≤ fuel →
      iterFrom arrs fuel (itMove arrs (k :: rest) i) = remPairs arrs (k :: rest) i := by
  intro n
  induction n with
  | zero =>
    intro i fuel hi hf
    cases (hi : i = _)
    rw [itMove_done arrs hc, remPairs_done] at *
    exact ih fuel hf
  | succ n ihn =>
    intro i fuel hi hf
    have hlt : i < (getArr arrs k).bounds.length := hi ▸ Nat.lt_add_of_pos_right (Nat.succ_pos n)
    rw [remPairs_lt arrs k rest hlt] at hf ⊢
    rw [itMove_lt arrs hc k rest hlt]
    cases fuel with
    | zero => cases hf
    | succ f =>
      simp only [iterFrom, itDeref, List.getElem?_eq_getElem hlt, Option.map_some]
      exact congrArg _ (ihn (i + 1) f (by rw [← hi]; exact Nat.add_right_comm ..) (Nat.le_of_succ_le_succ hf))

theorem iterFrom_spec (ks : List Nat) : ∀ fuel, (pairsOf arrs ks).length ≤ fuel →
    iterFrom arrs fuel (itMove arrs ks 0) = pairsOf arrs ks := by
  induction ks with
  | nil => exact fun fuel _ => iterFrom_end arrs fuel 0
  | cons k rest ih =>
    intro fuel hf
    rw [← remPairs_zero] at hf ih ⊢
    exact iterFrom_key arrs hc k rest ih _ 0 fuel (Nat.zero_add _) hf

end

theorem MM.iterAll_eq (hmf : mf < Extracted.abMaxFastLimit) (m : MM σ) (hI : MM.Inv K L mf m) :
    MM.iterAll K m = MM.pairs K m :=
  iterFrom_spec m.arrs (hI.count_eq hmf) _ _ (by rw [← MM.pairs_eq, MM.pairs_length K L mf m hI]; exact Nat.le_succ _)

theorem MM.wEraseRange_spec (hmf : mf < Extracted.abMaxFastLimit) (m m' : MM σ) (hI : MM.Inv K L mf m)
    (i j : Nat) (h : MM.wEraseRange K m i j = some m') :
    MM.Inv K L mf m' ∧ (MM.pairs K m').Perm ((MM.pairs K m).take i ++ (MM.pairs K m).drop j) := by
  unfold MM.wEraseRange at h
  by_cases hij : i = j
  · subst hij
    simp only [if_true, Option.some.injEq] at h; subst h
    exact ⟨hI, by simp⟩
  · simp only [hij, if_false] at h
    cases hget : (MM.pairs K m)[i]? with
    | none => rw [hget] at h; cases h
    | some kv =>
      obtain ⟨k, v0⟩ := kv
      rw [hget] at h
      simp only at h
      have hmemp : (k, v0) ∈ MM.pairs K m := List.mem_of_getElem? hget
      have hk : k ∈ K.keys m.km := pairsOf_fst_mem m.arrs _ _ hmemp
      obtain ⟨P, Q, hsplit, hP, hQ⟩ := MM.pairs_block K L mf m hI hk
      obtain ⟨hPi, hvi⟩ := block_at hP hQ (hsplit ▸ hget)
      have hcnt := hI.count_eq hmf k
      -- with `pairs = P ++ block of k ++ Q` the model's `groupStart` is `P.length` and position `i` is place `i - P.length` of the block;
      -- each accepted range is then one operation's lemma (`wEraseAt_spec`, `wEraseKey_spec`, `clear_spec`) and a `take` / `drop` of that shape
      have hgs : groupStart (MM.pairs K m) k = P.length := by
        rw [hsplit]
        exact groupStart_block hP (fun e => by rw [e] at hvi; cases hvi)
      rw [hgs] at h
      by_cases hj1 : j = i + 1
      · simp only [hj1, if_true, Option.some.injEq] at h; subst h
        obtain ⟨i1, i2⟩ := MM.wEraseAt_spec K L mf hmf m hI k (i - P.length) v0 hk hvi
        refine ⟨i1, i2.trans ?_⟩
        subst hj1
        obtain ⟨hilt, hx⟩ := List.getElem?_eq_some_iff.mp hget
        have hdec : MM.pairs K m = (MM.pairs K m).take i ++ (k, v0) :: (MM.pairs K m).drop (i + 1) := by
          rw [← hx]; simp
        refine (List.perm_cons (k, v0)).mp ((List.perm_cons_erase hmemp).symm.trans ?_)
        conv => lhs; rw [hdec]
        exact List.perm_middle
      · simp only [hj1, if_false] at h
        by_cases hgrp : i = P.length ∧ j = i + (getArr m.arrs k).count
        · simp only [hgrp, and_self, if_true, Option.some.injEq] at h
          subst h
          obtain ⟨e1, e2, e3⟩ := MM.wEraseKey_spec K L mf hmf m hI k
          refine ⟨e1, e3.trans ?_⟩
          obtain ⟨hi', hj'⟩ := hgrp
          rw [hcnt] at hj'
          subst hi'
          subst hj'
          have hf : (MM.pairs K m).filter (fun e => e.1 != k) = P ++ Q := hsplit ▸ (block_filter hP hQ).2
          rw [hf, hsplit]
          have t1 : (P ++ ((getArr m.arrs k).bounds.map (fun v => (k, v)) ++ Q)).take P.length = P := by simp
          have t2 : (P ++ ((getArr m.arrs k).bounds.map (fun v => (k, v)) ++ Q)).drop
              (P.length + (getArr m.arrs k).bounds.length) = Q := by
            rw [← List.drop_drop]
            simp
          rw [t1, t2]
        · simp only [hgrp, if_false] at h
          by_cases hall : i = 0 ∧ j = (MM.pairs K m).length
          · simp only [hall, and_self, if_true, Option.some.injEq] at h
            subst h
            obtain ⟨c1, c2⟩ := MM.clear_spec K L mf m hI
            refine ⟨c1, ?_⟩
            obtain ⟨hi0, hjl⟩ := hall
            subst hi0; subst hjl
            have : MM.pairs K (MM.clear K m) = [] := by
              have := L.clear_ok m.km hI.km
              simp [MM.pairs, MM.clear, this.2]
            rw [this]; simp
          · simp only [hall, if_false] at h
            cases h

end

end Momo.MMap
