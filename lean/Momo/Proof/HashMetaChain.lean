import Momo.Proof.HashMeta
import Momo.Proof.ProbeAdd
/-!
  Table level (C12): an element re-inserted with the code from `GetHashCodePart` is placed like one re-inserted with its
  true hash code, at every step of any chain of growths. The invariant carried along the chain: the code `c` used for
  the insertion at size `2^L` agrees with the true hash on the bits of the group of `L` (and on the top seven bits): `AgreeK`; a
  placement made with such a code is `Good`; `Rel` pairs the reconstructing run with the rehashing run (`chain_same`). Bounds on the
  result of `place` that only the translation equalities need (`place_bounds`, `place_wf`, `place_probe_lt`) are in `TrEqHashMeta`.
-/
namespace Momo.HashMeta

/-- the invariant of the chain, per kind: `Agree (gbits L)` for LimP4 / Open2N2, equal low 63 bits for One (whose state is the code
    without its top bit) -/
def AgreeK (k : Kind) (L c h : Nat) : Prop :=
  match k with
  | .one8 => c % 2 ^ 63 = h % 2 ^ 63
  | _ => Agree (gbits L) c h

theorem AgreeK.refl (k : Kind) (L h : Nat) : AgreeK k L h h := by
  cases k <;> simp [AgreeK, Agree.refl]

/-- how far from its start bucket an element lands after `p` probing steps: `p` (linear), the triangular number `tri p` (Open2N2) -/
def disp (k : Kind) (p : Nat) : Nat := if k.quad then Probe.tri p else p

/-- a placement that was made by `pvAddNogrow` with some code `c` that agrees with `h` -/
def Good (k : Kind) (h : Nat) (st : Placed) : Prop :=
  ∃ c, c < 2 ^ 64 ∧ AgreeK k st.L c h ∧ st.L ≤ 57 ∧
    st.idx = (c % 2 ^ st.L + disp k st.probe) % 2 ^ st.L ∧ st.short = k.short c ∧ st.byte = k.enc c st.L st.probe

theorem seqLin_start (L h p : Nat) : Probe.seqLin L (Probe.start L h) p = (h % 2 ^ L + p) % 2 ^ L := by
  rw [Probe.seqLin_closed L _ p (Probe.start_lt L h), Probe.start_eq]

theorem seqQuad_start (L h p : Nat) : Probe.seqQuad L (Probe.start L h) p = (h % 2 ^ L + Probe.tri p) % 2 ^ L := by
  rw [Probe.seqQuad_closed L _ p (Probe.start_lt L h), Probe.start_eq]

theorem seqOf_closed (k : Kind) (L home p : Nat) (hh : home < 2 ^ L) :
    Probe.seqOf k.quad L home p = (home + disp k p) % 2 ^ L := by
  unfold Probe.seqOf disp
  cases hq : k.quad
  · simp [Probe.seqLin_closed L home p hh]
  · simp [Probe.seqQuad_closed L home p hh]

theorem place_spec (k : Kind) (L c : Nat) (isFull : Nat → Bool) (st : Placed) (hpl : place k L isFull c = some st) :
    st.L = L ∧ st.start = Probe.start L c ∧ st.idx = Probe.seqOf k.quad L (Probe.start L c) st.probe ∧
      st.short = k.short c ∧ st.byte = k.enc c L st.probe := by
  unfold place at hpl
  have hspec := Probe.addProbe_spec k.quad L isFull (Probe.start L c)
  cases hadd : Probe.addProbe k.quad L isFull (Probe.start L c) with
  | none => rw [hadd] at hpl; cases hpl
  | some pi =>
    rw [hadd] at hpl hspec
    cases hpl
    exact ⟨rfl, rfl, hspec.2.1, rfl, rfl⟩

theorem place_good (k : Kind) (h L c : Nat) (isFull : Nat → Bool) (st : Placed) (hc : c < 2 ^ 64) (hL : L ≤ 57)
    (ha : AgreeK k L c h) (hpl : place k L isFull c = some st) : Good k h st ∧ st.L = L := by
  obtain ⟨e1, e2, e3, e4, e5⟩ := place_spec k L c isFull st hpl
  rw [seqOf_closed k L _ _ (Probe.start_lt L c), Probe.start_eq] at e3
  subst e1
  exact ⟨⟨c, hc, ha, hL, e3, e4, e5⟩, rfl⟩

theorem code_agree (k : Kind) (h : Nat) (st : Placed) (L' : Nat) (hh : h < 2 ^ 64) (hg : Good k h st)
    (hlt : st.L < L') :
    AgreeK k L' (codeOf k st L' h) h ∧ codeOf k st L' h < 2 ^ 64 := by
  obtain ⟨c, hc, ha, hL, hidx, hshort, hbyte⟩ := hg
  cases k with
  | limp4 =>
    simp only [Kind.enc, Kind.short, disp, Kind.quad, Bool.false_eq_true, if_false] at hbyte hshort hidx
    simp only [codeOf, AgreeK]
    rw [hbyte, hshort, hidx]
    exact P4.part_agree c h st.L L' st.probe hc hh hL ha
  | open2 =>
    simp only [Kind.enc, Kind.short, disp, Kind.quad, if_true] at hbyte hshort hidx
    simp only [codeOf, AgreeK]
    rw [hbyte, hshort, hidx]
    exact O2.part_agree c h st.L L' st.probe hc hh hL hlt ha
  | one8 =>
    simp only [codeOf, AgreeK, Kind.short] at *
    rw [hshort, One.part8]
    constructor
    · rw [Nat.mod_mod]; exact ha
    · have : c % 2 ^ 63 < 2 ^ 63 := Nat.mod_lt _ (by decide)
      omega

/-- `P4.agree_all`, `O2.agree_all`, `One.state8_congr` for every kind; the exception is Open2N2's byte at `probeShift = 0`, which no later
    growth reads (the disjunct is that of `Placed.sameAs`) -/
theorem agreeK_all (k : Kind) (L c h : Nat) (hL : L ≤ 57) (ha : AgreeK k L c h) :
    Probe.start L c = Probe.start L h ∧ k.short c = k.short h ∧
      ∀ p, k.enc c L p = k.enc h L p ∨ (k = Kind.open2 ∧ O2.probeShift L = 0) := by
  rw [Probe.start_eq, Probe.start_eq]
  cases k with
  | one8 =>
    have d : 2 ^ L ∣ 2 ^ 63 := Nat.pow_dvd_pow 2 (by omega)
    have ha' : c % 2 ^ 63 = h % 2 ^ 63 := ha
    exact ⟨by rw [← Nat.mod_mod_of_dvd c d, ← Nat.mod_mod_of_dvd h d, ha'], One.state8_congr ha', fun _ => .inl rfl⟩
  | limp4 =>
    obtain ⟨a1, a2, a3⟩ := P4.agree_all ha
    exact ⟨a1, a2, fun p => .inl (a3 p)⟩
  | open2 =>
    obtain ⟨a1, a2, a3⟩ := O2.agree_all ha
    refine ⟨a1, a2, fun p => ?_⟩
    by_cases hs0 : 0 < O2.probeShift L
    · exact .inl (a3 hs0 p)
    · exact .inr ⟨rfl, by omega⟩

theorem place_same (k : Kind) (h L c : Nat) (isFull : Nat → Bool) (hL : L ≤ 57) (ha : AgreeK k L c h) :
    sameAsOpt k (place k L isFull c) (place k L isFull h) := by
  obtain ⟨hst, hsh, henc⟩ := agreeK_all k L c h hL ha
  unfold place
  rw [hst]
  cases hadd : Probe.addProbe k.quad L isFull (Probe.start L h) with
  | none => simp [sameAsOpt]
  | some pi =>
    obtain ⟨p, idx⟩ := pi
    simp only [sameAsOpt, Placed.sameAs, true_and]
    exact ⟨hsh, henc p⟩

/-- `o` the run with reconstructed codes, `oF` the run with the true hash code -/
def Rel (k : Kind) (h L : Nat) (o oF : Option Placed) : Prop :=
  (o = none ∧ oF = none) ∨ ∃ a b, o = some a ∧ oF = some b ∧ Good k h a ∧ a.L = L ∧ a.sameAs k b

theorem rel_of_place (k : Kind) (h L c : Nat) (isFull : Nat → Bool) (hc : c < 2 ^ 64) (hL : L ≤ 57)
    (ha : AgreeK k L c h) : Rel k h L (place k L isFull c) (place k L isFull h) := by
  have hs := place_same k h L c isFull hL ha
  cases h1 : place k L isFull c with
  | none =>
    cases h2 : place k L isFull h with
    | none => left; exact ⟨rfl, rfl⟩
    | some b => rw [h1, h2] at hs; simp [sameAsOpt] at hs
  | some a =>
    cases h2 : place k L isFull h with
    | none => rw [h1, h2] at hs; simp [sameAsOpt] at hs
    | some b =>
      rw [h1, h2] at hs
      obtain ⟨hg, hl⟩ := place_good k h L c isFull a hc hL ha h1
      right; exact ⟨a, b, rfl, rfl, hg, hl, hs⟩

theorem chain_same (k : Kind) (h : Nat) (hh : h < 2 ^ 64) (steps : List (Nat × (Nat → Bool))) :
    ∀ (L : Nat) (o oF : Option Placed), Rel k h L o oF → GrowthChain 57 L steps →
      sameAsOpt k (chainPart k h o steps) (chainFull k h oF steps) := by
  induction steps with
  | nil =>
    intro L o oF hr _
    rcases hr with ⟨rfl, rfl⟩ | ⟨a, b, rfl, rfl, _, _, hs⟩
    · simp [chainPart, chainFull, sameAsOpt]
    · simpa [chainPart, chainFull, sameAsOpt] using hs
  | cons s rest ih =>
    intro L o oF hr hch
    obtain ⟨L', f⟩ := s
    obtain ⟨hlt, hL', hrest⟩ := hch
    rcases hr with ⟨rfl, rfl⟩ | ⟨a, b, rfl, rfl, hg, hl, _⟩
    · simp [chainPart, chainFull, sameAsOpt]
    · simp only [chainPart, chainFull, relocate, rehash]
      have hca := code_agree k h a L' hh hg (by omega)
      exact ih L' _ _ (rel_of_place k h L' _ f hca.2 hL' hca.1) hrest

theorem chainFull_some (k : Kind) (h : Nat) (steps : List (Nat × (Nat → Bool))) :
    ∀ (o : Option Placed) (b : Placed), (∀ x, o = some x → ∃ L f, place k L f h = some x) →
      chainFull k h o steps = some b → ∃ L f, place k L f h = some b := by
  induction steps with
  | nil => intro o b ho hb; simp only [chainFull] at hb; exact ho b hb
  | cons s rest ih =>
    intro o b _ hb
    obtain ⟨L', f⟩ := s
    cases o with
    | none => simp [chainFull] at hb
    | some x =>
      simp only [chainFull, rehash] at hb
      exact ih _ b (fun y hy => ⟨L', f, hy⟩) hb

end Momo.HashMeta
