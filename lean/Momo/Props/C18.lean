import Momo.Proof.ColumnsRows
import Momo.Proof.TrEqMisc2Col
import Momo.Proof.TrEqWave2Col
/-!
# C18 — Column lists give each column its own aligned slot and know only their columns

The property theorems, and concrete histories (`exCfg`, `exOps`, `cycOps`, evaluated by the kernel) that meet their hypotheses.
Model: `Momo/Model/Columns.lean` (mirrors `momo::DataColumnList`, include/momo/DataColumn.h).

Statement (properties.jsonl): for every set and order of columns added to a dynamic column list (an
addition the list cannot accommodate is refused with an exception and leaves it unchanged), each
column is assigned an offset that is aligned for its type, lies within the row size, overlaps no
other column (nor the row-number slot), and never changes when further columns are added; looking a
column up always yields that offset. Membership queries answer true exactly for the columns that
were added, and creating, copying (also between different column lists) and destroying a row
constructs and destroys each column's item exactly once.

Quantifiers.  `c : Cfg` — every `logVertexCount ≥ 4` (the header's static assertion; no upper bound
is needed), with or without the row-number slot, any code width.  `ops` — every history of `Add`
calls from the empty list: any number of columns per call, any codes (colliding or not, repeated or
not), any item sizes/alignments `> 0`, any allocation fault per call; refused calls stay in the
history.  The only hypothesis besides well-formed item types is `Small`: all bytes ever requested,
padding included, times `2^L + 1`, stay below `2^63` — it rules the 64-bit wrap of offsets out and
is what makes the `0 = unvisited` encoding of the addends sound (the proofs show that under it no
addend is ever computed as `0`).  Real rows (sizes < 2^47 bytes for `L = 15`) satisfy it.
-/
namespace Momo.Col

/-- **GetVertices.** For every code and every code parameter the retry loop can reach, the two
vertices are distinct and index into the `2^L` addends (so `Graph::AddEdges`' check holds and no
array access is out of range). -/
theorem C18_vertices (c : Cfg) (hL : Extracted.colLogVertexMin ≤ c.L) (code param : Nat)
    (hp : param ≤ Extracted.colMaxCodeParam) :
    (getVertices c code param).1 ≠ (getVertices c code param).2 ∧
    (getVertices c code param).1 < 2 ^ c.L ∧ (getVertices c code param).2 < 2 ^ c.L :=
  ⟨vertices_ne c code param, vertices_lt c code param hL hp⟩

/-- **fill_sound.** Whenever one attempt of `pvFillAddends` succeeds on a reachable list — for any
code parameter, any new columns — then for every old column (with its recorded offset) and every
new column (with the offset `Ceil` laid out for it) both addends are non-zero and
`addend[v1] + addend[v2] ≡ offset (mod 2^64)`. -/
theorem C18_fill_sound (c : Cfg) (hL : Extracted.colLogVertexMin ≤ c.L) (ops : List (List Item × Fault))
    (items : List Item) (fault : Fault) (hok : WellTyped (ops ++ [(items, fault)])) (hs : Small c (ops ++ [(items, fault)]))
    (param : Nat) (hp : param ≤ Extracted.colMaxCodeParam) (a : Array Nat) (off al : Nat)
    (hfill : fillAddends c (run c ops) items param = (.ok a, off, al)) :
    off = endOf items (run c ops).totalSize ∧
    ∀ r ∈ (run c ops).columns ++ place items (run c ops).totalSize,
      a.getD (getVertices c r.code param).1 0 ≠ 0 ∧ a.getD (getVertices c r.code param).2 0 ≠ 0 ∧
      (a.getD (getVertices c r.code param).1 0 + a.getD (getVertices c r.code param).2 0) % 2 ^ 64 = r.offset := by
  obtain ⟨hinv, hitems, hB⟩ := run_next c hL ops items fault hok hs
  obtain ⟨h1, _, _, h4⟩ := (fillAddends_spec c (run c ops) items param hinv hitems hL hp hB).2 a off al hfill
  exact ⟨h1, fun r hr => (h4 r hr).spelled⟩

/-- **DFS termination.** On reachable lists the recursion of `Graph::FillAddends` needs at most
`2^L` nested calls (the fuel the model gives it): no attempt runs out of fuel, hence `pvAdd` always
returns one of its four C++ outcomes. The measure is the number of zero addends, which every
recursive call decreases because no addend is ever computed as `0`. -/
theorem C18_dfs_terminates (c : Cfg) (hL : Extracted.colLogVertexMin ≤ c.L) (ops : List (List Item × Fault))
    (items : List Item) (fault : Fault) (hok : WellTyped (ops ++ [(items, fault)])) (hs : Small c (ops ++ [(items, fault)])) :
    (∀ param, param ≤ Extracted.colMaxCodeParam → (fillAddends c (run c ops) items param).1 ≠ .fuel) ∧
    (add c (run c ops) items fault).2 ≠ .unmodelled := by
  obtain ⟨hinv, hitems, hB⟩ := run_next c hL ops items fault hok hs
  refine ⟨fun param hp => (fillAddends_spec c (run c ops) items param hinv hitems hL hp hB).1, ?_⟩
  cases add_spec c (run c ops) items fault hinv hitems hL hB with
  | ok _ _ eq _ _ _ _ => rw [eq]; exact nofun
  | tooMany eq _ => rw [eq]; exact nofun
  | cannot eq _ _ => rw [eq]; exact nofun
  | badAlloc _ eq _ _ _ _ _ _ => rw [eq]; exact nofun

/-- **offsets_ok.** After any history every column's offset is aligned for its type, lies behind
the row-number slot, ends within the row size, and the slots are pairwise disjoint (they lie one
after another in the order of addition).  The columns are exactly the items of the calls that
succeeded, in order, with their item sizes and alignments. -/
theorem C18_offsets_ok (c : Cfg) (hL : Extracted.colLogVertexMin ≤ c.L) (ops : List (List Item × Fault))
    (hok : WellTyped ops) (hs : Small c ops) :
    (∀ r ∈ (run c ops).columns,
        r.offset % r.align = 0 ∧ c.rowSlot ≤ r.offset ∧ r.offset + r.size ≤ (run c ops).totalSize ∧ 0 < r.size) ∧
    (run c ops).columns.Pairwise (fun r1 r2 => r1.offset + r1.size ≤ r2.offset) ∧
    (run c ops).columns.map sigR = (addedItems c ops (init c)).map sigI := by
  have hr := runFrom_spec c hL ops (init c) (init_inv c) (wellTyped_iff.mp hok) hs
  refine ⟨?_, hr.1.lay.pairwise, ?_⟩
  · intro r hmem
    have := hr.1.lay.mem hmem
    exact ⟨this.2.1, this.1, this.2.2.1, this.2.2.2.1⟩
  · obtain ⟨more, h1, h2⟩ := hr.2.1
    have : (run c ops).columns = more := by rw [run_eq, h1]; rfl
    rw [this, h2]

/-- **offset_stable + lookup.** The column records a history produced are never changed by any
continuation of the history (further additions, refused or not), and in every later state looking
such a column up — `pvGetOffset` and `Contains(…, &offset)` — yields the offset recorded when it
was added. -/
theorem C18_offset_stable (c : Cfg) (hL : Extracted.colLogVertexMin ≤ c.L) (ops more : List (List Item × Fault))
    (hok : WellTyped (ops ++ more)) (hs : Small c (ops ++ more)) :
    (∃ newer, (run c (ops ++ more)).columns = (run c ops).columns ++ newer) ∧
    ∀ r ∈ (run c ops).columns,
      getOffset c (run c (ops ++ more)) r.code = r.offset ∧
      contains c (run c (ops ++ more)) r.code = some r.offset := by
  obtain ⟨hinv, hok2, hB, heq⟩ := run_split c hL ops more hok hs
  rw [heq]
  exact runFrom_stable c hL more (run c ops) hinv (wellTyped_iff.mp hok2) hB

/-- **contains_iff_added.** `Contains` answers true exactly for the codes of the columns that were
added (by the calls of the history that succeeded) — whatever the addends of a foreign code's
vertices are. -/
theorem C18_contains_iff_added (c : Cfg) (hL : Extracted.colLogVertexMin ≤ c.L) (ops : List (List Item × Fault))
    (hok : WellTyped ops) (hs : Small c ops) (code : Nat) :
    (contains c (run c ops) code).isSome = true ↔ code ∈ (addedItems c ops (init c)).map (·.code) := by
  have hi := run_inv c hL ops hok hs
  have hcodes : (run c ops).columns.map (·.code) = (addedItems c ops (init c)).map (·.code) := by
    have h := congrArg (List.map (·.1)) (C18_offsets_ok c hL ops hok hs).2.2
    rwa [List.map_map, List.map_map] at h
  rw [← hcodes]
  refine ⟨fun h => Decidable.byContradiction fun hn => ?_, fun h => ?_⟩
  · rw [contains_not_added hi hn] at h; cases h
  · obtain ⟨r, hr1, rfl⟩ := List.mem_map.mp h
    rw [contains_added hi hr1]; rfl

/-- **add_refused_unchanged.** On a reachable list every `Add` call, with any allocation fault,
either succeeds (only without a fault, keeping the column count within `maxColumnCount`) or is
refused — too many columns (exactly when the count would exceed `maxColumnCount`), no acyclic code
parameter up to 255, or the allocation failure — and a refused call leaves the list unchanged: only
the size of the internal mutable-bit array may have grown (not observable through the interface). -/
theorem C18_add_refused_unchanged (c : Cfg) (hL : Extracted.colLogVertexMin ≤ c.L) (ops : List (List Item × Fault))
    (items : List Item) (fault : Fault) (hok : WellTyped (ops ++ [(items, fault)])) (hs : Small c (ops ++ [(items, fault)])) :
    ((add c (run c ops) items fault).2 ≠ .ok →
        (add c (run c ops) items fault).1 = { run c ops with mutCount := (add c (run c ops) items fault).1.mutCount }) ∧
    ((add c (run c ops) items fault).2 = .tooMany ↔ items.length + (run c ops).columns.length > c.maxColumns) ∧
    ((add c (run c ops) items fault).2 = .ok → fault = .none ∧
        ((add c (run c ops) items fault).1).columns.length ≤ c.maxColumns) ∧
    ((add c (run c ops) items fault).2 = .badAlloc → fault ≠ .none) := by
  obtain ⟨hinv, hitems, hB⟩ := run_next c hL ops items fault hok hs
  cases add_spec c (run c ops) items fault hinv hitems hL hB with
  | ok _ _ eq nofault fits inv _ =>
    rw [eq]
    exact ⟨fun h => absurd rfl h, ⟨nofun, fun h => absurd h (Nat.not_lt.mpr fits)⟩, fun _ => ⟨nofault, inv.count_le⟩, nofun⟩
  | tooMany eq many => rw [eq]; exact ⟨fun _ => rfl, ⟨fun _ => many, fun _ => rfl⟩, nofun, nofun⟩
  | cannot eq fits _ =>
    rw [eq]; exact ⟨fun _ => rfl, ⟨nofun, fun h => absurd h (Nat.not_lt.mpr fits)⟩, nofun, nofun⟩
  | badAlloc _ eq faulty fits _ _ _ _ =>
    rw [eq]; exact ⟨fun _ => rfl, ⟨nofun, fun h => absurd h (Nat.not_lt.mpr fits)⟩, nofun, fun _ => faulty⟩

/-- **Duplicate codes are refused.** A call that names a code already in the list, or the same code
twice, never succeeds (for such a call every code parameter yields a double edge with two different
offsets), whatever the fault — so the `catch` handler of `pvAdd`, which removes the new codes from the
code set, can never remove the code of an existing column. -/
theorem C18_duplicate_refused (c : Cfg) (hL : Extracted.colLogVertexMin ≤ c.L) (ops : List (List Item × Fault))
    (items : List Item) (fault : Fault) (hok : WellTyped (ops ++ [(items, fault)])) (hs : Small c (ops ++ [(items, fault)]))
    (hdup : ¬ ((run c ops).codeSet ++ items.map (·.code)).Nodup) :
    add c (run c ops) items fault = (run c ops, .tooMany) ∨ add c (run c ops) items fault = (run c ops, .cannot) := by
  obtain ⟨hinv, hitems, hB⟩ := run_next c hL ops items fault hok hs
  exact add_duplicate_refused c (run c ops) items fault hinv hitems hL hB hdup

/-- **Why a call is refused with "Cannot add columns".** On a reachable list `pvAdd` throws the
runtime error exactly when the column count fits and the fill fails for every code parameter from
the current one up to 255; it succeeds or fails with the allocation error exactly when the count
fits and some parameter in that range works. -/
theorem C18_cannot_iff (c : Cfg) (hL : Extracted.colLogVertexMin ≤ c.L) (ops : List (List Item × Fault))
    (items : List Item) (fault : Fault) (hok : WellTyped (ops ++ [(items, fault)])) (hs : Small c (ops ++ [(items, fault)])) :
    ((add c (run c ops) items fault).2 = .cannot ↔
      items.length + (run c ops).columns.length ≤ c.maxColumns ∧
      ∀ param, (run c ops).codeParam ≤ param → param ≤ Extracted.colMaxCodeParam →
        (fillAddends c (run c ops) items param).1 = .bad) ∧
    (((add c (run c ops) items fault).2 = .ok ∨ (add c (run c ops) items fault).2 = .badAlloc) →
      ∃ param a, (run c ops).codeParam ≤ param ∧ param ≤ Extracted.colMaxCodeParam ∧
        (fillAddends c (run c ops) items param).1 = .ok a) := by
  obtain ⟨hinv, hitems, hB⟩ := run_next c hL ops items fault hok hs
  have clash : ∀ {p a}, FoundAt c (run c ops) items p a → (fillAddends c (run c ops) items p).1 ≠ .bad :=
    fun hf h => by rw [hf.2.2] at h; cases h
  cases add_spec c (run c ops) items fault hinv hitems hL hB with
  | ok p a eq _ _ _ found =>
    rw [eq]; exact ⟨⟨nofun, fun h => absurd (h.2 p found.1 found.2.1) (clash found)⟩, fun _ => ⟨p, a, found⟩⟩
  | tooMany eq many =>
    rw [eq]; exact ⟨⟨nofun, fun h => absurd many (Nat.not_lt.mpr h.1)⟩, fun h => by rcases h with h | h <;> cases h⟩
  | cannot eq fits bad =>
    rw [eq]; exact ⟨⟨fun _ => ⟨fits, bad⟩, fun _ => rfl⟩, fun h => by rcases h with h | h <;> cases h⟩
  | badAlloc _ eq _ _ _ p a found =>
    rw [eq]; exact ⟨⟨nofun, fun h => absurd (h.2 p found.1 found.2.1) (clash found)⟩, fun _ => ⟨p, a, found⟩⟩

/-- **The graph fits its storage.** In every attempt that `pvAdd` makes (on any list state, once the
column count check has passed) the graph uses exactly two `Edge` records per old and new column, at
most `maxEdgeCount = 2 * maxColumnCount`: `Graph::mEdgeStorage` never overflows (and
`MOMO_ASSERT(mEdgeNumber < vertexCount * 2)` holds). -/
theorem C18_edge_storage_fits (c : Cfg) (hL : Extracted.colLogVertexMin ≤ c.L) (st : State)
    (items : List Item) (param : Nat) (hp : param ≤ Extracted.colMaxCodeParam)
    (hfit : items.length + st.columns.length ≤ c.maxColumns) :
    edgeCount (buildGraph c st items param).1 = 2 * (st.columns.length + items.length) ∧
    edgeCount (buildGraph c st items param).1 ≤ Extracted.colMaxEdgeMul * c.maxColumns := by
  have h : edgeCount (buildGraph c st items param).1 = 2 * (st.columns.length + items.length) := by
    rw [buildGraph_eq]
    simp only
    rw [oldEdges_count c param hL hp _ _ (by simp), edgeCount_replicate, List.length_append, place_length]
    omega
  refine ⟨h, ?_⟩
  rw [h]
  simp only [Extracted.colMaxEdgeMul]
  omega

/-- the codes of the columns of a reachable list are pairwise different, the code set is exactly
their set, and the column count never exceeds `maxColumnCount` (so the `2 * maxColumnCount` edge
records of `Graph` suffice for the two edges per column) -/
theorem C18_codes_distinct (c : Cfg) (hL : Extracted.colLogVertexMin ≤ c.L) (ops : List (List Item × Fault))
    (hok : WellTyped ops) (hs : Small c ops) :
    ((run c ops).columns.map (·.code)).Nodup ∧ (run c ops).codeSet = (run c ops).columns.map (·.code) ∧
    (run c ops).columns.length ≤ c.maxColumns :=
  ⟨(run_inv c hL ops hok hs).codes_nodup, (run_inv c hL ops hok hs).codes, (run_inv c hL ops hok hs).count_le⟩

/-- **Alignment of the row.** `GetAlignment()` is `1` or the alignment of one of the columns, is at
least every column's alignment, and — alignments being powers of two — is a multiple of each: a row
placed at an address aligned to `GetAlignment()` has every item aligned for its type. -/
theorem C18_alignment (c : Cfg) (hL : Extracted.colLogVertexMin ≤ c.L) (ops : List (List Item × Fault))
    (hok : WellTyped ops) (hs : Small c ops)
    (hpow : ∀ r ∈ (run c ops).columns, ∃ k, r.align = 2 ^ k) :
    ((run c ops).alignment = 1 ∨ ∃ r ∈ (run c ops).columns, (run c ops).alignment = r.align) ∧
    ∀ r ∈ (run c ops).columns, r.align ≤ (run c ops).alignment ∧ r.align ∣ (run c ops).alignment :=
  have hi := run_inv c hL ops hok hs
  ⟨hi.alignment_cases, fun _ hr => ⟨hi.align_le hr, hi.align_dvd hpow hr⟩⟩

/-- **create_destroy_once.** On a reachable list, for `CreateRaw` and for `ImportRaw` from the same
or from any other column list:
 (a) without a failure every column's item is constructed exactly once, in column order — copied
     when the source has it, default-created otherwise — and the call returns normally;
 (b) if the `i`-th construction throws, exactly the `i` items constructed before it are destroyed
     again (each once) and the exception propagates;
 (c) `DestroyRaw` destroys every column's item exactly once;
 (d) replayed on the set of live slots of the row, no slot is ever constructed while alive or
     destroyed while dead; a completed creation leaves every slot alive, creation followed by
     destruction and a failed creation leave none;
 (e) the item slots are pairwise different offsets. -/
theorem C18_create_destroy_once (c : Cfg) (hL : Extracted.colLogVertexMin ≤ c.L) (ops : List (List Item × Fault))
    (hok : WellTyped ops) (hs : Small c ops) (src : Src) :
    createRaw (run c ops) src none = ((run c ops).columns.map (ctorEv (srcOf src)), true) ∧
    (∀ i, i < (run c ops).columns.length → ∃ ds : List Nat,
        createRaw (run c ops) src (some i) =
          (((run c ops).columns.take i).map (ctorEv (srcOf src)) ++ ds.map Ev.destroy, false) ∧
        ds.Perm (((run c ops).columns.take i).map (·.offset))) ∧
    destroyRaw (run c ops) = (run c ops).columns.map (fun r => Ev.destroy r.offset) ∧
    (replay (createRaw (run c ops) src none).1 [] = some ((run c ops).columns.map (·.offset)).reverse ∧
     replay ((createRaw (run c ops) src none).1 ++ destroyRaw (run c ops)) [] = some [] ∧
     ∀ i, i < (run c ops).columns.length → replay (createRaw (run c ops) src (some i)).1 [] = some []) ∧
    ((run c ops).columns.map (·.offset)).Nodup := by
  have hi := run_inv c hL ops hok hs
  exact ⟨createRaw_none hi src, fun i h => createRaw_fault hi src i h, destroyRaw_eq hi,
    ⟨replay_create hi src, replay_create_destroy hi src, fun i h => (replay_fault hi src i h).2⟩,
    hi.offsets_nodup⟩

/-- **Copying between different column lists.** When a row is imported from another reachable
column list (any configuration, any history), a column is copied exactly when the source list
contains its code, and then from the offset the source list assigned to that code; otherwise it is
default-created. -/
theorem C18_import_source (c' : Cfg) (hL : Extracted.colLogVertexMin ≤ c'.L) (ops' : List (List Item × Fault))
    (hok : WellTyped ops') (hs : Small c' ops') (r : ColRec) :
    (∀ r' ∈ (run c' ops').columns, r'.code = r.code → srcOf (.other c' (run c' ops')) r = some r'.offset) ∧
    (r.code ∉ (run c' ops').columns.map (·.code) → srcOf (.other c' (run c' ops')) r = none) :=
  import_source (run_inv c' hL ops' hok hs) r

/-! ## Non-vacuity: concrete histories meeting the hypotheses -/

/-- `logVertexCount = 4` (16 vertices, at most 8 columns), with the row-number slot -/
def exCfg : Cfg := { L := 4, rowNumber := true }

/-- three calls: a 1-byte column, then (int-like mutable, double-like) in one call, then a call that
fails while the codes are inserted -/
def exOps : List (List Item × Fault) :=
  [([⟨17, 1, 1, false⟩], .none), ([⟨300, 4, 4, true⟩, ⟨77, 8, 8, false⟩], .none), ([⟨900, 2, 2, false⟩], .insert)]

example : Extracted.colLogVertexMin ≤ exCfg.L := by decide
example : WellTyped exOps := by unfold WellTyped OpsOK ItemsOK; decide
example : Small exCfg exOps := by unfold Small; decide

theorem run_exOps : run exCfg exOps =
    { codeParam := 0
      addends := #[H, H + 8, H, 0, H + 4, 0, 0, 0, 0, 0, 0, 0, 0, H + 12, 0, 0]
      totalSize := 24
      alignment := 8
      codeSet := [17, 300, 77]
      columns := [⟨17, 8, 1, 1⟩, ⟨300, 12, 4, 4⟩, ⟨77, 16, 8, 8⟩]
      funcRecs := [⟨0, 1⟩, ⟨1, 2⟩]
      mutCount := 4
      mutBits := [12] } := by decide +kernel

example : (run exCfg exOps).columns = [⟨17, 8, 1, 1⟩, ⟨300, 12, 4, 4⟩, ⟨77, 16, 8, 8⟩] := by rw [run_exOps]
example : (run exCfg exOps).totalSize = 24 ∧ (run exCfg exOps).alignment = 8 ∧ (run exCfg exOps).mutCount = 4 := by
  rw [run_exOps]; exact ⟨rfl, rfl, rfl⟩
example : contains exCfg (run exCfg exOps) 300 = some 12 ∧ contains exCfg (run exCfg exOps) 900 = none := by
  rw [run_exOps]; decide +kernel
-- the same code again: refused
example : (add exCfg (run exCfg exOps) [⟨17, 2, 2, false⟩] .none).2 = .cannot := by
  have hok : WellTyped (exOps ++ [([⟨17, 2, 2, false⟩], .none)]) := by unfold WellTyped OpsOK ItemsOK; decide
  have hs : Small exCfg (exOps ++ [([⟨17, 2, 2, false⟩], .none)]) := by unfold Small; decide
  rcases C18_duplicate_refused exCfg (by decide) exOps _ .none hok hs (by rw [run_exOps]; decide) with h | h
  · exact absurd ((C18_add_refused_unchanged exCfg (by decide) exOps _ .none hok hs).2.1.mp (by rw [h]))
      (by rw [run_exOps]; decide)
  · rw [h]
-- one column too many for `maxColumnCount = 8`
example : (add exCfg (run exCfg exOps) [⟨1, 1, 1, false⟩, ⟨2, 1, 1, false⟩, ⟨3, 1, 1, false⟩, ⟨4, 1, 1, false⟩,
    ⟨5, 1, 1, false⟩, ⟨6, 1, 1, false⟩] .none).2 = .tooMany := by rw [run_exOps]; decide +kernel
-- a failed row creation: the third construction throws, the first two items are destroyed again
example : createRaw (run exCfg exOps) .fresh (some 2) = ([.create 8, .create 12, .destroy 12, .destroy 8], false) := by
  rw [run_exOps]; decide +kernel

/-- an odd cycle that the fill accepts: for `L = 4` the codes 33, 49, 50 have the vertex pairs (1,2),
(1,3), (2,3); with offsets 4, 8, 12 the triangle is consistent (`4 + 8 = 12`, and twice the root
addend `2^63` vanishes modulo `2^64`), so the fourth column is added without advancing the code
parameter — the theorems above cover this case (they never assume the graph is acyclic) -/
def cycOps : List (List Item × Fault) :=
  [([⟨101, 4, 4, false⟩], .none), ([⟨33, 4, 4, false⟩], .none), ([⟨49, 4, 4, false⟩], .none), ([⟨50, 4, 4, false⟩], .none)]

example : (getVertices { L := 4 } 33 0, getVertices { L := 4 } 49 0, getVertices { L := 4 } 50 0) = ((1, 2), (1, 3), (2, 3)) := by
  decide +kernel
example : (run { L := 4 } cycOps).codeParam = 0 ∧ (run { L := 4 } cycOps).columns.map (·.offset) = [0, 4, 8, 12] ∧
    (run { L := 4 } cycOps).addends.getD 1 0 = 2 ^ 63 ∧ (run { L := 4 } cycOps).addends.getD 2 0 = 2 ^ 63 + 4 ∧
    (run { L := 4 } cycOps).addends.getD 3 0 = 2 ^ 63 + 8 := by
  decide +kernel
-- the same triangle with offsets 0, 4, 12 is inconsistent: the code parameter advances (parameters 1-3 still
-- give a triangle or a double edge, parameter 4 gives a path)
example : (run { L := 4 } [([⟨33, 4, 4, false⟩], .none), ([⟨49, 4, 4, false⟩], .none), ([⟨101, 4, 4, false⟩], .none),
    ([⟨50, 4, 4, false⟩], .none)]).codeParam = 4 := by
  decide +kernel

/-! ### The code itself, not only the hand-written model

`Momo.Tr.*` are Lean definitions regenerated on every check by tools/translate.py from the *function bodies* in the
current headers (area Misc: tools/trspecs/Misc.py → `Momo/Translated/Misc.lean`; C++ integer semantics explicit: every
`size_t` `+ - * <<` reduced mod 2^64). Equivalences with the model: `Proof/TrEqMisc2Col.lean`. -/

/-- **GetVertices for the code as translated from DataColumn.h.** For `logVertexCount = L` with `4 ≤ L < 64` (the header
asserts `L < 16`), any code width, any 64-bit column code and every code parameter the retry loop can reach, the
translated `GetVertices` is the model's and returns two distinct vertices below `2^L`. -/
theorem C18_vertices_translated (c : Cfg) (hL : Extracted.colLogVertexMin ≤ c.L) (hL64 : c.L < 64) (code param : Nat)
    (hcode : code < 2 ^ 64) (hp : param ≤ Extracted.colMaxCodeParam) :
    Tr.col_GetVertices c.L c.codeBytes code param = getVertices c code param ∧
    (Tr.col_GetVertices c.L c.codeBytes code param).1 ≠ (Tr.col_GetVertices c.L c.codeBytes code param).2 ∧
    (Tr.col_GetVertices c.L c.codeBytes code param).1 < 2 ^ c.L ∧ (Tr.col_GetVertices c.L c.codeBytes code param).2 < 2 ^ c.L := by
  rw [TrEq.tr_getVertices c code param hL64 hcode]
  exact ⟨rfl, C18_vertices c hL code param hp⟩

/-- **`UIntMath<>::Ceil` as translated from Utility.h** (`value + mod` a `size_t`, `mod > 0`): the model's `ceil`, i.e. the
least multiple of the alignment that is not below the offset — "an offset that is aligned for its type". -/
theorem C18_ceil_translated (off al : Nat) (hal : 0 < al) (hw : off + al < 2 ^ 64) :
    Tr.um_Ceil off al = ceil off al ∧ Tr.um_Ceil off al % al = 0 ∧ off ≤ Tr.um_Ceil off al ∧ Tr.um_Ceil off al < off + al := by
  rw [TrEq.tr_um_ceil off al hal hw]
  exact ⟨rfl, ceil_mod off al, le_ceil off al hal, ceil_lt off al hal⟩

/-- **The layout step of `pvAddEdges` with the translated code.** One column of an `Add` call (model `newEdges`): the
edge joins the translated `GetVertices` of its code with the value `offset = Ceil(offset, alignment)` as translated, and the
running `offset` / `maxAlignment` advance by the translated `offset += size; maxAlignment = minmax(…).second` — as long as the
row stays below 2^64 bytes. -/
theorem C18_layout_step_translated (c : Cfg) (param : Nat) (it : Item) (its : List Item) (g : Adj) (off al : Nat)
    (hL : c.L < 64) (hcode : it.code < 2 ^ 64) (hal : 0 < it.align) (hw : off + it.align + it.size < 2 ^ 64) :
    newEdges c param (it :: its) g off al =
      newEdges c param its
        (addEdges g (Tr.col_GetVertices c.L c.codeBytes it.code param).1 (Tr.col_GetVertices c.L c.codeBytes it.code param).2
          (Tr.col_addEdges_align it.align off))
        (Tr.col_addEdges_advance it.size it.align (Tr.col_addEdges_align it.align off) al).1
        (Tr.col_addEdges_advance it.size it.align (Tr.col_addEdges_align it.align off) al).2 :=
  TrEq.newEdges_translated c param it its g off al hL hcode hal hw

/-- **Looking a column up with the translated code**: `pvGetOffset` = translated sum (64-bit wrap) of the two addends at the
translated vertices. Also the constants of the fill: root addend `1 << 63`, `maxColumnCount`, mutable-bit bytes. -/
theorem C18_lookup_translated (c : Cfg) (param : Nat) (a : Array Nat) (code : Nat) (hL1 : 1 ≤ c.L) (hL : c.L < 64) (hcode : code < 2 ^ 64) :
    getOffsetWith c param a code =
      Tr.col_pvGetOffset_sum (a.getD (Tr.col_GetVertices c.L c.codeBytes code param).1 0)
        (a.getD (Tr.col_GetVertices c.L c.codeBytes code param).2 0) ∧
    Tr.col_rootAddend = H ∧ Tr.col_maxColumnCount c.L = c.maxColumns ∧
    ∀ off, off + 7 < 2 ^ 64 → Tr.col_mutBytes off = mutBytes off :=
  ⟨TrEq.getOffsetWith_translated c param a code hL hcode, TrEq.tr_rootAddend, TrEq.tr_maxColumnCount c hL1 (by omega),
    fun off h => TrEq.tr_mutBytes off h⟩

example : (Tr.col_GetVertices 4 8 33 0, Tr.col_GetVertices 4 8 49 0, Tr.col_GetVertices 4 8 50 0) = ((1, 2), (1, 3), (2, 3)) := by decide
example : Tr.um_Ceil 13 8 = 16 ∧ Tr.col_addEdges_advance 4 8 16 2 = (20, 8) ∧ Tr.col_mutBytes 20 = 3 := by decide

/-! #### functions translated as a whole (tools/trspecs/Wave2.py → `Momo/Translated/Wave2.lean`; equivalences: `Proof/TrEqWave2Col.lean`) -/

/-- **`pvGetOffset` as a whole, from the header text**: the two reads `mAddends[vertices.first]`, `mAddends[vertices.second]` and
their wrapping `size_t` sum, translated as one function from DataColumn.h and fed with the translated `GetVertices`, is the
lookup `getOffsetWith` the layout theorems are about. -/
theorem C18_getOffset_translated (c : Cfg) (param : Nat) (a : Array Nat) (code : Nat) (hL : c.L < 64) (hcode : code < 2 ^ 64) :
    Tr.col_pvGetOffset (fun i => a.getD i 0) (Tr.col_GetVertices c.L c.codeBytes code param).1
        (Tr.col_GetVertices c.L c.codeBytes code param).2 = getOffsetWith c param a code :=
  TrEq.tr_col_pvGetOffset c param a code hL hcode

example : Tr.col_pvGetOffset (fun i => if i = 1 then 2 ^ 63 else 2 ^ 63 + 24) 1 2 = 24 := by decide

end Momo.Col
