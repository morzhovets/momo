import Momo.Model.PoolWorld
import Momo.Proof.PoolHist
import Momo.Proof.PoolSingleMerge
/-!
  `MemPool` objects with their memory managers (C09): `Swap`, move construction, move assignment as operations of a world
  of pool objects. Every call to a manager is tagged with the manager called; the invariant keeps, for every manager, an
  exact ledger of the memory held by the objects that hold this manager NOW - so a block stays freeable, through the
  right manager, by whichever object took over its buffer.
-/
namespace Momo.Pool

/-- what `WInv.step` needs of an operation to keep the memory outstanding with one manager pairwise disjoint; every operation
    that only returns memory has it (`Frees.noMalloc`) -/
def NoMalloc (evs : List Ev) : Prop := ∀ e ∈ evs, ∃ a s, e = Ev.free a s

theorem NoMalloc.nil : NoMalloc [] := fun _ h => by simp at h

theorem NoMalloc.append {e1 e2 : List Ev} (h1 : NoMalloc e1) (h2 : NoMalloc e2) : NoMalloc (e1 ++ e2) := by
  intro e he
  rcases List.mem_append.mp he with h | h
  · exact h1 e h
  · exact h2 e h

theorem NoMalloc.single (a s : Int) : NoMalloc [Ev.free a s] := by
  intro e he; simp only [List.mem_singleton] at he; exact ⟨a, s, he⟩

def Outcome.All {α : Type} (Q : List Ev → Prop) : Outcome α → Prop
  | .ok _ _ e => Q e
  | .badAlloc _ e => Q e
  | .stuck _ => True

theorem Outcome.All.mono {α : Type} {Q R : List Ev → Prop} {o : Outcome α} (h : o.All Q) (hqr : ∀ e, Q e → R e) : o.All R := by
  cases o <;> first | exact hqr _ h | trivial

theorem Frees.noMalloc {L M : List (Int × Int)} {evs : List Ev} (h : Frees L evs M) : NoMalloc evs := by
  obtain ⟨F, rfl, _⟩ := h
  intro e he
  obtain ⟨r, _, rfl⟩ := List.mem_map.mp he
  exact ⟨r.1, r.2, rfl⟩

/-- `Disj` for two allocations given as (address, size) pairs, the form in which `PoolObj.mem` and the ledger hold them -/
def DisjP (r s : Int × Int) : Prop := Disj r.1 r.2 s.1 s.2

theorem DisjP.symm {r s : Int × Int} (h : DisjP r s) : DisjP s r := Disj.symm h

/-- the memory a pool object holds, as (address, size) of the allocations -/
def PoolObj.mem (o : PoolObj) : List (Int × Int) :=
  if 2 ≤ o.P.N then owned o.P o.pool.store else owned1 o.P o.pool.singles

/-- the size of every request of a pool object to its manager -/
def PoolObj.size (o : PoolObj) : Int := if 2 ≤ o.P.N then o.P.bufferSize else o.P.singleSize

/-- the theorems about either kind of pool (PoolAny) speak of `Pool.held` -/
theorem PoolObj.mem_eq_held (o : PoolObj) : o.mem = o.pool.held o.P := rfl

theorem PoolObj.mem_eq_owned {o : PoolObj} (h2 : 2 ≤ o.P.N) : o.mem = owned o.P o.pool.store := held_multi h2 o.pool

theorem PoolObj.mem_eq_owned1 {o : PoolObj} (h1 : o.P.N = 1) : o.mem = owned1 o.P o.pool.singles := held_single h1 o.pool

theorem PoolObj.mem_of_buffer {o : PoolObj} (h2 : 2 ≤ o.P.N) {b : Buffer} (hb : b ∈ o.pool.store) :
    (b.base, o.P.bufferSize) ∈ o.mem :=
  PoolObj.mem_eq_owned h2 ▸ List.mem_map_of_mem (f := fun b => (b.base, o.P.bufferSize)) hb

theorem PoolObj.mem_of_single {o : PoolObj} (h1 : o.P.N = 1) {e : Int × Int} (he : e ∈ o.pool.singles) :
    (e.1 - e.2, o.P.singleSize) ∈ o.mem :=
  PoolObj.mem_eq_owned1 h1 ▸ List.mem_map_of_mem (f := fun e => (e.1 - e.2, o.P.singleSize)) he

theorem PoolObj.size_multi {o : PoolObj} (h2 : 2 ≤ o.P.N) : o.size = o.P.bufferSize := if_pos h2

theorem PoolObj.size_single {o : PoolObj} (h1 : o.P.N = 1) : o.size = o.P.singleSize := if_neg (by omega)

theorem PoolObj.mem_empty (P : Params) (m : Option Nat) : (PoolObj.mk P m Pool.empty).mem = [] := by
  unfold PoolObj.mem; split <;> rfl

/-- invariant of one pool object; a moved-from object (its manager is gone) is empty -/
structure ObjWF (o : PoolObj) : Prop where
  legal : o.P.Legal
  multi : 2 ≤ o.P.N → PoolWF o.P o.pool
  single : o.P.N = 1 → SingleWF o.P o.pool
  movedFrom : o.mgr = none → o.pool = Pool.empty

theorem ObjWF.movedFrom_wf (P : Params) (hL : P.Legal) : ObjWF ⟨P, none, Pool.empty⟩ :=
  ⟨hL, fun _ => PoolWF.empty P, fun _ => SingleWF.empty P, fun _ => rfl⟩

theorem ObjWF.N_cases {o : PoolObj} (h : ObjWF o) : 2 ≤ o.P.N ∨ o.P.N = 1 := by
  have := h.legal.1; omega

theorem ObjWF.withPool {o : PoolObj} (h : ObjWF o) {m : Nat} (hm : o.mgr = some m) (p' : Pool)
    (h2 : 2 ≤ o.P.N → PoolWF o.P p') (h1 : o.P.N = 1 → SingleWF o.P p') : ObjWF { o with pool := p' } :=
  ⟨h.legal, h2, h1, fun e => by rw [hm] at e; cases e⟩

theorem ObjWF.count_exact {o : PoolObj} (h : ObjWF o) : o.pool.allocCount = (o.pool.live o.P).length := by
  rcases h.N_cases with h2 | h1
  · obtain ⟨hM, _⟩ := Legal.multi h.legal h2
    exact (h.multi h2).count_exact hM h2
  · exact (h.single h1).count_exact h1

theorem destroy_empty (P : Params) : destroy P Pool.empty = .ok () Pool.empty [] := by
  unfold destroy
  rw [if_neg (by simp [Pool.empty])]
  split
  · unfold deallocateAll
    rw [if_neg (by omega)]; rfl
  · split
    · rfl
    · rfl

theorem ObjWF.destroy_ok {o : PoolObj} (h : ObjWF o) (h0 : o.pool.allocCount = 0) :
    ∃ p' evs, destroy o.P o.pool = .ok () p' evs ∧ Frees o.mem evs [] := by
  rcases h.N_cases with h2 | h1
  · obtain ⟨hM, hA2⟩ := Legal.multi h.legal h2
    obtain ⟨evs, he, hf⟩ := Momo.Pool.destroy_ok hM h2 hA2 (h.multi h2) h0
    exact ⟨_, evs, he, PoolObj.mem_eq_owned h2 ▸ hf⟩
  · obtain ⟨p', evs, he, _, _, hf⟩ := destroy_single_ok h1 (h.single h1) h0
    exact ⟨_, evs, he, PoolObj.mem_eq_owned1 h1 ▸ hf⟩

theorem ObjWF.destroy_movedFrom {o : PoolObj} (h : ObjWF o) (hm : o.mgr = none) {p' : Pool} {evs : List Ev}
    (he : destroy o.P o.pool = .ok () p' evs) : evs = [] := by
  rw [h.movedFrom hm, destroy_empty] at he
  cases he; rfl

theorem ObjWF.mgr_of_live {o : PoolObj} (h : ObjWF o) {blk : Int} (hb : blk ∈ o.pool.live o.P) : ∃ m, o.mgr = some m := by
  rcases Option.eq_none_or_eq_some o.mgr with hm | hm
  · rw [h.movedFrom hm, live_empty] at hb; cases hb
  · exact hm

theorem ObjWF.any {o : PoolObj} (h : ObjWF o) : AnyWF o.P o.pool :=
  h.N_cases.elim (fun h2 => (h.multi h2).any h2) (fun h1 => (h.single h1).any h1)

theorem ObjWF.deallocate_ok {o : PoolObj} (h : ObjWF o) {m : Nat} (hm : o.mgr = some m) {blk : Int}
    (hb : blk ∈ o.pool.live o.P) :
    ∃ p' evs, deallocate o.P o.pool blk = .ok () p' evs ∧ ObjWF { o with pool := p' } ∧
      (o.pool.live o.P).Perm (blk :: p'.live o.P) ∧ p'.allocCount + 1 = o.pool.allocCount ∧ NoMalloc evs ∧
      Settles o.mem evs ({ o with pool := p' } : PoolObj).mem := by
  obtain ⟨p', evs, he, hwf, hlive, hcnt, hf⟩ := deallocate_any (Legal.kind h.legal) h.any blk hb
  exact ⟨p', evs, he, h.withPool hm p' (fun h2 => hwf.poolWF h2) (fun h1 => hwf.singleWF h1), hlive, hcnt, hf.noMalloc,
    by rw [PoolObj.mem_eq_held, PoolObj.mem_eq_held]; exact hf.settles⟩

/-- **`Swap` exchanges everything**: params, memory manager, count, buffer list and cache -/
theorem swapObjs_eq (a b : PoolObj) : swapObjs a b = (b, a) := rfl

/-- **move construction**: the new object is what the source was - with the source's memory manager; the source is left
    empty, holding a moved-from manager -/
theorem moveCtor_eq (a : PoolObj) : moveCtor a = (a, ⟨a.P, none, Pool.empty⟩) := rfl

theorem moveAssign_eq (d s : PoolObj) :
    moveAssign d s = match destroy d.P d.pool with
      | .ok _ _ evs => .ok s ⟨s.P, none, Pool.empty⟩ d.mgr evs
      | .badAlloc _ _ => .stuck "~MemPool: the memory manager threw"
      | .stuck w => .stuck w := rfl

/-- the memory held by the objects of the world that hold manager `m` now -/
def memOf (m : Nat) (w : List PoolObj) : List (Int × Int) :=
  w.flatMap fun o => if o.mgr = some m then o.mem else []

/-- the calls made to manager `m`, out of the tagged history -/
def evsOf (m : Nat) (es : List WEv) : List Ev := (es.filter fun e => e.1 == some m).map (·.2)

/-- the invariant of a world: every object is well formed; for every manager `m` the calls made to it so far (`evsOf m es`) leave,
    as its ledger, exactly the memory of the objects that hold `m` NOW (`memOf m w`, up to order), and those allocations are pairwise
    disjoint; no call was made through a moved-from manager (`called`). Advanced by `WInv.step`. -/
structure WInv (w : List PoolObj) (es : List WEv) : Prop where
  objs : ∀ o ∈ w, ObjWF o
  ledgers : ∀ m, ∃ L, ledger [] (evsOf m es) = some L ∧ L.Perm (memOf m w) ∧ L.Pairwise DisjP
  called : ∀ e ∈ es, e.1 ≠ none

theorem memOf_append (m : Nat) (a b : List PoolObj) : memOf m (a ++ b) = memOf m a ++ memOf m b := by
  unfold memOf; rw [List.flatMap_append]

theorem memOf_all (m : Nat) (os : List PoolObj) (h : ∀ o ∈ os, o.mgr = some m) : memOf m os = os.flatMap PoolObj.mem :=
  List.flatMap_congr fun o ho => if_pos (h o ho)

theorem memOf_none (m : Nat) (os : List PoolObj) (h : ∀ o ∈ os, o.mgr ≠ some m) : memOf m os = [] :=
  List.flatMap_eq_nil_iff.mpr fun o ho => if_neg (h o ho)

theorem memOf_cons_empty (m : Nat) {o : PoolObj} (w : List PoolObj) (he : o.mem = []) : memOf m (o :: w) = memOf m w := by
  show (if o.mgr = some m then o.mem else []) ++ memOf m w = memOf m w
  rw [he, ite_self]; rfl

theorem PoolObj.mem_sub_memOf {m : Nat} {o : PoolObj} {w : List PoolObj} (hm : o.mgr = some m) :
    ∀ r ∈ o.mem, r ∈ memOf m (o :: w) := by
  intro r hr
  show r ∈ memOf m ([o] ++ w)
  rw [memOf_append, memOf_all m [o] (by simp [hm])]
  simp [hr]

theorem evsOf_append (m : Nat) (a b : List WEv) : evsOf m (a ++ b) = evsOf m a ++ evsOf m b := by
  unfold evsOf; rw [List.filter_append, List.map_append]

theorem evsOf_tag_same (m : Nat) (evs : List Ev) : evsOf m (tagEvs (some m) evs) = evs := by
  unfold evsOf tagEvs
  induction evs with
  | nil => rfl
  | cons e es ih => simp only [List.map_cons, List.filter_cons]; simp [ih]

theorem evsOf_tag_other (m : Nat) (t : Option Nat) (evs : List Ev) (h : t ≠ some m) : evsOf m (tagEvs t evs) = [] := by
  unfold evsOf tagEvs
  induction evs with
  | nil => rfl
  | cons e es ih => simp only [List.map_cons, List.filter_cons]; simp [h, ih]

theorem ledger_pairwise_nomalloc {R : Int × Int → Int × Int → Prop} : ∀ (evs : List Ev) (L M : List (Int × Int)),
    NoMalloc evs → L.Pairwise R → ledger L evs = some M → M.Pairwise R := by
  intro evs
  induction evs with
  | nil => intro L M _ hp h; simp only [ledger] at h; cases h; exact hp
  | cons e es ih =>
    intro L M hn hp h
    obtain ⟨a, s, rfl⟩ := hn e (by simp)
    simp only [ledger] at h
    split at h
    · exact ih _ M (fun x hx => hn x (by simp [hx])) (hp.erase _) h
    · cases h

theorem WInv.step {os w : List PoolObj} {es : List WEv} (h : WInv (os ++ w) es) (m : Nat) (os' : List PoolObj)
    (evs : List Ev) (hm : ∀ o ∈ os, o.mgr = some m) (hm' : ∀ o ∈ os', o.mgr = some m) (hwf' : ∀ o ∈ os', ObjWF o)
    (hl : Settles (os.flatMap PoolObj.mem) evs (os'.flatMap PoolObj.mem))
    (hev : NoMalloc evs ∨ ∃ base sz, evs = [Ev.malloc base sz] ∧ ∀ r ∈ memOf m (os ++ w), Disj base sz r.1 r.2) :
    WInv (os' ++ w) (es ++ tagEvs (some m) evs) := by
  refine ⟨?_, ?_, ?_⟩
  · intro o ho
    rcases List.mem_append.mp ho with h1 | h1
    · exact hwf' o h1
    · exact h.objs o (List.mem_append_right _ h1)
  · intro m'
    obtain ⟨L, hL, hperm, hpw⟩ := h.ledgers m'
    by_cases hmm : m' = m
    · subst hmm
      rw [evsOf_append, evsOf_tag_same, ledger_append, hL]
      simp only [Option.bind]
      obtain ⟨L', hl1, hl2⟩ := hl
      have hframe := ledger_frame (memOf m' w) evs _ _ hl1
      rw [memOf_append, memOf_all m' os hm] at hperm
      obtain ⟨M, hM, hMp⟩ := ledger_perm evs hperm.symm _ hframe
      refine ⟨M, hM, ?_, ?_⟩
      · rw [memOf_append, memOf_all m' os' hm']
        exact hMp.symm.trans (List.Perm.append_right _ hl2)
      · rcases hev with hn | ⟨base, sz, rfl, hd⟩
        · exact ledger_pairwise_nomalloc evs L M hn hpw hM
        · simp only [ledger] at hM; cases hM
          refine List.pairwise_cons.mpr ⟨?_, hpw⟩
          intro r hr
          have := hd r (by rw [memOf_append, memOf_all m' os hm]; exact hperm.subset hr)
          exact this
    · have hne : (some m : Option Nat) ≠ some m' := fun e => hmm (Option.some.inj e).symm
      rw [evsOf_append, evsOf_tag_other m' (some m) evs hne, List.append_nil]
      refine ⟨L, hL, ?_, hpw⟩
      rw [memOf_append, memOf_none m' os' (fun o ho => by rw [hm' o ho]; exact hne)]
      rw [memOf_append, memOf_none m' os (fun o ho => by rw [hm o ho]; exact hne)] at hperm
      exact hperm
  · intro e he
    rcases List.mem_append.mp he with h1 | h1
    · exact h.called e h1
    · unfold tagEvs at h1
      obtain ⟨x, _, rfl⟩ := List.mem_map.mp h1
      simp

theorem WInv.step1 {o : PoolObj} {w : List PoolObj} {es : List WEv} (h : WInv (o :: w) es) (m : Nat) (p' : Pool)
    (evs : List Ev) (hm : o.mgr = some m) (hwf' : ObjWF { o with pool := p' })
    (hl : Settles o.mem evs ({ o with pool := p' } : PoolObj).mem)
    (hev : NoMalloc evs ∨ ∃ base sz, evs = [Ev.malloc base sz] ∧ ∀ r ∈ memOf m (o :: w), Disj base sz r.1 r.2) :
    WInv ({ o with pool := p' } :: w) (es ++ tagEvs (some m) evs) := by
  have := WInv.step (os := [o]) (w := w) h m [{ o with pool := p' }] evs (by simp [hm]) (by simp [hm])
    (by simpa using hwf') (by simpa using hl) hev
  exact this

/-- when every object is gone, every manager has got back everything it handed out -/
theorem WInv.ledger_nil {es : List WEv} (h : WInv [] es) (m : Nat) : ledger [] (evsOf m es) = some [] := by
  obtain ⟨L, h1, h2, _⟩ := h.ledgers m
  rw [h1, List.perm_nil.mp h2]

theorem WInv.perm {w w' : List PoolObj} {es : List WEv} (h : WInv w es) (hp : w.Perm w') : WInv w' es := by
  refine ⟨fun o ho => h.objs o (hp.symm.subset ho), ?_, h.called⟩
  intro m
  obtain ⟨L, h1, h2, h3⟩ := h.ledgers m
  exact ⟨L, h1, h2.trans (List.Perm.flatMap_right _ hp), h3⟩

theorem WInv.addEmpty {w : List PoolObj} {es : List WEv} (h : WInv w es) (o : PoolObj) (hwf : ObjWF o) (he : o.mem = []) :
    WInv (o :: w) es :=
  ⟨fun x hx => (List.mem_cons.mp hx).elim (fun e => e ▸ hwf) (h.objs x),
    fun m => (memOf_cons_empty m w he).symm ▸ h.ledgers m, h.called⟩

theorem WInv.dropEmpty {w : List PoolObj} {es : List WEv} {o : PoolObj} (h : WInv (o :: w) es) (he : o.mem = []) :
    WInv w es :=
  ⟨fun x hx => h.objs x (List.mem_cons_of_mem _ hx),
    fun m => memOf_cons_empty m w he ▸ h.ledgers m, h.called⟩

theorem WInv.two_disjoint {a b : PoolObj} {w : List PoolObj} {es : List WEv} (h : WInv (a :: b :: w) es) (m : Nat)
    (ha : a.mgr = some m) (hb : b.mgr = some m) : ∀ r ∈ a.mem, ∀ s ∈ b.mem, DisjP r s := by
  obtain ⟨L, _, hp, hpw⟩ := h.ledgers m
  have hpw' := hpw.perm hp (fun h => DisjP.symm h)
  have e : memOf m (a :: b :: w) = memOf m ([a] ++ ([b] ++ w)) := rfl
  rw [e, memOf_append, memOf_append, memOf_all m [a] (by simp [ha]), memOf_all m [b] (by simp [hb])] at hpw'
  simp only [List.flatMap_cons, List.flatMap_nil, List.append_nil] at hpw'
  intro r hr s hs
  exact (List.pairwise_append.mp hpw').2.2 r hr s (List.mem_append_left _ hs)

theorem WInv.merge2 {a b : PoolObj} {w : List PoolObj} {es : List WEv} (h : WInv (a :: b :: w) es) {m : Nat}
    (hma : a.mgr = some m) (hmb : b.mgr = some m) (a' : Pool) (evs : List Ev) (hwa' : ObjWF { a with pool := a' })
    (hn : NoMalloc evs) (hl : Settles (a.mem ++ b.mem) evs ({ a with pool := a' } : PoolObj).mem) :
    WInv ({ a with pool := a' } :: { b with pool := Pool.empty } :: w) (es ++ tagEvs (some m) evs) := by
  have hwb := h.objs b (List.mem_cons_of_mem _ List.mem_cons_self)
  refine WInv.step (os := [a, b]) h m [{ a with pool := a' }, { b with pool := Pool.empty }] evs
    (by simp [hma, hmb]) (by simp [hma, hmb]) (fun o ho => ?_) ?_ (Or.inl hn)
  · simp only [List.mem_cons, List.mem_nil_iff, or_false] at ho
    rcases ho with rfl | rfl
    · exact hwa'
    · exact hwb.withPool hmb _ (fun _ => PoolWF.empty _) (fun _ => SingleWF.empty _)
  · simp only [List.flatMap_cons, List.flatMap_nil, List.append_nil]
    rw [show ({ b with pool := Pool.empty } : PoolObj).mem = [] from PoolObj.mem_empty _ _, List.append_nil]
    exact hl

theorem WInv.destroyStep {o : PoolObj} {w : List PoolObj} {es : List WEv} (h : WInv (o :: w) es) {p' : Pool}
    {evs : List Ev} (he : destroy o.P o.pool = .ok () p' evs) : WInv w (es ++ tagEvs o.mgr evs) := by
  have hwo := h.objs o List.mem_cons_self
  cases hm : o.mgr with
  | none =>
    have : evs = [] := hwo.destroy_movedFrom hm he
    subst this
    have hme : o.mem = [] := by rw [show o = ⟨o.P, o.mgr, o.pool⟩ from rfl, hwo.movedFrom hm]; exact PoolObj.mem_empty _ _
    simpa [tagEvs] using h.dropEmpty hme
  | some m =>
    have h0 : o.pool.allocCount = 0 := by
      unfold destroy at he
      by_cases hz : o.pool.allocCount = 0
      · exact hz
      · rw [if_pos hz] at he; cases he
    obtain ⟨p2, e2, h2', hf⟩ := hwo.destroy_ok h0
    rw [he] at h2'; cases h2'
    have := WInv.step (os := [o]) (w := w) h m [] evs (by simp [hm]) (by simp) (by simp)
      (by simpa using hf.settles) (Or.inl hf.noMalloc)
    simpa using this

/-- contract of manager `m` towards object `o` in world `w`: an answer is aligned as the pool assumes and overlaps no
    memory that is outstanding with this manager (whoever holds it) -/
def WContract (m : Nat) (w : List PoolObj) (o : PoolObj) (orc : Oracle) : Prop :=
  ∀ j base, orc j = some base → o.P.allocAlign ∣ base ∧ ∀ r ∈ memOf m w, Disj base o.size r.1 r.2

/-- legal histories of a world of pool objects (the objects have no order: `perm`). Objects are created with a manager,
    allocate / free / bulk-free / merge through the manager they hold NOW, are swapped, move-constructed, move-assigned
    and destroyed. `Deallocate` is applied to blocks live in that object; `MergeFrom` to objects with equal parameters and
    equal managers (the source's checks); managers honour `WContract`. Every call is recorded with the manager called. -/
inductive WReach : List PoolObj → List WEv → Prop
  | init : WReach [] []
  | perm {w w' es} : WReach w es → w.Perm w' → WReach w' es
  | new {w es} (P : Params) (m : Nat) : WReach w es → P.Legal → WReach (⟨P, some m, Pool.empty⟩ :: w) es
  | alloc {o w es m orc blk p' evs} : WReach (o :: w) es → o.mgr = some m → WContract m (o :: w) o orc →
      allocate o.P o.pool orc = .ok blk p' evs → WReach ({ o with pool := p' } :: w) (es ++ tagEvs (some m) evs)
  | allocFail {o w es m orc p' evs} : WReach (o :: w) es → o.mgr = some m → WContract m (o :: w) o orc →
      allocate o.P o.pool orc = .badAlloc p' evs → WReach ({ o with pool := p' } :: w) (es ++ tagEvs (some m) evs)
  | dealloc {o w es m blk p' evs} : WReach (o :: w) es → o.mgr = some m → blk ∈ o.pool.live o.P →
      deallocate o.P o.pool blk = .ok () p' evs → WReach ({ o with pool := p' } :: w) (es ++ tagEvs (some m) evs)
  | deallocIf {o w es m f tr p' evs} : WReach (o :: w) es → o.mgr = some m → 2 ≤ o.P.N →
      deallocateIf o.P o.pool f = .ok tr p' evs → WReach ({ o with pool := p' } :: w) (es ++ tagEvs (some m) evs)
  | deallocAll {o w es m p' evs} : WReach (o :: w) es → o.mgr = some m → 2 ≤ o.P.N →
      deallocateAll o.P o.pool = .ok () p' evs → WReach ({ o with pool := p' } :: w) (es ++ tagEvs (some m) evs)
  | merge {a b w es m b' a' evs} : WReach (a :: b :: w) es → a.mgr = some m → b.mgr = some m → b.P = a.P →
      mergeFrom a.P a.pool b.pool = .ok b' a' evs →
      WReach ({ a with pool := a' } :: { b with pool := b' } :: w) (es ++ tagEvs (some m) evs)
  | swap {a b w es} : WReach (a :: b :: w) es → WReach ((swapObjs a b).1 :: (swapObjs a b).2 :: w) es
  | moveCtor {a w es} : WReach (a :: w) es → WReach ((moveCtor a).1 :: (moveCtor a).2 :: w) es
  | moveAssign {d s w es d' s' mg evs} : WReach (d :: s :: w) es → moveAssign d s = .ok d' s' mg evs →
      WReach (d' :: s' :: w) (es ++ tagEvs mg evs)
  | destroy {o w es p' evs} : WReach (o :: w) es → destroy o.P o.pool = .ok () p' evs →
      WReach w (es ++ tagEvs o.mgr evs)

theorem WContract.multi {m : Nat} {o : PoolObj} {w : List PoolObj} {orc : Oracle} (hc : WContract m (o :: w) o orc)
    (hm : o.mgr = some m) (h2 : 2 ≤ o.P.N) : Contract o.P o.pool orc := by
  intro j base hj
  obtain ⟨h1, hd⟩ := hc j base hj
  refine ⟨h1, fun b hb => ?_⟩
  have := hd _ (PoolObj.mem_sub_memOf hm _ (PoolObj.mem_of_buffer h2 hb))
  rw [PoolObj.size_multi h2] at this
  unfold Disj at this; simpa using this

theorem WContract.single {m : Nat} {o : PoolObj} {w : List PoolObj} {orc : Oracle} (hc : WContract m (o :: w) o orc)
    (hm : o.mgr = some m) (h1 : o.P.N = 1) : Contract1 o.P o.pool orc := by
  intro j base hj
  obtain ⟨ha, hd⟩ := hc j base hj
  refine ⟨ha, fun e he => ?_⟩
  have := hd _ (PoolObj.mem_sub_memOf hm _ (PoolObj.mem_of_single h1 he))
  rw [PoolObj.size_single h1] at this
  unfold Disj at this; simpa using this

theorem WReach.inv {w : List PoolObj} {es : List WEv} (h : WReach w es) : WInv w es := by
  induction h with
  | init => exact ⟨fun _ h => by simp at h, fun m => ⟨[], rfl, by simp [memOf], List.Pairwise.nil⟩, fun _ h => by simp at h⟩
  | perm _ hp ih => exact ih.perm hp
  | new P m _ hL ih =>
    exact ih.addEmpty _ ⟨hL, fun _ => PoolWF.empty P, fun _ => SingleWF.empty P, fun e => by cases e⟩ (PoolObj.mem_empty P _)
  | @alloc o w es m orc blk p' evs _ hm hc he ih =>
    have hwf := ih.objs o (by simp)
    rcases hwf.N_cases with h2 | h1
    · obtain ⟨hM, hA2⟩ := Legal.multi hwf.legal h2
      have horc := orcOK_of_disjoint hM hA2 (hwf.multi h2).core orc (hc.multi hm h2)
      have hs := allocate_ok hM h2 (hwf.multi h2) horc
      rw [he] at hs
      refine ih.step1 m p' evs hm (hwf.withPool hm p' (fun _ => hs.1.wf) (fun e => by omega)) ?_ ?_
      · rw [PoolObj.mem_eq_owned h2, PoolObj.mem_eq_owned (o := { o with pool := p' }) h2]; exact hs.1.ledger
      · rcases hs.2 with rfl | ⟨base, hj, rfl⟩
        · exact Or.inl NoMalloc.nil
        · exact Or.inr ⟨base, _, rfl, PoolObj.size_multi h2 ▸ (hc 0 base hj).2⟩
    · have hs := allocate_single_ok hwf.legal h1 (hwf.single h1) (hc.single hm h1)
      rw [he] at hs
      refine ih.step1 m p' evs hm (hwf.withPool hm p' (fun e => by omega) (fun _ => hs.1.wf)) ?_ ?_
      · rw [PoolObj.mem_eq_owned1 h1, PoolObj.mem_eq_owned1 (o := { o with pool := p' }) h1]; exact hs.1.ledger
      · rcases hs.2 with rfl | ⟨base, hj, rfl⟩
        · exact Or.inl NoMalloc.nil
        · exact Or.inr ⟨base, _, rfl, PoolObj.size_single h1 ▸ (hc 0 base hj).2⟩
  | @allocFail o w es m orc p' evs _ hm hc he ih =>
    have hwf := ih.objs o (by simp)
    have hsame : p' = o.pool ∧ evs = [] := by
      rcases hwf.N_cases with h2 | h1
      · obtain ⟨hM, hA2⟩ := Legal.multi hwf.legal h2
        have hs := allocate_ok hM h2 (hwf.multi h2) (orcOK_of_disjoint hM hA2 (hwf.multi h2).core orc (hc.multi hm h2))
        rw [he] at hs; exact ⟨hs.1, hs.2.1⟩
      · have hs := allocate_single_ok hwf.legal h1 (hwf.single h1) (hc.single hm h1)
        rw [he] at hs; exact ⟨hs.1, hs.2.1⟩
    obtain ⟨rfl, rfl⟩ := hsame
    simpa [tagEvs] using ih
  | @dealloc o w es m blk p' evs _ hm hb he ih =>
    obtain ⟨p2, e2, h2', hwf', _, _, hn, hl⟩ := (ih.objs o List.mem_cons_self).deallocate_ok hm hb
    rw [he] at h2'; cases h2'
    exact ih.step1 m p' evs hm hwf' hl (Or.inl hn)
  | @deallocIf o w es m f tr p' evs _ hm h2 he ih =>
    have hwf := ih.objs o (by simp)
    obtain ⟨hM, hA2⟩ := Legal.multi hwf.legal h2
    obtain ⟨tr2, p2, e2, h2', hwf2, _, _, hl⟩ := deallocateIf_ok hM h2 hA2 (hwf.multi h2) f
    rw [he] at h2'; cases h2'
    refine ih.step1 m p' evs hm (hwf.withPool hm p' (fun _ => hwf2) (fun e => by omega)) ?_ (Or.inl hl.noMalloc)
    rw [PoolObj.mem_eq_owned h2, PoolObj.mem_eq_owned (o := { o with pool := p' }) h2]; exact hl.settles
  | @deallocAll o w es m p' evs _ hm h2 he ih =>
    have hwf := ih.objs o (by simp)
    obtain ⟨hM, hA2⟩ := Legal.multi hwf.legal h2
    obtain ⟨p2, e2, h2', hemp, hl⟩ := deallocateAll_ok hM h2 hA2 (hwf.multi h2)
    rw [he] at h2'; cases h2'
    refine ih.step1 m p' evs hm (hwf.withPool hm p' (fun _ => by rw [hemp]; exact PoolWF.empty _) (fun e => by omega)) ?_
      (Or.inl hl.noMalloc)
    rw [PoolObj.mem_eq_owned h2, PoolObj.mem_eq_owned (o := { o with pool := p' }) h2, hemp]; exact hl.settles
  | @merge a b w es m b' a' evs _ hma hmb hP he ih =>
    obtain ⟨bP, bm, bp⟩ := b
    simp only at hP hmb; subst hP
    have hwa := ih.objs a (by simp)
    have hwb := ih.objs ⟨a.P, bm, bp⟩ (by simp)
    have hdisj := ih.two_disjoint m hma hmb
    rcases hwa.N_cases with h2 | h1
    · obtain ⟨hM, hA2⟩ := Legal.multi hwa.legal h2
      -- the two pools hold different memory of the manager, so different buffers
      have hdis : ∀ x ∈ bufs a.pool.store, x ∉ bufs bp.store := by
        intro x hxa hxb
        obtain ⟨ba, hba, rfl⟩ := List.mem_map.mp hxa
        obtain ⟨bb, hbb, hbe⟩ := List.mem_map.mp hxb
        refine BufWF.buf_ne hM hA2 ((hwa.multi h2).core.bufwf ba hba) ((hwb.multi h2).core.bufwf bb hbb) ?_ hbe.symm
        exact hdisj _ (PoolObj.mem_of_buffer h2 hba) _ (PoolObj.mem_of_buffer (o := ⟨a.P, bm, bp⟩) h2 hbb)
      obtain ⟨a2, e2, h2', hwf2, _, _, hl⟩ := mergeFrom_ok hM h2 hA2 (hwa.multi h2) (hwb.multi h2) hdis
      rw [he] at h2'; cases h2'
      refine ih.merge2 hma hmb a' evs (hwa.withPool hma _ (fun _ => hwf2) (fun e => by omega)) hl.noMalloc ?_
      rw [PoolObj.mem_eq_owned h2, PoolObj.mem_eq_owned (o := ⟨a.P, bm, bp⟩) h2, PoolObj.mem_eq_owned (o := { a with pool := a' }) h2]
      unfold owned; rw [← List.map_append]; exact hl.settles
    · have hdis : ∀ x ∈ a.pool.singles.map (·.1), x ∉ bp.singles.map (·.1) := by
        intro x hxa hxb
        obtain ⟨ea, hea, rfl⟩ := List.mem_map.mp hxa
        obtain ⟨eb, heb, hbe⟩ := List.mem_map.mp hxb
        have i1 := (hwa.single h1).block_inside hwa.legal ea hea
        have i2 := (hwb.single h1).block_inside hwa.legal eb heb
        have := hdisj _ (PoolObj.mem_of_single h1 hea) _ (PoolObj.mem_of_single (o := ⟨a.P, bm, bp⟩) h1 heb)
        unfold DisjP Disj at this
        simp only at this hbe
        omega
      obtain ⟨a2, e2, h2', hwf2, _, _, _, hl, _⟩ := mergeFrom_single_ok h1 (hwa.single h1) (hwb.single h1) hdis
      rw [he] at h2'; cases h2'
      refine ih.merge2 hma hmb a' evs (hwa.withPool hma _ (fun e => by omega) (fun _ => hwf2)) hl.noMalloc ?_
      rw [PoolObj.mem_eq_owned1 h1, PoolObj.mem_eq_owned1 (o := ⟨a.P, bm, bp⟩) h1, PoolObj.mem_eq_owned1 (o := { a with pool := a' }) h1]
      unfold owned1; rw [← List.map_append]; exact hl.settles
  | @swap a b w es _ ih =>
    rw [swapObjs_eq]
    exact ih.perm (List.Perm.swap b a w)
  | @moveCtor a w es _ ih =>
    rw [moveCtor_eq]
    have hwf := ih.objs a (by simp)
    have := ih.addEmpty ⟨a.P, none, Pool.empty⟩ (ObjWF.movedFrom_wf a.P hwf.legal) (PoolObj.mem_empty _ _)
    exact this.perm (List.Perm.swap _ _ _)
  | @moveAssign d s w es d' s' mg evs _ he ih =>
    rw [moveAssign_eq] at he
    have hws := ih.objs s (by simp)
    cases hd : Momo.Pool.destroy d.P d.pool with
    | stuck _ => rw [hd] at he; cases he
    | badAlloc _ _ => rw [hd] at he; cases he
    | ok u p1 e1 =>
      rw [hd] at he; cases he
      -- order of the proof, not of the code (which swaps with a temporary and lets it die): the old contents of `*this` are
      -- destroyed through the manager it held …
      have hstep : WInv (s :: w) (es ++ tagEvs d.mgr evs) := ih.destroyStep hd
      -- … then `*this` takes over the source, which is left moved-from
      have := hstep.addEmpty ⟨s.P, none, Pool.empty⟩ (ObjWF.movedFrom_wf s.P hws.legal) (PoolObj.mem_empty _ _)
      exact this.perm (List.Perm.swap _ _ _)
  | @destroy o w es p' evs _ he ih => exact ih.destroyStep he

end Momo.Pool
