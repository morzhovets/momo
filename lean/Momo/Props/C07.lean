import Momo.Proof.TableProject
import Momo.Proof.TableHist
import Momo.Proof.TableIdxEx
/-!
# C07 — DataTable queries equal a brute-force scan; unique indexes are never violated

The property theorems, the two statements that are false (`C07_updateCol_correct`, `C07_history_full`, as `def … : Prop`) and
the witnesses (`C07ex.*`, `F9w.*`; `F9one.*` is in `Proof/TableIdxEx.lean`), over `Momo/Model/Table.lean`. The second half of the
file (namespace `Momo.TIdx`) holds the property theorems about the bucket-level model of one unique index,
`Momo/Model/TableIdx.lean`: finding F9 step by step.

Statement (properties.jsonl): a DataTable behaves as an ordered list of rows under any history of add, insert,
update (whole row or one column), remove (by number, reference, range, predicate), extract, assign, clear and copy,
with every unique index enforced: an operation that would make two rows equal on a unique index's columns is
refused, reports the conflicting row, and leaves the table unchanged, as does any row-level operation interrupted
by an allocation failure. Every query - Select/SelectCount with any combination of column equalities and filter,
FindByUniqueHash, FindByMultiHash (including values that match no row), … - returns exactly what a brute-force
scan of the current rows returns, regardless of which unique/multi indexes exist or when they were created. Row
numbers, when kept, equal list positions.

Universally quantified parameters of every theorem: `vis` (the order in which an index hash table visits its
entries on a lookup; only the C01/C13 contract `Complete vis` is assumed), `acc` (`DataTraits::AccumulateHashCode`,
any function; for queries by key tuple it must not depend on the column order, `AccComm`), the row addresses, the
fault position `f`, `keep` (`keepRowNumber`), `maxEq` (`selectEqualityMaxCount`).

`Inv acc keep t` = distinct raws at distinct addresses, row numbers = positions (when kept), every index consistent with the
rows (`UInv`, `MInv` in `Proof/TableIdx.lean`). `scan t eqs filt` = the brute-force scan (ids of the rows, in table order, that
satisfy the equalities and the filter).
-/
namespace Momo.Table
open List

/-- *"Every query - Select/SelectCount with any combination of column equalities and filter … returns exactly what
a brute-force scan of the current rows returns"*: `Select` returns exactly the rows of the scan (as a multiset: the
order through a multi index is the storage order of the group, which the property does not specify) and
`SelectCount` its size - for every number of equalities (more than `selectEqualityMaxCount` included), every filter. -/
theorem C07_select_eq_scan {vis : Vis} (hc : Complete vis) (acc : Acc) (hacc : AccComm acc) (keep : Bool) (maxEq : Nat)
    (t : Table) (hinv : Inv acc keep t) (eqs : List (Nat × Nat)) (filt : Row → Bool) (hnd : (eqs.map (·.1)).Nodup) :
    (select vis acc maxEq t eqs filt).Perm (scan t eqs filt) ∧
    selectCount vis acc maxEq t eqs filt = (scan t eqs filt).length :=
  ⟨select_perm_scan hc acc hacc keep maxEq t hinv eqs filt hnd,
   selectCount_eq_scan hc acc hacc keep maxEq t hinv eqs filt hnd⟩

/-- *"regardless of which unique/multi indexes exist"*: whichever admissible index `pvSelect` could pick (any unique
or multi index all of whose columns are among the equalities, or none), the selection is the scan; through the full
scan or a unique index even in table order. -/
theorem C07_select_any_index {vis : Vis} (hc : Complete vis) (acc : Acc) (hacc : AccComm acc) (keep : Bool)
    (t : Table) (hinv : Inv acc keep t) (eqs : List (Nat × Nat)) (hnd : (eqs.map (·.1)).Nodup) (filt : Row → Bool)
    (path : Path) (hv : ValidPath t (eqs.map (·.1)) path) :
    (selectVia vis acc t eqs filt path).Perm (scan t eqs filt) ∧
    ((∀ i, path ≠ .multi i) → selectVia vis acc t eqs filt path = scan t eqs filt) :=
  selectVia_perm_scan hc acc hacc keep t hinv eqs hnd filt path hv

/-- the index `pvSelect` picks is always admissible -/
theorem C07_choosePath_valid (t : Table) (eqs : List (Nat × Nat)) : ValidPath t (eqs.map (·.1)) (choosePath t eqs) :=
  choosePath_valid t eqs

/-- *"FindByUniqueHash … (including values that match no row)"*: the answer (for the index named or the one found by
its columns) is the scan: the one row with these values, or nothing. -/
theorem C07_findByUnique_eq_scan {vis : Vis} (hc : Complete vis) (acc : Acc) (hacc : AccComm acc) (keep : Bool)
    (t : Table) (hinv : Inv acc keep t) (idx : Option Nat) (eqs : List (Nat × Nat)) (hnd : (eqs.map (·.1)).Nodup)
    (hidx : ∀ i, idx = some i → ∃ u, t.uidx[i]? = some u ∧ sameCols u.cols (eqs.map (·.1)) = true)
    (L : List Nat) (h : findByUnique vis acc t idx eqs = some L) :
    L = scan t eqs (fun _ => true) ∧ L.length ≤ 1 :=
  ⟨findByUnique_eq_scan hc acc hacc keep t hinv idx eqs hidx L h, findByUnique_length_le vis acc t idx eqs L h⟩

/-- *"FindByMultiHash (including values that match no row)"*: exactly the rows of the scan (an absent value is the
case of finding F8, repaired in momo). -/
theorem C07_findByMulti_eq_scan {vis : Vis} (hc : Complete vis) (acc : Acc) (hacc : AccComm acc) (keep : Bool)
    (t : Table) (hinv : Inv acc keep t) (idx : Option Nat) (eqs : List (Nat × Nat)) (hnd : (eqs.map (·.1)).Nodup)
    (hidx : ∀ i, idx = some i → ∃ m, t.midx[i]? = some m ∧ sameCols m.cols (eqs.map (·.1)) = true)
    (L : List Nat) (h : findByMulti vis acc t idx eqs = some L) : L.Perm (scan t eqs (fun _ => true)) :=
  findByMulti_perm_scan hc acc hacc keep t hinv idx eqs hidx L h

/-- *"Project"*: the projection of the rows that pass the filter, in table order. -/
theorem C07_project (vis : Vis) (acc : Acc) (t : Table) (cols : List Nat) (filt : Row → Bool) :
    project vis acc t cols false filt = (t.rows.filter filt).map (fun r => cols.map (item r.vals)) :=
  project_all vis acc t cols filt

/-- *"ProjectDistinct"*: the first occurrence of every projected tuple, in table order (`dedupFirst` = brute force) -
the temporary unique index over all result columns refuses exactly the tuples already present. -/
theorem C07_projectDistinct {vis : Vis} (hc : Complete vis) (acc : Acc) (t : Table) (cols : List Nat) (filt : Row → Bool) :
    project vis acc t cols true filt = dedupFirst [] ((t.rows.filter filt).map (fun r => cols.map (item r.vals))) :=
  project_distinct hc acc t cols filt

/-- *"an operation that would make two rows equal on a unique index's columns is refused, reports the conflicting
row, and leaves the table unchanged, as does any row-level operation (add …) interrupted by an allocation failure"*,
for `TryAdd` of a new raw (fresh identity, address not in use), every fault position `f`:
the invariant is kept; the answer is `ok` only if no row agrees with the new one on the columns of any unique index,
and then the row is appended with its position as number; `dup x j`: unique index `j` is the first with a conflicting
row, `x` is such a row, the table is unchanged; `bad_alloc` only under a fault, table unchanged. (`TEquiv`, "unchanged":
the multi indexes up to the order inside a group - `pvAdd` may have sorted a segment before the failure.) -/
theorem C07_add {vis : Vis} (hc : Complete vis) (acc : Acc) (keep : Bool) (t : Table) (hinv : Inv acc keep t) (r : Row)
    (hr : r.id ∉ ids t.rows) (hra : r.addr ∉ t.rows.map (·.addr)) (f : Fault) :
    Inv acc keep (tryAdd vis acc keep t r f).1 ∧
    match (tryAdd vis acc keep t r f).2 with
    | .ok => (tryAdd vis acc keep t r f).1.rows = t.rows ++ [setNum keep r t.rows.length] ∧
             (∀ u ∈ t.uidx, ∀ x ∈ t.rows, keyEq u.cols r.vals x.vals = false)
    | .dup x j => TEquiv t (tryAdd vis acc keep t r f).1 ∧
             ∃ u row, t.uidx[j]? = some u ∧ row ∈ t.rows ∧ row.id = x ∧ keyEq u.cols r.vals row.vals = true ∧
               ∀ i' u', i' < j → t.uidx[i']? = some u' → ∀ y ∈ t.rows, keyEq u'.cols r.vals y.vals = false
    | .badAlloc => TEquiv t (tryAdd vis acc keep t r f).1 ∧ f ≠ .none
    | .outOfRange => False :=
  tryAdd_spec hc acc keep t hinv r hr hra f

/-- without a fault `TryAdd` never answers `bad_alloc`: it is accepted exactly when the brute-force check finds no
row with the same key in a unique index -/
theorem C07_add_ok_iff {vis : Vis} (hc : Complete vis) (acc : Acc) (keep : Bool) (t : Table) (hinv : Inv acc keep t)
    (r : Row) (hr : r.id ∉ ids t.rows) (hra : r.addr ∉ t.rows.map (·.addr)) :
    (tryAdd vis acc keep t r .none).2 = .ok ↔ ∀ u ∈ t.uidx, ∀ x ∈ t.rows, keyEq u.cols r.vals x.vals = false :=
  tryAdd_ok_iff hc acc keep t hinv r hr hra

/-- *"clear"*: no rows, the invariant holds -/
theorem C07_clear (acc : Acc) (keep : Bool) (t : Table) (hinv : Inv acc keep t) :
    Inv acc keep (clear t) ∧ (clear t).rows = [] :=
  clear_spec acc keep t hinv

/-- *"insert"*: `TryInsert(n, row)` is `TryAdd` with the accepted row standing at position `n` (rows from there on
renumbered); refused / failed: table unchanged, conflicting row reported; `n` beyond the end: `out_of_range`, table
untouched. -/
theorem C07_insert {vis : Vis} (hc : Complete vis) (acc : Acc) (keep : Bool) (t : Table) (hinv : Inv acc keep t) (n : Nat)
    (r : Row) (hr : r.id ∉ ids t.rows) (hra : r.addr ∉ t.rows.map (·.addr)) (f : Fault) :
    Inv acc keep (tryInsert vis acc keep t n r f).1 ∧
    match (tryInsert vis acc keep t n r f).2 with
    | .ok => n ≤ t.rows.length ∧
             (tryInsert vis acc keep t n r f).1.rows =
               setNumbers keep n (t.rows.take n ++ setNum keep r t.rows.length :: t.rows.drop n) ∧
             (∀ u ∈ t.uidx, ∀ x ∈ t.rows, keyEq u.cols r.vals x.vals = false)
    | .dup x j => TEquiv t (tryInsert vis acc keep t n r f).1 ∧
             ∃ u row, t.uidx[j]? = some u ∧ row ∈ t.rows ∧ row.id = x ∧ keyEq u.cols r.vals row.vals = true ∧
               ∀ i' u', i' < j → t.uidx[i']? = some u' → ∀ y ∈ t.rows, keyEq u'.cols r.vals y.vals = false
    | .badAlloc => TEquiv t (tryInsert vis acc keep t n r f).1 ∧ f ≠ .none
    | .outOfRange => t.rows.length < n ∧ (tryInsert vis acc keep t n r f).1 = t :=
  tryInsert_spec hc acc keep t hinv n r hr hra f

/-- *"remove (by number …), extract"*: `pvExtractRaw(n, keepOrder)` (`ExtractRow`, `Remove(number)`): the row at
position `n` leaves the table and every index (invariant kept); with `keepOrder` the later rows move up and are
renumbered, without it the last row takes its place and its number. Out of range: nothing happens. The lookups of
`RemoveRaw` do not allocate, so there is no failure case. -/
theorem C07_extract {vis : Vis} (hc : Complete vis) (acc : Acc) (keep : Bool) (t : Table) (hinv : Inv acc keep t) (n : Nat)
    (keepOrder : Bool) :
    Inv acc keep (extract vis acc keep t n keepOrder).1 ∧
    match t.rows[n]? with
    | none => extract vis acc keep t n keepOrder = (t, none)
    | some r => (extract vis acc keep t n keepOrder).2 = some r ∧
        (extract vis acc keep t n keepOrder).1.rows =
          if keepOrder then setNumbers keep n (t.rows.eraseIdx n)
          else if n < t.rows.length - 1 then (t.rows.set n (setNum keep (t.rows.getLastD r) n)).dropLast
          else t.rows.dropLast :=
  extract_spec hc acc keep t hinv n keepOrder

/-- *"remove (by … reference)"*: the row with this identity (found through its stored number, or by searching when
numbers are not kept) leaves the table, order kept; an identity that is not in the table: nothing happens. -/
theorem C07_extractRef {vis : Vis} (hc : Complete vis) (acc : Acc) (keep : Bool) (t : Table) (hinv : Inv acc keep t)
    (id : Nat) :
    Inv acc keep (extractRef vis acc keep t id).1 ∧
    ((id ∉ ids t.rows ∧ extractRef vis acc keep t id = (t, none)) ∨
     (∃ n r, t.rows[n]? = some r ∧ r.id = id ∧ (extractRef vis acc keep t id).2 = some r ∧
        (extractRef vis acc keep t id).1.rows = setNumbers keep n (t.rows.eraseIdx n))) :=
  extractRef_spec hc acc keep t hinv id

/-- *"remove (by … range …)"*: the rows named leave, the others keep their order and are renumbered. -/
theorem C07_removeRows (acc : Acc) (keep : Bool) (t : Table) (hinv : Inv acc keep t) (rm : List Nat) :
    Inv acc keep (removeRows keep t rm) ∧
    (removeRows keep t rm).rows = setNumbers keep 0 (t.rows.filter (fun r => !rm.contains r.id)) :=
  removeRows_spec acc keep t hinv rm

/-- *"remove (by … predicate)"* -/
theorem C07_removePred (acc : Acc) (keep : Bool) (t : Table) (hinv : Inv acc keep t) (p : Row → Bool) :
    Inv acc keep (removePred keep t p) ∧
    (removePred keep t p).rows = setNumbers keep 0 (t.rows.filter (fun r => !p r)) :=
  removePred_spec acc keep t hinv p

/-- *"assign"*: the rows named, in the order of their first mention, renumbered; all others leave. -/
theorem C07_assign (acc : Acc) (keep : Bool) (t : Table) (hinv : Inv acc keep t) (named : List Nat) :
    Inv acc keep (assign keep t named) ∧
    (assign keep t named).rows = setNumbers keep 0 ((firstOccs [] named).filterMap (rowOf t.rows)) :=
  assign_spec acc keep t hinv named

/-- *"copy"*: the copy (optionally filtered) holds the imported rows in order, renumbered, with the same index
definitions, and satisfies the invariant. Hypothesis on the imported rows: distinct identities and addresses, pairwise
different on the columns of every unique index - which rows taken from a table are (`C07_rows_distinct`). -/
theorem C07_copy {vis : Vis} (hc : Complete vis) (acc : Acc) (keep : Bool) (t : Table) (hinv : Inv acc keep t)
    (newRows : List Row) (hnd : (ids newRows).Nodup) (hai : AddrInj newRows)
    (hpw : ∀ u ∈ t.uidx, newRows.Pairwise (fun a b => keyEq u.cols a.vals b.vals = false)) :
    Inv acc keep (copyOf vis acc keep t newRows) ∧ (copyOf vis acc keep t newRows).rows = setNumbers keep 0 newRows ∧
    (copyOf vis acc keep t newRows).uidx.map (·.cols) = t.uidx.map (·.cols) ∧
    (copyOf vis acc keep t newRows).midx.map (·.cols) = t.midx.map (·.cols) :=
  copyOf_spec hc acc keep t hinv newRows hnd hai hpw

/-- *"unique indexes are never violated"*: in a table that satisfies the invariant no two rows agree on the columns of a
unique index. -/
theorem C07_rows_distinct {acc : Acc} {keep : Bool} {t : Table} (hinv : Inv acc keep t) {u : UIdx} (hu : u ∈ t.uidx) :
    t.rows.Pairwise (fun a b => keyEq u.cols a.vals b.vals = false) :=
  rows_pairwise_distinct hinv hu

/-- *"regardless of … when they were created"*: a unique index created on a table with data satisfies the invariant
(so every query theorem applies to it); if two rows agree on its columns the table is unchanged and a row that agrees
with an earlier one is reported (`UniqueIndexViolation`). -/
theorem C07_createUnique {vis : Vis} (hc : Complete vis) (acc : Acc) (keep : Bool) (t : Table) (hinv : Inv acc keep t)
    (cols : List Nat) (hcn : cols.Nodup) :
    Inv acc keep (createUnique vis acc t cols).1 ∧ (createUnique vis acc t cols).1.rows = t.rows ∧
    match (createUnique vis acc t cols).2 with
    | .ok i => ∃ u, (createUnique vis acc t cols).1.uidx[i]? = some u ∧ sameCols u.cols cols = true
    | .error raw => (createUnique vis acc t cols).1 = t ∧
        ∃ r x, r ∈ t.rows ∧ x ∈ t.rows ∧ r.id = raw ∧ x.id ≠ r.id ∧ keyEq cols r.vals x.vals = true :=
  createUnique_spec hc acc keep t hinv cols hcn

/-- … and a multi index created on a table with data. -/
theorem C07_createMulti {vis : Vis} (hc : Complete vis) (acc : Acc) (keep : Bool) (t : Table) (hinv : Inv acc keep t)
    (cols : List Nat) (hcn : cols.Nodup) :
    Inv acc keep (createMulti vis acc t cols).1 ∧ (createMulti vis acc t cols).1.rows = t.rows ∧
    ∃ m, (createMulti vis acc t cols).1.midx[(createMulti vis acc t cols).2]? = some m ∧ sameCols m.cols cols = true :=
  createMulti_spec hc acc keep t hinv cols hcn

/-- *"Row numbers, when kept, equal list positions"* (part of the invariant every operation keeps). -/
theorem C07_numbers_eq_positions {acc : Acc} {t : Table} (hinv : Inv acc true t) (i : Nat) (r : Row)
    (h : t.rows[i]? = some r) : r.num = i :=
  hinv.nums rfl i r h

/-- *"update (whole row …)"*, `TryUpdate(rowNumber, row)` with a new raw (fresh identity, address not in use), every
fault position: the invariant is kept; `ok` only if no *other* row agrees with the new row on the columns of a unique
index, and then the new row stands at position `n` with number `n`; `dup x j`: table unchanged, `x` is another row
that agrees with the new one on the columns of unique index `j`, the first such index; `bad_alloc` only under a fault,
table unchanged; no row `n`: `out_of_range`, nothing happens. -/
theorem C07_update {vis : Vis} (hc : Complete vis) (acc : Acc) (keep : Bool) (t : Table) (hinv : Inv acc keep t) (n : Nat)
    (r : Row) (hr : r.id ∉ ids t.rows) (hra : r.addr ∉ t.rows.map (·.addr)) (f : Fault) :
    Inv acc keep (tryUpdate vis acc keep t n r f).1 ∧
    match t.rows[n]? with
    | none => tryUpdate vis acc keep t n r f = (t, .outOfRange)
    | some old =>
      match (tryUpdate vis acc keep t n r f).2 with
      | .ok => (tryUpdate vis acc keep t n r f).1.rows = t.rows.set n (setNum keep r n) ∧
               (∀ u ∈ t.uidx, ∀ y ∈ t.rows, y.id ≠ old.id → keyEq u.cols r.vals y.vals = false)
      | .dup x j => TEquiv t (tryUpdate vis acc keep t n r f).1 ∧
               ∃ u row, t.uidx[j]? = some u ∧ row ∈ t.rows ∧ row.id = x ∧ x ≠ old.id ∧ keyEq u.cols r.vals row.vals = true ∧
                 ∀ i' u', i' < j → t.uidx[i']? = some u' → ∀ y ∈ t.rows, y.id ≠ old.id → keyEq u'.cols r.vals y.vals = false
      | .badAlloc => TEquiv t (tryUpdate vis acc keep t n r f).1 ∧ f ≠ .none
      | .outOfRange => False :=
  tryUpdate_spec hc acc keep t hinv n r hr hra f

/-- the full statement for the single-column update (`col` a column of the table): the invariant is kept for every
hash-table behaviour allowed by the contract. It is **false** for the code as it is (finding F9): see
`C07_updateCol_F9_witness`. -/
def C07_updateCol_correct : Prop :=
  ∀ (vis : Vis), Complete vis → ∀ (acc : Acc) (keep : Bool) (t : Table), Inv acc keep t →
    ∀ (n col v : Nat) (f : Fault), (∀ r, t.rows[n]? = some r → col < r.vals.length) →
      Inv acc keep (tryUpdateCol vis acc t n col v f).1

/-- *"update (… one column)"* **under the hypothesis the proof forces** (`NoF9`: in every index over the column in which
the update has to add an entry, the lookup of the raw's old key that follows - `PrepareRemove(raw)` - does not return
the entry just added; the entry has the same `Raw*`, whose items still read as the old key): the invariant is kept;
`ok`: the row shows the new item (nothing else changes) and no row had the new key in a unique index over the column;
`dup x j`: table unchanged, `x` is another row with the new key in unique index `j`; `bad_alloc` only under a fault,
table unchanged. -/
theorem C07_updateCol_partial {vis : Vis} (hc : Complete vis) (acc : Acc) (keep : Bool) (t : Table) (hinv : Inv acc keep t)
    (n col v : Nat) (f : Fault) (hcol : ∀ r, t.rows[n]? = some r → col < r.vals.length)
    (hF : ∀ r, t.rows[n]? = some r → NoF9 vis acc t r.id col v) :
    Inv acc keep (tryUpdateCol vis acc t n col v f).1 ∧
    match t.rows[n]? with
    | none => tryUpdateCol vis acc t n col v f = (t, .outOfRange)
    | some r =>
      match (tryUpdateCol vis acc t n col v f).2 with
      | .ok => (tryUpdateCol vis acc t n col v f).1.rows = setVals t.rows n (mixVals r.vals col v) ∧
               (item r.vals col ≠ v → ∀ u ∈ t.uidx, col ∈ u.cols → ∀ y ∈ t.rows,
                  keyEq u.cols (mixVals r.vals col v) y.vals = false)
      | .dup x j => TEquiv t (tryUpdateCol vis acc t n col v f).1 ∧
               ∃ u row, t.uidx[j]? = some u ∧ col ∈ u.cols ∧ row ∈ t.rows ∧ row.id = x ∧ x ≠ r.id ∧
                 keyEq u.cols (mixVals r.vals col v) row.vals = true
      | .badAlloc => TEquiv t (tryUpdateCol vis acc t n col v f).1 ∧ f ≠ .none
      | .outOfRange => False :=
  tryUpdateCol_partial hc acc keep t hinv n col v f hcol hF

namespace C07ex

/-- a hash table with 4 buckets and probe sequences of length 2: a lookup of hash code `h` examines the entries of
buckets `h % 4` and `(h + 1) % 4`, newest first -/
def visW : Vis := fun h hs =>
  (List.range hs.length).reverse.filter (fun i => hs.getD i 0 % 4 == h % 4 || hs.getD i 0 % 4 == (h + 1) % 4)

theorem visW_complete : Complete visW := by
  intro h hs i hi
  rcases List.getElem?_eq_some_iff.mp hi with ⟨h1, h2⟩
  simp [visW, h1, h2]

def accW : Acc := fun h _ v => h + v

theorem accW_comm : AccComm accW := by
  intro h c1 v1 c2 v2; simp only [accW]; omega

def w1 : Table := (tryAdd visW accW false { uidx := [{ cols := [0] }] } ⟨1, 10, 0, [4]⟩ .none).1

def w2 : Table := (tryUpdateCol visW accW w1 0 0 5 .none).1

theorem w1_inv : Inv accW false w1 :=
  (tryAdd_spec visW_complete accW false _ (Inv_empty _ _ _ rfl (by decide +kernel) (by decide +kernel)) _ (by decide +kernel) (by decide +kernel) .none).1

/-- the index of `w2` does not find the row the scan finds -/
theorem w2_not_inv : ¬ Inv accW false w2 := fun hinv =>
  absurd (findByUnique_eq_scan visW_complete accW accW_comm false w2 hinv (some 0) [(0, 5)]
    (fun i hi => by
      simp only [Option.some.injEq] at hi; subst hi
      exact ⟨{ cols := [0], ents := [⟨1, 4⟩] }, by decide +kernel, by decide +kernel⟩) [] (by decide +kernel)) (by decide +kernel)

end C07ex

open C07ex in
/-- **F9 witness.** A table with the unique index (col 0) and the single row `(4)`, in a hash table where the new
entry for key 5 lies on the probe path of key 4 and is met first: `Update(row, col0, 5)` answers `ok`, the row reads 5,
but `PrepareRemove` found the entry just added, `AcceptRemove` erased it, and the index keeps the row where key 4
belongs: `FindByUniqueHash(col0 = 5)` returns nothing although the scan finds row 1. Hence the invariant is lost. -/
theorem C07_updateCol_F9_witness :
    (tryUpdateCol visW accW w1 0 0 5 .none).2 = .ok ∧ w2.rows.map (·.vals) = [[5]] ∧
    scan w2 [(0, 5)] (fun _ => true) = [1] ∧ findByUnique visW accW w2 (some 0) [(0, 5)] = some [] ∧
    ¬ C07_updateCol_correct := by
  refine ⟨by decide +kernel, by decide +kernel, by decide +kernel, by decide +kernel, ?_⟩
  intro hcorrect
  exact w2_not_inv (hcorrect visW visW_complete accW false w1 w1_inv 0 0 5 .none (by
    intro r hr
    cases hr.symm.trans (by decide +kernel : _ = some (⟨1, 10, 0, [4]⟩ : Row)); decide +kernel))

/-- the full statement for histories: after **every** history of operations from the empty table (every operation meeting
only its environment condition `Op.OkFull`: new raws have unused identities and addresses, copies get distinct
addresses, index columns are distinct, updated columns exist) the invariant holds. **False** because of the
single-column update (finding F9): `C07_history_F9`. -/
def C07_history_full : Prop :=
  ∀ (vis : Vis), Complete vis → ∀ (acc : Acc) (keep : Bool) (ops : List Op),
    ValidHistFull vis acc keep {} ops → Inv acc keep (run vis acc keep {} ops)

/-- *"A DataTable behaves as an ordered list of rows under any history of …"*, the property as a whole.
For every list of operations from the empty table (add, insert, update, column update, extract by number with and
without order, extract by reference, remove rows / by predicate, assign, clear, replace by a filtered copy, create a
unique / multi index at any time, drop the indexes; every fault position) in which each operation meets its environment
condition `Op.Ok` - which for the single-column update includes `NoF9`, hence **partial** -: the invariant holds in the
final state (so no two rows agree on the columns of a unique index and numbers equal positions) and every query
equals the brute-force scan of the rows. What each operation does to the row list is stated by `C07_add` … `C07_copy`. -/
theorem C07_history_partial {vis : Vis} (hc : Complete vis) (acc : Acc) (hacc : AccComm acc) (keep : Bool) (maxEq : Nat)
    (ops : List Op) (hv : ValidHist vis acc keep {} ops) :
    Inv acc keep (run vis acc keep {} ops) ∧
    (∀ u ∈ (run vis acc keep {} ops).uidx,
        (run vis acc keep {} ops).rows.Pairwise (fun a b => keyEq u.cols a.vals b.vals = false)) ∧
    (keep = true → ∀ (i : Nat) (r : Row), (run vis acc keep {} ops).rows[i]? = some r → r.num = i) ∧
    (∀ eqs filt, (eqs.map (·.1)).Nodup →
        (select vis acc maxEq (run vis acc keep {} ops) eqs filt).Perm (scan (run vis acc keep {} ops) eqs filt) ∧
        selectCount vis acc maxEq (run vis acc keep {} ops) eqs filt = (scan (run vis acc keep {} ops) eqs filt).length) ∧
    (∀ idx eqs L, (eqs.map (·.1)).Nodup →
        (∀ i, idx = some i → ∃ u, (run vis acc keep {} ops).uidx[i]? = some u ∧ sameCols u.cols (eqs.map (·.1)) = true) →
        findByUnique vis acc (run vis acc keep {} ops) idx eqs = some L → L = scan (run vis acc keep {} ops) eqs (fun _ => true)) ∧
    (∀ idx eqs L, (eqs.map (·.1)).Nodup →
        (∀ i, idx = some i → ∃ m, (run vis acc keep {} ops).midx[i]? = some m ∧ sameCols m.cols (eqs.map (·.1)) = true) →
        findByMulti vis acc (run vis acc keep {} ops) idx eqs = some L →
        L.Perm (scan (run vis acc keep {} ops) eqs (fun _ => true))) := by
  have hinv : Inv acc keep (run vis acc keep {} ops) :=
    run_inv hc acc keep ops {} (Inv_empty acc keep {} rfl (by intro u hu; cases hu) (by intro m hm; cases hm)) hv
  exact ⟨hinv, fun u hu => rows_pairwise_distinct hinv hu, hinv.nums,
    fun eqs filt hnd => ⟨select_perm_scan hc acc hacc keep maxEq _ hinv eqs filt hnd,
      selectCount_eq_scan hc acc hacc keep maxEq _ hinv eqs filt hnd⟩,
    fun idx eqs L _ hidx h => findByUnique_eq_scan hc acc hacc keep _ hinv idx eqs hidx L h,
    fun idx eqs L _ hidx h => findByMulti_perm_scan hc acc hacc keep _ hinv idx eqs hidx L h⟩

/-- every single operation keeps the invariant (the induction step of the history theorem) -/
theorem C07_step_inv {vis : Vis} (hc : Complete vis) (acc : Acc) (keep : Bool) (t : Table) (hinv : Inv acc keep t) (op : Op)
    (hok : op.Ok vis acc t) : Inv acc keep (applyOp vis acc keep t op) :=
  applyOp_inv hc acc keep t hinv op hok

open C07ex in
/-- **F9 at the level of histories**: create unique(col0), add the row `(4)`, set its col0 to 5 - the invariant is lost
(`FindByUniqueHash(col0 = 5)` finds nothing). -/
theorem C07_history_F9 : ¬ C07_history_full := by
  intro hfull
  have hv : ValidHistFull visW accW false {} [.createUnique [0], .add ⟨1, 10, 0, [4]⟩ .none, .updateCol 0 0 5 .none] := by
    refine ⟨by show List.Nodup _; decide, ⟨by decide +kernel, by decide +kernel⟩, ?_, trivial⟩
    intro r hr
    cases hr.symm.trans (by decide +kernel : _ = some (⟨1, 10, 0, [4]⟩ : Row)); decide +kernel
  have hinv := hfull visW visW_complete accW false _ hv
  rw [show run visW accW false {} [.createUnique [0], .add ⟨1, 10, 0, [4]⟩ .none, .updateCol 0 0 5 .none] = w2 by decide +kernel] at hinv
  exact w2_not_inv hinv

/-! ### non-vacuity: a concrete table with a unique and a multi index -/

namespace C07ex

def visAll : Vis := fun _ hs => List.range hs.length

theorem visAll_complete : Complete visAll := by
  intro h hs i hi
  rcases List.getElem?_eq_some_iff.mp hi with ⟨h1, _⟩
  simp [visAll, h1]

def accSum : Acc := fun h c v => h + (c + 1) * (v + 1)

theorem accSum_comm : AccComm accSum := by
  intro h c1 v1 c2 v2; simp only [accSum]; omega

def t0 : Table := { uidx := [{ cols := [0, 1] }], midx := [{ cols := [0] }] }
def t1 : Table := (tryAdd visAll accSum true t0 ⟨1, 10, 0, [5, 1, 7]⟩ .none).1
def t2 : Table := (tryAdd visAll accSum true t1 ⟨2, 20, 0, [5, 2, 7]⟩ .none).1
/-- three rows, two of them with the same key in the multi index -/
def t3 : Table := (tryAdd visAll accSum true t2 ⟨3, 5, 0, [6, 1, 7]⟩ .none).1

theorem t0_inv : Inv accSum true t0 := Inv_empty _ _ _ rfl (by decide +kernel) (by decide +kernel)
theorem t1_inv : Inv accSum true t1 := (tryAdd_spec visAll_complete accSum true t0 t0_inv _ (by decide +kernel) (by decide +kernel) .none).1
theorem t2_inv : Inv accSum true t2 := (tryAdd_spec visAll_complete accSum true t1 t1_inv _ (by decide +kernel) (by decide +kernel) .none).1
theorem t3_inv : Inv accSum true t3 := (tryAdd_spec visAll_complete accSum true t2 t2_inv _ (by decide +kernel) (by decide +kernel) .none).1

end C07ex

open C07ex in
/-- the hypotheses of the query theorems hold for a table with three rows, a unique and a multi index … -/
example : Inv accSum true t3 ∧ Complete visAll ∧ AccComm accSum := ⟨t3_inv, visAll_complete, accSum_comm⟩
open C07ex in
example : t3.rows.map (fun r => (r.id, r.num, r.vals)) = [(1, 0, [5, 1, 7]), (2, 1, [5, 2, 7]), (3, 2, [6, 1, 7])] := by decide +kernel
open C07ex in
example : t3.midx.map (·.groups) = [[⟨1, 6, [2]⟩, ⟨3, 7, []⟩]] := by decide +kernel
open C07ex in
/-- … `Select(col0 = 5)` goes through the multi index and returns both rows, … -/
example : choosePath t3 [(0, 5)] = .multi 0 ∧ select visAll accSum 6 t3 [(0, 5)] (fun _ => true) = [1, 2] ∧
    scan t3 [(0, 5)] (fun _ => true) = [1, 2] := by decide +kernel
open C07ex in
/-- … `Select(col0 = 5, col1 = 2)` through the unique index, `Select(col1 = 1)` by a full scan, an absent value
returns nothing, … -/
example : choosePath t3 [(0, 5), (1, 2)] = .unique 0 ∧ select visAll accSum 6 t3 [(0, 5), (1, 2)] (fun _ => true) = [2] ∧
    choosePath t3 [(1, 1)] = .scan ∧ select visAll accSum 6 t3 [(1, 1)] (fun _ => true) = [1, 3] ∧
    findByMulti visAll accSum t3 none [(0, 9)] = some [] ∧ findByUnique visAll accSum t3 none [(1, 1), (0, 6)] = some [3] := by
  decide +kernel
open C07ex in
/-- … a row with the key (5, 1) is refused and row 1 reported; with a different key it is accepted; a failure inside
the multi index (step 1) leaves the table unchanged. -/
example : (tryAdd visAll accSum true t3 ⟨4, 30, 0, [5, 1, 9]⟩ .none).2 = .dup 1 0 ∧
    (tryAdd visAll accSum true t3 ⟨4, 30, 0, [5, 1, 9]⟩ .none).1 = t3 ∧
    (tryAdd visAll accSum true t3 ⟨4, 30, 0, [5, 3, 9]⟩ .none).2 = .ok ∧
    tryAdd visAll accSum true t3 ⟨4, 30, 0, [5, 3, 9]⟩ (.step 1) = (t3, .badAlloc) := by decide +kernel

open C07ex in
/-- … removing row 1 (order kept) leaves rows 2 and 3 renumbered and the multi group of key 5 with row 2 alone; indexes
created after the data answer the same queries. -/
example : (extract visAll accSum true t3 0 true).1.rows.map (fun r => (r.id, r.num)) = [(2, 0), (3, 1)] ∧
    (extract visAll accSum true t3 0 true).1.midx.map (·.groups) = [[⟨2, 6, []⟩, ⟨3, 7, []⟩]] ∧
    (createMulti visAll accSum t3 [1]).2 = 1 ∧
    select visAll accSum 6 (createMulti visAll accSum t3 [1]).1 [(1, 1)] (fun _ => true) = [1, 3] ∧
    (createUnique visAll accSum t3 [0]).2 = .error 2 := by decide +kernel

open C07ex in
/-- a valid history (indexes created before and after the data, a refused add, a column update that satisfies `NoF9`
because this hash table meets old entries first, a removal) and the state it leads to -/
example : ValidHist visAll accSum true {} [.createUnique [0, 1], .add ⟨1, 10, 0, [5, 1, 7]⟩ .none,
      .add ⟨2, 20, 0, [5, 2, 7]⟩ .none, .add ⟨3, 30, 0, [5, 2, 8]⟩ .none, .createMulti [0], .updateCol 1 1 3 .none,
      .extract 0 false] ∧
    (run visAll accSum true {} [.createUnique [0, 1], .add ⟨1, 10, 0, [5, 1, 7]⟩ .none,
      .add ⟨2, 20, 0, [5, 2, 7]⟩ .none, .add ⟨3, 30, 0, [5, 2, 8]⟩ .none, .createMulti [0], .updateCol 1 1 3 .none,
      .extract 0 false]).rows.map (fun r => (r.id, r.num, r.vals)) = [(2, 0, [5, 3, 7])] := by
  refine ⟨⟨by show List.Nodup _; decide, ⟨by decide +kernel, by decide +kernel⟩, ⟨by decide +kernel, by decide +kernel⟩, ⟨by decide +kernel, by decide +kernel⟩,
      by show List.Nodup _; decide, ⟨?_, ?_⟩, trivial, trivial⟩,
    by decide +kernel⟩
  · intro r hr
    cases hr.symm.trans (by decide +kernel : _ = some (⟨2, 20, 1, [5, 2, 7]⟩ : Row)); decide +kernel
  · intro r hr
    cases hr.symm.trans (by decide +kernel : _ = some (⟨2, 20, 1, [5, 2, 7]⟩ : Row))
    unfold NoF9; decide +kernel

open C07ex in
example : project visAll accSum t3 [0, 2] false (fun _ => true) = [[5, 7], [5, 7], [6, 7]] ∧
    project visAll accSum t3 [0, 2] true (fun _ => true) = [[5, 7], [6, 7]] ∧
    dedupFirst [] [[5, 7], [5, 7], [6, 7]] = [[5, 7], [6, 7]] := by decide +kernel

end Momo.Table

/-!
## Finding F9 at bucket level (refined index model `Momo/Model/TableIdx.lean`, lemmas `Momo/Proof/TableIdx{Find,Upd,Ex}.lean`)

The theorems above abstract the index hash tables to their lookup contract and therefore carry F9 as the hypothesis `NoF9`.
Here one unique hash index is the bucket-level hash table of C01 (`HT.Table`, any bucket description `bs.sp` with `SpecOK`, any
hash function `acc`, any fault value allowed by `FaultsOK`) holding entries `(entry identity, raw)`, with the lookups of
`HashSet::pvFind` spelled out as "first examined position whose stored short hash and whose raw's CURRENT values match"; the
single-column update runs the steps of `DataIndexes::UpdateRaw(raw, offset, item, assigner)` in their order. `IdxInv` = the C01
table invariant + entries = rows + every entry inserted under the hash code of its row's current key + rows pairwise different
on the index columns. Only the unique hash index is modelled at this level (the multi-hash index has the same two steps on a
`HashMultiMap`; not done).
-/
namespace Momo.TIdx
open Momo Momo.HT Momo.Table

/-- **C07 / F9 (a)**: starting from a consistent index, the single-column update (any answer of the memory manager that lets it
    complete) leaves the index consistent with the updated rows IF AND ONLY IF `PrepareRemove(raw)` did not settle on the entry
    `Add(hashMixedKey)` had just made (or the old and the new hash code are equal: the entries are then interchangeable);
    and it settles on the new entry exactly when the decidable layout condition `f9cond` holds in the table as `Add` left it:
    the new entry is examined before the old one on the OLD key's probe path (earlier bucket, or same bucket and earlier in the
    bucket's scan order) and its stored short hash equals the old hash code's short hash - the equality functor passes because
    both entries hold the same raw. -/
theorem C07_updcol_correct_iff (bs : BSpec) (acc : Acc) (st : Store) (u : UH) (raw col v : Nat) (f : Faults)
    (ok : SpecOK bs.sp) (hF : FaultsOK bs.sp f) (hI : IdxInv bs acc st u) (hraw : raw ∈ st.map (·.id))
    (u' : UH) (st' : Store) (hdone : updCol bs acc st u raw col v f = .done u' st')
    (eOld : Item) (hO : eOld ∈ traverse u.t) (hOv : eOld.val = raw) :
    (IdxInv bs acc st' u' ↔
      (remTarget bs acc st u raw col v f ≠ some u.next ∨ hOldOf acc st u raw = hNewOf acc st u raw col v)) ∧
    (remTarget bs acc st u raw col v f = some u.next ↔
      f9cond bs (t1Of bs acc st u raw col v f) (hOldOf acc st u raw) (hNewOf acc st u raw col v) eOld.key u.next = true) :=
  (updCol_out bs acc st u raw col v f ok hF hI u' st' hdone eOld hO hOv).elim fun _ D =>
    ⟨D.inv_iff, D.remTarget_new_iff⟩

/-- **C07 / F9 (c)**: a sufficient condition under which this code path is correct - so that a failure of a single-column
    update in a layout where it holds is NOT finding F9: the short hashes of the old and the new hash code differ, or the lookup
    of the old hash code does not examine the new entry at all (its bucket is not on the old key's probe path within the bound
    of the old key's home bucket), or it examines the old entry first. -/
theorem C07_updcol_safe_when_paths_disjoint (bs : BSpec) (acc : Acc) (st : Store) (u : UH) (raw col v : Nat) (f : Faults)
    (ok : SpecOK bs.sp) (hF : FaultsOK bs.sp f) (hI : IdxInv bs acc st u) (hraw : raw ∈ st.map (·.id))
    (u' : UH) (st' : Store) (hdone : updCol bs acc st u raw col v f = .done u' st')
    (eOld : Item) (hO : eOld ∈ traverse u.t) (hOv : eOld.val = raw)
    (hsafe : bs.short (hNewOf acc st u raw col v) ≠ bs.short (hOldOf acc st u raw) ∨
      visitRank bs (t1Of bs acc st u raw col v f) (hOldOf acc st u raw) u.next = none ∨
      before (visitRank bs (t1Of bs acc st u raw col v f) (hOldOf acc st u raw) u.next)
             (visitRank bs (t1Of bs acc st u raw col v f) (hOldOf acc st u raw) eOld.key) = false) :
    IdxInv bs acc st' u' := by
  obtain ⟨_, D⟩ := updCol_out bs acc st u raw col v f ok hF hI u' st' hdone eOld hO hOv
  apply D.inv_of_f9cond_false
  unfold f9cond
  rcases hsafe with h | h | h
  · have : (bs.short (hNewOf acc st u raw col v) == bs.short (hOldOf acc st u raw)) = false := by simpa using h
    rw [this]; rfl
  · rw [h]; simp [before]
  · rw [h]; simp

/-- **C07 / F9 (d)**: the stale state, exactly, with its frame. When `PrepareRemove` settled on the new entry, the update returns a
    hash set with the same entries as before the update, each still under the hash code it had (so the raw's only entry sits
    under the hash code of its OLD key while the row holds the new key - with different hash codes the index invariant is
    violated, by (a)); every OTHER row is still found by `Find(raw)` at its own entry (frame: nothing else is affected); and
    the updated row is found under its new key only in the accidental case that its old entry passes for the new key: equal
    short hashes and a position that the lookup of the NEW hash code examines (`visitRank ≠ none`) - otherwise lookups of the
    new key miss the row. -/
theorem C07_updcol_stale_state (bs : BSpec) (acc : Acc) (st : Store) (u : UH) (raw col v : Nat) (f : Faults)
    (ok : SpecOK bs.sp) (hF : FaultsOK bs.sp f) (hI : IdxInv bs acc st u) (hraw : raw ∈ st.map (·.id))
    (u' : UH) (st' : Store) (hdone : updCol bs acc st u raw col v f = .done u' st')
    (eOld : Item) (hO : eOld ∈ traverse u.t) (hOv : eOld.val = raw)
    (hf9 : remTarget bs acc st u raw col v f = some u.next) :
    (traverse u'.t).Perm (traverse u.t) ∧
    (∀ it ∈ traverse u'.t, u'.hs it.key = u.hs it.key) ∧
    (∀ it ∈ traverse u'.t, it.val = raw → u'.hs it.key = hOldOf acc st u raw) ∧
    (∀ id ∈ st.map (·.id), id ≠ raw →
      ∃ pos it, findRaw bs acc st' u' id = some pos ∧ itemAt bs.sp u'.t pos = some it ∧ it.val = id) ∧
    ((findRaw bs acc st' u' raw).isSome ↔
      ((bs.short (hOldOf acc st u raw) == bs.short (hNewOf acc st u raw col v)) = true ∧
        visitRank bs u'.t (hNewOf acc st u raw col v) eOld.key ≠ none)) := by
  obtain ⟨_, D⟩ := updCol_out bs acc st u raw col v f ok hF hI u' st' hdone eOld hO hOv
  exact D.stale hf9

namespace F9w
/-- the witness: 4 buckets of 3 slots (BucketOpen2N2<3>, 7-bit short hashes), index on column 0, hash code = the value.
    Rows 0..6 with values 0 4 8 (home bucket 0, full), 1 5 9 (bucket 1, full), 12 (home bucket 0, displaced over bucket 1 to
    bucket 3); then the row with value 5 is removed, so that bucket 1 has a free slot -/
def bs : BSpec := open2N2part 2
def acc : Acc := fun h _ v => h + v
def st0 : Store := [0, 4, 8, 1, 5, 9, 12].zipIdx.map (fun (v, i) => ⟨i, i, i, [v]⟩)
def st : Store := st0.filter (fun r => r.id != 4)
def u : UH := removeRaw bs acc st0 (buildIdx bs acc st0 [0] [0, 1, 2, 3, 4, 5, 6]) 4
/-- after `TryUpdate(row 6, column 0, 13)`: the row is not found under its new key, the other rows are, the entries and the hash
    codes they sit under are those from before the update (row 6 still under 12), the row itself holds 13 -/
def staleAfter : Bool :=
  match updCol bs acc st u 6 0 13 {} with
  | .done u' st' =>
    lookupVals bs acc st' u' [13] == none && lookupVals bs acc st' u' [12] == none &&
    [0, 4, 8, 1, 9].map (fun x => lookupVals bs acc st' u' [x]) == [some 0, some 1, some 2, some 3, some 5] &&
    (traverse u'.t).map (fun it => (it.val, u'.hs it.key)) == (traverse u.t).map (fun it => (it.val, u.hs it.key)) &&
    valsOf st' 6 == [13] && u'.hs 6 == 12
  | _ => false
end F9w

/-- **C07 / F9 (b)**: the kernel-checked replay of the finding. New key 13 has home bucket 1, which has a free slot; the lookup
    of the old key 12 walks bucket 0, then bucket 1, where it meets the entry just added (same raw, short hash 0 = 0) before it
    reaches the old entry in bucket 3: `PrepareRemove` settles on the new entry (`remTarget = some u.next`, `f9cond`), it is
    removed, and the row stays indexed under hash code 12 although its key is 13. -/
theorem C07_updcol_F9_witness :
    remTarget F9w.bs F9w.acc F9w.st F9w.u 6 0 13 {} = some F9w.u.next ∧
    f9cond F9w.bs (t1Of F9w.bs F9w.acc F9w.st F9w.u 6 0 13 {}) (hOldOf F9w.acc F9w.st F9w.u 6)
      (hNewOf F9w.acc F9w.st F9w.u 6 0 13) 6 F9w.u.next = true ∧
    hOldOf F9w.acc F9w.st F9w.u 6 ≠ hNewOf F9w.acc F9w.st F9w.u 6 0 13 ∧
    F9w.staleAfter = true := by
  refine ⟨by decide +kernel, by decide +kernel, by decide +kernel, by decide +kernel⟩

/-- non-vacuity: a one-row index (4 buckets of `BucketOpen2N2<3>`, the bucket kind of the DataTable indexes, which satisfies
    `SpecOK`) satisfies every hypothesis of the theorems above, the update of its row from 0 to 4 completes, and - both keys have
    home bucket 0, the bucket is scanned newest first, the short hashes are equal - `PrepareRemove` settles on the new entry:
    by (a) the index invariant is lost -/
example : SpecOK F9one.bs.sp ∧ FaultsOK F9one.bs.sp {} ∧ IdxInv F9one.bs F9one.acc F9one.st F9one.u ∧
    (0 ∈ F9one.st.map (·.id)) ∧
    ∃ u' st', updCol F9one.bs F9one.acc F9one.st F9one.u 0 0 4 {} = .done u' st' ∧
      ¬ IdxInv F9one.bs F9one.acc st' u' := by
  obtain ⟨u', st', hd⟩ := F9one.done
  refine ⟨open2N2part_ok 2, fun _ => rfl, F9one.inv, by decide +kernel, u', st', hd, ?_⟩
  intro hI'
  have h := (C07_updcol_correct_iff F9one.bs F9one.acc F9one.st F9one.u 0 0 4 {} (open2N2part_ok 2) (fun _ => rfl)
    F9one.inv (by decide +kernel) u' st' hd ⟨0, 0⟩ F9one.entry rfl).1.mp hI'
  have h1 : remTarget F9one.bs F9one.acc F9one.st F9one.u 0 0 4 {} = some F9one.u.next := by decide +kernel
  have h2 : hOldOf F9one.acc F9one.st F9one.u 0 ≠ hNewOf F9one.acc F9one.st F9one.u 0 0 4 := by decide +kernel
  rcases h with h | h
  · exact h h1
  · exact h2 h

end Momo.TIdx
