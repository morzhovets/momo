import Momo.Proof.SortSearch
/-!
  C17: `pvIsGrouped` and `pvIsSorted` (HashSorter.h:227-265) decide exactly
  "codes non-decreasing and equal items contiguous" - on every sequence, sorted or not, in which equal items
  have equal codes (`ConsF`).
-/
namespace Momo.Sort
variable {σ α : Type}

section
variable (eq : α → α → Bool) {v : View α} {A : Nat → α × Nat} {n : Nat} (hv : VRepr v A n) (count : Nat) (hcount : count ≤ n)
include hv hcount

theorem isGroupedInner_spec (m : Nat) (hm : m + 1 < count) :
    ∀ (fuel j : Nat), 0 < fuel → count < fuel + j →
      ∃ b, isGroupedInner eq v count (m + 1) fuel j = some b ∧
        (b = true ↔ ∀ j', j ≤ j' → j' < count → eq (A m).1 (A j').1 = false) := by
  intro fuel
  induction fuel with
  | zero => intro j hf; omega
  | succ f ih =>
    intro j _ hf
    rw [isGroupedInner, forall_ge_iff j]
    by_cases hj : j < count
    · rw [if_pos hj, Nat.add_sub_cancel, (hv m (by omega)).1, (hv j (by omega)).1]
      simp only [Option.bind_some]
      by_cases he : eq (A m).1 (A j).1 = true
      · rw [if_pos he]
        exact ⟨false, rfl, iff_of_false Bool.false_ne_true fun h => Bool.eq_false_iff.1 (h.1 hj) he⟩
      · rw [if_neg he]
        obtain ⟨b, hb, hbi⟩ := ih (j + 1) (by omega) (by omega)
        exact ⟨b, hb, hbi.trans (and_iff_right fun _ => Bool.eq_false_iff.2 he).symm⟩
    · rw [if_neg hj]
      exact ⟨true, rfl, iff_of_true rfl ⟨fun h => absurd h hj, fun j' h1 h2 => absurd h2 (by omega)⟩⟩

theorem isGroupedOuter_spec (he : IsEqv eq) :
    ∀ (fuel m : Nat), 0 < fuel → count < fuel + m → ContigUpToF eq A count (m + 1) →
      ∃ b, isGroupedOuter eq v count fuel (m + 1) = some b ∧ (b = true ↔ ContigF eq A count) := by
  intro fuel
  induction fuel with
  | zero => intro i hf; omega
  | succ f ih =>
    intro m _ hf hcu
    rw [isGroupedOuter]
    by_cases hi : m + 1 < count
    · rw [if_pos hi, Nat.add_sub_cancel, (hv m (by omega)).1, (hv (m + 1) (by omega)).1]
      simp only [Option.bind_some]
      by_cases hxy : eq (A m).1 (A (m + 1)).1 = true
      · rw [if_pos hxy]
        exact ih (m + 1) (by omega) (by omega) (hcu.succ_of_eq he hxy)
      · obtain ⟨bi, hbi1, hbi2⟩ := isGroupedInner_spec eq hv count hcount m hi (count + 1) (m + 2) (Nat.succ_pos _) (by omega)
        rw [if_neg hxy, hbi1]
        simp only [Option.bind_some]
        cases bi with
        | true =>
          refine ih (m + 1) (by omega) (by omega) (hcu.succ_of_tail he fun k hk1 hk2 => ?_)
          rcases Nat.eq_or_lt_of_le hk1 with rfl | hlt
          · exact Bool.eq_false_iff.2 hxy
          · exact hbi2.1 rfl k hlt hk2
        | false =>
          -- a later cell equals cell `m`, while cell `m + 1` in between does not
          refine ⟨false, rfl, iff_of_false Bool.false_ne_true fun h => Bool.false_ne_true (hbi2.2 fun j hj1 hj2 => ?_)⟩
          exact Bool.eq_false_iff.2 fun hj => hxy (h m (m + 1) j (Nat.lt_succ_self m) hj1 hj2 hj)
    · rw [if_neg hi]
      exact ⟨true, rfl, iff_of_true rfl (hcu.contig (by omega))⟩

theorem isGrouped_spec (he : IsEqv eq) : ∃ b, isGrouped eq v count = some b ∧ (b = true ↔ ContigF eq A count) :=
  isGroupedOuter_spec eq hv count hcount he (count + 1) 0 (Nat.succ_pos _) (by omega) ContigUpToF.one

end

section
variable {M : Mem σ α} {eq : α → α → Bool} (he : IsEqv eq) {s : σ} {A : Nat → α × Nat} {n : Nat}
  (hr : MRepr M s A n) (hcons : ConsF eq A n)
include he hr hcons

/-- the check of one run of equal codes `[prev, m)`: with everything before the run contiguous and of smaller code, it decides
contiguity up to the run's end -/
theorem runGrouped_spec {prev m : Nat} (hpm : prev ≤ m) (hm : m ≤ n)
    (hrun : ∀ k, prev ≤ k → k < m → (A k).2 = (A prev).2) (hlow : ∀ k, k < prev → (A k).2 < (A prev).2)
    (hpre : ContigF eq A prev) :
    ∃ b, isGrouped eq (M.fwd s prev) (m - prev) = some b ∧ (b = true ↔ ContigF eq A m) := by
  obtain ⟨b, hb, hbi⟩ := isGrouped_spec eq (hr.fwd prev) (m - prev) (by omega) he
  refine ⟨b, hb, hbi.trans ⟨fun hwin => ContigF.append hpre hwin fun a c ha hpc hc hac => ?_, fun h => h.shift prev⟩⟩
  -- a cell before the run and a cell of the run have different codes, so their items are not equal
  have := hcons a c (by omega) (by omega) hac
  have := hlow a ha
  have := hrun c hpc hc
  omega

theorem isSortedLoop_spec :
    ∀ (fuel i prev : Nat), 0 < fuel → n < fuel + i → i ≤ n → prev < i →
      SortedF A i → (∀ k, prev ≤ k → k < i → (A k).2 = (A prev).2) →
      (∀ k, k < prev → (A k).2 < (A prev).2) → ContigF eq A prev →
      ∃ b, isSortedLoop M eq s n fuel i prev (A prev).2 = some b ∧ (b = true ↔ SortedF A n ∧ ContigF eq A n) := by
  intro fuel
  induction fuel with
  | zero => intro i prev h; omega
  | succ f ih =>
    intro i prev _ hf hin hprev hsorted hrun hlow hpre
    have hsub : prev ≤ i := Nat.le_of_lt hprev
    obtain ⟨b, hb, hbi⟩ := runGrouped_spec he hr hcons hsub hin hrun hlow hpre
    rw [isSortedLoop]
    by_cases hi : i < n
    · rw [if_pos hi, (hr i hi).2]
      simp only [Option.bind_some]
      by_cases hlt : (A i).2 < (A prev).2
      · rw [if_pos hlt]
        exact ⟨false, rfl, iff_of_false Bool.false_ne_true fun h => Nat.not_le_of_lt hlt (h.1 prev i hsub hi)⟩
      · have hle : ∀ k, k < i → (A k).2 ≤ (A prev).2 := fun k hk => by
          by_cases hkp : k < prev
          · exact Nat.le_of_lt (hlow k hkp)
          · exact Nat.le_of_eq (hrun k (Nat.le_of_not_lt hkp) hk)
        have hs' : SortedF A (i + 1) := hsorted.succ fun k hk => Nat.le_trans (hle k hk) (Nat.le_of_not_lt hlt)
        rw [if_neg hlt]
        by_cases hne : (A i).2 ≠ (A prev).2
        · rw [if_pos hne, csub_of_le hsub, Option.bind_some, hb]
          simp only [Option.bind_some]
          cases b with
          | true =>
            rw [if_pos rfl]
            exact ih (i + 1) i (by omega) (by omega) hi (Nat.lt_succ_self i) hs'
              (fun k hk1 hk2 => by rw [Nat.le_antisymm (Nat.le_of_lt_succ hk2) hk1])
              (fun k hk => Nat.lt_of_le_of_lt (hle k hk) (Nat.lt_of_le_of_ne (Nat.le_of_not_lt hlt) (Ne.symm hne))) (hbi.1 rfl)
          | false =>
            rw [if_neg Bool.false_ne_true]
            exact ⟨false, rfl, iff_of_false Bool.false_ne_true fun h => Bool.false_ne_true (hbi.2 (h.2.mono (Nat.le_of_lt hi)))⟩
        · rw [if_neg hne]
          refine ih (i + 1) prev (by omega) (by omega) hi (Nat.lt_succ_of_lt hprev) hs' (fun k hk1 hk2 => ?_) hlow hpre
          rcases Nat.eq_or_lt_of_le (Nat.le_of_lt_succ hk2) with rfl | hki
          · exact Decidable.not_not.1 hne
          · exact hrun k hk1 hki
    · obtain rfl : i = n := Nat.le_antisymm hin (Nat.le_of_not_lt hi)
      rw [if_neg hi, csub_of_le hsub, Option.bind_some]
      exact ⟨b, hb, hbi.trans ⟨fun h => ⟨hsorted, h⟩, fun h => h.2⟩⟩

theorem isSorted_spec :
    ∃ b, isSorted M eq s n = some b ∧ (b = true ↔ SortedF A n ∧ ContigF eq A n) := by
  rw [isSorted]
  by_cases hn : n = 0
  · subst hn
    exact ⟨true, rfl, iff_of_true rfl ⟨fun i j _ h => absurd h (Nat.not_lt_zero _), fun i j k _ _ h => absurd h (Nat.not_lt_zero _)⟩⟩
  · rw [if_neg hn, (hr 0 (Nat.pos_of_ne_zero hn)).2, Option.bind_some]
    exact isSortedLoop_spec he hr hcons (n + 1) 1 0 (Nat.succ_pos _) (by omega) (Nat.pos_of_ne_zero hn) Nat.one_pos
      (fun a c hac hc => by
        obtain rfl := Nat.le_zero.1 (Nat.le_of_lt_succ hc)
        exact Nat.le_of_eq (congrArg (fun i => (A i).2) (Nat.le_zero.1 hac)))
      (fun k _ hk => by rw [Nat.le_zero.1 (Nat.le_of_lt_succ hk)]) (fun k hk => absurd hk (Nat.not_lt_zero _))
      (fun a b c _ _ hc => absurd hc (Nat.not_lt_zero _))

end

end Momo.Sort
