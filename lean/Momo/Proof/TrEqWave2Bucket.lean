import Momo.Translated.Wave2Meta
import Momo.Proof.TrEqHashMeta
/-!
  C12: the metadata writes of `BucketLimP4::AddCrt` itself (details/HashBucketLimP4.h; `TrEqHashMeta` has the functions it calls). Its
  `switch` over `memPoolIndex` is translated case by case (Momo/Translated/Wave2Meta.lean: one fragment per `case`, `pvAdd0` / `pvAdd<k>` /
  the in-place block, composed from the translated `pvSetHashProbe` / `pvCalcShortHash`), and the whole is the model's `P4.Bucket.addCrt`:
  every case writes the hash probe of the NEW index first, then the short hash at that index, and a grown bucket stores `memPoolIndex + 1`.
-/
namespace Momo.TrEq
open Momo Momo.Seg Momo.HashMeta

/-- the translated `switch (memPoolIndex)` of `AddCrt` (taken when `count == memPoolIndex`): `case 1`, `case 2`, `default` (asserted
    to be 3), each followed by `pvAdd<k>`, whose metadata part is the same code for every `k` -/
def trLimp4Grow (sh : Nat → Nat) (hc mpi h L p : Nat) : Nat × (Nat → Nat) :=
  match mpi with
  | 1 => Tr.limp4_pvAdd_meta (Tr.limp4_AddCrt_case1 sh true hc h L p) 1 h
  | 2 => Tr.limp4_pvAdd_meta (Tr.limp4_AddCrt_case2 sh true hc h L p) 2 h
  | _ => Tr.limp4_pvAdd_meta (Tr.limp4_AddCrt_case3 sh true hc h L p) 3 h

theorem trLimp4Grow_eq (sh : Nat → Nat) (hc mpi h L p : Nat) (h1 : 1 ≤ mpi) (h3 : mpi ≤ 3) :
    trLimp4Grow sh hc mpi h L p
      = (mpi + 1, Tr.upd (Tr.limp4_pvSetHashProbe sh true hc mpi h L p) mpi (Tr.limp4_pvCalcShortHash h)) := by
  obtain rfl | rfl | rfl : mpi = 1 ∨ mpi = 2 ∨ mpi = 3 := by omega
  all_goals rfl

/-- `AddCrt` as written (all five paths) with `useHashCodePartGetter = true` -/
def trLimp4AddCrt (b : P4.Bucket) (h L p : Nat) : P4.Bucket :=
  if b.nonnull then
    if Tr.limp4_AddCrt_grows b.count b.mpi = true then
      { b with sh := (trLimp4Grow b.sh b.hc b.mpi h L p).2, mpi := (trLimp4Grow b.sh b.hc b.mpi h L p).1 }
    else { b with sh := Tr.limp4_AddCrt_inPlace b.sh true b.hc b.count h L p }
  else { b with sh := Tr.limp4_pvAdd0_meta (Tr.limp4_AddCrt_null b.sh true b.hc h L p) h, nonnull := true }

/-- for a bucket with room (`count < hashCount`, `4 ≤ hashCount`), `logBucketCount ≤ 63`, and — on the growing path
    `count == memPoolIndex` — `memPoolIndex ∈ {1, 2, 3}` (the assertions `0 < count`, `count < maxCount ≤ 4` of the source) -/
theorem tr_limp4_addCrt (b : P4.Bucket) (h L p : Nat) (hL : L ≤ 63) (h4 : 4 ≤ b.hc) (hcnt : b.count < b.hc)
    (hmpi : b.nonnull = true → b.count = b.mpi → 1 ≤ b.mpi ∧ b.mpi ≤ 3) :
    trLimp4AddCrt b h L p = b.addCrt h L p := by
  unfold trLimp4AddCrt P4.Bucket.addCrt
  cases hn : b.nonnull
  · simp only [Bool.false_eq_true, if_false]
    unfold Tr.limp4_pvAdd0_meta Tr.limp4_AddCrt_null
    dsimp only
    rw [tr_limp4_setHashProbe _ _ _ _ _ _ (by omega) hL, tr_limp4_shortHash, upd_eq]
  · simp only [if_true, Tr.limp4_AddCrt_grows, decide_eq_true_eq]
    by_cases hg : b.count = b.mpi
    · obtain ⟨h1, h3⟩ := hmpi hn hg
      rw [if_pos hg, if_pos hg, trLimp4Grow_eq _ _ _ _ _ _ h1 h3, ← hg,
        tr_limp4_setHashProbe _ _ _ _ _ _ hcnt hL, tr_limp4_shortHash, upd_eq]
    · rw [if_neg hg, if_neg hg]
      unfold Tr.limp4_AddCrt_inPlace
      dsimp only
      rw [tr_limp4_setHashProbe _ _ _ _ _ _ hcnt hL, tr_limp4_shortHash, upd_eq]

end Momo.TrEq
