import Momo.Proof.TableUpdate
/-!
  C07, table level: the single-column update (`DataIndexes::UpdateRaw(raw, offset, item, assigner)`,
  `pvTryUpdate(rowRef, column, item)`). Every index over the column first adds the raw under its new key
  (`HashMixedKey`) and then looks the raw up by its *old* key to remove it. That lookup can return the entry just added
  (same raw, whose values still read as the old key): finding F9. Under the hypothesis `NoF9` (it does not) the
  invariant is kept, refused / failed updates leave the table unchanged.
-/
namespace Momo.Table
open List

theorem item_mixVals_same (vals : List Nat) (col v : Nat) (h : col < vals.length) : item (mixVals vals col v) col = v := by
  unfold item mixVals
  rw [getD_eq_getElem?_getD, getElem?_set_self h]; rfl

theorem item_mixVals_other (vals : List Nat) (col v c : Nat) (h : c ≠ col) : item (mixVals vals col v) c = item vals c := by
  unfold item mixVals
  rw [getD_eq_getElem?_getD, getD_eq_getElem?_getD, getElem?_set_ne (Ne.symm h)]

theorem keyEq_mixVals_self (cols : List Nat) (vals : List Nat) (col v : Nat) (h : col ∉ cols) :
    keyEq cols (mixVals vals col v) vals = true := by
  rw [keyEq_iff]
  exact fun c hc => item_mixVals_other _ _ _ _ (fun e : c = col => h (e ▸ hc))

/-- the rows after an accepted single-column update, as a store: row `n` with its values replaced, everything else as it was
    (what `C07_updateCol_partial` says the rows are, and what the indexes are consistent with) -/
def setVals (st : Store) (n : Nat) (vals : List Nat) : Store :=
  match st[n]? with
  | some r => st.set n { r with vals := vals }
  | none => st

section setVals
variable {st : Store} (hnd : (ids st).Nodup) {n : Nat} {r : Row} (hr : st[n]? = some r) (w : List Nat)
include hr

theorem setVals_eq : setVals st n w = st.set n { r with vals := w } := by unfold setVals; rw [hr]

theorem ids_setVals : ids (setVals st n w) = ids st := by
  obtain ⟨hn, hrn⟩ := List.getElem?_eq_some_iff.mp hr
  unfold ids
  rw [setVals_eq hr, map_set, show ({ r with vals := w } : Row).id = (st.map (·.id))[n]'(by rw [length_map]; exact hn) by
    rw [getElem_map, hrn], set_getElem_self]

theorem addrs_setVals : (setVals st n w).map (·.addr) = st.map (·.addr) := by
  obtain ⟨hn, hrn⟩ := List.getElem?_eq_some_iff.mp hr
  rw [setVals_eq hr, map_set, show ({ r with vals := w } : Row).addr = (st.map (·.addr))[n]'(by rw [length_map]; exact hn) by
    rw [getElem_map, hrn], set_getElem_self]

include hnd

theorem rowOf_setVals (x : Nat) : rowOf (setVals st n w) x = if x = r.id then some { r with vals := w } else rowOf st x := by
  obtain ⟨hn, hrn⟩ := List.getElem?_eq_some_iff.mp hr
  have hnd' : (ids (setVals st n w)).Nodup := by rw [ids_setVals hr]; exact hnd
  by_cases hx : x = r.id
  · rw [if_pos hx, hx]
    exact rowOf_mem hnd' (r := { r with vals := w }) (by rw [setVals_eq hr]; exact mem_set hn _)
  · rw [if_neg hx]
    by_cases hin : x ∈ ids st
    · obtain ⟨row, hrow, rfl⟩ := mem_ids_iff.mp hin
      obtain ⟨i, hi, rfl⟩ := getElem_of_mem hrow
      have hni : n ≠ i := fun e => hx (by subst e; rw [hrn])
      rw [rowOf_mem hnd hrow]
      refine rowOf_mem hnd' ?_
      rw [setVals_eq hr, ← getElem_set_ne hni (a := { r with vals := w }) (by rw [length_set]; exact hi)]
      exact getElem_mem _
    · rw [rowOf_none hin, rowOf_none (by rwa [ids_setVals hr])]

theorem valsOf_setVals_other {x : Nat} (hx : x ≠ r.id) : valsOf (setVals st n w) x = valsOf st x := by
  unfold valsOf; rw [rowOf_setVals hnd hr, if_neg hx]

theorem valsOf_setVals_self : valsOf (setVals st n w) r.id = w := by
  unfold valsOf; rw [rowOf_setVals hnd hr, if_pos rfl]

theorem addrOf_setVals (x : Nat) : addrOf (setVals st n w) x = addrOf st x := by
  obtain ⟨hn, hrn⟩ := List.getElem?_eq_some_iff.mp hr
  unfold addrOf
  rw [rowOf_setVals hnd hr]
  by_cases hx : x = r.id
  · rw [if_pos hx, hx, rowOf_mem hnd (hrn ▸ getElem_mem hn)]
  · rw [if_neg hx]

theorem valsOf_setVals_keyEq (col v : Nat) (cols : List Nat) (hcc : col ∉ cols) (x : Nat) :
    keyEq cols (valsOf (setVals st n (mixVals r.vals col v)) x) (valsOf st x) = true := by
  by_cases hx : x = r.id
  · rw [hx, valsOf_setVals_self hnd hr, valsOf_mem hnd (mem_of_getElem? hr)]
    exact keyEq_mixVals_self _ _ _ _ hcc
  · rw [valsOf_setVals_other hnd hr _ hx]; exact keyEq_refl _ _

end setVals

/-- an index does not see a change of values outside its columns (the single-column update of a column the index does not have) -/
theorem MInv_cols_congr {acc : Acc} {st st' : Store} {m : MIdx} (hm : MInv acc st m) (hids : ids st' = ids st)
    (hv : ∀ x, keyEq m.cols (valsOf st' x) (valsOf st x) = true) (ha : ∀ x, addrOf st' x = addrOf st x) : MInv acc st' m := by
  have tr : ∀ x y, keyEq m.cols (valsOf st' x) (valsOf st' y) = keyEq m.cols (valsOf st x) (valsOf st y) := by
    intro x y
    rw [keyEq_congr_left (hv x), keyEq_symm, keyEq_congr_left (hv y), keyEq_symm]
  refine ⟨hm.colsNodup, hm.noPos, by rw [hids]; exact hm.perm, ?_, ?_, ?_, ?_⟩
  · intro g hg; rw [hm.hash g hg]; exact (hashVals_congr acc m.cols _ _ (hv g.key)).symm
  · intro g hg x hx; rw [tr]; exact hm.same g hg x hx
  · refine hm.distinct.imp ?_
    intro a b hab; rw [tr]; exact hab
  · intro g hg
    exact (SegSorted_congr (fun x _ => ha x)).mpr (hm.sorted g hg)

theorem UIdx.acceptAddRemove_noPos (u : UIdx) (h : u.posAdd = none ∧ u.posRem = none) : u.acceptAdd.acceptRemove = u := by
  cases u; cases h.1; cases h.2; rfl

theorem UIdx.rejectAddRemove_noPos (u : UIdx) (h : u.posAdd = none ∧ u.posRem = none) : u.rejectAdd.rejectRemove = u := by
  cases u; cases h.1; cases h.2; rfl

theorem MIdx.acceptAddRemove_noPos (m : MIdx) (h : m.kAdd = none ∧ m.kRem = none) (st : Store) (raw : Nat) :
    m.acceptAdd.acceptRemove st raw = m := by
  cases m; cases h.1; cases h.2; rfl

theorem MInv.ids_perm_without {acc : Acc} {st : Store} {m : MIdx} (hm : MInv acc st m) (hnd : (ids st).Nodup) {raw : Nat}
    (hraw : raw ∈ ids st) : (ids st).Perm (filter (fun x => x != raw) (m.groups.flatMap Group.members) ++ [raw]) := by
  have h1 : (ids st).Perm (raw :: (ids st).erase raw) := perm_cons_erase hraw
  rw [hnd.erase_eq_filter] at h1
  exact h1.trans ((perm_append_singleton _ _).symm.trans (Perm.append_right _ (hm.perm.filter _).symm))

/-- the new group may satisfy the equality predicate as well (finding F9), hence `hF9` -/
theorem MIdx.findRaw_added {vis : Vis} (hc : Complete vis) (acc : Acc) {st : Store} (m : MIdx) (hm : MInv acc st m) {raw : Nat}
    (hraw : raw ∈ ids st) (vals : List Nat)
    (hF9 : (mAddedNew acc m raw vals).findRaw vis acc st raw ≠ some m.groups.length) :
    ∃ q, ∃ hq : q < m.groups.length, raw ∈ m.groups[q].members ∧ (mAddedNew acc m raw vals).findRaw vis acc st raw = some q := by
  have hlen : (mAddedNew acc m raw vals).groups.length = m.groups.length + 1 := by unfold mAddedNew; simp
  have hget : ∀ i (hi : i < m.groups.length), (mAddedNew acc m raw vals).groups[i]'(hlen ▸ Nat.lt_succ_of_lt hi) = m.groups[i] :=
    fun i hi => getElem_append_left hi
  obtain ⟨g, hg, hxg⟩ := hm.group_of hraw
  obtain ⟨i, hi, rfl⟩ := getElem_of_mem hg
  have hk := hm.member_key hg hxg
  obtain ⟨q, hf, hq, hp⟩ := (mAddedNew acc m raw vals).find_present hc (hashVals acc m.cols (valsOf st raw))
    (fun id => keyEq m.cols (valsOf st raw) (valsOf st id)) (i := i) (hlen ▸ Nat.lt_succ_of_lt hi)
    (by rw [hget i hi]; exact (hm.hash _ hg).trans (hashVals_congr acc m.cols _ _ hk)) (by rw [hget i hi, keyEq_symm]; exact hk)
  have hq' : q < m.groups.length :=
    Nat.lt_of_le_of_ne (Nat.le_of_lt_succ (hlen.symm ▸ hq : q < m.groups.length + 1)) fun e => hF9 (e ▸ hf)
  refine ⟨q, hq', hm.group_at hraw hq' ?_, hf⟩
  rw [m.keyAt_lt hq', ← hget q hq', ← MIdx.keyAt_lt]; exact hp

section colM
variable {vis : Vis} (hc : Complete vis) (acc : Acc) {st : Store} (hnd : (ids st).Nodup) {n : Nat} {r : Row}
  (hrn : st[n]? = some r) (col v : Nat) (hcol : col < r.vals.length) (hv : item r.vals col ≠ v)
include hc hnd hrn hcol hv

theorem MIdx.addMixed_cases (m : MIdx) (hm : MInv acc st m) (hcc : col ∈ m.cols) :
    (∃ A g B, m.groups = A ++ g :: B ∧ keyEq m.cols (mixVals r.vals col v) (valsOf st g.key) = true ∧ r.id ∉ g.members ∧
        ∀ fail, m.addMixed vis acc st r.id col v fail =
          if fail then ({ m with groups := A ++ { g with raws := pvAddSort (addrOf st) g.raws } :: B }, false)
          else ({ m with groups := A ++ { g with raws := pvAddSort (addrOf st) g.raws ++ [r.id] } :: B,
                         kAdd := some A.length }, true)) ∨
    ((∀ g ∈ m.groups, keyEq m.cols (mixVals r.vals col v) (valsOf st g.key) = false) ∧
        m.findMixed vis acc st r.id col v = none ∧
        ∀ fail, m.addMixed vis acc st r.id col v fail =
          if fail then (m, false) else (mAddedNew acc m r.id (mixVals r.vals col v), true)) := by
  have hvr : valsOf st r.id = r.vals := valsOf_mem hnd (mem_of_getElem? hrn)
  unfold MIdx.addMixed MIdx.findMixed
  rw [hvr]
  rcases MIdx.find_key hc acc (st := st) (fun _ _ => rfl) m hm (mixVals r.vals col v) with ⟨A, g, B, hsplit, hk, hf⟩ | ⟨hno, hf⟩
  · refine Or.inl ⟨A, g, B, hsplit, hk, fun hmem => ?_, fun fail => ?_⟩
    · have := keyEq_trans hk (hm.member_key (by rw [hsplit]; exact mem_append_right _ mem_cons_self) hmem)
      rw [hvr, keyEq_iff] at this
      have := this col hcc
      rw [item_mixVals_same _ _ _ hcol] at this
      exact hv this.symm
    · rw [hf]
      dsimp only
      rw [MIdx.pvAdd_split _ m _ _ hsplit, MIdx.pvAdd_split _ m _ _ hsplit]
      cases fail <;> rfl
  · exact Or.inr ⟨hno, hf, fun fail => by rw [hf]; rfl⟩

omit hcol hv in
/-- the multi-index step of the single-column update when `Add(hashMixedKey)` found no group with the new key and made one:
    accepted, the raw has left its old group (under `NoF9`: the lookup of the old key did not return the new group); rejected,
    the index is `m` again. -/
theorem MIdx.updCol_newgroup (m : MIdx) (hm : MInv acc st m) (hga : ∀ g ∈ m.groups, (g.members.map (addrOf st)).Nodup)
    (hno : ∀ g ∈ m.groups, keyEq m.cols (mixVals r.vals col v) (valsOf st g.key) = false)
    (hF9 : (mAddedNew acc m r.id (mixVals r.vals col v)).findRaw vis acc st r.id ≠ some m.groups.length) :
    MInv acc (setVals st n (mixVals r.vals col v))
      (((mAddedNew acc m r.id (mixVals r.vals col v)).prepareRemove vis acc st r.id).accUpd st r.id) ∧
    MEquiv m ((mAddedNew acc m r.id (mixVals r.vals col v)).prepareRemove vis acc st r.id).rejUpd ∧
    MInv acc st ((mAddedNew acc m r.id (mixVals r.vals col v)).prepareRemove vis acc st r.id).rejUpd := by
  have hrmem : r ∈ st := mem_of_getElem? hrn
  have hrin : r.id ∈ ids st := mem_ids_iff.mpr ⟨r, hrmem, rfl⟩
  obtain ⟨q, hq, hqmem, hfind⟩ := MIdx.findRaw_added hc acc m hm hrin (mixVals r.vals col v) hF9
  have hvself : valsOf (setVals st n (mixVals r.vals col v)) r.id = mixVals r.vals col v := valsOf_setVals_self hnd hrn _
  constructor
  · rw [MIdx.accUpd, MIdx.acceptRemove_of st _ q r.id hfind]
    show MInv _ _ ⟨m.cols, (((m.groups ++ [Group.mk r.id (hashVals acc m.cols (mixVals r.vals col v)) []]).map some).set q
      (acceptRemoveGroup (addrOf st) ((m.groups ++ [Group.mk r.id (hashVals acc m.cols (mixVals r.vals col v)) []]).getD q default) r.id)).filterMap id,
      none, none⟩
    rw [ListFacts.getD_eq_getElem (by rw [length_append]; exact Nat.lt_succ_of_lt hq), getElem_append_left hq, map_append,
      set_append_left _ _ (by rw [length_map]; exact hq), filterMap_append]
    refine MInv_transform acc hm (fun x => x != r.id) (fun _ => []) [⟨r.id, hashVals acc m.cols (mixVals r.vals col v), []⟩] _
      (fun x _ hk => valsOf_setVals_other hnd hrn _ (by simpa using hk))
      (forall₂_set (length_map _).symm q _ fun i hi => ?_) (by simp) ?_ ?_ (by simp) ?_
    · rw [getElem_map]
      by_cases e : q = i
      · subst e; rw [if_pos rfl]
        exact GroupStep.remove acc hnd hm (getElem_mem hq) (hga _ (getElem_mem hq)) hqmem (fun x _ => addrOf_setVals hnd hrn _ x) rfl
      · rw [if_neg e]
        exact GroupStep.other acc hnd hm hq hi e hqmem (fun x _ => addrOf_setVals hnd hrn _ x) rfl
    · intro e he; rw [mem_singleton.mp he]; exact ⟨rfl, by rw [hvself]⟩
    · intro g hg e he
      rw [mem_singleton.mp he, hvself, keyEq_symm]; exact hno g hg
    · rw [ids_setVals hrn]
      simp only [append_nil, map_cons, map_nil]
      rw [← filter_flatMap]
      exact hm.ids_perm_without hnd hrin
  · rw [MIdx.rejUpd_prepare, MIdx.rejUpd_of_kRem _ (by unfold mAddedNew; exact hm.noPos.2),
      MIdx.rejectAdd_mAddedNew acc m r.id _ hm.noPos.1]
    exact ⟨MEquiv.refl m, hm⟩

end colM

section colU
variable {vis : Vis} (hc : Complete vis) (acc : Acc) {st : Store} (hnd : (ids st).Nodup) {n : Nat} {r : Row}
  (hrn : st[n]? = some r) (col v : Nat)
include hc hnd hrn

/-- `MIdx.updCol_newgroup` for the index read as a multi index -/
theorem UIdx.updCol_new (u : UIdx) (hu : UInv acc st u) (hno : ∀ x ∈ st, keyEq u.cols (mixVals r.vals col v) x.vals = false)
    (hF9 : (uAdded acc u r.id (mixVals r.vals col v)).findRaw vis acc st r.id ≠ some u.ents.length) :
    UInv acc (setVals st n (mixVals r.vals col v))
      ((uAdded acc u r.id (mixVals r.vals col v)).prepareRemove vis acc st r.id).acceptAdd.acceptRemove ∧
    ((uAdded acc u r.id (mixVals r.vals col v)).prepareRemove vis acc st r.id).rejectAdd.rejectRemove = u := by
  constructor
  · apply UInv.of_toM
    rw [UIdx.toM_acceptRemove st r.id, UIdx.toM_acceptAdd, UIdx.toM_prepareRemove, uAdded_toM]
    exact (MIdx.updCol_newgroup hc acc hnd hrn col v u.toM (hu.toM hnd) (u.toM_addr_nodup _) (hu.no_key_toM hnd hno)
      (by rw [← uAdded_toM, UIdx.toM_findRaw, u.toM_length]; exact hF9)).1
  · have hadded : uAdded acc u r.id (mixVals r.vals col v) =
        ⟨u.cols, u.ents ++ [⟨r.id, hashVals acc u.cols (mixVals r.vals col v)⟩], some u.ents.length, none⟩ := by
      unfold uAdded; rw [hu.noPos.2]
    unfold UIdx.prepareRemove
    rw [hadded]
    simp only [UIdx.rejectAdd, UIdx.rejectRemove]
    rw [eraseIdx_append_of_length_le (Nat.le_refl _)]
    simp only [Nat.sub_self, eraseIdx_cons_zero, append_nil]
    exact hu.eta.symm

end colU

section colFound
variable {vis : Vis} (hc : Complete vis) (acc : Acc) {st : Store} (hnd : (ids st).Nodup) (hai : AddrInj st) {n : Nat} {r : Row}
  (hrn : st[n]? = some r) (col v : Nat)
include hc hnd hai hrn

/-- the same step when `Add(hashMixedKey)` found the group `g` with the new key and `pvAdd` appended the raw to it. Three
    results: (1) accepted: the raw has joined `g` and left its old group; (2) rejected after the completed add; (3) rejected
    after the add that failed behind the sorting: in (2) and (3) the index is `m` up to `MEquiv`. -/
theorem MIdx.updCol_found (m : MIdx) (hm : MInv acc st m) {A B : List Group} {g : Group} (hsplit : m.groups = A ++ g :: B)
    (hk : keyEq m.cols (mixVals r.vals col v) (valsOf st g.key) = true) (hnot : r.id ∉ g.members) :
    MInv acc (setVals st n (mixVals r.vals col v))
      ((({ m with groups := A ++ { g with raws := pvAddSort (addrOf st) g.raws ++ [r.id] } :: B, kAdd := some A.length } : MIdx).prepareRemove
          vis acc st r.id).accUpd st r.id) ∧
    (MEquiv m (({ m with groups := A ++ { g with raws := pvAddSort (addrOf st) g.raws ++ [r.id] } :: B, kAdd := some A.length } : MIdx).prepareRemove
          vis acc st r.id).rejUpd ∧
     MInv acc st (({ m with groups := A ++ { g with raws := pvAddSort (addrOf st) g.raws ++ [r.id] } :: B, kAdd := some A.length } : MIdx).prepareRemove
          vis acc st r.id).rejUpd) ∧
    (MEquiv m (MIdx.rejUpd { m with groups := A ++ { g with raws := pvAddSort (addrOf st) g.raws } :: B }) ∧
     MInv acc st (MIdx.rejUpd { m with groups := A ++ { g with raws := pvAddSort (addrOf st) g.raws } :: B })) := by
  have hrmem : r ∈ st := mem_of_getElem? hrn
  have hrin : r.id ∈ ids st := mem_ids_iff.mpr ⟨r, hrmem, rfl⟩
  have hS := pvAddSort_perm (addrOf st) g.raws
  obtain ⟨hndA, hsA, hrej⟩ := MInv.pvAdd_rejected acc hnd hai hm (fun _ _ => rfl) hsplit
  refine ⟨?_, ?_, by
    rw [MIdx.rejUpd_noPos ({ m with groups := A ++ { g with raws := pvAddSort (addrOf st) g.raws } :: B } : MIdx) hm.noPos]
    exact hrej⟩
  · -- accepted: as if the raw had left its old group (position `q`) first and joined `g` (position `A.length`) afterwards
    obtain ⟨q, hq, hf, hqmem⟩ := m.findRaw_pos hc acc hm hrin
    have hqp : q ≠ A.length := fun e => hnot (by rw [← ListFacts.getElem_split hsplit]; exact e ▸ hqmem)
    have hfr : MIdx.findRaw vis acc st ({ m with groups := A ++ { g with raws := pvAddSort (addrOf st) g.raws ++ [r.id] } :: B, kAdd := some A.length } : MIdx) r.id = some q := by
      refine Eq.trans (MIdx.findRaw_congr_keys vis acc st m _ r.id rfl ?_ ?_) hf
      · simp only; rw [hsplit]; simp
      · simp only; rw [hsplit]; simp
    have hgq : (A ++ ({ g with raws := pvAddSort (addrOf st) g.raws ++ [r.id] } : Group) :: B).getD q default = m.groups[q] := by
      rw [← ListFacts.set_split hsplit, ListFacts.getD_eq_getElem (by rw [length_set]; exact hq), getElem_set_ne (Ne.symm hqp)]
    have hm₂ := MInv_removeAt acc hnd hm hq (hm.members_addr_nodup hnd hai _ (getElem_mem hq)) hqmem
    rw [MIdx.accUpd, MIdx.acceptRemove_of st _ q r.id hfr]
    dsimp only [MIdx.prepareRemove, MIdx.acceptAdd]
    rw [hgq]
    generalize acceptRemoveGroup (addrOf st) m.groups[q] r.id = rem at hm₂ ⊢
    obtain ⟨A', B', hAB⟩ := ListFacts.set_filterMap_split A B rem hqp
    rw [hsplit, hAB g] at hm₂
    rw [hAB]
    have hne : ∀ x ∈ ids (keepRows st (fun x => x != r.id)), x ≠ r.id ∧ (x != r.id) = true := fun x hx => by
      rw [ids_keepRows] at hx; exact ⟨by simpa using (mem_filter.mp hx).2, (mem_filter.mp hx).2⟩
    refine MInv_replace_raws acc hm₂ (keepRows_nodup hnd _)
      (fun x hx => (valsOf_setVals_other hnd hrn _ (hne x hx).1).trans (valsOf_keepRows st (fun x => x != r.id) (hne x hx).2).symm)
      (fun x hx => (addrOf_setVals hnd hrn _ x).trans (addrOf_keepRows st (fun x => x != r.id) (hne x hx).2).symm)
      (A := A') (B := B') (g := g) rfl _ [r.id]
      (by rw [ids_setVals hrn, ids_keepRows, ← hnd.erase_eq_filter]; exact (perm_cons_erase hrin).trans (perm_append_singleton _ _).symm)
      (Perm.append_right _ hS) ?_
      ((SegSorted_congr fun y _ => addrOf_setVals hnd hrn _ y).mpr (segSorted_pvAdd _ _ _ hndA hsA))
    intro x hx
    rw [mem_singleton.mp hx, valsOf_setVals_self hnd hrn, valsOf_setVals_other hnd hrn _ (fun e => hnot (e ▸ mem_cons_self)), keyEq_symm]
    exact hk
  · rw [MIdx.rejUpd_prepare, MIdx.rejUpd_of_kRem _ (by exact hm.noPos.2), MIdx.rejectAdd_pvAdded m hm.noPos.1]
    exact hrej

end colFound

/-- **the hypothesis the proof forces** (its failure is finding F9): in every index over the column in which the update
    has to add an entry (no row / no group has the new key), the lookup of the *old* key of the raw that follows
    (`PrepareRemove(raw)`) does not return the entry just added -/
def NoF9 (vis : Vis) (acc : Acc) (t : Table) (raw col v : Nat) : Prop :=
  (∀ u ∈ t.uidx, col ∈ u.cols → u.findMixed vis acc t.rows raw col v = none →
      (uAdded acc u raw (mixVals (valsOf t.rows raw) col v)).findRaw vis acc t.rows raw ≠ some u.ents.length) ∧
  (∀ m ∈ t.midx, col ∈ m.cols → m.findMixed vis acc t.rows raw col v = none →
      (mAddedNew acc m raw (mixVals (valsOf t.rows raw) col v)).findRaw vis acc t.rows raw ≠ some m.groups.length)

section colPass
variable {vis : Vis} (hc : Complete vis) (acc : Acc) {st : Store} (hnd : (ids st).Nodup) (hai : AddrInj st) {n : Nat} {r : Row}
  (hrn : st[n]? = some r) (col v : Nat) (hcol : col < r.vals.length) (hv : item r.vals col ≠ v)
include hc hnd hrn hcol hv

theorem uUpdColAll_step (f : Fault) (u : UIdx) (hu : UInv acc st u)
    (hF : col ∈ u.cols → u.findMixed vis acc st r.id col v = none →
      (uAdded acc u r.id (mixVals r.vals col v)).findRaw vis acc st r.id ≠ some u.ents.length) (j : Nat) (rest : List UIdx) :
    PassStep (uUpdColAll vis acc st r.id col v f) j u rest (fun u' => u = u'.rejectAdd.rejectRemove)
      (fun x => col ∈ u.cols ∧ ∃ row ∈ st, row.id = x ∧ x ≠ r.id ∧ keyEq u.cols (mixVals r.vals col v) row.vals = true)
      (fun u' => UInv acc (setVals st n (mixVals r.vals col v)) u'.acceptAdd.acceptRemove ∧
        (col ∈ u.cols → ∀ y ∈ st, keyEq u.cols (mixVals r.vals col v) y.vals = false)) (f ≠ .none) := by
  have hrmem : r ∈ st := mem_of_getElem? hrn
  by_cases hcc : col ∈ u.cols
  · have hcb : u.cols.contains col = true := by simpa using hcc
    have hfm : u.findMixed vis acc st r.id col v = u.find vis (hashVals acc u.cols (mixVals r.vals col v))
        (fun id => keyEq u.cols (mixVals r.vals col v) (valsOf st id)) := by
      unfold UIdx.findMixed; rw [valsOf_mem hnd hrmem]
    rcases UIdx.find_key hc acc hnd (st := st) (fun _ _ => rfl) u hu (mixVals r.vals col v)
      with ⟨x, hx, p, _, hid, hk, hf⟩ | ⟨hno, hf⟩
    · -- another row has the new key: refused
      have hxr : x.id ≠ r.id := by
        intro e
        have hxeq : x = r := row_eq_of_id_eq hnd hx hrmem e
        rw [hxeq, keyEq_iff] at hk
        have := hk col hcc
        rw [item_mixVals_same _ _ _ hcol] at this
        exact hv this.symm
      refine Or.inr (Or.inl ⟨u, x.id, ?_, (UIdx.rejectAddRemove_noPos u hu.noPos).symm, hcc, x, hx, rfl, hxr, hk⟩)
      rw [uUpdColAll, if_pos hcb, UIdx.addMixed, hfm, hf]
      dsimp only
      rw [hid]
      exact if_pos (by simpa using hxr)
    · by_cases hfl : f.hits j = true
      · refine Or.inl ⟨u, ?_, (UIdx.rejectAddRemove_noPos u hu.noPos).symm, Fault.ne_none_of_hits hfl⟩
        rw [uUpdColAll, if_pos hcb, UIdx.addMixed, hfm, hf]
        dsimp only
        rw [if_pos hfl]
      · obtain ⟨h1, h2⟩ := UIdx.updCol_new hc acc hnd hrn col v u hu hno (hF hcc (hfm.trans hf))
        refine Or.inr (Or.inr ⟨(uAdded acc u r.id (mixVals r.vals col v)).prepareRemove vis acc st r.id, ?_, h2.symm, h1,
          fun _ => hno⟩)
        rw [uUpdColAll, if_pos hcb, UIdx.addMixed, hfm, hf]
        dsimp only
        rw [if_neg hfl]
        dsimp only
        rw [if_neg (by simp : ¬ (r.id != r.id) = true), valsOf_mem hnd hrmem]; rfl
  · refine Or.inr (Or.inr ⟨u, ?_, (UIdx.rejectAddRemove_noPos u hu.noPos).symm, ?_, fun h => absurd h hcc⟩)
    · rw [uUpdColAll, if_neg (by simpa using hcc)]
    · rw [UIdx.acceptAddRemove_noPos u hu.noPos]
      exact .of_toM (MInv_cols_congr (hu.toM hnd) (ids_setVals hrn _) (valsOf_setVals_keyEq hnd hrn col v u.cols hcc) (addrOf_setVals hnd hrn _))

include hai

theorem mUpdColAll_step (f : Fault) (m : MIdx) (hm : MInv acc st m)
    (hF : col ∈ m.cols → m.findMixed vis acc st r.id col v = none →
      (mAddedNew acc m r.id (mixVals r.vals col v)).findRaw vis acc st r.id ≠ some m.groups.length) (j : Nat) (rest : List MIdx) :
    PassStep (mUpdColAll vis acc st r.id col v f) j m rest (fun m' => MEquiv m m'.rejUpd ∧ MInv acc st m'.rejUpd)
      (fun _ => False) (fun m' => MInv acc (setVals st n (mixVals r.vals col v)) (m'.accUpd st r.id))
      (f ≠ .none) := by
  by_cases hcc : col ∈ m.cols
  · have hcb : m.cols.contains col = true := by simpa using hcc
    rcases MIdx.addMixed_cases hc acc hnd hrn col v hcol hv m hm hcc with ⟨A, g, B, hsplit, hk, hnot, he⟩ | ⟨hno, hfm, he⟩
    · obtain ⟨h1, h2, h3⟩ := MIdx.updCol_found hc acc hnd hai hrn col v m hm hsplit hk hnot
      by_cases hf : f.hits j = true
      · refine Or.inl ⟨_, ?_, h3, Fault.ne_none_of_hits hf⟩
        rw [mUpdColAll, if_pos hcb, he, if_pos hf]
        exact if_neg (by simp)
      · refine Or.inr (Or.inr ⟨_, ?_, h2, h1⟩)
        rw [mUpdColAll, if_pos hcb, he, if_neg hf]
        exact if_pos rfl
    · by_cases hf : f.hits j = true
      · refine Or.inl ⟨m, ?_, hm.rejUpd_self, Fault.ne_none_of_hits hf⟩
        rw [mUpdColAll, if_pos hcb, he, if_pos hf]
        exact if_neg (by simp)
      · obtain ⟨h1, h2⟩ := MIdx.updCol_newgroup hc acc hnd hrn col v m hm (hm.members_addr_nodup hnd hai) hno (hF hcc hfm)
        refine Or.inr (Or.inr ⟨_, ?_, h2, h1⟩)
        rw [mUpdColAll, if_pos hcb, he, if_neg hf]
        exact if_pos rfl
  · refine Or.inr (Or.inr ⟨m, ?_, hm.rejUpd_self, ?_⟩)
    · rw [mUpdColAll, if_neg (by simpa using hcc)]
    · beta_reduce
      rw [MIdx.accUpd, MIdx.acceptAddRemove_noPos m hm.noPos st r.id]
      exact MInv_cols_congr hm (ids_setVals hrn _) (valsOf_setVals_keyEq hnd hrn col v m.cols hcc) (addrOf_setVals hnd hrn _)

end colPass

section tryUpdateCol
variable {vis : Vis} (hc : Complete vis) (acc : Acc) (keep : Bool)
include hc

omit hc in
theorem updateRawCol_eq_indexPass (t : Table) (st : Store) (raw col v : Nat) (f : Fault) :
    updateRawCol vis acc t st raw col v f = indexPass (uUpdColAll vis acc st raw col v f) (mUpdColAll vis acc st raw col v f)
      (fun u => u.acceptAdd.acceptRemove) (fun u => u.rejectAdd.rejectRemove) (fun m => m.accUpd st raw) MIdx.rejUpd t := rfl

theorem updateRawCol_spec (t : Table) (hinv : Inv acc keep t) (n : Nat) (r : Row) (hrn : t.rows[n]? = some r) (col v : Nat)
    (hcol : col < r.vals.length) (hv : item r.vals col ≠ v) (hF : NoF9 vis acc t r.id col v) (f : Fault) :
    match (updateRawCol vis acc t t.rows r.id col v f).2 with
    | .none => (∀ u ∈ (updateRawCol vis acc t t.rows r.id col v f).1.uidx, UInv acc (setVals t.rows n (mixVals r.vals col v)) u) ∧
               (∀ m ∈ (updateRawCol vis acc t t.rows r.id col v f).1.midx, MInv acc (setVals t.rows n (mixVals r.vals col v)) m) ∧
               (∀ u ∈ t.uidx, col ∈ u.cols → ∀ y ∈ t.rows, keyEq u.cols (mixVals r.vals col v) y.vals = false)
    | .dup x j => TEquiv t (updateRawCol vis acc t t.rows r.id col v f).1 ∧
               Inv acc keep (updateRawCol vis acc t t.rows r.id col v f).1 ∧
               ∃ u, t.uidx[j]? = some u ∧
                 (col ∈ u.cols ∧ ∃ row ∈ t.rows, row.id = x ∧ x ≠ r.id ∧ keyEq u.cols (mixVals r.vals col v) row.vals = true) ∧
                 ∀ i' u', i' < j → t.uidx[i']? = some u' →
                   col ∈ u'.cols → ∀ y ∈ t.rows, keyEq u'.cols (mixVals r.vals col v) y.vals = false
    | .fault => TEquiv t (updateRawCol vis acc t t.rows r.id col v f).1 ∧
               Inv acc keep (updateRawCol vis acc t t.rows r.id col v f).1 ∧ f ≠ .none := by
  obtain ⟨hF1, hF2⟩ := hF
  rw [valsOf_mem hinv.idsNodup (mem_of_getElem? hrn)] at hF1 hF2
  rw [updateRawCol_eq_indexPass]
  exact indexPass_spec acc keep hinv (setVals t.rows n (mixVals r.vals col v)) (uUpdColAll vis acc t.rows r.id col v f)
    (mUpdColAll vis acc t.rows r.id col v f) (fun u => u.acceptAdd.acceptRemove) (fun u => u.rejectAdd.rejectRemove)
    (fun m => m.accUpd t.rows r.id) MIdx.rejUpd
    (fun u x => col ∈ u.cols ∧ ∃ row ∈ t.rows, row.id = x ∧ x ≠ r.id ∧ keyEq u.cols (mixVals r.vals col v) row.vals = true)
    (fun u => col ∈ u.cols → ∀ y ∈ t.rows, keyEq u.cols (mixVals r.vals col v) y.vals = false) (f ≠ .none)
    (fun _ => rfl) (fun _ => rfl)
    (fun u hu => ⟨(UIdx.rejectAddRemove_noPos u (hinv.uinv u hu).noPos).symm,
      uUpdColAll_step hc acc hinv.idsNodup hrn col v hcol hv f u (hinv.uinv u hu) (hF1 u hu)⟩)
    (fun m hm => ⟨(MIdx.rejUpd_noPos m (hinv.minv m hm).noPos).symm,
      mUpdColAll_step hc acc hinv.idsNodup hinv.addrInj hrn col v hcol hv f m (hinv.minv m hm) (hF2 m hm)⟩)

theorem tryUpdateCol_partial (t : Table) (hinv : Inv acc keep t) (n col v : Nat) (f : Fault)
    (hcol : ∀ r, t.rows[n]? = some r → col < r.vals.length)
    (hF : ∀ r, t.rows[n]? = some r → NoF9 vis acc t r.id col v) :
    Inv acc keep (tryUpdateCol vis acc t n col v f).1 ∧
    match t.rows[n]? with
    | none => tryUpdateCol vis acc t n col v f = (t, .outOfRange)
    | some r =>
      match (tryUpdateCol vis acc t n col v f).2 with
      | .ok => (tryUpdateCol vis acc t n col v f).1.rows = setVals t.rows n (mixVals r.vals col v) ∧
               (item r.vals col ≠ v → ∀ u ∈ t.uidx, col ∈ u.cols → ∀ y ∈ t.rows, keyEq u.cols (mixVals r.vals col v) y.vals = false)
      | .dup x j => TEquiv t (tryUpdateCol vis acc t n col v f).1 ∧
               ∃ u row, t.uidx[j]? = some u ∧ col ∈ u.cols ∧ row ∈ t.rows ∧ row.id = x ∧ x ≠ r.id ∧
                 keyEq u.cols (mixVals r.vals col v) row.vals = true
      | .badAlloc => TEquiv t (tryUpdateCol vis acc t n col v f).1 ∧ f ≠ .none
      | .outOfRange => False := by
  unfold tryUpdateCol
  cases hrn : t.rows[n]? with
  | none => exact ⟨hinv, rfl⟩
  | some r =>
    simp only
    obtain ⟨hn, hrn'⟩ := List.getElem?_eq_some_iff.mp hrn
    have hcol' := hcol r hrn
    by_cases hv : item r.vals col = v
    · have hb : (item r.vals col == v) = true := by simpa using hv
      rw [if_pos hb]
      refine ⟨hinv, ?_, fun h => absurd hv h⟩
      -- nothing changes: the item has this value already
      have : mixVals r.vals col v = r.vals := by
        unfold mixVals
        unfold item at hv
        rw [getD_eq_getElem?_getD, getElem?_eq_getElem hcol'] at hv
        simp only [Option.getD_some] at hv
        rw [← hv, set_getElem_self]
      rw [this, setVals_eq hrn, ← hrn', set_getElem_self]
    · have hb : ¬ (item r.vals col == v) = true := by simpa using hv
      rw [if_neg hb]
      have h := updateRawCol_spec hc acc keep t hinv n r hrn col v hcol' hv (hF r hrn) f
      generalize updateRawCol vis acc t t.rows r.id col v f = res at h ⊢
      obtain ⟨t', s⟩ := res
      cases s with
      | none =>
        obtain ⟨hu, hm, hno⟩ := h
        refine ⟨?_, by rw [setVals_eq hrn], fun _ => hno⟩
        rw [← setVals_eq hrn]
        refine Inv_of_perm_rel (by rw [ids_setVals hrn]; exact hinv.idsNodup) (by unfold AddrInj; rw [addrs_setVals hrn]; exact hinv.addrInj)
          (Perm.refl _) (forall₂_rowRel_refl _) (fun hk => ?_) hu hm
        rw [setVals_eq hrn]
        exact nums_set (hinv.nums hk) n (x := { r with vals := mixVals r.vals col v }) (hinv.nums hk n r hrn)
      | dup x j =>
        obtain ⟨he, hi, u, hu, ⟨hcc, row, hrow, hid, hxr, hk⟩, _⟩ := h
        exact ⟨hi, he, u, row, hu, hcc, hrow, hid, hxr, hk⟩
      | fault => exact ⟨h.2.1, h.1, h.2.2⟩

end tryUpdateCol
end Momo.Table
