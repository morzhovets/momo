import Momo.Proof.PoolAny
import Momo.Proof.PoolDll
/-!
  State machine of `MemPool` (C09), `blockCount > 1`: the operations that move or return whole buffers -
  `pvDeleteBuffer`, the two loops of `DeallocateAll`, the destructor, `MergeFrom`.
-/
namespace Momo.Pool

/-- what the buffer-deleting loops need and keep: the first three fields of `CoreWF` (`CoreWF.listsWF`). The second loop
    of `DeallocateAll` puts buffers with free blocks before the head, so `preFull` does not survive it. -/
structure ListsWF (P : Params) (p : Pool) : Prop where
  bufwf : ∀ b ∈ p.store, BufWF P b
  nodup : (bufs p.store).Nodup
  lists : (p.pre ++ p.post).Perm (bufs p.store)

theorem CoreWF.listsWF {P : Params} {p : Pool} (h : CoreWF P p) : ListsWF P p := ⟨h.bufwf, h.nodup, h.lists⟩

theorem ListsWF.store_nil {P : Params} {p : Pool} (h : ListsWF P p) (hpre : p.pre = []) (hpost : p.post = []) :
    p.store = [] := by
  have := h.lists.length_eq
  rw [hpre, hpost, bufs, List.length_map] at this
  exact List.eq_nil_of_length_eq_zero this.symm

theorem CoreWF.store_nil_of_post_nil {P : Params} {p : Pool} (h : CoreWF P p) (hpost : p.post = []) :
    p.store = [] ∧ p.pre = [] :=
  ⟨h.listsWF.store_nil (h.headNull hpost) hpost, h.headNull hpost⟩

theorem PoolWF.eq_empty {P : Params} {p : Pool} (h : PoolWF P p) (hpost : p.post = []) : p = Pool.empty := by
  obtain ⟨hst, hpre⟩ := h.core.store_nil_of_post_nil hpost
  have hT : p.taken P = [] := by rw [Pool.taken, hst]; rfl
  have hc : p.cache = [] := List.eq_nil_iff_forall_not_mem.mpr fun c hc => List.not_mem_nil (hT ▸ h.cacheTaken c hc)
  have ha : p.allocCount = 0 := by have := h.count; rwa [hT, hc] at this
  have hsg := h.singlesNil
  cases p; simp only at hst hpre hpost hc ha hsg; rw [hst, hpre, hpost, hc, ha, hsg]; rfl

/-- `pvDeleteBuffer` (640-652) on the buffer just before the head -/
theorem deleteBuffer_pre {P : Params} {k : Int} (hM : Multi P k) (hA2 : P.A ≤ 1024) {p : Pool} (h : ListsWF P p)
    {a : Int} {t : List Int} (hpre : p.pre = a :: t) :
    ∃ evs, deleteBuffer P p a = .ok () { p with store := dropBuf p.store a, pre := t } evs ∧
      ListsWF P { p with store := dropBuf p.store a, pre := t } ∧
      Frees (owned P p.store) evs (owned P (dropBuf p.store a)) := by
  have ha : a ∈ p.pre := hpre ▸ List.mem_cons_self
  obtain ⟨b, hb, rfl⟩ := List.mem_map.mp (h.lists.subset (List.mem_append_left _ ha))
  have hmid := bufs_dropBuf hb h.nodup
  have hap : b.buf ∉ p.post := fun hm =>
    (List.nodup_append.mp (h.lists.nodup_iff.mpr h.nodup)).2.2 _ ha _ hm rfl
  refine ⟨[.free b.base P.bufferSize], ?_, ⟨fun x hx => h.bufwf x (List.mem_of_mem_filter hx),
    (List.nodup_cons.mp (hmid.nodup_iff.mp h.nodup)).2, ?_⟩, Frees.one (owned_dropBuf hb h.nodup)⟩
  · unfold deleteBuffer
    rw [getBuf_of_mem hb h.nodup]; simp only
    rw [if_neg fun e => hap (List.mem_of_head? e), (h.bufwf b hb).begin_eq hM hA2, hpre, List.erase_cons_head,
      List.erase_of_not_mem hap]
  · show (t ++ p.post).Perm _
    have := h.lists; rw [hpre] at this
    exact (List.perm_cons _).mp (this.trans hmid)

/-- first loop of `DeallocateAll` (342-348) -/
theorem deleteAllPre_ok {P : Params} {k : Int} (hM : Multi P k) (hA2 : P.A ≤ 1024) :
    ∀ (fuel : Nat) (p : Pool), ListsWF P p → p.pre.length ≤ fuel →
    ∃ p' evs, deleteAllPre P fuel p = .ok () p' evs ∧ ListsWF P p' ∧ p'.pre = [] ∧ p'.post = p.post ∧
      p'.cache = p.cache ∧ p'.allocCount = p.allocCount ∧ p'.singles = p.singles ∧
      Frees (owned P p.store) evs (owned P p'.store) := by
  intro fuel
  induction fuel with
  | zero =>
    intro p h hl
    exact ⟨p, [], rfl, h, List.eq_nil_of_length_eq_zero (Nat.le_zero.mp hl), rfl, rfl, rfl, rfl, Frees.nil (List.Perm.refl _)⟩
  | succ f ih =>
    intro p h hl
    cases hpre : p.pre with
    | nil => exact ⟨p, [], by simp [deleteAllPre, hpre], h, hpre, rfl, rfl, rfl, rfl, Frees.nil (List.Perm.refl _)⟩
    | cons a t =>
      obtain ⟨e1, hd1, hwf1, hl1⟩ := deleteBuffer_pre hM hA2 h hpre
      obtain ⟨p2, e2, hd2, hwf2, hp2, hq2, hc2, ha2, hs2, hl2⟩ := ih _ hwf1
        (by show t.length ≤ f; rw [hpre] at hl; exact Nat.le_of_succ_le_succ hl)
      exact ⟨p2, e1 ++ e2, by simp only [deleteAllPre, hpre, hd1, Outcome.bind, hd2], hwf2, hp2, hq2, hc2, ha2, hs2,
        hl1.trans hl2⟩

/-- second loop of `DeallocateAll` (349-354): each buffer is first made the one before the head -/
theorem deleteAllPost_ok {P : Params} {k : Int} (hM : Multi P k) (hA2 : P.A ≤ 1024) :
    ∀ (fuel : Nat) (p : Pool), ListsWF P p → p.pre = [] → p.post.length ≤ fuel →
    ∃ p' evs, deleteAllPost P fuel p = .ok () p' evs ∧ ListsWF P p' ∧ p'.pre = [] ∧ p'.post = [] ∧
      p'.cache = p.cache ∧ p'.allocCount = p.allocCount ∧ p'.singles = p.singles ∧
      Frees (owned P p.store) evs (owned P p'.store) := by
  intro fuel
  induction fuel with
  | zero =>
    intro p h hp hl
    exact ⟨p, [], rfl, h, hp, List.eq_nil_of_length_eq_zero (Nat.le_zero.mp hl), rfl, rfl, rfl, Frees.nil (List.Perm.refl _)⟩
  | succ f ih =>
    intro p h hp hl
    cases hpost : p.post with
    | nil => exact ⟨p, [], by simp [deleteAllPost, hpost], h, hp, hpost, rfl, rfl, rfl, Frees.nil (List.Perm.refl _)⟩
    | cons a rest =>
      have hmid : ListsWF P { p with pre := [a], post := rest } :=
        ⟨h.bufwf, h.nodup, by have := h.lists; rwa [hp, hpost] at this⟩
      obtain ⟨e1, hd1, hwf1, hl1⟩ := deleteBuffer_pre hM hA2 hmid (t := []) rfl
      obtain ⟨p2, e2, hd2, hwf2, hp2, hq2, hc2, ha2, hs2, hl2⟩ := ih _ hwf1 rfl
        (by show rest.length ≤ f; rw [hpost] at hl; exact Nat.le_of_succ_le_succ hl)
      exact ⟨p2, e1 ++ e2, by simp only [deleteAllPost, hpost, hp, hd1, Outcome.bind, hd2], hwf2, hp2, hq2, hc2, ha2, hs2,
        hl1.trans hl2⟩

/-- `DeallocateAll` (337-358) -/
theorem deallocateAll_ok {P : Params} {k : Int} (hM : Multi P k) (hN2 : 2 ≤ P.N) (hA2 : P.A ≤ 1024) {p : Pool}
    (h : PoolWF P p) :
    ∃ p' evs, deallocateAll P p = .ok () p' evs ∧ p' = Pool.empty ∧ Frees (owned P p.store) evs [] := by
  unfold deallocateAll
  rw [if_neg (by omega)]
  cases hpost : p.post with
  | nil =>
    have he := h.eq_empty hpost
    exact ⟨p, [], rfl, he, by rw [he]; exact Frees.nil (List.Perm.refl _)⟩
  | cons a rest =>
    simp only
    obtain ⟨p1, e1, hd1, hwf1, hp1, _, _, _, hs1, hl1⟩ := deleteAllPre_ok hM hA2 p.pre.length p h.core.listsWF (Nat.le_refl _)
    obtain ⟨p2, e2, hd2, hwf2, hp2, hq2, _, _, hs2, hl2⟩ := deleteAllPost_ok hM hA2 p1.post.length p1 hwf1 hp1 (Nat.le_refl _)
    have hst := hwf2.store_nil hp2 hq2
    refine ⟨{ p2 with allocCount := 0, cache := [] }, e1 ++ (e2 ++ []), ?_, ?_, ?_⟩
    · simp only [hd1, Outcome.bind, hd2]
    · have hsg : p2.singles = [] := (hs2.trans hs1).trans h.singlesNil
      cases p2; simp only [Pool.empty] at *; simp [hst, hp2, hq2, hsg]
    · have := hl1.trans hl2; rw [hst] at this; rw [List.append_nil]; exact this

/-- `~MemPool` (227-234), `blockCount > 1` -/
theorem destroy_ok {P : Params} {k : Int} (hM : Multi P k) (hN2 : 2 ≤ P.N) (hA2 : P.A ≤ 1024) {p : Pool}
    (h : PoolWF P p) (h0 : p.allocCount = 0) :
    ∃ evs, destroy P p = .ok () Pool.empty evs ∧ Frees (owned P p.store) evs [] := by
  obtain ⟨p', evs, hd, he, hl⟩ := deallocateAll_ok hM hN2 hA2 h
  refine ⟨evs, ?_, hl⟩
  unfold destroy
  rw [if_neg (by simpa using h0), if_pos (by omega), hd, he]

theorem CoreWF.union {P : Params} {a b : Pool} (ha : CoreWF P a) (hb : CoreWF P b)
    (hdis : ∀ x ∈ bufs a.store, x ∉ bufs b.store) (pre' post' : List Int)
    (hperm : (pre' ++ post').Perm ((a.pre ++ a.post) ++ (b.pre ++ b.post)))
    (hpre : ∀ x ∈ pre', x ∈ a.pre ∨ x ∈ b.pre) (hpost : ∀ x ∈ post', x ∈ a.post ∨ x ∈ b.post)
    (hnull : post' = [] → pre' = []) :
    CoreWF P { a with store := a.store ++ b.store, pre := pre', post := post' } := by
  have hAl : ∀ x, x ∈ a.pre ∨ x ∈ a.post → x ∈ bufs a.store := fun x hx =>
    ha.lists.subset (List.mem_append.mpr hx)
  have hBl : ∀ x, x ∈ b.pre ∨ x ∈ b.post → x ∈ bufs b.store := fun x hx =>
    hb.lists.subset (List.mem_append.mpr hx)
  -- each clause about the store: the buffers of `a`, and those of `b`; a buffer of one pool is in no list of the other
  refine ⟨List.forall_mem_append.mpr ⟨ha.bufwf, hb.bufwf⟩, ?_, ?_,
    List.forall_mem_append.mpr
      ⟨fun c hc hcp => (hpre _ hcp).elim (ha.preFull c hc) fun hp => absurd (hBl _ (Or.inl hp)) (hdis _ (List.mem_map_of_mem hc)),
       fun c hc hcp => (hpre _ hcp).elim (fun hp => absurd (List.mem_map_of_mem hc) (hdis _ (hAl _ (Or.inl hp)))) (hb.preFull c hc)⟩,
    List.forall_mem_append.mpr
      ⟨fun c hc hcp => (hpost _ hcp).elim (ha.postFree c hc) fun hp => absurd (hBl _ (Or.inr hp)) (hdis _ (List.mem_map_of_mem hc)),
       fun c hc hcp => (hpost _ hcp).elim (fun hp => absurd (List.mem_map_of_mem hc) (hdis _ (hAl _ (Or.inr hp)))) (hb.postFree c hc)⟩,
    hnull⟩
  · simp only [bufs, List.map_append]
    exact List.nodup_append.mpr ⟨ha.nodup, hb.nodup, fun x hx y hy e => hdis x hx (e ▸ hy)⟩
  · simp only [bufs, List.map_append]
    exact hperm.trans (List.Perm.append ha.lists hb.lists)

/-- `MergeFrom` (386-435), `blockCount > 1` -/
theorem mergeFrom_ok {P : Params} {k : Int} (hM : Multi P k) (hN2 : 2 ≤ P.N) (hA2 : P.A ≤ 1024) {a b : Pool}
    (ha : PoolWF P a) (hb : PoolWF P b) (hdis : ∀ x ∈ bufs a.store, x ∉ bufs b.store) :
    ∃ a' evs, mergeFrom P a b = .ok Pool.empty a' evs ∧ PoolWF P a' ∧
      (a'.live P).Perm (a.live P ++ b.live P) ∧ a'.allocCount = a.allocCount + b.allocCount ∧
      Frees (owned P (a.store ++ b.store)) evs (owned P a'.store) := by
  obtain ⟨b1, evs, hfe, hb1, hc1, hlive1, hac1, hl1, _, hsub1⟩ := flushIf_any (hM.kind hN2 hA2) (hb.any hN2)
  replace hb1 := hb1.poolWF hN2
  rw [held_multi hN2, held_multi hN2] at hl1
  have hdis1 : ∀ x ∈ bufs a.store, x ∉ bufs b1.store := fun x hx hm => hdis x hx (hsub1 x hm)
  have hok1 : CacheOK (b1.taken P) [] b1.allocCount := hc1 ▸ hb1.cacheOK
  have hledger : Frees (owned P (a.store ++ b.store)) (evs ++ []) (owned P (a.store ++ b1.store)) := by
    simpa [owned] using hl1.frame (owned P a.store)
  unfold mergeFrom
  rw [hfe]; simp only [Outcome.bind]
  -- the receiving pool takes over the buffers of `b1`, with its two lists rearranged to `pre'`, `post'`
  have hmain : ∀ (pre' post' : List Int),
      (pre' ++ post').Perm ((a.pre ++ a.post) ++ (b1.pre ++ b1.post)) →
      (∀ x ∈ pre', x ∈ a.pre ∨ x ∈ b1.pre) → (∀ x ∈ post', x ∈ a.post ∨ x ∈ b1.post) → (post' = [] → pre' = []) →
      PoolWF P { a with allocCount := a.allocCount + b1.allocCount, store := a.store ++ b1.store, pre := pre', post := post' } ∧
      (({ a with allocCount := a.allocCount + b1.allocCount, store := a.store ++ b1.store, pre := pre', post := post' } : Pool).live P).Perm
        (a.live P ++ b.live P) := by
    intro pre' post' h1 h2 h3 h4
    have hcore := ha.core.union hb1.core hdis1 pre' post' h1 h2 h3 h4
    have hT : ({ a with allocCount := a.allocCount + b1.allocCount, store := a.store ++ b1.store, pre := pre', post := post' } : Pool).taken P
        = a.taken P ++ b1.taken P := by simp [Pool.taken, List.flatMap_append]
    -- blocks of different buffers differ: the union is a well-formed store
    have hnd : (a.taken P ++ b1.taken P).Nodup := by rw [← hT]; exact (hcore.congr rfl rfl rfl).taken_nodup hM
    obtain ⟨hok, hfil⟩ := ha.cacheOK.absorb hok1 fun x hx hx' => (List.nodup_append.mp hnd).2.2 x hx x hx' rfl
    refine ⟨⟨hcore.congr rfl rfl rfl, hok.nodup, by rw [hT]; exact hok.sub, ha.cacheOff, by rw [hT]; exact hok.count,
      ha.singlesNil⟩, ?_⟩
    rw [live_eq hN2, hT, hfil, live_eq hN2 a, ← live_of_cache_nil hN2 hc1]
    exact hlive1.symm.append_left _
  cases hbp : b1.post with
  | nil =>
    -- nothing to take over
    obtain ⟨hst, hpre⟩ := hb1.core.store_nil_of_post_nil hbp
    obtain ⟨hwf, hlv⟩ := hmain a.pre a.post (by rw [hpre, hbp]; simp) (fun x hx => Or.inl hx) (fun x hx => Or.inl hx)
      ha.core.headNull
    have hres : ({ a with allocCount := a.allocCount + b1.allocCount, singles := a.singles ++ b1.singles } : Pool) =
        { a with allocCount := a.allocCount + b1.allocCount, store := a.store ++ b1.store, pre := a.pre, post := a.post } := by
      rw [hst, ha.singlesNil, hb1.singlesNil, List.append_nil, List.append_nil]
    have hbe : ({ store := b1.store, pre := b1.pre, post := [], cache := b1.cache, allocCount := 0, singles := [] } : Pool)
        = Pool.empty := by simp [Pool.empty, hst, hpre, hc1]
    simp only
    rw [hbe, hres]
    exact ⟨_, evs ++ [], rfl, hwf, hlv, by show a.allocCount + b1.allocCount = _; rw [hac1], hledger⟩
  | cons bh brest =>
    simp only
    have hbe : ({ b1 with allocCount := 0, store := [], pre := [], post := [] } : Pool) = Pool.empty := by
      rw [show b1.cache = [] from hc1, hb1.singlesNil]; rfl
    cases hap : a.post with
    | nil =>
      obtain ⟨_, hprea⟩ := ha.core.store_nil_of_post_nil hap
      simp only
      obtain ⟨hwf, hlv⟩ := hmain b1.pre b1.post (by rw [hprea, hap]; simp)
        (fun x hx => Or.inr hx) (fun x hx => Or.inr hx) hb1.core.headNull
      rw [hbp] at hwf hlv
      exact ⟨_, evs ++ [], by rw [hbe], hwf, hlv, by show a.allocCount + b1.allocCount = _; rw [hac1], hledger⟩
    | cons ah arest =>
      simp only
      obtain ⟨hwf, hlv⟩ := hmain (mergeMoveFull b1.pre a.pre) (a.post ++ b1.post)
        (by rw [mergeMoveFull_eq]
            have e1 : (b1.pre.reverse ++ a.pre ++ (a.post ++ b1.post)).Perm (b1.pre ++ (a.pre ++ a.post) ++ b1.post) := by
              simp only [List.append_assoc]
              exact List.Perm.append_right _ (List.reverse_perm _)
            refine e1.trans ?_
            simp only [List.append_assoc]
            exact (List.perm_append_comm_assoc _ _ _).trans
              (List.Perm.append_left _ (List.perm_append_comm_assoc _ _ _)))
        (fun x hx => (List.mem_append.mp (mergeMoveFull_eq _ _ ▸ hx)).symm.imp_right List.mem_reverse.mp)
        (fun x hx => by simpa using hx)
        (fun e => by rw [hap] at e; simp at e)
      rw [hap, hbp] at hwf hlv
      exact ⟨_, evs ++ [], by rw [hbe], hwf, hlv, by show a.allocCount + b1.allocCount = _; rw [hac1], hledger⟩

end Momo.Pool
