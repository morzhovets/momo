import Momo.Proof.HTLedgerOps
/-!
  C03 / C04 for the hash family: constructors, `MergeTo`, and the system of two containers and a node handle -
  every history under every fault schedule keeps the verified monitor on the books, and the end of the history leaves it
  empty; a strongly exception-safe operation that exits with an exception leaves A, B and the handle as they were.

  `SysOK.frameA`, `frameB`, `ofA`, `ofB`, …: the container an operation works on in front, the rest as frame; `step_post :
  StepPost …` is the one analysis of `step`, `step_ok` and `step_strong` are its two fields.
-/
namespace Momo.HTL
open Momo Momo.HT Momo.Ledger

/-- what a constructor does to the ledger, by result: none and the ledger as it was, or a container whose books the ledger holds
    beside the frame ("a constructor that fails leaves nothing allocated and nothing constructed") -/
def CtorPost (cfg : Cfg) (FB : List Blk) (FE : List Nat) : Option St × W → Prop
  | (none, w') => Led w' FB FE
  | (some st', w') => Led w' (st'.blocks cfg ++ FB) (st'.elems ++ FE) ∧ BooksOK st'

theorem newL_cases (cfg : Cfg) (f : Flt) (w : W) :
    newL cfg f w = (none, w) ∨ ∃ c w', newL cfg f w = (some { crew := c }, w') ∧
      ∀ FB FE, Led w FB FE → Led w' (({ crew := c } : St).blocks cfg ++ FB) (({ crew := c } : St).elems ++ FE) := by
  unfold newL
  by_cases c1 : cfg.csz = 0
  · rw [if_pos c1]; exact Or.inr ⟨none, w, rfl, fun _ _ h => h⟩
  rw [if_neg c1]
  by_cases c2 : f.crew = true
  · rw [if_pos c2]; exact Or.inl rfl
  · rw [if_neg c2]; exact Or.inr ⟨some _, _, rfl, fun _ _ h => h.alloc cfg.mgr cfg.csz⟩

theorem newL_led (cfg : Cfg) (f : Flt) (w : W) (FB : List Blk) (FE : List Nat) (h : Led w FB FE) :
    CtorPost cfg FB FE (newL cfg f w) := by
  rcases newL_cases cfg f w with h0 | ⟨c, w', h0, hw⟩
  · rw [h0]; exact h
  · rw [h0]; exact ⟨hw _ _ h, rfl, fun _ => ⟨rfl, rfl, rfl⟩⟩

theorem newL_getD_led (cfg : Cfg) (f : Flt) (w : W) (FB : List Blk) (FE : List Nat) (h : Led w FB FE) :
    Led (newL cfg f w).2 (((newL cfg f w).1.getD {}).blocks cfg ++ FB) (((newL cfg f w).1.getD {}).elems ++ FE) ∧
    BooksOK ((newL cfg f w).1.getD {}) := by
  rcases newL_cases cfg f w with h0 | ⟨c, w', h0, hw⟩
  · rw [h0]; exact ⟨h, BooksOK.init⟩
  · rw [h0]; exact ⟨hw _ _ h, rfl, fun _ => ⟨rfl, rfl, rfl⟩⟩

theorem copyItems_led (cfg : Cfg) (hf : Nat → Nat) (src : Els) (B : List Blk) (FE : List Nat)
    (hsrc : ∀ k e, lookE src k = some e → e ∈ FE) (items : List Item) (g : Gen) (els : Els) (w : W) :
    Led w B (els.map Prod.snd ++ FE) →
      Led (copyItems cfg hf src items g els w).2.2 B ((copyItems cfg hf src items g els w).2.1.map Prod.snd ++ FE) := by
  -- arms: 1 no item left; 2 copied from the source's object; 3 no object on the source's books: constructed; 4 the bucket is full
  fun_induction copyItems cfg hf src items g els w with
  | case1 => exact id
  | case2 _ _ _ _ _ _ _ e hl _ ih => exact fun h => ih (h.copy (src := e) (List.mem_append_right _ (hsrc _ _ hl)))
  | case3 _ _ _ _ _ _ _ _ _ ih => exact fun h => ih h.ctor
  | case4 _ _ _ _ _ _ ih => exact ih

/-- `fail`: a failure at any stage (crew block, bucket array, `BucketParams`, any item), in a world where everything obtained
    has been given back -/
theorem copyL_elim (cfg : Cfg) (hf : Nat → Nat) (src : St) (f : Flt) (w : W) {P : Option St × W → Prop}
    (fail : ∀ w', (∀ FB FE, (∀ k e, lookE src.els k = some e → e ∈ FE) → Led w FB FE → Led w' FB FE) → P (none, w'))
    (empty : ∀ c w', (src.t.count == 0) = true →
      (∀ FB FE, Led w FB FE → Led w' (({ crew := c } : St).blocks cfg ++ FB) (({ crew := c } : St).elems ++ FE)) →
      P (some { crew := c }, w'))
    (full : ∀ c a p w2 L r, (src.t.count == 0) = false → L = copyOf.pick cfg.sp src.t 64 cfg.sp.logStart →
      r = copyItems cfg hf src.els (HT.traverse src.t) (emptyGen cfg.sp L) [] w2 →
      (∀ FB FE, (∀ k e, lookE src.els k = some e → e ∈ FE) → Led w FB FE →
        Led r.2.2 (({ crew := c, t := ⟨[r.1], src.t.count, capacityOf cfg.sp L⟩, arrs := [(a, cfg.arrSize L)],
                      params := some p, els := r.2.1 } : St).blocks cfg ++ FB) (r.2.1.map Prod.snd ++ FE)) →
      P (some { crew := c, t := ⟨[r.1], src.t.count, capacityOf cfg.sp L⟩, arrs := [(a, cfg.arrSize L)],
                params := some p, els := r.2.1 }, r.2.2)) :
    P (copyL cfg hf src f w) := by
  unfold copyL
  rcases newL_cases cfg f w with h0 | ⟨c, w0, h0, hw0⟩
  · rw [h0]; exact fail w (fun _ _ _ h => h)
  rw [h0]
  simp only []
  have undo : ∀ w1, (∀ FB FE, Led w FB FE → Led w1 (({ crew := c } : St).blocks cfg ++ FB) (({ crew := c } : St).elems ++ FE)) →
      ∀ FB FE, Led w FB FE → Led (destroyL cfg { crew := c } w1) FB FE :=
    fun w1 h1 FB FE h => destroyL_led cfg _ w1 FB FE (fun _ => ⟨rfl, rfl, rfl⟩) (h1 _ _ h)
  by_cases c1 : (src.t.count == 0) = true
  · rw [if_pos c1]; exact empty c w0 c1 hw0
  rw [if_neg c1]
  by_cases c2 : f.grow = true
  · rw [if_pos c2]; exact fail _ (fun FB FE _ => undo w0 hw0 FB FE)
  rw [if_neg c2]
  by_cases c3 : f.params = true
  · rw [if_pos c3]; exact fail _ (fun FB FE _ => undo _ (fun FB FE h => (hw0 _ _ h).alloc_free _ _) FB FE)
  rw [if_neg c3]
  generalize copyOf.pick cfg.sp src.t 64 cfg.sp.logStart = L at full ⊢
  have main : ∀ (items : List Item) (T : Table) r,
      r = copyItems cfg hf src.els items (emptyGen cfg.sp L) [] ((w0.allocB cfg.mgr (cfg.arrSize L)).2.allocB cfg.mgr cfg.psz).2 →
      ∀ FB FE, (∀ k e, lookE src.els k = some e → e ∈ FE) → Led w FB FE →
        Led r.2.2 (({ crew := c, t := T, arrs := [((w0.allocB cfg.mgr (cfg.arrSize L)).1, cfg.arrSize L)],
                      params := some ((w0.allocB cfg.mgr (cfg.arrSize L)).2.allocB cfg.mgr cfg.psz).1,
                      els := r.2.1 } : St).blocks cfg ++ FB) (r.2.1.map Prod.snd ++ FE) := by
    intro items T r hr FB FE hs h
    subst hr
    refine (copyItems_led cfg hf src.els _ FE hs items (emptyGen cfg.sp L) [] _
      (((hw0 _ _ h).alloc cfg.mgr (cfg.arrSize L)).alloc cfg.mgr cfg.psz)).permB ?_
    cases c with
    | none => exact List.Perm.refl _
    | some x => exact List.perm_middle (l₁ := [_, _])
  cases hcs : f.copyStop with
  | none => exact full c _ _ _ L _ (by simpa using c1) rfl rfl (main _ _ _ rfl)
  | some n => exact fail _ (fun FB FE hs h => destroyL_led cfg _ _ FB FE (fun hc => nomatch hc) (main _ _ _ rfl FB FE hs h))

theorem copyL_led (cfg : Cfg) (hf : Nat → Nat) (src : St) (f : Flt) (w : W) (FB : List Blk) (FE : List Nat)
    (hsrc : ∀ k e, lookE src.els k = some e → e ∈ FE) (h : Led w FB FE) :
    CtorPost cfg FB FE (copyL cfg hf src f w) :=
  copyL_elim cfg hf src f w (fun _ hw => hw FB FE hsrc h) (fun _ _ _ hw => ⟨hw FB FE h, rfl, fun _ => ⟨rfl, rfl, rfl⟩⟩)
    (fun _ _ _ _ _ _ _ _ _ hw => ⟨hw FB FE hsrc h, rfl, fun hc => nomatch hc⟩)

/-- the frame form of a merge; `step_post` (arm `mergeTo`) enters it from `SysOK` with the handle as frame -/
structure Led2 (cfg : Cfg) (src dst : St) (w : W) (FB : List Blk) (FE : List Nat) : Prop where
  led : Led w (src.blocks cfg ++ dst.blocks cfg ++ FB) (src.elems ++ dst.elems ++ FE)
  bs : BooksOK src
  bd : BooksOK dst

theorem mergeStepL_led (cfg : Cfg) (hf : Nat → Nat) (src dst : St) (gi b j : Nat) (f : Flt) (w : W) (FB : List Blk)
    (FE : List Nat) (h : Led2 cfg src dst w FB FE) :
    Led2 cfg (mergeStepL cfg hf src dst gi b j f w).1 (mergeStepL cfg hf src dst gi b j f w).2.1
      (mergeStepL cfg hf src dst gi b j f w).2.2.1 FB FE := by
  -- the destination makes room, with the source as its frame
  have hp := fun x => addPrepL_led cfg hf dst x (extractAtL cfg src gi b j f w).2.2.isNone f w (src.blocks cfg ++ FB)
    (src.elems ++ dst.elems ++ FE) h.bd (h.led.permB (ListFacts.perm_seg_front _ _ _))
  -- arms: 1 no item at the position; 2 a functor throws; 3 the key is in the destination; 4 the destination cannot make room;
  -- 5 moved; 6 the extraction throws
  fun_cases mergeStepL cfg hf src dst gi b j f w with
  | case1 | case2 | case3 | case6 => exact h
  | case4 x _ _ _ dst1 w1 out hprep =>
    obtain ⟨rfl, p2, _⟩ := hprep ▸ hp x
    exact ⟨p2.permB (ListFacts.perm_seg_front _ _ _).symm, h.bs, h.bd⟩
  | case5 x _ _ _ dst1 w1 hprep src1 w2 e hext =>
    obtain ⟨p1, p2, p5, p6⟩ := hprep ▸ hp x
    have he := extractAtL_led cfg src gi b j f w1 (dst1.blocks cfg ++ FB) (dst1.els.map Prod.snd ++ FE) h.bs
      (p1.perm (List.perm_append_comm_assoc _ _ _) (by rw [p2]; exact List.Perm.of_eq (List.append_assoc _ _ _)))
    rw [hext] at he
    -- the destination has made room, the object is in the handle: it goes on the destination's books
    obtain ⟨q1, q2⟩ := finishL_led cfg hf { dst1 with els := (x.key, e) :: dst1.els } f w2 (src1.blocks cfg ++ FB)
      (src1.elems ++ FE) (p5 _) p6
      ((he.2 e rfl).1.perm (List.perm_append_comm_assoc _ _ _)
        (List.perm_middle.trans ((List.perm_append_comm_assoc _ _ _).cons _)))
    exact ⟨q1.perm (ListFacts.perm_seg_front _ _ _).symm (ListFacts.perm_seg_front _ _ _).symm, (he.2 e rfl).2, q2⟩

theorem mergeGo_led (cfg : Cfg) (hf : Nat → Nat) (f : Nat → Flt) (FB : List Blk) (FE : List Nat) :
    ∀ (ps : List (Nat × Nat × Nat)) (src dst : St) (w : W) (n : Nat), Led2 cfg src dst w FB FE →
      Led2 cfg (mergeGo cfg hf f ps src dst w n).1 (mergeGo cfg hf f ps src dst w n).2.1
        (mergeGo cfg hf f ps src dst w n).2.2.1 FB FE := by
  intro ps
  induction ps with
  | nil => intro src dst w n h; exact h
  | cons p r ih =>
    intro src dst w n h
    obtain ⟨gi, b, j⟩ := p
    simp only [mergeGo]
    have hs := mergeStepL_led cfg hf src dst gi b j (f n) w FB FE h
    generalize mergeStepL cfg hf src dst gi b j (f n) w = q at hs ⊢
    obtain ⟨src1, dst1, w1, moved, threw⟩ := q
    cases threw with
    | true => exact hs
    | false => exact ih _ _ _ _ hs

structure SysOK (cfg : Cfg) (s : Sys) : Prop where
  led : Led s.w (s.blocks cfg) s.elems
  a : BooksOK s.a
  b : BooksOK s.b

theorem SysOK.frameA {cfg : Cfg} {s : Sys} (h : SysOK cfg s) :
    Led s.w (s.a.blocks cfg ++ s.b.blocks cfg) (s.a.elems ++ (s.b.elems ++ (optL s.h).map Prod.snd)) := by
  have := h.led
  unfold Sys.blocks Sys.elems at this
  rwa [List.append_assoc] at this

theorem SysOK.frameB {cfg : Cfg} {s : Sys} (h : SysOK cfg s) :
    Led s.w (s.b.blocks cfg ++ s.a.blocks cfg) (s.b.elems ++ (s.a.elems ++ (optL s.h).map Prod.snd)) :=
  h.frameA.perm List.perm_append_comm (List.perm_append_comm_assoc _ _ _)

theorem SysOK.ofA {cfg : Cfg} {s : Sys} {a' : St} {w' : W} {o : Option (Item × Nat)}
    (hl : Led w' (a'.blocks cfg ++ s.b.blocks cfg) (a'.elems ++ (s.b.elems ++ (optL o).map Prod.snd))) (ha : BooksOK a')
    (hb : BooksOK s.b) : SysOK cfg { s with a := a', w := w', h := o } := by
  refine ⟨?_, ha, hb⟩
  unfold Sys.blocks Sys.elems
  rw [List.append_assoc]
  exact hl

theorem SysOK.ofB {cfg : Cfg} {s : Sys} {b' : St} {w' : W}
    (hl : Led w' (b'.blocks cfg ++ s.a.blocks cfg) (b'.elems ++ (s.a.elems ++ (optL s.h).map Prod.snd))) (ha : BooksOK s.a)
    (hb : BooksOK b') : SysOK cfg { s with b := b', w := w' } :=
  ⟨hl.perm List.perm_append_comm ((List.perm_append_comm_assoc _ _ _).trans (List.Perm.of_eq (List.append_assoc _ _ _).symm)), ha, hb⟩

theorem SysOK.frameA_none {cfg : Cfg} {s : Sys} (h : SysOK cfg s) (hh : s.h = none) :
    Led s.w (s.a.blocks cfg ++ s.b.blocks cfg) (s.a.elems ++ s.b.elems) := by
  have := h.frameA
  rwa [hh, optL, List.map_nil, List.append_nil] at this

theorem SysOK.frameA_some {cfg : Cfg} {s : Sys} (h : SysOK cfg s) {it : Item} {e : Nat} (hh : s.h = some (it, e)) :
    Led s.w (s.a.blocks cfg ++ s.b.blocks cfg) (s.a.elems ++ (s.b.elems ++ [e])) := by
  have := h.frameA
  rwa [hh] at this

theorem SysOK.ofA_none {cfg : Cfg} {s : Sys} {a' : St} {w' : W}
    (hl : Led w' (a'.blocks cfg ++ s.b.blocks cfg) (a'.elems ++ s.b.elems)) (ha : BooksOK a') (hb : BooksOK s.b) :
    SysOK cfg { s with a := a', w := w', h := none } :=
  SysOK.ofA (o := none) (by rw [optL, List.map_nil, List.append_nil]; exact hl) ha hb

theorem SysOK.ofA_some {cfg : Cfg} {s : Sys} {a' : St} {w' : W} {it : Item} {e : Nat}
    (hl : Led w' (a'.blocks cfg ++ s.b.blocks cfg) (a'.elems ++ e :: s.b.elems)) (ha : BooksOK a') (hb : BooksOK s.b) :
    SysOK cfg { s with a := a', w := w', h := some (it, e) } :=
  SysOK.ofA (o := some (it, e)) (hl.permE ((List.perm_append_comm (l₁ := [e])).append_left _)) ha hb

theorem SysOK.init (cfg : Cfg) : SysOK cfg (Sys.init cfg) := by
  obtain ⟨a1, a2⟩ := newL_getD_led cfg {} {} [] [] Led.init
  rw [List.append_nil] at a1
  obtain ⟨b1, b2⟩ := newL_getD_led cfg {} (newL cfg {} {}).2 _ _ a1
  exact SysOK.ofB (s := { a := (newL cfg {} {}).1.getD {} }) b1 a2 b2

/-- the operation exited with an exception -/
def Out.failed : Out → Bool
  | .res (.done .ok) => false
  | .res .no => false
  | .res _ => true
  | .num _ t => t
  | .unit => false
  | .threw => true

/-- the operations HashSet.h documents as strongly exception-safe, as far as the system drives them -/
def Op.strong : Op → Bool
  | .ins _ _ _ _ => true
  | .rem _ _ => true
  | .ext _ _ => true
  | .reins _ => true
  | .reserve _ _ => true
  | .copyTo _ => true
  | _ => false

structure StepPost (cfg : Cfg) (s : Sys) (op : Op) (r : Sys × Out) : Prop where
  ok : SysOK cfg r.1
  strong : op.strong = true → r.2.failed = true → r.1.a = s.a ∧ r.1.b = s.b ∧ r.1.h = s.h

theorem Out.ne_ok {r : Res} (h : Out.failed (.res r) = true) : r ≠ .done .ok := fun hc => by rw [hc] at h; cases h

theorem step_post (cfg : Cfg) (hf : Nat → Nat) (s : Sys) (op : Op) (h : SysOK cfg s) : StepPost cfg s op (step cfg hf s op) := by
  -- arms, in the order of `HTL.step`: 1 ins, 2 rem, 3 remIf, 4 reserve, 5 clear, 6 / 7 ext (handle taken / empty),
  -- 8 / 9 reins (handle empty / holding an item), 10 / 11 copyTo (the copy threw / exists), 12 / 13 moveTo (the new A refused /
  -- made), 14 swap, 15 mergeTo, 16 / 17 dropHandle (empty / holding an item)
  fun_cases step cfg hf s op with
  | case1 toB k v f =>
    cases toB
    · obtain ⟨i1, j1, j2⟩ := insertL_led_same cfg hf s.a ⟨k, v⟩ .fresh f s.w _ _ h.a (crSpec_fresh cfg _) h.frameA
      exact ⟨SysOK.ofA j1 j2 h.b, fun _ hfl => ⟨i1 (Out.ne_ok hfl), rfl, rfl⟩⟩
    · obtain ⟨i1, j1, j2⟩ := insertL_led_same cfg hf s.b ⟨k, v⟩ .fresh f s.w _ _ h.b (crSpec_fresh cfg _) h.frameB
      exact ⟨SysOK.ofB j1 h.a j2, fun _ hfl => ⟨rfl, i1 (Out.ne_ok hfl), rfl⟩⟩
  | case2 k f =>
    obtain ⟨i1, i2, i3⟩ := removeKeyL_led cfg hf s.a k f s.w _ _ h.a h.frameA
    exact ⟨SysOK.ofA i2 i3 h.b, fun _ hfl => ⟨(i1 (Out.ne_ok hfl)).1, rfl, rfl⟩⟩
  | case3 m r f =>
    obtain ⟨i2, i3⟩ := removeIfGo_led cfg (fun it => it.key % m == r) f _ _ (posList s.a.t) s.a s.w 0 h.a h.frameA
    exact ⟨SysOK.ofA i2 i3 h.b, nofun⟩
  | case4 c f =>
    obtain ⟨i1, i2, i3⟩ := reserveL_led cfg hf s.a c f s.w _ _ h.a h.frameA
    exact ⟨SysOK.ofA i2 i3 h.b, fun _ hfl => ⟨(i1 (fun hc => Out.ne_ok hfl (congrArg Res.done hc))).1, rfl, rfl⟩⟩
  | case5 sh =>
    exact ⟨SysOK.ofA (clearL_led cfg s.a sh s.w _ _ h.frameA) (clearL_books cfg s.a sh s.w h.a) h.b, nofun⟩
  | case6 | case8 => exact ⟨h, fun _ hfl => nomatch hfl⟩
  | case7 k f hh r =>
    simp only [r]
    have he := extractKeyL_led cfg hf s.a k f s.w _ _ h.a (h.frameA_none hh)
    generalize extractKeyL cfg hf s.a k f s.w = r at he ⊢
    obtain ⟨st1, w1, res, oh⟩ := r
    cases oh with
    | none => obtain ⟨_, rfl, e2⟩ := he; exact ⟨SysOK.ofA_none e2 h.a h.b, fun _ _ => ⟨rfl, rfl, hh.symm⟩⟩
    | some p => exact ⟨SysOK.ofA_some he.2.1 he.2.2 h.b, fun _ hfl => absurd he.1 (Out.ne_ok hfl)⟩
  | case9 f it e hh r =>
    simp only [r]
    obtain ⟨i1, i2⟩ := insertL_led cfg hf s.a it (.handle e) f s.w _ (s.b.elems ++ [e]) s.b.elems h.a
      (crSpec_handle cfg e _ _ List.perm_append_comm) (h.frameA_some hh)
    by_cases hok : (insertL cfg hf s.a it (.handle e) f s.w).2.2 = .done .ok
    · obtain ⟨j1, j2⟩ := i2 hok
      simp only [if_pos hok]
      exact ⟨SysOK.ofA_none j1 j2 h.b, fun _ hfl => absurd hok (Out.ne_ok hfl)⟩
    · obtain ⟨j1, j2⟩ := i1 hok
      simp only [if_neg hok, j1]
      exact ⟨SysOK.ofA (o := s.h) (by rw [hh]; exact j2) h.a h.b, fun _ _ => ⟨rfl, rfl, rfl⟩⟩
  | case10 f w1 hcp =>
    have hc : CtorPost cfg _ _ (none, w1) := hcp ▸ copyL_led cfg hf s.a f s.w _ _
      (fun k e hke => List.mem_append_right _ (List.mem_append_left _ (lookE_elems hke))) h.frameB
    exact ⟨SysOK.ofB hc h.a h.b, fun _ _ => ⟨rfl, rfl, rfl⟩⟩
  | case11 f st w1 hcp =>
    have hc : CtorPost cfg _ _ (some st, w1) := hcp ▸ copyL_led cfg hf s.a f s.w _ _
      (fun k e hke => List.mem_append_right _ (List.mem_append_left _ (lookE_elems hke))) h.frameB
    -- the copy is built next to A and B, then B's old contents are destroyed
    exact ⟨SysOK.ofB (destroyL_led cfg s.b w1 _ _ h.b.nil
      (hc.1.perm (List.perm_append_comm_assoc _ _ _) (List.perm_append_comm_assoc _ _ _))) h.a hc.2, fun _ hfl => nomatch hfl⟩
  | case12 f _ _ hn | case13 f _ _ _ hn =>
    obtain ⟨n1, n2⟩ := newL_getD_led cfg f _ _ _ (destroyL_led cfg s.b s.w _ _ h.b.nil h.frameB)
    rw [hn] at n1 n2
    exact ⟨SysOK.ofA (s := { s with b := s.a }) n1 n2 h.a, nofun⟩
  | case14 => exact ⟨⟨h.frameB.permE (List.Perm.of_eq (List.append_assoc _ _ _).symm), h.b, h.a⟩, nofun⟩
  | case15 f =>
    obtain ⟨m1, m2, m3⟩ := mergeGo_led cfg hf f [] _ (posList s.a.t) s.a s.b s.w 0
      ⟨by rw [List.append_nil]; exact h.led, h.a, h.b⟩
    exact ⟨⟨by rw [List.append_nil] at m1; exact m1, m2, m3⟩, nofun⟩
  | case16 => exact ⟨h, nofun⟩
  | case17 it e hh =>
    exact ⟨SysOK.ofA_none ((h.frameA_some hh).permE
      ((List.Perm.of_eq (List.append_assoc _ _ _).symm).trans List.perm_append_comm)).dtor h.a h.b, nofun⟩

theorem step_ok (cfg : Cfg) (hf : Nat → Nat) (s : Sys) (op : Op) (h : SysOK cfg s) : SysOK cfg (step cfg hf s op).1 :=
  (step_post cfg hf s op h).ok

theorem step_strong (cfg : Cfg) (hf : Nat → Nat) (s : Sys) (op : Op) (h : SysOK cfg s) (hs : op.strong = true)
    (hfail : (step cfg hf s op).2.failed = true) :
    (step cfg hf s op).1.a = s.a ∧ (step cfg hf s op).1.b = s.b ∧ (step cfg hf s op).1.h = s.h :=
  (step_post cfg hf s op h).strong hs hfail

theorem stepT_ok (cfg : Cfg) (hf : Nat → Nat) (s : Sys) (o : OpT) (h : SysOK cfg s) : SysOK cfg (stepT cfg hf s o).1 := by
  have h1 := step_ok cfg hf s o.op h
  unfold stepT
  simp only []
  generalize (step cfg hf s o.op).1 = s1 at h1 ⊢
  obtain ⟨a1, _, a3, _⟩ := poolTraffic_led cfg s1.a o.pa s1.w (s1.b.blocks cfg) _ h1.frameA
  obtain ⟨b1, _, b3, _⟩ := poolTraffic_led cfg s1.b o.pb _ _ _ (a1.permB List.perm_append_comm)
  refine ⟨?_, poolTraffic_books cfg _ _ _ h1.a, poolTraffic_books cfg _ _ _ h1.b⟩
  unfold Sys.blocks Sys.elems St.elems
  rw [a3, b3, List.append_assoc]
  exact b1.permB List.perm_append_comm

theorem run_ok (cfg : Cfg) (hf : Nat → Nat) : ∀ (ops : List OpT) (s : Sys), SysOK cfg s → SysOK cfg (run cfg hf s ops) := by
  intro ops
  induction ops with
  | nil => intro s h; exact h
  | cons o r ih => intro s h; exact ih _ (stepT_ok cfg hf s o h)

theorem run_append (cfg : Cfg) (hf : Nat → Nat) : ∀ (l1 l2 : List OpT) (s : Sys),
    run cfg hf s (l1 ++ l2) = run cfg hf (run cfg hf s l1) l2
  | [], _, _ => rfl
  | o :: r, l2, s => run_append cfg hf r l2 (stepT cfg hf s o).1

theorem finish_clean (cfg : Cfg) (s : Sys) (h : SysOK cfg s) : Led (finish cfg s) [] [] := by
  unfold finish
  have h1 : Led (match s.h with | some (_, e) => s.w.dtorE e | none => s.w) (s.b.blocks cfg ++ (s.a.blocks cfg ++ []))
      (s.b.elems ++ (s.a.elems ++ [])) := by
    rw [List.append_nil, List.append_nil]
    cases hh : s.h with
    | none => exact (h.frameA_none hh).perm List.perm_append_comm List.perm_append_comm
    | some p =>
      obtain ⟨it, e⟩ := p
      have h0 : Led s.w _ (e :: (s.a.elems ++ s.b.elems)) := (h.frameA_some hh).permE
        ((List.Perm.of_eq (List.append_assoc _ _ _).symm).trans List.perm_append_comm)
      exact h0.dtor.perm List.perm_append_comm List.perm_append_comm
  exact destroyL_led cfg s.a _ [] [] h.a.nil (destroyL_led cfg s.b _ _ _ h.b.nil h1)

theorem led_nil_balanced {w : W} (h : Led w [] []) : Ledger.balanced w.evs = true := by
  obtain ⟨s, hr, hh⟩ := h.acc
  unfold Ledger.balanced
  rw [hr]
  have h1 : s.blocks = [] := eq_nil_of_findB_none fun b => findB_fresh hh (fun _ hx => nomatch hx)
  have h2 : s.elems = [] := eq_nil_of_memE_false fun e => memE_fresh hh (fun he => nomatch he)
  simp [Ledger.St.clean, h1, h2]

end Momo.HTL
