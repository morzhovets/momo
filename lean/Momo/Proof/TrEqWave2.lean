import Momo.Proof.TrEqWave2Tree
import Momo.Proof.TrEqWave2Pool
import Momo.Proof.TrEqWave2Bucket
import Momo.Proof.TrEqWave2Seg
import Momo.Proof.TrEqWave2Arr
import Momo.Proof.TrEqWave2MMap
import Momo.Proof.TrEqWave2Col
/-!
  Areas Wave2 and Wave2Meta of the translator (tools/trspecs/Wave2.py → lean/Momo/Translated/Wave2.lean,
  tools/trspecs/Wave2Meta.py → lean/Momo/Translated/Wave2Meta.lean; areas and file names: header of `TrEqMisc`): the equivalence
  proofs are split by property, so that a changed function body only breaks the property it belongs to; each header names its
  property. Each `Props/Cxx.lean` imports only its own file; this module just collects them.
-/
