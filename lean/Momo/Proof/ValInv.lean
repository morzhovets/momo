import Momo.Proof.ValHeap
/-!
  The ownership invariant `WF` of the value-semantics model (C14), `Frame` (a step touches only the objects it names and
  the blocks they own), and ways to change one slot of a world that keep `WF` and give a `Frame`.
-/
namespace Momo.Val

/-- what one object owes the heap; `WF` asks it of every live object -/
structure ContOk (H : Heap) (c : Cont) : Prop where
  nodup : c.owned.Nodup
  live : ∀ h ∈ c.owned, ∃ cell, H.get h = some cell ∧ c.mgr = some cell.mgr
  nullInl : c.mgr = none → c.inl = []

/-- well-formed world: no dangling handle, no manager mismatch, no block shared by two objects -/
structure WF (w : World) : Prop where
  fresh : ∀ h, w.heap.next ≤ h → w.heap.get h = none
  ok : ∀ i c, w.objs i = some c → ContOk w.heap c
  disj : ∀ i j c d, i ≠ j → w.objs i = some c → w.objs j = some d → ∀ h, h ∈ c.owned → h ∉ d.owned

/-- the step from `w` to `w'` changed at most the objects in the slots `ws`: every other slot holds the same object, and
    the blocks that object owns hold what they held (so its contents are the same, `Frame.contents`) -/
def Frame (w w' : World) (ws : List Nat) : Prop :=
  ∀ x, x ∉ ws → w'.objs x = w.objs x ∧ ∀ c, w.objs x = some c → ∀ h ∈ c.owned, w'.heap.get h = w.heap.get h

@[simp] theorem upd_same (f : Nat → Option Cont) (i : Nat) (c : Option Cont) : upd f i c i = c := by simp [upd]
theorem upd_other (f : Nat → Option Cont) {i j : Nat} (c : Option Cont) (h : j ≠ i) : upd f i c j = f j := by simp [upd, h]

/-- a slot that holds an object is not a slot that is dead: how the proofs tell a temporary from an operand -/
theorem ne_of_live_dead {objs : Nat → Option Cont} {i j : Nat} {c : Cont} (hi : objs i = some c) (hj : objs j = none) : i ≠ j :=
  fun e => by rw [e, hj] at hi; cases hi

theorem WF.init : WF World.init :=
  ⟨fun _ _ => rfl, fun _ _ h => by simp [World.init] at h, fun _ _ _ _ _ h => by simp [World.init] at h⟩

/-- the field `WF.fresh` under the name the heap lemmas use (`Heap.Fresh.allocCells` …) -/
theorem WF.heapFresh {w : World} (wf : WF w) : w.heap.Fresh := wf.fresh

theorem WF.get_lt {w : World} (wf : WF w) {h : Nat} {cell : Cell} (hg : w.heap.get h = some cell) : h < w.heap.next :=
  Nat.lt_of_not_le fun hn => by rw [wf.fresh h hn] at hg; cases hg

theorem WF.owned_lt {w : World} (wf : WF w) {i : Nat} {c : Cont} (hc : w.objs i = some c) {h : Nat}
    (hh : h ∈ c.owned) : h < w.heap.next := by
  obtain ⟨cell, hg, _⟩ := (wf.ok i c hc).live h hh
  exact wf.get_lt hg

theorem WF.body_nodup {w : World} (wf : WF w) {i : Nat} {c : Cont} (hi : w.objs i = some c) : c.body.Nodup :=
  (List.nodup_append.mp (wf.ok i c hi).nodup).2.1

theorem WF.live_mgr {w : World} (wf : WF w) {i : Nat} {c : Cont} {m : Mgr} (hi : w.objs i = some c) (hm : c.mgr = some m) :
    ∀ h ∈ c.owned, ∃ cell, w.heap.get h = some cell ∧ cell.mgr = m := by
  intro h hh
  obtain ⟨cell, hg, hmm⟩ := (wf.ok i c hi).live h hh
  exact ⟨cell, hg, (Option.some.inj (hm.symm.trans hmm)).symm⟩

theorem ContOk.of_agree {H H' : Heap} {c : Cont} (ok : ContOk H c)
    (ag : ∀ h ∈ c.owned, H'.get h = H.get h) : ContOk H' c :=
  ⟨ok.nodup, fun h hh => by rw [ag h hh]; exact ok.live h hh, ok.nullInl⟩

theorem Frame.refl (w : World) (ws : List Nat) : Frame w w ws := fun _ _ => ⟨rfl, fun _ _ _ _ => rfl⟩

theorem Frame.trans {w w1 w2 : World} {A B : List Nat} (f1 : Frame w w1 A) (f2 : Frame w1 w2 B) :
    Frame w w2 (A ++ B) := by
  intro x hx
  have hA : x ∉ A := fun h => hx (List.mem_append.mpr (Or.inl h))
  have hB : x ∉ B := fun h => hx (List.mem_append.mpr (Or.inr h))
  obtain ⟨e1, g1⟩ := f1 x hA
  obtain ⟨e2, g2⟩ := f2 x hB
  refine ⟨e2.trans e1, fun c hc h hh => ?_⟩
  rw [g2 c (e1.trans hc) h hh, g1 c hc h hh]

theorem Frame.mono {w w' : World} {A B : List Nat} (f : Frame w w' A) (hAB : A ⊆ B) : Frame w w' B :=
  fun x hx => f x (fun h => hx (hAB h))

theorem contents_agree {H H' : Heap} {c : Cont} (ag : ∀ h ∈ c.owned, H'.get h = H.get h) :
    contents H' c = contents H c ∧ layout H' c = layout H c := by
  have : layout H' c = layout H c := by
    unfold layout
    apply List.map_congr_left
    intro h hh
    unfold itemsAt
    rw [ag h (List.mem_append.mpr (Or.inr hh))]
  exact ⟨by unfold contents; rw [this], this⟩

theorem Frame.contents {w w' : World} {ws : List Nat} (f : Frame w w' ws) {x : Nat} (hx : x ∉ ws) {c : Cont}
    (hc : w.objs x = some c) : w'.objs x = some c ∧ contents w'.heap c = contents w.heap c := by
  obtain ⟨e, g⟩ := f x hx
  exact ⟨e.trans hc, (contents_agree (g c hc)).1⟩

/-- `disj` read from the side of slot `i` -/
theorem WF.others {w : World} (wf : WF w) {i : Nat} {c : Cont} (hi : w.objs i = some c) :
    ∀ j d, j ≠ i → w.objs j = some d → ∀ h ∈ d.owned, h ∉ c.owned :=
  fun j d hj hd h hh hc => wf.disj i j c d (Ne.symm hj) hi hd h hc hh

/-- the general way to change one slot (to a new object or to none) together with the heap: the four obligations are
    what `WF` of the result needs from the step. `WF.replace_slot` is the form for a slot that stays alive and whose new
    object holds blocks of the old one or new blocks only; the destructor uses this one directly -/
theorem WF.set_slot {w : World} (wf : WF w) (i : Nat) (oc : Option Cont) (H' : Heap) (hfresh : H'.Fresh)
    (hother : ∀ j d, j ≠ i → w.objs j = some d → ∀ h ∈ d.owned, H'.get h = w.heap.get h)
    (hok : ∀ c', oc = some c' → ContOk H' c')
    (hdisj : ∀ c', oc = some c' → ∀ j d, j ≠ i → w.objs j = some d → ∀ h ∈ c'.owned, h ∉ d.owned) :
    WF ⟨H', upd w.objs i oc⟩ ∧ Frame w ⟨H', upd w.objs i oc⟩ [i] := by
  refine ⟨⟨hfresh, fun x c hc => ?_, fun x y c d hxy hc hd h hh => ?_⟩, fun x hx => ?_⟩
  · by_cases hx : x = i
    · exact hok c ((upd_same _ _ _).symm.trans (hx ▸ hc))
    · exact (wf.ok x c ((upd_other _ _ hx).symm.trans hc)).of_agree (hother x c hx ((upd_other _ _ hx).symm.trans hc))
  · by_cases hx : x = i
    · have hy : y ≠ i := fun e => hxy (hx.trans e.symm)
      exact hdisj c ((upd_same _ _ _).symm.trans (hx ▸ hc)) y d hy ((upd_other _ _ hy).symm.trans hd) h hh
    · have hc' := (upd_other _ _ hx).symm.trans hc
      by_cases hy : y = i
      · exact fun hh' => hdisj d ((upd_same _ _ _).symm.trans (hy ▸ hd)) x c hx hc' h hh' hh
      · exact wf.disj x y c d hxy hc' ((upd_other _ _ hy).symm.trans hd) h hh
  · have hx : x ≠ i := fun e => hx (e ▸ List.mem_cons_self)
    exact ⟨upd_other _ _ hx, fun c hc h hh => hother x c hx hc h hh⟩

/-- `old`: what slot `i` held before, so no other object holds any of it -/
theorem WF.replace_slot {w : World} (wf : WF w) (i : Nat) (old : List Nat) (c' : Cont) (H' : Heap)
    (hold : ∀ j d, j ≠ i → w.objs j = some d → ∀ h ∈ d.owned, h ∉ old)
    (hfresh : H'.Fresh)
    (hkeep : ∀ h, h < w.heap.next → h ∉ old → H'.get h = w.heap.get h)
    (hok : ContOk H' c')
    (hsub : ∀ h ∈ c'.owned, h ∈ old ∨ w.heap.next ≤ h) :
    WF ⟨H', upd w.objs i (some c')⟩ ∧ Frame w ⟨H', upd w.objs i (some c')⟩ [i] :=
  wf.set_slot i (some c') H' hfresh
    (fun j d hj hd h hh => hkeep h (wf.owned_lt hd hh) (hold j d hj hd h hh))
    (fun _ e => Option.some.inj e ▸ hok)
    (fun _ e j d hj hd h hh hh' => (hsub h (Option.some.inj e ▸ hh)).elim (hold j d hj hd h hh')
      (fun hge => Nat.not_lt.mpr hge (wf.owned_lt hd hh')))

theorem WF.rename {w : World} (wf : WF w) (σ : Nat → Nat) (inj : ∀ x y, σ x = σ y → x = y) :
    WF ⟨w.heap, fun x => w.objs (σ x)⟩ :=
  ⟨wf.fresh, fun x c hc => wf.ok (σ x) c hc,
   fun x y c d hxy hc hd => wf.disj (σ x) (σ y) c d (fun e => hxy (inj x y e)) hc hd⟩

end Momo.Val
