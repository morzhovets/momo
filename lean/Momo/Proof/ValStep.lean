import Momo.Proof.ValInv
/-!
  `Exec`, the graph of `Prim.exec` of the value-semantics model (C14): inversion of a primitive step is
  `obtain ⟨…⟩ := Exec.of_exec h`, a forward equation is `Exec.exec ⟨…⟩` (with `(p := …)` where the goal does not fix the
  primitive). Inversion of `run` and `step` (suffix `_inv`); one lemma per primitive that its result keeps `WF` and changes
  only the objects it names (`Frame`): suffix `_sound`, with `construct_sound` for both constructors (`Prim.new` is a
  `Prim.copy` with no items and no body block); the objects an operation names, temporaries included (`expand_writes`).
-/
namespace Momo.Val

/-- what `Prim.copy` gives the copy of `s`. With at most `icap` items the body allocation is `allocCells m [] _`, so the
    `.copy` arm of `Exec` has both branches in one shape; `copyLay_flatten` (ValOps) is its one lemma -/
def copyLay (k : Kind) (H : Heap) (s : Cont) : Lay :=
  if (contents H s).length ≤ k.icap then ⟨contents H s, [], 0⟩
  else ⟨[], k.rebuild ((if s.inl = [] then [] else [s.inl]) ++ layout H s), if k.arrayStyle then (contents H s).length else 0⟩

/-- the `xe` of `Prim.exec`, `setLayout` -/
def srcXfer (k : Kind) (w : World) : Option Nat → List Ev
  | none => []
  | some s => match w.objs s with
    | some sc => xferEvs k (contents w.heap sc)
    | none => []

@[reducible] def Exec (k : Kind) (w : World) (evs : List Ev) (w' : World) : Prim → Prop
  | .new i m => w.objs i = none ∧
    w' = ⟨(allocCells m (List.replicate k.auxCount []) w.heap).2,
          upd w.objs i (some ⟨some m, (allocCells m (List.replicate k.auxCount []) w.heap).1, [], [], 0⟩)⟩ ∧
    evs = (allocCells m (List.replicate k.auxCount []) w.heap).1.map (Ev.alloc m)
  | .copy j i m => ∃ s, w.objs j = none ∧ w.objs i = some s ∧ ¬s.mgr.isNone ∧
    let ra := allocCells m (List.replicate k.auxCount []) w.heap
    let rb := allocCells m (copyLay k w.heap s).cells ra.2
    w' = ⟨rb.2, upd w.objs j (some ⟨some m, ra.1, (copyLay k w.heap s).inl, rb.1, (copyLay k w.heap s).cap⟩)⟩ ∧
    evs = ra.1.map (Ev.alloc m) ++ rb.1.map (Ev.alloc m) ++ (contents w.heap s).map Ev.copy
  | .move j i => ∃ s, w.objs i = some s ∧ w.objs j = none ∧
    w' = ⟨w.heap, upd (upd w.objs i (some (nullOf k s))) j (some s)⟩ ∧ evs = relocEvs k s.inl
  | .swap i j => ∃ a b, w.objs i = some a ∧ w.objs j = some b ∧
    w' = ⟨w.heap, upd (upd w.objs i (some b)) j (some a)⟩ ∧ evs = []
  | .destroy i => ∃ c, w.objs i = some c ∧ w' = ⟨freeCells c.owned w.heap, upd w.objs i none⟩ ∧
    ((c.mgr = none ∧ c.owned = [] ∧ c.inl = [] ∧ evs = []) ∨
     ∃ m, c.mgr = some m ∧ evs = destroyEvs k (contents w.heap c) ++ c.owned.map (Ev.free m))
  | .clear i keep => ∃ c, w.objs i = some c ∧
    ((c.mgr = none ∧ c.owned = [] ∧ c.inl = [] ∧ w' = w ∧ evs = []) ∨
     ∃ m, c.mgr = some m ∧
      w' = ⟨freeCells (c.body.drop keep) (emptyCells (c.body.take keep) w.heap),
            upd w.objs i (some { c with inl := [], body := c.body.take keep, cap := if c.body.take keep = [] then 0 else c.cap })⟩ ∧
      evs = destroyEvs k (contents w.heap c) ++ (c.body.drop keep).map (Ev.free m))
  | .setLayout i inl cells cap src => ∃ c m, w.objs i = some c ∧ c.mgr = some m ∧ c.aux.length = k.auxCount ∧
    w' = ⟨(allocCells m cells (freeCells c.body w.heap)).2,
          upd w.objs i (some { c with inl := inl, body := (allocCells m cells (freeCells c.body w.heap)).1, cap := cap })⟩ ∧
    evs = srcXfer k w src ++ c.body.map (Ev.free m) ++ (allocCells m cells (freeCells c.body w.heap)).1.map (Ev.alloc m)

theorem Exec.of_exec {k : Kind} {w w' : World} {p : Prim} {evs : List Ev} (h : p.exec k w = some (w', evs)) :
    Exec k w evs w' p := by
  revert h
  -- the branches of `Prim.exec` that succeed, in its order: new, copy (≤ icap, > icap), move, swap, destroy (null, live),
  -- clear (null, live), setLayout
  fun_cases Prim.exec k w p <;> intro h <;> cases h
  · exact ⟨‹_›, rfl, rfl⟩
  · rename_i hi hj hm _ _ hc
    refine ⟨_, hj, hi, hm, ?_⟩
    rw [copyLay, if_pos hc]
    exact ⟨rfl, by simp only [allocCells, List.map_nil, List.append_nil]; rfl⟩
  · rename_i hi hj hm _ _ hc _ _
    refine ⟨_, hj, hi, hm, ?_⟩
    rw [copyLay, if_neg hc]
    exact ⟨rfl, rfl⟩
  · exact ⟨_, ‹_›, ‹_›, rfl, rfl⟩
  · exact ⟨_, _, ‹_›, ‹_›, rfl, rfl⟩
  · rename_i ho
    exact ⟨_, ‹_›, by rw [ho.1]; rfl, .inl ⟨‹_›, ho.1, ho.2, rfl⟩⟩
  · exact ⟨_, ‹_›, rfl, .inr ⟨_, ‹_›, rfl⟩⟩
  · exact ⟨_, ‹_›, .inl ⟨‹_›, And.left ‹_›, And.right ‹_›, rfl, rfl⟩⟩
  · exact ⟨_, ‹_›, .inr ⟨_, ‹_›, rfl, rfl⟩⟩
  · rename_i src _ _ _ _ _ _ _
    exact ⟨_, _, ‹_›, ‹_›, ‹_›, rfl, by cases src <;> rfl⟩

theorem Exec.exec {k : Kind} {w w' : World} {p : Prim} {evs : List Ev} (h : Exec k w evs w' p) :
    p.exec k w = some (w', evs) := by
  cases p with
  | new i m => obtain ⟨hi, rfl, rfl⟩ := h; simp only [Prim.exec, hi]
  | copy j i m =>
    obtain ⟨s, hj, hi, hm, rfl, rfl⟩ := h
    simp only [Prim.exec, hj, hi, if_neg hm, copyLay]
    split <;> simp [allocCells]
  | move j i => obtain ⟨s, hi, hj, rfl, rfl⟩ := h; simp only [Prim.exec, hi, hj]
  | swap i j => obtain ⟨a, b, hi, hj, rfl, rfl⟩ := h; simp only [Prim.exec, hi, hj]
  | destroy i =>
    obtain ⟨c, hi, rfl, ⟨hm, ho, hn, rfl⟩ | ⟨m, hm, rfl⟩⟩ := h
    · simp only [Prim.exec, hi, hm, ho, hn, and_self, if_true]; rfl
    · simp only [Prim.exec, hi, hm]
  | clear i keep =>
    obtain ⟨c, hi, ⟨hm, ho, hn, rfl, rfl⟩ | ⟨m, hm, rfl, rfl⟩⟩ := h
    · simp only [Prim.exec, hi, hm, ho, hn, and_self, if_true]
    · simp only [Prim.exec, hi, hm]
  | setLayout i inl cells cap src =>
    obtain ⟨c, m, hi, hm, ha, rfl, rfl⟩ := h
    simp only [Prim.exec, hi, hm, ha, if_true]; cases src <;> rfl

theorem run_single (k : Kind) (w : World) (p : Prim) : run k w [p] = p.exec k w := by
  simp only [run]
  cases h : p.exec k w with
  | none => rfl
  | some r => obtain ⟨w1, e1⟩ := r; simp

theorem run_cons_inv {k : Kind} {w w' : World} {p : Prim} {ps : List Prim} {evs : List Ev}
    (h : run k w (p :: ps) = some (w', evs)) :
    ∃ w1 e1 e2, p.exec k w = some (w1, e1) ∧ run k w1 ps = some (w', e2) ∧ evs = e1 ++ e2 := by
  simp only [run] at h
  split at h
  · cases h
  · rename_i w1 e1 h1
    split at h
    · cases h
    · rename_i w2 e2 h2
      simp only [Option.some.injEq, Prod.mk.injEq] at h
      obtain ⟨rfl, rfl⟩ := h
      exact ⟨w1, e1, e2, h1, h2, rfl⟩

theorem run_nil_inv {k : Kind} {w w' : World} {evs : List Ev} (h : run k w [] = some (w', evs)) : w' = w ∧ evs = [] := by
  simp only [run, Option.some.injEq, Prod.mk.injEq] at h
  exact ⟨h.1.symm, h.2.symm⟩

theorem run_cons_some {k : Kind} {w w1 : World} {p : Prim} {e1 : List Ev} (ps : List Prim)
    (h1 : p.exec k w = some (w1, e1)) :
    run k w (p :: ps) = (run k w1 ps).map (fun r => (r.1, e1 ++ r.2)) := by
  simp only [run, h1]
  cases run k w1 ps with
  | none => rfl
  | some r => rfl

theorem run_append_inv {k : Kind} {w w' : World} {ps qs : List Prim} {evs : List Ev}
    (h : run k w (ps ++ qs) = some (w', evs)) :
    ∃ w1 e1 e2, run k w ps = some (w1, e1) ∧ run k w1 qs = some (w', e2) ∧ evs = e1 ++ e2 := by
  induction ps generalizing w evs with
  | nil => exact ⟨w, [], evs, rfl, h, rfl⟩
  | cons p ps ih =>
    obtain ⟨wa, ea, eb, h1, h2, rfl⟩ := run_cons_inv (by simpa using h)
    obtain ⟨w1, e1, e2, h3, h4, rfl⟩ := ih h2
    refine ⟨w1, ea ++ e1, e2, ?_, h4, by simp⟩
    rw [run_cons_some ps h1, h3]; rfl

theorem step_inv {cfg : Cfg} {w : World} {op : Op} {r : World × List Ev} (h : step cfg w op = some r) :
    ∃ ps, expand cfg w op = some ps ∧ run cfg.k w ps = some r := by
  unfold step at h
  split at h
  · cases h
  · exact ⟨_, ‹_›, h⟩

theorem construct_sound (k : Kind) {w : World} (wf : WF w) (j : Nat) (m : Mgr) (inl : List Elem) (ls : List (List Elem)) (cap : Nat) :
    let ra := allocCells m (List.replicate k.auxCount []) w.heap
    let rb := allocCells m ls ra.2
    WF ⟨rb.2, upd w.objs j (some ⟨some m, ra.1, inl, rb.1, cap⟩)⟩ ∧
    Frame w ⟨rb.2, upd w.objs j (some ⟨some m, ra.1, inl, rb.1, cap⟩)⟩ [j] := by
  intro ra rb
  have hle : w.heap.next ≤ ra.2.next := allocCells_next m _ w.heap ▸ Nat.le_add_right _ _
  have hra : ∀ h ∈ ra.1, h < ra.2.next := fun h hh => allocCells_next m _ w.heap ▸ (mem_allocCells_fst.mp hh).2
  have hmem : ∀ h, h ∈ ra.1 ++ rb.1 → w.heap.next ≤ h ∧ ∃ cell, rb.2.get h = some cell ∧ cell.mgr = m := by
    intro h hh
    rcases List.mem_append.mp hh with hh | hh
    · obtain ⟨cell, hg, hm⟩ := allocCells_get_mem hh
      exact ⟨(mem_allocCells_fst.mp hh).1, cell, (allocCells_get_old m ls ra.2 h (hra h hh)).trans hg, hm⟩
    · exact ⟨Nat.le_trans hle (mem_allocCells_fst.mp hh).1, allocCells_get_mem hh⟩
  apply wf.replace_slot j [] _ rb.2 (fun _ _ _ _ _ _ => List.not_mem_nil)
  · exact (wf.heapFresh.allocCells m _).allocCells m ls
  · intro h hlt _
    exact (allocCells_get_old m ls ra.2 h (Nat.lt_of_lt_of_le hlt hle)).trans (allocCells_get_old m _ w.heap h hlt)
  · refine ⟨?_, fun h hh => ?_, fun e => nomatch e⟩
    · show (ra.1 ++ rb.1).Nodup
      refine List.nodup_append.mpr ⟨allocCells_fst_nodup m _ _, allocCells_fst_nodup m _ _, fun a ha b hb e => ?_⟩
      exact Nat.lt_irrefl b (Nat.lt_of_lt_of_le (e ▸ hra a ha) (mem_allocCells_fst.mp hb).1)
    · obtain ⟨_, cell, hg, hm⟩ := hmem h hh
      exact ⟨cell, hg, congrArg some hm.symm⟩
  · exact fun h hh => .inr (hmem h hh).1

theorem nullOf_owned (k : Kind) (s : Cont) : (nullOf k s).owned = [] := rfl

theorem move_sound (k : Kind) {w : World} (wf : WF w) (j i : Nat) (s : Cont) (hi : w.objs i = some s) :
    WF ⟨w.heap, upd (upd w.objs i (some (nullOf k s))) j (some s)⟩ ∧
    Frame w ⟨w.heap, upd (upd w.objs i (some (nullOf k s))) j (some s)⟩ [i, j] := by
  obtain ⟨wf1, f1⟩ := wf.replace_slot i [] (nullOf k s) w.heap (fun _ _ _ _ _ _ => List.not_mem_nil) wf.heapFresh
    (fun _ _ _ => rfl) ⟨List.nodup_nil, fun _ hh => absurd hh List.not_mem_nil, fun _ => rfl⟩
    (fun _ hh => absurd hh List.not_mem_nil)
  obtain ⟨wf2, f2⟩ := wf1.replace_slot j s.owned s w.heap (fun x d _ hd h hh => by
      by_cases hxi : x = i
      · cases (upd_same _ _ _).symm.trans (hxi ▸ hd); exact absurd hh List.not_mem_nil
      · exact wf.others hi x d hxi ((upd_other _ _ hxi).symm.trans hd) h hh)
    wf.heapFresh (fun _ _ _ => rfl) (wf.ok i s hi) (fun _ hh => .inl hh)
  exact ⟨wf2, f1.trans f2⟩

theorem swap_sound {w : World} (wf : WF w) (i j : Nat) (a b : Cont) (hi : w.objs i = some a) (hj : w.objs j = some b) :
    WF ⟨w.heap, upd (upd w.objs i (some b)) j (some a)⟩ ∧
    Frame w ⟨w.heap, upd (upd w.objs i (some b)) j (some a)⟩ [i, j] := by
  -- the exchanged world is the old one read through the transposition of `i` and `j`
  let σ : Nat → Nat := fun x => if x = j then i else if x = i then j else x
  have e : upd (upd w.objs i (some b)) j (some a) = fun x => w.objs (σ x) := by
    funext x
    show (if x = j then some a else if x = i then some b else w.objs x) = w.objs (if x = j then i else if x = i then j else x)
    by_cases hxj : x = j
    · rw [if_pos hxj, if_pos hxj, hi]
    · rw [if_neg hxj, if_neg hxj]
      by_cases hxi : x = i
      · rw [if_pos hxi, if_pos hxi, hj]
      · rw [if_neg hxi, if_neg hxi]
  have invol : ∀ x, σ (σ x) = x := by intro x; grind
  refine ⟨e ▸ wf.rename σ fun x y h => by rw [← invol x, h, invol y], fun x hx => ?_⟩
  have hxi : x ≠ i := fun h => hx (h ▸ List.mem_cons_self)
  have hxj : x ≠ j := fun h => hx (h ▸ List.mem_cons_of_mem _ List.mem_cons_self)
  exact ⟨by simp only [upd, if_neg hxi, if_neg hxj], fun _ _ _ _ => rfl⟩

theorem destroy_sound {w : World} (wf : WF w) (i : Nat) (c : Cont) (hi : w.objs i = some c) :
    WF ⟨freeCells c.owned w.heap, upd w.objs i none⟩ ∧ Frame w ⟨freeCells c.owned w.heap, upd w.objs i none⟩ [i] :=
  wf.set_slot i none _ (wf.heapFresh.freeCells _)
    (fun x d hx hd h hh => (freeCells_get _ _ h).trans (if_neg (wf.others hi x d hx hd h hh)))
    (fun _ e => nomatch e) (fun _ e => nomatch e)

theorem clear_sound {w : World} (wf : WF w) (i keep : Nat) (c : Cont) (hi : w.objs i = some c) (cap : Nat) :
    let H' := freeCells (c.body.drop keep) (emptyCells (c.body.take keep) w.heap)
    let c' : Cont := { c with inl := [], body := c.body.take keep, cap := cap }
    WF ⟨H', upd w.objs i (some c')⟩ ∧ Frame w ⟨H', upd w.objs i (some c')⟩ [i] := by
  intro H' c'
  have hget : ∀ h, h ∉ c.body.drop keep → H'.get h =
      if h ∈ c.body.take keep then (w.heap.get h).map (fun cell => ⟨cell.mgr, []⟩) else w.heap.get h := fun h hd =>
    (freeCells_get _ _ h).trans ((if_neg hd).trans (emptyCells_get _ _ h))
  have hnd := (wf.ok i c hi).nodup
  obtain ⟨_, hbody, haux⟩ := List.nodup_append.mp hnd
  rw [← List.take_append_drop keep c.body] at hbody
  have hsplit := (List.nodup_append.mp hbody).2.2
  apply wf.replace_slot i c.owned c' H' (wf.others hi) ((wf.heapFresh.emptyCells _).freeCells _)
  · intro h _ hn
    have hb : h ∉ c.body := fun hb => hn (List.mem_append.mpr (.inr hb))
    exact (hget h fun e => hb (List.mem_of_mem_drop e)).trans (if_neg fun e => hb (List.mem_of_mem_take e))
  · refine ⟨hnd.sublist ((List.take_sublist keep c.body).append_left c.aux), fun h hh => ?_, fun _ => rfl⟩
    rcases List.mem_append.mp hh with hh | hh
    · have hb : h ∉ c.body := fun hb => haux h hh h hb rfl
      rw [(hget h fun e => hb (List.mem_of_mem_drop e)).trans (if_neg fun e => hb (List.mem_of_mem_take e))]
      exact (wf.ok i c hi).live h (List.mem_append.mpr (.inl hh))
    · obtain ⟨cell, hg, hm⟩ := (wf.ok i c hi).live h (List.mem_append.mpr (.inr (List.mem_of_mem_take hh)))
      exact ⟨⟨cell.mgr, []⟩, by rw [hget h fun hd => hsplit h hh h hd rfl, if_pos hh, hg]; rfl, hm⟩
  · intro h hh
    rcases List.mem_append.mp hh with hh | hh
    · exact .inl (List.mem_append.mpr (.inl hh))
    · exact .inl (List.mem_append.mpr (.inr (List.mem_of_mem_take hh)))

theorem setLayout_sound {w : World} (wf : WF w) (i : Nat) (c : Cont) (m : Mgr) (hi : w.objs i = some c) (hm : c.mgr = some m)
    (inl : List Elem) (cells : List (List Elem)) (cap : Nat) :
    let r := allocCells m cells (freeCells c.body w.heap)
    let c' : Cont := { c with inl := inl, body := r.1, cap := cap }
    WF ⟨r.2, upd w.objs i (some c')⟩ ∧ Frame w ⟨r.2, upd w.objs i (some c')⟩ [i] := by
  intro r c'
  obtain ⟨hauxnd, _, haux⟩ := List.nodup_append.mp (wf.ok i c hi).nodup
  have hkeep : ∀ h, h < w.heap.next → h ∉ c.body → r.2.get h = w.heap.get h := fun h hlt hb =>
    (allocCells_get_old m cells _ h ((freeCells_next c.body w.heap).symm ▸ hlt)).trans
      ((freeCells_get _ _ h).trans (if_neg hb))
  have hnew : ∀ h ∈ r.1, w.heap.next ≤ h := fun h hh => freeCells_next c.body w.heap ▸ (mem_allocCells_fst.mp hh).1
  apply wf.replace_slot i c.owned c' r.2 (wf.others hi)
  · exact (wf.heapFresh.freeCells c.body).allocCells m cells
  · exact fun h hlt hn => hkeep h hlt fun hb => hn (List.mem_append.mpr (.inr hb))
  · refine ⟨?_, fun h hh => ?_, fun e => nomatch hm.symm.trans e⟩
    · refine List.nodup_append.mpr ⟨hauxnd, allocCells_fst_nodup m cells _, fun a ha b hb e => ?_⟩
      exact Nat.lt_irrefl b (Nat.lt_of_lt_of_le (e ▸ wf.owned_lt hi (List.mem_append.mpr (.inl ha))) (hnew b hb))
    · rcases List.mem_append.mp hh with hh | hh
      · have ho : h ∈ c.owned := List.mem_append.mpr (.inl hh)
        rw [hkeep h (wf.owned_lt hi ho) fun hb => haux h hh h hb rfl]
        exact (wf.ok i c hi).live h ho
      · obtain ⟨cell, hg, hmm⟩ := allocCells_get_mem hh
        exact ⟨cell, hg, hmm ▸ hm⟩
  · intro h hh
    rcases List.mem_append.mp hh with hh | hh
    · exact .inl (List.mem_append.mpr (.inl hh))
    · exact .inr (hnew h hh)

/-- the slots a primitive may change: the `ws` of its `Frame` -/
def Prim.writes : Prim → List Nat
  | .new i _ => [i]
  | .copy j _ _ => [j]
  | .move j i => [i, j]
  | .swap i j => [i, j]
  | .destroy i => [i]
  | .clear i _ => [i]
  | .setLayout i _ _ _ _ => [i]

def writesAll (ps : List Prim) : List Nat := ps.flatMap Prim.writes

theorem writesAll_nil : writesAll [] = [] := rfl
theorem writesAll_cons (p : Prim) (ps : List Prim) : writesAll (p :: ps) = p.writes ++ writesAll ps := rfl
theorem writesAll_append (ps qs : List Prim) : writesAll (ps ++ qs) = writesAll ps ++ writesAll qs :=
  List.flatMap_append

def Op.writes (cfg : Cfg) : Op → List Nat
  | .new i _ => [i]
  | .copyCtor j _ => [j]
  | .copyCtorM j _ _ => [j]
  | .moveCtor j i => [i, j]
  | .swap i j => [i, j, cfg.t1]
  | .copyAssign i _ => [i, cfg.t1]
  | .moveAssign i j => [i, j, cfg.t1]
  | .destroy i => [i]
  | .clear i _ => [i]
  | .mutate i _ _ _ => [i]
  | .wMoveCtorA j i _ _ _ => [i, j]
  | .wCopyAssign i _ => [i, cfg.t1, cfg.t2]
  | .wMoveAssign i j _ _ => [i, j, cfg.t1, cfg.t2]

theorem createFrom_writes {w : World} {j i : Nat} {a : Mgr} {lay : Lay} {keep : Nat} {ps : List Prim}
    (h : createFrom w j i a lay keep = some ps) : writesAll ps ⊆ [i, j] := by
  unfold createFrom at h
  split at h
  · cases h
  · split at h <;> cases h <;>
      simp only [writesAll_cons, writesAll_nil, Prim.writes, List.cons_append, List.nil_append,
        List.cons_subset, List.nil_subset, List.mem_cons, true_or, or_true, and_self]

theorem expand_writes (cfg : Cfg) (w : World) (op : Op) (ps : List Prim) (h : expand cfg w op = some ps) :
    writesAll ps ⊆ op.writes cfg := by
  cases op
  case new | copyCtorM | moveCtor | destroy | clear | mutate => cases h; exact List.Subset.refl _
  case wMoveCtorA j i a lay keep => exact createFrom_writes h
  case wMoveAssign i j lay keep =>
    rw [expand] at h
    split at h
    · cases h; exact List.nil_subset _
    · split at h
      · cases h
      · rename_i a _
        have tail : ∀ {T qs rest}, createFrom w T j a lay keep = some qs → T ∈ [i, j, cfg.t1, cfg.t2] →
            writesAll rest ⊆ [i, j, cfg.t1, cfg.t2] → writesAll (qs ++ rest) ⊆ [i, j, cfg.t1, cfg.t2] := by
          intro T qs rest hc hT hr
          rw [writesAll_append]
          refine List.append_subset.mpr ⟨(createFrom_writes hc).trans ?_, hr⟩
          exact List.cons_subset.mpr ⟨.tail _ (.head _), List.cons_subset.mpr ⟨hT, List.nil_subset _⟩⟩
        split at h
        · obtain ⟨qs, hc, rfl⟩ := Option.map_eq_some_iff.mp h
          refine tail hc (.tail _ (.tail _ (.head _))) ?_
          simp only [writesAll_cons, writesAll_nil, Prim.writes, List.cons_append, List.nil_append,
            List.cons_subset, List.nil_subset, List.mem_cons, true_or, or_true, and_self]
        · obtain ⟨qs, hc, rfl⟩ := Option.map_eq_some_iff.mp h
          refine tail hc (.tail _ (.tail _ (.tail _ (.head _)))) ?_
          simp only [writesAll_cons, writesAll_nil, Prim.writes, List.cons_append, List.nil_append,
            List.cons_subset, List.nil_subset, List.mem_cons, true_or, or_true, and_self]
  -- the other expansions are explicit lists
  all_goals simp only [expand, nativeSwap, nativeMoveAssign] at h
  all_goals repeat' split at h
  all_goals cases h
  all_goals simp only [writesAll_cons, writesAll_nil, Prim.writes, Op.writes, List.cons_append, List.nil_append,
    List.cons_subset, List.nil_subset, List.mem_cons, true_or, or_true, and_self]

end Momo.Val
