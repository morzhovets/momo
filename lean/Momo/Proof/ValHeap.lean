import Momo.Model.Val
/-!
  What `get` and `next` answer after each heap operation of the value-semantics model (C14); all keep the heap `Fresh`.
  The `_live` lemmas read the other way: what a block that is live afterwards was before.
  In the `allocCells_*` family the equations take `m ls H` explicitly (they are rewritten with); the lemmas with a hypothesis
  that names `allocCells m ls H` (`mem_allocCells_fst`, `_get_mem`, `_get_other`, `_live`) take them from it.
-/
namespace Momo.Val

theorem lookupH_filter (cs : List (Nat × Cell)) (h h' : Nat) :
    lookupH (cs.filter (fun p => p.1 != h')) h = if h = h' then none else lookupH cs h := by
  induction cs with
  | nil => simp [lookupH]
  | cons p r ih =>
    simp only [List.filter_cons]
    by_cases hp : p.1 = h'
    · have e : (p.1 != h') = false := by simp [hp]
      simp only [e, Bool.false_eq_true, if_false, lookupH]
      rw [ih, hp]
      by_cases hh : h = h' <;> simp [hh]
    · have e : (p.1 != h') = true := by simp [hp]
      simp only [e, if_true, lookupH]
      rw [ih]
      by_cases hh : h = h'
      · have : ¬ h' = p.1 := fun e => hp e.symm
        simp [hh, this]
      · simp [hh]

theorem lookupH_map_set (cs : List (Nat × Cell)) (h h' : Nat) (xs : List Elem) :
    lookupH (cs.map (fun p => if p.1 = h' then (p.1, (⟨p.2.mgr, xs⟩ : Cell)) else p)) h
      = if h = h' then (lookupH cs h).map (fun c => ⟨c.mgr, xs⟩) else lookupH cs h := by
  induction cs with
  | nil => simp [lookupH]
  | cons p r ih =>
    simp only [List.map_cons, lookupH]
    by_cases hp : p.1 = h'
    · simp only [hp, if_true]
      by_cases hh : h = h'
      · simp [hh]
      · simp only [hh, if_false]
        rw [ih]; simp [hh]
    · simp only [hp, if_false]
      by_cases hh : h = p.1
      · simp [hh, hp]
      · simp only [hh, if_false]
        rw [ih]

namespace Heap

@[simp] theorem get_alloc (H : Heap) (m : Mgr) (xs : List Elem) (h : Nat) :
    (H.alloc m xs).get h = if h = H.next then some ⟨m, xs⟩ else H.get h := by
  simp [alloc, get, lookupH]

@[simp] theorem next_alloc (H : Heap) (m : Mgr) (xs : List Elem) : (H.alloc m xs).next = H.next + 1 := rfl

@[simp] theorem get_free (H : Heap) (h' h : Nat) :
    (H.free h').get h = if h = h' then none else H.get h := by
  simp [free, get, lookupH_filter]

@[simp] theorem next_free (H : Heap) (h : Nat) : (H.free h).next = H.next := rfl

@[simp] theorem get_setItems (H : Heap) (h' h : Nat) (xs : List Elem) :
    (H.setItems h' xs).get h = if h = h' then (H.get h).map (fun c => ⟨c.mgr, xs⟩) else H.get h := by
  simp [setItems, get, lookupH_map_set]

@[simp] theorem next_setItems (H : Heap) (h : Nat) (xs : List Elem) : (H.setItems h xs).next = H.next := rfl

end Heap

/-- handles are handed out in increasing order and never reused -/
def Heap.Fresh (H : Heap) : Prop := ∀ h, H.next ≤ h → H.get h = none

theorem allocCells_fst (m : Mgr) (ls : List (List Elem)) (H : Heap) :
    (allocCells m ls H).1 = List.range' H.next ls.length := by
  induction ls generalizing H with
  | nil => simp [allocCells]
  | cons xs rest ih =>
    simp only [allocCells, List.length_cons, List.range'_succ]
    rw [ih]; simp

theorem mem_allocCells_fst {m : Mgr} {ls : List (List Elem)} {H : Heap} {h : Nat} :
    h ∈ (allocCells m ls H).1 ↔ H.next ≤ h ∧ h < H.next + ls.length := by
  rw [allocCells_fst, List.mem_range'_1]

theorem allocCells_fst_nodup (m : Mgr) (ls : List (List Elem)) (H : Heap) : (allocCells m ls H).1.Nodup := by
  rw [allocCells_fst]; exact List.nodup_range'

theorem allocCells_next (m : Mgr) (ls : List (List Elem)) (H : Heap) :
    (allocCells m ls H).2.next = H.next + ls.length := by
  induction ls generalizing H with
  | nil => rfl
  | cons xs rest ih =>
    rw [allocCells, ih, Heap.next_alloc, List.length_cons, Nat.add_assoc, Nat.add_comm 1]

theorem allocCells_get_old (m : Mgr) (ls : List (List Elem)) (H : Heap) (h : Nat) (hh : h < H.next) :
    (allocCells m ls H).2.get h = H.get h := by
  induction ls generalizing H with
  | nil => rfl
  | cons xs rest ih =>
    rw [allocCells, ih (H.alloc m xs) (Nat.lt_succ_of_lt hh), Heap.get_alloc, if_neg (Nat.ne_of_lt hh)]

theorem allocCells_get_new (m : Mgr) (ls : List (List Elem)) (H : Heap) (k : Nat) (hk : k < ls.length) :
    (allocCells m ls H).2.get (H.next + k) = some ⟨m, ls[k]⟩ := by
  induction ls generalizing H k with
  | nil => cases hk
  | cons xs rest ih =>
    rw [allocCells]
    cases k with
    | zero =>
      show (allocCells m rest (H.alloc m xs)).2.get H.next = _
      rw [allocCells_get_old m rest (H.alloc m xs) _ (Nat.lt_succ_self _), Heap.get_alloc, if_pos rfl]; rfl
    | succ k =>
      have := ih (H.alloc m xs) k (Nat.lt_of_succ_lt_succ hk)
      rwa [Heap.next_alloc, Nat.add_assoc, Nat.add_comm 1] at this

theorem allocCells_get_mem {m : Mgr} {ls : List (List Elem)} {H : Heap} {h : Nat}
    (hm : h ∈ (allocCells m ls H).1) : ∃ cell, (allocCells m ls H).2.get h = some cell ∧ cell.mgr = m := by
  obtain ⟨h1, h2⟩ := mem_allocCells_fst.mp hm
  obtain ⟨k, rfl⟩ := Nat.exists_eq_add_of_le h1
  exact ⟨_, allocCells_get_new m ls H k (Nat.lt_of_add_lt_add_left h2), rfl⟩

theorem Heap.Fresh.alloc {H : Heap} (hf : H.Fresh) (m : Mgr) (xs : List Elem) : (H.alloc m xs).Fresh := fun h hh => by
  rw [Heap.get_alloc, if_neg (Nat.ne_of_gt hh)]
  exact hf h (Nat.le_of_succ_le hh)

theorem allocCells_get_fresh (m : Mgr) (ls : List (List Elem)) (H : Heap) (hf : H.Fresh) (h : Nat)
    (hh : H.next + ls.length ≤ h) : (allocCells m ls H).2.get h = none := by
  induction ls generalizing H with
  | nil => exact hf h hh
  | cons xs rest ih =>
    rw [allocCells]
    rw [List.length_cons, Nat.add_comm rest.length, ← Nat.add_assoc] at hh
    exact ih _ (hf.alloc m xs) hh

theorem Heap.Fresh.allocCells {H : Heap} (hf : H.Fresh) (m : Mgr) (ls : List (List Elem)) : (allocCells m ls H).2.Fresh :=
  fun h hh => allocCells_get_fresh m ls H hf h (allocCells_next m ls H ▸ hh)

theorem allocCells_get_other {m : Mgr} {ls : List (List Elem)} {H : Heap} (hf : H.Fresh)
    {h : Nat} (hh : h ∉ (allocCells m ls H).1) : (allocCells m ls H).2.get h = H.get h := by
  by_cases hlt : h < H.next
  · exact allocCells_get_old m ls H h hlt
  · have hle := Nat.le_of_not_lt hlt
    have hge : H.next + ls.length ≤ h := Nat.le_of_not_lt fun hn => hh (mem_allocCells_fst.mpr ⟨hle, hn⟩)
    rw [allocCells_get_fresh m ls H hf h hge, hf h hle]

theorem allocCells_live {m : Mgr} {ls : List (List Elem)} {H : Heap} (hf : H.Fresh)
    {h : Nat} {cell : Cell} (hg : (allocCells m ls H).2.get h = some cell) :
    H.get h = some cell ∨ h ∈ (allocCells m ls H).1 := by
  by_cases hm : h ∈ (allocCells m ls H).1
  · exact .inr hm
  · exact .inl ((allocCells_get_other hf hm).symm.trans hg)

theorem allocCells_items (m : Mgr) (ls : List (List Elem)) (H : Heap) :
    (allocCells m ls H).1.map (itemsAt (allocCells m ls H).2) = ls := by
  rw [allocCells_fst]
  apply List.ext_getElem
  · simp
  · intro i h1 h2
    simp only [List.getElem_map, List.getElem_range', itemsAt]
    rw [Nat.one_mul, allocCells_get_new m ls H i h2]

theorem freeCells_get (hs : List Nat) (H : Heap) (h : Nat) :
    (freeCells hs H).get h = if h ∈ hs then none else H.get h := by
  induction hs generalizing H with
  | nil => simp [freeCells]
  | cons a r ih =>
    simp only [freeCells, List.foldl_cons] at *
    rw [ih]
    by_cases h1 : h ∈ r
    · simp [h1]
    · by_cases h2 : h = a
      · simp [h2]
      · simp [h1, h2]

theorem freeCells_live {hs : List Nat} {H : Heap} {h : Nat} {cell : Cell} (hg : (freeCells hs H).get h = some cell) :
    h ∉ hs ∧ H.get h = some cell := by
  rw [freeCells_get] at hg
  by_cases hh : h ∈ hs
  · rw [if_pos hh] at hg; cases hg
  · exact ⟨hh, (if_neg hh).symm.trans hg⟩

@[simp] theorem freeCells_next (hs : List Nat) (H : Heap) : (freeCells hs H).next = H.next := by
  induction hs generalizing H with
  | nil => rfl
  | cons a r ih => simp only [freeCells, List.foldl_cons] at *; rw [ih]; rfl

theorem Heap.Fresh.freeCells {H : Heap} (hf : H.Fresh) (hs : List Nat) : (freeCells hs H).Fresh := by
  intro h hh
  rw [freeCells_next] at hh
  rw [freeCells_get]; split
  · rfl
  · exact hf h hh

theorem emptyCells_get (hs : List Nat) (H : Heap) (h : Nat) :
    (emptyCells hs H).get h = if h ∈ hs then (H.get h).map (fun c => ⟨c.mgr, []⟩) else H.get h := by
  induction hs generalizing H with
  | nil => simp [emptyCells]
  | cons a r ih =>
    simp only [emptyCells, List.foldl_cons] at *
    rw [ih]
    by_cases h2 : h = a
    · subst h2
      by_cases h1 : h ∈ r
      · simp only [h1, if_true, Heap.get_setItems, List.mem_cons, true_or]
        cases H.get h <;> simp
      · simp [h1]
    · by_cases h1 : h ∈ r
      · simp [h1, h2]
      · simp [h1, h2]

theorem emptyCells_live {hs : List Nat} {H : Heap} {h : Nat} {cell : Cell} (hg : (emptyCells hs H).get h = some cell) :
    ∃ cell0, H.get h = some cell0 := by
  rw [emptyCells_get] at hg
  cases hw : H.get h with
  | none => rw [hw] at hg; split at hg <;> cases hg
  | some c0 => exact ⟨c0, rfl⟩

@[simp] theorem emptyCells_next (hs : List Nat) (H : Heap) : (emptyCells hs H).next = H.next := by
  induction hs generalizing H with
  | nil => rfl
  | cons a r ih => simp only [emptyCells, List.foldl_cons] at *; rw [ih]; rfl

theorem Heap.Fresh.emptyCells {H : Heap} (hf : H.Fresh) (hs : List Nat) : (emptyCells hs H).Fresh := by
  intro h hh
  rw [emptyCells_next] at hh
  rw [emptyCells_get, hf h hh]; split <;> rfl

end Momo.Val
