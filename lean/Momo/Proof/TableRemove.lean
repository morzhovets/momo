import Momo.Proof.TableIdx
/-!
  C07, index level: the step of the filtering operations: the store restricted to the rows a filter keeps (`keepRows`) and the
  restriction of a unique and of a multi index to them (`UInv_filter`; `MInv_filter`, the instance "nothing joins" of `MInv_transform`).
  Removal filters one raw out: `PrepareRemove` + `AcceptRemove` in a unique / a multi index (`UIdx.remove_spec`, `MIdx.remove_spec`).
  Its pieces (`MIdx.findRaw_pos`, `MIdx.acceptRemove_of`, `GroupStep.remove` / `GroupStep.other`, `MInv_removeAt`) serve the
  single-column update again, which removes by position.
-/
namespace Momo.Table
open List

/-- the rows `pvFilterRaws` keeps; with `fun x => x != raw`: the store without one row -/
def keepRows (st : Store) (keepRaw : Nat → Bool) : Store := st.filter (fun r => keepRaw r.id)

theorem ids_keepRows (st : Store) (keepRaw : Nat → Bool) : ids (keepRows st keepRaw) = (ids st).filter keepRaw := by
  unfold ids keepRows
  rw [filter_map]; rfl

theorem rowOf_keepRows (st : Store) (keepRaw : Nat → Bool) {x : Nat} (hx : keepRaw x = true) : rowOf (keepRows st keepRaw) x = rowOf st x := by
  unfold rowOf keepRows
  induction st with
  | nil => rfl
  | cons r rs ih =>
    by_cases h : r.id = x
    · have hk : keepRaw r.id = true := by rw [h]; exact hx
      rw [filter_cons_of_pos (by simpa using hk), find?_cons, find?_cons]
      simp [h]
    · by_cases hk : keepRaw r.id = true
      · rw [filter_cons_of_pos (by simpa using hk), find?_cons, find?_cons]
        have hb : (r.id == x) = false := by simp [h]
        rw [hb]; exact ih
      · rw [filter_cons_of_neg (by simpa using hk), find?_cons]
        have hb : (r.id == x) = false := by simp [h]
        rw [hb]; exact ih

theorem valsOf_keepRows (st : Store) (keepRaw : Nat → Bool) {x : Nat} (hx : keepRaw x = true) : valsOf (keepRows st keepRaw) x = valsOf st x := by
  unfold valsOf; rw [rowOf_keepRows st keepRaw hx]

theorem addrOf_keepRows (st : Store) (keepRaw : Nat → Bool) {x : Nat} (hx : keepRaw x = true) : addrOf (keepRows st keepRaw) x = addrOf st x := by
  unfold addrOf; rw [rowOf_keepRows st keepRaw hx]

theorem addrInj_keepRows {st : Store} (h : AddrInj st) (keepRaw : Nat → Bool) : AddrInj (keepRows st keepRaw) :=
  (filter_sublist.map _).nodup h

theorem UInv_filter (acc : Acc) {st : Store} {u u' : UIdx} (hu : UInv acc st u) (keepRaw : Nat → Bool) (hcols : u'.cols = u.cols)
    (hpos : u'.posAdd = none ∧ u'.posRem = none) (he : u'.ents.Perm (u.ents.filter (fun e => keepRaw e.id))) :
    UInv acc (keepRows st keepRaw) u' := by
  have hsub : ∀ e ∈ u'.ents, e ∈ u.ents ∧ keepRaw e.id = true := fun e h => by
    simpa using mem_filter.mp (he.mem_iff.mp h)
  refine ⟨hcols ▸ hu.colsNodup, hpos, ?_, ?_, ?_⟩
  · rw [ids_keepRows]
    refine (he.map _).trans ?_
    have : (u.ents.filter (fun e => keepRaw e.id)).map (·.id) = (u.ents.map (·.id)).filter keepRaw := by rw [filter_map]; rfl
    rw [this]
    exact hu.perm.filter _
  · intro e h
    obtain ⟨h1, h2⟩ := hsub e h
    rw [hcols, valsOf_keepRows st keepRaw h2]; exact hu.hash e h1
  · intro x hx y hy hk
    rw [ids_keepRows] at hx hy
    obtain ⟨hx1, hx2⟩ := mem_filter.mp hx
    obtain ⟨hy1, hy2⟩ := mem_filter.mp hy
    rw [hcols, valsOf_keepRows st keepRaw hx2, valsOf_keepRows st keepRaw hy2] at hk
    exact hu.uniq x hx1 y hy1 hk

theorem MInv_filter (acc : Acc) {st : Store} {m : MIdx} (hm : MInv acc st m) (keepRaw : Nat → Bool) (opts : List (Option Group))
    (hR : Forall₂ (GroupStep (addrOf st) keepRaw (fun _ => [])) m.groups opts) :
    MInv acc (keepRows st keepRaw) { cols := m.cols, groups := opts.filterMap id, kAdd := none, kRem := none } := by
  have hR' : Forall₂ (GroupStep (addrOf (keepRows st keepRaw)) keepRaw (fun _ => [])) m.groups opts := by
    refine hR.imp ?_
    intro g o hgo
    cases o with
    | none => exact hgo
    | some g' =>
      refine ⟨hgo.1, ?_, hgo.2.2⟩
      refine (SegSorted_congr ?_).mp hgo.2.1
      intro x hx
      have : x ∈ g'.members := by simp [Group.members, hx]
      have := hgo.1.mem_iff.mp this
      simp only [append_nil] at this
      rw [addrOf_keepRows st keepRaw (mem_filter.mp this).2]
  have := MInv_transform acc hm keepRaw (fun _ => []) [] opts (fun x _ hk => valsOf_keepRows st keepRaw hk) hR'
    (by simp) (by simp) (by simp) (by simp) (by
      rw [ids_keepRows]
      simp only [append_nil, map_nil]
      rw [← filter_flatMap]
      exact (hm.perm.filter _).symm)
  simpa using this

section find
variable {vis : Vis} (hc : Complete vis) (acc : Acc) {st : Store}
include hc

/-- `PrepareRemove(raw)` for a raw of the table -/
theorem MIdx.findRaw_pos (m : MIdx) (hm : MInv acc st m) {raw : Nat} (hraw : raw ∈ ids st) :
    ∃ q, ∃ hq : q < m.groups.length, m.findRaw vis acc st raw = some q ∧ raw ∈ m.groups[q].members := by
  obtain ⟨g, hg, hxg⟩ := hm.group_of hraw
  obtain ⟨i, hi, rfl⟩ := getElem_of_mem hg
  have hk := hm.member_key hg hxg
  obtain ⟨q, hf, hq, hp⟩ := m.find_present hc (hashVals acc m.cols (valsOf st raw)) (fun id => keyEq m.cols (valsOf st raw) (valsOf st id)) hi
    ((hm.hash _ hg).trans (hashVals_congr acc m.cols _ _ hk)) (by rw [keyEq_symm]; exact hk)
  exact ⟨q, hq, hf, hm.group_at hraw hq hp⟩

end find

/-- `MultiHash::AcceptRemove(raw)` with `mKeyIteratorRemove` at group `q` (`none`: `RemoveKey`) -/
theorem MIdx.acceptRemove_of (st : Store) (m : MIdx) (q raw : Nat) (hk : m.kRem = some q) :
    m.acceptRemove st raw = ⟨m.cols, ((m.groups.map some).set q
      (acceptRemoveGroup (addrOf st) (m.groups.getD q default) raw)).filterMap id, m.kAdd, none⟩ := by
  unfold MIdx.acceptRemove
  rw [hk, ← ListFacts.set_or_eraseIdx]
  dsimp only
  cases acceptRemoveGroup (addrOf st) (m.groups.getD q default) raw <;> rfl

section remove
variable {vis : Vis} (hc : Complete vis) (acc : Acc) {st : Store} (hnd : (ids st).Nodup)
include hc hnd

omit hc in
theorem GroupStep.remove {m : MIdx} (hm : MInv acc st m) {g : Group} (hg : g ∈ m.groups)
    (hga : (g.members.map (addrOf st)).Nodup) {raw : Nat}
    (hmem : raw ∈ g.members) {addr : Nat → Nat} (haddr : ∀ x ∈ ids st, addr x = addrOf st x) {add : Group → List Nat}
    (ha : add g = []) : GroupStep addr (fun x => x != raw) add g (acceptRemoveGroup (addrOf st) g raw) := by
  have hex := acceptRemoveGroup_exact (addrOf st) g raw hga (hm.sorted g hg) hmem
  cases ho : acceptRemoveGroup (addrOf st) g raw with
  | none => rw [ho] at hex; exact ⟨by rw [hex]; simp, ha⟩
  | some g' =>
    rw [ho] at hex
    refine ⟨by rw [ha, append_nil, ← (hm.members_nodup hnd hg).erase_eq_filter]; exact hex.1, ?_, hex.2.2⟩
    refine (SegSorted_congr fun y hy => ?_).mpr hex.2.1
    exact haddr y (hm.members_sub hg y (mem_of_mem_erase (hex.1.mem_iff.mp (mem_cons_of_mem _ hy))))

omit hc in
theorem GroupStep.other {m : MIdx} (hm : MInv acc st m) {q i : Nat} (hq : q < m.groups.length) (hi : i < m.groups.length)
    (hqi : q ≠ i) {raw : Nat} (hmem : raw ∈ m.groups[q].members) {addr : Nat → Nat} (haddr : ∀ x ∈ ids st, addr x = addrOf st x)
    {add : Group → List Nat} (ha : add m.groups[i] = []) :
    GroupStep addr (fun x => x != raw) add m.groups[i] (some m.groups[i]) := by
  refine GroupStep.unchanged (fun y hy => ?_) ha ?_
  · have : y ≠ raw := fun e => hm.not_mem_of_ne hnd hq hi hqi hmem (e ▸ hy)
    simpa using this
  · exact (SegSorted_congr fun y hy => haddr y (hm.members_sub (getElem_mem hi) y (mem_cons_of_mem _ hy))).mpr
      (hm.sorted _ (getElem_mem hi))

omit hc in
/-- removal searches a group by address: what it needs of the addresses is that they are distinct inside the group (`hga`) -/
theorem MInv_removeAt {m : MIdx} (hm : MInv acc st m) {q : Nat} (hq : q < m.groups.length)
    (hga : (m.groups[q].members.map (addrOf st)).Nodup) {raw : Nat} (hmem : raw ∈ m.groups[q].members) :
    MInv acc (keepRows st (fun x => x != raw))
      ⟨m.cols, ((m.groups.map some).set q (acceptRemoveGroup (addrOf st) m.groups[q] raw)).filterMap id, none, none⟩ := by
  refine MInv_filter acc hm (fun x => x != raw) _ (forall₂_set (length_map _).symm q _ fun i hi => ?_)
  rw [getElem_map]
  by_cases e : q = i
  · subst e; rw [if_pos rfl]
    exact GroupStep.remove acc hnd hm (getElem_mem hq) hga hmem (fun _ _ => rfl) rfl
  · rw [if_neg e]
    exact GroupStep.other acc hnd hm hq hi e hmem (fun _ _ => rfl) rfl

theorem MIdx.remove_spec (m : MIdx) (hm : MInv acc st m) (hga : ∀ g ∈ m.groups, (g.members.map (addrOf st)).Nodup) {raw : Nat}
    (hraw : raw ∈ ids st) :
    MInv acc (keepRows st (fun x => x != raw)) ((m.prepareRemove vis acc st raw).acceptRemove st raw) := by
  obtain ⟨q, hq, hf, hmem⟩ := m.findRaw_pos hc acc hm hraw
  rw [MIdx.acceptRemove_of st (m.prepareRemove vis acc st raw) q raw hf]
  dsimp only [MIdx.prepareRemove]
  rw [hm.noPos.1, ListFacts.getD_eq_getElem hq]
  exact MInv_removeAt acc hnd hm hq (hga _ (getElem_mem hq)) hmem

theorem UIdx.remove_spec (u : UIdx) (hu : UInv acc st u) {raw : Nat} (hraw : raw ∈ ids st) :
    UInv acc (keepRows st (fun x => x != raw)) (u.prepareRemove vis acc st raw).acceptRemove := by
  apply UInv.of_toM
  rw [UIdx.toM_acceptRemove st raw, UIdx.toM_prepareRemove]
  exact MIdx.remove_spec hc acc hnd u.toM (hu.toM hnd) (u.toM_addr_nodup _) hraw

end remove
end Momo.Table
