import Momo.Translated
import Momo.Translated.Misc
import Momo.Proof.SegLog
/-!
  C16: `UIntMath::pvLog2` (8-byte and 4-byte de Bruijn variants, tables included) and `UIntMath::Log2` as translated
  from Utility.h (area Misc, lean/Momo/Translated/Misc.lean) are the machine-word models `log2db64` / `log2db32` of
  `Momo/Model/Seg.lean`; the translations of the `SegmentedArraySettings` helpers (`TrEqSeg`) *call* the
  hand-written `Seg.log2db64`, which is thereby tied to the header too. Also `SegmentedArraySettings<cnst>::GetItemCount`.
-/
namespace Momo.TrEq
open Momo Momo.Seg

theorem tab64_getD (i : Nat) : tab64.getD i 0 = Extracted.log2Tab64.getD i 0 := by
  unfold tab64
  simp [Array.getD_eq_getD_getElem?, List.getD_eq_getElem?_getD]

theorem tab32_getD (i : Nat) : tab32.getD i 0 = Extracted.log2Tab32.getD i 0 := by
  unfold tab32
  simp [Array.getD_eq_getD_getElem?, List.getD_eq_getElem?_getD]

/-- `pvLog2` for `sizeof(UInt) == 8`; every `size_t` argument, 0 included -/
theorem tr_pvLog2_64 (v : Nat) (hv : v < 2 ^ 64) : Tr.um_pvLog2_64 v = log2db64 v := by
  rw [log2db64_eq_nat]
  unfold Tr.um_pvLog2_64 log2nat64
  rw [tab64_getD, w64_of_lt hv]
  simp only [smear, Extracted.log2Smear64, List.foldl, Extracted.log2Mul64, Extracted.log2Shift64]
  rw [sub64_of_le (Nat.shiftRight_le _ _)]
  rfl

/-- `Log2(value) { return pvLog2(value); }` -/
theorem tr_Log2 (v : Nat) (hv : v < 2 ^ 64) : Tr.um_Log2 v = log2db64 v := tr_pvLog2_64 v hv

/-- `pvLog2` for `sizeof(UInt) == 4` (`uint32_t` arithmetic: the product wraps mod 2^32) -/
theorem tr_pvLog2_32 (v : Nat) (hv : v < 2 ^ 32) : Tr.um_pvLog2_32 v = log2db32 v := by
  rw [log2db32_eq_nat]
  unfold Tr.um_pvLog2_32 log2nat32
  rw [tab32_getD, w32_of_lt hv]
  simp only [smear, Extracted.log2Smear32, List.foldl, Extracted.log2Mul32, Extracted.log2Shift32]
  rfl

/-- the translated `pvIndexToLogItemCount` (base table; it calls `Seg.log2db64`) is its own text with the call of
    `UIntMath<>::Log2` resolved to the *translated* `Log2` -/
theorem tr_sqrt_indexToLog_um (i1 : Nat) (h : i1 < 2 ^ 64) :
    Tr.segSqrt_pvIndexToLogItemCount i1 = (add64 (Tr.um_Log2 i1) 1) / 2 := by
  rw [tr_Log2 i1 h]; rfl

/-- the same for `pvSegIndexToLogItemCount` (its argument `(segIndex * 2 + 4) / 3` is always a `size_t`) -/
theorem tr_sqrt_segToLog_um (s : Nat) :
    Tr.segSqrt_pvSegIndexToLogItemCount s = Tr.um_Log2 ((add64 (mul64 s 2) 4) / 3) := by
  have : add64 (mul64 s 2) 4 / 3 < 2 ^ 64 := Nat.lt_of_le_of_lt (Nat.div_le_self _ _) (w64_lt _)
  rw [tr_Log2 _ this]; rfl

/-- the constant sizing's `GetItemCount(segIndex)` ignores its argument, so the generated function has none; `s` is free -/
theorem tr_cnst_getItemCount (L0 s : Nat) : Tr.segCnst_GetItemCount L0 = itemCount64 .cnst L0 s := rfl

end Momo.TrEq
