import Momo.Proof.ObjMain
import Momo.Proof.ArrSegFaultOps
import Momo.Proof.BTreeFaultCopy
import Momo.Proof.HTLedgerCons
import Momo.Proof.MMLedgerSys
import Momo.Proof.MMLedgerRefine
/-!
# C04 — Strongly exception-safe operations leave the container unchanged on failure

Under EVERY fault schedule (an arbitrary list or record of decisions, one per fallible step) the operation either completes with the
fault-free result or throws and leaves the container and the ledger of blocks and objects exactly as they were, up to the exceptions
stated at the theorem; beside that: the container stays usable, a failed constructor leaves nothing behind, the run without a fault
completes. One section per model of the faults: the object level (`Momo.Obj`: the building blocks every container grows / inserts with,
`ObjectManager::RelocateCreate` (bucket and node growth, array reallocation) and `CopyExec` (key-value pair creation)),
`momo::Array` / `ArrayIntCap` (`Momo.ArrF`), the B-tree family (`Momo.BTreeF`),
`momo::SegmentedArray` (`Momo.ArrF.Seg`), `momo::HashSet` / `HashMap` with the ledger (`Momo.HTL`; the strong guarantee on the table alone is
Props/C11.lean, `C11_add_every_fault_partial`, `C11_reserve_every_fault_partial`), `momo::HashMultiMap` (`Momo.MML`).
-/
namespace Momo.Obj

/-- **C04, RelocateCreate.** If `RelocateCreate` exits with an exception — whichever copy or the
creator threw — every cell of memory is exactly as before (sources alive with their values, destination
and new slot raw), and the recorded construction/destruction trace is well-formed: nothing was
constructed over a live object, destroyed twice or used after destruction, and nothing is left over. -/
theorem C04_relocateCreate_strong {occ0 : Nat → Bool} (c : Cat) (s : St) (src dst count newAddr v : Nat)
    (ht : TraceOK occ0 s) (pre : Pre s src dst count newAddr)
    (hthrew : (relocateCreate c s src dst count newAddr v).2 = .threw) :
    (∀ x, (relocateCreate c s src dst count newAddr v).1.mem x = s.mem x) ∧
    TraceOK occ0 (relocateCreate c s src dst count newAddr v).1 :=
  ⟨(relocateCreate_spec c s src dst count newAddr v ht pre).2.1 hthrew,
   (relocateCreate_spec c s src dst count newAddr v ht pre).1⟩

/-- **C04/C03, RelocateCreate succeeds.** Every element now lives at its destination with its old
value, every source cell is raw again (relocated or destroyed exactly once), the new object exists. -/
theorem C04_relocateCreate_ok {occ0 : Nat → Bool} (c : Cat) (s : St) (src dst count newAddr v : Nat)
    (ht : TraceOK occ0 s) (pre : Pre s src dst count newAddr)
    (hok : (relocateCreate c s src dst count newAddr v).2 = .ok) :
    (∀ x, (relocateCreate c s src dst count newAddr v).1.mem x = relocated s.mem src dst count newAddr v x) ∧
    TraceOK occ0 (relocateCreate c s src dst count newAddr v).1 :=
  ⟨(relocateCreate_spec c s src dst count newAddr v ht pre).2.2 hok,
   (relocateCreate_spec c s src dst count newAddr v ht pre).1⟩

/-- **C04, CopyExec** (creation of a key together with its value): a failure of the key copy or of
the value creator leaves memory unchanged. -/
theorem C04_copyExec_strong {occ0 : Nat → Bool} (s : St) (src dst newAddr v : Nat) (ht : TraceOK occ0 s)
    (hs : s.mem src ≠ .raw) (hd : s.mem dst = .raw) (hn : s.mem newAddr = .raw) (hne : newAddr ≠ dst)
    (hthrew : (copyExec s src dst newAddr v).2 = .threw) :
    (∀ x, (copyExec s src dst newAddr v).1.mem x = s.mem x) ∧ TraceOK occ0 (copyExec s src dst newAddr v).1 :=
  ⟨(copyExec_spec s src dst newAddr v ht hs hd hn hne).2.1 hthrew, (copyExec_spec s src dst newAddr v ht hs hd hn hne).1⟩

/-! Non-vacuity: a concrete memory meeting `Pre`, a failing and a succeeding schedule. -/
def exMem : Mem := fun a => if 100 ≤ a ∧ a < 103 then .live (1000 + (a - 100)) else .raw
def exSt (faults : List Bool) : St := { mem := exMem, evs := [], faults := faults }

example : Pre (exSt [false, true]) 100 200 3 300 := by
  refine ⟨?_, ?_, ?_, ?_, ?_, ?_⟩ <;> decide +kernel
example : TraceOK (occOf exMem) (exSt [false, true]) := by simp [TraceOK, exSt, replay]
example : (relocateCreate .copyOnly (exSt [false, true]) 100 200 3 300 7).2 = .threw := by decide +kernel
example : (relocateCreate .copyOnly (exSt []) 100 200 3 300 7).2 = .ok := by decide +kernel
example : (relocateCreate .nmove (exSt [true]) 100 200 3 300 7).2 = .threw := by decide +kernel

end Momo.Obj

/-!
## Arrays: `momo::Array` / `ArrayIntCap` under every fault schedule (model `Momo/Model/ArrFault.lean`)

The operations of Array.h as written; every fallible step - `Allocate` / `Reallocate` of the memory manager, each element copy
construction or creator call, construction from an rvalue of a type that is not nothrow-move-constructible, copy / move
assignment - consumes one decision of the fault schedule `x.faults` (an arbitrary `List Bool`), and an exception unwinds through
the catch blocks and guard destructors of the source.  `x.arr` is the `Array::Data` (cells `live v | moved`, capacity, internal /
external storage), `x.blocks` / `x.objs` / `x.bad` the ledger of outstanding memory blocks and constructed-but-not-destroyed item objects.
`Valid cfg rest k x` = the array satisfies the representation invariant `Momo.Arr.WF` and the ledger is *exactly* what
the array owns (its block if the storage is external, one object per cell) plus the blocks `rest` and `k` objects of the
rest of the program; no bad deallocation / destruction has been seen.  `Post m x Q E` = running `m` from `x` either
completes in a state satisfying `Q` or throws in a state satisfying `E`.

Quantifiers: every configuration (`cfg`: internal capacity, relocation category of the item type, `Reallocate` /
`ReallocateInplace` support and answer, growth policy), every choice of which element operations can throw (`thr`),
every valid state (cells live or moved-from), every argument incl. a value argument that is element `j` of the same
array (`Ref.elem j`, the aliasing paths), every fault schedule.
-/
namespace Momo.ArrF
open Momo.Arr
variable {α : Type}

/-- **C04, arrays.** "If an operation the library documents as strongly exception-safe (… AddBack, resize, reserve,
shrink, copy … assignment …) exits with an exception raised by the memory manager, by an element's copy constructor or
constructor-from-arguments … then the container's observable contents, order and count are exactly those before the
call, nothing is leaked, and the container remains fully usable."  For `AddBack(const Item&)`, `AddBack(Item&&)`,
`AddBackCrt/AddBackVar` (lvalue or rvalue argument), `SetCount(count, item)`, `Reserve`, `Shrink`,
`operator=(const Array&)`: under EVERY fault schedule the call either completes with exactly the state of the fault-free
model `Momo.Arr` (itself valid, ledger exact), or throws with the array - cells, order, count, capacity, storage - and
the ledger exactly as before (`y.core = x.core`). -/
theorem C04_array_strong_every_fault (cfg : Cfg) (thr : Thr) (rest : List Nat) (k : Nat) (op : FOp α)
    (hop : op.strong = true) (x : Sys α) (v : Valid cfg rest k x) :
    Post (stepF cfg thr op) x
      (fun _ y => y.arr = (pureStep cfg x.arr op).1 ∧ Valid cfg rest k y)
      (fun y => y.arr = x.arr ∧ y.blocks = x.blocks ∧ y.objs = x.objs ∧ y.bad = x.bad) :=
  Post.mono (strong_step cfg thr rest k op hop x v).post
    (fun _ _ h => h) (fun y h => (core_eq_iff x y).mp h)

/-- **C04, "remains fully usable".** Whatever happened - success or exception - the state after a strong operation is
again a valid array with an exact ledger, i.e. it satisfies the hypothesis of every theorem of this section: any
operation can be applied to it. -/
theorem C04_array_usable_after (cfg : Cfg) (thr : Thr) (rest : List Nat) (k : Nat) (op : FOp α)
    (hop : op.strong = true) (x : Sys α) (v : Valid cfg rest k x) :
    Post (stepF cfg thr op) x (fun _ y => Valid cfg rest k y) (fun y => Valid cfg rest k y) :=
  Post.mono (strong_step cfg thr rest k op hop x v).post
    (fun _ _ h => h.2) (fun _ h => v.of_core h)

/-- **C04, constructors.** "A constructor that fails leaves nothing allocated and nothing constructed."
`Array(const Array&, bool shrink)` and `Array(count, item)`: under every fault schedule either the new object is the
fault-free one and the ledger gained exactly its block and one object per item, or the constructor throws and the
ledger is as it was; in particular an empty ledger stays empty. -/
theorem C04_array_constructor_clean (cfg : Cfg) (thr : Thr) (src : State α) (shrinkFlag : Bool) (count : Nat) (c : Cell α)
    (x : Sys α) (w : WF cfg src) :
    Post (copyCtorF cfg thr src shrinkFlag) x
      (fun _ y => y.arr = (copyCtor cfg src shrinkFlag).1 ∧ WF cfg y.arr ∧
        y.blocks = ownBlocks cfg y.arr ++ x.blocks ∧ y.objs = x.objs + y.arr.cells.length ∧ y.bad = x.bad)
      (fun y => y.blocks = x.blocks ∧ y.objs = x.objs ∧ y.bad = x.bad ∧
        (x.blocks = [] → x.objs = 0 → y.blocks = [] ∧ y.objs = 0)) ∧
    Post (newFillF cfg thr count c) x
      (fun _ y => y.arr = (newFill cfg count c).1 ∧ WF cfg y.arr ∧
        y.blocks = ownBlocks cfg y.arr ++ x.blocks ∧ y.objs = x.objs + y.arr.cells.length ∧ y.bad = x.bad)
      (fun y => y.blocks = x.blocks ∧ y.objs = x.objs ∧ y.bad = x.bad ∧
        (x.blocks = [] → x.objs = 0 → y.blocks = [] ∧ y.objs = 0)) := by
  have keep : ∀ y : Sys α, y.blocks = x.blocks ∧ y.objs = x.objs ∧ y.bad = x.bad →
      y.blocks = x.blocks ∧ y.objs = x.objs ∧ y.bad = x.bad ∧ (x.blocks = [] → x.objs = 0 → y.blocks = [] ∧ y.objs = 0) :=
    fun y ⟨h1, h2, h3⟩ => ⟨h1, h2, h3, fun a b => ⟨h1.trans a, h2.trans b⟩⟩
  refine ⟨Post.mono (ctor_step cfg thr _ src.cells x ?_).post (fun _ _ h => h) keep,
    Post.mono (ctor_step cfg thr count (List.replicate count c) x (by simp)).post (fun _ _ h => h) keep⟩
  split
  · exact Nat.le_refl _
  · exact w.count_le

/-- **C04, the fault-free run.** With an exhausted fault schedule (nothing fails) every operation - strong or basic -
completes, and the result is the state of the fault-free model `Momo.Arr` (which Props/C05.lean relates to the reference
sequence), valid, with an exact ledger: the "completes" branch of the theorems above is the one taken when nothing
throws. -/
theorem C04_array_no_fault_completes (cfg : Cfg) (thr : Thr) (rest : List Nat) (k : Nat) (op : FOp α)
    (x : Sys α) (v : Valid cfg rest k x) (hpre : op.pre cfg x.arr) (hf : x.faults = []) :
    ∃ y, (stepF cfg thr op).run x = (.ok (), y) ∧ y.arr = (pureStep cfg x.arr op).1 ∧ Valid cfg rest k y :=
  nofault_step cfg thr rest k op x v hpre hf

/-! Non-vacuity: a valid `ArrayIntCap<2>`-like state of a copy-only item type at full capacity, with the first item
moved-from; concrete schedules that fail at each kind of step and one that succeeds. -/
def exCfg : Cfg := { intCap := 2, keeps := true, nothrowReloc := false, nothrowMove := false }
def exThr : Thr := { copy := true, move := true, assign := true }
def exSys (faults : List Bool) : Sys Nat :=
  { arr := { cells := [.moved, .live 11, .live 12, .live 13], cap := 4 }, faults := faults, blocks := [4, 99], objs := 4 + 5 }
def outcome {β : Type} (r : Res β × Sys Nat) : Bool × Cells Nat × Nat × List Nat × Nat × Bool :=
  (match r.1 with | .ok _ => true | .threw => false, r.2.arr.cells, capacity exCfg r.2.arr, r.2.blocks, r.2.objs, r.2.bad)

example : Valid exCfg [99] 5 (exSys []) := by
  refine ⟨⟨by decide, ?_, ?_, ?_⟩, by unfold Frame; decide, by decide, rfl⟩ <;> simp [exSys, exCfg]
/-- `AddBack(array[1])` has to grow: the allocation is refused -/
example : outcome ((stepF exCfg exThr (.addBackCopy (.elem 1))).run (exSys [true]))
    = (false, [.moved, .live 11, .live 12, .live 13], 4, [4, 99], 9, false) := by decide +kernel
/-- the third copy into the new storage throws: copies destroyed, new block returned -/
example : outcome ((stepF exCfg exThr (.addBackCopy (.elem 1))).run (exSys [false, false, false, true]))
    = (false, [.moved, .live 11, .live 12, .live 13], 4, [4, 99], 9, false) := by decide +kernel
/-- the creator of the new item throws after all four copies -/
example : outcome ((stepF exCfg exThr (.addBackCopy (.elem 1))).run (exSys [false, false, false, false, false, true]))
    = (false, [.moved, .live 11, .live 12, .live 13], 4, [4, 99], 9, false) := by decide +kernel
/-- no fault: the fault-free result, one more object, the old block replaced by the new one -/
example : outcome ((stepF exCfg exThr (.addBackCopy (.elem 1))).run (exSys []))
    = (true, [.moved, .live 11, .live 12, .live 13, .live 11], 8, [8, 99], 10, false) := by decide +kernel
example : (pureStep exCfg (exSys []).arr (.addBackCopy (.elem 1))).1.cells = [.moved, .live 11, .live 12, .live 13, .live 11] := by
  decide +kernel
/-- a failing copy constructor: the three items already copied are destroyed, the block is returned -/
example : outcome ((copyCtorF exCfg exThr (exSys []).arr true).run { (exSys [false, false, false, false, true]) with blocks := [], objs := 0 })
    = (false, [], 2, [], 0, false) := by decide +kernel

end Momo.ArrF

/-! # B-tree family (`momo::TreeSet` / `momo::TreeMap`): the strong guarantee under every fault schedule

Model: `Momo/Model/BTreeFault.lean` — the fault-parametric layer over the B-tree model of C02: every call of the comparison
functor, every `MemManager::Allocate` (node-params block, `Node::Create`, growth of the Relocator's four bookkeeping arrays,
crew block), every element construction (creator, the copies of a not-nothrow-relocatable relocation) and every element
assignment of `Replace` consults an explicit schedule `S : Sched`; a ledger counts live leaf / internal nodes, items,
bookkeeping blocks, params and crew blocks. The theorems hold for EVERY schedule, every configuration (`maxCap ≥ 1`, any
capacity step, linear or binary search, unique or multi), every item category `ic` (nothrow relocatable or not, nothrow
assignable or not), every well-formed container (`FTree.WF`: the invariant of C02 + "a root exists only with its params")
and every position / key. Lemmas: `Momo/Proof/BTreeFault*.lean`. -/
namespace Momo.BTreeF
open Momo.BTree Momo.BTree.Node
variable {α : Type}

/-- **The Relocator never leaks** (`CreateNode` reserves the slot in `mNewNodes` before `Node::Create`, `~Relocator`
destroys what is registered): for EVERY sequence of `mOldNodes.AddBack` / `CreateNode` / `AddSegment` calls — not only
those `pvAdd` makes — and every schedule, whichever step throws, the destructor returns the ledger to what it was when
the Relocator was constructed. -/
theorem C04_tree_relocator_restores (S : Sched) (plan : List PStep) (w : W) :
    ((Reloc.run S plan {} w).2.1.destroy (Reloc.run S plan {} w).2.2).led = w.led :=
  Reloc.run_destroy S plan w

/-- **Insert / InsertVar / emplace, map insertion and subscript insertion** (`pvInsert` with a constructing creator:
search with a throwing `IsLess`, `pvAddFirst`, in-place add, `pvAddGrow`, `pvAddSplit` with its cascade up to a new root).
If the call exits with an exception — thrown by a comparison, by the memory manager at any of its allocations, by a copy
of a relocation or by the item's own constructor — the tree is *the same tree* (same nodes, hence same contents, order and
count), the ledger is unchanged except that the node-params block of a container that had no root may now exist (it is
owned and holds no node), and the container satisfies its invariant. If it returns, tree, iterator and `inserted` are those
of the fault-free model (`C02_insert_stable` says what they are). In both cases the ledger moved exactly with what the
container owns (`Frame`): nothing leaked. -/
theorem C04_tree_insert_strong (S : Sched) (ic : ICfg α) (cfg : Cfg) (hmax : 0 < cfg.maxCap) (lt : α → α → Bool)
    (ho : Order lt) (ft : FTree α) (hw : ft.WF cfg) (hs : SortedBy lt cfg.multi ft.tree.toList) (x : α) (w : W)
    {t : Bool} {s : Unit} {ft' : FTree α} {p : Pos} {ins : Bool} {w' : W}
    (h : insertF S ic cfg lt ft x (copyCreator S) () w = (t, s, ft', p, ins, w')) :
    (t = true → ft'.tree = ft.tree ∧ w'.led = w.led + (ft'.nodeLed - ft.nodeLed) ∧
        (ft.tree.root ≠ none → ft' = ft ∧ w'.led = w.led)) ∧
    (t = false → ft'.tree = (Tree.insert lt cfg ft.tree x).1 ∧ p = (Tree.insert lt cfg ft.tree x).2.1 ∧
        ins = (Tree.insert lt cfg ft.tree x).2.2) ∧
    ft'.WF cfg ∧ Frame w ft w' ft' := by
  obtain ⟨a1, a2, a3, -⟩ := insertF_spec S ic cfg hmax lt ho ft hw hs x (copyCreator S) () (copyCreator_spec S) w h
  refine ⟨fun ht => ?_, fun ht => ⟨(a2 ht).1, (a2 ht).2.1, (a2 ht).2.2.1⟩, a3, insertF_frame S ic cfg hmax lt ho ft hw hs x w h⟩
  obtain ⟨e1, e2, -⟩ := a1 ht
  refine ⟨e1, e2, fun hr => ?_⟩
  have hp : ft'.params = ft.params := by rw [hw.params hr, a3.params (by rw [e1]; exact hr)]
  have hft : ft' = ft := by cases ft; cases ft'; cases e1; cases hp; rfl
  subst hft
  exact ⟨rfl, e2.trans (Ledger.add_sub_self _ _).symm⟩

/-- **Add(iter, item) / AddVar / AddCrt** (`pvAdd` at a hint, any valid iterator incl. `GetEnd()` and iterators into internal
nodes): the same statement for the hinted insertion. -/
theorem C04_tree_add_strong (S : Sched) (ic : ICfg α) (cfg : Cfg) (hmax : 0 < cfg.maxCap) (ft : FTree α) (hw : ft.WF cfg)
    (pos : Pos) (hv : ft.tree.ValidPos pos) (x : α) (w : W) {t : Bool} {s : Unit} {ft' : FTree α} {p : Pos} {w' : W}
    (h : addF S ic cfg ft pos x (copyCreator S) () w = (t, s, ft', p, w')) :
    (t = true → ft'.tree = ft.tree ∧ w'.led = w.led + (ft'.nodeLed - ft.nodeLed)) ∧
    (t = false → ft'.tree = (ft.tree.add cfg pos x).1 ∧ p = (ft.tree.add cfg pos x).2) ∧
    ft'.WF cfg ∧ Frame w ft w' ft' := by
  obtain ⟨a1, a2, a3, -⟩ := addF_spec S ic cfg hmax ft hw pos hv x (copyCreator S) () (copyCreator_spec S) w h
  exact ⟨fun ht => ⟨(a1 ht).1, (a1 ht).2.1⟩, fun ht => ⟨(a2 ht).1, (a2 ht).2.1⟩, a3, addF_frame S ic cfg hmax ft hw pos hv x w h⟩

/-- **Remove(iter) and Extract(iter) / Remove(iter, extItem)** (`pvRemove`: leaf item, internal item replaced by its
predecessor through `Replace` / `ReplaceRelocate`, empty left subtree destroyed; then `pvRebalance`). If the call exits with
an exception — the copy of the extracted item into the handle or the assignment of `Replace` threw — and the item type is
not the documented exception 5 of TreeMap.h (`unsafeRepl`: key and value both not nothrow-anyway-assignable), container and
ledger are exactly as before. If it returns — also when node merges of `pvRebalance` were refused by faults its
`catch (...)` swallows — the in-order list lost exactly that element, the invariant holds, the returned iterator denotes the
same index, and the ledger moved by the node difference and by the destroyed item (an extracted item lives on in the
handle). Without construction / assignment faults the result is the fault-free removal, node for node. -/
theorem C04_tree_remove_strong (S : Sched) (ic : ICfg α) (cfg : Cfg) (mode : RemMode) (ft : FTree α) (hw : ft.WF cfg)
    (pos : Pos) (hv : ft.tree.ValidElem pos) (w : W) {t : Bool} {ft' : FTree α} {p : Pos} {w' : W}
    (h : removeF S ic cfg mode ft pos w = (t, ft', p, w')) :
    (t = true → w'.led = w.led ∧ (ic.unsafeRepl = false → ft' = ft)) ∧
    (t = false →
      ft'.tree.toList = ft.tree.toList.eraseIdx (ft.tree.idxOf pos) ∧ ft'.WF cfg ∧
      ft'.tree.idxOf p = ft.tree.idxOf pos ∧ ft'.tree.ValidPos p ∧
      w'.led = w.led + (ft'.nodeLed - ft.nodeLed) + Ledger.ofItems (itemsDelta mode)) ∧
    (S.NoCtor → S.NoRepl → t = false ∧ ft'.tree = (ft.tree.remove cfg pos).1 ∧ p = (ft.tree.remove cfg pos).2) :=
  removeF_spec S ic cfg mode ft hw pos hv w h

/-- **Copy construction (and thereby copy assignment = copy + swap).** A constructor that fails — crew block, node-params
block, any `Node::Create` of the pre-order `pvCopy`, any element copy — leaves the ledger exactly as it was: nothing
allocated, nothing constructed (the `catch (...)` of every `pvCopy` level destroys the items and children copied so far, the
destructor that runs after the delegating constructor's body threw releases params and crew). A constructor that returns
made the fault-free copy (`C02_copy`: same sequence, well-formed) and the ledger grew by exactly what the new container
owns plus its crew block. The source is not touched (it is not even an output of `copyF`). -/
theorem C04_tree_copy_strong (S : Sched) (ic : ICfg α) (cfg : Cfg) (src : FTree α) (hw : src.WF cfg) (w : W)
    {t : Bool} {ft' : FTree α} {w' : W} (h : copyF S ic cfg src w = (t, ft', w')) :
    (t = true → w'.led = w.led) ∧
    (t = false → ft'.tree = Tree.copy cfg src.tree ∧ ft'.WF cfg ∧
      w'.led = w.led + ft'.own + ({ crews := if ic.crewAlloc then 1 else 0 } : Ledger)) ∧
    (S.NoAlloc → S.NoCtor → t = false) :=
  copyF_spec S ic cfg src hw w h

/-- **The container remains fully usable.** After a failed insertion the container is well-formed with the old tree; the
same (or any other) insertion run without faults returns and gives exactly what the fault-free model gives *on the original
tree*. (For removal: `C04_tree_remove_strong` returns the very same container, so there is nothing to add.) -/
theorem C04_tree_usable_after (S S' : Sched) (hc' : S'.Clean) (ic : ICfg α) (cfg : Cfg) (hmax : 0 < cfg.maxCap)
    (lt : α → α → Bool) (ho : Order lt) (ft : FTree α) (hw : ft.WF cfg) (hs : SortedBy lt cfg.multi ft.tree.toList)
    (x y : α) (w : W) {s : Unit} {ft' : FTree α} {p : Pos} {ins : Bool} {w' : W}
    (h : insertF S ic cfg lt ft x (copyCreator S) () w = (true, s, ft', p, ins, w')) (w2 : W) :
    (insertF S' ic cfg lt ft' y (copyCreator S') () w2).1 = false ∧
    (insertF S' ic cfg lt ft' y (copyCreator S') () w2).2.2.1.tree = (Tree.insert lt cfg ft.tree y).1 ∧
    (insertF S' ic cfg lt ft' y (copyCreator S') () w2).2.2.2.2.1 = (Tree.insert lt cfg ft.tree y).2.2 := by
  obtain ⟨a1, _, a3, -⟩ := insertF_spec S ic cfg hmax lt ho ft hw hs x (copyCreator S) () (copyCreator_spec S) w h
  obtain ⟨e1, _⟩ := a1 rfl
  rcases hi : insertF S' ic cfg lt ft' y (copyCreator S') () w2 with ⟨t2, s2, ft2, p2, ins2, w3⟩
  obtain ⟨c0, c1, -, c3⟩ := insertF_clean S' hc'.cmp hc'.alloc hc'.ctor ic cfg hmax lt ho ft' a3 (e1 ▸ hs) y _ ()
    (copyCreator_spec S') (copyCreator_noThrow S' hc'.ctor) w2 hi
  rw [e1] at c1 c3
  exact ⟨c0, c1, c3⟩

/-! Non-vacuity: a capacity-1 tree of three levels (so that an insertion cascades, needs a new root and makes the Relocator's
`mNewNodes` leave its internal storage), concrete schedules that fail at an allocation, at a comparison, at the creator, and
one that does not fail; the documented exception 5 as a concrete witness. -/
def x4Lt (a b : Nat × Nat) : Bool := a.1 < b.1
def x4Cfg : Cfg := { maxCap := 1, step := 1, blockGt1 := false, linear := true, multi := false }
def x4Ic : ICfg (Nat × Nat) := { reloc := false, assign := false }
/-- keys 1..7, every node full -/
def x4Root : Node (Nat × Nat) :=
  inner [(4, 4)] [inner [(2, 2)] [leaf 1 [(1, 1)], leaf 1 [(3, 3)]], inner [(6, 6)] [leaf 1 [(5, 5)], leaf 1 [(7, 7)]]]
def x4Ft : FTree (Nat × Nat) := { tree := { root := some x4Root, count := 7 }, params := true }
def x4W : W := { led := { leaves := 4, inners := 3, items := 7, params := 1 } }
def x4Fail (kind : Nat) (k : Nat) : Sched :=
  { cmp := fun i => kind == 0 && i == k, alloc := fun i => kind == 1 && i == k, ctor := fun i => kind == 2 && i == k,
    repl := fun i => kind == 3 && i == k, filt := fun _ => false }
def x4Out (r : Bool × Unit × FTree (Nat × Nat) × Pos × Bool × W) : Bool × List (Nat × Nat) × Ledger :=
  (r.1, r.2.2.1.tree.toList, r.2.2.2.2.2.led)

example : x4Ft.WF x4Cfg := by
  refine ⟨⟨by decide, ?_, ?_⟩, fun _ => rfl⟩
  · intro r hr; cases hr
    exact ⟨2, Bal.inner 1 _ _ rfl (by
      intro c hc; simp only [List.mem_cons, List.not_mem_nil, or_false] at hc
      rcases hc with rfl | rfl <;> exact Bal.inner 0 _ _ rfl (by
        intro c hc; simp only [List.mem_cons, List.not_mem_nil, or_false] at hc
        rcases hc with rfl | rfl <;> exact Bal.leaf _ _))⟩
  · intro r hr; cases hr
    exact Caps.inner _ _ (by decide) (by
      intro c hc; simp only [List.mem_cons, List.not_mem_nil, or_false] at hc
      rcases hc with rfl | rfl <;> exact Caps.inner _ _ (by decide) (by
        intro c hc; simp only [List.mem_cons, List.not_mem_nil, or_false] at hc
        rcases hc with rfl | rfl <;> exact Caps.leaf _ _ (by decide) (by decide)))
/-- inserting key 8 splits three levels and needs a new root: 7 node creations; the 5th one also needs a heap block for
    `mNewNodes`. The 8th allocation (the new root) refused: everything rolled back. -/
example : x4Out (insertF (x4Fail 1 7) x4Ic x4Cfg x4Lt x4Ft (8, 8) (copyCreator (x4Fail 1 7)) () x4W)
    = (true, [(1, 1), (2, 2), (3, 3), (4, 4), (5, 5), (6, 6), (7, 7)], x4W.led) := by decide +kernel
/-- the 4th comparison of the search throws -/
example : x4Out (insertF (x4Fail 0 3) x4Ic x4Cfg x4Lt x4Ft (8, 8) (copyCreator (x4Fail 0 3)) () x4W)
    = (true, [(1, 1), (2, 2), (3, 3), (4, 4), (5, 5), (6, 6), (7, 7)], x4W.led) := by decide +kernel
/-- the 3rd copy of the relocation (items are copy-only here) throws: the two copies made are destroyed, the 7 new nodes too -/
example : x4Out (insertF (x4Fail 2 2) x4Ic x4Cfg x4Lt x4Ft (8, 8) (copyCreator (x4Fail 2 2)) () x4W)
    = (true, [(1, 1), (2, 2), (3, 3), (4, 4), (5, 5), (6, 6), (7, 7)], x4W.led) := by decide +kernel
/-- no fault: one more level, 4 nodes more (7 created, 3 retired) -/
example : x4Out (insertF Sched.clean x4Ic x4Cfg x4Lt x4Ft (8, 8) (copyCreator Sched.clean) () x4W)
    = (false, [(1, 1), (2, 2), (3, 3), (4, 4), (5, 5), (6, 6), (7, 7), (8, 8)],
       { leaves := 5, inners := 6, items := 8, params := 1 }) := by decide +kernel
/-- removal of the root item (internal: the predecessor 3 replaces it through `Replace`) with a throwing assignment -/
example : (removeF (x4Fail 3 0) x4Ic x4Cfg .destroy x4Ft ⟨[], 0⟩ x4W).1 = true ∧
    (removeF (x4Fail 3 0) x4Ic x4Cfg .destroy x4Ft ⟨[], 0⟩ x4W).2.1.tree.toList = x4Ft.tree.toList := by decide +kernel
/-- **documented exception 5** (TreeMap.h): with `pvReplaceUnsafe` the second assignment throwing leaves the removed
    element's value overwritten — the hypothesis `unsafeRepl = false` of `C04_tree_remove_strong` is needed -/
example : (removeF (x4Fail 3 1) { x4Ic with unsafeRepl := true, mix := fun s d => (d.1, s.2) } x4Cfg .destroy x4Ft ⟨[], 0⟩ x4W).1 = true ∧
    (removeF (x4Fail 3 1) { x4Ic with unsafeRepl := true, mix := fun s d => (d.1, s.2) } x4Cfg .destroy x4Ft ⟨[], 0⟩ x4W).2.1.tree.toList
      = [(1, 1), (2, 2), (3, 3), (4, 3), (5, 5), (6, 6), (7, 7)] := by decide +kernel
/-- a failing copy constructor (the 5th node cannot be created): nothing is left -/
example : (copyF (x4Fail 1 6) x4Ic x4Cfg x4Ft x4W).1 = true ∧ (copyF (x4Fail 1 6) x4Ic x4Cfg x4Ft x4W).2.2.led = x4W.led := by
  decide +kernel

end Momo.BTreeF

/-!
## `momo::SegmentedArray` under every fault schedule (model `Momo/Model/ArrSegFault.lean`)

`AddBackCrt / AddBack`, `SetCount(count, item)` (`pvIncCount / pvDecCount`), `Reserve` (`pvIncCapacity / pvDecCapacity`),
`Shrink` as written in SegmentedArray.h; the segment-pointer array `mSegments` is the `Array<Item*>` of the model above
(its `Reserve` / `Shrink` run through `Momo.ArrF.reserveF / shrinkF`), segments are never reallocated.
`SValid cfg k x`: `mSegments` satisfies the `Array` invariant, `mCount` is within the capacity of the allocated segments,
the outstanding item segments are exactly the segments `0 .. segCount)` (as a multiset of sizes), the outstanding blocks
of the pointer array exactly the block `mSegments` owns, as many item objects exist as the array has items (+ `k`),
nothing was deallocated or destroyed twice.  Both sizings (`cnst`, `sqrt`) and every `logInitialItemCount` (the sizing
laws are those proved for C16).
-/
namespace Momo.ArrF.Seg
open Momo.Arr Momo.Arr.Seg Momo.ArrF
variable {α : Type}

/-- **C04, SegmentedArray.** `AddBack` / `AddBackVar` (lvalue or rvalue argument, also an element of the same array),
`SetCount(count, item)`, `Reserve`: under EVERY fault schedule the call either completes with the state of the fault-free
model `Momo.Arr.Seg` (valid, ledger exact) or throws with the items - contents, order, count - and the segments exactly
as before, in a valid state with exact ledger (the only thing that may differ is the capacity of the pointer array,
which `mSegments.Reserve` may have enlarged before the segment allocation failed: owned, not leaked, not observable
through `GetCapacity()`). -/
theorem C04_segarray_strong_every_fault (cfg : SCfg) (thr : Thr) (k : Nat) (op : SOp α) (hop : op.strong = true)
    (hns : ∀ n, op ≠ .shrink n) (x : SSys α) (v : SValid cfg k x) :
    SPost (stepS cfg thr op) x
      (fun _ y => y.st = (pureStepS cfg x.st op).1 ∧ SValid cfg k y)
      (fun y => y.cells = x.cells ∧ y.segs.cells = x.segs.cells ∧ SValid cfg k y) :=
  strong_stepS cfg thr k op hop hns x v

/-- **C04, `SegmentedArray::Shrink` is `noexcept`**: under every fault schedule it completes (a failure of
`mSegments.Shrink()` is swallowed), the items are untouched and the array is valid with an exact ledger. -/
theorem C04_segarray_shrink_never_throws (cfg : SCfg) (k : Nat) (n : Nat) (x : SSys α) (v : SValid cfg k x) :
    SPost (shrinkOpF cfg n) x (fun _ y => y.cells = x.cells ∧ SValid cfg k y) (fun _ => False) :=
  shrinkOpF_spec cfg k n x v

/-! Non-vacuity: constant sizing with segments of 2 items, 3 items in 2 segments, pointer array of capacity 4. -/
def exCfgS : SCfg := { lay := { sqrt := false, L := 1 } }
def exSysS (faults : List Bool) : SSys Nat :=
  { cells := [.live 10, .live 11, .live 12], segs := { cells := [.live 0, .live 1], cap := 4 }, faults := faults,
    sblocks := [2, 2], pblocks := [4], objs := 3 }
def outcomeS {β : Type} (r : Res β × SSys Nat) : Bool × Cells Nat × Nat × List Nat × List Nat × Nat × Bool :=
  (match r.1 with | .ok _ => true | .threw => false, r.2.cells, r.2.segs.cells.length, r.2.sblocks, r.2.pblocks, r.2.objs, r.2.bad)

example : SValid exCfgS 0 (exSysS []) := by
  refine ⟨⟨⟨by decide, ?_, ?_, ?_⟩, ?_, by decide, rfl⟩, by decide, by decide⟩
  · intro _ _; decide
  · intro h; simp [exSysS] at h
  · intro _ h; simp [exSysS] at h
  · show List.Perm [2, 2] (segSizes exCfgS 2)
    have : segSizes exCfgS 2 = [2, 2] := by decide +kernel
    rw [this]
/-- `SetCount(7, array[0])`: two more segments are needed; the second segment allocation is refused: the first new
    segment is returned, nothing else changes -/
example : outcomeS ((stepS exCfgS {} (.setCount 7 (.elem 0))).run (exSysS [false, true]))
    = (false, [.live 10, .live 11, .live 12], 2, [2, 2], [4], 3, false) := by decide +kernel
/-- the third new item's copy constructor throws: the two items built are destroyed, both new segments returned -/
example : outcomeS ((stepS exCfgS {} (.setCount 7 (.elem 0))).run (exSysS [false, false, false, false, true]))
    = (false, [.live 10, .live 11, .live 12], 2, [2, 2], [4], 3, false) := by decide +kernel
example : outcomeS ((stepS exCfgS {} (.setCount 7 (.elem 0))).run (exSysS []))
    = (true, [.live 10, .live 11, .live 12, .live 10, .live 10, .live 10, .live 10], 4, [2, 2, 2, 2], [4], 7, false) := by decide +kernel

end Momo.ArrF.Seg

/-!
# C04 for the hash family: `momo::HashSet` / `momo::HashMap` with the ledger (model `Momo/Model/HTLedger.lean`)

`Props/C11.lean` (`C11_add_every_fault_partial`, `C11_reserve_every_fault_partial`) states the strong guarantee of the hash-table
model on the TABLE. This section adds what C04 says besides: "… nothing is leaked, and the container remains fully usable. A
constructor that fails leaves nothing allocated and nothing constructed." Every operation of the ledger layer runs under an
explicit fault record `f : Flt` (throwing hash / equality functor in the lookup, refused bucket array, refused `BucketParams`,
refused crew block, throwing creator / copy / `AddCrt`, throwing assignment of `Replace`, migration stopped anywhere, copy
construction failing after any number of items) and emits every manager call and element life-cycle event; `Led w B E` = the
verified monitor `Ledger.run` has accepted all events of the world `w` and holds exactly the blocks `B` and the element objects
`E`. `FB` / `FE` = whatever else is on the ledger (the other container, the node handle): arbitrary.

Every theorem: for EVERY configuration (every bucket description, relocation category, sizes), hash function, container state
with well-formed books (`BooksOK`: what every history reaches, `step_ok`), item, fault record. A failing operation returns
`st' = st`: the SAME container - table (hence contents, order, count, capacity, generations), books of blocks and of element
objects - and a ledger that holds exactly the blocks and element objects it held: the memory-manager part is unchanged without
exception for the open-addressing kinds and One; for the chained kinds (LimP4 / LimP / LimP1 / UnlimP) the pools may in addition
have obtained buffers (`stepT` books them as the operation's pool traffic `PoolT`: `St.bufs`, owned by the pools of the
`BucketParams` block, given back by `Clear` / the destructor - `C04_hash_pool_traffic`).
-/
namespace Momo.HTL
open Momo Momo.HT Momo.Ledger

/-- **`pvAdd`: `Add(pos, …)` / `AddVar` / `AddCrt`, and the adding half of every insertion** (creator = construction from arguments
/ copy / move, or relocation out of an `ExtractedItem`: `CrSpec`). If it exits with an exception - the bucket array is refused
and there is no table to fall back to, the `BucketParams` block is refused (the array just obtained goes back), the creator /
copy / `AddCrt` throws (a new bucket array and a new `BucketParams` block go back: `newBuckets->Destroy(…, !hasBuckets)`), the
table is full - then the container is the same and the ledger holds exactly what it held. If it returns - whatever happened to
the migration that follows - the ledger holds exactly the new books and they are well-formed. -/
theorem C04_hash_add_strong (cfg : Cfg) (hf : Nat → Nat) (st : St) (it : Item) (cr : Creator) (f : Flt) (w : W)
    (FB : List Blk) (FE FE' : List Nat) (hb : BooksOK st) (hcr : CrSpec (cr.run cfg) FE FE')
    (h : Led w (st.blocks cfg ++ FB) (st.elems ++ FE)) :
    ((addL cfg hf st it cr f w).2.2 ≠ .ok →
      (addL cfg hf st it cr f w).1 = st ∧ Led (addL cfg hf st it cr f w).2.1 (st.blocks cfg ++ FB) (st.elems ++ FE)) ∧
    ((addL cfg hf st it cr f w).2.2 = .ok →
      Led (addL cfg hf st it cr f w).2.1 ((addL cfg hf st it cr f w).1.blocks cfg ++ FB)
        ((addL cfg hf st it cr f w).1.elems ++ FE') ∧ BooksOK (addL cfg hf st it cr f w).1) :=
  addL_led cfg hf st it cr f w FB FE FE' hb hcr h

/-- **Insert / InsertVar / InsertCrt / emplace, map insertion and map-subscript insertion, `Insert(ExtractedItem&&)`** (`pvInsert` =
`pvFind` + `pvAdd`): the same, including a hash or equality functor that throws in the lookup. (`.done .ok` is the only result
that changes anything; `.no` = the key was there, `.user` = the functor threw.) -/
theorem C04_hash_insert_strong (cfg : Cfg) (hf : Nat → Nat) (st : St) (it : Item) (cr : Creator) (f : Flt) (w : W)
    (FB : List Blk) (FE FE' : List Nat) (hb : BooksOK st) (hcr : CrSpec (cr.run cfg) FE FE')
    (h : Led w (st.blocks cfg ++ FB) (st.elems ++ FE)) :
    ((insertL cfg hf st it cr f w).2.2 ≠ .done .ok →
      (insertL cfg hf st it cr f w).1 = st ∧ Led (insertL cfg hf st it cr f w).2.1 (st.blocks cfg ++ FB) (st.elems ++ FE)) ∧
    ((insertL cfg hf st it cr f w).2.2 = .done .ok →
      Led (insertL cfg hf st it cr f w).2.1 ((insertL cfg hf st it cr f w).1.blocks cfg ++ FB)
        ((insertL cfg hf st it cr f w).1.elems ++ FE') ∧ BooksOK (insertL cfg hf st it cr f w).1) :=
  insertL_led cfg hf st it cr f w FB FE FE' hb hcr h

/-- the two creators of the library satisfy `CrSpec`: a constructing creator adds one fresh element object; the creator of
`Insert(ExtractedItem&&)` relocates the handle's object `e` (which leaves the frame) -/
theorem C04_hash_creators (cfg : Cfg) (e : Nat) (FE FE' : List Nat) (hp : FE.Perm (e :: FE')) :
    CrSpec (Creator.fresh.run cfg) FE FE ∧ CrSpec ((Creator.handle e).run cfg) FE FE' :=
  ⟨crSpec_fresh cfg FE, crSpec_handle cfg e FE FE' hp⟩

/-- **Remove(key) / Remove(pos) / Remove(iter)**: a removal that exits with an exception - the functor threw in the lookup, or the
assignment inside `ObjectManager::Replace` threw (items that are not nothrow-anyway-assignable) - has changed nothing and has not
emitted a single event. Otherwise the ledger holds exactly the new books. -/
theorem C04_hash_remove_strong (cfg : Cfg) (hf : Nat → Nat) (st : St) (k : Nat) (f : Flt) (w : W) (FB : List Blk) (FE : List Nat)
    (hb : BooksOK st) (h : Led w (st.blocks cfg ++ FB) (st.elems ++ FE)) :
    ((removeKeyL cfg hf st k f w).2.2 ≠ .done .ok → (removeKeyL cfg hf st k f w).1 = st ∧ (removeKeyL cfg hf st k f w).2.1 = w) ∧
    Led (removeKeyL cfg hf st k f w).2.1 ((removeKeyL cfg hf st k f w).1.blocks cfg ++ FB)
      ((removeKeyL cfg hf st k f w).1.elems ++ FE) ∧ BooksOK (removeKeyL cfg hf st k f w).1 :=
  removeKeyL_led cfg hf st k f w FB FE hb h

/-- **Extract(pos) / Remove(iter, extItem)** (`pvExtract`: `Relocate` or `ReplaceRelocate` into the handle): if it exits with an
exception - the copy into the handle threw, or the assignment of `Replace` threw after it (the copy in the handle is destroyed
again) - the container is the same and the ledger holds exactly what it held; otherwise it holds the new books plus the handle's
object `h`. -/
theorem C04_hash_extract_strong (cfg : Cfg) (st : St) (gi b j : Nat) (f : Flt) (w : W) (FB : List Blk) (FE : List Nat)
    (hb : BooksOK st) (h : Led w (st.blocks cfg ++ FB) (st.elems ++ FE)) :
    ((extractAtL cfg st gi b j f w).2.2 = none →
      (extractAtL cfg st gi b j f w).1 = st ∧ Led (extractAtL cfg st gi b j f w).2.1 (st.blocks cfg ++ FB) (st.elems ++ FE)) ∧
    (∀ hh, (extractAtL cfg st gi b j f w).2.2 = some hh →
      Led (extractAtL cfg st gi b j f w).2.1 ((extractAtL cfg st gi b j f w).1.blocks cfg ++ FB)
        ((extractAtL cfg st gi b j f w).1.elems ++ hh :: FE) ∧ BooksOK (extractAtL cfg st gi b j f w).1) :=
  extractAtL_led cfg st gi b j f w FB FE hb h

/-- **Reserve**: a refused bucket array or `BucketParams` block leaves container and ledger as they were (`Reserve` never fails
once the array exists: failures of the migration are swallowed and leave several generations, all on the books). -/
theorem C04_hash_reserve_strong (cfg : Cfg) (hf : Nat → Nat) (st : St) (c : Nat) (f : Flt) (w : W) (FB : List Blk) (FE : List Nat)
    (hb : BooksOK st) (h : Led w (st.blocks cfg ++ FB) (st.elems ++ FE)) :
    ((reserveL cfg hf st c f w).2.2 ≠ .ok →
      (reserveL cfg hf st c f w).1 = st ∧ Led (reserveL cfg hf st c f w).2.1 (st.blocks cfg ++ FB) (st.elems ++ FE)) ∧
    Led (reserveL cfg hf st c f w).2.1 ((reserveL cfg hf st c f w).1.blocks cfg ++ FB)
      ((reserveL cfg hf st c f w).1.elems ++ FE) ∧ BooksOK (reserveL cfg hf st c f w).1 :=
  reserveL_led cfg hf st c f w FB FE hb h

/-- **Constructors: "A constructor that fails leaves nothing allocated and nothing constructed."** `HashSet()` (`newL`: the crew
block) and `HashSet(const HashSet&)` (`copyL`: crew block, bucket array, `BucketParams`, one copy per item, each preceded by a call of
the hash functor): if the constructor throws at ANY of these points (`f.crew`, `f.grow`, `f.params`, `f.copyStop = some n` for any
`n`), the ledger holds exactly what it held before - in particular an empty ledger stays empty; if it returns, the ledger gained
exactly the books of the new container. -/
theorem C04_hash_constructor_clean (cfg : Cfg) (hf : Nat → Nat) (src : St) (f : Flt) (w : W) (FB : List Blk) (FE : List Nat)
    (hsrc : ∀ k e, lookE src.els k = some e → e ∈ FE) (h : Led w FB FE) :
    CtorPost cfg FB FE (newL cfg f w) ∧ CtorPost cfg FB FE (copyL cfg hf src f w) ∧
    ((copyL cfg hf src f w).1 = none → FB = [] → FE = [] → Ledger.balanced (copyL cfg hf src f w).2.evs = true) := by
  refine ⟨newL_led cfg f w FB FE h, copyL_led cfg hf src f w FB FE hsrc h, fun hn hB hE => ?_⟩
  have := copyL_led cfg hf src f w FB FE hsrc h
  generalize copyL cfg hf src f w = r at this hn
  obtain ⟨o, w1⟩ := r
  simp only at hn
  subst hn hB hE
  exact led_nil_balanced this

/-- **Copy assignment `B = A`** (`HashSet(hashSet).Swap(*this)`): if it exits with an exception, A, B and the handle are the same
and the ledger holds what it held (`SysOK`); otherwise B's old contents have been destroyed and given back. -/
theorem C04_hash_copy_assign_strong (cfg : Cfg) (hf : Nat → Nat) (s : Sys) (f : Flt) (h : SysOK cfg s) :
    SysOK cfg (step cfg hf s (.copyTo f)).1 ∧
    ((copyL cfg hf s.a f s.w).1 = none →
      (step cfg hf s (.copyTo f)).1.a = s.a ∧ (step cfg hf s (.copyTo f)).1.b = s.b ∧ (step cfg hf s (.copyTo f)).1.h = s.h) := by
  refine ⟨step_ok cfg hf s _ h, fun hn => ?_⟩
  simp only [step]
  generalize copyL cfg hf s.a f s.w = r at hn ⊢
  obtain ⟨o, w1⟩ := r
  simp only at hn
  subst hn
  exact ⟨rfl, rfl, rfl⟩

/-- **"… and the container remains fully usable."** After a failed insertion the container is the very same one (above); its books
stay consistent with its table (`Consistent`, in particular the table invariant of C01), so every theorem applies to it again; and
the same insertion retried without a fault succeeds and gives the table of the fault-free hash-table model on the ORIGINAL
table. -/
theorem C04_hash_usable_after (cfg : Cfg) (hf : Nat → Nat) (ok : SpecOK cfg.sp) (st : St) (it : Item) (f f' : Flt) (w w' : W)
    (hc : Consistent cfg hf st) (hfail : (insertL cfg hf st it .fresh f w).2.2 ≠ .done .ok)
    (hkey : findTable cfg.sp hf st.t it.key = none)
    (hclean : f'.hashThrows = false ∧ f'.eqThrows = false ∧ f'.grow = false ∧ f'.params = false ∧ f'.create = false) :
    (insertL cfg hf st it .fresh f w).1 = st ∧ Consistent cfg hf (insertL cfg hf st it .fresh f w).1 ∧
    (insertL cfg hf (insertL cfg hf st it .fresh f w).1 it .fresh f' w').2.2 = .done .ok ∧
    (insertL cfg hf (insertL cfg hf st it .fresh f w).1 it .fresh f' w').1.t =
      (add cfg.sp hf st.t it (toFaults cfg st false f')).1 := by
  obtain ⟨c1, c2, c3, c4, c5⟩ := hclean
  rw [insertL_fail_same cfg hf st it .fresh f w hfail, insertL_absent cfg hf st it .fresh f' w' c1 c2 hkey]
  refine ⟨rfl, hc, ?_, ?_⟩
  · rw [(addL_table cfg hf st it .fresh f' w').2,
      add_nofault_ok cfg.sp hf ok st.t it _ hc.inv.core (by simp [toFaults, c3, c4]) (by simp [toFaults, Creator.throws, c5])]
  · simpa [Creator.throws, c5] using (addL_table cfg hf st it .fresh f' w').1

/-- **The tables of the ledger layer are the tables of the hash-table model of C01 / C11** under the faults the record stands for,
so `C11_add_every_fault_partial`, `C11_reserve_every_fault_partial` and all of Props/C01.lean speak about them: observable
contents, order and count after a failed AND after a successful operation are those proved there. -/
theorem C04_hash_tables_are_model (cfg : Cfg) (hf : Nat → Nat) (st : St) (it : Item) (cr : Creator) (c : Nat) (f : Flt) (w : W) :
    (addL cfg hf st it cr f w).1.t = (add cfg.sp hf st.t it (toFaults cfg st (cr.throws cfg f) f)).1 ∧
    (addL cfg hf st it cr f w).2.2 = (add cfg.sp hf st.t it (toFaults cfg st (cr.throws cfg f) f)).2 ∧
    (reserveL cfg hf st c f w).1.t = (reserve cfg.sp hf st.t c (toFaults cfg st false f)).1 ∧
    (reserveL cfg hf st c f w).2.2 = (reserve cfg.sp hf st.t c (toFaults cfg st false f)).2 ∧
    FaultsOK cfg.sp (toFaults cfg st (cr.throws cfg f) f) :=
  ⟨(addL_table cfg hf st it cr f w).1, (addL_table cfg hf st it cr f w).2, (reserveL_table cfg hf st c f w).1,
    (reserveL_table cfg hf st c f w).2, toFaults_ok cfg st _ f⟩

/-- **The memory-manager part, exactly**: the pool traffic of an operation (chained kinds: buffers the pools obtained and kept,
buffers they gave back - decided by `MemPool`, C09) changes nothing but `St.bufs`: table, element objects, bucket arrays,
`BucketParams` and crew block are those the operation itself left, and the ledger follows. Without a `BucketParams` block (no
table) and for the kinds without pools there is no traffic at all. -/
theorem C04_hash_pool_traffic (cfg : Cfg) (st : St) (p : PoolT) (w : W) (FB : List Blk) (E : List Nat)
    (h : Led w (st.blocks cfg ++ FB) E) :
    Led (poolTraffic cfg st p w).2 ((poolTraffic cfg st p w).1.blocks cfg ++ FB) E ∧
    (poolTraffic cfg st p w).1.t = st.t ∧ (poolTraffic cfg st p w).1.els = st.els ∧
    (poolTraffic cfg st p w).1.arrs = st.arrs ∧ (poolTraffic cfg st p w).1.params = st.params ∧
    (poolTraffic cfg st p w).1.crew = st.crew ∧
    ((cfg.chained = false ∨ st.params = none) → poolTraffic cfg st p w = (st, w)) := by
  obtain ⟨a1, a2, a3, a4, a5, a6⟩ := poolTraffic_led cfg st p w FB E h
  refine ⟨a1, a2, a3, a4, a5, a6, fun hc => ?_⟩
  rcases hc with hc | hc <;> simp [poolTraffic, hc]

/-- **The strong guarantee at the level of the system the correspondence harness drives** (two containers A, B and a node handle):
whichever strongly exception-safe operation - `ins` (Insert / emplace / map insertion / subscript insertion, into A or B), `rem`,
`ext`, `reins` (`Insert(ExtractedItem&&)`: a refused item stays in the handle), `reserve`, `copyTo` (copy assignment) - exits with
an exception in a reachable state (`SysOK`), under whatever fault record, A, B and the handle are exactly as before (tables, books
of blocks, books of element objects); `step_ok` says that the monitor still holds exactly these books. -/
theorem C04_hash_step_strong (cfg : Cfg) (hf : Nat → Nat) (s : Sys) (op : Op) (h : SysOK cfg s) (hs : op.strong = true)
    (hfail : (step cfg hf s op).2.failed = true) :
    (step cfg hf s op).1.a = s.a ∧ (step cfg hf s op).1.b = s.b ∧ (step cfg hf s op).1.h = s.h ∧
    SysOK cfg (step cfg hf s op).1 :=
  let ⟨h1, h2, h3⟩ := step_strong cfg hf s op h hs hfail
  ⟨h1, h2, h3, step_ok cfg hf s op h⟩

/-- every reachable state satisfies `SysOK` (the hypothesis of the theorem above and, through `BooksOK`, of the single-container
theorems of this section) -/
theorem C04_hash_reachable_ok (cfg : Cfg) (hf : Nat → Nat) (ops : List OpT) : SysOK cfg (run cfg hf (Sys.init cfg) ops) :=
  run_ok cfg hf ops _ (SysOK.init cfg)

/-! Non-vacuity: an Open2N2-like table of copy-only items with a two-generation state; every kind of failing insertion, a
failing removal, a failing extraction, a failing copy construction - each leaves table, books and the monitor's holdings as they
were. -/
def x5Cfg : Cfg :=
  { sp := { maxCount := 1, quad := true, fullFrom := 0, unlimited := false, bound := .mp2, cap := .ratio 11 12, baseShift := false,
            logStart := 1, nothrowReloc := false },
    cat := .copyOnly, assign := false, hdr := 24, bsz := 8, psz := 8, csz := 16 }
/-- two generations (4 and 2 buckets) after an interrupted migration -/
def x5Sys : Sys :=
  run x5Cfg id (Sys.init x5Cfg) [{ op := .ins false 1 10 {} }, { op := .ins false 2 20 { mig := some 0 } },
    { op := .ins false 3 30 { mig := some 0 } }]
def x5Hold (s : Sys) : Option (Nat × Nat) := (Ledger.run Ledger.St.init s.w.evs).map (fun m => m.outstanding)
def x5Same (s : Sys) : Bool :=
  decide (s.a.t.gens.map (fun g => (g.L, genCount g)) = x5Sys.a.t.gens.map (fun g => (g.L, genCount g))) &&
  decide (s.a.els = x5Sys.a.els) && decide (s.a.arrs = x5Sys.a.arrs) && decide (x5Hold s = x5Hold x5Sys)

example : x5Sys.a.t.gens.map (fun g => (g.L, genCount g)) = [(2, 2), (1, 1)] ∧ x5Hold x5Sys = some (5, 3) ∧
    x5Sys.a.t.count = x5Sys.a.t.cap := by decide +kernel
/-- the table is at capacity: the next insertion has to grow. Bucket array refused: the insertion falls back to the existing
    table, succeeds, and its migration completes (one generation, the old array given back) -/
example : (step x5Cfg id x5Sys (.ins false 4 40 { grow := true })).2 matches .res (.done .ok) := by decide +kernel
example : (step x5Cfg id x5Sys (.ins false 4 40 { grow := true })).1.a.t.gens.map (fun g => (g.L, genCount g)) = [(2, 4)] ∧
    x5Hold (step x5Cfg id x5Sys (.ins false 4 40 { grow := true })).1 = some (4, 4) := by decide +kernel
/-- the creator throws after the new bucket array has been obtained: it goes back (two events), everything else as before -/
example : x5Same (step x5Cfg id x5Sys (.ins false 4 40 { create := true })).1 = true := by decide +kernel
example : ((step x5Cfg id x5Sys (.ins false 4 40 { create := true })).1.w.evs.drop x5Sys.w.evs.length).length = 2 := by decide +kernel
/-- the hash functor throws in the lookup -/
example : x5Same (step x5Cfg id x5Sys (.ins false 4 40 { hashThrows := true })).1 = true := by decide +kernel
/-- the assignment inside `Replace` throws during a removal -/
example : x5Same (step x5Cfg id x5Sys (.rem 1 { assignThrows := true })).1 = true := by decide +kernel
/-- the copy into the handle throws during an extraction -/
example : x5Same (step x5Cfg id x5Sys (.ext 1 { create := true })).1 = true := by decide +kernel
/-- a copy construction failing after one item: the copy is destroyed, `BucketParams`, array and crew go back (nine events) -/
example : x5Same (step x5Cfg id x5Sys (.copyTo { copyStop := some 1 })).1 = true := by decide +kernel
example : ((step x5Cfg id x5Sys (.copyTo { copyStop := some 1 })).1.w.evs.drop x5Sys.w.evs.length).length = 9 := by decide +kernel
/-- … and a successful one: B holds three new element objects; crew, array and `BucketParams` of the copy are outstanding, B's old
    crew block has gone -/
example : x5Hold (step x5Cfg id x5Sys (.copyTo {})).1 = some (7, 6) := by decide +kernel

end Momo.HTL


/-!
## C04 for `momo::HashMultiMap` with the ledger (`Momo.MML`, the layer described under C03)

"All `HashMultiMap` functions and constructors have strong exception safety, but not … functions `Add` receiving many items …
function `Remove` receiving predicate" (HashMultiMap.h:545-553).  `OpPost cfg st FB FE st' w' failed`: after the operation the
monitor holds exactly the books of `st'` plus the frame, the key table's books are well-formed, and if the operation `failed`
then `st' = st` - the container (contents: key table, every value array with its representation; books: every block and object)
is the same, so the monitor holds exactly what it held: nothing leaked, nothing destroyed.
-/
namespace Momo.MML
open Momo Momo.HT Momo.Ledger Momo.HTL

/-- **`Add(key, value)`** (`pvAdd`): fails when a functor throws in the lookup; for a present key when the pool block / heap storage
of the value array is refused or the value creator / a relocating copy throws; for a new key when the bucket array (without
fallback) or `BucketParams` is refused, the key copy throws, or the one-value array cannot be made. -/
theorem C04_multimap_add_strong (cfg : Cfg) (hf : Nat → Nat) (st : St) (k tg v : Nat) (f : Flt) (w : W) (FB : List Blk) (FE : List Nat)
    (hb : HTL.BooksOK st.kt) (h : Led w (st.blocks cfg ++ FB) (st.elems ++ FE)) :
    OpPost cfg st FB FE (addL cfg hf st k tg v f w).1 (addL cfg hf st k tg v f w).2.1 ((addL cfg hf st k tg v f w).2.2 ≠ .done .ok) :=
  addL_led cfg hf st k tg v f w FB FE hb h

/-- **`Add(keyIter, value)`** -/
theorem C04_multimap_addAt_strong (cfg : Cfg) (hf : Nat → Nat) (st : St) (k v : Nat) (f : Flt) (w : W) (FB : List Blk) (FE : List Nat)
    (hb : HTL.BooksOK st.kt) (h : Led w (st.blocks cfg ++ FB) (st.elems ++ FE)) :
    OpPost cfg st FB FE (addAtL cfg hf st k v f w).1 (addAtL cfg hf st k v f w).2.1 ((addAtL cfg hf st k v f w).2.2 ≠ .done .ok) :=
  addAtL_led cfg hf st k v f w FB FE hb h

/-- **`InsertKey(key)`** -/
theorem C04_multimap_insertKey_strong (cfg : Cfg) (hf : Nat → Nat) (st : St) (k tg : Nat) (f : Flt) (w : W) (FB : List Blk)
    (FE : List Nat) (hb : HTL.BooksOK st.kt) (h : Led w (st.blocks cfg ++ FB) (st.elems ++ FE)) :
    OpPost cfg st FB FE (insertKeyL cfg hf st k tg f w).1 (insertKeyL cfg hf st k tg f w).2.1
      ((insertKeyL cfg hf st k tg f w).2.2 ≠ .done .ok) :=
  insertKeyL_led cfg hf st k tg f w FB FE hb h

/-- **`Remove(keyIter, valueIndex)` / `Remove(iter)`**: fails only when `AssignAnywayValue` throws (values that are not
nothrow-anyway-assignable), before anything has happened; a refused allocation inside `Array::Shrink` is swallowed (the removal
succeeds, the array keeps its storage). -/
theorem C04_multimap_remove_strong (cfg : Cfg) (hf : Nat → Nat) (st : St) (k i : Nat) (f : Flt) (w : W) (FB : List Blk) (FE : List Nat)
    (hb : HTL.BooksOK st.kt) (h : Led w (st.blocks cfg ++ FB) (st.elems ++ FE)) :
    OpPost cfg st FB FE (removeValueL cfg hf st k i f w).1 (removeValueL cfg hf st k i f w).2.1
      ((removeValueL cfg hf st k i f w).2.2 ≠ .done .ok) :=
  removeValueL_led cfg hf st k i f w FB FE hb h

/-- **`RemoveKey(key)`**: fails when a functor throws in the lookup or the key assignment inside the key table's removal throws
(the value array, moved aside, is put back: `valueArray = std::move(tempValueArray)`). -/
theorem C04_multimap_removeKey_strong (cfg : Cfg) (hf : Nat → Nat) (st : St) (k : Nat) (f : Flt) (w : W) (FB : List Blk) (FE : List Nat)
    (hb : HTL.BooksOK st.kt) (h : Led w (st.blocks cfg ++ FB) (st.elems ++ FE)) :
    OpPost cfg st FB FE (removeKeyL cfg hf st k f w).1 (removeKeyL cfg hf st k f w).2.1
      ((removeKeyL cfg hf st k f w).2.2.1 ≠ .done .ok) :=
  removeKeyL_led cfg hf st k f w FB FE hb h

/-- **constructors leave nothing behind when they fail**: the default constructor (key table crew, value crew) and the copy
constructor (crews, `Reserve`, for every key the copy of its value array and the insertion; a failure at any key, any value, any
block clears the arrays copied so far, returns every pool buffer and both crews) either produce a container whose books the
monitor holds, or leave the monitor holding exactly the frame. -/
theorem C04_multimap_constructor_clean (cfg : Cfg) (hf : Nat → Nat) (src : St) (f0 : Flt) (f : Nat → Flt) (w : W) (FB : List Blk)
    (FE : List Nat) (hs : ∀ k, ∀ e ∈ (getV src.vbs k).objs, e ∈ FE) (h : Led w FB FE) :
    CtorPost cfg FB FE (newL cfg f0 w) ∧ CtorPost cfg FB FE (copyL cfg hf src f0 f w) :=
  ⟨newL_led cfg f0 w FB FE h, copyL_led cfg hf src f0 f w FB FE hs h⟩

/-- **the system level: a failing strongly exception-safe operation** (everything but `Remove(pairFilter)`; copy assignment
included) **leaves both containers - contents and books - exactly as they were**, in every state in which the monitor holds the
books. -/
theorem C04_multimap_step_strong (cfg : Cfg) (hf : Nat → Nat) (s : Sys) (op : Op) (h : SysOK cfg s) (hs : op.strong = true)
    (hfail : (step cfg hf s op).2.failed = true) : (step cfg hf s op).1.a = s.a ∧ (step cfg hf s op).1.b = s.b :=
  step_strong cfg hf s op h hs hfail

/-- **… and whatever an operation did, failed or not (`Remove(pairFilter)` stopped half-way included), the monitor holds exactly
the new books**: the containers stay usable and destructible (`C03_multimap_history_balanced`). -/
theorem C04_multimap_usable_after (cfg : Cfg) (hf : Nat → Nat) (s : Sys) (o : OpT) (h : SysOK cfg s) : SysOK cfg (stepT cfg hf s o).1 :=
  stepT_ok cfg hf s o h

/-- every reachable state satisfies the hypothesis of the two theorems above -/
theorem C04_multimap_reachable_ok (cfg : Cfg) (hf : Nat → Nat) (ops : List OpT) : SysOK cfg (run cfg hf (Sys.init cfg) ops) :=
  run_ok cfg hf ops _ (SysOK.init cfg)

/-! Non-vacuity: key 1 holds five values in a heap array (Open8-like key table, `maxFastCount = 2`); failing operations exist
and - by the theorem above, here by evaluation - change nothing. -/
def x6Cfg : Cfg :=
  { h := { sp := { maxCount := 7, quad := true, fullFrom := 7, unlimited := false, bound := .none, cap := .base, baseShift := true,
                   logStart := 1, nothrowReloc := true },
           cat := .nmove, hdr := 24, bsz := 120, psz := 8, csz := 16 },
    mf := 2, vcat := .nmove, isz := 8, vsz := 200 }
def x6Sys : Sys := run x6Cfg id (Sys.init x6Cfg)
  [{ op := .add false 1 0 10 {} }, { op := .add false 1 0 11 {} }, { op := .add false 1 0 12 {} }, { op := .add false 1 0 13 {} },
   { op := .add false 1 0 14 {} }, { op := .add false 2 0 20 {} }]
example : (getV x6Sys.a.vbs 1).arr.rep = .heap 8 := by decide +kernel
example : (step x6Cfg id x6Sys (.add false 1 0 99 { v := { create := true } })).2.failed = true ∧
    (step x6Cfg id x6Sys (.add false 7 0 99 { k := { create := true } })).2.failed = true ∧
    (step x6Cfg id x6Sys (.copyTo { vcrew := true } (fun _ => {}))).2.failed = true := by decide +kernel
/-- the heap array has room (5 of 8): the throwing value creator fails before anything has happened - no event, same books -/
example : ((step x6Cfg id x6Sys (.add false 1 0 99 { v := { create := true } })).1.w.evs.drop x6Sys.w.evs.length).length = 0 ∧
    (step x6Cfg id x6Sys (.add false 1 0 99 { v := { create := true } })).1.a.vbs.map (fun p => (p.1, p.2.objs, p.2.heap)) =
      x6Sys.a.vbs.map (fun p => (p.1, p.2.objs, p.2.heap)) := by decide +kernel

/-- **strong guarantee at the level of CONTENTS** (`St.abs`: the abstract multimap `Key → List Value` of the books,
`Proof/MMLedgerRefine.lean`): an `Add(key, value)`, `Add(keyIter, value)`, `Remove(keyIter, index)` or `RemoveKey(key)` that does
not answer `done ok` - whichever fault of the schedule struck (pool block / heap storage refused, throwing creator / assignment /
functor, refused bucket array) and also outside the precondition - leaves every key's value list as it was.  No hypothesis on the
state. -/
theorem C04_multimap_fault_keeps_contents (cfg : Cfg) (hf : Nat → Nat) (st : St) (k tg v i : Nat) (f : Flt) (w : W) :
    ((addL cfg hf st k tg v f w).2.2 ≠ .done .ok → (addL cfg hf st k tg v f w).1.abs = st.abs) ∧
    ((addAtL cfg hf st k v f w).2.2 ≠ .done .ok → (addAtL cfg hf st k v f w).1.abs = st.abs) ∧
    ((removeValueL cfg hf st k i f w).2.2 ≠ .done .ok → (removeValueL cfg hf st k i f w).1.abs = st.abs) ∧
    ((removeKeyL cfg hf st k f w).2.2.1 ≠ .done .ok → (removeKeyL cfg hf st k f w).1.abs = st.abs) :=
  ⟨fun h => abs_of_vbs ((addL_sets cfg hf st k tg v f w).fault h),
   fun h => abs_of_vbs ((addAtL_sets cfg hf st k v f w).fault h),
   fun h => abs_of_vbs ((removeValueL_sets cfg hf st k i f w).fault h),
   fun h => abs_of_vbs ((removeKeyL_vbs cfg hf st k f w).resolve_left (fun hok => h hok.1)).2⟩

/-- **… and at the system level**: a failing strongly exception-safe operation (copy assignment included) leaves the abstract
contents of both containers as they were (corollary of `C04_multimap_step_strong`). -/
theorem C04_multimap_step_fault_keeps_contents (cfg : Cfg) (hf : Nat → Nat) (s : Sys) (op : Op) (h : SysOK cfg s)
    (hs : op.strong = true) (hfail : (step cfg hf s op).2.failed = true) :
    (step cfg hf s op).1.a.abs = s.a.abs ∧ (step cfg hf s op).1.b.abs = s.b.abs :=
  step_fault_abs cfg hf s op h hs hfail

/-- non-vacuity: the failing `Add` of the examples above, on contents `1 ↦ [10 … 14]` -/
example : (step x6Cfg id x6Sys (.add false 1 0 99 { v := { create := true } })).1.a.abs 1 = [10, 11, 12, 13, 14] := by
  decide +kernel

end Momo.MML
