import Momo.Proof.TableSeg
import Momo.Proof.ListFacts
/-!
  C07, index level of `Model/Table` (the indexes as entry lists, `UIdx` / `MIdx`; `Model/TableIdx`, namespace `Momo.TIdx`, is another
  model, one unique index at bucket level): the invariant of one unique index (`UInv`) and of one multi index (`MInv`) against the row
  store, and lookups under the completeness contract of the hash tables (`Complete`). Every change of a multi index is an instance of one
  step (`GroupStep`, `MInv_transform`), and a unique index is the multi index whose groups are all single (`UIdx.toM`), so what the two
  kinds of index share is proved for a multi index.

  Five relations say "the same up to …", each for one purpose: `StoreAgree` (a store and a part of it, during `Add`), `StoreSim` with its
  row-by-row form `RowRel` (rows rearranged or renumbered), `MEquiv` (the order inside a group), `TEquiv` (TableAdd: "unchanged").
-/
namespace Momo.Table
open List

/-- the contract of the index hash tables (C01 / C13): a lookup of hash code `h` examines every position whose
    entry was inserted under `h` (it may examine others, in any order) -/
def Complete (vis : Vis) : Prop := ∀ h hs i, hs[i]? = some h → i ∈ vis h hs

/-- `DataTraits::AccumulateHashCode` must not depend on the order in which the columns are accumulated
    (the default `hashCode += HashCoder(item)` does not): a key tuple of a query is hashed in query order,
    a raw in index order -/
def AccComm (acc : Acc) : Prop := ∀ h c1 v1 c2 v2, acc (acc h c1 v1) c2 v2 = acc (acc h c2 v2) c1 v1

/-! A position in a list is given as a split `l = A ++ g :: B` (the position is `A.length`; the list facts about it, and about a
  change at one position, are in `ListFacts`). A lemma that takes this equation (`m.groups = A ++ g :: B`) takes `A`, `B`, `g`
  implicitly; they are explicit only where the statement has the literal list and no equation. -/

theorem forall₂_mem_left {α β : Type} {R : α → β → Prop} {l : List α} {l' : List β} (h : Forall₂ R l l') {a : α} (ha : a ∈ l) :
    ∃ b ∈ l', R a b := by
  induction h with
  | nil => cases ha
  | cons hab _ ih =>
    rcases mem_cons.mp ha with e | e
    · exact ⟨_, mem_cons_self, e ▸ hab⟩
    · obtain ⟨b, hb, hr⟩ := ih e; exact ⟨b, mem_cons_of_mem _ hb, hr⟩

theorem forall₂_mem_right {α β : Type} {R : α → β → Prop} {l : List α} {l' : List β} (h : Forall₂ R l l') {b : β} (hb : b ∈ l') :
    ∃ a ∈ l, R a b := by
  obtain ⟨a, ha, hr⟩ := forall₂_mem_left h.flip hb
  exact ⟨a, ha, hr⟩

theorem forall₂_filterMap_mem {α β : Type} {R : α → Option β → Prop} {l : List α} {opts : List (Option β)}
    (h : Forall₂ R l opts) {b : β} (hb : b ∈ opts.filterMap id) : ∃ a ∈ l, R a (some b) := by
  induction h with
  | nil => simp at hb
  | @cons a o l opts hao _ ih =>
    cases o with
    | none =>
      rw [filterMap_cons_none (f := id) rfl] at hb
      obtain ⟨a', ha', hr⟩ := ih hb
      exact ⟨a', mem_cons_of_mem _ ha', hr⟩
    | some b' =>
      rw [filterMap_cons_some (f := id) rfl] at hb
      rcases mem_cons.mp hb with e | e
      · subst e; exact ⟨a, mem_cons_self, hao⟩
      · obtain ⟨a', ha', hr⟩ := ih e
        exact ⟨a', mem_cons_of_mem _ ha', hr⟩

theorem forall₂_filterMap_pairwise {α β : Type} {R : α → Option β → Prop} {P : α → α → Prop} {Q : β → β → Prop}
    (hPQ : ∀ a1 a2 b1 b2, P a1 a2 → R a1 (some b1) → R a2 (some b2) → Q b1 b2)
    {l : List α} {opts : List (Option β)} (h : Forall₂ R l opts) (hp : l.Pairwise P) : (opts.filterMap id).Pairwise Q := by
  induction h with
  | nil => simp
  | @cons a o l opts hao hrest ih =>
    rw [pairwise_cons] at hp
    cases o with
    | none => rw [filterMap_cons_none (f := id) rfl]; exact ih hp.2
    | some b =>
      rw [filterMap_cons_some (f := id) rfl, pairwise_cons]
      refine ⟨?_, ih hp.2⟩
      intro b2 hb2
      obtain ⟨a2, ha2, hr2⟩ := forall₂_filterMap_mem hrest hb2
      exact hPQ a a2 b b2 (hp.1 a2 ha2) hao hr2

theorem forall₂_filterMap_perm {α β γ : Type} {R : α → Option β → Prop} (F : α → List γ) (G : β → List γ)
    (hnone : ∀ a, R a none → F a = []) (hsome : ∀ a b, R a (some b) → (G b).Perm (F a))
    {l : List α} {opts : List (Option β)} (h : Forall₂ R l opts) : ((opts.filterMap id).flatMap G).Perm (l.flatMap F) := by
  induction h with
  | nil => simp
  | @cons a o l opts hao _ ih =>
    cases o with
    | none =>
      rw [filterMap_cons_none (f := id) rfl, flatMap_cons, hnone a hao]; simpa using ih
    | some b =>
      rw [filterMap_cons_some (f := id) rfl, flatMap_cons, flatMap_cons]
      exact Perm.append (hsome a b hao) ih

theorem forall₂_set {α β : Type} {R : α → β → Prop} {l : List α} {l' : List β} (h : l.length = l'.length) (q : Nat) (b : β)
    (hR : ∀ i (h1 : i < l.length), R l[i] (if q = i then b else l'[i]'(h ▸ h1))) : Forall₂ R l (l'.set q b) := by
  rw [forall₂_iff_get]
  refine ⟨by rw [length_set]; exact h, fun i h1 h2 => ?_⟩
  rw [get_eq_getElem, get_eq_getElem, getElem_set]
  exact hR i h1

theorem keyEq_refl (cols : List Nat) (v : List Nat) : keyEq cols v v = true := by
  unfold keyEq; simp

theorem keyEq_symm (cols : List Nat) (v1 v2 : List Nat) : keyEq cols v1 v2 = keyEq cols v2 v1 := by
  unfold keyEq
  congr 1; funext c
  exact Bool.eq_iff_iff.mpr ⟨fun h => by simpa using (by simpa using h : item v1 c = item v2 c).symm,
    fun h => by simpa using (by simpa using h : item v2 c = item v1 c).symm⟩

theorem keyEq_iff (cols : List Nat) (v1 v2 : List Nat) : keyEq cols v1 v2 = true ↔ ∀ c ∈ cols, item v1 c = item v2 c := by
  unfold keyEq; simp

theorem keyEq_trans {cols : List Nat} {v1 v2 v3 : List Nat} (h12 : keyEq cols v1 v2 = true) (h23 : keyEq cols v2 v3 = true) :
    keyEq cols v1 v3 = true := by
  rw [keyEq_iff] at *
  intro c hc; rw [h12 c hc, h23 c hc]

theorem keyEq_congr_left {cols : List Nat} {v1 v2 v3 : List Nat} (h12 : keyEq cols v1 v2 = true) :
    keyEq cols v1 v3 = keyEq cols v2 v3 := by
  apply Bool.eq_iff_iff.mpr
  constructor
  · intro h; exact keyEq_trans (by rw [keyEq_symm]; exact h12) h
  · intro h; exact keyEq_trans h12 h

theorem hashVals_congr (acc : Acc) (cols : List Nat) (v1 v2 : List Nat) (h : keyEq cols v1 v2 = true) :
    hashVals acc cols v1 = hashVals acc cols v2 := by
  rw [keyEq_iff] at h
  unfold hashVals
  induction cols with
  | nil => rfl
  | cons c cs ih =>
    simp only [foldr_cons]
    rw [ih (fun c' hc' => h c' (mem_cons_of_mem _ hc')), h c mem_cons_self]

theorem tupleEq_iff (t : List (Nat × Nat)) (vals : List Nat) : tupleEq t vals = true ↔ ∀ p ∈ t, item vals p.1 = p.2 := by
  unfold tupleEq; simp

theorem hashTuple_eq (acc : Acc) (t : List (Nat × Nat)) (vals : List Nat) (h : tupleEq t vals = true) :
    hashTuple acc t = hashVals acc (t.map (·.1)) vals := by
  rw [tupleEq_iff] at h
  unfold hashTuple hashVals
  induction t with
  | nil => rfl
  | cons p ps ih =>
    simp only [foldr_cons, map_cons]
    rw [ih (fun q hq => h q (mem_cons_of_mem _ hq)), h p mem_cons_self]

theorem hashVals_perm (acc : Acc) (hc : AccComm acc) (vals : List Nat) {c1 c2 : List Nat} (hp : c1.Perm c2) :
    hashVals acc c1 vals = hashVals acc c2 vals := by
  unfold hashVals
  induction hp with
  | nil => rfl
  | cons x _ ih => simp only [foldr_cons]; rw [ih]
  | swap x y l => simp only [foldr_cons]; exact hc _ _ _ _ _
  | trans _ _ ih1 ih2 => exact ih1.trans ih2

theorem tupleEq_keyEq (t : List (Nat × Nat)) (cols : List Nat) (v1 v2 : List Nat) (hp : (t.map (·.1)).Perm cols)
    (h1 : tupleEq t v1 = true) : keyEq cols v1 v2 = tupleEq t v2 := by
  apply Bool.eq_iff_iff.mpr
  rw [keyEq_iff, tupleEq_iff]
  rw [tupleEq_iff] at h1
  constructor
  · intro h p hp'
    have : p.1 ∈ cols := hp.mem_iff.mp (mem_map_of_mem hp')
    rw [← h p.1 this, h1 p hp']
  · intro h c hc
    have : c ∈ t.map (·.1) := hp.mem_iff.mpr hc
    obtain ⟨p, hp', rfl⟩ := mem_map.mp this
    rw [h1 p hp', h p hp']

theorem findPos_some {vis : Vis} {h : Nat} {hs : List Nat} {p : Nat → Bool} {i : Nat} (hf : findPos vis h hs p = some i) :
    i < hs.length ∧ p i = true := by
  unfold findPos at hf
  have := find?_some hf
  simpa using this

theorem findPos_none {vis : Vis} (hc : Complete vis) {h : Nat} {hs : List Nat} {p : Nat → Bool}
    (hf : findPos vis h hs p = none) : ∀ i, hs[i]? = some h → p i = false := by
  intro i hi
  unfold findPos at hf
  rw [find?_eq_none] at hf
  have := hf i (hc h hs i hi)
  have hlt : i < hs.length := by
    rcases List.getElem?_eq_some_iff.mp hi with ⟨h1, _⟩; exact h1
  simpa [hlt] using this

def ids (st : Store) : List Nat := st.map (·.id)

theorem rowOf_some {st : Store} {id : Nat} {r : Row} (h : rowOf st id = some r) : r ∈ st ∧ r.id = id := by
  unfold rowOf at h
  exact ⟨mem_of_find?_eq_some h, by simpa using find?_some h⟩

theorem rowOf_mem {st : Store} (hnd : (ids st).Nodup) {r : Row} (hr : r ∈ st) : rowOf st r.id = some r := by
  unfold rowOf
  induction st with
  | nil => simp at hr
  | cons x xs ih =>
    unfold ids at hnd
    rw [map_cons, nodup_cons] at hnd
    rw [find?_cons]
    rcases mem_cons.mp hr with h | h
    · subst h; simp
    · have hne : x.id ≠ r.id := by
        intro e; exact hnd.1 (e ▸ mem_map_of_mem h)
      have : (x.id == r.id) = false := by simp [hne]
      rw [this]
      exact ih hnd.2 h

theorem rowOf_none {st : Store} {id : Nat} (h : id ∉ ids st) : rowOf st id = none := by
  unfold rowOf
  rw [find?_eq_none]
  intro r hr hid
  exact h (by simp at hid; exact hid ▸ mem_map_of_mem hr)

theorem valsOf_mem {st : Store} (hnd : (ids st).Nodup) {r : Row} (hr : r ∈ st) : valsOf st r.id = r.vals := by
  unfold valsOf; rw [rowOf_mem hnd hr]

theorem addrOf_mem {st : Store} (hnd : (ids st).Nodup) {r : Row} (hr : r ∈ st) : addrOf st r.id = r.addr := by
  unfold addrOf; rw [rowOf_mem hnd hr]

theorem mem_ids_iff {st : Store} {id : Nat} : id ∈ ids st ↔ ∃ r ∈ st, r.id = id := by
  unfold ids; simp

theorem row_eq_of_id_eq {st : Store} (hnd : (ids st).Nodup) {x y : Row} (hx : x ∈ st) (hy : y ∈ st) (h : x.id = y.id) : x = y :=
  ListFacts.key_inj (fun r : Row => r.id) (l := st) hnd hx hy h

theorem rowOf_append_left {st : Store} (extra : Store) {id : Nat} (h : id ∈ ids st) : rowOf (st ++ extra) id = rowOf st id := by
  unfold rowOf
  rw [find?_append]
  obtain ⟨r, hr, hid⟩ := mem_ids_iff.mp h
  have : (st.find? (fun r => r.id == id)).isSome := by
    rw [find?_isSome]; exact ⟨r, hr, by simp [hid]⟩
  cases hh : st.find? (fun r => r.id == id) with
  | none => rw [hh] at this; simp at this
  | some x => simp

theorem rowOf_append_right {st : Store} (r : Row) (h : r.id ∉ ids st) : rowOf (st ++ [r]) r.id = some r := by
  unfold rowOf
  rw [find?_append]
  have := rowOf_none h
  unfold rowOf at this
  rw [this]; simp

theorem valsOf_append_left {st : Store} (extra : Store) {id : Nat} (h : id ∈ ids st) : valsOf (st ++ extra) id = valsOf st id := by
  unfold valsOf; rw [rowOf_append_left extra h]

theorem addrOf_append_left {st : Store} (extra : Store) {id : Nat} (h : id ∈ ids st) : addrOf (st ++ extra) id = addrOf st id := by
  unfold addrOf; rw [rowOf_append_left extra h]

theorem valsOf_append_right {st : Store} (r : Row) (h : r.id ∉ ids st) : valsOf (st ++ [r]) r.id = r.vals := by
  unfold valsOf; rw [rowOf_append_right r h]

theorem addrOf_append_right {st : Store} (r : Row) (h : r.id ∉ ids st) : addrOf (st ++ [r]) r.id = r.addr := by
  unfold addrOf; rw [rowOf_append_right r h]

/-- live raws have distinct addresses: the memory manager's part; needed where a raw is searched by address inside a group -/
def AddrInj (st : Store) : Prop := (st.map (·.addr)).Nodup

theorem ids_cons (r : Row) (st : Store) : ids (r :: st) = r.id :: ids st := rfl

theorem ids_append (st : Store) (r : Row) : ids (st ++ [r]) = ids st ++ [r.id] := by
  unfold ids; simp

theorem ids_append_nodup {st : Store} (hnd : (ids st).Nodup) {r : Row} (hr : r.id ∉ ids st) : (ids (st ++ [r])).Nodup := by
  rw [ids_append]
  exact nodup_append.mpr ⟨hnd, by simp, by intro a ha b hb; simp at hb; subst hb; exact fun e => hr (e ▸ ha)⟩

theorem addrInj_append {st : Store} (hai : AddrInj st) {r : Row} (hra : r.addr ∉ st.map (·.addr)) : AddrInj (st ++ [r]) := by
  unfold AddrInj
  rw [map_append]
  exact nodup_append.mpr ⟨hai, by simp, by intro a ha b hb; simp at hb; subst hb; exact fun e => hra (e ▸ ha)⟩

theorem addrOf_inj {st : Store} (hnd : (ids st).Nodup) (hai : AddrInj st) {x y : Nat} (hx : x ∈ ids st) (hy : y ∈ ids st)
    (h : addrOf st x = addrOf st y) : x = y := by
  obtain ⟨rx, hrx, rfl⟩ := mem_ids_iff.mp hx
  obtain ⟨ry, hry, rfl⟩ := mem_ids_iff.mp hy
  rw [addrOf_mem hnd hrx, addrOf_mem hnd hry] at h
  rw [ListFacts.key_inj (fun r : Row => r.addr) (l := st) hai hrx hry h]

/-- what a `UniqueHash` is between two operations, against the rows `st` it indexes: no pending `mPositionAdd` /
    `mPositionRemove`, one entry per row, each where the hash code of its row's present key puts it (`hash`: what `Complete`
    needs for a lookup to find it), and no two rows with the same key -/
structure UInv (acc : Acc) (st : Store) (u : UIdx) : Prop where
  colsNodup : u.cols.Nodup
  noPos : u.posAdd = none ∧ u.posRem = none
  perm : (u.ents.map (·.id)).Perm (ids st)
  hash : ∀ e ∈ u.ents, e.h0 = hashVals acc u.cols (valsOf st e.id)
  uniq : ∀ x ∈ ids st, ∀ y ∈ ids st, keyEq u.cols (valsOf st x) (valsOf st y) = true → x = y

theorem UIdx.idAt_lt (u : UIdx) {i : Nat} (h : i < u.ents.length) : u.idAt i = u.ents[i].id := by
  unfold UIdx.idAt
  rw [ListFacts.getD_eq_getElem h]

theorem UInv.eta {acc : Acc} {st : Store} {u : UIdx} (hu : UInv acc st u) : u = ⟨u.cols, u.ents, none, none⟩ := by
  cases u; cases hu.noPos.1; cases hu.noPos.2; rfl

theorem UInv.of_perm {acc : Acc} {st : Store} {u : UIdx} (hu : UInv acc st u) {ents : List UEntry} (hp : ents.Perm u.ents) :
    UInv acc st ⟨u.cols, ents, none, none⟩ :=
  ⟨hu.colsNodup, ⟨rfl, rfl⟩, (hp.map _).trans hu.perm, fun e he => hu.hash e (hp.mem_iff.mp he), hu.uniq⟩

/-- what `UniqueHash::Add` leaves behind when the key was not there: the entry, `mPositionAdd` set -/
def uAdded (acc : Acc) (u : UIdx) (raw : Nat) (vals : List Nat) : UIdx :=
  { u with ents := u.ents ++ [⟨raw, hashVals acc u.cols vals⟩], posAdd := some u.ents.length }

theorem UIdx.rejectAdd_uAdded (acc : Acc) (u : UIdx) (raw : Nat) (vals : List Nat) (h : u.posAdd = none) :
    (uAdded acc u raw vals).rejectAdd = u := by
  unfold UIdx.rejectAdd uAdded
  simp only
  rw [eraseIdx_append_of_length_le (Nat.le_refl _)]
  cases u; simp_all

theorem UIdx.rejectAdd_noPos (u : UIdx) (h : u.posAdd = none) : u.rejectAdd = u := by
  unfold UIdx.rejectAdd; rw [h]

/-- the rows of the table, `st`, against the memory the hash / equality functors read while a row is being added, `st'`
    (`MIdx.add_spec`). The lookups (`find_key`, `add_new`) need the values half only and take it as `hst`; lemmas about one raw
    array take the address half, `haddr`. -/
def StoreAgree (st st' : Store) : Prop := ∀ x ∈ ids st, valsOf st' x = valsOf st x ∧ addrOf st' x = addrOf st x

theorem StoreAgree.refl (st : Store) : StoreAgree st st := fun _ _ => ⟨rfl, rfl⟩

theorem storeAgree_append (st extra : Store) : StoreAgree st (st ++ extra) :=
  fun _ hx => ⟨valsOf_append_left extra hx, addrOf_append_left extra hx⟩

/-- the same for a `MultiHash`: the groups partition the rows by key (`perm`: every row in exactly one group, `same`: with the
    key of its group, `distinct`: no two groups with one key), every key raw sits where its hash code puts it, and every full
    segment of a raw array is sorted by address (`sorted`: what the binary search of `AcceptRemove` relies on). Proofs
    re-establish it through `MInv_transform` and read it through `MInv.group_of` / `member_key` / `group_at`. -/
structure MInv (acc : Acc) (st : Store) (m : MIdx) : Prop where
  colsNodup : m.cols.Nodup
  noPos : m.kAdd = none ∧ m.kRem = none
  perm : (m.groups.flatMap Group.members).Perm (ids st)
  hash : ∀ g ∈ m.groups, g.h0 = hashVals acc m.cols (valsOf st g.key)
  same : ∀ g ∈ m.groups, ∀ x ∈ g.raws, keyEq m.cols (valsOf st g.key) (valsOf st x) = true
  distinct : (m.groups.map (·.key)).Pairwise (fun k1 k2 => keyEq m.cols (valsOf st k1) (valsOf st k2) = false)
  sorted : ∀ g ∈ m.groups, SegSorted (addrOf st) g.raws

theorem MIdx.keyAt_lt (m : MIdx) {i : Nat} (h : i < m.groups.length) : m.keyAt i = m.groups[i].key := by
  unfold MIdx.keyAt
  rw [ListFacts.getD_eq_getElem h]

theorem MIdx.find_none_pred {vis : Vis} (hc : Complete vis) (m : MIdx) (h : Nat) (pred : Nat → Bool)
    (hh : ∀ g ∈ m.groups, pred g.key = true → g.h0 = h) (hf : m.find vis h pred = none) : ∀ g ∈ m.groups, pred g.key = false := by
  intro g hg
  obtain ⟨i, hi, rfl⟩ := getElem_of_mem hg
  unfold MIdx.find at hf
  by_contra hne
  have hk : pred m.groups[i].key = true := by simpa using hne
  have := findPos_none hc hf i (by rw [getElem?_map, getElem?_eq_getElem hi]; simp [hh _ (getElem_mem hi) hk])
  rw [m.keyAt_lt hi] at this
  rw [hk] at this; exact absurd this (by simp)

theorem MIdx.find_some_pred {vis : Vis} (m : MIdx) (h : Nat) (pred : Nat → Bool) {p : Nat} (hf : m.find vis h pred = some p) :
    p < m.groups.length ∧ pred (m.keyAt p) = true := by
  unfold MIdx.find at hf
  simpa using findPos_some hf

theorem MIdx.find_none {vis : Vis} (hc : Complete vis) (acc : Acc) (m : MIdx) (K : List Nat) (look : Nat → List Nat)
    (hh : ∀ g ∈ m.groups, g.h0 = hashVals acc m.cols (look g.key))
    (hf : m.find vis (hashVals acc m.cols K) (fun id => keyEq m.cols K (look id)) = none) :
    ∀ g ∈ m.groups, keyEq m.cols K (look g.key) = false :=
  MIdx.find_none_pred hc m _ _ (fun g hg hk => by rw [hh g hg]; exact (hashVals_congr acc m.cols _ _ hk).symm) hf

theorem MIdx.find_present {vis : Vis} (hc : Complete vis) (m : MIdx) (h : Nat) (pred : Nat → Bool) {i : Nat}
    (hi : i < m.groups.length) (hh : m.groups[i].h0 = h) (hp : pred m.groups[i].key = true) :
    ∃ q, m.find vis h pred = some q ∧ q < m.groups.length ∧ pred (m.keyAt q) = true := by
  cases hf : m.find vis h pred with
  | some q => exact ⟨q, rfl, m.find_some_pred h pred hf⟩
  | none =>
    unfold MIdx.find at hf
    have := findPos_none hc hf i (by rw [getElem?_map, getElem?_eq_getElem hi]; exact congrArg some hh)
    rw [m.keyAt_lt hi, hp] at this; cases this

theorem MIdx.keyAt_eq_map (m : MIdx) (i : Nat) : m.keyAt i = (m.groups.map (·.key)).getD i 0 := by
  unfold MIdx.keyAt
  rw [getD_eq_getElem?_getD, getD_eq_getElem?_getD, getElem?_map]
  cases m.groups[i]? <;> rfl

theorem MIdx.find_congr_keys (vis : Vis) (m m' : MIdx) (h : Nat) (pred : Nat → Bool)
    (hk : m'.groups.map (·.key) = m.groups.map (·.key)) (hh : m'.groups.map (·.h0) = m.groups.map (·.h0)) :
    m'.find vis h pred = m.find vis h pred := by
  unfold MIdx.find
  rw [hh]
  congr 1
  funext i
  rw [m'.keyAt_eq_map, m.keyAt_eq_map, hk]

theorem MIdx.findRaw_congr_keys (vis : Vis) (acc : Acc) (st : Store) (m m' : MIdx) (raw : Nat) (hc : m'.cols = m.cols)
    (hk : m'.groups.map (·.key) = m.groups.map (·.key)) (hh : m'.groups.map (·.h0) = m.groups.map (·.h0)) :
    m'.findRaw vis acc st raw = m.findRaw vis acc st raw := by
  unfold MIdx.findRaw
  rw [hc]; exact MIdx.find_congr_keys vis m m' _ _ hk hh

/-- what `MultiHash::Add` leaves behind when the key was not there: a new group of one raw, `mKeyIteratorAdd` set -/
def mAddedNew (acc : Acc) (m : MIdx) (raw : Nat) (vals : List Nat) : MIdx :=
  { m with groups := m.groups ++ [⟨raw, hashVals acc m.cols vals, []⟩], kAdd := some m.groups.length }

/-- the same multi index up to the order of the raws inside each group: what a rejected or failed `pvAdd` leaves (it sorts a
    segment before it appends) -/
def MEquiv (m m' : MIdx) : Prop :=
  m'.cols = m.cols ∧ m'.kAdd = m.kAdd ∧ m'.kRem = m.kRem ∧
  Forall₂ (fun g g' => g'.key = g.key ∧ g'.h0 = g.h0 ∧ g'.raws.Perm g.raws) m.groups m'.groups

theorem MEquiv.refl (m : MIdx) : MEquiv m m :=
  ⟨rfl, rfl, rfl, forall₂_same.mpr (fun _ _ => ⟨rfl, rfl, Perm.refl _⟩)⟩

theorem MIdx.rejectAdd_mAddedNew (acc : Acc) (m : MIdx) (raw : Nat) (vals : List Nat) (h : m.kAdd = none) :
    (mAddedNew acc m raw vals).rejectAdd = m := by
  unfold MIdx.rejectAdd mAddedNew
  simp only
  rw [getD_eq_getElem?_getD, getElem?_append_right (Nat.le_refl _)]
  simp only [Nat.sub_self, getElem?_cons_zero, Option.getD_some, length_nil, Nat.lt_irrefl, if_false]
  rw [eraseIdx_append_of_length_le (Nat.le_refl _)]
  cases m; simp_all

/-- `RejectAdd` takes back the raw `pvAdd` appended to the group `mKeyIteratorAdd` points to -/
theorem MIdx.rejectAdd_pvAdded (m : MIdx) (h : m.kAdd = none) (A B : List Group) (g : Group) (raws : List Nat) (x : Nat) :
    ({ m with groups := A ++ { g with raws := raws ++ [x] } :: B, kAdd := some A.length } : MIdx).rejectAdd =
      { m with groups := A ++ { g with raws := raws } :: B } := by
  unfold MIdx.rejectAdd
  simp only [ListFacts.getD_split, length_append, length_cons, length_nil]
  rw [if_pos (Nat.succ_pos _), ListFacts.modify_split (A := A) (B := B) _ rfl]
  simp only [dropLast_concat]
  rw [h]

theorem MIdx.rejectAdd_noPos (m : MIdx) (h : m.kAdd = none) : m.rejectAdd = m := by
  unfold MIdx.rejectAdd; rw [h]

theorem MIdx.pvAdd_split (st : Store) (m : MIdx) {A B : List Group} {g : Group} (raw : Nat) (fail : Bool)
    (h : m.groups = A ++ g :: B) :
    MIdx.pvAdd st m A.length raw fail =
      { m with groups := A ++ { g with raws := (if fail then pvAddSort (addrOf st) g.raws
                                               else pvAddSort (addrOf st) g.raws ++ [raw]) } :: B } := by
  unfold MIdx.pvAdd
  rw [ListFacts.modify_split _ h]

section lookupM
variable {vis : Vis} (hc : Complete vis) (acc : Acc) {st0 st : Store} (hst : ∀ x ∈ ids st0, valsOf st x = valsOf st0 x)
include hc hst

theorem MIdx.find_key (m : MIdx) (hm : MInv acc st0 m) (K : List Nat) :
    (∃ A g B, m.groups = A ++ g :: B ∧ keyEq m.cols K (valsOf st0 g.key) = true ∧
        m.find vis (hashVals acc m.cols K) (fun id => keyEq m.cols K (valsOf st id)) = some A.length) ∨
    ((∀ g ∈ m.groups, keyEq m.cols K (valsOf st0 g.key) = false) ∧
        m.find vis (hashVals acc m.cols K) (fun id => keyEq m.cols K (valsOf st id)) = none) := by
  have hkeymem : ∀ g ∈ m.groups, g.key ∈ ids st0 := fun g hg =>
    hm.perm.mem_iff.mp (mem_flatMap.mpr ⟨g, hg, mem_cons_self⟩)
  cases hf : m.find vis (hashVals acc m.cols K) (fun id => keyEq m.cols K (valsOf st id)) with
  | some p =>
    obtain ⟨hp, hk⟩ := m.find_some_pred _ _ hf
    obtain ⟨A, B, hsplit, hA⟩ := ListFacts.split_of_getElem? (getElem?_eq_getElem hp)
    rw [m.keyAt_lt hp, hst _ (hkeymem _ (getElem_mem hp))] at hk
    exact Or.inl ⟨A, _, B, hsplit, hk, by rw [hA]⟩
  | none =>
    have hn := MIdx.find_none hc acc m K (valsOf st) (fun g hg => by rw [hst _ (hkeymem g hg)]; exact hm.hash g hg) hf
    exact Or.inr ⟨fun g hg => by rw [← hst _ (hkeymem g hg)]; exact hn g hg, rfl⟩

/-- `MultiHash::Add(raw)` for a raw that is not in the table yet (`hr`: `Add` compares the raw with the key raw of the group it
    finds) and reads as `r.vals` in `st` -/
theorem MIdx.add_new {r : Row} (hr : r.id ∉ ids st0) (hvr : valsOf st r.id = r.vals) (m : MIdx) (hm : MInv acc st0 m) :
    (∃ A g B, m.groups = A ++ g :: B ∧ keyEq m.cols r.vals (valsOf st0 g.key) = true ∧
        ∀ fail, m.add vis acc st r.id fail =
          if fail then ({ m with groups := A ++ { g with raws := pvAddSort (addrOf st) g.raws } :: B }, false)
          else ({ m with groups := A ++ { g with raws := pvAddSort (addrOf st) g.raws ++ [r.id] } :: B,
                         kAdd := some A.length }, true)) ∨
    ((∀ g ∈ m.groups, keyEq m.cols r.vals (valsOf st0 g.key) = false) ∧
        ∀ fail, m.add vis acc st r.id fail = if fail then (m, false) else (mAddedNew acc m r.id r.vals, true)) := by
  unfold MIdx.add MIdx.findRaw
  rw [hvr]
  rcases MIdx.find_key hc acc hst m hm r.vals with ⟨A, g, B, hsplit, hk, hf⟩ | ⟨hno, hf⟩
  · refine Or.inl ⟨A, g, B, hsplit, hk, fun fail => ?_⟩
    have hne : (m.keyAt A.length != r.id) = true := by
      have hgm : g ∈ m.groups := by rw [hsplit]; exact mem_append_right _ mem_cons_self
      have : g.key ≠ r.id := fun e => hr (e ▸ hm.perm.mem_iff.mp (mem_flatMap.mpr ⟨g, hgm, mem_cons_self⟩))
      unfold MIdx.keyAt; rw [hsplit, ListFacts.getD_split]; simpa using this
    rw [hf]
    dsimp only
    rw [if_pos hne, MIdx.pvAdd_split _ m _ _ hsplit, MIdx.pvAdd_split _ m _ _ hsplit]
    cases fail <;> rfl
  · exact Or.inr ⟨hno, fun fail => by rw [hf]; rfl⟩

end lookupM

theorem MInv.members_sub {acc : Acc} {st : Store} {m : MIdx} (hm : MInv acc st m) {g : Group} (hg : g ∈ m.groups) :
    ∀ x ∈ g.members, x ∈ ids st := fun _ hx => hm.perm.mem_iff.mp (mem_flatMap.mpr ⟨g, hg, hx⟩)

theorem MInv.members_nodup {acc : Acc} {st : Store} {m : MIdx} (hm : MInv acc st m) (hnd : (ids st).Nodup) {g : Group}
    (hg : g ∈ m.groups) : g.members.Nodup :=
  (nodup_flatMap.mp (hm.perm.nodup_iff.mpr hnd)).1 g hg

theorem MInv.members_addr_nodup {acc : Acc} {st : Store} {m : MIdx} (hm : MInv acc st m) (hnd : (ids st).Nodup)
    (hai : AddrInj st) (g : Group) (hg : g ∈ m.groups) : (g.members.map (addrOf st)).Nodup :=
  Nodup.map_on (fun x hx y hy h => addrOf_inj hnd hai (hm.members_sub hg x hx) (hm.members_sub hg y hy) h)
    (hm.members_nodup hnd hg)

theorem MInv.group_of {acc : Acc} {st : Store} {m : MIdx} (hm : MInv acc st m) {x : Nat} (hx : x ∈ ids st) :
    ∃ g ∈ m.groups, x ∈ g.members := by
  have := hm.perm.mem_iff.mpr hx
  obtain ⟨g, hg, hxg⟩ := mem_flatMap.mp this
  exact ⟨g, hg, hxg⟩

theorem MInv.member_key {acc : Acc} {st : Store} {m : MIdx} (hm : MInv acc st m) {g : Group} (hg : g ∈ m.groups)
    {x : Nat} (hx : x ∈ g.members) : keyEq m.cols (valsOf st g.key) (valsOf st x) = true := by
  unfold Group.members at hx
  rcases mem_cons.mp hx with h | h
  · rw [h]; exact keyEq_refl _ _
  · exact hm.same g hg x h

theorem MInv.group_at {acc : Acc} {st : Store} {m : MIdx} (hm : MInv acc st m) {raw : Nat} (hraw : raw ∈ ids st) {p : Nat} (hp : p < m.groups.length)
    (hk : keyEq m.cols (valsOf st raw) (valsOf st (m.keyAt p)) = true) : raw ∈ m.groups[p].members := by
  obtain ⟨g', hg', hxg'⟩ := hm.group_of hraw
  have h1 := hm.member_key hg' hxg'
  rw [m.keyAt_lt hp] at hk
  have hsame : keyEq m.cols (valsOf st m.groups[p].key) (valsOf st g'.key) = true :=
    keyEq_trans (by rw [keyEq_symm]; exact hk) (by rw [keyEq_symm]; exact h1)
  obtain ⟨q, hq, rfl⟩ := getElem_of_mem hg'
  have hpq : p = q := by
    by_contra hne
    have hd := pairwise_iff_getElem.mp hm.distinct
    rcases Nat.lt_or_ge p q with h | h
    · have := hd p q (by rw [length_map]; exact hp) (by rw [length_map]; exact hq) h
      simp only [getElem_map] at this
      rw [hsame] at this; exact absurd this (by simp)
    · have := hd q p (by rw [length_map]; exact hq) (by rw [length_map]; exact hp) (by omega)
      simp only [getElem_map] at this
      rw [keyEq_symm, hsame] at this; exact absurd this (by simp)
  subst hpq
  exact hxg'

/-- the relation between a group and what an operation makes of it: `keepRaw` = the raws that stay, `add g` = the raws
    that join; `none` = the key is removed from the multi map -/
def GroupStep (addr : Nat → Nat) (keepRaw : Nat → Bool) (add : Group → List Nat) (g : Group) : Option Group → Prop
  | none => g.members.filter keepRaw = [] ∧ add g = []
  | some g' => g'.members.Perm (g.members.filter keepRaw ++ add g) ∧ SegSorted addr g'.raws ∧ g'.h0 = g.h0

theorem GroupStep.unchanged {addr : Nat → Nat} {keepRaw : Nat → Bool} {add : Group → List Nat} {x : Group}
    (hk : ∀ y ∈ x.members, keepRaw y = true) (ha : add x = []) (hs : SegSorted addr x.raws) :
    GroupStep addr keepRaw add x (some x) :=
  ⟨by rw [ha, append_nil, filter_eq_self.mpr hk], hs, rfl⟩

/-- the general step of a multi index: every group goes through `GroupStep`, the new single-raw groups `ex` are appended -/
theorem MInv_transform (acc : Acc) {st st' : Store} {m : MIdx} (hm : MInv acc st m)
    (keepRaw : Nat → Bool) (add : Group → List Nat) (ex : List Group) (opts : List (Option Group))
    (hvals : ∀ x ∈ ids st, keepRaw x = true → valsOf st' x = valsOf st x)
    (hR : Forall₂ (GroupStep (addrOf st') keepRaw add) m.groups opts)
    (hadd : ∀ g ∈ m.groups, ∀ x ∈ add g, keyEq m.cols (valsOf st g.key) (valsOf st' x) = true)
    (hex : ∀ e ∈ ex, e.raws = [] ∧ e.h0 = hashVals acc m.cols (valsOf st' e.key))
    (hexd : ∀ g ∈ m.groups, ∀ e ∈ ex, keyEq m.cols (valsOf st g.key) (valsOf st' e.key) = false)
    (hexp : (ex.map (·.key)).Pairwise (fun k1 k2 => keyEq m.cols (valsOf st' k1) (valsOf st' k2) = false))
    (hperm : (ids st').Perm (m.groups.flatMap (fun g => g.members.filter keepRaw ++ add g) ++ ex.map (·.key))) :
    MInv acc st' { cols := m.cols, groups := opts.filterMap id ++ ex, kAdd := none, kRem := none } := by
  have hmemkey : ∀ g ∈ m.groups, ∀ g', GroupStep (addrOf st') keepRaw add g (some g') → ∀ x ∈ g'.members,
      keyEq m.cols (valsOf st g.key) (valsOf st' x) = true := by
    intro g hg g' hstep x hx
    rcases mem_append.mp (hstep.1.mem_iff.mp hx) with h | h
    · obtain ⟨hxg, hk⟩ := mem_filter.mp h
      rw [hvals x (hm.members_sub hg x hxg) hk]
      exact hm.member_key hg hxg
    · exact hadd g hg x h
  have hkeyself : ∀ g' : Group, g'.key ∈ g'.members := fun g' => by simp [Group.members]
  refine ⟨hm.colsNodup, ⟨rfl, rfl⟩, ?_, ?_, ?_, ?_, ?_⟩
  · show ((opts.filterMap id ++ ex).flatMap Group.members).Perm (ids st')
    refine Perm.trans ?_ hperm.symm
    rw [flatMap_append]
    apply Perm.append
    · exact forall₂_filterMap_perm (fun g => g.members.filter keepRaw ++ add g) Group.members
        (fun a ha => by obtain ⟨h1, h2⟩ := ha; rw [h1, h2]; rfl) (fun a b hab => hab.1) hR
    · have : ∀ l : List Group, (∀ e ∈ l, e.raws = []) → l.flatMap Group.members = l.map (·.key) := by
        intro l
        induction l with
        | nil => intro _; rfl
        | cons e es ih =>
          intro h
          rw [flatMap_cons, map_cons, ih (fun e' he' => h e' (mem_cons_of_mem _ he'))]
          simp [Group.members, h e mem_cons_self]
      rw [this ex (fun e he => (hex e he).1)]
  · intro g' hg'
    show g'.h0 = hashVals acc m.cols (valsOf st' g'.key)
    rcases mem_append.mp (show g' ∈ opts.filterMap id ++ ex from hg') with h | h
    · obtain ⟨g, hg, hstep⟩ := forall₂_filterMap_mem hR h
      rw [hstep.2.2, hm.hash g hg]
      exact hashVals_congr acc m.cols _ _ (hmemkey g hg g' hstep _ (hkeyself g'))
    · exact (hex g' h).2
  · intro g' hg' x hx
    show keyEq m.cols (valsOf st' g'.key) (valsOf st' x) = true
    rcases mem_append.mp (show g' ∈ opts.filterMap id ++ ex from hg') with h | h
    · obtain ⟨g, hg, hstep⟩ := forall₂_filterMap_mem hR h
      have h1 := hmemkey g hg g' hstep _ (hkeyself g')
      have h2 := hmemkey g hg g' hstep x (by simp [Group.members, hx])
      exact keyEq_trans (by rw [keyEq_symm]; exact h1) h2
    · rw [(hex g' h).1] at hx; simp at hx
  · show ((opts.filterMap id ++ ex).map (·.key)).Pairwise _
    rw [map_append, pairwise_append]
    refine ⟨?_, hexp, ?_⟩
    · rw [pairwise_map]
      have hp : m.groups.Pairwise (fun g1 g2 => g1 ∈ m.groups ∧ g2 ∈ m.groups ∧
          keyEq m.cols (valsOf st g1.key) (valsOf st g2.key) = false) := by
        have := pairwise_map.mp hm.distinct
        exact this.imp_of_mem (fun ha hb hab => ⟨ha, hb, hab⟩)
      refine forall₂_filterMap_pairwise ?_ hR hp
      intro g1 g2 b1 b2 ⟨hg1, hg2, hd⟩ hs1 hs2
      have h1 := hmemkey g1 hg1 b1 hs1 _ (hkeyself b1)
      have h2 := hmemkey g2 hg2 b2 hs2 _ (hkeyself b2)
      -- if the new keys were equal the old ones would be
      by_contra hne
      have hne' : keyEq m.cols (valsOf st' b1.key) (valsOf st' b2.key) = true := by simpa using hne
      have : keyEq m.cols (valsOf st g1.key) (valsOf st g2.key) = true :=
        keyEq_trans (keyEq_trans h1 hne') (by rw [keyEq_symm]; exact h2)
      rw [hd] at this; exact absurd this (by simp)
    · intro a ha b hb
      obtain ⟨g', hg', rfl⟩ := mem_map.mp ha
      obtain ⟨e, he, rfl⟩ := mem_map.mp hb
      obtain ⟨g, hg, hstep⟩ := forall₂_filterMap_mem hR hg'
      have h1 := hmemkey g hg g' hstep _ (hkeyself g')
      rw [← keyEq_congr_left h1]
      exact hexd g hg e he
  · intro g' hg'
    rcases mem_append.mp (show g' ∈ opts.filterMap id ++ ex from hg') with h | h
    · obtain ⟨g, hg, hstep⟩ := forall₂_filterMap_mem hR h
      exact hstep.2.1
    · rw [(hex g' h).1]; intro k hk; simp at hk

theorem MInv.not_mem_of_split {acc : Acc} {st : Store} {m : MIdx} (hm : MInv acc st m) (hnd : (ids st).Nodup) {A B : List Group}
    {g : Group} (hsplit : m.groups = A ++ g :: B) : ∀ x ∈ A ++ B, ∀ y ∈ x.members, y ∉ g.members := by
  have h : ((A ++ g :: B).flatMap Group.members).Nodup := by rw [← hsplit]; exact hm.perm.nodup_iff.mpr hnd
  have hp : ((A ++ g :: B).flatMap Group.members).Perm (g.members ++ (A ++ B).flatMap Group.members) := by
    have : (A ++ g :: B).Perm (g :: (A ++ B)) := perm_middle
    exact (this.flatMap_right _).trans (by rw [flatMap_cons])
  have hnd := hp.nodup_iff.mp h
  rw [nodup_append] at hnd
  intro x hx y hy hyg
  exact hnd.2.2 y hyg y (mem_flatMap.mpr ⟨x, hx, hy⟩) rfl

theorem MInv.not_mem_of_ne {acc : Acc} {st : Store} {m : MIdx} (hm : MInv acc st m) (hnd : (ids st).Nodup) {i j : Nat}
    (hi : i < m.groups.length) (hj : j < m.groups.length) (hij : i ≠ j) {x : Nat} (hx : x ∈ m.groups[i].members) :
    x ∉ m.groups[j].members := by
  have hp := pairwise_iff_getElem.mp (nodup_flatMap.mp (hm.perm.nodup_iff.mpr hnd)).2
  rcases Nat.lt_or_gt_of_ne hij with h | h
  · exact fun hx' => hp i j hi hj h hx hx'
  · exact fun hx' => hp j i hj hi h hx' hx

/-- replacing the raw array of one group by a rearrangement of it plus raws `extra` that have the key of the group
    (`extra = []`: what a rejected or failed `Add` leaves; `extra = [new raw]`: an accepted one) -/
theorem MInv_replace_raws (acc : Acc) {st0 st : Store} {m : MIdx} (hm : MInv acc st0 m) (hnd : (ids st0).Nodup)
    (hvals : ∀ x ∈ ids st0, valsOf st x = valsOf st0 x) (haddr : ∀ x ∈ ids st0, addrOf st x = addrOf st0 x)
    {A B : List Group} {g : Group} (hsplit : m.groups = A ++ g :: B) (raws' extra : List Nat)
    (hids : (ids st).Perm (ids st0 ++ extra))
    (hp : raws'.Perm (g.raws ++ extra))
    (hk : ∀ x ∈ extra, keyEq m.cols (valsOf st g.key) (valsOf st x) = true)
    (hs : SegSorted (addrOf st) raws') :
    MInv acc st { m with groups := A ++ { g with raws := raws' } :: B } := by
  have hgm : g ∈ m.groups := by rw [hsplit]; exact mem_append_right _ mem_cons_self
  -- `MInv_transform` wants the joining raws as a function of the group: `g` is recognised by its key raw, which no other
  -- group contains (the raws of the groups are distinct identities)
  have hkeyg : ∀ x ∈ A ++ B, (if x.key = g.key then extra else []) = [] := fun x hx =>
    if_neg fun e => hm.not_mem_of_split hnd hsplit x hx x.key mem_cons_self
      (by rw [e]; exact mem_cons_self)
  have hsame : ∀ x ∈ A ++ B, GroupStep (addrOf st) (fun _ => true) (fun x => if x.key = g.key then extra else []) x (some x) := by
    intro x hx
    have hxm : x ∈ m.groups := by
      rw [hsplit]; rcases mem_append.mp hx with h | h
      · exact mem_append_left _ h
      · exact mem_append_right _ (mem_cons_of_mem _ h)
    exact GroupStep.unchanged (fun _ _ => rfl) (hkeyg x hx)
      ((SegSorted_congr fun y hy => haddr y (hm.members_sub hxm y (mem_cons_of_mem _ hy))).mpr (hm.sorted x hxm))
  have := MInv_transform acc hm (fun _ => true) (fun x => if x.key = g.key then extra else []) []
    ((A ++ { g with raws := raws' } :: B).map some) (fun x hx _ => hvals x hx) ?_ ?_ (by simp) (by simp) (by simp) ?_
  · rw [ListFacts.filterMap_id_map_some, append_nil] at this
    rw [hm.noPos.1, hm.noPos.2]; exact this
  · rw [hsplit, map_append, map_cons]
    refine rel_append (forall₂_map_right_iff.mpr (forall₂_same.mpr fun x hx => hsame x (mem_append_left _ hx)))
      (Forall₂.cons ⟨?_, hs, rfl⟩ (forall₂_map_right_iff.mpr (forall₂_same.mpr fun x hx => hsame x (mem_append_right _ hx))))
    beta_reduce
    rw [if_pos rfl, filter_eq_self.mpr (fun _ _ => rfl)]
    exact (Perm.cons _ hp).trans (by unfold Group.members; exact Perm.of_eq (cons_append ..).symm)
  · intro g' _ x hx
    split at hx
    · rename_i e
      rw [e, ← hvals _ (hm.members_sub hgm _ mem_cons_self)]; exact hk x hx
    · cases hx
  · rw [map_nil, append_nil]
    refine hids.trans (Perm.trans ?_ (flatMap_append_perm m.groups _ _))
    refine Perm.append ?_ (Perm.of_eq ?_)
    · rw [flatMap_congr (fun x _ => filter_eq_self.mpr (fun _ _ => rfl))]; exact hm.perm.symm
    · rw [hsplit, flatMap_append, flatMap_cons, if_pos rfl, flatMap_eq_nil_iff.mpr (fun x hx => hkeyg x (mem_append_left _ hx)),
        flatMap_eq_nil_iff.mpr (fun x hx => hkeyg x (mem_append_right _ hx)), nil_append, append_nil]

theorem MInv_append_group (acc : Acc) {st0 : Store} {m : MIdx} (hm : MInv acc st0 m) {r : Row} (hr : r.id ∉ ids st0)
    (hno : ∀ g ∈ m.groups, keyEq m.cols r.vals (valsOf st0 g.key) = false) :
    MInv acc (st0 ++ [r]) (mAddedNew acc m r.id r.vals).acceptAdd := by
  have hvr : valsOf (st0 ++ [r]) r.id = r.vals := valsOf_append_right r hr
  have := MInv_transform acc hm (st' := st0 ++ [r]) (fun _ => true) (fun _ => []) [⟨r.id, hashVals acc m.cols r.vals, []⟩]
    (m.groups.map some) (fun x hx _ => valsOf_append_left _ hx) ?_ (fun _ _ _ hx => by cases hx)
    (fun e he => by rw [mem_singleton.mp he, hvr]; exact ⟨rfl, rfl⟩)
    (fun g hg e he => by rw [mem_singleton.mp he, hvr, keyEq_symm]; exact hno g hg) (by simp) ?_
  · rw [ListFacts.filterMap_id_map_some] at this
    unfold mAddedNew MIdx.acceptAdd
    rw [hm.noPos.2]; exact this
  · refine forall₂_map_right_iff.mpr (forall₂_same.mpr fun x hx => GroupStep.unchanged (fun _ _ => rfl) rfl ?_)
    exact (SegSorted_congr fun y hy => addrOf_append_left _ (hm.members_sub hx y (mem_cons_of_mem _ hy))).mpr (hm.sorted x hx)
  · rw [ids_append, map_cons, map_nil]
    refine Perm.append_right _ (hm.perm.symm.trans (Perm.of_eq ?_))
    exact flatMap_congr fun x _ => by rw [append_nil, filter_eq_self.mpr (fun _ _ => rfl)]

/-! ### a unique index is the multi index whose groups are all single

  `HashSet<Raw*>` against `HashMultiMap<Raw*, Raw*>` with empty value arrays: lookups, `PrepareRemove`, `AcceptAdd` and
  `AcceptRemove` (a single group is removed with its key) agree, and so do the invariants. What is proved of a multi index
  holds of a unique index through `UIdx.toM`; only `Add` differs (a unique index refuses where a multi index adds). -/

def UEntry.toG (e : UEntry) : Group := ⟨e.id, e.h0, []⟩

def UIdx.toM (u : UIdx) : MIdx := ⟨u.cols, u.ents.map UEntry.toG, u.posAdd, u.posRem⟩

theorem UIdx.toM_length (u : UIdx) : u.toM.groups.length = u.ents.length := length_map _

theorem UIdx.toM_getElem (u : UIdx) {i : Nat} (h : i < u.toM.groups.length) :
    u.toM.groups[i] = (u.ents[i]'(u.toM_length ▸ h)).toG := getElem_map ..

theorem UIdx.toM_getD_raws (u : UIdx) (p : Nat) : (u.toM.groups.getD p default).raws = [] := by
  show ((u.ents.map UEntry.toG).getD p default).raws = []
  rw [getD_eq_getElem?_getD, getElem?_map]
  cases u.ents[p]? <;> rfl

theorem UIdx.toM_keyAt (u : UIdx) (i : Nat) : u.toM.keyAt i = u.idAt i := by
  unfold MIdx.keyAt UIdx.idAt UIdx.toM
  rw [getD_eq_getElem?_getD, getD_eq_getElem?_getD, getElem?_map]
  cases u.ents[i]? <;> rfl

theorem UIdx.toM_find (vis : Vis) (u : UIdx) (h : Nat) (pred : Nat → Bool) : u.toM.find vis h pred = u.find vis h pred := by
  unfold MIdx.find UIdx.find
  rw [funext fun i => congrArg pred (u.toM_keyAt i)]
  show findPos vis h ((u.ents.map UEntry.toG).map (·.h0)) _ = _
  rw [map_map]; rfl

theorem UIdx.toM_findRaw (vis : Vis) (acc : Acc) (st : Store) (u : UIdx) (raw : Nat) :
    u.toM.findRaw vis acc st raw = u.findRaw vis acc st raw := u.toM_find vis _ _

theorem UIdx.toM_acceptAdd (u : UIdx) : u.acceptAdd.toM = u.toM.acceptAdd := rfl

theorem UIdx.toM_prepareRemove (vis : Vis) (acc : Acc) (st : Store) (u : UIdx) (raw : Nat) :
    (u.prepareRemove vis acc st raw).toM = u.toM.prepareRemove vis acc st raw := by
  unfold MIdx.prepareRemove; rw [u.toM_findRaw]; rfl

theorem acceptRemoveGroup_nil (addr : Nat → Nat) {g : Group} (raw : Nat) (h : g.raws = []) : acceptRemoveGroup addr g raw = none := by
  unfold acceptRemoveGroup; rw [h]; rfl

theorem UIdx.toM_acceptRemove (st : Store) (raw : Nat) (u : UIdx) : u.acceptRemove.toM = u.toM.acceptRemove st raw := by
  unfold UIdx.acceptRemove MIdx.acceptRemove
  show _ = match u.posRem with | none => _ | some p => _
  cases hp : u.posRem with
  | none => rfl
  | some p =>
    dsimp only
    rw [acceptRemoveGroup_nil _ _ (u.toM_getD_raws p)]
    show UIdx.toM ⟨u.cols, u.ents.eraseIdx p, u.posAdd, none⟩ = ⟨u.cols, (u.ents.map UEntry.toG).eraseIdx p, u.posAdd, none⟩
    unfold UIdx.toM; rw [eraseIdx_map]

theorem uAdded_toM (acc : Acc) (u : UIdx) (raw : Nat) (vals : List Nat) :
    (uAdded acc u raw vals).toM = mAddedNew acc u.toM raw vals := by
  unfold uAdded mAddedNew UIdx.toM
  simp only [map_append, map_cons, map_nil, length_map]; rfl

theorem members_toG (ents : List UEntry) : (ents.map UEntry.toG).flatMap Group.members = ents.map (·.id) := by
  induction ents with
  | nil => rfl
  | cons e es ih => rw [map_cons, flatMap_cons, ih]; rfl

theorem mem_toM {u : UIdx} {g : Group} (hg : g ∈ u.toM.groups) : ∃ e ∈ u.ents, g = e.toG := by
  obtain ⟨e, he, rfl⟩ := mem_map.mp hg; exact ⟨e, he, rfl⟩

/-- distinct identities turn `uniq` (rows with the same key are the same row) into `distinct` (entries at different
    positions have different keys) -/
theorem UInv.toM {acc : Acc} {st : Store} {u : UIdx} (hu : UInv acc st u) (hnd : (ids st).Nodup) : MInv acc st u.toM := by
  refine ⟨hu.colsNodup, hu.noPos, by show ((u.ents.map UEntry.toG).flatMap _).Perm _; rw [members_toG]; exact hu.perm, ?_, ?_, ?_, ?_⟩
  · intro g hg; obtain ⟨e, he, rfl⟩ := mem_toM hg; exact hu.hash e he
  · intro g hg x hx; obtain ⟨e, he, rfl⟩ := mem_toM hg; cases hx
  · show ((u.ents.map UEntry.toG).map (·.key)).Pairwise _
    rw [map_map]
    refine (show (u.ents.map (·.id)).Pairwise (· ≠ ·) from hu.perm.nodup_iff.mpr hnd).imp_of_mem ?_
    intro a b ha hb hne
    by_contra hk
    exact hne (hu.uniq a (hu.perm.mem_iff.mp ha) b (hu.perm.mem_iff.mp hb) (Bool.of_not_eq_false hk))
  · intro g hg; obtain ⟨e, he, rfl⟩ := mem_toM hg
    intro k hk; exact absurd hk (by simp [UEntry.toG])

theorem UInv.of_toM {acc : Acc} {st : Store} {u : UIdx} (hm : MInv acc st u.toM) : UInv acc st u := by
  have hperm : (u.ents.map (·.id)).Perm (ids st) := by rw [← members_toG]; exact hm.perm
  refine ⟨hm.colsNodup, hm.noPos, hperm, fun e he => hm.hash e.toG (mem_map_of_mem he), ?_⟩
  intro x hx y hy hk
  obtain ⟨ex, hex, rfl⟩ := mem_map.mp (hperm.mem_iff.mpr hx)
  obtain ⟨i, hi, rfl⟩ := getElem_of_mem hex
  have hi' : i < u.toM.groups.length := u.toM_length ▸ hi
  have := hm.group_at hy hi' (by rw [u.toM_keyAt, u.idAt_lt hi, keyEq_symm]; exact hk)
  rw [u.toM_getElem hi'] at this
  exact (mem_singleton.mp this).symm

theorem UIdx.toM_addr_nodup (addr : Nat → Nat) (u : UIdx) : ∀ g ∈ u.toM.groups, (g.members.map addr).Nodup := by
  intro g hg; obtain ⟨e, _, rfl⟩ := mem_toM hg; exact nodup_singleton _

theorem UInv.no_key_toM {acc : Acc} {st : Store} {u : UIdx} (hu : UInv acc st u) (hnd : (ids st).Nodup) {K : List Nat}
    (hno : ∀ x ∈ st, keyEq u.cols K x.vals = false) : ∀ g ∈ u.toM.groups, keyEq u.toM.cols K (valsOf st g.key) = false := by
  intro g hg
  obtain ⟨x, hx, hxid⟩ := mem_ids_iff.mp ((hu.toM hnd).members_sub hg g.key mem_cons_self)
  rw [← hxid, valsOf_mem hnd hx]; exact hno x hx

theorem UInv_add (acc : Acc) {st0 : Store} (hnd : (ids st0).Nodup) {u : UIdx} (hu : UInv acc st0 u) {r : Row}
    (hr : r.id ∉ ids st0) (hno : ∀ x ∈ st0, keyEq u.cols r.vals x.vals = false) :
    UInv acc (st0 ++ [r]) (uAdded acc u r.id r.vals).acceptAdd := by
  apply UInv.of_toM
  rw [UIdx.toM_acceptAdd, uAdded_toM]
  exact MInv_append_group acc (hu.toM hnd) hr (hu.no_key_toM hnd hno)

section lookupU
variable {vis : Vis} (hc : Complete vis) (acc : Acc) {st0 st : Store} (hnd : (ids st0).Nodup)
  (hst : ∀ x ∈ ids st0, valsOf st x = valsOf st0 x)
include hc hnd hst

theorem UIdx.find_key (u : UIdx) (hu : UInv acc st0 u) (K : List Nat) :
    (∃ x ∈ st0, ∃ p, p < u.ents.length ∧ u.idAt p = x.id ∧ keyEq u.cols K x.vals = true ∧
        u.find vis (hashVals acc u.cols K) (fun id => keyEq u.cols K (valsOf st id)) = some p) ∨
    ((∀ x ∈ st0, keyEq u.cols K x.vals = false) ∧
        u.find vis (hashVals acc u.cols K) (fun id => keyEq u.cols K (valsOf st id)) = none) := by
  have hm := hu.toM hnd
  rw [← u.toM_find]
  rcases MIdx.find_key hc acc hst u.toM hm K with ⟨A, g, B, hsplit, hk, hf⟩ | ⟨hno, hf⟩
  · have hg : g ∈ u.toM.groups := by rw [hsplit]; exact mem_append_right _ mem_cons_self
    obtain ⟨x, hx, hxid⟩ := mem_ids_iff.mp (hm.members_sub hg g.key mem_cons_self)
    refine Or.inl ⟨x, hx, A.length, u.toM_length ▸ ListFacts.split_lt hsplit, ?_, by rw [← valsOf_mem hnd hx, hxid]; exact hk, hf⟩
    rw [← u.toM_keyAt, u.toM.keyAt_lt (ListFacts.split_lt hsplit), ListFacts.getElem_split hsplit, hxid]
  · refine Or.inr ⟨fun x hx => ?_, hf⟩
    obtain ⟨g, hg, hxg⟩ := hm.group_of (mem_ids_iff.mpr ⟨x, hx, rfl⟩)
    obtain ⟨e, _, rfl⟩ := mem_toM hg
    rw [← valsOf_mem hnd hx, mem_singleton.mp hxg]; exact hno _ hg

/-- `UniqueHash::Add(raw, oldRaw)` for a raw that is not in the table yet and reads as `r.vals` in `st` -/
theorem UIdx.add_new {r : Row} (hvr : valsOf st r.id = r.vals) (u : UIdx) (hu : UInv acc st0 u) :
    (∃ x ∈ st0, ∃ p, p < u.ents.length ∧ u.idAt p = x.id ∧ keyEq u.cols r.vals x.vals = true ∧
        ∀ o fail, u.add vis acc st r.id o fail = some (if o = some x.id then { u with posAdd := some p } else u, x.id)) ∨
    ((∀ x ∈ st0, keyEq u.cols r.vals x.vals = false) ∧
        ∀ o fail, u.add vis acc st r.id o fail = if fail then none else some (uAdded acc u r.id r.vals, r.id)) := by
  rcases UIdx.find_key hc acc hnd hst u hu r.vals with ⟨x, hx, p, hp, hid, hk, hf⟩ | ⟨hno, hf⟩
  · refine Or.inl ⟨x, hx, p, hp, hid, hk, fun o fail => ?_⟩
    unfold UIdx.add UIdx.findRaw
    rw [hvr, hf]
    dsimp only
    rw [hid]
    by_cases h : o = some x.id
    · rw [if_pos h, if_pos (by simp [h])]
    · rw [if_neg h, if_neg (by simpa using h)]
  · exact Or.inr ⟨hno, fun o fail => by unfold UIdx.add UIdx.findRaw; rw [hvr, hf]; rfl⟩

end lookupU

/-- the same raws with the same values at the same addresses, in any order and with any row numbers: the invariants read a store
    through `ids`, `valsOf`, `addrOf` only and do not see the difference (`UInv_sim`, `MInv_sim`) -/
def StoreSim (st st' : Store) : Prop :=
  (ids st').Perm (ids st) ∧ (∀ x, valsOf st' x = valsOf st x) ∧ (∀ x, addrOf st' x = addrOf st x)

theorem StoreSim.refl (st : Store) : StoreSim st st := ⟨Perm.refl _, fun _ => rfl, fun _ => rfl⟩

theorem StoreSim.trans {a b c : Store} (h1 : StoreSim a b) (h2 : StoreSim b c) : StoreSim a c :=
  ⟨h2.1.trans h1.1, fun x => (h2.2.1 x).trans (h1.2.1 x), fun x => (h2.2.2 x).trans (h1.2.2 x)⟩

/-- `StoreSim` row by row (`storeSim_of_forall₂`): only the row number may differ -/
abbrev RowRel (a b : Row) : Prop := b.id = a.id ∧ b.vals = a.vals ∧ b.addr = a.addr

theorem forall₂_rowRel_refl (l : List Row) : Forall₂ RowRel l l := forall₂_same.mpr (fun _ _ => ⟨rfl, rfl, rfl⟩)

theorem rowOf_forall₂ {st st' : Store}
    (h : Forall₂ RowRel st st') (x : Nat) :
    (rowOf st' x).map (fun r => (r.vals, r.addr)) = (rowOf st x).map (fun r => (r.vals, r.addr)) := by
  unfold rowOf
  induction h with
  | nil => rfl
  | @cons a b l1 l2 hab _ ih =>
    rw [find?_cons, find?_cons, hab.1]
    by_cases hx : a.id = x
    · have : (a.id == x) = true := by simp [hx]
      rw [this]; simp [hab.2.1, hab.2.2]
    · have : (a.id == x) = false := by simp [hx]
      rw [this]; exact ih

theorem ids_forall₂ {st st' : Store}
    (h : Forall₂ RowRel st st') : ids st' = ids st := by
  unfold ids
  induction h with
  | nil => rfl
  | cons hab _ ih => simp only [map_cons]; rw [hab.1, ih]

theorem addrs_forall₂ {st st' : Store} (h : Forall₂ RowRel st st') : st'.map (·.addr) = st.map (·.addr) := by
  induction h with
  | nil => rfl
  | cons hab _ ih => simp only [map_cons]; rw [hab.2.2, ih]

theorem storeSim_of_forall₂ {st st' : Store}
    (h : Forall₂ RowRel st st') : StoreSim st st' := by
  refine ⟨Perm.of_eq (ids_forall₂ h), ?_, ?_⟩
  · intro x
    unfold valsOf
    have := rowOf_forall₂ h x
    cases h1 : rowOf st' x <;> cases h2 : rowOf st x <;> rw [h1, h2] at this <;> simp at this ⊢
    exact this.1
  · intro x
    unfold addrOf
    have := rowOf_forall₂ h x
    cases h1 : rowOf st' x <;> cases h2 : rowOf st x <;> rw [h1, h2] at this <;> simp at this ⊢
    exact this.2

theorem UInv_sim {acc : Acc} {st st' : Store} {u : UIdx} (h : StoreSim st st') (hu : UInv acc st u) : UInv acc st' u := by
  obtain ⟨hi, hv, _⟩ := h
  refine ⟨hu.colsNodup, hu.noPos, hu.perm.trans hi.symm, ?_, ?_⟩
  · intro e he; rw [hv]; exact hu.hash e he
  · intro x hx y hy hk
    rw [hv, hv] at hk
    exact hu.uniq x (hi.mem_iff.mp hx) y (hi.mem_iff.mp hy) hk

theorem MInv_sim {acc : Acc} {st st' : Store} {m : MIdx} (h : StoreSim st st') (hm : MInv acc st m) : MInv acc st' m := by
  obtain ⟨hi, hv, ha⟩ := h
  refine ⟨hm.colsNodup, hm.noPos, hm.perm.trans hi.symm, ?_, ?_, ?_, ?_⟩
  · intro g hg; rw [hv]; exact hm.hash g hg
  · intro g hg x hx; rw [hv, hv]; exact hm.same g hg x hx
  · refine hm.distinct.imp ?_
    intro a b hab; rw [hv, hv]; exact hab
  · intro g hg
    exact (SegSorted_congr (fun x _ => ha x)).mpr (hm.sorted g hg)

theorem storeSim_of_perm {st st' : Store} (hp : st.Perm st') (hnd : (ids st).Nodup) : StoreSim st st' := by
  have hnd' : (ids st').Nodup := (hp.map _).nodup_iff.mp hnd
  have key : ∀ x, rowOf st' x = rowOf st x := by
    intro x
    by_cases hx : x ∈ ids st
    · obtain ⟨row, hrow, rfl⟩ := mem_ids_iff.mp hx
      rw [rowOf_mem hnd hrow, rowOf_mem hnd' (hp.mem_iff.mp hrow)]
    · rw [rowOf_none hx, rowOf_none (fun h => hx ((hp.map _).mem_iff.mpr h))]
  exact ⟨(hp.map _).symm, fun x => by unfold valsOf; rw [key], fun x => by unfold addrOf; rw [key]⟩

end Momo.Table
