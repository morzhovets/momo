import Momo.Proof.StdWrapErase
import Momo.Proof.StdWrapEq
import Momo.Proof.StdWrapHint
import Momo.Proof.StdWrapLookup
import Momo.Proof.StdWOrdHist
import Momo.Proof.StdWVec
import Momo.Proof.StdWUnoHist
import Momo.Proof.StdWMmHist
import Momo.Proof.StdWNative
/-!
# C06 — stdish containers give the same answers as the std containers they replace

Property theorems. Models: `Momo/Model/StdWrap.lean` (the decision logic the wrappers add on top
of the native containers; lemmas: `Momo/Proof/StdWrap*.lean`), and for whole call histories
`Momo/Model/StdWrapOps.lean` (every wrapper operation over the abstract native containers) against
`Momo/Model/StdSpec.lean` (a specification of the std containers); lemmas: `Momo/Proof/StdW*.lean`.

Statement (properties.jsonl): for every sequence of calls from the shared interface the momo container
returns the same results — inserted flags, found/not-found, counts, sorted positions including hinted
insertion and stable order of equivalent keys, bounds, positions returned by erase, node-handle
contents, `std::out_of_range` from `at()` — and ends with the same contents as the libstdc++
container; `==`, `!=` and the ordering operators agree with std. In particular `erase(first,last)`
removes exactly the elements of `[first,last)` and nothing else, and equality depends only on the
(multi)set of stored elements.

What is proved here (label: partial, see `C06_full`): everything the *wrappers* decide themselves
(first part of the file), and that on every legal call history the wrapper model gives the same
observations as `StdSpec` (second part, `C06_history_*`). The native containers the wrappers forward to
are represented by their abstract specification (C01, C02, C08 tie them to the code). That libstdc++
behaves as `StdSpec` says, and momo as `StdWrapOps` says, is the differential run of `harness/c06_*.cpp`,
because libstdc++ has no formal model.
-/
namespace Momo.StdWrap
open List

/-- The full claim, kept visible: a wrapper and the libstdc++ container it replaces, driven by the
same call sequence over the shared interface, give equal observations. `obsStd` stands for a semantics of the
libstdc++ container (none exists as a formal object — this is why the statement stays a `def`);
`obsMomo` / `obsStd` run a call sequence and list the observable results and the final contents. -/
def C06_full (Call Obs : Type) (obsMomo obsStd : List Call → List Obs) (legal : List Call → Prop) : Prop :=
  ∀ calls, legal calls → obsMomo calls = obsStd calls

/-- **C06 eraseRange_exact (unordered_set, unordered_map).** For every container size, every pair
of iterators (lookup results included: `mv = false`) — whenever `erase(first,last)` does not throw,
the positions it removes are exactly those visited by `for (it = first; it != last; ++it)`, nothing
else; a throwing call removes nothing (`erasedU … invalid = []` by construction). -/
theorem C06_eraseRange_exact_set (n : Nat) (first last : It) (hf : first.pos ≤ n) (hl : last.pos ≤ n)
    (h : eraseRangeU n first last ≠ .invalid) :
    reachU n (n + 1) first last = some (erasedU n (eraseRangeU n first last)) := by
  rw [reachU_eq]
  revert h
  -- the arms are the tests of `eraseRangeU` in source order: `first == last`, `next(first) == last`, `[begin(), end())`, refused
  fun_cases eraseRangeU n first last <;> intro h
  case case1 h1 => exact reach_here (Nat.succ_pos n) h1
  case case2 h1 h2 => exact reach_one h1 (Nat.lt_of_le_of_ne hf h2.1) h2.2 (Nat.lt_succ_self n)
  case case3 h1 h2 h3 =>
    obtain ⟨fp, fm⟩ := first
    obtain ⟨lp, lm⟩ := last
    obtain ⟨rfl, rfl⟩ : fp = 0 ∧ lp = n := h3
    cases fm with
    | true => exact reach_all (fun _ => rfl) lp lm
    -- a lookup result at position 0 steps to `end()`: the second test has fired
    | false => exact absurd ⟨h1, rfl⟩ h2
  case case4 => exact absurd rfl h

/-- the documented legal ranges are accepted: empty, single element (also `erase(it, std::next(it))`
with `it` a lookup result), whole container -/
theorem C06_eraseRange_legal_set (n : Nat) (first last : It) :
    (first.pos = last.pos → eraseRangeU n first last = .unchanged) ∧
    (first.pos ≠ last.pos → first.pos < n → last.pos = (nextU n first).pos → eraseRangeU n first last = .one first.pos) ∧
    (0 < n → first = ⟨0, true⟩ → last.pos = n → eraseRangeU n first last = (if n = 1 then .one 0 else .all)) := by
  refine ⟨fun h => by rw [eraseRangeU, if_pos h],
    fun h1 h2 h3 => by rw [eraseRangeU, if_neg h1, if_pos ⟨Nat.ne_of_lt h2, h3.symm⟩], fun hn hf hl => ?_⟩
  subst hf
  have h0 : (0 : Nat) ≠ last.pos := hl ▸ Nat.ne_of_lt hn
  rw [eraseRangeU, if_neg h0]
  by_cases h1 : n = 1
  · rw [if_pos ⟨h1 ▸ Nat.zero_ne_one, (hl.trans h1).symm⟩, if_pos h1]
  · rw [if_neg fun h => h1 (hl.symm.trans h.2.symm), if_pos ⟨rfl, hl⟩, if_neg h1]

/-- **C06 eraseRange_exact (unordered_multimap).** `ks` = key of every flat traversal position,
equal keys adjacent (`Grouped`, the layout HashMultiMap guarantees). Whenever the call does not
throw, it removes exactly the positions the iterators enumerate from `first` to `last`; `RemoveKey`
(all values of the key) is chosen only when that enumeration is the whole key. -/
theorem C06_eraseRange_exact_multimap (ks : List Nat) (hg : Grouped ks) (first last : It)
    (hf : first.pos ≤ ks.length) (hl : last.pos ≤ ks.length)
    (h : eraseRangeMM ks first last ≠ .invalid) :
    reachMM ks (ks.length + 1) first last = some (erasedMM ks (eraseRangeMM ks first last)) := by
  rw [reachMM_eq]
  revert h
  -- the arms are the tests of `eraseRangeMM` in source order: `first == last`, `next(first) == last`, one whole key, `[begin(), end())`, refused
  fun_cases eraseRangeMM ks first last <;> intro h
  case case1 h1 => exact reach_here (Nat.succ_pos _) h1
  case case2 h1 h2 => exact reach_one h1 (Nat.lt_of_le_of_ne hf h2.1) h2.2 (Nat.lt_succ_self _)
  case case3 h1 h2 h3 =>
    have hlt : first.pos < ks.length := Nat.lt_of_le_of_ne hf h3.1
    obtain ⟨lp, lm⟩ := last
    obtain rfl : lp = makeIterEnd ks first := h3.2.2
    rw [erased_key ks hg first.pos hlt h3.2.1]
    exact reach_key ks first lm hlt
  case case4 h1 h2 h3 h4 =>
    obtain ⟨fp, fm⟩ := first
    obtain ⟨lp, lm⟩ := last
    obtain ⟨rfl, rfl⟩ : fp = 0 ∧ lp = ks.length := h4
    cases fm with
    | true => exact reach_all (nextMM_mv ks) _ lm
    -- a lookup result at position 0 with `last = end()`: the third test has fired
    | false => exact absurd ⟨h1, rfl, rfl⟩ h3
  case case5 => exact absurd rfl h

theorem ite_ne {α : Type} {c : Prop} [Decidable c] {a b x : α} (ha : a ≠ x) (hb : ¬ c → b ≠ x) :
    (if c then a else b) ≠ x := by
  split
  · exact ha
  · exact hb ‹_›

/-- the documented legal ranges are accepted by the multimap: empty, single element, one whole key
(delimited by traversal iterators or by `equal_range`), whole container -/
theorem C06_eraseRange_legal_multimap (ks : List Nat) (first last : It) :
    (first.pos = last.pos → eraseRangeMM ks first last = .unchanged) ∧
    (first.pos ≠ last.pos → first.pos < ks.length → last.pos = (nextMM ks first).pos →
        eraseRangeMM ks first last = .one first.pos) ∧
    (first.pos < ks.length → isRunStart ks first.pos = true → last.pos = makeIterEnd ks first →
        eraseRangeMM ks first last ≠ .invalid) ∧
    (first.pos = 0 → last.pos = ks.length → eraseRangeMM ks first last ≠ .invalid) := by
  refine ⟨fun h => by rw [eraseRangeMM, if_pos h],
    fun h1 h2 h3 => by rw [eraseRangeMM, if_neg h1, if_pos ⟨Nat.ne_of_lt h2, h3.symm⟩], fun h1 h2 h3 => ?_, fun h1 h2 => ?_⟩
  · rw [eraseRangeMM]
    exact ite_ne nofun fun _ => ite_ne nofun fun _ => by rw [if_pos ⟨Nat.ne_of_lt h1, h2, h3⟩]; nofun
  · rw [eraseRangeMM]
    exact ite_ne nofun fun _ => ite_ne nofun fun _ => ite_ne nofun fun _ => by rw [if_pos ⟨h1, h2⟩]; nofun

/-- **C06 mm_eq_iff.** `a == b` iff the stored (key, value) pairs are equal as multisets — for all
tables with distinct keys, value-less keys included (they are ignored), any order of keys and of
values. -/
theorem C06_mm_eq_iff (a b : MM) (ha : (a.map (·.1)).Nodup) (hb : (b.map (·.1)).Nodup) :
    mmEq a b = true ↔ a.pairs.Perm b.pairs :=
  mmEq_iff_perm a b ha hb

/-- **C06 equality of unordered_set / unordered_map.** With distinct keys on both sides `a == b` iff the
stored elements are the same set — elements compared with their own `==`, not only by `key_eq`. -/
theorem C06_uset_eq_iff (a b : List (Nat × Nat)) (ha : (a.map (·.1)).Nodup) (hb : (b.map (·.1)).Nodup) :
    usetEq a b = true ↔ a.Perm b :=
  usetEq_iff_perm a b ha hb

/-- **C06 hint_closest (multiset, multimap; `insert(hint, …)`, `emplace_hint`; the node form takes the same position: `mapInsertNodeHint_multi`).**
For every sorted sequence, every hint position and every key: the item is inserted at the valid
position (`lower_bound … upper_bound`) closest to the hint — the standard's rule —, at the hint itself
when the hint is valid; the set and the map wrapper decide identically; no other valid position is
closer; the sequence stays sorted (equivalent keys keep their relative order: `insertAt` moves nothing). -/
theorem C06_hint_closest (xs : List Item) (hs : Sorted xs) (h : Nat) (hl : h ≤ xs.length) (x : Item) :
    setInsertHint true xs h x = (insertAt xs (clamp h (lb x.1 xs) (ub x.1 xs)) x, clamp h (lb x.1 xs) (ub x.1 xs), true)
    ∧ mapInsert true xs (some h) x = setInsertHint true xs h x
    ∧ lb x.1 xs ≤ clamp h (lb x.1 xs) (ub x.1 xs) ∧ clamp h (lb x.1 xs) (ub x.1 xs) ≤ ub x.1 xs
    ∧ (lb x.1 xs ≤ h → h ≤ ub x.1 xs → clamp h (lb x.1 xs) (ub x.1 xs) = h)
    ∧ (∀ p, lb x.1 xs ≤ p → p ≤ ub x.1 xs →
         (if h ≤ clamp h (lb x.1 xs) (ub x.1 xs) then clamp h (lb x.1 xs) (ub x.1 xs) - h else h - clamp h (lb x.1 xs) (ub x.1 xs))
           ≤ (if h ≤ p then p - h else h - p))
    ∧ Sorted (setInsertHint true xs h x).1 := by
  have hc := mapInsert_hint true xs h x ▸ mapInsert_multi xs hs h hl x
  have hlu := lb_le_ub x.1 xs
  exact ⟨hc, mapInsert_hint true xs h x, le_clamp .., clamp_le h hlu, clamp_of_mem, clamp_closest h hlu,
    hc ▸ insertAt_sorted xs hs x (le_clamp ..) (clamp_le h hlu)⟩

/-- un-hinted insertion into multiset / multimap: behind the last equivalent item (`upper_bound`),
which is where libstdc++'s `_M_insert_equal` puts it — the stable order of equivalent keys -/
theorem C06_insert_equal_stable (xs : List Item) (hs : Sorted xs) (x : Item) :
    treeInsert true xs x = (insertAt xs (ub x.1 xs) x, ub x.1 xs, true) ∧ Sorted (treeInsert true xs x).1 :=
  ⟨rfl, insertAt_sorted xs hs x (lb_le_ub x.1 xs) (Nat.le_refl _)⟩

/-- **C06 inserted flags (set, map: `insert`, `emplace`, `emplace_hint`, `try_emplace`, `insert(node)`,
each with no hint or ANY hint).** With distinct keys the outcome does not depend on the hint: if an
item with the key exists nothing changes, the flag is `false` and the position is that item's; else the
item goes to the only valid position, flag `true`; the sequence stays strictly sorted. -/
theorem C06_hint_unique (xs : List Item) (hs : StrictSorted xs) (hint : Option Nat)
    (hl : ∀ h, hint = some h → h ≤ xs.length) (x : Item) :
    mapInsert false xs hint x =
      (if lb x.1 xs < ub x.1 xs then (xs, lb x.1 xs, false) else (insertAt xs (lb x.1 xs) x, lb x.1 xs, true))
    ∧ (∀ h, hint = some h → setInsertHint false xs h x = mapInsert false xs hint x)
    ∧ treeInsert false xs x = mapInsert false xs none x
    ∧ (lb x.1 xs < ub x.1 xs ↔ ∃ e ∈ xs, e.1 = x.1)
    ∧ StrictSorted (mapInsert false xs hint x).1 := by
  refine ⟨mapInsert_unique xs hs hint hl x, fun h hh => hh ▸ (mapInsert_hint false xs h x).symm, rfl,
    present_iff xs hs.sorted x.1, ?_⟩
  rw [mapInsert_unique xs hs hint hl x]
  by_cases hp : lb x.1 xs < ub x.1 xs
  · rw [if_pos hp]; exact hs
  · rw [if_neg hp]; exact insertAt_strict xs hs x (Nat.le_of_not_lt hp) (Nat.le_refl _)

/-- **C06 bounds / equal_range.** The shortcut `set::equal_range` / `map::equal_range` take for unique keys
(`{it, next(it)}` instead of a second search) returns the pair (lower_bound, upper_bound) — the answer
of libstdc++ — for every strictly sorted sequence and key; the multi variants return the two bounds directly. -/
theorem C06_equal_range (xs : List Item) (hs : StrictSorted xs) (k : Nat) :
    ordEqualRange false xs k = (lb k xs, ub k xs) ∧ ordEqualRange true xs k = (lb k xs, ub k xs) :=
  ⟨ordEqualRange_unique xs hs k, by simp [ordEqualRange]⟩

/-- **C06 node-handle contents (set, map; `insert(node)`, `insert(hint, node)` with ANY hint).** With
distinct keys: if the key is present nothing changes, the position is the existing element's and the
handle still holds the element (libstdc++: "unchanged if the insertion fails"); else the element is
inserted at its sorted position and the handle is empty. The set and the map wrapper agree; an empty
handle yields `end()` and changes nothing. -/
theorem C06_node_handle (xs : List Item) (hs : StrictSorted xs) (h : Nat) (hl : h ≤ xs.length) (x : Item) :
    setInsertNodeHint false xs h (some x) =
      (if lb x.1 xs < ub x.1 xs then (xs, lb x.1 xs, some x) else (insertAt xs (lb x.1 xs) x, lb x.1 xs, none))
    ∧ mapInsertNodeHint false xs h (some x) = setInsertNodeHint false xs h (some x)
    ∧ insertNode false xs (some x) =
      (if lb x.1 xs < ub x.1 xs then (xs, lb x.1 xs, false, some x) else (insertAt xs (lb x.1 xs) x, lb x.1 xs, true, none))
    ∧ setInsertNodeHint false xs h none = (xs, xs.length, none)
    ∧ mapInsertNodeHint false xs h none = (xs, xs.length, none)
    ∧ insertNode false xs none = (xs, xs.length, false, none) :=
  ⟨setInsertNodeHint_eq false xs h (some x) ▸ mapInsertNodeHint_unique xs hs h hl x,
    (setInsertNodeHint_eq false xs h (some x)).symm, insertNode_unique xs hs x, rfl, rfl, rfl⟩

/-- **C06 `map::at`.** `std::out_of_range` is thrown iff no item has the key; `find` returns the item's
rank or `end()` -/
theorem C06_map_at (xs : List Item) (hs : Sorted xs) (k : Nat) :
    (mapAt xs k = none ↔ ¬ ∃ e ∈ xs, e.1 = k) ∧
    ordFind xs k = (if lb k xs < ub k xs then lb k xs else xs.length) :=
  ⟨mapAt_none_iff xs hs k, ordFind_bounds xs hs k⟩

/-- **C06 `map::insert_or_assign` (no hint or any hint).** Key absent: inserted at its sorted position,
flag `true`. Key present: flag `false`, the position of the existing item, and only its mapped value
changes. -/
theorem C06_map_insert_or_assign (xs : List Item) (hs : StrictSorted xs) (hint : Option Nat)
    (hl : ∀ h, hint = some h → h ≤ xs.length) (k v : Nat) :
    mapInsertOrAssign xs hint (k, v) =
      (if lb k xs < ub k xs then (xs.set (lb k xs) (k, v), lb k xs, false)
       else (insertAt xs (lb k xs) (k, v), lb k xs, true)) :=
  mapInsertOrAssign_unique xs hs hint hl (k, v)

/-- **C06 `unordered_map::try_emplace` / `emplace` / `insert`.** flag = key was absent; a present key
keeps its value; every other key keeps its lookup result -/
theorem C06_umap_try_emplace (m : List Item) (k v : Nat) :
    ((umapTryEmplace m k v).2 = true ↔ m.lookup k = none) ∧
    (umapTryEmplace m k v).1.lookup k = some ((m.lookup k).getD v) ∧
    (∀ k', k' ≠ k → (umapTryEmplace m k v).1.lookup k' = m.lookup k') := by
  unfold umapTryEmplace
  cases h : m.lookup k with
  | some w => simp [h]
  | none =>
    refine ⟨by simp, ?_, ?_⟩
    · simp [lookup_append_single, h]
    · intro k' hk
      simp only [lookup_append_single, hk, if_false]
      cases m.lookup k' <;> rfl

/-- **C06 `unordered_map::insert_or_assign`, `at`.** flag = key was absent; afterwards the key maps to
the new value; every other key keeps its lookup result; `at` throws iff the key is absent -/
theorem C06_umap_insert_or_assign (m : List Item) (k v : Nat) :
    ((umapInsertOrAssign m k v).2 = true ↔ m.lookup k = none) ∧
    umapAt (umapInsertOrAssign m k v).1 k = some v ∧
    (∀ k', k' ≠ k → umapAt (umapInsertOrAssign m k v).1 k' = umapAt m k') ∧
    (umapAt m k = none ↔ k ∉ m.map (·.1)) := by
  unfold umapInsertOrAssign umapTryEmplace umapAt
  refine ⟨?_, ?_, ?_, ?_⟩
  · cases h : m.lookup k <;> simp
  · cases h : m.lookup k with
    | some w => simp [lookup_assign, h]
    | none => simp [lookup_append_single, h]
  · intro k' hk
    cases h : m.lookup k with
    | some w => simp [lookup_assign, hk]
    | none =>
      simp only [if_true, lookup_append_single, hk, if_false]
      cases m.lookup k' <;> rfl
  · exact ListFacts.lookup_eq_none_iff_keys m k

/-! ## Non-vacuity: concrete states meeting the hypotheses, and the witnesses of the repaired defects -/

-- set {a,b,c,d,e}: erase(find(first element), end()) removes one element (F5: the pre-repair order of tests cleared all)
example : eraseRangeU 5 ⟨0, false⟩ ⟨5, false⟩ = .one 0 := by decide +kernel
example : reachU 5 6 ⟨0, false⟩ ⟨5, false⟩ = some [0] := by decide +kernel
example : eraseRangeU 5 ⟨0, true⟩ ⟨5, true⟩ = .all ∧ reachU 5 6 ⟨0, true⟩ ⟨5, true⟩ = some [0,1,2,3,4] := by decide +kernel
example : eraseRangeU 5 ⟨1, true⟩ ⟨3, true⟩ = .invalid := by decide +kernel
-- multimap with keys 7,7,7,2,9,9: whole key through equal_range (lookup result … end()) and through traversal
example : Grouped [7,7,7,2,9,9] := grouped_of_groupedB _ (by decide +kernel)
example : eraseRangeMM [7,7,7,2,9,9] ⟨0, false⟩ ⟨6, false⟩ = .key 0 ∧
          erasedMM [7,7,7,2,9,9] (.key 0) = [0,1,2] ∧
          reachMM [7,7,7,2,9,9] 7 ⟨0, false⟩ ⟨6, false⟩ = some [0,1,2] := by decide +kernel
example : eraseRangeMM [7,7,7,2,9,9] ⟨4, true⟩ ⟨6, true⟩ = .key 4 := by decide +kernel
-- a range that starts inside a key group is refused …
example : eraseRangeMM [7,7,7,2,9,9] ⟨1, true⟩ ⟨3, true⟩ = .invalid := by decide +kernel
-- … whereas the code before the repair removed the whole key, i.e. position 0 outside [first,last)
example : eraseRangeMM_old [7,7,7,2,9,9] ⟨1, true⟩ ⟨3, true⟩ = .key 1 ∧
          erasedMM [7,7,7,2,9,9] (.key 1) = [0,1,2] ∧
          reachMM [7,7,7,2,9,9] 7 ⟨1, true⟩ ⟨3, true⟩ = some [1,2] := by decide +kernel
-- F4: a value-less key (1 ↦ []) does not disturb equality
example : mmEq [(1, []), (2, [20, 21])] [(2, [21, 20])] = true := by decide +kernel
example : mmEq [(2, [20, 21])] [(2, [21, 22])] = false := by decide +kernel
-- F24: {(1,10)} vs {(1,11)} with key_eq on the first component: unequal; "equal" for the code before the repair (`usetEq_old`)
example : usetEq [(1,10)] [(1,11)] = false ∧ usetEq_old [(1,10)] [(1,11)] = true := by decide +kernel
example : usetEq [(1,10),(2,20)] [(2,20),(1,10)] = true := by decide +kernel
-- F25: a refused hinted node insertion keeps the element in the handle
example : setInsertNodeHint false [(1,0),(2,0),(3,0)] 0 (some (2,9)) = ([(1,0),(2,0),(3,0)], 1, some (2,9)) := by decide +kernel
-- hints on a multiset 1 3 3 5: valid hint, hint too far right, hint too far left
example : (setInsertHint true [(1,0),(3,1),(3,2),(5,3)] 2 (3,9)).2.1 = 2 := by decide +kernel
example : (setInsertHint true [(1,0),(3,1),(3,2),(5,3)] 4 (3,9)).2.1 = 3 := by decide +kernel
example : (setInsertHint true [(1,0),(3,1),(3,2),(5,3)] 0 (3,9)).2.1 = 1 := by decide +kernel
example : Sorted [(1,0),(3,1),(3,2),(5,3)] := by unfold Sorted; decide +kernel
example : StrictSorted [(1,10),(3,30),(5,50)] := by unfold StrictSorted; decide +kernel
example : mapInsertOrAssign [(1,10),(3,30),(5,50)] (some 0) (3,31) = ([(1,10),(3,31),(5,50)], 1, false) := by decide +kernel
example : mapAt [(1,10),(3,30),(5,50)] 4 = none ∧ mapAt [(1,10),(3,30),(5,50)] 5 = some 50 := by decide +kernel

end Momo.StdWrap


/-! # Whole call histories: the wrapper model refines the specification of the std containers

The theorems below close, INSIDE the model, the gap `C06_full` names: for every legal call history the wrapper model (`Momo/Model/StdWrapOps.lean`: every
operation of the momo::stdish wrappers as written in the headers, over the abstract states of the native containers, whose contracts are C01 / C02 / C05 / C08)
and the specification (`Momo/Model/StdSpec.lean`: the eight std containers as the C++ standard describes them) produce the same list of observations (inserted
flags, positions, counts, bounds, erase results, node-handle contents, `out_of_range`, the six comparison results, full
traversals) — hence also the same contents, since `contents` is a call.

What stays differential (T2, not a theorem): "libstdc++ implements `StdSpec`" — checked on every run by
`harness/c06_hist.cpp`, which replays the calls made on libstdc++ on the specification (suites `hist_*_spec`), and
"momo::stdish is what `StdWrapOps` says" — suites `hist_*_wrap`. PARTIAL, because these parts of the shared interface are
not calls of the model: allocator propagation and unequal allocators (the histories run with equal allocators), the bucket
interface proper (`bucket`, `bucket_size`, `bucket_count`, local iterators, `load_factor` values), `capacity` values,
`max_size`, `key_comp` / `hash_function`, heterogeneous lookup, self-assignment / self-merge, and C++20 ranges / three-way
comparison (property level only: `harness/c06_api.cpp`). These, on the other hand, ARE calls of the model: construction from a
range / an initializer list, `rbegin … rend`, `reserve` / `rehash` / `max_load_factor(z)` (unordered; the wrapper REBUILDS the
table for a new load factor, `rebuild_eq`), `reserve` / `shrink_to_fit` (vector). One abstract call stands for all its C++
spellings (lvalue / rvalue / convertible-pair `insert`, `emplace` with arguments / a pair / `std::piecewise_construct`,
`const key_type&` / `key_type&&`, `erase(iterator)` / `erase(const_iterator)`, const / non-const lookups). Unordered range erase is covered for the documented shapes only (the others are a
documented deviation, outside the property). -/
namespace Momo.StdW
open Momo.StdSpec

/-- **C06 history, ordered containers (`set`, `multiset`, `map`, `multimap`: `kd.multi`, `kd.isMap`).** For every list of
calls from the shared interface — insert / emplace (value, hint, range, initializer list, node handle, hinted node handle),
`try_emplace`, `insert_or_assign`, `operator[]`, `at`, erase (key, iterator, iterator range, `erase_if`), extract (key,
iterator), merge, find, count, contains, lower_bound, upper_bound, equal_range, clear, size, empty, swap, copy / move
assignment and construction, construction from a range / an initializer list, assignment from an initializer list,
`== != < <= > >=`, traversal forwards and backwards (`rbegin … rend`) — that is legal (`ordLegal`:
every iterator argument denotes a position of the current sequence, erased / extracted positions are dereferenceable,
`first` is not behind `last`, the `map`-only members are called on `map` only): the wrapper model and the specification
give the same observations, call by call. -/
theorem C06_history_ordered (kd : Kind) (calls : List OCall) (hl : ordLegal kd calls = true) :
    ordRunWrap kd calls = ordRunSpec kd calls :=
  runWrapO_eq kd calls {} (invO_init kd) hl

/-- one call of an ordered container, from any pair of sorted containers: same new state, same observation, order kept.
    Only this family has its step among the property theorems: here the step is an equation between the two models' states, usable
    on its own; for the unordered families it holds up to a relation that only the history theorems need (`wrapU_refines`, `wrapM_refines`). -/
theorem C06_step_ordered (kd : Kind) (s : St) (hi : InvO kd s) (c : OCall) (hl : c.legal kd s = true) :
    wrapO kd s c = c.spec kd s ∧ InvO kd (c.spec kd s).1 :=
  wrapO_refines kd s hi c hl

/-- **C06 history, `vector`.** push_back / emplace_back, pop_back, insert (value, n copies, range / initializer list),
emplace, erase (iterator, range, by value), resize (both), assign (n copies, range / list), `at` (with `std::out_of_range`),
`operator[]`, front, back, clear, size, empty, swap, copy / move, construction `vector(n[, value])` / from a range / a list,
`reserve`, `shrink_to_fit`, the six comparisons, traversal forwards and backwards: every legal history
gives the same observations on the wrapper model and on the specification. -/
theorem C06_history_vector (calls : List VCall) (hl : vecLegal calls = true) : vecRunWrap calls = vecRunSpec calls :=
  runWrapV_eq calls {} hl

/-- **C06 history, `unordered_set` / `unordered_map`.** For EVERY way the native hash table may order its elements —
an oracle `ρ` re-arranges both tables after every call — and every legal history (iterator arguments denote present
elements; range erase limited to the documented empty / single-element / whole-container ranges, with `first` obtained by
traversal or as a lookup result): same observations as the specification, whose observations do not depend on any order
(lookups report the element, traversals are canonicalised, `==` is equality of the element multisets). Includes
construction from a range / an initializer list, `reserve`, `rehash` and `max_load_factor(z)` (which re-inserts every element
into a new table). -/
theorem C06_history_unordered_unique (isMap : Bool) (ρ : Nat → List (Nat × Nat) → List (Nat × Nat))
    (hρ : Rearranges ρ) (calls : List UCall) (hl : unoLegal isMap calls = true) :
    unoRunWrap ρ calls = unoRunSpec calls :=
  runWrapU_eq ρ hρ isMap calls 0 {} {} relU_init hl

/-- **C06 history, `unordered_multimap`.** The native table key -> value array (distinct keys; a key may stay without
values after `erase_if`; the key order re-arranged by an oracle after every call) against the multiset of pairs: insert /
emplace (plain, hinted, range, list), find, count, contains, equal_range (traversed), erase by key / iterator / `erase_if`,
`erase(first, last)` for the documented ranges — empty, one element (by traversal or through a lookup result), one whole
key (by traversal iterators or by `equal_range`), the whole container —, clear, size, empty, swap, copy / move, `==` / `!=`,
traversal: every legal history gives the same observations; in particular value-less keys are never observable. -/
theorem C06_history_unordered_multimap (ρ : Nat → Momo.StdWrap.MM → Momo.StdWrap.MM) (hρ : RearrangesM ρ)
    (calls : List MCall) (hl : mmLegal calls = true) : mmRunWrap ρ calls = mmRunSpec calls :=
  runWrapM_eq ρ hρ calls 0 {} {} relM_init hl

/-- **The native contract used for TreeSet / TreeMap is C02's reference semantics.** What the wrapper model assumes of the
native tree — lower / upper bound and the stable insertion `treeInsert` on the in-order list — is `Momo.BTree.lowerIdx`,
`upperIdx` and `Spec.insert1` for the order "compare the keys" (which satisfies `Order`), i.e. exactly what
`C02_bounds` / `C02_insert_stable` / `C02_history` prove the real B-tree model refines; the order invariant of the history
theorem is C02's `SortedBy`. -/
theorem C06_native_contract_is_C02_reference (multi : Bool) (xs : List (Nat × Nat)) (hs : SortedK multi xs) (x : Nat × Nat) :
    Momo.BTree.Order keyLt ∧ Momo.BTree.SortedBy keyLt multi xs ∧
    Momo.StdWrap.lb x.1 xs = Momo.BTree.lowerIdx keyLt xs x ∧ Momo.StdWrap.ub x.1 xs = Momo.BTree.upperIdx keyLt xs x ∧
    (Momo.StdWrap.treeInsert multi xs x).1 = Momo.BTree.Spec.insert1 keyLt multi xs x :=
  ⟨keyLt_order, (sortedK_iff_sortedBy multi xs).mp hs, lb_eq_lowerIdx xs x, ub_eq_upperIdx xs x,
   treeInsert_eq_insert1 multi xs hs x⟩

/-- **`C06_full`, instantiated with the specification as the semantics of the std containers**, for all eight container
kinds. -/
theorem C06_history_vs_spec :
    (∀ kd : Kind, Momo.StdWrap.C06_full OCall Obs (ordRunWrap kd) (ordRunSpec kd) (fun cs => ordLegal kd cs = true)) ∧
    Momo.StdWrap.C06_full VCall Obs vecRunWrap vecRunSpec (fun cs => vecLegal cs = true) ∧
    (∀ (isMap : Bool) (ρ : Nat → List (Nat × Nat) → List (Nat × Nat)), Rearranges ρ →
      Momo.StdWrap.C06_full UCall Obs (unoRunWrap ρ) unoRunSpec (fun cs => unoLegal isMap cs = true)) ∧
    (∀ (ρ : Nat → Momo.StdWrap.MM → Momo.StdWrap.MM), RearrangesM ρ →
      Momo.StdWrap.C06_full MCall Obs (mmRunWrap ρ) mmRunSpec (fun cs => mmLegal cs = true)) :=
  ⟨fun kd cs h => C06_history_ordered kd cs h, fun cs h => C06_history_vector cs h,
   fun isMap ρ hρ cs h => C06_history_unordered_unique isMap ρ hρ cs h,
   fun ρ hρ cs h => C06_history_unordered_multimap ρ hρ cs h⟩

/-! ## Non-vacuity: long legal histories -/

/-- multiset: duplicates, hints left of / inside / right of the equal range, range insert, node handles (plain and hinted,
into the other container), range erase (proper, empty), merge, comparisons, swap, erase by key, copy, move, `erase_if` -/
def exHistMultiset : List OCall := [
  .insert .a (3, 1), .insert .a (3, 2), .emplace .a (1, 3), .insertHint .a 0 (3, 4), .insertHint .a 4 (3, 5),
  .emplaceHint .a 2 (3, 6), .insertHint .a 0 (9, 7), .insertRange .b [(3, 8), (2, 9), (3, 10)], .contents .a,
  .equalRange .a 3, .count .a 3, .find .a 3, .lowerBound .a 2, .upperBound .a 3,
  .extractAt .a 2, .insertNodeHint .b 0, .extractKey .a 3, .insertNode .b, .insertNode .b,
  .eraseRange .a 1 3, .eraseRange .a 2 2, .contents .a, .contents .b, .merge .a, .compare, .swap, .eraseKey .b 3,
  .eraseAt .b 0, .assignCopy .b, .compare, .assignMove .a, .eraseIf .a 2 1, .contents .a, .contents .b, .size .a, .empty .b,
  -- reverse traversal, construction from a range / an initializer list
  .rcontents .a, .constructRange .b [(3, 1), (1, 2), (3, 3)], .constructList .a [(2, 5), (2, 6)], .rcontents .b, .contents .a]

theorem exHistMultiset_legal : ordLegal ⟨true, false⟩ exHistMultiset = true := by decide +kernel
example : ordLegal ⟨true, false⟩ exHistMultiset = true := exHistMultiset_legal
-- the sequence after the hinted insertions: 3:4 went to the lower bound, 3:6 to the hint inside the range, 3:5 to its end
example : (ordRunSpec ⟨true, false⟩ exHistMultiset)[8]? = some (.items [(1, 3), (3, 4), (3, 6), (3, 1), (3, 2), (3, 5), (9, 7)]) := by
  decide +kernel
example : ordRunWrap ⟨true, false⟩ exHistMultiset = ordRunSpec ⟨true, false⟩ exHistMultiset :=
  C06_history_ordered _ _ exHistMultiset_legal

/-- map: refused insertions with and without hints, `try_emplace`, `insert_or_assign`, `operator[]`, `at` on a missing key,
a refused node that stays in the handle, a refused hinted node, range erase, merge leaving the duplicates behind -/
def exHistMap : List OCall := [
  .insert .a (5, 50), .insert .a (5, 51), .insertHint .a 0 (2, 20), .insertHint .a 2 (2, 21), .tryEmplace .a none (7, 70),
  .tryEmplace .a (some 0) (7, 71), .insertOrAssign .a none (5, 55), .insertOrAssign .a (some 3) (9, 90), .index .a 4,
  .indexAssign .a 4 44, .at .a 4, .at .a 6, .insertList .b [(5, 1), (6, 2), (5, 3)], .extractKey .b 5, .insertNode .a,
  .insertNodeHint .a 0, .dropNode, .extractAt .b 0, .insertNodeHint .a 5, .contents .a, .eraseRange .a 1 3, .merge .b,
  .contents .a, .contents .b, .compare, .equalRange .b 9, .count .b 8, .contains .b 9, .constructMove .a, .compare]

theorem exHistMap_legal : ordLegal ⟨false, true⟩ exHistMap = true := by decide +kernel
example : ordLegal ⟨false, true⟩ exHistMap = true := exHistMap_legal
example : ordRunWrap ⟨false, true⟩ exHistMap = ordRunSpec ⟨false, true⟩ exHistMap :=
  C06_history_ordered _ _ exHistMap_legal
-- the refused node handle keeps its element (plain and hinted), `at(6)` throws
example : (ordRunSpec ⟨false, true⟩ exHistMap)[14]? = some (.posNode 2 false (some (5, 1))) ∧
          (ordRunSpec ⟨false, true⟩ exHistMap)[15]? = some (.posNode 2 false (some (5, 1))) ∧
          (ordRunSpec ⟨false, true⟩ exHistMap)[11]? = some .outOfRange := by decide +kernel

def exHistVector : List VCall := [
  .pushBack .a 1, .pushBack .a 2, .insert .a 1 9, .insertN .a 0 2 7, .insertN .a 3 0 5, .insertRange .a 5 [4, 4],
  .eraseRange .a 2 2, .eraseAt .a 0, .at .a 6, .at .a 5, .resize .a 8, .resizeVal .b 2 3, .compare, .swap, .popBack .b,
  .eraseVal .b 4, .assignN .a 3 1, .front .b, .back .b, .assignMove .a, .contents .a, .contents .b,
  .rcontents .a, .constructN .b 3 4, .constructRange .a [5, 6], .reserve .a 10, .shrinkToFit .a, .rcontents .a, .contents .b]

theorem exHistVector_legal : vecLegal exHistVector = true := by decide +kernel
example : vecLegal exHistVector = true := exHistVector_legal
example : vecRunWrap exHistVector = vecRunSpec exHistVector := C06_history_vector _ exHistVector_legal

/-- unordered_map: refused insertions, `insert_or_assign`, `operator[]`, erase through a lookup iterator, the three legal
range shapes (single element through a lookup result and by traversal, whole container), node handles, merge, `==` -/
def exHistUmap : List UCall := [
  .insert .a (5, 50), .insert .a (5, 51), .emplaceHint .a (2, 20), .tryEmplace .a true (2, 21), .insertOrAssign .a false (5, 55),
  .index .a 4, .indexAssign .a 4 44, .at .a 6, .insertList .b [(5, 1), (6, 2), (5, 3)], .extractKey .b 5, .insertNode .a,
  .insertNodeHint .a, .eraseRange .a (.single 2 false), .eraseRange .b (.single 6 true), .eraseRange .b .empty,
  .insert .b (4, 44), .insert .b (5, 55), .compare, .eraseElem .a 4, .merge .a, .contents .a, .contents .b,
  .eraseRange .a .whole, .compare, .size .a,
  -- the table is rebuilt by max_load_factor(z), re-bucketed by rehash / reserve; construction from a range / a list
  .insert .a (1, 1), .insert .a (2, 2), .maxLoadFactor .a, .rehash .a 50, .reserve .b 9, .contents .a,
  .constructRange .b [(1, 5), (1, 6), (2, 7)], .constructList .a [(3, 3)], .contents .a, .contents .b]

theorem exHistUmap_legal : unoLegal true exHistUmap = true := by decide +kernel
example : unoLegal true exHistUmap = true := exHistUmap_legal
example : unoRunWrap (fun _ xs => xs.reverse) exHistUmap = unoRunSpec exHistUmap :=
  C06_history_unordered_unique true _ (fun _ xs => List.reverse_perm xs) _ exHistUmap_legal

/-- unordered_multimap: equal keys, `erase_if` leaving a value-less key, `==` afterwards, the four range shapes (single
through a lookup result, whole key by `equal_range` and by traversal, whole container), erase through an iterator -/
def exHistUmmap : List MCall := [
  .insert .a (1, 10), .insert .a (1, 11), .emplaceHint .a (2, 20), .insert .a (1, 12), .insertList .b [(2, 20), (1, 12), (1, 10)],
  .count .a 1, .equalRange .a 1, .eraseRange .a (.single (1, 11) false), .compare, .eraseIf .a 2 0, .contents .a,
  .eraseKey .b 2, .compare, .find .a 2, .insert .a (3, 30), .insert .a (3, 31), .eraseRange .a (.wholeKey 3 false),
  .eraseRange .a (.wholeKey 1 true), .size .a, .empty .a, .assignCopy .a, .eraseElem .a (1, 10), .eraseRange .a .empty,
  .contents .a, .eraseRange .a .whole, .size .a,
  .constructRange .a [(1, 1), (1, 2), (2, 1)], .constructList .b [(2, 2)], .contents .a, .compare]

theorem exHistUmmap_legal : mmLegal exHistUmmap = true := by decide +kernel
example : mmLegal exHistUmmap = true := exHistUmmap_legal
example : mmRunWrap (fun _ m => m.reverse) exHistUmmap = mmRunSpec exHistUmmap :=
  C06_history_unordered_multimap _ (fun _ m => List.reverse_perm m) _ exHistUmmap_legal
-- after `erase_if(a, key even)` the key 2 has no values in the wrapper's table, yet `a == b` holds once b dropped the key
example : (mmRunSpec exHistUmmap)[12]? = some (.eqne true false) := by decide +kernel

end Momo.StdW
