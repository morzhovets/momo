import Momo.Model.HTLedger
import Momo.Proof.Ledger
import Mathlib.Data.List.Perm.Basic
import Mathlib.Data.List.Nodup
/-!
  C03 / C04 for the hash family: the algebra of the ledger.

  `Led w B E`: the monitor `Ledger.run` has accepted every event the world `w` has emitted and holds exactly the blocks `B` (id, manager
  class, size) and the element objects `E`; all ids are below the world's serial numbers (so the next ids are fresh) and occur once.
  Each primitive of the model transforms `Led` in the obvious way (`Led.alloc`, …; `Led.perm` reorders).
  The frame: later files state every operation as "`Led w (books ++ FB) (elems ++ FE)` before, the same with the resulting books after";
  `FB` / `FE` is whatever else the monitor holds (the other container, the node handle, for the multimap the value side).
  `Holds` here is `Momo.HTL.Holds`, not the pool's `Momo.Ledger.Holds` (LedgerPool).
-/
namespace Momo.HTL
open Momo Momo.HT Momo.Ledger

abbrev Blk := Nat × Nat × Nat

def Holds (s : Ledger.St Nat) (B : List Blk) (E : List Nat) : Prop :=
  (∀ b m n, findB b s.blocks = some (m, n) ↔ (b, m, n) ∈ B) ∧ (∀ e, memE e s.elems = true ↔ e ∈ E)

structure Led (w : W) (B : List Blk) (E : List Nat) : Prop where
  acc : ∃ s, Ledger.run Ledger.St.init w.evs = some s ∧ Holds s B E
  freshB : ∀ x ∈ B, x.1 < w.nextB
  freshE : ∀ e ∈ E, e < w.nextE
  ndB : (B.map (·.1)).Nodup
  ndE : E.Nodup

theorem Holds.perm {s : Ledger.St Nat} {B B' : List Blk} {E E' : List Nat} (h : Holds s B E) (hB : B.Perm B')
    (hE : E.Perm E') : Holds s B' E' :=
  ⟨fun b m n => (h.1 b m n).trans hB.mem_iff, fun e => (h.2 e).trans hE.mem_iff⟩

theorem Led.perm {w : W} {B B' : List Blk} {E E' : List Nat} (h : Led w B E) (hB : B.Perm B') (hE : E.Perm E') :
    Led w B' E' := by
  obtain ⟨s, hr, hh⟩ := h.acc
  exact ⟨⟨s, hr, hh.perm hB hE⟩, fun x hx => h.freshB x (hB.mem_iff.mpr hx), fun e he => h.freshE e (hE.mem_iff.mpr he),
    ((hB.map _).nodup_iff).mp h.ndB, (hE.nodup_iff).mp h.ndE⟩

theorem Led.permB {w : W} {B B' : List Blk} {E : List Nat} (h : Led w B E) (hB : B.Perm B') : Led w B' E :=
  h.perm hB (List.Perm.refl _)

theorem Led.permE {w : W} {B : List Blk} {E E' : List Nat} (h : Led w B E) (hE : E.Perm E') : Led w B E' :=
  h.perm (List.Perm.refl _) hE

theorem Led.swapB {w : W} {B1 B2 : List Blk} {E : List Nat} (h : Led w (B1 ++ B2) E) : Led w (B2 ++ B1) E :=
  h.permB List.perm_append_comm

theorem Led.swap {w : W} {B1 B2 : List Blk} {E1 E2 : List Nat} (h : Led w (B1 ++ B2) (E1 ++ E2)) :
    Led w (B2 ++ B1) (E2 ++ E1) :=
  h.perm List.perm_append_comm List.perm_append_comm

theorem Led.init : Led ({} : W) [] [] :=
  ⟨⟨Ledger.St.init, rfl, by constructor <;> intros <;> simp [Ledger.St.init, findB, memE]⟩,
    by simp, by simp, by simp, by simp⟩

theorem findB_fresh {s : Ledger.St Nat} {B : List Blk} {E : List Nat} (h : Holds s B E) {b : Nat}
    (hb : ∀ x ∈ B, x.1 ≠ b) : findB b s.blocks = none := by
  cases hf : findB b s.blocks with
  | none => rfl
  | some p =>
    obtain ⟨m, n⟩ := p
    exact absurd rfl (hb _ ((h.1 b m n).mp hf))

theorem memE_fresh {s : Ledger.St Nat} {B : List Blk} {E : List Nat} (h : Holds s B E) {e : Nat} (he : e ∉ E) :
    memE e s.elems = false := by
  cases hm : memE e s.elems with
  | false => rfl
  | true => exact absurd ((h.2 e).mp hm) he

theorem Holds.alloc {s : Ledger.St Nat} {B : List Blk} {E : List Nat} (h : Holds s B E) (b m n : Nat)
    (hb : ∀ x ∈ B, x.1 ≠ b) :
    StepOK s (.alloc m b n) ∧ Holds (next s (.alloc m b n)) ((b, m, n) :: B) E := by
  refine ⟨findB_fresh h hb, fun b' m' n' => ?_, h.2⟩
  rw [findB_next, List.mem_cons, ← h.1]
  by_cases hbb : b = b'
  · subst hbb; simp [findB_fresh h hb, eq_comm]
  · simp [hbb, Ne.symm hbb]

theorem Holds.free {s : Ledger.St Nat} {B : List Blk} {E : List Nat} {b m n : Nat} (h : Holds s ((b, m, n) :: B) E)
    (hnd : (((b, m, n) :: B).map (·.1)).Nodup) :
    StepOK s (.dealloc m b n) ∧ Holds (next s (.dealloc m b n)) B E := by
  refine ⟨(h.1 b m n).mpr (List.mem_cons_self ..), fun b' m' n' => ?_, h.2⟩
  have hnb : ∀ m' n', (b, m', n') ∉ B := fun m' n' hm => (List.nodup_cons.mp hnd).1 (List.mem_map.mpr ⟨_, hm, rfl⟩)
  rw [findB_next]
  by_cases hbb : b = b'
  · subst hbb; simp [hnb]
  · simp [hbb, Ne.symm hbb, h.1]

theorem Holds.ctor {s : Ledger.St Nat} {B : List Blk} {E : List Nat} (h : Holds s B E) (e : Nat) (he : e ∉ E) :
    StepOK s (.construct e) ∧ Holds (next s (.construct e)) B (e :: E) := by
  refine ⟨memE_fresh h he, h.1, fun e' => ?_⟩
  rw [memE_next, List.mem_cons, ← h.2]
  by_cases hee : e = e'
  · subst hee; simp
  · simp [hee, Ne.symm hee]

theorem Holds.dtor {s : Ledger.St Nat} {B : List Blk} {E : List Nat} {e : Nat} (h : Holds s B (e :: E))
    (hnd : (e :: E).Nodup) :
    StepOK s (.destroy e) ∧ Holds (next s (.destroy e)) B E := by
  refine ⟨(h.2 e).mpr (List.mem_cons_self ..), h.1, fun e' => ?_⟩
  rw [memE_next]
  by_cases hee : e = e'
  · subst hee; simp [(List.nodup_cons.mp hnd).1]
  · simp [hee, Ne.symm hee, h.2]

theorem Holds.reloc {s : Ledger.St Nat} {B : List Blk} {E : List Nat} {a : Nat} (h : Holds s B (a :: E)) (d : Nat)
    (hnd : (a :: E).Nodup) (hd : d ∉ a :: E) :
    StepOK s (.relocate a d) ∧ Holds (next s (.relocate a d)) B (d :: E) := by
  have hne : a ≠ d := fun hc => hd (hc ▸ List.mem_cons_self ..)
  refine ⟨⟨hne, (h.2 a).mpr (List.mem_cons_self ..), memE_fresh h hd⟩, h.1, fun e' => ?_⟩
  rw [memE_next, List.mem_cons]
  by_cases hde : d = e'
  · subst hde; simp
  · by_cases hae : a = e'
    · subst hae; simp [hde, hne, (List.nodup_cons.mp hnd).1]
    · simp [hde, Ne.symm hde, hae, Ne.symm hae, h.2]

/-! `Led.alloc`, `Led.ctor`, `Led.copy`, `Led.reloc` name the new id by the term the model's functions contain (`(w.allocB m n).1`, not
  `w.nextB`), so that a caller applies them to its goal as they are. -/

theorem Led.alloc {w : W} {B : List Blk} {E : List Nat} (h : Led w B E) (m n : Nat) :
    Led (w.allocB m n).2 (((w.allocB m n).1, m, n) :: B) E := by
  obtain ⟨s, hr, hh⟩ := h.acc
  have hb : ∀ x ∈ B, x.1 ≠ w.nextB := fun x hx => Nat.ne_of_lt (h.freshB x hx)
  obtain ⟨hs, hh1⟩ := hh.alloc w.nextB m n hb
  refine ⟨⟨_, run_snoc.mpr ⟨s, hr, hs, rfl⟩, hh1⟩, ?_, h.freshE, ?_, h.ndE⟩
  · intro x hx
    simp only [W.allocB]
    rcases List.mem_cons.mp hx with rfl | hx
    · exact Nat.lt_succ_self _
    · exact Nat.lt_succ_of_lt (h.freshB x hx)
  · simp only [List.map_cons, List.nodup_cons, List.mem_map, not_exists, not_and]
    exact ⟨fun x hx hc => hb x hx hc, h.ndB⟩

theorem Led.free {w : W} {B : List Blk} {E : List Nat} {b m n : Nat} (h : Led w ((b, m, n) :: B) E) :
    Led (w.freeB m b n) B E := by
  obtain ⟨s, hr, hh⟩ := h.acc
  obtain ⟨hs, hh1⟩ := hh.free h.ndB
  exact ⟨⟨_, run_snoc.mpr ⟨s, hr, hs, rfl⟩, hh1⟩, fun x hx => h.freshB x (List.mem_cons_of_mem _ hx), h.freshE,
    (List.nodup_cons.mp h.ndB).2, h.ndE⟩

/-- a block obtained and given back at once (roll-back of a half-done creation) -/
theorem Led.alloc_free {w : W} {B : List Blk} {E : List Nat} (h : Led w B E) (m n : Nat) :
    Led ((w.allocB m n).2.freeB m (w.allocB m n).1 n) B E :=
  (h.alloc m n).free

theorem Led.ctor {w : W} {B : List Blk} {E : List Nat} (h : Led w B E) : Led w.ctorE.2 B (w.ctorE.1 :: E) := by
  obtain ⟨s, hr, hh⟩ := h.acc
  have he : w.nextE ∉ E := fun hc => Nat.lt_irrefl _ (h.freshE _ hc)
  obtain ⟨hs, hh1⟩ := hh.ctor w.nextE he
  refine ⟨⟨_, run_snoc.mpr ⟨s, hr, hs, rfl⟩, hh1⟩, h.freshB, ?_, h.ndB, List.nodup_cons.mpr ⟨he, h.ndE⟩⟩
  intro e hx
  simp only [W.ctorE]
  rcases List.mem_cons.mp hx with rfl | hx
  · exact Nat.lt_succ_self _
  · exact Nat.lt_succ_of_lt (h.freshE e hx)

theorem Led.dtor {w : W} {B : List Blk} {E : List Nat} {e : Nat} (h : Led w B (e :: E)) : Led (w.dtorE e) B E := by
  obtain ⟨s, hr, hh⟩ := h.acc
  obtain ⟨hs, hh1⟩ := hh.dtor h.ndE
  exact ⟨⟨_, run_snoc.mpr ⟨s, hr, hs, rfl⟩, hh1⟩, h.freshB, fun x hx => h.freshE x (List.mem_cons_of_mem _ hx), h.ndB,
    (List.nodup_cons.mp h.ndE).2⟩

theorem Led.use {w : W} {B : List Blk} {E : List Nat} {e : Nat} (h : Led w B E) (he : e ∈ E) : Led (w.useE e) B E := by
  obtain ⟨s, hr, hh⟩ := h.acc
  exact ⟨⟨s, run_snoc.mpr ⟨s, hr, (hh.2 e).mpr he, rfl⟩, hh⟩, h.freshB, h.freshE, h.ndB, h.ndE⟩

theorem Led.copy {w : W} {B : List Blk} {E : List Nat} {src : Nat} (h : Led w B E) (hs : src ∈ E) :
    Led (w.copyE src).2 B ((w.copyE src).1 :: E) := by
  rw [show (w.copyE src).2 = (w.useE src).ctorE.2 by simp [W.copyE, W.useE, W.ctorE]]
  exact (h.use hs).ctor

theorem Led.reloc {w : W} {B : List Blk} {E : List Nat} {e : Nat} (c : Obj.Cat) (h : Led w B (e :: E)) :
    Led (w.relocE c e).2 B ((w.relocE c e).1 :: E) := by
  have hfr : w.nextE ∉ e :: E := fun hc => Nat.lt_irrefl _ (h.freshE _ hc)
  have hfrE : w.nextE ∉ E := fun hc => hfr (List.mem_cons_of_mem _ hc)
  have hfresh' : ∀ x ∈ w.nextE :: E, x < w.nextE + 1 := by
    intro x hx
    rcases List.mem_cons.mp hx with rfl | hx
    · exact Nat.lt_succ_self _
    · exact Nat.lt_succ_of_lt (h.freshE x (List.mem_cons_of_mem _ hx))
  -- the other categories: copy / move construction, then the destructor of the source
  have hmove := ((h.copy (List.mem_cons_self ..)).permE (List.Perm.swap _ _ _)).dtor
  rw [show (w.copyE e).2.dtorE e =
    { w with nextE := w.nextE + 1, evs := w.evs ++ [.use e, .construct w.nextE, .destroy e] } by simp [W.copyE, W.dtorE]] at hmove
  cases c with
  | triv =>
    obtain ⟨s, hr, hh⟩ := h.acc
    obtain ⟨hs, hh1⟩ := hh.reloc w.nextE h.ndE hfr
    exact ⟨⟨_, run_snoc.mpr ⟨s, hr, hs, rfl⟩, hh1⟩, h.freshB, hfresh', h.ndB,
      List.nodup_cons.mpr ⟨hfrE, (List.nodup_cons.mp h.ndE).2⟩⟩
  | nmove => exact hmove
  | copyOnly => exact hmove

/-- `Replace(src, dst)`: both alive (possibly the same object); afterwards `src` is gone -/
theorem Led.replace {w : W} {B : List Blk} {E : List Nat} {s d : Nat} (h : Led w B (s :: E)) (hd : d ∈ s :: E) :
    Led (w.replaceE s d) B E := by
  have h1 := h.use (e := s) (by simp)
  have h2 := h1.use hd
  have h3 := h2.dtor
  have : w.replaceE s d = ((w.useE s).useE d).dtorE s := by simp [W.replaceE, W.useE, W.dtorE]
  rw [this]; exact h3

theorem lookE_split {els : Els} {k e : Nat} (h : lookE els k = some e) :
    ∃ l1 l2, els = l1 ++ (k, e) :: l2 ∧ (∀ e', setE els k e' = l1 ++ (k, e') :: l2) ∧ dropE els k = l1 ++ l2 := by
  induction els with
  | nil => simp [lookE] at h
  | cons p r ih =>
    obtain ⟨k', e0⟩ := p
    by_cases hk : k' = k
    · subst hk
      simp only [lookE, if_true, Option.some.injEq] at h
      subst h
      exact ⟨[], r, rfl, fun e' => by simp [setE], by simp [dropE]⟩
    · simp only [lookE, hk, if_false] at h
      obtain ⟨l1, l2, h1, h2, h3⟩ := ih h
      refine ⟨(k', e0) :: l1, l2, by rw [h1]; rfl, fun e' => ?_, ?_⟩
      · simp only [setE, hk, if_false, h2 e']; rfl
      · simp only [dropE, hk, if_false, h3]; rfl

theorem perm_dropE {els : Els} {k e : Nat} (h : lookE els k = some e) :
    (els.map Prod.snd).Perm (e :: (dropE els k).map Prod.snd) := by
  obtain ⟨l1, l2, h1, _, h3⟩ := lookE_split h
  rw [h3, h1, List.map_append, List.map_append]
  exact List.perm_middle

theorem perm_setE {els : Els} {k e : Nat} (h : lookE els k = some e) (e' : Nat) :
    ((setE els k e').map Prod.snd).Perm (e' :: (dropE els k).map Prod.snd) := by
  obtain ⟨l1, l2, _, h2, h3⟩ := lookE_split h
  rw [h2 e', h3, List.map_append, List.map_append]
  exact List.perm_middle

theorem lookE_mem {els : Els} {k e : Nat} (h : lookE els k = some e) : (k, e) ∈ els := by
  obtain ⟨l1, l2, h1, _⟩ := lookE_split h
  rw [h1]; simp

theorem lookE_elems {els : Els} {k e : Nat} (h : lookE els k = some e) : e ∈ els.map Prod.snd :=
  List.mem_map.mpr ⟨(k, e), lookE_mem h, rfl⟩

theorem Led.relocKey {w : W} {B : List Blk} {FE : List Nat} {els : Els} {k e : Nat} (c : Obj.Cat)
    (h : Led w B (els.map Prod.snd ++ FE)) (hl : lookE els k = some e) :
    Led (w.relocE c e).2 B ((setE els k (w.relocE c e).1).map Prod.snd ++ FE) :=
  ((h.permE ((perm_dropE hl).append_right FE)).reloc c).permE ((perm_setE hl _).append_right FE).symm

/-- the object of key `k` is relocated out of the container (into a node handle): the key leaves the books, the new object
    joins the frame -/
theorem Led.relocOut {w : W} {B : List Blk} {FE : List Nat} {els : Els} {k e : Nat} (c : Obj.Cat)
    (h : Led w B (els.map Prod.snd ++ FE)) (hl : lookE els k = some e) :
    Led (w.relocE c e).2 B ((dropE els k).map Prod.snd ++ (w.relocE c e).1 :: FE) :=
  ((h.permE ((perm_dropE hl).append_right FE)).reloc c).permE List.perm_middle.symm

theorem lookE_none_iff {els : Els} {k : Nat} : lookE els k = none ↔ k ∉ els.map Prod.fst := by
  induction els with
  | nil => simp [lookE]
  | cons p r ih =>
    obtain ⟨k', e0⟩ := p
    by_cases hk : k' = k
    · subst hk; simp [lookE]
    · simp only [lookE, hk, if_false, ih, List.map_cons, List.mem_cons]
      constructor
      · intro h1 h2; rcases h2 with h2 | h2
        · exact hk h2.symm
        · exact h1 h2
      · intro h1 h2; exact h1 (Or.inr h2)

theorem exists_lookE_of_mem {els : Els} {k : Nat} (h : k ∈ els.map Prod.fst) : ∃ e, lookE els k = some e := by
  cases hl : lookE els k with
  | none => exact absurd h (lookE_none_iff.mp hl)
  | some e => exact ⟨e, rfl⟩

theorem perm_mid {α : Type} (l1 l2 : List α) (x : α) : (l1 ++ x :: l2).Perm (x :: (l1 ++ l2)) :=
  List.perm_middle

end Momo.HTL
