import Momo.Translated.Wave2
import Momo.Proof.TrEqMisc2Bucket
/-!
  C08: the branch tests of `internal::ArrayBucket::AddBackCrt / RemoveBack` (details/ArrayBucket.h) as translated from the header (area Wave2,
  lean/Momo/Translated/Wave2.lean) are the tests of the model `VArr.addBack / removeBack`; together with the state-byte arithmetic of area Misc
  (`TrEqMisc2Bucket`, whose header also says what the translation is) every test and every value of the `none` and `fast` branches of
  `VArr.addBack` comes from the header text. The `heap` branch (`items.length < cap`, `growCap`) is `momo::Array::AddBack`; it stays in model
  terms (`Array`'s growth rule is translated for the C05 model: `tr_growCapacity` in `Proof/TrEqMisc.lean`).
  Names: `tr_ab_<last part of the translated name>` (`tr_ab_isFull` for `Tr.ab_AddBack_isFull`, `tr_ab_last` for `Tr.ab_RemoveBack_last`).
-/
namespace Momo.TrEq
open Momo Momo.Seg Momo.MMap

theorem tr_ab_firstCount : Tr.ab_AddBack_firstCount = 1 := rfl
theorem tr_ab_isFast (pool : Nat) : (Tr.ab_AddBack_isFast pool = true) ↔ pool > 0 := by simp [Tr.ab_AddBack_isFast]
theorem tr_ab_isFull (c pool : Nat) : (Tr.ab_AddBack_isFull c pool = true) ↔ c = pool := by simp [Tr.ab_AddBack_isFull]
theorem tr_ab_newCount (c : Nat) (h : c < 2 ^ 64 - 1) : Tr.ab_AddBack_newCount c = c + 1 :=
  add64_one h
theorem tr_ab_staysFast (mf n : Nat) : (Tr.ab_AddBack_staysFast mf n = true) ↔ n ≤ mf := by simp [Tr.ab_AddBack_staysFast]
theorem tr_ab_heapState : Tr.ab_AddBack_heapState = 0 := rfl
theorem tr_ab_last (c : Nat) : (Tr.ab_RemoveBack_last c = true) ↔ c = 1 := by simp [Tr.ab_RemoveBack_last]
theorem tr_ab_removeIsFast (pool : Nat) : (Tr.ab_RemoveBack_isFast pool = true) ↔ pool > 0 := by simp [Tr.ab_RemoveBack_isFast]

/-- the state byte written for a heap bucket (`uint8_t{0}`) makes the fast test of the next call false; the state byte of the
    first value (`pvMakeState(pvGetFastMemPoolIndex(1), 1)`) makes it true: the model's three representations are told apart by
    the translated `memPoolIndex > 0` -/
theorem tr_ab_rep_tests :
    Tr.ab_AddBack_isFast (Tr.ab_pvGetMemPoolIndex Tr.ab_AddBack_heapState) = false ∧
    Tr.ab_RemoveBack_isFast (Tr.ab_pvGetMemPoolIndex Tr.ab_AddBack_heapState) = false ∧
    Tr.ab_AddBack_isFast (Tr.ab_pvGetMemPoolIndex
      (Tr.ab_pvMakeState (Tr.ab_pvGetFastMemPoolIndex Tr.ab_AddBack_firstCount) Tr.ab_AddBack_firstCount)) = true := by decide

/-- the first test of `RemoveBack` (`count == 1`): where the translated test holds the result is `empty` -/
theorem removeBack_last_translated (a : VArr) (shrinkFails : Bool) :
    VArr.removeBack a shrinkFails =
      (if Tr.ab_RemoveBack_last a.count = true then VArr.empty else VArr.removeBack a shrinkFails) := by
  by_cases h : a.count = 1
  · rw [if_pos ((tr_ab_last _).mpr h)]; unfold VArr.removeBack; rw [if_pos h]
  · rw [if_neg (fun hh => h ((tr_ab_last _).mp hh))]

/-- `AddBackCrt` (model `VArr.addBack`) with every test and every value of its `none` / `fast` branches from the translated header; second conjunct: `removeBack_last_translated` -/
theorem addBack_tests_translated (mf : Nat) (hmf : mf < 2 ^ 63) (a : VArr) (v : Nat) (shrinkFails : Bool) :
    VArr.addBack mf a v =
      (match a.rep with
      | .none => ⟨.fast (Tr.ab_pvMakeState (Tr.ab_pvGetFastMemPoolIndex Tr.ab_AddBack_firstCount) Tr.ab_AddBack_firstCount), [v]⟩
      | .fast s =>
        if Tr.ab_AddBack_isFull (Tr.ab_pvGetFastCount s) (Tr.ab_pvGetMemPoolIndex s) = true then
          if Tr.ab_AddBack_staysFast mf (Tr.ab_AddBack_newCount (Tr.ab_pvGetFastCount s)) = true then
            ⟨.fast (Tr.ab_pvMakeState (Tr.ab_pvGetFastMemPoolIndex (Tr.ab_AddBack_newCount (Tr.ab_pvGetFastCount s)))
                (Tr.ab_AddBack_newCount (Tr.ab_pvGetFastCount s))),
              a.items.take (Tr.ab_pvGetFastCount s) ++ [v]⟩
          else ⟨.heap (Tr.ab_AddBack_heapCap mf), a.items.take (Tr.ab_pvGetFastCount s) ++ [v]⟩
        else ⟨.fast (Tr.ab_AddBack_incState s), a.items.take (Tr.ab_pvGetFastCount s) ++ [v]⟩
      | .heap cap =>
        if a.items.length < cap then ⟨.heap cap, a.items ++ [v]⟩
        else ⟨.heap (growCap cap (a.items.length + 1)), a.items ++ [v]⟩) ∧
    VArr.removeBack a shrinkFails =
      (if Tr.ab_RemoveBack_last a.count = true then VArr.empty else VArr.removeBack a shrinkFails) := by
  refine ⟨?_, removeBack_last_translated a shrinkFails⟩
  rw [addBack_translated mf hmf a v]
  cases a.rep with
  | none => rfl
  | heap cap => rfl
  | fast s =>
    have hc : Tr.ab_pvGetFastCount s < 16 := by
      unfold Tr.ab_pvGetFastCount
      exact Nat.lt_of_le_of_lt Nat.and_le_right (by decide)
    simp only [tr_ab_isFull, tr_ab_staysFast, tr_ab_newCount _ (show Tr.ab_pvGetFastCount s < 2 ^ 64 - 1 by omega)]

end Momo.TrEq
