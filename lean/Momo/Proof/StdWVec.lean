import Momo.Model.StdWrapOps
import Momo.Proof.ListFacts
/-!
  The C06 history theorem for `stdish::vector`: the wrapper computes an index from the iterator, forwards to the native
  `Array` and rebuilds an iterator from the index; with the native array taken as the item list (C05) every legal call gives
  the same new sequence and the same observation as the specification of `std::vector`.
-/
namespace Momo.StdW
open Momo.StdWrap List
open Momo.StdSpec hiding Item

theorem wCmpV_eq (a b : List Nat) : wCmpV a b = vecCmp a b := by
  rw [wCmpV, arrIsEqual, ListFacts.zip_all_beq]; rfl

theorem wrapV_refines (s : VSt) (c : VCall) (hl : c.legal s = true) : wrapV s c = c.spec s := by
  cases c with
  | pushBack c v => simp only [wrapV, VCall.spec, vInsert, take_length, drop_length, append_nil]
  | popBack c =>
    have h : 0 < (s.get c).length := of_decide_eq_true hl
    simp only [wrapV, VCall.spec, eraseIdx_eq_dropLast (Nat.sub_add_cancel h)]
  | insert c p v => rfl
  | insertN c p n v => rfl
  | insertRange c p ys => rfl
  | eraseAt c p => simp only [wrapV, VCall.spec, vecErase, eraseIdx_eq_take_drop_succ]
  | eraseRange c p q =>
    have h : p ≤ q := of_decide_eq_true (Bool.and_eq_true_iff.mp hl).1
    simp only [wrapV, VCall.spec, Nat.add_sub_cancel' h, vecErase]
  | eraseVal c v => rfl
  | resize c n => rfl
  | resizeVal c n v => rfl
  | assignN c n v => rfl
  | assignRange c ys => rfl
  | «at» c i =>
    by_cases h : i < (s.get c).length
    · simp only [wrapV, VCall.spec, vecAt, if_neg (Nat.not_le.mpr h), getElem?_eq_getElem h]
    · simp only [wrapV, VCall.spec, vecAt, if_pos (Nat.le_of_not_lt h), getElem?_eq_none (Nat.le_of_not_lt h)]
  | index c i => rfl
  | front c => simp only [wrapV, VCall.spec, head?_eq_getElem?]
  | back c => simp only [wrapV, VCall.spec, getLast?_eq_getElem?]
  | clear c => rfl
  | size c => rfl
  | empty c => rfl
  | swap => rfl
  | assignCopy c => rfl
  | assignMove c => rfl
  | constructCopy c => rfl
  | constructMove c => rfl
  | compare => simp only [wrapV, VCall.spec, wCmpV_eq]
  | contents c => rfl
  | rcontents c => rfl
  | constructN c n v => rfl
  | constructRange c ys => rfl
  | reserve c n => rfl
  | shrinkToFit c => rfl

theorem runWrapV_eq (cs : List VCall) : ∀ (s : VSt), VCall.legalFrom s cs = true →
    runWrapVFrom s cs = VCall.runSpecFrom s cs := by
  induction cs with
  | nil => intro s _; rfl
  | cons c t ih =>
    intro s hl
    simp only [VCall.legalFrom, Bool.and_eq_true] at hl
    have e := wrapV_refines s c hl.1
    simp only [runWrapVFrom, VCall.runSpecFrom, e]
    rw [ih _ hl.2]

end Momo.StdW
