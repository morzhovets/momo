import Momo.Model.Probe
/-! The search-bound encoders round a displacement UP (mantissa `(p - 1) / 2^k + 1`), so the decoded bound covers every displacement
recorded (`MP2.upd_cover`, `upd3_cover`; over a whole history by `foldl_covers`); linear probing visits every bucket. Core Lean only. -/
namespace Momo.Probe

theorem div_two_div_pow (m k : Nat) : m / 2 / 2 ^ k = m / 2 ^ (k + 1) := by
  rw [Nat.div_div_eq_div_mul, ← Nat.pow_succ']

theorem shrinkLoop_eq (lim fuel m e : Nat) :
    ∃ k, k ≤ fuel ∧ shrinkLoop lim fuel m e = (m / 2 ^ k, e + k) ∧
      (∀ j, j < k → lim ≤ m / 2 ^ j) ∧ (k < fuel → m / 2 ^ k < lim) := by
  induction fuel generalizing m e with
  | zero => exact ⟨0, Nat.le_refl _, by simp [shrinkLoop], fun j hj => absurd hj (Nat.not_lt_zero j),
      fun h => absurd h (Nat.lt_irrefl 0)⟩
  | succ f ih =>
    by_cases h : lim ≤ m
    · obtain ⟨k, hk, hr, hall, hlt⟩ := ih (m / 2) (e + 1)
      refine ⟨k + 1, Nat.succ_le_succ hk, ?_, fun j hj => ?_, fun hk' => ?_⟩
      · rw [shrinkLoop, if_pos h, hr, div_two_div_pow, Nat.add_assoc, Nat.add_comm 1 k]
      · cases j with
        | zero => simpa using h
        | succ j => rw [← div_two_div_pow]; exact hall j (Nat.lt_of_succ_lt_succ hj)
      · rw [← div_two_div_pow]; exact hlt (Nat.lt_of_succ_lt_succ hk')
    · exact ⟨0, Nat.zero_le _, by rw [shrinkLoop, if_neg h]; simp, fun j hj => absurd hj (Nat.not_lt_zero j),
        fun _ => by simpa using h⟩

theorem shrinkLoop_spec (lim : Nat) (fuel m e : Nat) (hf : m < 2 ^ fuel * lim) :
    let r := shrinkLoop lim fuel m e
    r.1 < lim ∧ e ≤ r.2 ∧ r.1 = m / 2 ^ (r.2 - e) ∧ (lim ≤ m → e < r.2) := by
  obtain ⟨k, hk, hr, _, hlt⟩ := shrinkLoop_eq lim fuel m e
  rw [hr]
  show m / 2 ^ k < lim ∧ e ≤ e + k ∧ m / 2 ^ k = m / 2 ^ (e + k - e) ∧ (lim ≤ m → e < e + k)
  have h1 : m / 2 ^ k < lim := by
    by_cases hkf : k < fuel
    · exact hlt hkf
    · obtain rfl : k = fuel := Nat.le_antisymm hk (Nat.le_of_not_lt hkf)
      exact Nat.div_lt_of_lt_mul hf
  refine ⟨h1, Nat.le_add_right _ _, by rw [Nat.add_sub_cancel_left], fun hm => ?_⟩
  cases k with
  | zero => exact absurd (by simpa using h1) (Nat.not_lt.mpr hm)
  | succ k => exact Nat.lt_add_of_pos_right (Nat.succ_pos k)

theorem shrink_exp_le (lim fuel m K : Nat) (h : m < 2 ^ K * lim) : (shrinkLoop lim fuel m 0).2 ≤ K := by
  obtain ⟨k, _, hr, hall, _⟩ := shrinkLoop_eq lim fuel m 0
  rw [hr]
  show 0 + k ≤ K
  rw [Nat.zero_add]
  exact Nat.le_of_not_lt fun hK => Nat.not_lt.mpr (hall K hK) (Nat.div_lt_of_lt_mul h)

theorem le_succ_div_mul (p k : Nat) (hp : 0 < p) : p ≤ ((p - 1) / 2 ^ k + 1) * 2 ^ k := by
  have h := Nat.lt_mul_div_succ (p - 1) (Nat.two_pow_pos k)
  rw [Nat.mul_comm] at h
  omega

/-- what makes the `probe ≤ 255` fast path of Open2N2 (which leaves the exponent alone) sound: a non-zero exponent means the bound is
    already ≥ 256, so the fast path is only taken at exponent 0. This is all the hash-table invariant keeps (`HT.BstOK`): there the
    mantissa bound follows from the table size. -/
def MP2.Ok' (s : MP2) : Prop := s.e = 0 ∨ 256 ≤ s.dec

theorem MP2.init_ok' : MP2.Ok' ⟨0, 0⟩ := Or.inl rfl

/-- `Ok'` and the mantissa fits its byte (C13) -/
def MP2.Ok (s : MP2) : Prop := s.m ≤ 255 ∧ (s.e = 0 ∨ 256 ≤ s.dec)

theorem MP2.init_ok : MP2.init.Ok := by simp [MP2.Ok, MP2.init]

theorem MP2.upd_cases (s : MP2) (p : Nat) :
    (p ≤ s.dec ∧ s.upd p = s) ∨
    (s.dec < p ∧ p ≤ 255 ∧ s.upd p = { s with m := p }) ∨
    (s.dec < p ∧ 255 < p ∧ ∃ k, k ≤ 64 ∧ s.upd p = ⟨(p - 1) / 2 ^ k + 1, k⟩ ∧
      (∀ j, j < k → 255 ≤ (p - 1) / 2 ^ j) ∧ (k < 64 → (p - 1) / 2 ^ k < 255)) := by
  unfold MP2.upd
  simp only [Extracted.open2n2FastLimit, Extracted.open2n2MantLimit]
  split
  · rename_i h
    exact Or.inl ⟨h.elim (fun h0 => h0 ▸ Nat.zero_le _) id, rfl⟩
  · rename_i h
    have hlt : s.dec < p := Nat.lt_of_not_le fun hle => h (Or.inr hle)
    split
    · exact Or.inr (Or.inl ⟨hlt, by assumption, rfl⟩)
    · rename_i h255
      obtain ⟨k, hk, hr, hall, hlt'⟩ := shrinkLoop_eq 255 64 (p - 1) 0
      refine Or.inr (Or.inr ⟨hlt, Nat.lt_of_not_le h255, k, hk, ?_, hall, hlt'⟩)
      rw [hr, Nat.zero_add]

theorem MP2.upd_cover (s : MP2) (p : Nat) (hs : s.Ok') :
    (s.upd p).Ok' ∧ p ≤ (s.upd p).dec ∧ s.dec ≤ (s.upd p).dec := by
  unfold MP2.Ok' at hs ⊢
  rcases MP2.upd_cases s p with ⟨h, e⟩ | ⟨h, h255, e⟩ | ⟨h, h255, k, _, e, _, _⟩ <;> rw [e]
  · exact ⟨hs, h, Nat.le_refl _⟩
  · have he : s.e = 0 := by omega
    simp only [MP2.dec, he, Nat.pow_zero, Nat.mul_one] at h ⊢
    exact ⟨Or.inl trivial, Nat.le_refl _, Nat.le_of_lt h⟩
  · have hc := le_succ_div_mul p k (by omega)
    simp only [MP2.dec] at h ⊢
    omega

theorem MP2.upd_m_le (s : MP2) (p : Nat) (hm : s.m ≤ 255) (hp : p < 2 ^ 64) : (s.upd p).m ≤ 255 := by
  rcases MP2.upd_cases s p with ⟨_, e⟩ | ⟨_, h255, e⟩ | ⟨_, _, k, hk, e, _, hlt⟩ <;> rw [e]
  · exact hm
  · exact h255
  · show (p - 1) / 2 ^ k + 1 ≤ 255
    by_cases hk64 : k < 64
    · exact hlt hk64
    · obtain rfl : k = 64 := Nat.le_antisymm hk (Nat.le_of_not_lt hk64)
      rw [Nat.div_eq_of_lt (Nat.lt_of_le_of_lt (Nat.sub_le _ _) hp)]; decide

theorem MP2.upd_ok (s : MP2) (p : Nat) (hs : s.Ok) (hp : p < 2 ^ 64) :
    (s.upd p).Ok ∧ p ≤ (s.upd p).dec ∧ s.dec ≤ (s.upd p).dec :=
  have h := MP2.upd_cover s p hs.2
  ⟨⟨MP2.upd_m_le s p hs.1 hp, h.1⟩, h.2⟩

/-- the state fits its fields: mantissa a byte, exponent 6 bits (`mState[1]` keeps the item count in its two low bits) -/
theorem MP2.upd_fits (s : MP2) (p : Nat) (hs : s.m ≤ 255 ∧ s.e ≤ 57) (hp : p < 2 ^ 64) :
    (s.upd p).m ≤ 255 ∧ (s.upd p).e ≤ 57 := by
  refine ⟨MP2.upd_m_le s p hs.1 hp, ?_⟩
  rcases MP2.upd_cases s p with ⟨_, e⟩ | ⟨_, _, e⟩ | ⟨_, _, k, _, e, hall, _⟩ <;> rw [e]
  · exact hs.2
  · exact hs.2
  · -- 58 shifts would mean `(p - 1) / 2^57 ≥ 255`, but `p - 1 < 2^64 = 2^57 * 128`
    show k ≤ 57
    apply Decidable.byContradiction
    intro hcon
    have h57 := hall 57 (Nat.lt_of_not_le hcon)
    have : (p - 1) / 2 ^ 57 < 128 := Nat.div_lt_of_lt_mul (Nat.lt_of_le_of_lt (Nat.sub_le _ _) hp)
    omega

theorem or_shift3 (a e : Nat) (ha : a < 8) : a ||| (e <<< 3) = a + 8 * e := by
  rw [Nat.or_comm, ← Nat.shiftLeft_add_eq_or_of_lt (by simpa using ha), Nat.shiftLeft_eq]
  omega

theorem dec3_eq (b : Nat) : dec3 b = (b % 8) * 2 ^ (b / 8) := by
  unfold dec3
  have h : b &&& Extracted.openN1MantMask = b % 8 := Nat.and_two_pow_sub_one_eq_mod b 3
  rw [h, Nat.shiftLeft_eq, Nat.shiftRight_eq_div_pow]

theorem dec3_or_shift (a e : Nat) (ha : a < 8) : dec3 (a ||| (e <<< 3)) = a * 2 ^ e := by
  rw [or_shift3 a e ha, dec3_eq, Nat.add_mul_mod_self_left, Nat.mod_eq_of_lt ha,
    Nat.add_mul_div_left a e (by decide), Nat.div_eq_of_lt ha, Nat.zero_add]

theorem enc3_cover (p : Nat) (hp : 0 < p) :
    enc3 p = infProbeExp ∨ (enc3 p < 256 ∧ p ≤ dec3 (enc3 p)) := by
  obtain ⟨k, _, hr, _, hlt⟩ := shrinkLoop_eq 7 64 (p - 1) 0
  have hc := le_succ_div_mul p k hp
  unfold enc3
  simp only [Extracted.openN1MantLimit, Extracted.openN1ExpLimit, hr, Nat.zero_add]
  generalize (p - 1) / 2 ^ k = q at hc hlt
  split
  · have a : q < 7 := hlt (by omega)
    rw [dec3_or_shift _ _ (by omega)]
    exact Or.inr ⟨by rw [or_shift3 _ _ (by omega)]; omega, hc⟩
  · left; rfl

theorem getMax3_inf (L : Nat) : getMax3 L infProbeExp = 2 ^ L - 1 := if_pos rfl

theorem getMax3_of_ne (L : Nat) {b : Nat} (h : b ≠ infProbeExp) : getMax3 L b = dec3 b := if_neg h

theorem upd3_cover (L b p : Nat) (hp : p < 2 ^ L) :
    p ≤ getMax3 L (upd3 b p) ∧ getMax3 L b ≤ getMax3 L (upd3 b p) := by
  unfold upd3
  split
  · rename_i h0; subst h0; exact ⟨Nat.zero_le _, Nat.le_refl _⟩
  · split
    · rename_i h
      refine ⟨?_, Nat.le_refl _⟩
      by_cases hb : b = infProbeExp
      · rw [hb, getMax3_inf]; omega
      · rw [getMax3_of_ne L hb]; exact h.resolve_left hb
    · rename_i h0 h
      have hlt : dec3 b < p := by omega
      rw [getMax3_of_ne L (fun hh => h (Or.inl hh))]
      by_cases hinf : enc3 p = infProbeExp
      · rw [hinf, getMax3_inf]; omega
      · rw [getMax3_of_ne L hinf]
        have := ((enc3_cover p (by omega)).resolve_left hinf).2
        omega

theorem upd3_lt (b p : Nat) (hb : b < 256) : upd3 b p < 256 := by
  unfold upd3
  split
  · exact hb
  · split
    · exact hb
    · rcases enc3_cover p (by omega) with hinf | ⟨h, _⟩
      · rw [hinf]; decide
      · exact h

theorem foldl_keeps {σ α β : Type} {step : σ → α → σ} {f : σ → β} (h : ∀ s a, f (step s a) = f s) :
    ∀ (l : List α) (s : σ), f (l.foldl step s) = f s
  | [], _ => rfl
  | a :: l, s => (foldl_keeps h l (step s a)).trans (h s a)

/-- C13 (a) in general: the bound after a run covers EVERY probe recorded on the way, not only the last -/
theorem foldl_covers {σ : Type} (upd : σ → Nat → σ) (dec : σ → Nat) (I : σ → Prop) (P : Nat → Prop)
    (h : ∀ s p, I s → P p → I (upd s p) ∧ p ≤ dec (upd s p) ∧ dec s ≤ dec (upd s p)) :
    ∀ (ps : List Nat) (s : σ), I s → (∀ p ∈ ps, P p) →
      I (ps.foldl upd s) ∧ dec s ≤ dec (ps.foldl upd s) ∧ ∀ p ∈ ps, p ≤ dec (ps.foldl upd s) := by
  intro ps
  induction ps with
  | nil => intro s hs _; exact ⟨hs, Nat.le_refl _, fun p hp => by cases hp⟩
  | cons a as ih =>
    intro s hs hP
    obtain ⟨hI, hge, hmono⟩ := h s a hs (hP a (by simp))
    obtain ⟨h0, h1, h2⟩ := ih (upd s a) hI (fun q hq => hP q (by simp [hq]))
    refine ⟨h0, Nat.le_trans hmono h1, fun p hp => ?_⟩
    rcases List.mem_cons.mp hp with rfl | hp
    · exact Nat.le_trans hge h1
    · exact h2 p hp

theorem start_eq (L c : Nat) : start L c = c % 2 ^ L := Nat.and_two_pow_sub_one_eq_mod c L

theorem start_lt (L h : Nat) : start L h < 2 ^ L := by
  rw [start_eq]; exact Nat.mod_lt _ (Nat.two_pow_pos L)

theorem next_lt (quad : Bool) (L idx p : Nat) :
    (if quad then nextQuad L idx p else nextLin L idx) < 2 ^ L := by
  cases quad <;> simp only [Bool.false_eq_true, if_false, if_true, nextQuad, nextLin, Nat.and_two_pow_sub_one_eq_mod] <;>
    exact Nat.mod_lt _ (Nat.two_pow_pos L)

theorem seqLin_closed (L home p : Nat) (hh : home < 2 ^ L) : seqLin L home p = (home + p) % 2 ^ L := by
  induction p with
  | zero => simp [seqLin, Nat.mod_eq_of_lt hh]
  | succ q ih =>
    simp only [seqLin, nextLin, Nat.and_two_pow_sub_one_eq_mod, ih]
    rw [Nat.mod_add_mod]; rfl

theorem seqLin_surj (L home b : Nat) (hh : home < 2 ^ L) (hb : b < 2 ^ L) :
    ∃ p, p < 2 ^ L ∧ seqLin L home p = b := by
  refine ⟨(b + 2 ^ L - home) % 2 ^ L, Nat.mod_lt _ (Nat.two_pow_pos L), ?_⟩
  rw [seqLin_closed L home _ hh, Nat.add_mod_mod]
  have : home + (b + 2 ^ L - home) = b + 2 ^ L := by omega
  rw [this, Nat.add_mod_right, Nat.mod_eq_of_lt hb]

end Momo.Probe
