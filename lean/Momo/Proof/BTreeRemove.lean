import Momo.Proof.BTreeFaultReb
/-!
  C02, removal by iterator: `pvRemove` on a leaf item and `pvRemoveInternal` (predecessor pulled up from the rightmost
  non-empty node of the left subtree, or the empty left subtree destroyed) refine `List.eraseIdx` at the iterator's
  in-order index; the returned iterator denotes the same index (the element that followed). The removal is proved for
  any rebalancing pass that satisfies `RebOK` (`BTreeRebalance`): `removeAtG reb` is `removeAt` with the pass as a parameter
  (suffix `G`: general in the pass), so that the passes under faults reuse it. `cut_at_path` takes an edit of one node that
  loses elements through the pass to the whole tree; every removal is an instance.
-/
namespace Momo.BTree
open Node
variable {α : Type}

theorem modifyAt_spec {d : Nat} {r m : Node α} (hb : Bal d r) (path : List Nat) (hm : nodeAt? r path = some m)
    (f : Node α → Node α) (hbm : Bal (d - path.length) (f m)) :
    ∃ pre post, toList r = pre ++ toList m ++ post ∧ pre.length = offsetOf r path ∧
      toList (modifyAt f r path) = pre ++ toList (f m) ++ post ∧ Bal d (modifyAt f r path) ∧
      nodeAt? (modifyAt f r path) path = some (f m) ∧ offsetOf (modifyAt f r path) path = offsetOf r path ∧
      (∀ maxCap, Caps maxCap r → Caps maxCap (f m) → Caps maxCap (modifyAt f r path)) := by
  revert hbm
  refine Bal.path_rec ?_ ?_ hb hm
  · intro d hb hbm
    refine ⟨[], [], by simp, by simp, ?_, ?_, ?_, ?_, ?_⟩ <;> cases m <;> simp_all [modifyAt]
  · intro d' is cs c ch p hb hlen hc hbch hm ih hbm
    have hcl := ListFacts.lt_of_getElem? hc
    obtain ⟨pre, post, e1, e2, e3, e4, e5, e6, e7⟩ := ih (by simpa using hbm)
    have hset : (cs.set c (modifyAt f ch p))[c]? = some (modifyAt f ch p) := List.getElem?_set_self hcl
    have hprelen := preOf_length cs is c (Nat.le_of_lt_succ (Nat.lt_of_lt_of_eq hcl hlen)) hlen
    have hmod : modifyAt f (inner is cs) (c :: p) = inner is (cs.set c (modifyAt f ch p)) := by
      simp only [modifyAt, hc]
    rw [hmod]
    refine ⟨preOf cs is c ++ pre, post ++ postOf cs is c, ?_, ?_, ?_, hb.set_child c e4, ?_, ?_, ?_⟩
    · rw [toList_inner, inter_split cs is c ch hc hlen, e1]; simp only [List.append_assoc]
    · rw [offsetOf_inner_cons' hc, List.length_append, hprelen, e2]
    · rw [toList_inner, inter_set cs is c ch _ hc hlen, e3]; simp only [List.append_assoc]
    · exact (nodeAt?_inner_cons' hset _).trans e5
    · rw [offsetOf_inner_cons' hset, offsetOf_inner_cons' hc, e6, List.take_set_of_le (Nat.le_refl _)]
    · exact fun maxCap hcaps hfm => hcaps.set_child c (e7 maxCap (hcaps.getElem hc) hfm)

theorem modifyAt_setItem_self (r : Node α) (path : List Nat) (i : Nat) (items : List α) (cs : List (Node α)) (x : α)
    (hm : nodeAt? r path = some (inner items cs)) (hx : items[i]? = some x) : modifyAt (setItem i x) r path = r := by
  induction path generalizing r with
  | nil =>
    simp at hm; subst hm
    simp [modifyAt, setItem, ListFacts.set_getElem?_self hx]
  | cons c p ih =>
    obtain ⟨is, cs', ch, rfl, hc, hm⟩ := nodeAt?_cons_some hm
    simp [modifyAt, hc, ih ch hm, ListFacts.set_getElem?_self hc]

theorem rebOK_rebalance (cfg : Cfg) (fast : Bool) : RebOK (α := α) cfg (rebalance cfg fast) :=
  fun hb path saved => rebalance_spec cfg fast hb path saved

/-- `removeAt` with the rebalancing pass as a parameter: `removeAt cfg = removeAtG (rebalance cfg true)` (`removeAt_eq_G`), and
    `BTreeF.removeAtF`, past its fallible step, is `removeAtG` of the faulty pass -/
def removeAtG (reb : Node α → List Nat → List Nat → Node α × List Nat) (r : Node α) (pos : Pos) : Node α × Pos :=
  match nodeAt? r pos.path with
  | some (leaf _ _) =>
    (match reb (modifyAt (removeItem pos.idx) r pos.path) pos.path pos.path with
     | (r', saved) => (r', moveIf r' ⟨saved, pos.idx⟩))
  | some (inner items cs) =>
    (match cs[pos.idx]?, cs[pos.idx + 1]? with
     | some left, some right =>
       (match popLast left with
        | none =>
          (match reb (modifyAt (fun _ => destroyInternal items cs pos.idx false) r pos.path)
              pos.path (pos.path ++ pos.idx :: leftPath right) with
           | (r', saved) => (r', moveIf r' ⟨saved, 0⟩))
        | some (left', x, cp) =>
          (match reb (modifyAt (fun _ => inner (items.set pos.idx x) (cs.set pos.idx left')) r pos.path)
              (pos.path ++ pos.idx :: cp) (pos.path ++ (pos.idx + 1) :: leftPath right) with
           | (r', saved) => (r', moveIf r' ⟨saved, 0⟩)))
     | _, _ => (r, pos))
  | none => (r, pos)

theorem removeAt_eq_G (cfg : Cfg) (r : Node α) (pos : Pos) : removeAt cfg r pos = removeAtG (rebalance cfg true) r pos := rfl

/-- after the items were taken out (`r1`), `pvRebalance` and `pvMakeIterator(savedNode, j, true)`: if the saved leaf
    slot has in-order index `k` in `r1`, the returned iterator has index `k` in the final tree -/
theorem remove_finishG (cfg : Cfg) (reb : Node α → List Nat → List Nat → Node α × List Nat) (hreb : RebOK cfg reb)
    {d : Nat} {r1 : Node α} (hb : Bal d r1) (path saved : List Nat)
    (j cap : Nat) (its : List α) (hs : nodeAt? r1 saved = some (leaf cap its)) (hj : j ≤ its.length) :
    toList (reb r1 path saved).1 = toList r1 ∧ (∃ d', Bal d' (reb r1 path saved).1) ∧
    idxOf (reb r1 path saved).1
        (moveIf (reb r1 path saved).1 ⟨(reb r1 path saved).2, j⟩).path
        (moveIf (reb r1 path saved).1 ⟨(reb r1 path saved).2, j⟩).idx
      = offsetOf r1 saved + j ∧
    ValidPos (reb r1 path saved).1
        (moveIf (reb r1 path saved).1 ⟨(reb r1 path saved).2, j⟩) ∧
    (Caps cfg.maxCap r1 → Caps cfg.maxCap (reb r1 path saved).1) := by
  obtain ⟨a, ⟨d', b⟩, e, f⟩ := hreb hb path saved
  obtain ⟨cap', its', e1, e2, e3⟩ := e cap its hs
  obtain ⟨m1, m2⟩ := moveIf_spec b _ j e1 (Nat.le_trans hj e2)
  refine ⟨a, ⟨d', b⟩, ?_, m2, f⟩
  rw [m1, idxOf_eq_offset j e1, e3]; simp

/-- The node `m` at `path` is replaced by `f m`, which lacks the `c` elements from `k` on; the saved leaf slot `(sp, j)` of `f m`
    is where they were. After the rebalancing pass and `pvMakeIterator(savedNode, j, true)` the tree lacks these
    elements and the iterator stands where they were. All four removals (`pvRemove` on a leaf, the two branches of
    `pvRemoveInternal`, the one-leaf branch of `Remove(begin, end)`) are instances. `rp`, the node the pass starts from, is arbitrary
    (`RebOK` holds for every path). `R` with `hR` only names the result of the pass; callers pass `_ rfl`. A caller owes three
    facts about the one node: `hbm'` (`f m` balanced at `m`'s depth), `hl` (its list is `m`'s without the `c` elements), `hoff`
    (the saved slot is where they were). -/
theorem cut_at_path (cfg : Cfg) (reb : Node α → List Nat → List Nat → Node α × List Nat) (hreb : RebOK cfg reb) {d : Nat}
    {r m : Node α} (hb : Bal d r) (path : List Nat) (hm : nodeAt? r path = some m) (f : Node α → Node α)
    (hbm' : Bal (d - path.length) (f m)) (k c : Nat) (hk : k + c ≤ size m)
    (hl : toList (f m) = (toList m).take k ++ (toList m).drop (k + c)) (rp sp : List Nat) (j cap : Nat) (its : List α)
    (hs : nodeAt? (f m) sp = some (leaf cap its)) (hj : j ≤ its.length) (hoff : offsetOf (f m) sp + j = k)
    (hcaps : Caps cfg.maxCap m → Caps cfg.maxCap (f m)) (R : Node α × List Nat)
    (hR : reb (modifyAt f r path) rp (path ++ sp) = R) :
    toList R.1 = (toList r).take (offsetOf r path + k) ++ (toList r).drop (offsetOf r path + k + c) ∧
    (∃ d', Bal d' R.1) ∧
    idxOf R.1 (moveIf R.1 ⟨R.2, j⟩).path (moveIf R.1 ⟨R.2, j⟩).idx = offsetOf r path + k ∧
    ValidPos R.1 (moveIf R.1 ⟨R.2, j⟩) ∧ (Caps cfg.maxCap r → Caps cfg.maxCap R.1) := by
  subst hR
  obtain ⟨pre, post, e1, e2, e3, e4, e5, e6, e7⟩ := modifyAt_spec hb path hm f hbm'
  obtain ⟨a, b, c', v, fc⟩ := remove_finishG cfg reb hreb e4 rp (path ++ sp) j cap its
    ((nodeAt?_append _ _ _).trans (by rw [e5]; exact hs)) hj
  refine ⟨?_, b, ?_, v, fun hc => fc (e7 _ hc (hcaps (hc.nodeAt hm)))⟩
  · rw [a, e3, e1, hl, ← e2, ListFacts.take_middle _ _ _ _ (Nat.le_trans (Nat.le_add_right _ _) hk), Nat.add_assoc,
      ListFacts.drop_middle _ _ _ _ hk]
    simp only [List.append_assoc]
  · rw [c', offsetOf_append _ e5, e6, Nat.add_assoc, hoff]

theorem removeAtG_leaf_spec (cfg : Cfg) (reb : Node α → List Nat → List Nat → Node α × List Nat) (hreb : RebOK cfg reb)
    {d : Nat} {r : Node α} (hb : Bal d r) (pos : Pos) (cap : Nat)
    (items : List α) (hm : nodeAt? r pos.path = some (leaf cap items)) (hi : pos.idx < items.length) :
    toList (removeAtG reb r pos).1 = (toList r).eraseIdx (idxOf r pos.path pos.idx) ∧
    (∃ d', Bal d' (removeAtG reb r pos).1) ∧
    idxOf (removeAtG reb r pos).1 (removeAtG reb r pos).2.path (removeAtG reb r pos).2.idx = idxOf r pos.path pos.idx ∧
    ValidPos (removeAtG reb r pos).1 (removeAtG reb r pos).2 ∧
    (Caps cfg.maxCap r → Caps cfg.maxCap (removeAtG reb r pos).1) := by
  have hidx : idxOf r pos.path pos.idx = offsetOf r pos.path + pos.idx := by
    rw [idxOf_eq_offset pos.idx hm, idxOf_leaf]
  have h := cut_at_path cfg reb hreb hb pos.path hm (removeItem pos.idx)
    (by rw [(hb.nodeAt hm).1.leaf_depth]; exact Bal.leaf _ _) pos.idx 1 hi (List.eraseIdx_eq_take_drop_succ _ _)
    pos.path [] pos.idx cap _ rfl (by rw [List.length_eraseIdx_of_lt hi]; exact Nat.le_sub_one_of_lt hi)
    (Nat.zero_add _) (fun hc => by
      cases hc with
      | leaf _ _ h1 h2 => exact Caps.leaf _ _ (Nat.le_trans (List.length_eraseIdx_le items pos.idx) h1) h2) _ rfl
  rw [hidx, List.eraseIdx_eq_take_drop_succ]
  simpa only [removeAtG, hm, List.append_nil] using h

/-- the predecessor search of `pvRemoveInternal`: the subtree loses exactly its last element, or it has none -/
theorem popLast_spec {d : Nat} {n : Node α} (hb : Bal d n) :
    (∀ n' x cp, popLast n = some (n', x, cp) →
      toList n = toList n' ++ [x] ∧ Bal d n' ∧ (∀ maxCap, Caps maxCap n → Caps maxCap n')) ∧
    (popLast n = none → toList n = []) := by
  induction hb with
  | leaf cap items =>
    simp only [popLast]
    cases hl : items.getLast? with
    | none => exact ⟨fun _ _ _ h => by simp at h, fun _ => by simpa using hl⟩
    | some y =>
      refine ⟨fun n' x cp h => ?_, fun h => by simp at h⟩
      cases h
      obtain ⟨init, rfl⟩ := List.getLast?_eq_some_iff.mp hl
      refine ⟨by simp, Bal.leaf _ _, fun maxCap hc => ?_⟩
      cases hc with
      | leaf _ _ h1 h2 => exact Caps.leaf _ _ (by simp at h1 ⊢; omega) h2
  | inner d items cs hlen hall ih =>
    obtain ⟨c, hc⟩ := exists_child hlen (Nat.le_refl _)
    have hcl := ListFacts.lt_of_getElem? hc
    obtain ⟨ih1, ih2⟩ := ih c (List.mem_of_getElem? hc)
    simp only [popLast, popLastAt_eq, hc]
    cases hp : popLast c with
    | some r =>
      obtain ⟨c', y, p⟩ := r
      obtain ⟨a, b, e⟩ := ih1 c' y p hp
      refine ⟨fun n' x cp h => ?_, fun h => by simp at h⟩
      cases h
      refine ⟨?_, ?_, ?_⟩
      · rw [toList_inner, toList_inner, inter_set cs items _ c c' hc hlen, inter_split cs items _ c hc hlen, a]
        simp [postOf]
      · exact (Bal.inner d _ _ hlen hall).set_child _ b
      · exact fun maxCap hcaps => hcaps.set_child _ (e maxCap (hcaps.getElem hc))
    | none =>
      have hempty := ih2 hp
      simp only
      cases hl : items.getLast? with
      | none =>
        obtain rfl : items = [] := by simpa using hl
        obtain rfl : cs = [c] := by
          cases cs with
          | nil => simp at hlen
          | cons c0 cs' =>
            obtain rfl : cs' = [] := by simpa using hlen
            simp at hc; subst hc; rfl
        exact ⟨fun _ _ _ h => by simp at h, fun _ => by simp [hempty]⟩
      | some y =>
        refine ⟨fun n' x cp h => ?_, fun h => by simp at h⟩
        cases h
        have hne : 0 < items.length := by
          cases items with
          | nil => simp at hl
          | cons _ _ => simp
        simp only [destroyInternal, if_true]
        have hidx : items.length - 1 + 1 = items.length := by omega
        rw [hidx]
        refine ⟨?_, ?_, ?_⟩
        · rw [toList_inner, toList_inner]; exact inter_last_empty cs items y c hlen hl hc hempty
        · refine Bal.inner d _ _ ?_ (fun z hz => hall z (List.mem_of_mem_eraseIdx hz))
          rw [List.length_eraseIdx_of_lt hcl, List.length_eraseIdx_of_lt (by omega)]; omega
        · exact fun maxCap hcaps => Caps.inner _ _
            (Nat.le_trans (List.length_eraseIdx_le items (items.length - 1)) hcaps.inner_items)
            (fun z hz => hcaps.inner_child z (List.mem_of_mem_eraseIdx hz))

theorem popFirst_spec {d : Nat} {n : Node α} (hb : Bal d n) :
    (∀ n' x, popFirst n = some (n', x) →
      toList n = x :: toList n' ∧ Bal d n' ∧ (∀ maxCap, Caps maxCap n → Caps maxCap n')) ∧
    (popFirst n = none → toList n = []) := by
  induction hb with
  | leaf cap items =>
    cases items with
    | nil => exact ⟨fun _ _ h => by simp [popFirst] at h, fun _ => rfl⟩
    | cons y ys =>
      refine ⟨fun n' x h => ?_, fun h => by simp [popFirst] at h⟩
      simp only [popFirst] at h
      cases h
      refine ⟨by simp, Bal.leaf _ _, fun maxCap hc => ?_⟩
      cases hc with
      | leaf _ _ h1 h2 => exact Caps.leaf _ _ (by simp at h1 ⊢; omega) h2
  | inner d items cs hlen hall ih =>
    cases cs with
    | nil => simp at hlen
    | cons c cs' =>
      obtain ⟨ih1, ih2⟩ := ih c (by simp)
      simp only [popFirst, popFirstHead]
      cases hp : popFirst c with
      | some r =>
        obtain ⟨c', y⟩ := r
        obtain ⟨a, b, e⟩ := ih1 c' y hp
        refine ⟨fun n' x h => ?_, fun h => by simp at h⟩
        cases h
        refine ⟨?_, ?_, ?_⟩
        · cases items <;> simp [a]
        · exact (Bal.inner d _ _ hlen hall).set_child 0 b
        · exact fun maxCap hcaps => hcaps.set_child 0 (e maxCap (hcaps.inner_child c (List.mem_cons_self ..)))
      | none =>
        have hempty := ih2 hp
        cases items with
        | nil =>
          obtain rfl : cs' = [] := by simpa using hlen
          exact ⟨fun _ _ h => by simp at h, fun _ => by simp [hempty]⟩
        | cons y ys =>
          refine ⟨fun n' x h => ?_, fun h => by simp at h⟩
          simp only at h
          cases h
          simp only [destroyInternal, Bool.false_eq_true, if_false, List.eraseIdx_cons_zero]
          refine ⟨by simp [hempty], ?_, ?_⟩
          · exact Bal.inner d _ _ (by simpa using hlen) (fun z hz => hall z (by simp [hz]))
          · intro maxCap hcaps
            cases hcaps with
            | inner _ _ h1 h2 =>
              exact Caps.inner _ _ (by simp at h1 ⊢; omega) (fun z hz => h2 z (by simp [hz]))

/-- `pvRemove` for an item of an internal node (`pvRemoveInternal`), both branches -/
theorem removeAtG_inner_spec (cfg : Cfg) (reb : Node α → List Nat → List Nat → Node α × List Nat) (hreb : RebOK cfg reb)
    {d : Nat} {r : Node α} (hb : Bal d r) (pos : Pos) (items : List α)
    (cs : List (Node α)) (hm : nodeAt? r pos.path = some (inner items cs)) (hi : pos.idx < items.length) :
    toList (removeAtG reb r pos).1 = (toList r).eraseIdx (idxOf r pos.path pos.idx) ∧
    (∃ d', Bal d' (removeAtG reb r pos).1) ∧
    idxOf (removeAtG reb r pos).1 (removeAtG reb r pos).2.path (removeAtG reb r pos).2.idx = idxOf r pos.path pos.idx ∧
    ValidPos (removeAtG reb r pos).1 (removeAtG reb r pos).2 ∧
    (Caps cfg.maxCap r → Caps cfg.maxCap (removeAtG reb r pos).1) := by
  have hbm := (hb.nodeAt hm).1
  obtain ⟨dm, hdm, hall⟩ := hbm.inner_depth
  rw [hdm] at hbm
  have hlen := hbm.inner_len
  obtain ⟨left, hl⟩ := ListFacts.getElem?_of_lt (l := cs) (i := pos.idx) (by rw [hlen]; exact Nat.lt_succ_of_lt hi)
  obtain ⟨right, hr⟩ := ListFacts.getElem?_of_lt (l := cs) (i := pos.idx + 1) (by rw [hlen]; exact Nat.succ_lt_succ hi)
  obtain ⟨x, hx⟩ := ListFacts.getElem?_of_lt hi
  have hbl := hall left (List.mem_of_getElem? hl)
  have hbr := hall right (List.mem_of_getElem? hr)
  obtain ⟨⟨lcap, lits, hlp1⟩, _⟩ := leftPath_spec hbr
  have hlp3 := offsetOf_leftPath hbr
  have hprelen := preOf_length cs items pos.idx (Nat.le_of_lt hi) hlen
  have hidxm : idxOf (inner items cs) [] pos.idx = (preOf cs items pos.idx).length + size left := by
    rw [idxOf_inner_nil, sum_take_succ cs _ left hl, hprelen]; exact Nat.add_right_comm _ _ _
  have hkm : idxOf (inner items cs) [] pos.idx + 1 ≤ size (inner items cs) :=
    idxOf_lt_size hbm ⟨_, rfl, hi⟩
  rw [idxOf_eq_offset pos.idx hm, List.eraseIdx_eq_take_drop_succ]
  unfold removeAtG
  simp only [hm, hl, hr]
  cases hp : popLast left with
  | none =>
    have hempty := (popLast_spec hbl).2 hp
    have hsz : size left = 0 := by simp [size, hempty]
    obtain ⟨t1, t2⟩ := inter_eraseIdx_empty cs items pos.idx left x hl hx hlen hempty
    have hright' : (cs.eraseIdx pos.idx)[pos.idx]? = some right := by
      rw [List.getElem?_eraseIdx_of_ge (Nat.le_refl _)]; exact hr
    rw [hsz, Nat.add_zero] at hidxm
    refine cut_at_path cfg reb hreb hb pos.path hm (fun _ => inner (items.eraseIdx pos.idx) (cs.eraseIdx pos.idx)) ?_ _ 1 hkm
      ?_ pos.path (pos.idx :: leftPath right) 0 lcap lits ((nodeAt?_inner_cons' hright' _).trans hlp1) (Nat.zero_le _)
      ?_ (fun hc => Caps.inner _ _ (Nat.le_trans (List.length_eraseIdx_le items pos.idx) hc.inner_items)
        (fun z hz => hc.inner_child z (List.mem_of_mem_eraseIdx hz))) _ rfl
    -- the three facts about the node: balance (`hbm'`), list (`hl`), saved slot (`hoff`)
    · rw [hdm]
      refine Bal.inner dm _ _ ?_ (fun z hz => hall z (List.mem_of_mem_eraseIdx hz))
      rw [List.length_eraseIdx_of_lt (ListFacts.lt_of_getElem? hl), List.length_eraseIdx_of_lt hi, hlen, Nat.add_sub_cancel,
        Nat.sub_add_cancel (Nat.succ_le_of_lt (Nat.lt_of_le_of_lt (Nat.zero_le _) hi))]
    · rw [toList_inner, toList_inner, t2, t1, hidxm, List.take_left' rfl, ListFacts.drop_length_succ]
    · rw [offsetOf_inner_cons' hright', hlp3, ListFacts.take_eraseIdx_self, hidxm, hprelen]; rfl
  | some res =>
    obtain ⟨left', y, cp⟩ := res
    obtain ⟨p1, p2, p3⟩ := (popLast_spec hbl).1 left' y cp hp
    obtain ⟨t1, t2⟩ := inter_set_pred cs items pos.idx left left' x y hl hx hlen p1
    have hcl : pos.idx < cs.length := ListFacts.lt_of_getElem? hl
    have hright' : (cs.set pos.idx left')[pos.idx + 1]? = some right := by
      rw [List.getElem?_set_ne (Nat.ne_of_lt (Nat.lt_succ_self _))]; exact hr
    have hleft' : (cs.set pos.idx left')[pos.idx]? = some left' := List.getElem?_set_self hcl
    have hszl : size left = size left' + 1 := by simp [size, p1]
    have hk' : idxOf (inner items cs) [] pos.idx = (preOf cs items pos.idx ++ toList left' ++ [y]).length := by
      rw [hidxm, hszl]; simp only [List.length_append, List.length_cons, List.length_nil, size, Nat.add_assoc]
    refine cut_at_path cfg reb hreb hb pos.path hm (fun _ => inner (items.set pos.idx y) (cs.set pos.idx left')) ?_ _ 1 hkm
      ?_ (pos.path ++ pos.idx :: cp) ((pos.idx + 1) :: leftPath right) 0 lcap lits
      ((nodeAt?_inner_cons' hright' _).trans hlp1) (Nat.zero_le _) ?_
      (fun hc => Caps.inner _ _ (by simpa using hc.inner_items)
        (ListFacts.forall_mem_set hc.inner_child pos.idx (p3 _ (hc.getElem hl)))) _ rfl
    · rw [hdm]
      exact Bal.inner dm _ _ (by simpa using hlen) (ListFacts.forall_mem_set hall pos.idx p2)
    · have e : preOf cs items pos.idx ++ toList left' ++ y :: x :: inter (cs.drop (pos.idx + 1)) (items.drop (pos.idx + 1)) =
          (preOf cs items pos.idx ++ toList left' ++ [y]) ++ x :: inter (cs.drop (pos.idx + 1)) (items.drop (pos.idx + 1)) := by
        simp
      rw [toList_inner, toList_inner, t2, t1, hk', e, List.take_left' rfl, ListFacts.drop_length_succ]
      simp
    · rw [offsetOf_inner_cons' hright', hlp3, sum_take_succ _ _ left' hleft', List.take_set_of_le (Nat.le_refl _), hidxm,
        hprelen, hszl]
      omega

theorem removeAtG_spec (cfg : Cfg) (reb : Node α → List Nat → List Nat → Node α × List Nat) (hreb : RebOK cfg reb)
    {d : Nat} {r : Node α} (hb : Bal d r) (pos : Pos)
    (hv : ValidElem r pos.path pos.idx) :
    toList (removeAtG reb r pos).1 = (toList r).eraseIdx (idxOf r pos.path pos.idx) ∧
    (∃ d', Bal d' (removeAtG reb r pos).1) ∧
    idxOf (removeAtG reb r pos).1 (removeAtG reb r pos).2.path (removeAtG reb r pos).2.idx = idxOf r pos.path pos.idx ∧
    ValidPos (removeAtG reb r pos).1 (removeAtG reb r pos).2 ∧
    (Caps cfg.maxCap r → Caps cfg.maxCap (removeAtG reb r pos).1) := by
  obtain ⟨m, hm, hi⟩ := hv
  cases m with
  | leaf cap items => exact removeAtG_leaf_spec cfg reb hreb hb pos cap items hm (by simpa [Node.count] using hi)
  | inner items cs => exact removeAtG_inner_spec cfg reb hreb hb pos items cs hm (by simpa [Node.count] using hi)

/-- `pvRemove(iter)` for any element position -/
theorem removeAt_spec (cfg : Cfg) {d : Nat} {r : Node α} (hb : Bal d r) (pos : Pos)
    (hv : ValidElem r pos.path pos.idx) :
    toList (removeAt cfg r pos).1 = (toList r).eraseIdx (idxOf r pos.path pos.idx) ∧
    (∃ d', Bal d' (removeAt cfg r pos).1) ∧
    idxOf (removeAt cfg r pos).1 (removeAt cfg r pos).2.path (removeAt cfg r pos).2.idx = idxOf r pos.path pos.idx ∧
    ValidPos (removeAt cfg r pos).1 (removeAt cfg r pos).2 ∧
    (Caps cfg.maxCap r → Caps cfg.maxCap (removeAt cfg r pos).1) := by
  rw [removeAt_eq_G]; exact removeAtG_spec cfg _ (rebOK_rebalance cfg true) hb pos hv

end Momo.BTree
