import Momo.Proof.PoolAllocOwn
/-!
  C20, layer C: what a call that only allocates and frees, copy construction, move construction, move assignment, swap and copy
  assignment do to pools and blocks: the `*_spec` lemmas, statements about any `cs'` with `COutcome cs op cs'` that ended without
  error. (`splice_spec` in PoolAllocRoute has another shape: it computes `cstep` and also says that the call is legal.)
-/
namespace Momo.PoolAlloc

theorem copyConstruct_spec {cs cs' : CSys} (hc : CInv cs) (h0 : cs.sys.err = none) {d c : Nat} {cls : Cls} {cb : Nat}
    {acts : List Act} (h : COutcome cs (.copyConstruct d c cls cb acts) cs') (hok : cs'.sys.err = none) :
    (⟨d, cs.sys.pools.length⟩ : Ent) ∈ cs'.ents ∧
    (∀ e ∈ cs.ents, e.pid ≠ cs.sys.pools.length ∧ e.eid ≠ d ∧ e ∈ cs'.ents) ∧
    (∀ (j : Nat) (st : PoolSt), cs.sys.pools[j]? = some st → cs'.sys.pools[j]? = some st) ∧
    (∀ b ∈ cs.sys.blocks, b ∈ cs'.sys.blocks ∧ cs'.own b.id = cs.own b.id) ∧
    (∀ b ∈ cs'.sys.blocks, b ∈ cs.sys.blocks ∨ (b.pid = cs.sys.pools.length ∧ cs'.own b.id = d)) ∧
    (∀ x : Base, x.pid ≠ cs.sys.pools.length → (x ∈ cs'.sys.base ↔ x ∈ cs.sys.base)) := by
  cases h with
  | illegal => exact absurd hok (cfail_err _)
  | copyConstruct _ hfresh =>
    have hsys1 : step cs.sys (.anew cls cb) = doNew cs.sys cls cb := step_of_err_none h0 _
    have hfr := (actSteps_cinv_frame (newAlloc_cinv hc h0 d cls cb hfresh) (by rw [hsys1]; exact h0)
      (en := ⟨d, cs.sys.pools.length⟩) List.mem_cons_self acts hok).2
    have hents := actSteps_ents d cs.sys.pools.length
      { cs with sys := step cs.sys (.anew cls cb), ents := ⟨d, cs.sys.pools.length⟩ :: cs.ents } acts
    refine ⟨by rw [hents]; exact List.mem_cons_self, ?_, ?_, ?_, ?_, ?_⟩
    · intro e he
      exact ⟨Nat.ne_of_lt (ent_pid_lt hc he), hfresh e he, by rw [hents]; exact List.mem_cons_of_mem _ he⟩
    · intro j st hst
      have hj : j < cs.sys.pools.length := (List.getElem?_eq_some_iff.mp hst).1
      rw [hfr.pools j (Nat.ne_of_lt hj)]
      simp only [hsys1, doNew]
      exact ListFacts.getElem?_append_some hst
    · intro b hb
      obtain ⟨x, hx, hx1, _⟩ := hc.owned b hb
      exact hfr.keep b (by rw [hsys1]; exact hb) (by rw [← hx1]; exact hfresh x hx)
    · intro b hb
      rcases hfr.fresh b hb with ⟨hb1, _⟩ | h
      · left; rw [hsys1] at hb1; exact hb1
      · right; exact h
    · intro x hx
      rw [hfr.base x hx]
      simp only [hsys1, doNew, List.mem_cons]
      exact ⟨fun h => h.resolve_left (fun e => hx (e ▸ rfl)), Or.inr⟩

theorem moveConstruct_spec {cs cs' : CSys} (h0 : cs.sys.err = none) {d c : Nat} (h : COutcome cs (.moveConstruct d c) cs')
    (hok : cs'.sys.err = none) :
    ∃ ce, ce ∈ cs.ents ∧ ce.eid = c ∧ (⟨d, ce.pid⟩ : Ent) ∈ cs'.ents ∧ ce ∈ cs'.ents ∧
      cs'.sys.blocks = cs.sys.blocks ∧ cs'.sys.base = cs.sys.base ∧
      (∀ i, cs.own i = c → cs'.own i = d) ∧ (∀ i, cs.own i ≠ c → cs'.own i = cs.own i) := by
  cases h with
  | illegal => exact absurd hok (cfail_err _)
  | @moveConstruct _ ce hce _ =>
    obtain ⟨st, st', hblocks, hbase, _⟩ := acopy_effect (step_outcome h0 _) hok
    exact ⟨ce, hce, rfl, List.mem_cons_self, List.mem_cons_of_mem _ hce, hblocks, hbase,
      fun i hi => if_pos hi, fun i hi => if_neg hi⟩

theorem moveAssign_spec {cs cs' : CSys} (hc : CInv cs) (h0 : cs.sys.err = none) {d c : Nat} {acts : List Act}
    (h : COutcome cs (.moveAssign d c acts) cs') (hok : cs'.sys.err = none) :
    ∃ de ce, de ∈ cs.ents ∧ de.eid = d ∧ ce ∈ cs.ents ∧ ce.eid = c ∧ d ≠ c ∧
      (⟨d, ce.pid⟩ : Ent) ∈ cs'.ents ∧ ce ∈ cs'.ents ∧
      (∀ b ∈ cs.sys.blocks, cs.own b.id = c → b ∈ cs'.sys.blocks ∧ cs'.own b.id = d ∧ b.pid = ce.pid) ∧
      (∀ b ∈ cs'.sys.blocks, cs'.own b.id ≠ c) ∧
      (∀ b ∈ cs.sys.blocks, cs.own b.id = d → b ∉ cs'.sys.blocks) ∧
      (∀ b ∈ cs.sys.blocks, cs.own b.id ≠ d → cs.own b.id ≠ c → b ∈ cs'.sys.blocks ∧ cs'.own b.id = cs.own b.id) := by
  cases h with
  | illegal | moveAssignFail => exact absurd hok (cfail_err _)
  | @moveAssign de ce hde hce hne _ h01 hnone =>
    have hno := ownsNone_iff.mp hnone
    have hfr := (actSteps_cinv_frame hc h0 hde acts h01).2
    have hblocks : (step (step (acts.foldl (actStep de.eid de.pid) cs).sys (.acopy ce.pid)) (.adrop de.pid)).blocks
        = (acts.foldl (actStep de.eid de.pid) cs).sys.blocks := by rw [step_adrop_blocks, step_acopy_blocks]
    refine ⟨de, ce, hde, rfl, hce, rfl, hne, List.mem_cons_self, ?_, ?_, ?_, ?_, ?_⟩
    · exact List.mem_cons_of_mem _ (List.mem_filter.mpr ⟨hce, by simpa using fun h : ce.eid = de.eid => hne h.symm⟩)
    · intro b hb hoc
      obtain ⟨hb1, ho1⟩ := hfr.keep b hb (by rw [hoc]; exact fun h => hne h.symm)
      refine ⟨by simp only; rw [hblocks]; exact hb1, by simp only [ho1, hoc, if_true], ?_⟩
      obtain ⟨x, hx, hx1, hx2⟩ := hc.owned b hb
      rw [← hx2, ListFacts.key_inj (·.eid) hc.nodupE hx hce (hx1.trans hoc)]
    · intro b hb
      simp only
      split
      · exact hne
      · assumption
    · intro b hb hod hb'
      simp only at hb'
      rw [hblocks] at hb'
      rcases hfr.fresh b hb' with ⟨_, ho⟩ | ⟨_, ho⟩
      · exact hno b hb' (ho.trans hod)
      · exact hno b hb' ho
    · intro b hb hnd hnc
      obtain ⟨hb1, ho1⟩ := hfr.keep b hb hnd
      exact ⟨by simp only; rw [hblocks]; exact hb1, by simp only [ho1, hnc, if_false]⟩

theorem swap_spec {cs cs' : CSys} {d c : Nat} (h : COutcome cs (.swap d c) cs') (hok : cs'.sys.err = none) :
    ∃ de ce, de ∈ cs.ents ∧ de.eid = d ∧ ce ∈ cs.ents ∧ ce.eid = c ∧
      (⟨d, ce.pid⟩ : Ent) ∈ cs'.ents ∧ (⟨c, de.pid⟩ : Ent) ∈ cs'.ents ∧ cs'.sys = cs.sys ∧
      (∀ i, cs.own i = c → cs'.own i = d) ∧ (∀ i, cs.own i = d → cs'.own i = c) ∧
      (∀ i, cs.own i ≠ c → cs.own i ≠ d → cs'.own i = cs.own i) := by
  cases h with
  | illegal => exact absurd hok (cfail_err _)
  | @swap de ce hde hce =>
    refine ⟨de, ce, hde, rfl, hce, rfl, ?_, ?_, rfl, ?_, ?_, ?_⟩
    · exact List.mem_map.mpr ⟨ce, hce, by simp [swapName]⟩
    · exact List.mem_map.mpr ⟨de, hde, by simp [swapName]⟩
    · intro i hi; simp [swapName, hi]
    · intro i hi; simp [swapName, hi]
    · intro i h1 h2; simp [swapName, h1, h2]

theorem mutate_spec {cs cs' : CSys} (hc : CInv cs) (h0 : cs.sys.err = none) {e : Nat} {acts : List Act}
    (h : COutcome cs (.mutate e acts) cs') (hok : cs'.sys.err = none) :
    ∃ en ∈ cs.ents, en.eid = e ∧ Frame e en.pid cs cs' ∧ cs'.ents = cs.ents := by
  cases h with
  | illegal => exact absurd hok (cfail_err _)
  | @mutate en hen => exact ⟨en, hen, rfl, (actSteps_cinv_frame hc h0 hen acts hok).2, actSteps_ents _ _ _ _⟩

theorem copyAssign_spec {cs cs' : CSys} (hc : CInv cs) (h0 : cs.sys.err = none) {d c : Nat} {acts : List Act}
    (h : COutcome cs (.copyAssign d c acts) cs') (hok : cs'.sys.err = none) :
    ∃ de ∈ cs.ents, de.eid = d ∧ (∃ ce ∈ cs.ents, ce.eid = c) ∧ cs'.ents = cs.ents ∧ Frame d de.pid cs cs' := by
  cases h with
  | illegal => exact absurd hok (cfail_err _)
  | @copyAssign de ce hde hce =>
    exact ⟨de, hde, rfl, ⟨ce, hce, rfl⟩, actSteps_ents _ _ _ _, (actSteps_cinv_frame hc h0 hde acts hok).2⟩

end Momo.PoolAlloc
