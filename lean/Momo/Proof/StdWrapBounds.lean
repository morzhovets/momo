import Momo.Model.StdWrap
/-!
  `lb` / `ub` (the searches of the native tree; C06, section 3 of `Model/StdWrap.lean`) on a sorted item sequence count the keys below `k` / not above `k`
  (`lt_lb_iff`, `lt_ub_iff`); everything the wrappers test about a position follows from that.
  "The key `k` is present" is written `lb k xs < ub k xs` in the statements about sorted sequences (`present_iff`); the element with the key is then the one
  at `lb k xs` (`keyAt_lb_present`). The unordered files write `hasKey k xs = true`.
  Suffixes in the `StdWrap*` / `StdW*` files: `_multi` / `_unique` = what a function computes with equivalent keys allowed / with distinct keys, in terms of
  `lb`, `ub`, `clamp` (the normal form on which wrapper and specification meet); `_bounds` = such a normal form where the regime plays no part; `_eq` = two
  functions agree (mostly a wrapper operation and the `StdSpec` operation); `_rel` = the operation respects "equal up to the order of the table" (unordered
  containers); `_sorted` = the operation keeps `SortedK`.
-/
namespace Momo.StdWrap
open List

@[simp] theorem keyAt_cons_zero (e : Item) (t : List Item) : keyAt (e :: t) 0 = e.1 := rfl
@[simp] theorem keyAt_cons_succ (e : Item) (t : List Item) (i : Nat) : keyAt (e :: t) (i+1) = keyAt t i := rfl

theorem keyAt_eq (xs : List Item) (i : Nat) (h : i < xs.length) : keyAt xs i = xs[i].1 := by
  rw [keyAt, getElem?_eq_getElem h, Option.getD_some]

theorem keyAt_mem (xs : List Item) (i : Nat) (h : i < xs.length) : ∃ e ∈ xs, e.1 = keyAt xs i :=
  ⟨xs[i], getElem_mem h, (keyAt_eq xs i h).symm⟩

theorem lb_le_length (k : Nat) (xs : List Item) : lb k xs ≤ xs.length := by
  fun_induction lb k xs with
  | case1 => exact Nat.le_refl _
  | case2 _ _ _ ih => exact Nat.succ_le_succ ih
  | case3 => exact Nat.zero_le _

theorem ub_eq_lb_succ (k : Nat) (xs : List Item) : ub k xs = lb (k + 1) xs := by
  induction xs with
  | nil => rfl
  | cons e t ih =>
    rw [ub, lb, ih]
    by_cases h : k < e.1
    · rw [if_pos h, if_neg (Nat.not_lt.mpr h)]
    · rw [if_neg h, if_pos (Nat.lt_succ_of_le (Nat.le_of_not_lt h))]

theorem ub_le_length (k : Nat) (xs : List Item) : ub k xs ≤ xs.length :=
  ub_eq_lb_succ k xs ▸ lb_le_length (k + 1) xs

theorem lb_le_ub (k : Nat) (xs : List Item) : lb k xs ≤ ub k xs := by
  fun_induction lb k xs with
  | case1 => exact Nat.le_refl _
  | case2 e t h1 ih => rw [ub, if_neg (Nat.lt_asymm h1)]; exact Nat.succ_le_succ ih
  | case3 => exact Nat.zero_le _

theorem lt_lb_iff {k : Nat} {xs : List Item} (hs : Sorted xs) {i : Nat} :
    i < lb k xs ↔ i < xs.length ∧ keyAt xs i < k := by
  fun_induction lb k xs generalizing i with
  | case1 => exact ⟨fun h => absurd h (Nat.not_lt_zero _), fun h => absurd h.1 (Nat.not_lt_zero _)⟩
  | case2 e t h1 ih =>
    cases i with
    | zero => exact ⟨fun _ => ⟨Nat.succ_pos _, h1⟩, fun _ => Nat.succ_pos _⟩
    | succ j =>
      rw [keyAt_cons_succ, length_cons, Nat.succ_lt_succ_iff, Nat.succ_lt_succ_iff]; exact ih (pairwise_cons.mp hs).2
  | case3 e t h1 =>
    -- everything behind `e` has a key that is not below `e`'s, hence not below `k`
    refine ⟨fun h => absurd h (Nat.not_lt_zero _), fun ⟨hl, hk⟩ => ?_⟩
    cases i with
    | zero => exact absurd hk h1
    | succ j =>
      obtain ⟨x, hx, hxe⟩ := keyAt_mem t j (Nat.lt_of_succ_lt_succ hl)
      rw [keyAt_cons_succ, ← hxe] at hk
      exact absurd (Nat.lt_of_le_of_lt ((pairwise_cons.mp hs).1 x hx) hk) h1

theorem lt_ub_iff {k : Nat} {xs : List Item} (hs : Sorted xs) {i : Nat} :
    i < ub k xs ↔ i < xs.length ∧ keyAt xs i ≤ k := by
  rw [ub_eq_lb_succ, lt_lb_iff hs, Nat.lt_succ_iff]

theorem StrictSorted.sorted {xs : List Item} (h : StrictSorted xs) : Sorted xs :=
  Pairwise.imp (fun h => Nat.le_of_lt h) h

theorem keyAt_lb_present (xs : List Item) (hs : Sorted xs) (k : Nat) (h : lb k xs < ub k xs) :
    keyAt xs (lb k xs) = k := by
  obtain ⟨hl, hle⟩ := (lt_ub_iff hs).mp h
  exact Nat.le_antisymm hle (Nat.le_of_not_lt fun hlt => Nat.lt_irrefl _ ((lt_lb_iff hs).mpr ⟨hl, hlt⟩))

theorem present_iff (xs : List Item) (hs : Sorted xs) (k : Nat) :
    lb k xs < ub k xs ↔ ∃ e ∈ xs, e.1 = k := by
  constructor
  · intro h
    obtain ⟨e, he, hk⟩ := keyAt_mem xs (lb k xs) ((lt_ub_iff hs).mp h).1
    exact ⟨e, he, hk.trans (keyAt_lb_present xs hs k h)⟩
  · intro ⟨e, he, hk⟩
    obtain ⟨j, hj, rfl⟩ := mem_iff_getElem.mp he
    rw [← keyAt_eq xs j hj] at hk
    exact Nat.lt_of_le_of_lt (Nat.le_of_not_lt fun h => Nat.not_lt.mpr (Nat.le_of_eq hk.symm) ((lt_lb_iff hs).mp h).2)
      ((lt_ub_iff hs).mpr ⟨hj, Nat.le_of_eq hk⟩)

theorem ub_le_lb_succ (xs : List Item) (hs : StrictSorted xs) (k : Nat) : ub k xs ≤ lb k xs + 1 := by
  have hsr := hs.sorted
  apply Decidable.byContradiction; intro hn
  obtain ⟨hl, h1⟩ := (lt_ub_iff hsr).mp (Nat.lt_of_not_le hn)
  have h0 : lb k xs < xs.length := Nat.lt_of_succ_lt hl
  have h2 : k ≤ keyAt xs (lb k xs) := Nat.le_of_not_lt fun hlt => Nat.lt_irrefl _ ((lt_lb_iff hsr).mpr ⟨h0, hlt⟩)
  have := pairwise_iff_getElem.mp hs (lb k xs) (lb k xs + 1) h0 hl (Nat.lt_succ_self _)
  rw [← keyAt_eq, ← keyAt_eq] at this
  omega

end Momo.StdWrap
