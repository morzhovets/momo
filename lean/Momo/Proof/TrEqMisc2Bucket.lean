import Momo.Translated.Misc
import Momo.Proof.Word64
import Momo.Proof.MMapArr
/-!
  C08: the state-byte and sizing arithmetic of `internal::ArrayBucket` (the value array of `HashMultiMap`) as translated from
  details/ArrayBucket.h (area Misc, lean/Momo/Translated/Misc.lean) is the arithmetic of the model `Momo/Model/MMap.lean`; `VArr.addBack` /
  `VArr.removeBack` are restated with the translated pieces (`addBack_translated`, `removeBack_translated`).
  An equation is named `tr_<model function>` where the model has a function of its own (`tr_mkState`, `tr_statePool`, `tr_stateCount`), else
  after the last part of the translated name (`tr_incState` for `Tr.ab_AddBack_incState`).
  The generated definitions are rewritten by tools/translate.py from the current headers on every check; a changed function body makes the
  equalities below fail to elaborate.
-/
namespace Momo.TrEq
open Momo Momo.Seg Momo.MMap

/-- `pvMakeState(memPoolIndex, count)`: the 64-bit wrap of `memPoolIndex << 4` is invisible in the low byte — no hypothesis -/
theorem tr_mkState (pool count : Nat) : Tr.ab_pvMakeState pool count = mkState pool count := by
  unfold Tr.ab_pvMakeState mkState toByte shl64
  simp only [Extracted.abStateShift]
  have e : (256 : Nat) = 2 ^ 8 := by decide
  rw [e, Nat.or_mod_two_pow, Nat.or_mod_two_pow, w64_eq, Nat.mod_mod_of_dvd _ (Nat.pow_dvd_pow 2 (by decide : 8 ≤ 64))]

theorem tr_statePool (s : Nat) : Tr.ab_pvGetMemPoolIndex s = statePool s := rfl
theorem tr_stateCount (s : Nat) : Tr.ab_pvGetFastCount s = stateCount s := rfl
theorem tr_fastPoolIndex (count : Nat) : Tr.ab_pvGetFastMemPoolIndex count = count := rfl

/-- `pvSetState(pvGetState() + uint8_t{1})`: promoted to `int`, converted back to a byte -/
theorem tr_incState (s : Nat) : Tr.ab_AddBack_incState s = toByte (s + 1) := rfl

/-- `pvSetState(pvGetState() - uint8_t{1})`: `int` subtraction (possibly -1), converted back to a byte: the model's `+ 255` -/
theorem tr_decState (s : Nat) : Tr.ab_RemoveBack_decState s = toByte (s + 255) :=
  dec_byte s

theorem tr_heapCap (mf : Nat) (h : mf < 2 ^ 63) : Tr.ab_AddBack_heapCap mf = mf * Extracted.abHeapCapMul := by
  unfold Tr.ab_AddBack_heapCap
  exact mul64_of_lt (by omega)

theorem tr_shrinkCond (count cap : Nat) :
    (Tr.ab_RemoveBack_shrinkCond count cap = true) ↔ (Extracted.abShrinkMinCount < count ∧ count ≤ cap / Extracted.abShrinkDiv) := by
  unfold Tr.ab_RemoveBack_shrinkCond
  simp [Extracted.abShrinkMinCount, Extracted.abShrinkDiv]

theorem tr_shrinkCap (count : Nat) (h : count < 2 ^ 63) : Tr.ab_RemoveBack_shrinkCap count = count * Extracted.abShrinkMul :=
  tr_heapCap count h  -- both translate to `mul64 x 2`

/-- `ArrayBucket::AddBackCrt` (model `VArr.addBack`) with every piece of state / size arithmetic replaced by the code translated
    from the header (`maxFastCount < 2^63`; the header asserts `< 16`) -/
theorem addBack_translated (mf : Nat) (hmf : mf < 2 ^ 63) (a : VArr) (v : Nat) :
    VArr.addBack mf a v =
      match a.rep with
      | .none => ⟨.fast (Tr.ab_pvMakeState (Tr.ab_pvGetFastMemPoolIndex 1) 1), [v]⟩
      | .fast s =>
        if Tr.ab_pvGetFastCount s = Tr.ab_pvGetMemPoolIndex s then
          if Tr.ab_pvGetFastCount s + 1 ≤ mf then
            ⟨.fast (Tr.ab_pvMakeState (Tr.ab_pvGetFastMemPoolIndex (Tr.ab_pvGetFastCount s + 1)) (Tr.ab_pvGetFastCount s + 1)),
              a.items.take (Tr.ab_pvGetFastCount s) ++ [v]⟩
          else ⟨.heap (Tr.ab_AddBack_heapCap mf), a.items.take (Tr.ab_pvGetFastCount s) ++ [v]⟩
        else ⟨.fast (Tr.ab_AddBack_incState s), a.items.take (Tr.ab_pvGetFastCount s) ++ [v]⟩
      | .heap cap =>
        if a.items.length < cap then ⟨.heap cap, a.items ++ [v]⟩
        else ⟨.heap (growCap cap (a.items.length + 1)), a.items ++ [v]⟩ := by
  simp only [tr_mkState, tr_fastPoolIndex, tr_stateCount, tr_statePool, tr_incState, tr_heapCap mf hmf]
  rfl

/-- `ArrayBucket::RemoveBack` (model `VArr.removeBack`) with the translated state decrement and shrink rule -/
theorem removeBack_translated (a : VArr) (shrinkFails : Bool) (hlen : a.items.length < 2 ^ 63) :
    VArr.removeBack a shrinkFails =
      if a.count = 1 then VArr.empty
      else
        match a.rep with
        | .none => a
        | .fast s => ⟨.fast (Tr.ab_RemoveBack_decState s), a.items.take (Tr.ab_pvGetFastCount s - 1)⟩
        | .heap cap =>
          if Tr.ab_RemoveBack_shrinkCond a.items.length cap = true ∧ shrinkFails = false then
            ⟨.heap (shrinkCap cap (a.items.length - 1) (Tr.ab_RemoveBack_shrinkCap a.items.length)), a.items.dropLast⟩
          else ⟨.heap cap, a.items.dropLast⟩ := by
  simp only [tr_decState, tr_stateCount, tr_shrinkCond, tr_shrinkCap _ hlen, and_assoc]
  rfl

end Momo.TrEq
