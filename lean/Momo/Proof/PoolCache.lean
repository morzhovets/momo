import Momo.Proof.PoolOps
/-!
  State machine of `MemPool` (C09): the cache bookkeeping both kinds of pool share (`CacheOK`); for `blockCount > 1`
  `pvDeleteBlock(Byte*)`, the invariant `PoolWF` with the accounting (`allocCount` = number of live blocks), `Allocate`, and
  the memory manager's contract. `Deallocate` and the flush are proved for both kinds of pool at once in `PoolAny`.
-/
namespace Momo.Pool

theorem filter_not_mem_cons {α : Type} [DecidableEq α] {l : List α} (hl : l.Nodup) (c : α) (cs : List α) (hc : c ∈ l)
    (hcs : c ∉ cs) : (l.filter (fun x => !cs.contains x)).Perm (c :: l.filter (fun x => !(c :: cs).contains x)) := by
  apply filter_flip l c _ _ hl hc
  · simp
  · simpa using hcs
  · intro x hx; simp [hx]

theorem length_filter_not_mem {α : Type} [DecidableEq α] {l : List α} (hl : l.Nodup) :
    ∀ (cs : List α), cs.Nodup → (∀ c ∈ cs, c ∈ l) →
    (l.filter (fun x => !cs.contains x)).length + cs.length = l.length := by
  intro cs
  induction cs with
  | nil => intro _ _; simp
  | cons c cs ih =>
    intro hnd hsub
    have h1 := (filter_not_mem_cons hl c cs (hsub c (by simp)) (List.nodup_cons.mp hnd).1).length_eq
    have h2 := ih (List.nodup_cons.mp hnd).2 (fun x hx => hsub x (by simp [hx]))
    simp only [List.length_cons] at h1 ⊢
    omega

theorem filter_not_mem_of_perm_append {α : Type} [DecidableEq α] {l cs t : List α} (hl : l.Nodup)
    (hp : l.Perm (cs ++ t)) : (l.filter (fun x => !cs.contains x)).Perm t := by
  have hnd := List.nodup_append.mp (hp.nodup_iff.mp hl)
  refine (hp.filter _).trans ?_
  rw [List.filter_append, List.filter_eq_nil_iff.mpr (fun x hx => by simp [hx]),
    List.filter_eq_self.mpr (fun x hx => by simpa using fun hm => hnd.2.2 x hm x hx rfl)]
  rfl

/-- the cache bookkeeping both kinds of pool share: `B` = the blocks the buffers hand out, or the recorded single blocks;
    the live blocks are `B.filter (fun x => !cache.contains x)` -/
structure CacheOK (B cache : List Int) (n : Nat) : Prop where
  nodup : cache.Nodup
  sub : ∀ c ∈ cache, c ∈ B
  count : n + cache.length = B.length

theorem CacheOK.count_exact {B cache : List Int} {n : Nat} (h : CacheOK B cache n) (hB : B.Nodup) :
    n = (B.filter (fun x => !cache.contains x)).length := by
  have := length_filter_not_mem hB cache h.nodup h.sub
  have := h.count
  omega

theorem CacheOK.pop {B cs : List Int} {c : Int} {n : Nat} (h : CacheOK B (c :: cs) n) (hB : B.Nodup) :
    CacheOK B cs (n + 1) ∧ c ∉ B.filter (fun x => !(c :: cs).contains x) ∧
      (B.filter (fun x => !cs.contains x)).Perm (c :: B.filter (fun x => !(c :: cs).contains x)) := by
  have hnd := List.nodup_cons.mp h.nodup
  refine ⟨⟨hnd.2, fun x hx => h.sub x (List.mem_cons_of_mem _ hx), ?_⟩, by simp,
    filter_not_mem_cons hB c cs (h.sub c List.mem_cons_self) hnd.1⟩
  have := h.count; simp only [List.length_cons] at this; omega

/-- `Deallocate` into the cache; the conjunct `n - 1 + 1 = n` says `0 < n` in the form the count clauses use (`allocCount` is
    decremented in `Nat`) -/
theorem CacheOK.push {B cache : List Int} {blk : Int} {n : Nat} (h : CacheOK B cache n) (hB : B.Nodup)
    (hb : blk ∈ B.filter (fun x => !cache.contains x)) :
    CacheOK B (blk :: cache) (n - 1) ∧ n - 1 + 1 = n ∧
      (B.filter (fun x => !cache.contains x)).Perm (blk :: B.filter (fun x => !(blk :: cache).contains x)) := by
  have hn := h.count_exact hB
  have hpos : 0 < (B.filter (fun x => !cache.contains x)).length := List.length_pos_of_mem hb
  obtain ⟨hbB, hbC⟩ := List.mem_filter.mp hb
  have hbC : blk ∉ cache := by simpa using hbC
  refine ⟨⟨List.nodup_cons.mpr ⟨hbC, h.nodup⟩, ?_, ?_⟩, by omega, filter_not_mem_cons hB blk cache hbB hbC⟩
  · intro c hc
    rcases List.mem_cons.mp hc with rfl | hc
    · exact hbB
    · exact h.sub c hc
  · have := h.count; simp only [List.length_cons]; omega

theorem CacheOK.grow {B B' : List Int} {blk : Int} {n : Nat} (h : CacheOK B [] n) (hp : B'.Perm (blk :: B)) :
    CacheOK B' [] (n + 1) := by
  refine ⟨List.nodup_nil, fun _ hc => (List.not_mem_nil hc).elim, ?_⟩
  have := h.count; have := hp.length_eq; simp only [List.length_cons, List.length_nil] at *; omega

/-- `n - 1 + 1 = n` as in `CacheOK.push` -/
theorem CacheOK.shrink {B B' : List Int} {blk : Int} {n : Nat} (h : CacheOK B [] n) (hp : B.Perm (blk :: B')) :
    CacheOK B' [] (n - 1) ∧ n - 1 + 1 = n := by
  have := h.count; have := hp.length_eq; simp only [List.length_cons, List.length_nil] at *
  exact ⟨⟨List.nodup_nil, fun _ hc => (List.not_mem_nil hc).elim, by simp only [List.length_nil]; omega⟩, by omega⟩

theorem CacheOK.flushed {B B' cache : List Int} {n : Nat} (h : CacheOK B cache n) (hp : B.Perm (cache ++ B')) :
    CacheOK B' [] n := by
  refine ⟨List.nodup_nil, fun _ hc => (List.not_mem_nil hc).elim, ?_⟩
  have := h.count; have := hp.length_eq; simp only [List.length_append, List.length_nil] at *; omega

/-- `MergeFrom`: the blocks `B'` of a pool without cache join `B` -/
theorem CacheOK.absorb {B B' cache : List Int} {n n' : Nat} (h : CacheOK B cache n) (h' : CacheOK B' [] n')
    (hdis : ∀ x ∈ B, x ∉ B') :
    CacheOK (B ++ B') cache (n + n') ∧
      (B ++ B').filter (fun x => !cache.contains x) = B.filter (fun x => !cache.contains x) ++ B' := by
  refine ⟨⟨h.nodup, fun c hc => List.mem_append_left _ (h.sub c hc), ?_⟩, ?_⟩
  · have := h.count; have := h'.count
    simp only [List.length_append, List.length_nil] at *; omega
  · rw [List.filter_append]
    refine congrArg _ (List.filter_eq_self.mpr fun x hx => ?_)
    have : x ∉ cache := fun hm => hdis x (h.sub x hm) hx
    simpa using this

theorem deleteBlock_eq_N {P : Params} (hN2 : 2 ≤ P.N) (p : Pool) (blk : Int) :
    deleteBlock P p blk = deleteBlockN P p blk := by
  unfold deleteBlock; rw [if_pos (by omega)]

/-- `pvDeleteBlock(Byte*)` (540-545) on a handed-out block -/
theorem deleteBlockN_ok {P : Params} {k : Int} (hM : Multi P k) (hN2 : 2 ≤ P.N) (hA2 : P.A ≤ 1024)
    {p : Pool} (h : CoreWF P p) (blk : Int) (hblk : blk ∈ p.taken P) :
    ∃ p' evs, deleteBlockN P p blk = .ok () p' evs ∧ FreeSpec P p p' blk evs := by
  have hN : 0 ≤ P.N := by omega
  obtain ⟨b, hb, hxb⟩ := (p.mem_taken P blk).mp hblk
  obtain ⟨i, hi, hli, hie⟩ := (mem_taken hN blk).mp hxb
  have hrec := (h.bufwf b hb).recover hM i hi
  have hal : blk % P.A = 0 := by rw [← hie]; exact hM.getBlock_aligned b.buf i ((h.bufwf b hb).ok hM).1.aligned
  unfold deleteBlockN
  rw [if_neg (by simpa using hal)]
  rw [← hie, hrec.1, hrec.2]
  obtain ⟨p', evs, h1, h2, _⟩ := deleteBlockAt_ok hM hN2 hA2 h hb i hi hli
  exact ⟨p', evs, h1, h2⟩

/-- what the events of `pvDeleteBlock` calls on a pool with `blockCount > 1` look like. Stated of no operation; it follows from
    `Frees (owned P st) evs M` by `Frees.events` -/
def FreesOnly (P : Params) (evs : List Ev) : Prop := ∀ e ∈ evs, ∃ a, e = .free a P.bufferSize

structure PoolWF (P : Params) (p : Pool) : Prop where
  core : CoreWF P p
  cacheNodup : p.cache.Nodup
  cacheTaken : ∀ c ∈ p.cache, c ∈ p.taken P
  cacheOff : P.useCache = false → p.cache = []
  count : p.allocCount + p.cache.length = (p.taken P).length
  singlesNil : p.singles = []

theorem PoolWF.empty (P : Params) : PoolWF P Pool.empty := by
  refine ⟨⟨?_, ?_, ?_, ?_, ?_, ?_⟩, ?_, ?_, ?_, ?_, ?_⟩ <;> simp [Pool.empty, bufs, Pool.taken]

theorem PoolWF.taken_nodup {P : Params} {k : Int} (hM : Multi P k) {p : Pool} (h : PoolWF P p) : (p.taken P).Nodup :=
  h.core.taken_nodup hM

theorem PoolWF.cacheOK {P : Params} {p : Pool} (h : PoolWF P p) : CacheOK (p.taken P) p.cache p.allocCount :=
  ⟨h.cacheNodup, h.cacheTaken, h.count⟩

/-- the blocks the layer below the cache has handed out. The test is the model's own in `Pool.live`, so that `live_blocks` holds
    by unfolding. -/
def Pool.blocks (P : Params) (p : Pool) : List Int := if P.N > 1 then p.taken P else p.singles.map (·.1)

theorem blocks_multi {P : Params} (hN2 : 2 ≤ P.N) (p : Pool) : p.blocks P = p.taken P := if_pos (by omega)

theorem blocks_single {P : Params} (hN1 : P.N = 1) (p : Pool) : p.blocks P = p.singles.map (·.1) := if_neg (by omega)

theorem live_blocks (P : Params) (p : Pool) : p.live P = (p.blocks P).filter (fun x => !p.cache.contains x) := by
  unfold Pool.live Pool.blocks; split <;> rfl

theorem live_of_no_cache (P : Params) {p : Pool} (hc : p.cache = []) : p.live P = p.blocks P := by
  rw [live_blocks, hc]; exact List.filter_eq_self.mpr fun _ _ => rfl

theorem live_eq {P : Params} (hN2 : 2 ≤ P.N) (p : Pool) :
    p.live P = (p.taken P).filter (fun x => !p.cache.contains x) := by
  rw [live_blocks, blocks_multi hN2]

theorem live_empty (P : Params) : Pool.empty.live P = [] := by
  unfold Pool.live Pool.taken Pool.empty; split <;> rfl

theorem live_of_cache_nil {P : Params} (hN2 : 2 ≤ P.N) {p : Pool} (hc : p.cache = []) : p.live P = p.taken P := by
  rw [live_of_no_cache P hc, blocks_multi hN2]

theorem PoolWF.count_exact {P : Params} {k : Int} (hM : Multi P k) (hN2 : 2 ≤ P.N) {p : Pool} (h : PoolWF P p) :
    p.allocCount = (p.live P).length := by
  rw [live_eq hN2]; exact h.cacheOK.count_exact (h.taken_nodup hM)

structure AllocateSpec (P : Params) (p p' : Pool) (blk : Int) (evs : List Ev) : Prop where
  wf : PoolWF P p'
  fresh : blk ∉ p.live P
  live : (p'.live P).Perm (blk :: p.live P)
  count : p'.allocCount = p.allocCount + 1
  block : ∃ b ∈ p'.store, ∃ i, (b.first ≤ i ∧ i < b.first + P.N) ∧ blk = getBlock P b.buf i
  ledger : LedgerOK P p.store evs p'.store

/-- **`Allocate` (285-306), `blockCount > 1`.** The manager's contract enters as `OrcOK` (the new buffer pointer is no old one),
    which is what the proof uses; from the contract in terms of address ranges (`Contract`) it follows by `orcOK_of_disjoint`. -/
theorem allocate_ok {P : Params} {k : Int} (hM : Multi P k) (hN2 : 2 ≤ P.N) {p : Pool} (h : PoolWF P p)
    {orc : Oracle} (horc : OrcOK P p orc) :
    match allocate P p orc with
    | .ok blk p' evs => AllocateSpec P p p' blk evs ∧ AllocEvents orc P.bufferSize evs
    | .badAlloc p' evs => p' = p ∧ evs = [] ∧ orc 0 = none
    | .stuck _ => False := by
  have hN : 0 ≤ P.N := by omega
  unfold allocate
  cases hc : (if P.useCache = true then p.cache else []) with
  | cons c cs =>
    -- a cached block is handed out again
    have huse : P.useCache = true := by
      by_cases hu : P.useCache = true
      · exact hu
      · rw [if_neg hu] at hc; cases hc
    rw [if_pos huse] at hc
    simp only [Outcome.bind]
    obtain ⟨hok, hfresh, hperm⟩ := (hc ▸ h.cacheOK).pop (h.taken_nodup hM)
    obtain ⟨b, hb, hxb⟩ := (p.mem_taken P c).mp (h.cacheTaken c (hc ▸ List.mem_cons_self))
    obtain ⟨i, hi, _, hie⟩ := (mem_taken hN c).mp hxb
    exact ⟨⟨⟨h.core.congr rfl rfl rfl, hok.nodup, hok.sub, fun e => Bool.noConfusion (huse.symm.trans e), hok.count, h.singlesNil⟩,
      by rw [live_eq hN2, hc]; exact hfresh, by rw [live_eq hN2, live_eq hN2, hc]; exact hperm, rfl,
      ⟨b, hb, i, hi, hie.symm⟩, LedgerOK.nil rfl⟩, Or.inl rfl⟩
  | nil =>
    have hcnil : p.cache = [] := by
      by_cases hu : P.useCache = true
      · rwa [if_pos hu] at hc
      · exact h.cacheOff (Bool.not_eq_true _ ▸ hu)
    simp only
    rw [if_pos (by omega : P.N > 1)]
    have hnb := newBlock_ok hM hN2 h.core horc
    cases hres : newBlock P p orc with
    | stuck w => rw [hres] at hnb; exact hnb.elim
    | badAlloc p' evs => rw [hres] at hnb; exact hnb
    | ok blk p' evs =>
      rw [hres] at hnb
      obtain ⟨hnb, hev⟩ := hnb
      simp only [Outcome.bind]
      obtain ⟨hc1, ha1, hs1⟩ := hnb.same
      have hc1' : p'.cache = [] := hc1.trans hcnil
      have hok : CacheOK (p'.taken P) p'.cache (p'.allocCount + 1) := by
        rw [hc1', ha1]; exact (hcnil ▸ h.cacheOK).grow hnb.perm
      have hlive := live_of_cache_nil hN2 hcnil
      refine ⟨⟨⟨hnb.wf.congr rfl rfl rfl, hok.nodup, hok.sub, fun _ => hc1', hok.count, hs1.trans h.singlesNil⟩,
        hlive ▸ hnb.fresh, ?_, congrArg (· + 1) ha1, hnb.block, by simpa using hnb.ledgerOK⟩, by rwa [List.append_nil]⟩
      rw [hlive, live_of_cache_nil hN2 (p := { p' with allocCount := p'.allocCount + 1 }) hc1']
      exact hnb.perm

/-- what `Deallocate` promises (`deallocate_ok`, PoolAny: `Deallocate` is proved for both kinds of pool at once) -/
structure DeallocSpec (P : Params) (p p' : Pool) (blk : Int) (evs : List Ev) : Prop where
  wf : PoolWF P p'
  live : (p.live P).Perm (blk :: p'.live P)
  count : p'.allocCount + 1 = p.allocCount
  ledger : LedgerOK P p.store evs p'.store

/-- the memory manager's contract in terms of address ranges for `blockCount > 1`: aligned as the pool assumes, and not
    overlapping memory the pool holds. Its siblings: `Contract1` (`blockCount == 1`), `WContract` (a world of pools sharing
    managers; it implies the two by `WContract.multi` / `.single`), `ContractU` (`MemPoolUInt32`). -/
def Contract (P : Params) (p : Pool) (orc : Oracle) : Prop :=
  ∀ j base, orc j = some base → P.allocAlign ∣ base ∧
    ∀ b ∈ p.store, base + P.bufferSize ≤ b.base ∨ b.base + P.bufferSize ≤ base

theorem orcOK_of_disjoint {P : Params} {k : Int} (hM : Multi P k) (hA2 : P.A ≤ 1024) {p : Pool} (h : CoreWF P p)
    (orc : Oracle) (hc : Contract P p orc) : OrcOK P p orc := by
  intro j base hj
  obtain ⟨hal, hdis⟩ := hc j base hj
  refine ⟨hal, fun hm => ?_⟩
  obtain ⟨b, hb, hbe⟩ := List.mem_map.mp hm
  exact (fresh_wf hM base hal).1.buf_ne hM hA2 (h.bufwf b hb) (hdis b hb) hbe.symm

end Momo.Pool
