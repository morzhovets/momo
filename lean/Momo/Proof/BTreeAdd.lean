import Momo.Proof.BTreeIter
/-!
  C02, insertion at a position: `pvAdd` (in place, `pvAddGrow`, `pvAddSplit` with cascading split and a new root)
  refines `List.insertIdx` at the in-order index of the iterator; structure and capacities are preserved; the returned
  iterator denotes the new element. What insertion at a node can do is stated once (`addLeaf_cases`, `addInner_cases`: in
  place, regrown, or cut as `cutLeaf` / `cutInner`, whose lemmas hold for any capacities of the two halves). Core Lean only.
-/
namespace Momo.BTree
open Node
variable {α : Type}

theorem inter_cut (cs : List (Node α)) (is : List α) (m : Nat) (sep : α) (hlen : cs.length = is.length + 1)
    (hm : is[m]? = some sep) :
    inter (cs.take (m+1)) (is.take m) ++ sep :: inter (cs.drop (m+1)) (is.drop (m+1)) = inter cs is := by
  induction cs generalizing is m with
  | nil => simp at hlen
  | cons c cs ih =>
    cases is with
    | nil => simp at hm
    | cons s is' =>
      cases m with
      | zero =>
        simp at hm; subst hm
        cases cs with
        | nil => simp at hlen
        | cons c1 cs' => simp
      | succ k =>
        have := ih is' k (by simpa using hlen) (by simpa using hm)
        simp only [List.take_succ_cons, List.drop_succ_cons, inter_cons_cons, List.append_assoc, List.cons_append]
        rw [this]

theorem idxOf_cut_left (cs : List (Node α)) (is : List α) (m j : Nat) (q : List Nat) (i : Nat) (hj : j ≤ m) :
    idxOf (inner (is.take m) (cs.take (m+1))) (j :: q) i = idxOf (inner is cs) (j :: q) i := by
  have h1 : (cs.take (m+1)).take j = cs.take j := by rw [List.take_take]; congr 1; omega
  have h2 : (cs.take (m+1))[j]? = cs[j]? := by rw [List.getElem?_take]; simp <;> omega
  simp only [idxOf_inner_cons, h1, h2]

theorem idxOf_cut_right (cs : List (Node α)) (is : List α) (m j : Nat) (q : List Nat) (i : Nat)
    (hj : m < j) (hm : m < is.length) (hlen : cs.length = is.length + 1) :
    size (inner (is.take m) (cs.take (m+1))) + 1 + idxOf (inner (is.drop (m+1)) (cs.drop (m+1))) ((j - (m+1)) :: q) i =
      idxOf (inner is cs) (j :: q) i := by
  have h4 : (is.take m).length = m := by rw [List.length_take]; exact Nat.min_eq_left (Nat.le_of_lt hm)
  have hs := size_inner (is.take m) (cs.take (m+1)) (by rw [List.length_take, h4, Nat.min_eq_left (by omega)])
  have h1 := sum_take_split cs (m+1) (j - (m+1))
  have h2 : m + 1 + (j - (m+1)) = j := Nat.add_sub_cancel' hj
  rw [h2] at h1
  have h3 : (cs.drop (m+1))[j - (m+1)]? = cs[j]? := by rw [List.getElem?_drop, h2]
  simp only [idxOf_inner_cons, h3, hs, h1, h4]
  omega

/-- the result of an insertion below a node, read as a subtree: `toList`, `Bal`, `Caps` of `.ok n _` are those of `n`; a
    `.split l sep r` stands for the two halves with the separator between them (which the parent will take in). `PosValid`:
    the returned position names an element of the half it points into. -/
def AddRes.toList : AddRes α → List α
  | .ok n _ => Node.toList n
  | .split l s r _ _ => Node.toList l ++ s :: Node.toList r

/-- in-order index of the new element inside the result -/
def AddRes.posIdx : AddRes α → Nat
  | .ok n q => idxOf n q.path q.idx
  | .split l _ r right q => if right then size l + 1 + idxOf r q.path q.idx else idxOf l q.path q.idx

def AddRes.Bal (d : Nat) : AddRes α → Prop
  | .ok n _ => BTree.Bal d n
  | .split l _ r _ _ => BTree.Bal d l ∧ BTree.Bal d r

def AddRes.Caps (maxCap : Nat) : AddRes α → Prop
  | .ok n _ => BTree.Caps maxCap n
  | .split l _ r _ _ => BTree.Caps maxCap l ∧ BTree.Caps maxCap r

def AddRes.PosValid : AddRes α → Prop
  | .ok n q => ValidElem n q.path q.idx
  | .split l _ r right q => if right then ValidElem r q.path q.idx else ValidElem l q.path q.idx

theorem leafCap_bounds (cfg : Cfg) (ia count : Nat) (h : count ≤ cfg.maxCap) :
    count ≤ leafCap cfg ia count ∧ leafCap cfg ia count ≤ cfg.maxCap := by
  unfold leafCap
  split
  · exact ⟨h, Nat.le_refl _⟩
  · have h1 : cfg.step * min ((cfg.maxCap - count) / cfg.step) (lastLeafPool cfg) ≤ cfg.maxCap - count := by
      calc cfg.step * min ((cfg.maxCap - count) / cfg.step) (lastLeafPool cfg)
          ≤ cfg.step * ((cfg.maxCap - count) / cfg.step) := Nat.mul_le_mul_left _ (Nat.min_le_left _ _)
        _ ≤ cfg.maxCap - count := Nat.mul_div_le _ _
    omega

theorem splitIdx_lt (count i : Nat) (h : 0 < count) : splitIdx count i < count := by
  unfold splitIdx
  simp only [Extracted.treeSplitDivisor, Extracted.treeSplitModulus]
  split <;> omega

/-- a leaf with the items `all` cut at `m`: item `m` (= `sep`) moves up. `c1`, `c2` are whatever capacities the halves
    get; the new element is item `j` of the left or right half. Both split branches of `addLeaf` have this form. -/
def cutLeaf (c1 c2 : Nat) (all : List α) (m : Nat) (sep : α) (right : Bool) (j : Nat) : AddRes α :=
  .split (leaf c1 (all.take m)) sep (leaf c2 (all.drop (m + 1))) right ⟨[], j⟩

theorem cutLeaf_spec (c1 c2 : Nat) (all : List α) (m : Nat) (sep : α) (hsep : all[m]? = some sep) (right : Bool) (j : Nat)
    (hj : if right then m + 1 + j < all.length else j < m) :
    (cutLeaf c1 c2 all m sep right j).toList = all ∧ (cutLeaf c1 c2 all m sep right j).Bal 0 ∧
    (cutLeaf c1 c2 all m sep right j).posIdx = (if right then m + 1 + j else j) ∧
    (cutLeaf c1 c2 all m sep right j).PosValid := by
  have hm : m < all.length := ListFacts.lt_of_getElem? hsep
  have htk : (all.take m).length = m := by rw [List.length_take]; exact Nat.min_eq_left (Nat.le_of_lt hm)
  unfold cutLeaf
  refine ⟨?_, ⟨Bal.leaf _ _, Bal.leaf _ _⟩, ?_, ?_⟩
  · simp only [AddRes.toList, toList_leaf]
    rw [← ListFacts.drop_of_getElem? hsep, List.take_append_drop]
  · cases right <;> simp only [AddRes.posIdx, size, toList_leaf, idxOf_leaf, htk, if_true,
      Bool.false_eq_true, if_false]
  · cases right
    · exact ⟨_, nodeAt?_nil _, by simp only [Node.count, htk]; exact hj⟩
    · exact ⟨_, nodeAt?_nil _, by simp only [Node.count, List.length_drop, if_true] at hj ⊢; omega⟩

theorem cutLeaf_caps {maxCap c1 c2 : Nat} (all : List α) (m : Nat) (sep : α) (right : Bool) (j : Nat) (h1 : m ≤ c1)
    (h1' : c1 ≤ maxCap) (h2 : all.length - (m + 1) ≤ c2) (h2' : c2 ≤ maxCap) :
    (cutLeaf c1 c2 all m sep right j).Caps maxCap :=
  ⟨Caps.leaf _ _ (by rw [List.length_take]; exact Nat.le_trans (Nat.min_le_left _ _) h1) h1',
   Caps.leaf _ _ (by rw [List.length_drop]; exact h2) h2'⟩

theorem addLeaf_cases (cfg : Cfg) (ia cap : Nat) (items : List α) (i : Nat) (x : α) (hi : i ≤ items.length)
    (hmax : 0 < cfg.maxCap) :
    (items.length < cap ∧ addLeaf cfg ia cap items i x = .ok (leaf cap (items.insertIdx i x)) ⟨[], i⟩) ∨
    (¬ items.length < cap ∧ items.length < cfg.maxCap ∧
      addLeaf cfg ia cap items i x = .ok (leaf (leafCap cfg ia (items.length + 1)) (items.insertIdx i x)) ⟨[], i⟩) ∨
    ¬ items.length < cap ∧ ¬ items.length < cfg.maxCap ∧
    ∃ m sep right j, (items.insertIdx i x)[m]? = some sep ∧ m ≤ items.length ∧
      (if right then m + 1 + j = i else j = i ∧ j < m) ∧
      addLeaf cfg ia cap items i x =
        cutLeaf (leafCap cfg ia m) (leafCap cfg ia (items.length - m)) (items.insertIdx i x) m sep right j := by
  have hlenall : (items.insertIdx i x).length = items.length + 1 := List.length_insertIdx_of_le_length hi x
  unfold addLeaf
  by_cases h1 : items.length < cap
  · exact Or.inl ⟨h1, if_pos h1⟩
  · rw [if_neg h1]
    by_cases h2 : items.length < cfg.maxCap
    · exact Or.inr (Or.inl ⟨h1, h2, if_pos h2⟩)
    · rw [if_neg h2]
      have hs := splitIdx_lt items.length i (Nat.lt_of_lt_of_le hmax (Nat.le_of_not_lt h2))
      generalize splitIdx items.length i = s at hs ⊢
      refine Or.inr (Or.inr ⟨h1, h2, ?_⟩)
      by_cases h3 : i ≤ s
      · rw [if_pos h3]
        obtain ⟨sep, hsep⟩ := ListFacts.getElem?_of_lt (l := items.insertIdx i x) (i := s + 1) (by rw [hlenall]; exact Nat.succ_lt_succ hs)
        rw [hsep]
        exact ⟨s + 1, sep, false, i, hsep, hs, ⟨rfl, Nat.lt_succ_of_le h3⟩, rfl⟩
      · rw [if_neg h3]
        obtain ⟨sep, hsep⟩ := ListFacts.getElem?_of_lt (l := items.insertIdx i x) (i := s) (by rw [hlenall]; exact Nat.lt_succ_of_lt hs)
        rw [hsep]
        exact ⟨s, sep, true, i - s - 1, hsep, Nat.le_of_lt hs, (by show s + 1 + (i - s - 1) = i; omega), rfl⟩

theorem addLeaf_spec (cfg : Cfg) (ia cap : Nat) (items : List α) (i : Nat) (x : α) (hi : i ≤ items.length)
    (hmax : 0 < cfg.maxCap) :
    (addLeaf cfg ia cap items i x).toList = items.insertIdx i x ∧ (addLeaf cfg ia cap items i x).Bal 0 ∧
    (addLeaf cfg ia cap items i x).posIdx = i ∧ (addLeaf cfg ia cap items i x).PosValid := by
  have hlenall : (items.insertIdx i x).length = items.length + 1 := List.length_insertIdx_of_le_length hi x
  have hok : ∀ cap', (AddRes.ok (leaf cap' (items.insertIdx i x)) ⟨[], i⟩).toList = items.insertIdx i x ∧
      (AddRes.ok (leaf cap' (items.insertIdx i x)) ⟨[], i⟩).Bal 0 ∧
      (AddRes.ok (leaf cap' (items.insertIdx i x)) ⟨[], i⟩).posIdx = i ∧
      (AddRes.ok (leaf cap' (items.insertIdx i x)) ⟨[], i⟩).PosValid := fun cap' =>
    ⟨rfl, Bal.leaf _ _, rfl, _, nodeAt?_nil _, by simp only [Node.count, hlenall]; exact Nat.lt_succ_of_le hi⟩
  rcases addLeaf_cases cfg ia cap items i x hi hmax with ⟨_, e⟩ | ⟨_, _, e⟩ | ⟨_, _, m, sep, right, j, hsep, _, hj, e⟩
  · rw [e]; exact hok _
  · rw [e]; exact hok _
  · rw [e]
    cases right
    · obtain ⟨rfl, hj⟩ := hj
      exact cutLeaf_spec _ _ _ m sep hsep false j hj
    · subst hj
      exact cutLeaf_spec _ _ _ m sep hsep true j (by rw [hlenall]; exact Nat.lt_succ_of_le hi)

theorem addLeaf_caps (cfg : Cfg) (ia cap : Nat) (items : List α) (i : Nat) (x : α) (hi : i ≤ items.length)
    (hmax : 0 < cfg.maxCap) (hc : Caps cfg.maxCap (leaf cap items)) :
    (addLeaf cfg ia cap items i x).Caps cfg.maxCap := by
  have hlenall : (items.insertIdx i x).length = items.length + 1 := List.length_insertIdx_of_le_length hi x
  cases hc with
  | leaf _ _ hc1 hc2 =>
  have hle : items.length ≤ cfg.maxCap := Nat.le_trans hc1 hc2
  rcases addLeaf_cases cfg ia cap items i x hi hmax with ⟨h1, e⟩ | ⟨_, h2, e⟩ | ⟨_, _, m, sep, right, j, _, hm, _, e⟩
  · rw [e]; exact Caps.leaf _ _ (by rw [hlenall]; exact h1) hc2
  · rw [e]
    have := leafCap_bounds cfg ia (items.length + 1) h2
    exact Caps.leaf _ _ (by rw [hlenall]; exact this.1) this.2
  · rw [e]
    have b1 := leafCap_bounds cfg ia m (Nat.le_trans hm hle)
    have b2 := leafCap_bounds cfg ia (items.length - m) (Nat.le_trans (Nat.sub_le _ _) hle)
    exact cutLeaf_caps _ _ _ _ _ b1.1 b1.2 (by rw [hlenall, Nat.add_sub_add_right]; exact b2.1) b2.2

/-- the children of a parent after its child `c` was split into `l` and `r`: what `addInner` builds inline (equal by `rfl`) -/
def splitChildren (cs : List (Node α)) (c : Nat) (l r : Node α) : List (Node α) := cs.take c ++ l :: r :: cs.drop (c + 1)

theorem splitChildren_length (cs : List (Node α)) (c : Nat) (l r : Node α) (hc : c < cs.length) :
    (splitChildren cs c l r).length = cs.length + 1 := by
  simp [splitChildren]; omega

theorem inter_splitChildren (cs : List (Node α)) (is : List α) (c : Nat) (ch l : Node α) (sep : α) (r : Node α)
    (hc : cs[c]? = some ch) (hlen : cs.length = is.length + 1) :
    inter (splitChildren cs c l r) (is.insertIdx c sep) =
      preOf cs is c ++ (toList l ++ sep :: toList r) ++ postOf cs is c := by
  have hci : c ≤ is.length := by have := ListFacts.lt_of_getElem? hc; omega
  -- the first `c` children with their items, then `l sep r`, then what followed child `c`
  rw [splitChildren, ListFacts.insertIdx_eq_take_drop is c sep hci, inter_prefix _ _ _ _ (by simp; omega), inter_cons_cons,
    inter_drop_child cs is c ch r hc hlen, preOf]
  simp only [List.append_assoc, List.cons_append]

theorem splitChildren_getElem_lt (cs : List (Node α)) (c j : Nat) (l r : Node α) (hj : j < c) (hc : c < cs.length) :
    (splitChildren cs c l r)[j]? = cs[j]? := by
  simp only [splitChildren]
  rw [List.getElem?_append_left (by simp; omega), List.getElem?_take]; simp [hj]

theorem splitChildren_getElem_left (cs : List (Node α)) (c : Nat) (l r : Node α) (hc : c < cs.length) :
    (splitChildren cs c l r)[c]? = some l := by
  have := ListFacts.getElem?_length_add (cs.take c) (l :: r :: cs.drop (c + 1)) 0
  rwa [List.length_take, Nat.min_eq_left (Nat.le_of_lt hc)] at this

theorem splitChildren_getElem_right (cs : List (Node α)) (c : Nat) (l r : Node α) (hc : c < cs.length) :
    (splitChildren cs c l r)[c + 1]? = some r := by
  have := ListFacts.getElem?_length_add (cs.take c) (l :: r :: cs.drop (c + 1)) 1
  rwa [List.length_take, Nat.min_eq_left (Nat.le_of_lt hc)] at this

theorem splitChildren_take (cs : List (Node α)) (c : Nat) (l r : Node α) (hc : c < cs.length) :
    (splitChildren cs c l r).take c = cs.take c := by
  have := List.take_length_add_append (l₁ := cs.take c) (l₂ := l :: r :: cs.drop (c + 1)) 0
  rwa [List.length_take, Nat.min_eq_left (Nat.le_of_lt hc), List.take_zero, List.append_nil] at this

theorem splitChildren_take_succ (cs : List (Node α)) (c : Nat) (l r : Node α) (hc : c < cs.length) :
    (splitChildren cs c l r).take (c + 1) = cs.take c ++ [l] := by
  have := List.take_length_add_append (l₁ := cs.take c) (l₂ := l :: r :: cs.drop (c + 1)) 1
  rwa [List.length_take, Nat.min_eq_left (Nat.le_of_lt hc)] at this

theorem splitChildren_mem (cs : List (Node α)) (c : Nat) (l r : Node α) (x : Node α)
    (hx : x ∈ splitChildren cs c l r) : x ∈ cs ∨ x = l ∨ x = r := by
  simp only [splitChildren, List.mem_append, List.mem_cons] at hx
  rcases hx with hx | rfl | rfl | hx
  · exact Or.inl (List.mem_of_mem_take hx)
  · exact Or.inr (Or.inl rfl)
  · exact Or.inr (Or.inr rfl)
  · exact Or.inl (List.mem_of_mem_drop hx)

theorem idxOf_splitChildren (cs : List (Node α)) (is : List α) (c : Nat) (l : Node α) (sep : α) (r : Node α) (right : Bool)
    (q : Pos) (hc : c < cs.length) :
    idxOf (inner (is.insertIdx c sep) (splitChildren cs c l r)) ((if right then c + 1 else c) :: q.path) q.idx =
      ((cs.take c).map (fun ch => size ch)).sum + c +
        (if right then size l + 1 + idxOf r q.path q.idx else idxOf l q.path q.idx) := by
  cases right with
  | false =>
    simp only [Bool.false_eq_true, if_false]
    rw [idxOf_inner_cons' (splitChildren_getElem_left cs c l r hc), splitChildren_take cs c l r hc]
  | true =>
    simp only [if_true]
    rw [idxOf_inner_cons' (splitChildren_getElem_right cs c l r hc), splitChildren_take_succ cs c l r hc]
    simp; omega

/-- an internal node with items `all` and children `cs'` cut at `m`: item `m` (= `sep'`) moves up; the new element lies
    below child `k`, which goes to the left (`k ≤ m`) or right half. Both split branches of `addInner` have this form. -/
def cutInner (all : List α) (cs' : List (Node α)) (m : Nat) (sep' : α) (right : Bool) (k : Nat) (q : Pos) : AddRes α :=
  .split (inner (all.take m) (cs'.take (m + 1))) sep' (inner (all.drop (m + 1)) (cs'.drop (m + 1))) right
    ⟨(if right then k - (m + 1) else k) :: q.path, q.idx⟩

theorem cutInner_spec {d : Nat} (all : List α) (cs' : List (Node α)) (hlen' : cs'.length = all.length + 1)
    (hall' : ∀ x ∈ cs', Bal d x) (m : Nat) (sep' : α) (hsep' : all[m]? = some sep') (right : Bool) (k : Nat) (q : Pos)
    {n' : Node α} (hn' : cs'[k]? = some n') (hv : ValidElem n' q.path q.idx) (hk : if right then m < k else k ≤ m) :
    (cutInner all cs' m sep' right k q).toList = inter cs' all ∧ (cutInner all cs' m sep' right k q).Bal (d + 1) ∧
    (cutInner all cs' m sep' right k q).posIdx = idxOf (inner all cs') (k :: q.path) q.idx ∧
    (cutInner all cs' m sep' right k q).PosValid := by
  unfold cutInner
  have hm : m < all.length := ListFacts.lt_of_getElem? hsep'
  obtain ⟨mm, hm1, hm2⟩ := hv
  refine ⟨?_, ⟨?_, ?_⟩, ?_, ?_⟩
  · simp only [AddRes.toList, toList_inner]
    exact inter_cut cs' all m sep' hlen' hsep'
  · exact Bal.inner d _ _ (by rw [List.length_take, List.length_take]; omega)
      (fun x hx => hall' x (List.mem_of_mem_take hx))
  · exact Bal.inner d _ _ (by rw [List.length_drop, List.length_drop]; omega)
      (fun x hx => hall' x (List.mem_of_mem_drop hx))
  · cases right
    · exact idxOf_cut_left cs' all m k q.path q.idx hk
    · exact idxOf_cut_right cs' all m k q.path q.idx hk hm hlen'
  · cases right
    · have : (cs'.take (m + 1))[k]? = some n' := by rw [List.getElem?_take, if_pos (Nat.lt_succ_of_le hk)]; exact hn'
      exact ⟨mm, (nodeAt?_inner_cons' this _).trans hm1, hm2⟩
    · have : (cs'.drop (m + 1))[k - (m + 1)]? = some n' := by
        rw [List.getElem?_drop, Nat.add_sub_cancel' hk]; exact hn'
      exact ⟨mm, (nodeAt?_inner_cons' this _).trans hm1, hm2⟩

theorem cutInner_caps {maxCap : Nat} (all : List α) (cs' : List (Node α)) (m : Nat) (sep' : α) (right : Bool) (k : Nat)
    (q : Pos) (hall' : ∀ x ∈ cs', Caps maxCap x) (h1 : m ≤ maxCap) (h2 : all.length - (m + 1) ≤ maxCap) :
    (cutInner all cs' m sep' right k q).Caps maxCap :=
  ⟨Caps.inner _ _ (by rw [List.length_take]; exact Nat.le_trans (Nat.min_le_left _ _) h1)
      (fun x hx => hall' x (List.mem_of_mem_take hx)),
   Caps.inner _ _ (by rw [List.length_drop]; exact h2) (fun x hx => hall' x (List.mem_of_mem_drop hx))⟩

theorem addInner_cases (cfg : Cfg) (items : List α) (cs : List (Node α)) (c : Nat) (l : Node α) (sep : α) (r : Node α)
    (right : Bool) (q : Pos) (hci : c ≤ items.length) (hmax : 0 < cfg.maxCap) :
    (items.length < cfg.maxCap ∧ addInner cfg items cs c l sep r right q =
      .ok (inner (items.insertIdx c sep) (splitChildren cs c l r)) ⟨(if right then c + 1 else c) :: q.path, q.idx⟩) ∨
    ¬ items.length < cfg.maxCap ∧ ∃ m sep' right', (items.insertIdx c sep)[m]? = some sep' ∧ m ≤ items.length ∧
      (if right' then m < (if right then c + 1 else c) else (if right then c + 1 else c) ≤ m) ∧
      addInner cfg items cs c l sep r right q =
        cutInner (items.insertIdx c sep) (splitChildren cs c l r) m sep' right' (if right then c + 1 else c) q := by
  have hlenI : (items.insertIdx c sep).length = items.length + 1 := List.length_insertIdx_of_le_length hci sep
  have hk1 : c ≤ (if right then c + 1 else c) := by cases right <;> simp
  have hk2 : (if right then c + 1 else c) ≤ c + 1 := by cases right <;> simp
  unfold addInner
  by_cases h1 : items.length < cfg.maxCap
  · exact Or.inl ⟨h1, if_pos h1⟩
  · rw [if_neg h1]
    have hs := splitIdx_lt items.length c (Nat.lt_of_lt_of_le hmax (Nat.le_of_not_lt h1))
    generalize splitIdx items.length c = s at hs ⊢
    refine Or.inr ⟨h1, ?_⟩
    by_cases h2 : c ≤ s
    · rw [if_pos h2]
      obtain ⟨sep', hsep'⟩ := ListFacts.getElem?_of_lt (l := items.insertIdx c sep) (i := s + 1) (by rw [hlenI]; exact Nat.succ_lt_succ hs)
      rw [hsep']
      exact ⟨s + 1, sep', false, hsep', hs, Nat.le_trans hk2 (Nat.succ_le_succ h2), rfl⟩
    · rw [if_neg h2]
      obtain ⟨sep', hsep'⟩ := ListFacts.getElem?_of_lt (l := items.insertIdx c sep) (i := s) (by rw [hlenI]; exact Nat.lt_succ_of_lt hs)
      rw [hsep']
      exact ⟨s, sep', true, hsep', Nat.le_of_lt hs, Nat.lt_of_lt_of_le (Nat.lt_of_not_le h2) hk1, rfl⟩

theorem addInner_spec (cfg : Cfg) {d : Nat} (items : List α) (cs : List (Node α)) (c : Nat) (ch l : Node α) (sep : α) (r : Node α)
    (right : Bool) (q : Pos) (hb : Bal (d+1) (inner items cs)) (hc : cs[c]? = some ch) (hmax : 0 < cfg.maxCap)
    (hl : Bal d l) (hr : Bal d r) (hq : if right then ValidElem r q.path q.idx else ValidElem l q.path q.idx) :
    (addInner cfg items cs c l sep r right q).toList =
        preOf cs items c ++ (toList l ++ sep :: toList r) ++ postOf cs items c ∧
    (addInner cfg items cs c l sep r right q).Bal (d+1) ∧
    (addInner cfg items cs c l sep r right q).posIdx =
        ((cs.take c).map (fun ch => size ch)).sum + c +
          (if right then size l + 1 + idxOf r q.path q.idx else idxOf l q.path q.idx) ∧
    (addInner cfg items cs c l sep r right q).PosValid := by
  have hlen := hb.inner_len
  have hcl : c < cs.length := ListFacts.lt_of_getElem? hc
  have hci : c ≤ items.length := Nat.le_of_lt_succ (Nat.lt_of_lt_of_eq hcl hlen)
  have hlenI : (items.insertIdx c sep).length = items.length + 1 := List.length_insertIdx_of_le_length hci sep
  have hlen' : (splitChildren cs c l r).length = (items.insertIdx c sep).length + 1 := by
    rw [splitChildren_length cs c l r hcl, hlenI, hlen]
  have hall' : ∀ x ∈ splitChildren cs c l r, Bal d x := by
    intro x hx
    rcases splitChildren_mem cs c l r x hx with h | rfl | rfl
    · exact hb.inner_child x h
    · exact hl
    · exact hr
  have htl := inter_splitChildren cs items c ch l sep r hc hlen
  have hidx := idxOf_splitChildren cs items c l sep r right q hcl
  obtain ⟨n', hn', hvn'⟩ : ∃ n', (splitChildren cs c l r)[if right then c + 1 else c]? = some n' ∧
      ValidElem n' q.path q.idx := by
    cases right
    · exact ⟨l, splitChildren_getElem_left cs c l r hcl, hq⟩
    · exact ⟨r, splitChildren_getElem_right cs c l r hcl, hq⟩
  rcases addInner_cases cfg items cs c l sep r right q hci hmax with ⟨_, e⟩ | ⟨_, m, sep', right', hsep', _, hk, e⟩
  · rw [e]
    obtain ⟨mm, hm1, hm2⟩ := hvn'
    exact ⟨(toList_inner _ _).trans htl, Bal.inner d _ _ hlen' hall', hidx,
      mm, (nodeAt?_inner_cons' hn' _).trans hm1, hm2⟩
  · rw [e]
    obtain ⟨g1, g2, g3, g4⟩ := cutInner_spec _ _ hlen' hall' m sep' hsep' right' _ q hn' hvn' hk
    exact ⟨g1.trans htl, g2, g3.trans hidx, g4⟩

theorem addInner_caps (cfg : Cfg) (items : List α) (cs : List (Node α)) (c : Nat) (l : Node α) (sep : α) (r : Node α)
    (right : Bool) (q : Pos) (hcaps : Caps cfg.maxCap (inner items cs)) {ch : Node α} (hc : cs[c]? = some ch)
    (hlen : cs.length = items.length + 1) (hmax : 0 < cfg.maxCap)
    (hl : Caps cfg.maxCap l) (hr : Caps cfg.maxCap r) :
    (addInner cfg items cs c l sep r right q).Caps cfg.maxCap := by
  have hci : c ≤ items.length := Nat.le_of_lt_succ (Nat.lt_of_lt_of_eq (ListFacts.lt_of_getElem? hc) hlen)
  have hlenI : (items.insertIdx c sep).length = items.length + 1 := List.length_insertIdx_of_le_length hci sep
  have hall' : ∀ x ∈ splitChildren cs c l r, Caps cfg.maxCap x := by
    intro x hx
    rcases splitChildren_mem cs c l r x hx with h | rfl | rfl
    · exact hcaps.inner_child x h
    · exact hl
    · exact hr
  have h0 := hcaps.inner_items
  rcases addInner_cases cfg items cs c l sep r right q hci hmax with ⟨h1, e⟩ | ⟨_, m, sep', right', _, hm, _, e⟩
  · rw [e]; exact Caps.inner _ _ (by rw [hlenI]; exact h1) hall'
  · rw [e]
    exact cutInner_caps _ _ m sep' right' _ _ hall' (Nat.le_trans hm h0)
      (by rw [hlenI, Nat.add_sub_add_right]; exact Nat.le_trans (Nat.sub_le _ _) h0)

theorem addAt_spec (cfg : Cfg) (ia : Nat) (x : α) (hmax : 0 < cfg.maxCap) {d : Nat} {n : Node α} (hb : Bal d n)
    (path : List Nat) (i cap : Nat) (items : List α) (hm : nodeAt? n path = some (leaf cap items))
    (hi : i ≤ items.length) :
    (addAt cfg ia x n path i).toList = (toList n).insertIdx (idxOf n path i) x ∧
    (addAt cfg ia x n path i).Bal d ∧
    (addAt cfg ia x n path i).posIdx = idxOf n path i ∧
    (addAt cfg ia x n path i).PosValid := by
  refine Bal.path_rec ?_ ?_ hb hm
  · intro d hb
    obtain rfl := hb.leaf_depth
    simpa [addAt] using addLeaf_spec cfg ia cap items i x hi hmax
  · intro d' is cs c ch p hb hlen hc hbch hm ⟨h1, h2, h3, h4⟩
    have hk : idxOf ch p i ≤ (toList ch).length := leafSlot_le hbch p i cap items hm hi
    simp only [addAt, hc]
    rw [idxOf_inner_cons' hc, toList_inner, inter_split cs is c ch hc hlen]
    have hprelen := preOf_length cs is c (Nat.le_of_lt_succ (Nat.lt_of_lt_of_eq (ListFacts.lt_of_getElem? hc) hlen)) hlen
    cases hres : addAt cfg ia x ch p i with
    | ok ch' q =>
      rw [hres] at h1 h2 h3 h4
      obtain ⟨m, hm1, hm2⟩ := h4
      have hset : (cs.set c ch')[c]? = some ch' := List.getElem?_set_self (ListFacts.lt_of_getElem? hc)
      refine ⟨?_, hb.set_child c h2, ?_, m, (nodeAt?_inner_cons' hset _).trans hm1, hm2⟩
      · simp only [liftRes, AddRes.toList, toList_inner]
        rw [inter_set cs is c ch ch' hc hlen, ← hprelen, ListFacts.insertIdx_middle _ _ _ _ _ hk]
        exact congrArg (fun l => preOf cs is c ++ l ++ postOf cs is c) h1
      · simp only [liftRes, AddRes.posIdx]
        rw [idxOf_inner_cons' hset, List.take_set_of_le (Nat.le_refl _)]
        exact congrArg _ h3
    | split l sep r right q =>
      rw [hres] at h1 h2 h3 h4
      obtain ⟨g1, g2, g3, g4⟩ := addInner_spec cfg is cs c ch l sep r right q hb hc hmax h2.1 h2.2 h4
      refine ⟨?_, g2, g3.trans (congrArg _ h3), g4⟩
      rw [← hprelen, ListFacts.insertIdx_middle _ _ _ _ _ hk]
      exact g1.trans (congrArg (fun l => preOf cs is c ++ l ++ postOf cs is c) h1)

theorem addAt_caps (cfg : Cfg) (ia : Nat) (x : α) (hmax : 0 < cfg.maxCap) {d : Nat} {n : Node α} (hb : Bal d n)
    (hcaps : Caps cfg.maxCap n) (path : List Nat) (i cap : Nat) (items : List α)
    (hm : nodeAt? n path = some (leaf cap items)) (hi : i ≤ items.length) :
    (addAt cfg ia x n path i).Caps cfg.maxCap := by
  revert hcaps
  refine Bal.path_rec ?_ ?_ hb hm
  · intro d _ hcaps
    simpa [addAt] using addLeaf_caps cfg ia cap items i x hi hmax hcaps
  · intro d' is cs c ch p hb hlen hc _ _ ih hcaps
    have h := ih (hcaps.getElem hc)
    simp only [addAt, hc]
    cases hres : addAt cfg ia x ch p i with
    | ok ch' q => rw [hres] at h; exact hcaps.set_child c h
    | split l sep r right q =>
      rw [hres] at h
      exact addInner_caps cfg is cs c l sep r right q hcaps hc hlen hmax h.1 h.2

theorem addRoot_spec (cfg : Cfg) (x : α) (hmax : 0 < cfg.maxCap) {d : Nat} {r m : Node α} (hb : Bal d r)
    (pos : Pos) (hm : nodeAt? r pos.path = some m) (hi : pos.idx ≤ m.count) :
    toList (addRoot cfg x r pos).1 = (toList r).insertIdx (idxOf r pos.path pos.idx) x ∧
    (Bal d (addRoot cfg x r pos).1 ∨ Bal (d+1) (addRoot cfg x r pos).1) ∧
    idxOf (addRoot cfg x r pos).1 (addRoot cfg x r pos).2.path (addRoot cfg x r pos).2.idx = idxOf r pos.path pos.idx ∧
    ValidElem (addRoot cfg x r pos).1 (addRoot cfg x r pos).2.path (addRoot cfg x r pos).2.idx := by
  obtain ⟨hn1, cap, items, hn2, hn3⟩ := normLeaf_spec hb pos.path pos.idx hm hi
  rw [Pos.eta] at hn1 hn2 hn3
  obtain ⟨h1, h2, h3, h4⟩ := addAt_spec cfg (innerCount r) x hmax hb (normLeaf r pos).path (normLeaf r pos).idx cap items hn2 hn3
  unfold addRoot
  cases hres : addAt cfg (innerCount r) x r (normLeaf r pos).path (normLeaf r pos).idx with
  | ok n q =>
    rw [hres] at h1 h2 h3 h4
    simp only [AddRes.toList, AddRes.Bal, AddRes.posIdx, AddRes.PosValid] at h1 h2 h3 h4
    exact ⟨by rw [h1, hn1], Or.inl h2, by rw [h3, hn1], h4⟩
  | split l sep rr right q =>
    rw [hres] at h1 h2 h3 h4
    simp only [AddRes.toList, AddRes.Bal, AddRes.posIdx, AddRes.PosValid] at h1 h2 h3 h4
    simp only
    refine ⟨by simp [← h1, ← hn1], Or.inr (Bal.pair sep h2.1 h2.2), ?_, ?_⟩
    · rw [← hn1, ← h3]
      cases right <;> simp
    · cases right <;> (obtain ⟨m', hm1, hm2⟩ := h4; exact ⟨m', by simp [hm1], hm2⟩)

theorem addRoot_caps (cfg : Cfg) (x : α) (hmax : 0 < cfg.maxCap) {d : Nat} {r m : Node α} (hb : Bal d r)
    (hcaps : Caps cfg.maxCap r) (pos : Pos) (hm : nodeAt? r pos.path = some m) (hi : pos.idx ≤ m.count) :
    Caps cfg.maxCap (addRoot cfg x r pos).1 := by
  obtain ⟨_, cap, items, hn2, hn3⟩ := normLeaf_spec hb pos.path pos.idx hm hi
  rw [Pos.eta] at hn2 hn3
  have h := addAt_caps cfg (innerCount r) x hmax hb hcaps (normLeaf r pos).path (normLeaf r pos).idx cap items hn2 hn3
  unfold addRoot
  cases hres : addAt cfg (innerCount r) x r (normLeaf r pos).path (normLeaf r pos).idx with
  | ok n q => rw [hres] at h; exact h
  | split l sep rr right q =>
    rw [hres] at h
    exact Caps.pair sep hmax h.1 h.2

theorem leafCap_pos (cfg : Cfg) (hmax : 0 < cfg.maxCap) (ia : Nat) : 0 < leafCap cfg ia 0 := by
  unfold leafCap
  split
  · exact hmax
  · have : cfg.step * min ((cfg.maxCap - 0) / cfg.step) (lastLeafPool cfg) ≤ cfg.maxCap / 2 := by
      simp only [lastLeafPool, Extracted.treeLeafPoolDivisor, Nat.sub_zero]
      calc cfg.step * min (cfg.maxCap / cfg.step) (cfg.maxCap / (2 * cfg.step))
          ≤ cfg.step * (cfg.maxCap / (2 * cfg.step)) := Nat.mul_le_mul_left _ (Nat.min_le_right _ _)
        _ = cfg.step * (cfg.maxCap / 2 / cfg.step) := by rw [Nat.div_div_eq_div_mul]
        _ ≤ cfg.maxCap / 2 := Nat.mul_div_le _ _
    omega

theorem addRoot_fresh (cfg : Cfg) (hmax : 0 < cfg.maxCap) (x : α) :
    addRoot cfg x (leaf (leafCap cfg 0 0) ([] : List α)) ⟨[], 0⟩ = (leaf (leafCap cfg 0 0) [x], ⟨[], 0⟩) := by
  have hp := leafCap_pos cfg hmax 0
  simp [addRoot, normLeaf, addAt, addLeaf, hp]

end Momo.BTree
