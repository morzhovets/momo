import Momo.Proof.SortArith
/-!
  C17: the searches of `HashSorter` (`pvBinarySearch`, `pvExponentialSearch`, `pvFindOther`,
  `pvFindNext`, `pvFindHash`) return what a linear scan returns and never leave the sequence.  The sequence is
  described by a total function `A : Nat → α × Nat` (item, code) on indices `< n`; the list-level statements are
  derived in `SortTop.lean`.  The vocabulary of that description (`IsEqv`, `MRepr` / `VRepr`, `Betw`, `ContigF`, `ContigUpToF`, `SortedF`, `ConsF`),
  which SortFind, SortIsSorted and SortGroup share, is defined here.
-/
namespace Momo.Sort

theorem csub_of_le {a b : Nat} (h : b ≤ a) : csub a b = some (a - b) := if_pos h

theorem csub_eq {a b c : Nat} (h : c + b = a) : csub a b = some c := by
  rw [csub_of_le (h ▸ Nat.le_add_left b c), ← h, Nat.add_sub_cancel]

theorem forall_shift {P : Nat → Prop} {b lo hi : Nat} (h : ∀ i, lo ≤ i → i < hi → P (b + i)) :
    ∀ k, b + lo ≤ k → k < b + hi → P k := fun k h1 h2 => by
  have hb : b ≤ k := Nat.le_trans (Nat.le_add_right b lo) h1
  have := h (k - b) (Nat.le_sub_of_add_le' h1) (Nat.sub_lt_left_of_lt_add hb h2)
  rwa [Nat.add_sub_of_le hb] at this

/-- position `i` of a reverse view based at `m` is cell `m - 1 - i`: the one place where the reflection of `std::reverse_iterator` is computed -/
theorem forall_rev {P : Nat → Prop} {m a b lo : Nat} (hlo : lo + b = m) (h : ∀ i, a ≤ i → i < b → P (m - 1 - i)) :
    ∀ k, lo ≤ k → k + a < m → P k := by
  intro k h1 h2
  have := h (m - 1 - k) (by omega) (by omega)
  rwa [Nat.sub_sub_self (by omega)] at this

theorem forall_ge_iff {Q : Nat → Prop} (j : Nat) : (∀ k, j ≤ k → Q k) ↔ Q j ∧ ∀ k, j + 1 ≤ k → Q k :=
  ⟨fun h => ⟨h j (Nat.le_refl _), fun k hk => h k (Nat.le_of_succ_le hk)⟩, fun h k hk => by
    rcases Nat.eq_or_lt_of_le hk with rfl | hlt
    · exact h.1
    · exact h.2 k hlt⟩

/-- the model's comparers are partial (`none` = access outside the sequence); the search lemmas reason about a total
`c` that `cmp` agrees with on the range searched -/
def CmpOn (cmp : Cmp) (c : Nat → Int) (lo hi : Nat) : Prop := ∀ i, lo ≤ i → i < hi → cmp i = some (c i)

/-- the signs of `c` on `[lo, hi)` are ordered: negatives, then zeros, then positives -/
def SignMono (c : Nat → Int) (lo hi : Nat) : Prop :=
  ∀ i j, lo ≤ i → i ≤ j → j < hi → (0 ≤ c i → 0 ≤ c j) ∧ (0 < c i → 0 < c j)

/-- post-condition shared by `pvBinarySearch` and `pvExponentialSearch` on `[lo, hi)` -/
def SearchPost (c : Nat → Int) (lo hi : Nat) (res : Nat × Bool) : Prop :=
  (res.2 = true → lo ≤ res.1 ∧ res.1 < hi ∧ c res.1 = 0) ∧
  (res.2 = false → lo ≤ res.1 ∧ res.1 ≤ hi ∧ (∀ i, lo ≤ i → i < res.1 → c i < 0) ∧ (∀ i, res.1 ≤ i → i < hi → 0 < c i))

theorem SignMono.sub {c : Nat → Int} {lo hi lo' hi' : Nat} (h : SignMono c lo hi) (h1 : lo ≤ lo') (h2 : hi' ≤ hi) :
    SignMono c lo' hi' := fun i j hi_ hij hj => h i j (Nat.le_trans h1 hi_) hij (Nat.lt_of_lt_of_le hj h2)

theorem CmpOn.sub {cmp : Cmp} {c : Nat → Int} {lo hi lo' hi' : Nat} (h : CmpOn cmp c lo hi) (h1 : lo ≤ lo') (h2 : hi' ≤ hi) :
    CmpOn cmp c lo' hi' := fun i hi_ hj => h i (Nat.le_trans h1 hi_) (Nat.lt_of_lt_of_le hj h2)

theorem SignMono.neg {c : Nat → Int} {lo hi i j : Nat} (h : SignMono c lo hi) (h1 : lo ≤ i) (hij : i ≤ j) (hj : j < hi)
    (hc : c j < 0) : c i < 0 :=
  Int.not_le.1 fun h0 => Int.not_le.2 hc ((h i j h1 hij hj).1 h0)

theorem SignMono.pos {c : Nat → Int} {lo hi i j : Nat} (h : SignMono c lo hi) (h1 : lo ≤ i) (hij : i ≤ j) (hj : j < hi)
    (hc : 0 < c i) : 0 < c j := (h i j h1 hij hj).2 hc

theorem SearchPost.extend {c : Nat → Int} {lo hi lo' hi' : Nat} {res : Nat × Bool} (hp : SearchPost c lo' hi' res)
    (h1 : lo ≤ lo') (h2 : hi' ≤ hi) (hl : ∀ i, lo ≤ i → i < lo' → c i < 0) (hr : ∀ i, hi' ≤ i → i < hi → 0 < c i) :
    SearchPost c lo hi res := by
  refine ⟨fun hf => ?_, fun hnf => ?_⟩
  · obtain ⟨a, b, c'⟩ := hp.1 hf
    exact ⟨Nat.le_trans h1 a, Nat.lt_of_lt_of_le b h2, c'⟩
  · obtain ⟨a, b, c1, c2⟩ := hp.2 hnf
    refine ⟨Nat.le_trans h1 a, Nat.le_trans b h2, fun i hi1 hi2 => ?_, fun i hi1 hi2 => ?_⟩
    · by_cases h : i < lo'
      · exact hl i hi1 h
      · exact c1 i (Nat.le_of_not_lt h) hi2
    · by_cases h : i < hi'
      · exact c2 i hi1 h
      · exact hr i (Nat.le_of_not_lt h) hi2

theorem SearchPost.shift {c : Nat → Int} {b n : Nat} {res : Nat × Bool} (hp : SearchPost (fun i => c (b + i)) 0 n res) :
    SearchPost c b (b + n) (b + res.1, res.2) := by
  refine ⟨fun hf => ?_, fun hnf => ?_⟩
  · obtain ⟨_, h2, h3⟩ := hp.1 hf
    exact ⟨Nat.le_add_right _ _, Nat.add_lt_add_left h2 b, h3⟩
  · obtain ⟨_, h2, c1, c2⟩ := hp.2 hnf
    exact ⟨Nat.le_add_right _ _, Nat.add_le_add_left h2 b, forall_shift (P := fun x => c x < 0) c1,
      forall_shift (P := fun x => 0 < c x) c2⟩

/-- `pvFindHash` reads the result of its reverse search back as `base() - (found ? 1 : 0)` -/
theorem SearchPost.rev {c : Nat → Int} {lo m k : Nat} {res : Nat × Bool} (hk : lo + k = m)
    (hp : SearchPost (fun i => - c (m - 1 - i)) 0 k res) :
    res.1 + (if res.2 then 1 else 0) ≤ m ∧ SearchPost c lo m (m - (res.1 + if res.2 then 1 else 0), res.2) := by
  obtain ⟨r, fnd⟩ := res
  cases fnd with
  | true =>
    obtain ⟨_, h2, h3⟩ := hp.1 rfl
    have h2 : r < k := h2
    have h3 : - c (m - 1 - r) = 0 := h3
    refine ⟨by simp only [if_true]; omega, ⟨fun _ => ?_, fun h => nomatch h⟩⟩
    show lo ≤ m - (r + 1) ∧ m - (r + 1) < m ∧ c (m - (r + 1)) = 0
    rw [Nat.sub_add_eq, Nat.sub_right_comm]
    exact ⟨by omega, by omega, by omega⟩
  | false =>
    obtain ⟨_, h2, c1, c2⟩ := hp.2 rfl
    have h2 : r ≤ k := h2
    have hkm : k ≤ m := hk ▸ Nat.le_add_left k lo
    refine ⟨Nat.le_trans h2 hkm, ⟨(fun h => nomatch h), fun _ => ?_⟩⟩
    show lo ≤ m - r ∧ m - r ≤ m ∧ (∀ i, lo ≤ i → i < m - r → c i < 0) ∧ ∀ i, m - r ≤ i → i < m → 0 < c i
    refine ⟨by omega, Nat.sub_le _ _, fun i hi1 hi2 => ?_, fun i hi1 hi2 => ?_⟩
    · exact forall_rev (P := fun x => c x < 0) hk (fun j h1 h2 => Int.neg_pos.1 (c2 j h1 h2)) i hi1 (Nat.add_lt_of_lt_sub hi2)
    · exact forall_rev (P := fun x => 0 < c x) (Nat.sub_add_cancel (Nat.le_trans h2 hkm)) (fun j h1 h2 => Int.neg_neg_iff_pos.1 (c1 j h1 h2)) i hi1 hi2

theorem binLoop_spec (cmp : Cmp) (c : Nat → Int) :
    ∀ (fuel l r : Nat), r - l < fuel → l ≤ r → CmpOn cmp c l r → SignMono c l r →
      ∃ res, binLoop cmp fuel l r = some res ∧ SearchPost c l r res := by
  intro fuel
  induction fuel with
  | zero => intro l r h; omega
  | succ f ih =>
    intro l r hf hlr hc hm
    rw [binLoop]
    by_cases hlt : l < r
    · obtain ⟨m, hmid, hm1, hm2⟩ : ∃ m, (l + r) / 2 = m ∧ l ≤ m ∧ m < r := ⟨_, rfl, by omega, by omega⟩
      rw [if_pos hlt, hmid, hc m hm1 hm2]
      simp only [Option.bind_some]
      by_cases hneg : c m < 0
      · rw [if_pos hneg]
        obtain ⟨res, hres, hp⟩ := ih (m + 1) r (by omega) hm2 (hc.sub (Nat.le_succ_of_le hm1) (Nat.le_refl _)) (hm.sub (Nat.le_succ_of_le hm1) (Nat.le_refl _))
        exact ⟨res, hres, hp.extend (Nat.le_succ_of_le hm1) (Nat.le_refl _) (fun i h1 h2 => hm.neg h1 (Nat.le_of_lt_succ h2) hm2 hneg) (fun i h1 h2 => absurd h2 (Nat.not_lt.2 h1))⟩
      · rw [if_neg hneg]
        by_cases hpos : c m > 0
        · rw [if_pos hpos]
          obtain ⟨res, hres, hp⟩ := ih l m (by omega) hm1 (hc.sub (Nat.le_refl _) (Nat.le_of_lt hm2)) (hm.sub (Nat.le_refl _) (Nat.le_of_lt hm2))
          exact ⟨res, hres, hp.extend (Nat.le_refl _) (Nat.le_of_lt hm2) (fun i h1 h2 => absurd h2 (Nat.not_lt.2 h1)) (fun i h1 h2 => hm.pos hm1 h1 h2 hpos)⟩
        · rw [if_neg hpos]
          exact ⟨_, rfl, ⟨fun _ => ⟨hm1, hm2, by show c m = 0; omega⟩, fun h => nomatch h⟩⟩
    · rw [if_neg hlt]
      exact ⟨_, rfl, ⟨(fun h => nomatch h), fun _ => ⟨Nat.le_refl _, hlr, fun i h1 h2 => absurd h2 (Nat.not_lt.2 h1), fun i h1 h2 => absurd (Nat.lt_of_le_of_lt h1 h2) hlt⟩⟩⟩

/-- `pvBinarySearch(begin + lo, hi - lo, …)` as its callers run it, the `size_t` subtraction included -/
theorem binarySearchAt_spec (cmp : Cmp) (c : Nat → Int) (lo hi : Nat) (hlo : lo ≤ hi)
    (hc : CmpOn cmp c lo hi) (hm : SignMono c lo hi) :
    ∃ res, ((csub hi lo).bind fun cnt => binarySearchAt cmp lo cnt) = some res ∧ SearchPost c lo hi res := by
  obtain ⟨k, rfl⟩ := Nat.exists_eq_add_of_le hlo
  obtain ⟨res, hres, hp⟩ := binLoop_spec (fun i => cmp (lo + i)) (fun i => c (lo + i)) (k + 1) 0 k (Nat.lt_succ_self k) (Nat.zero_le _)
    (fun i _ h2 => hc (lo + i) (Nat.le_add_right _ _) (Nat.add_lt_add_left h2 lo))
    (fun i j _ hij hj => hm (lo + i) (lo + j) (Nat.le_add_right _ _) (Nat.add_le_add_left hij lo) (Nat.add_lt_add_left hj lo))
  exact ⟨(lo + res.1, res.2), by rw [csub_eq (Nat.add_comm k lo), Option.bind_some, binarySearchAt, binarySearch, hres]; rfl, hp.shift⟩

theorem expLoop_spec (cmp : Cmp) (c : Nat → Int) (n : Nat) (hc : CmpOn cmp c 0 n) (hm : SignMono c 0 n) :
    ∀ (fuel i left : Nat), 0 < fuel → n < fuel + i → left ≤ i → left ≤ n → (∀ k, k < left → c k < 0) →
      ∃ res, expLoop cmp n fuel i left = some res ∧ SearchPost c 0 n res := by
  have hbin : ∀ left hi, left ≤ hi → hi ≤ n → (∀ k, k < left → c k < 0) → (∀ k, hi ≤ k → k < n → 0 < c k) →
      ∃ res, ((csub hi left).bind fun m => binarySearchAt cmp left m) = some res ∧ SearchPost c 0 n res := by
    intro left hi hle hhi hneg hpos
    obtain ⟨res, hres, hp⟩ := binarySearchAt_spec cmp c left hi hle (hc.sub (Nat.zero_le _) hhi) (hm.sub (Nat.zero_le _) hhi)
    exact ⟨res, hres, hp.extend (Nat.zero_le _) hhi (fun k _ hk => hneg k hk) hpos⟩
  intro fuel
  induction fuel with
  | zero => intro i left h0; omega
  | succ f ih =>
    intro i left _ hf hli hln hneg
    rw [expLoop]
    by_cases hin : i < n
    · rw [if_pos hin, hc i (Nat.zero_le _) hin]
      simp only [Option.bind_some]
      by_cases hpos : c i > 0
      · rw [if_pos hpos]
        exact hbin left i hli (Nat.le_of_lt hin) hneg fun k hk1 hk2 => hm.pos (Nat.zero_le _) hk1 hk2 hpos
      · rw [if_neg hpos]
        by_cases hz : c i = 0
        · rw [if_pos hz]
          exact ⟨_, rfl, ⟨fun _ => ⟨Nat.zero_le _, hin, hz⟩, fun h => nomatch h⟩⟩
        · rw [if_neg hz]
          exact ih (i * 2 + 2) (i + 1) (by omega) (by omega) (by omega) (by omega)
            fun k hk => hm.neg (Nat.zero_le _) (Nat.le_of_lt_succ hk) hin (by omega)
    · rw [if_neg hin]
      exact hbin left n hln (Nat.le_refl _) hneg fun k hk1 hk2 => absurd hk2 (Nat.not_lt.2 hk1)

theorem exponentialSearch_spec (cmp : Cmp) (c : Nat → Int) (n : Nat) (hc : CmpOn cmp c 0 n) (hm : SignMono c 0 n) :
    ∃ res, exponentialSearch cmp n = some res ∧ SearchPost c 0 n res :=
  expLoop_spec cmp c n hc hm (n + 1) 0 0 (Nat.succ_pos n) (Nat.lt_succ_self n) (Nat.le_refl _) (Nat.zero_le _) (fun k hk => absurd hk (Nat.not_lt_zero k))

variable {σ α : Type}

/-- what `equalFunc` must be -/
structure IsEqv (eq : α → α → Bool) : Prop where
  refl : ∀ a, eq a a = true
  symm : ∀ a b, eq a b = true → eq b a = true
  trans : ∀ a b c, eq a b = true → eq b c = true → eq a c = true

theorem IsEqv.eq_right_iff {eq : α → α → Bool} (he : IsEqv eq) {x y item : α} (hx : eq x item = true) :
    eq y item = true ↔ eq x y = true :=
  ⟨fun hy => he.trans _ _ _ hx (he.symm _ _ hy), fun hxy => he.trans _ _ _ (he.symm _ _ hxy) hx⟩

theorem IsEqv.eq_right_false {eq : α → α → Bool} (he : IsEqv eq) {x y item : α} (hx : eq x item = true) (hxy : eq x y = false) :
    eq y item = false :=
  Bool.eq_false_iff.2 fun hy => Bool.eq_false_iff.1 hxy ((he.eq_right_iff hx).1 hy)

/-! `MRepr`: the first `n` cells of a memory state read as `A` says; `VRepr`: the same of a forward or reverse view of it.  The sorting side uses
`Lawful`/`Holds` (lists); the bridge is `Lawful.mrepr` in SortTop.  A forward view based at `b` has the `n - b` positions behind `b` (the count
`pvFind`, `pvFindNext` and `pvIsSorted` pass on is `count - b`), none if `b > n`; a reverse view based at `r ≤ n` has `r`. -/

def VRepr (v : View α) (A : Nat → α × Nat) (n : Nat) : Prop :=
  ∀ i, i < n → v.item i = some (A i).1 ∧ v.code i = some (A i).2

def MRepr (M : Mem σ α) (s : σ) (A : Nat → α × Nat) (n : Nat) : Prop :=
  ∀ i, i < n → M.item s i = some (A i).1 ∧ M.code s i = some (A i).2

theorem MRepr.fwd {M : Mem σ α} {s : σ} {A : Nat → α × Nat} {n : Nat} (h : MRepr M s A n) (b : Nat) :
    VRepr (M.fwd s b) (fun i => A (b + i)) (n - b) := by
  intro i hi
  exact h (b + i) (by omega)

theorem MRepr.fwd0 {M : Mem σ α} {s : σ} {A : Nat → α × Nat} {n : Nat} (h : MRepr M s A n) : VRepr (M.fwd s 0) A n :=
  fun i hi => by simp only [Mem.fwd, Nat.zero_add]; exact h i hi

theorem MRepr.rev {M : Mem σ α} {s : σ} {A : Nat → α × Nat} {n : Nat} (h : MRepr M s A n) (r : Nat) (hr : r ≤ n) :
    VRepr (M.rev s r) (fun i => A (r - 1 - i)) r := by
  intro i hi
  simp only [Mem.rev, hi, if_true]
  exact h (r - 1 - i) (by omega)

/-- the shape shared by "equal items are contiguous" (`ContigF`) and "equal codes are contiguous" (`ConvexF`); it
survives shifting the origin and, for symmetric transitive `r`, reversal - what forward and reverse views need -/
def Betw (r : Nat → Nat → Prop) (n : Nat) : Prop := ∀ i j k, i < j → j < k → k < n → r i k → r i j

theorem Betw.shift {r : Nat → Nat → Prop} {n : Nat} (h : Betw r n) (b : Nat) : Betw (fun i j => r (b + i) (b + j)) (n - b) :=
  fun i j k hij hjk hk => h (b + i) (b + j) (b + k) (Nat.add_lt_add_left hij b) (Nat.add_lt_add_left hjk b) (by omega)

theorem Betw.mono {r : Nat → Nat → Prop} {n m : Nat} (h : Betw r n) (hm : m ≤ n) : Betw r m :=
  fun i j k hij hjk hk => h i j k hij hjk (Nat.lt_of_lt_of_le hk hm)

theorem Betw.rev {r : Nat → Nat → Prop} {n : Nat} (h : Betw r n) (hs : ∀ i j, r i j → r j i)
    (ht : ∀ i j k, r i j → r j k → r i k) (m : Nat) (hm : m ≤ n) : Betw (fun i j => r (m - 1 - i) (m - 1 - j)) m :=
  fun i j k hij hjk hk hik =>
    ht _ _ _ hik (h (m - 1 - k) (m - 1 - j) (m - 1 - i) (by omega) (by omega) (by omega) (hs _ _ hik))

theorem Betw.append {r : Nat → Nat → Prop} {p m : Nat} (h1 : Betw r p)
    (h2 : Betw (fun i j => r (p + i) (p + j)) (m - p))
    (hsep : ∀ a c, a < p → p ≤ c → c < m → ¬ r a c) : Betw r m := by
  intro a b c hab hbc hc hac
  by_cases hcp : c < p
  · exact h1 a b c hab hbc hcp hac
  · have hpc : p ≤ c := Nat.le_of_not_lt hcp
    by_cases hap : p ≤ a
    · have hpb : p ≤ b := Nat.le_trans hap (Nat.le_of_lt hab)
      have := h2 (a - p) (b - p) (c - p) (Nat.sub_lt_sub_right hap hab) (Nat.sub_lt_sub_right hpb hbc) (Nat.sub_lt_sub_right hpc hc)
      simp only [Nat.add_sub_of_le hap, Nat.add_sub_of_le hpb, Nat.add_sub_of_le hpc] at this
      exact this hac
    · exact absurd hac (hsep a c (Nat.lt_of_not_le hap) hpc hc)

/-! Each of the three properties of an arranged sequence has a form over an index function, used by the loop
specifications of the searches and of `pvIsSorted`, and a form over the list of cells, used by the sorting side and the
list-level theorems of SortTop:
"equal items contiguous" `ContigF` (with the prefix invariant `ContigUpToF` of `pvIsGrouped` and `pvGroup`) / `GroupedCells` (cells) /
`Grouped` (items), bridged by `groupedCells_iff_contigF`, `groupedCells_iff_grouped`;
"codes non-decreasing" `SortedF` / `SortedL`, bridged by `sortedL_iff_sortedF` (`sortedL_iff_codes` for the public arrays);
"equal items have equal codes" `ConsF` / `ConsL`, bridged inside `isSorted_list` (hypotheses `hcons`; the one-sided `hresp` of the
searches asks it only of the cells equal to the sought item: they carry `itemHash`).
For the `…F` form a list `l` is read as `fun k => l.getD k d`. -/

def ContigF (eq : α → α → Bool) (A : Nat → α × Nat) (n : Nat) : Prop := Betw (fun i j => eq (A i).1 (A j).1 = true) n

theorem ContigF.congr {eq : α → α → Bool} {A B : Nat → α × Nat} {n : Nat} (h : ContigF eq A n)
    (hAB : ∀ i, i < n → A i = B i) : ContigF eq B n := fun i j k hij hjk hk hik => by
  have := h i j k hij hjk hk
  simp only [hAB i (by omega), hAB j (by omega), hAB k hk] at this
  exact this hik

/-- contiguity for every middle index below `i`: the invariant of the outer loops of `pvIsGrouped` (which checks it) and of
`pvGroup` (which establishes it) -/
def ContigUpToF (eq : α → α → Bool) (A : Nat → α × Nat) (n i : Nat) : Prop :=
  ∀ a b c, a < b → b < c → b < i → c < n → eq (A a).1 (A c).1 = true → eq (A a).1 (A b).1 = true

section
variable {eq : α → α → Bool} {A : Nat → α × Nat} {n : Nat}

theorem ContigUpToF.one : ContigUpToF eq A n 1 := fun a b c hab hbc hb => by omega

theorem ContigUpToF.contig {i : Nat} (h : ContigUpToF eq A n i) (hi : n ≤ i + 1) : ContigF eq A n :=
  fun a b c hab hbc hc => h a b c hab hbc (by omega) hc

theorem ContigUpToF.succ_of_eq (he : IsEqv eq) {m : Nat} (h : ContigUpToF eq A n (m + 1))
    (hEq : eq (A m).1 (A (m + 1)).1 = true) : ContigUpToF eq A n (m + 2) := by
  intro a b c hab hbc hbi hc hac
  by_cases hb : b < m + 1
  · exact h a b c hab hbc hb hc hac
  · obtain rfl : b = m + 1 := by omega
    by_cases ha : a = m
    · subst ha; exact hEq
    · exact he.trans _ _ _ (h a m c (by omega) (by omega) (Nat.lt_succ_self m) hc hac) hEq

theorem ContigUpToF.succ_of_tail (he : IsEqv eq) {m : Nat} (h : ContigUpToF eq A n (m + 1))
    (htail : ∀ k, m + 1 ≤ k → k < n → eq (A m).1 (A k).1 = false) : ContigUpToF eq A n (m + 2) := by
  intro a b c hab hbc hbi hc hac
  by_cases hb : b < m + 1
  · exact h a b c hab hbc hb hc hac
  · obtain rfl : b = m + 1 := by omega
    refine absurd ?_ (Bool.eq_false_iff.1 (htail c (by omega) hc))
    by_cases ha : a = m
    · subst ha; exact hac
    · exact he.trans _ _ _ (he.symm _ _ (h a m c (by omega) (by omega) (Nat.lt_succ_self m) hc hac)) hac

end

def SortedF (A : Nat → α × Nat) (n : Nat) : Prop := ∀ i j, i ≤ j → j < n → (A i).2 ≤ (A j).2

/-- equal codes are contiguous (holds in both directions of a sorted sequence) -/
def ConvexF (A : Nat → α × Nat) (n : Nat) : Prop := Betw (fun i j => (A i).2 = (A j).2) n

/-- `hashFunc` respects `equalFunc` -/
def ConsF (eq : α → α → Bool) (A : Nat → α × Nat) (n : Nat) : Prop :=
  ∀ i j, i < n → j < n → eq (A i).1 (A j).1 = true → (A i).2 = (A j).2

theorem SortedF.mono {A : Nat → α × Nat} {n m : Nat} (h : SortedF A n) (hm : m ≤ n) : SortedF A m :=
  fun i j hij hj => h i j hij (by omega)

theorem SortedF.succ {A : Nat → α × Nat} {i : Nat} (h : SortedF A i) (hle : ∀ k, k < i → (A k).2 ≤ (A i).2) :
    SortedF A (i + 1) := fun a c hac hc => by
  rcases Nat.eq_or_lt_of_le (Nat.le_of_lt_succ hc) with rfl | hci
  · rcases Nat.eq_or_lt_of_le hac with rfl | hlt
    · exact Nat.le_refl _
    · exact hle a hlt
  · exact h a c hac hci

theorem ContigF.shift {eq : α → α → Bool} {A : Nat → α × Nat} {n : Nat} (h : ContigF eq A n) (b : Nat) :
    ContigF eq (fun i => A (b + i)) (n - b) := Betw.shift h b

theorem ContigF.mono {eq : α → α → Bool} {A : Nat → α × Nat} {n m : Nat} (h : ContigF eq A n) (hm : m ≤ n) : ContigF eq A m :=
  Betw.mono h hm

theorem ContigF.append {eq : α → α → Bool} {A : Nat → α × Nat} {p m : Nat} (h1 : ContigF eq A p)
    (h2 : ContigF eq (fun i => A (p + i)) (m - p)) (hsep : ∀ a c, a < p → p ≤ c → c < m → ¬ eq (A a).1 (A c).1 = true) :
    ContigF eq A m := Betw.append h1 h2 hsep

theorem ConvexF.shift {A : Nat → α × Nat} {n : Nat} (h : ConvexF A n) (b : Nat) : ConvexF (fun i => A (b + i)) (n - b) :=
  Betw.shift h b

theorem ContigF.rev {eq : α → α → Bool} (he : IsEqv eq) {A : Nat → α × Nat} {n : Nat} (h : ContigF eq A n) (r : Nat) (hr : r ≤ n) :
    ContigF eq (fun i => A (r - 1 - i)) r :=
  Betw.rev h (fun _ _ => he.symm _ _) (fun _ _ _ => he.trans _ _ _) r hr

theorem ConvexF.rev {A : Nat → α × Nat} {n : Nat} (h : ConvexF A n) (r : Nat) (hr : r ≤ n) :
    ConvexF (fun i => A (r - 1 - i)) r :=
  Betw.rev h (fun _ _ => Eq.symm) (fun _ _ _ => Eq.trans) r hr

theorem SortedF.convex {A : Nat → α × Nat} {n : Nat} (h : SortedF A n) : ConvexF A n := fun i j k hij hjk hk hik =>
  Nat.le_antisymm (h i j (Nat.le_of_lt hij) (Nat.lt_trans hjk hk)) (hik ▸ h j k (Nat.le_of_lt hjk) hk)

/-- the comparer of `pvFindOther`: `equalFunc(...) ? -1 : 1` -/
def boolCmp (b : Bool) : Int := if b then -1 else 1

theorem boolCmp_neg {b : Bool} : boolCmp b < 0 ↔ b = true := by cases b <;> decide
theorem boolCmp_pos {b : Bool} : 0 < boolCmp b ↔ b = false := by cases b <;> decide
theorem boolCmp_nonneg {b : Bool} : 0 ≤ boolCmp b ↔ b = false := by cases b <;> decide
theorem boolCmp_ne_zero {b : Bool} : boolCmp b ≠ 0 := by cases b <;> decide

section
variable {eq : α → α → Bool} (he : IsEqv eq) {v : View α} {A : Nat → α × Nat} {n : Nat} (hv : VRepr v A n)
  (hc : ContigF eq A n)
include hv hc

theorem findOther_spec (p count : Nat) (hcount : 0 < count) (hp : p + count ≤ n) :
    ∃ q, findOther eq v p count = some q ∧ p < q ∧ q ≤ p + count ∧
      (∀ k, p < k → k < q → eq (A p).1 (A k).1 = true) ∧
      (∀ k, q ≤ k → k < p + count → eq (A p).1 (A k).1 = false) := by
  let c : Nat → Int := fun k => boolCmp (eq (A p).1 (A k).1)
  have hcmp : CmpOn (fun i => (v.item p).bind fun a => (v.item (p + 1 + i)).bind fun b =>
      some (if eq a b then -1 else 1)) (fun i => c (p + 1 + i)) 0 (count - 1) := fun i _ hi => by
    simp only [(hv p (by omega)).1, (hv (p + 1 + i) (by omega)).1, Option.bind_some, c, boolCmp]
  -- by contiguity a cell that differs from cell `p` is followed only by such cells
  have hmono : SignMono (fun i => c (p + 1 + i)) 0 (count - 1) := fun i j _ hij hj => by
    have key : eq (A p).1 (A (p + 1 + i)).1 = false → eq (A p).1 (A (p + 1 + j)).1 = false := fun hi' => by
      rcases Nat.eq_or_lt_of_le hij with rfl | hlt
      · exact hi'
      · exact Bool.eq_false_iff.2 fun hj' =>
          Bool.eq_false_iff.1 hi' (hc p (p + 1 + i) (p + 1 + j) (by omega) (by omega) (by omega) hj')
    exact ⟨fun h => boolCmp_nonneg.2 (key (boolCmp_nonneg.1 h)), fun h => boolCmp_pos.2 (key (boolCmp_pos.1 h))⟩
  obtain ⟨res, hres, hpost⟩ := exponentialSearch_spec _ _ (count - 1) hcmp hmono
  have hnf : res.2 = false := Bool.eq_false_iff.2 fun hf => boolCmp_ne_zero (hpost.1 hf).2.2
  obtain ⟨_, hle, hl, hr⟩ := (SearchPost.shift (c := c) hpost).2 hnf
  have hle : p + 1 + res.1 ≤ p + 1 + (count - 1) := hle
  refine ⟨p + 1 + res.1, by rw [findOther, if_neg (by omega), hres]; rfl, by omega, by omega,
    fun k h1 h2 => boolCmp_neg.1 (hl k h1 h2), fun k h1 h2 => boolCmp_pos.1 (hr k h1 (by omega))⟩

/-- what `pvFindNext` returns on a view whose first cell has the sought hash but another item -/
def NextPost (eq : α → α → Bool) (A : Nat → α × Nat) (n : Nat) (item : α) (itemHash : Nat) (res : Nat × Bool) : Prop :=
  0 < res.1 ∧ res.1 ≤ n ∧ (∀ k, k < res.1 → eq (A k).1 item = false) ∧
  (res.2 = true → res.1 < n ∧ eq (A res.1).1 item = true) ∧
  (res.2 = false → (∀ k, k < n → eq (A k).1 item = false) ∧ (res.1 < n → (A res.1).2 ≠ itemHash))

variable (hx : ConvexF A n) (item : α) (itemHash : Nat)
  (hresp : ∀ i, i < n → eq (A i).1 item = true → (A i).2 = itemHash)
include he hx hresp

theorem findNextLoop_spec :
    ∀ (fuel p : Nat), n < fuel + p → p < n → (A p).2 = itemHash → (∀ k, k ≤ p → eq (A k).1 item = false) →
      ∃ res, findNextLoop eq v n item itemHash fuel p = some res ∧ NextPost eq A n item itemHash res := by
  intro fuel
  induction fuel with
  | zero => intro p h1 h2; omega
  | succ f ih =>
    intro p hf hp hcode hne
    obtain ⟨q, hq, hpq, hqn, heqs, _⟩ := findOther_spec hv hc p (n - p) (Nat.sub_pos_of_lt hp) (Nat.le_of_eq (Nat.add_sub_of_le (Nat.le_of_lt hp)))
    rw [findNextLoop, csub_of_le (Nat.le_of_lt hp), Option.bind_some, hq]
    simp only [Option.bind_some]
    -- cells p+1 … q-1 are equal to cell p, hence different from `item`
    have hne' : ∀ k, k < q → eq (A k).1 item = false := fun k hk => by
      by_cases hkp : k ≤ p
      · exact hne k hkp
      · exact Bool.eq_false_iff.2 fun h2 =>
          Bool.eq_false_iff.1 (hne p (Nat.le_refl _)) (he.trans _ _ _ (heqs k (by omega) hk) h2)
    have hq0 : 0 < q := Nat.lt_of_le_of_lt (Nat.zero_le p) hpq
    by_cases hqe : q = n
    · rw [if_pos hqe]
      exact ⟨_, rfl, hq0, Nat.le_of_eq hqe, hne', (fun h => nomatch h), fun _ => ⟨fun k hk => hne' k (hqe ▸ hk), fun h => absurd h (Nat.not_lt.2 (Nat.le_of_eq hqe.symm))⟩⟩
    · have hqlt : q < n := Nat.lt_of_le_of_ne (Nat.add_sub_of_le (Nat.le_of_lt hp) ▸ hqn) hqe
      rw [if_neg hqe, (hv q hqlt).2]
      simp only [Option.bind_some]
      by_cases hh : (A q).2 ≠ itemHash
      · -- the run of the sought code ends at `q`: by convexity no later cell carries it
        rw [if_pos hh]
        refine ⟨_, rfl, hq0, Nat.le_of_lt hqlt, hne', (fun h => nomatch h), fun _ => ⟨fun k hk => ?_, fun _ => hh⟩⟩
        by_cases hkq : k < q
        · exact hne' k hkq
        · refine Bool.eq_false_iff.2 fun h2 => hh ?_
          have hk2 := hresp k hk h2
          rcases Nat.eq_or_lt_of_le (Nat.le_of_not_lt hkq) with rfl | hlt
          · exact hk2
          · rw [← hx p q k hpq hlt hk (hcode.trans hk2.symm), hcode]
      · rw [if_neg hh, (hv q hqlt).1]
        simp only [Option.bind_some]
        by_cases hitem : eq (A q).1 item = true
        · rw [if_pos hitem]
          exact ⟨_, rfl, hq0, Nat.le_of_lt hqlt, hne', fun _ => ⟨hqlt, hitem⟩, fun h => nomatch h⟩
        · rw [if_neg hitem]
          refine ih q (by omega) hqlt (Decidable.not_not.1 hh) fun k hk => ?_
          rcases Nat.eq_or_lt_of_le hk with rfl | hlt
          · exact Bool.eq_false_iff.2 hitem
          · exact hne' k hlt

theorem findNext_spec (hn : 0 < n) (h0 : (A 0).2 = itemHash) (hne : eq (A 0).1 item = false) :
    ∃ res, findNext eq v n item itemHash = some res ∧ NextPost eq A n item itemHash res :=
  findNextLoop_spec he hv hc hx item itemHash hresp (n + 1) 0 (Nat.lt_succ_self n) hn h0
    fun k hk => by rw [Nat.le_zero.1 hk]; exact hne

end

theorem pvCompare_neg (a h : Nat) : pvCompare a h < 0 ↔ a < h := by
  unfold pvCompare; repeat' split
  all_goals omega
theorem pvCompare_zero (a h : Nat) : pvCompare a h = 0 ↔ a = h := by
  unfold pvCompare; repeat' split
  all_goals omega
theorem pvCompare_pos (a h : Nat) : 0 < pvCompare a h ↔ h < a := by
  unfold pvCompare; repeat' split
  all_goals omega

theorem pvCompare_mono {a b : Nat} (h : Nat) (hab : a ≤ b) : pvCompare a h ≤ pvCompare b h := by
  unfold pvCompare; repeat' split
  all_goals omega

theorem VRepr.hashCmp {v : View α} {B : Nat → α × Nat} {n : Nat} (hv : VRepr v B n) (h : Nat) :
    CmpOn (hashCmp v h) (fun i => pvCompare (B i).2 h) 0 n := fun i _ hi => by
  simp only [Sort.hashCmp, (hv i hi).2, Option.map_some]

theorem VRepr.revHashCmp {v : View α} {B : Nat → α × Nat} {n : Nat} (hv : VRepr v B n) (h : Nat) :
    CmpOn (revHashCmp v h) (fun i => - pvCompare (B i).2 h) 0 n := fun i _ hi => by
  simp only [Sort.revHashCmp, (hv i hi).2, Option.map_some]

/-- what `pvFindHash` returns: a cell with the sought code, or the position where it would be -/
def HashPost (A : Nat → α × Nat) (n h : Nat) (res : Nat × Bool) : Prop :=
  (res.2 = true → res.1 < n ∧ (A res.1).2 = h) ∧
  (res.2 = false → res.1 ≤ n ∧ (∀ i, i < res.1 → (A i).2 < h) ∧ (∀ i, res.1 ≤ i → i < n → h < (A i).2))

theorem signMono_fwd {A : Nat → α × Nat} {n : Nat} (hs : SortedF A n) (h lo hi : Nat) (hhi : hi ≤ n) :
    SignMono (fun i => pvCompare (A i).2 h) lo hi := fun i j _ hij hj =>
  have := pvCompare_mono h (hs i j hij (by omega))
  ⟨fun h1 => Int.le_trans h1 this, fun h1 => Int.lt_of_lt_of_le h1 this⟩

theorem hashPost_of_fwd {A : Nat → α × Nat} {n h lo hi : Nat} {res : Nat × Bool} (hhi : hi ≤ n)
    (hp : SearchPost (fun i => pvCompare (A i).2 h) lo hi res)
    (hl : ∀ i, i < lo → (A i).2 < h) (hr : ∀ i, hi ≤ i → i < n → h < (A i).2) : HashPost A n h res := by
  have hp := hp.extend (Nat.zero_le lo) hhi (fun i _ hi => (pvCompare_neg _ _).2 (hl i hi))
    (fun i h1 h2 => (pvCompare_pos _ _).2 (hr i h1 h2))
  refine ⟨fun hf => ?_, fun hnf => ?_⟩
  · obtain ⟨_, b, c⟩ := hp.1 hf
    exact ⟨b, (pvCompare_zero _ _).1 c⟩
  · obtain ⟨_, b, c1, c2⟩ := hp.2 hnf
    exact ⟨b, fun i hi => (pvCompare_neg _ _).1 (c1 i (Nat.zero_le _) hi), fun i h1 h2 => (pvCompare_pos _ _).1 (c2 i h1 h2)⟩

section
variable {M : Mem σ α} {s : σ} {A : Nat → α × Nat} {n : Nat} (hr : MRepr M s A n) (hs : SortedF A n) (h : Nat)
include hr hs

/-! The three ways `pvFindHash` finishes once the sought code is known to lie in `[lo, hi)`: each statement is the exit as the
loop runs it, with its `size_t` subtraction and the conversion of the result back to an index of the sequence. -/

theorem findHash_exit_binary (lo hi : Nat) (hlo : lo ≤ hi) (hhi : hi ≤ n)
    (hl : ∀ i, i < lo → (A i).2 < h) (hg : ∀ i, hi ≤ i → i < n → h < (A i).2) :
    ∃ res, ((csub hi lo).bind fun cnt => binarySearchAt (hashCmp (M.fwd s 0) h) lo cnt) = some res ∧ HashPost A n h res := by
  obtain ⟨res, hres, hp⟩ := binarySearchAt_spec _ _ lo hi hlo ((hr.fwd0.hashCmp h).sub (Nat.zero_le _) hhi) (signMono_fwd hs h _ _ hhi)
  exact ⟨res, hres, hashPost_of_fwd hhi hp hl hg⟩

theorem findHash_exit_expFwd (lo hi : Nat) (hlo : lo ≤ hi) (hhi : hi ≤ n)
    (hl : ∀ i, i < lo → (A i).2 < h) (hg : ∀ i, hi ≤ i → i < n → h < (A i).2) :
    ∃ res, ((csub hi lo).bind fun cnt => (exponentialSearch (hashCmp (M.fwd s lo) h) cnt).map fun r => (lo + r.1, r.2)) = some res ∧
      HashPost A n h res := by
  have e : lo + (hi - lo) = hi := Nat.add_sub_of_le hlo
  obtain ⟨res, hres, hp⟩ := exponentialSearch_spec _ _ (hi - lo) (((hr.fwd lo).hashCmp h).sub (Nat.zero_le _) (by omega))
    (fun i j _ hij hj => signMono_fwd hs h 0 n (Nat.le_refl _) (lo + i) (lo + j) (Nat.zero_le _) (by omega) (by omega))
  have hp := SearchPost.shift (c := fun i => pvCompare (A i).2 h) hp
  rw [e] at hp
  exact ⟨_, by rw [csub_of_le hlo, Option.bind_some, hres]; rfl, hashPost_of_fwd hhi hp hl hg⟩

theorem findHash_exit_expRev (lo m : Nat) (hlo : lo ≤ m) (hm : m ≤ n)
    (hl : ∀ i, i < lo → (A i).2 < h) (hg : ∀ i, m ≤ i → i < n → h < (A i).2) :
    ∃ res, ((csub m lo).bind fun cnt => (exponentialSearch (revHashCmp (M.rev s m) h) cnt).bind fun r =>
      (csub m (r.1 + (if r.2 then 1 else 0))).map fun idx => (idx, r.2)) = some res ∧ HashPost A n h res := by
  obtain ⟨res, hres, hp⟩ := exponentialSearch_spec _ (fun i => - pvCompare (A (m - 1 - i)).2 h) (m - lo)
    (((hr.rev m hm).revHashCmp h).sub (Nat.zero_le _) (by omega))
    (fun i j _ hij hj => by
      have := pvCompare_mono h (hs (m - 1 - j) (m - 1 - i) (by omega) (by omega))
      show (0 ≤ - pvCompare (A (m - 1 - i)).2 h → 0 ≤ - pvCompare (A (m - 1 - j)).2 h) ∧
        (0 < - pvCompare (A (m - 1 - i)).2 h → 0 < - pvCompare (A (m - 1 - j)).2 h)
      omega)
  obtain ⟨hle, hp⟩ := SearchPost.rev (c := fun i => pvCompare (A i).2 h) (lo := lo) (Nat.add_sub_of_le hlo) hp
  exact ⟨_, by rw [csub_of_le hlo, Option.bind_some, hres, Option.bind_some, csub_of_le hle]; rfl, hashPost_of_fwd hm hp hl hg⟩

/-- Correct for every probe `mid < n`: the interpolation only chooses where to look, the two index invariants do the rest.
`multShift_lt` is needed once, for the first probe (`findHash_spec`). -/
theorem findHashLoop_spec :
    ∀ (fuel step left right mid : Nat), step < fuel → right ≤ n → mid < n →
      (∀ i, i < left → (A i).2 < h) → (∀ i, right ≤ i → i < n → h < (A i).2) →
      ∃ res, findHashLoop M s n h fuel step left right mid = some res ∧ HashPost A n h res := by
  intro fuel
  induction fuel with
  | zero => intro step _ _ _ h1; omega
  | succ f ih =>
    intro step left right mid hfuel hrn hmid hL hR
    rw [findHashLoop, (hr mid hmid).2]
    simp only [Option.bind_some]
    by_cases hlt : (A mid).2 < h
    · -- everything up to `mid` is below the sought code, so `mid < right`
      have hL' : ∀ i, i < mid + 1 → (A i).2 < h := fun i hi => Nat.lt_of_le_of_lt (hs i mid (Nat.le_of_lt_succ hi) hmid) hlt
      have hsub : mid + 1 ≤ right := Nat.lt_of_not_le fun hc => Nat.lt_asymm hlt (hR mid hc hmid)
      rw [if_pos hlt]
      by_cases hstep : step = 0
      · rw [if_pos hstep]
        exact findHash_exit_expFwd hr hs h (mid + 1) right hsub hrn hL' hR
      · rw [if_neg hstep]
        by_cases hbrk : mid + multShift (h - (A mid).2) n ≥ right
        · rw [if_pos hbrk]
          exact findHash_exit_binary hr hs h (mid + 1) right hsub hrn hL' hR
        · rw [if_neg hbrk]
          exact ih (step - 1) (mid + 1) right _ (by omega) hrn (Nat.lt_of_lt_of_le (Nat.lt_of_not_le hbrk) hrn) hL' hR
    · rw [if_neg hlt]
      by_cases hgt : (A mid).2 > h
      · have hR' : ∀ i, mid ≤ i → i < n → h < (A i).2 := fun i h1 h2 => Nat.lt_of_lt_of_le hgt (hs mid i h1 h2)
        have hlm : left ≤ mid := Nat.le_of_not_lt fun hc => Nat.lt_asymm hgt (hL mid hc)
        rw [if_pos hgt]
        by_cases hstep : step = 0
        · rw [if_pos hstep]
          exact findHash_exit_expRev hr hs h left mid hlm (Nat.le_of_lt hmid) hL hR'
        · rw [if_neg hstep]
          by_cases hbrk : left + multShift ((A mid).2 - h) n > mid
          · rw [if_pos hbrk]
            exact findHash_exit_binary hr hs h left mid hlm (Nat.le_of_lt hmid) hL hR'
          · rw [if_neg hbrk]
            exact ih (step - 1) left mid _ (by omega) (Nat.le_of_lt hmid) (Nat.lt_of_le_of_lt (Nat.sub_le _ _) hmid) hL hR'
      · rw [if_neg hgt]
        exact ⟨_, rfl, ⟨fun _ => ⟨hmid, Nat.le_antisymm (Nat.le_of_not_lt hgt) (Nat.le_of_not_lt hlt)⟩, fun hh => nomatch hh⟩⟩

theorem findHash_spec (hh : h < 2 ^ 64) : ∃ res, findHash M s n h = some res ∧ HashPost A n h res := by
  rw [findHash]
  by_cases hn : n = 0
  · rw [if_pos hn]
    exact ⟨_, rfl, ⟨(fun hh => nomatch hh), fun _ => ⟨Nat.zero_le _, fun i hi => absurd hi (Nat.not_lt_zero i), fun i h1 h2 => absurd h2 (hn ▸ Nat.not_lt_zero i)⟩⟩⟩
  · rw [if_neg hn]
    exact findHashLoop_spec hr hs h _ _ 0 n _ (Nat.lt_succ_self _) (Nat.le_refl _)
      (multShift_lt h n hh (Nat.pos_of_ne_zero hn)) (fun i hi => absurd hi (Nat.not_lt_zero i)) (fun i h1 h2 => absurd h2 (Nat.not_lt.2 h1))

end

end Momo.Sort
