import Momo.Proof.PoolAllocInv
/-!
  C20, layer A: framing for one operation. `SetAt` says how the pool table changed; the `*_effect` lemmas say what an operation
  that ended without error changed and what it left alone (blocks, the entry of its pool, ledger entries of other pools); layer C
  reads them in `factStep_cinv_frame` and the `*_cinv` lemmas.
  Provenance of one operation: under the invariant a `deallocate` can only go wrong when a single object was served from the memory
  manager earlier (`Outcome.err`: while `rawSingle` is false the only error an operation can record is `illegal`). One value-type
  class per pool excludes that: `BusyParams κ` is kept by every operation whose successful single-object requests obey `κ`, and
  keeps `rawSingle` false (`Outcome.busyParams`).
-/
namespace Momo.PoolAlloc

/-- a relation and not `l' = l.set p st'`, so that `SetAt.refl` covers the operations that leave the pool table alone -/
structure SetAt (l l' : List PoolSt) (p : Nat) (st st' : PoolSt) : Prop where
  old : l[p]? = some st
  new : l'[p]? = some st'
  other : ∀ j, j ≠ p → l'[j]? = l[j]?

theorem SetAt.set {l : List PoolSt} {p : Nat} {st : PoolSt} (h : l[p]? = some st) (st' : PoolSt) :
    SetAt l (l.set p st') p st st' :=
  ⟨h, ListFacts.getElem?_set_self h, fun _ hj => List.getElem?_set_ne (Ne.symm hj)⟩

theorem SetAt.refl {l : List PoolSt} {p : Nat} {st : PoolSt} (h : l[p]? = some st) : SetAt l l p st st :=
  ⟨h, h, fun _ _ => rfl⟩

theorem SetAt.fwd {l l' : List PoolSt} {p : Nat} {st st' : PoolSt} (h : SetAt l l' p st st') {j : Nat} {a : PoolSt}
    (ha : l[j]? = some a) : ∃ a', l'[j]? = some a' := by
  by_cases hj : j = p
  · exact ⟨st', hj ▸ h.new⟩
  · exact ⟨a, (h.other j hj).trans ha⟩

theorem SetAt.back {l l' : List PoolSt} {p : Nat} {st st' : PoolSt} (h : SetAt l l' p st st') {j : Nat} {a' : PoolSt}
    (ha' : l'[j]? = some a') : (p = j ∧ a' = st' ∧ l[j]? = some st) ∨ (p ≠ j ∧ l[j]? = some a') := by
  by_cases hj : p = j
  · subst hj
    exact Or.inl ⟨rfl, Option.some.inj (ha'.symm.trans h.new), h.old⟩
  · exact Or.inr ⟨hj, (h.other j (Ne.symm hj)).symm.trans ha'⟩

theorem SetAt.refs_succ {l l' : List PoolSt} {p : Nat} {st st' : PoolSt} (h : SetAt l l' p st st')
    (hr : st'.refs = st.refs + 1) {j : Nat} {a' : PoolSt} (ha' : l'[j]? = some a') :
    ∃ a, l[j]? = some a ∧ a'.refs = a.refs + if p = j then 1 else 0 := by
  rcases h.back ha' with ⟨hj, rfl, ha⟩ | ⟨hj, ha⟩
  · exact ⟨st, ha, by rw [if_pos hj, hr]⟩
  · exact ⟨a', ha, by rw [if_neg hj]; rfl⟩

theorem SetAt.refs_pred {l l' : List PoolSt} {p : Nat} {st st' : PoolSt} (h : SetAt l l' p st st')
    (hr : st'.refs = st.refs - 1) {j : Nat} {a' : PoolSt} (ha' : l'[j]? = some a') :
    ∃ a, l[j]? = some a ∧ a'.refs = a.refs - if p = j then 1 else 0 := by
  rcases h.back ha' with ⟨hj, rfl, ha⟩ | ⟨hj, ha⟩
  · exact ⟨st, ha, by rw [if_pos hj, hr]⟩
  · exact ⟨a', ha, by rw [if_neg hj]; rfl⟩

theorem mem_filter_other {l : List Base} {p : Nat} {x : Base} (hx : x.pid ≠ p) (f : Base → Bool) :
    x ∈ l.filter (fun e => !(e.pid == p && f e)) ↔ x ∈ l := by
  simp [List.mem_filter, hx]

theorem alloc_effect {s s' : Sys} {p : Nat} {cls : Cls} {n id : Nat} {mallocs : List Nat}
    (o : Outcome s (.alloc p cls n id mallocs) s') (h : s'.err = none) :
    ∃ st st' prov, (∀ b ∈ s.blocks, b.id ≠ id) ∧ s'.blocks = ⟨id, p, cls, n, prov⟩ :: s.blocks ∧
      SetAt s.pools s'.pools p st st' ∧ st'.refs = st.refs ∧ ∀ x : Base, x.pid ≠ p → (x ∈ s'.base ↔ x ∈ s.base) := by
  cases o with
  | illegal => cases h
  | allocRaw hl _ hfresh =>
    exact ⟨_, _, _, hfresh, rfl, .refl (livePool_eq_some.mp hl).1, rfl, fun x hx =>
      ⟨fun h => (List.mem_cons.mp h).resolve_left fun e => hx (e ▸ rfl), List.mem_cons_of_mem _⟩⟩
  | allocPool hl hfresh =>
    refine ⟨_, _, _, hfresh, rfl, .set (livePool_eq_some.mp hl).1 _, rfl, fun x hx => ?_⟩
    simp only [List.mem_append, List.mem_map]
    constructor
    · rintro (⟨m, _, rfl⟩ | h)
      · exact absurd rfl hx
      · split at h
        · exact h
        · exact (List.mem_filter.mp h).1
    · intro h
      right
      split
      · exact h
      · exact (mem_filter_other hx _).mpr h

theorem dealloc_effect {s s' : Sys} {p : Nat} {cls : Cls} {n id : Nat} {frees : List Nat}
    (o : Outcome s (.dealloc p cls n id frees) s') (h : s'.err = none) :
    ∃ st st', s'.blocks = s.blocks.filter (fun x => x.id != id) ∧ SetAt s.pools s'.pools p st st' ∧
      st'.refs = st.refs ∧ ∀ x : Base, x.pid ≠ p → (x ∈ s'.base ↔ x ∈ s.base) := by
  cases o with
  | illegal | rawIntoPool | poolIntoRaw => cases h
  | deallocPool hl =>
    exact ⟨_, _, rfl, .set (livePool_eq_some.mp hl).1 _, rfl, fun x hx => by simpa only [Bool.and_assoc] using mem_filter_other hx _⟩
  | deallocRaw hl =>
    exact ⟨_, _, rfl, .refl (livePool_eq_some.mp hl).1, rfl, fun x hx => by simpa only [Bool.and_assoc] using mem_filter_other hx _⟩

theorem acopy_effect {s s' : Sys} {p : Nat} (o : Outcome s (.acopy p) s') (h : s'.err = none) :
    ∃ st st', s'.blocks = s.blocks ∧ s'.base = s.base ∧ SetAt s.pools s'.pools p st st' ∧ st'.refs = st.refs + 1 := by
  cases o with
  | illegal => cases h
  | acopy hl => exact ⟨_, _, rfl, rfl, .set (livePool_eq_some.mp hl).1 _, rfl⟩

theorem adrop_effect {s s' : Sys} {p : Nat} (o : Outcome s (.adrop p) s') (h : s'.err = none) :
    ∃ st st', s'.blocks = s.blocks ∧ SetAt s.pools s'.pools p st st' ∧ st'.refs = st.refs - 1 := by
  cases o with
  | illegal | adropMismatch => cases h
  | adropShared hl => exact ⟨_, _, rfl, .set (livePool_eq_some.mp hl).1 _, rfl⟩
  | adropLast hl hr => exact ⟨_, _, rfl, .set (livePool_eq_some.mp hl).1 _, (Nat.sub_eq_zero_of_le (Nat.le_of_not_lt hr)).symm⟩

theorem doNew_ok (s : Sys) (cls : Cls) (cb : Nat) :
    (doNew s cls cb).blocks = s.blocks ∧ (doNew s cls cb).err = s.err ∧
    (doNew s cls cb).pools = s.pools ++ [⟨cls, 0, 1, false⟩] := ⟨rfl, rfl, rfl⟩

theorem step_acopy_blocks (s : Sys) (p : Nat) : (step s (.acopy p)).blocks = s.blocks := by
  cases h0 : s.err with
  | none => obtain ⟨s', e, o⟩ := step_view h0 (.acopy p); rw [e]; cases o <;> rfl
  | some e => rw [step_of_err h0]

theorem step_adrop_blocks (s : Sys) (p : Nat) : (step s (.adrop p)).blocks = s.blocks := by
  cases h0 : s.err with
  | none => obtain ⟨s', e, o⟩ := step_view h0 (.adrop p); rw [e]; cases o <;> rfl
  | some e => rw [step_of_err h0]

theorem fail_err (s : Sys) (e : Err) : (s.fail e).err = some e := rfl
theorem fail_rawSingle (s : Sys) (e : Err) : (s.fail e).rawSingle = s.rawSingle := rfl

theorem Outcome.rawSingle_mono {s s' : Sys} {op : Op} (h : Outcome s op s') (hrs : s'.rawSingle = false) :
    s.rawSingle = false := by
  cases h with
  | allocRaw => exact (Bool.or_eq_false_iff.mp hrs).1
  | _ => exact hrs

theorem Inv.idle {s : Sys} (hi : Inv s) {p : Nat} {st : PoolSt} (hl : livePool s p = some st)
    (hnb : ∀ b ∈ s.blocks, b.pid ≠ p) : st.allocCount = 0 := by
  rw [hi.count p st (livePool_eq_some.mp hl).1]
  refine List.countP_eq_zero.mpr fun b hb hpb => hnb b hb ?_
  simp only [isPoolBlk, Bool.and_eq_true, beq_iff_eq] at hpb
  exact hpb.1

theorem Inv.pool_path {s : Sys} (hi : Inv s) {p : Nat} {st : PoolSt} (hl : livePool s p = some st) {b : Block}
    (hb : b ∈ s.blocks) (hp : b.pid = p) {q : Cls} (hq : b.prov = .pool q) : b.n = 1 ∧ b.cls = st.params := by
  obtain ⟨⟨a, ha, hap⟩, hcq, hn1⟩ := hi.poolBlk b hb q hq
  rw [hp, (livePool_eq_some.mp hl).1] at ha
  cases ha
  exact ⟨hn1, hcq.trans hap.symm⟩

theorem Outcome.err {s s' : Sys} {op : Op} (h : Outcome s op s') (hi : Inv s) (h0 : s.err = none)
    (hrs : s'.rawSingle = false) : s'.err = none ∨ s'.err = some .illegal := by
  cases h with
  | illegal => exact Or.inr rfl
  | adropMismatch hl _ hnb hc => exact absurd (hi.idle hl hnb) hc
  | rawIntoPool _ hb _ hn _ hq => exact absurd hn (hi.rawN hrs _ hb hq)
  | poolIntoRaw hl hb hp hpath hq => exact absurd (hi.pool_path hl hb hp hq) hpath
  | _ => exact Or.inl h0

/-- a busy pool has the parameters of its one type `κ p` -/
def BusyParams (κ : Nat → Cls) (s : Sys) : Prop :=
  ∀ (p : Nat) (st : PoolSt), s.pools[p]? = some st → st.allocCount ≠ 0 → st.params = κ p

/-- of `OneTypePerPool` only the part about successful single-object requests is needed (`hop`); `deallocate`s and requests
    that throw are not restricted -/
theorem Outcome.busyParams {κ : Nat → Cls} {s s' : Sys} {op : Op} (h : Outcome s op s') (hK : BusyParams κ s)
    (hop : ∀ p cls id ms, op = .alloc p cls 1 id ms → cls = κ p) :
    BusyParams κ s' ∧ (s.rawSingle = false → s'.rawSingle = false) := by
  cases h with
  | illegal | adropMismatch | rawIntoPool | poolIntoRaw | deallocRaw => exact ⟨hK, id⟩
  | anew cls cb =>
    exact ⟨fun p st hst hne => (ListFacts.getElem?_snoc hst).elim (hK p st · hne) fun h => absurd (h.2 ▸ rfl) hne, id⟩
  | @acopy p st hl | @adropShared p st hl | @adropLast p st hl =>
    exact ⟨ListFacts.getElem?_set_forall (fun j a _ h => hK j a h) (hK p st (livePool_eq_some.mp hl).1), id⟩
  | allocPool => exact ⟨ListFacts.getElem?_set_forall (fun j a _ h => hK j a h) fun _ => hop _ _ _ _ rfl, id⟩
  | @deallocPool p st _ _ hl =>
    refine ⟨ListFacts.getElem?_set_forall (fun j a _ h => hK j a h) fun h => ?_, id⟩
    exact hK p st (livePool_eq_some.mp hl).1 fun h0 => h (show st.allocCount - 1 = 0 by rw [h0])
  | @allocRaw p st cls n _ hl _ _ hpath =>
    refine ⟨hK, fun hrs => ?_⟩
    -- a single object is only served raw by a busy pool of another type
    simp only [hrs, Bool.false_or, beq_eq_false_iff_ne]
    rintro rfl
    refine hpath ⟨rfl, ?_⟩
    by_cases hz : st.allocCount = 0
    · exact Or.inr hz
    · exact Or.inl ((hop _ _ _ _ rfl).trans (hK p st (livePool_eq_some.mp hl).1 hz).symm)

theorem busyParams_init (κ : Nat → Cls) : BusyParams κ Sys.init := by
  intro p st h; simp [Sys.init] at h

end Momo.PoolAlloc
