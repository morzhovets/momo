import Momo.Model.ArrFault
import Momo.Proof.ArrOps
/-!
  C04 / C10: the outcome predicate `Post` for the exception+state monad of `Momo/Model/ArrFault.lean`, `PostF` = `Post` plus "no fault, no
  exception" (specifications are stated with `PostF`, handlers and the end results with `Post`), and the specifications of the primitives and
  of `Array::Data` (`Reallocate`, `Reset`, `pvGrow`). They speak about the `Core` of the state (array, ledger); schedule and trace are arbitrary.
  Names: `Post.mono`, `PostF.bind`, ... are the rules (`bind'`: weaker exception clause for the first part); `post_X` is the equation
  `Post X x Q E ↔ ...` of a step that cannot throw, lifted to `PostF` by `postF_step` / `postF_step_bind`; `X_spec` specifies the program `X`.
  Arguments: the `*_spec` of `Array::Data` take the state, then the frame `rest`; the operations of the later files `rest k`, their arguments, the state.
-/
namespace Momo.ArrF
open Momo Momo.Arr
open FM (throw tryCatch)
variable {α β γ : Type}

structure Core (α : Type) where
  arr : State α
  blocks : List Nat
  objs : Nat
  bad : Bool

def Sys.core (x : Sys α) : Core α := ⟨x.arr, x.blocks, x.objs, x.bad⟩

@[simp] theorem core_arr (x : Sys α) : x.core.arr = x.arr := rfl
@[simp] theorem core_blocks (x : Sys α) : x.core.blocks = x.blocks := rfl
@[simp] theorem core_objs (x : Sys α) : x.core.objs = x.objs := rfl
@[simp] theorem core_bad (x : Sys α) : x.core.bad = x.bad := rfl

theorem core_eq_iff (x y : Sys α) :
    y.core = x.core ↔ y.arr = x.arr ∧ y.blocks = x.blocks ∧ y.objs = x.objs ∧ y.bad = x.bad := by
  cases x; cases y; simp [Sys.core]

theorem core_eq_mk (y : Sys α) (a : State α) (b : List Nat) (o : Nat) (bd : Bool) :
    y.core = Core.mk a b o bd ↔ y.arr = a ∧ y.blocks = b ∧ y.objs = o ∧ y.bad = bd := by
  cases y; simp [Sys.core]

theorem core_eq_objs (x y : Sys α) (n : Nat) :
    y.core = { x.core with objs := n } ↔ y.arr = x.arr ∧ y.blocks = x.blocks ∧ y.objs = n ∧ y.bad = x.bad :=
  core_eq_mk ..

/-- the ledger of blocks is the array's own block, if its storage is external, followed by `rest`: what else is
    outstanding while the operation runs (blocks of the rest of the program, of a second array) -/
def Frame (cfg : Cfg) (rest : List Nat) (x : Sys α) : Prop := x.blocks = ownBlocks cfg x.arr ++ rest

theorem Frame.blocks {cfg : Cfg} {rest : List Nat} {x : Sys α} (h : Frame cfg rest x) :
    x.blocks = ownBlocks cfg x.arr ++ rest := h

def Post (m : FM α β) (x : Sys α) (Q : β → Sys α → Prop) (E : Sys α → Prop) : Prop :=
  match m.run x with
  | (.ok b, y) => Q b y
  | (.threw, y) => E y

theorem Post.mono {m : FM α β} {x : Sys α} {Q Q' : β → Sys α → Prop} {E E' : Sys α → Prop}
    (h : Post m x Q E) (hQ : ∀ b y, Q b y → Q' b y) (hE : ∀ y, E y → E' y) : Post m x Q' E' := by
  unfold Post at *
  generalize m.run x = r at *
  obtain ⟨r, y⟩ := r
  cases r
  · exact hQ _ _ h
  · exact hE _ h

theorem post_bind (m : FM α β) (f : β → FM α γ) (x : Sys α) (Q : γ → Sys α → Prop) (E : Sys α → Prop) :
    Post (m >>= f) x Q E ↔ Post m x (fun b y => Post (f b) y Q E) E := by
  show Post (FM.bind m f) x Q E ↔ _
  unfold Post FM.bind
  dsimp only
  generalize m.run x = r
  obtain ⟨r, y⟩ := r
  cases r <;> rfl

theorem Post.bind' {m : FM α β} {f : β → FM α γ} {x : Sys α} {Q : γ → Sys α → Prop} {E : Sys α → Prop}
    (Q' : β → Sys α → Prop) (E' : Sys α → Prop) (h1 : Post m x Q' E') (hE : ∀ y, E' y → E y)
    (h2 : ∀ b y, Q' b y → Post (f b) y Q E) : Post (m >>= f) x Q E :=
  (post_bind ..).mpr (Post.mono h1 h2 hE)

theorem Post.tryCatch {m h : FM α β} {x : Sys α} {Q : β → Sys α → Prop} {E : Sys α → Prop}
    (E' : Sys α → Prop) (h1 : Post m x Q E') (h2 : ∀ y, E' y → Post h y Q E) :
    Post (tryCatch m h) x Q E := by
  unfold Post FM.tryCatch
  unfold Post at h1
  split at h1
  · rename_i b y hm
    simp only [hm]
    exact h1
  · rename_i y hm
    simp only [hm]
    exact h2 y h1

theorem Post.ite {c : Prop} [Decidable c] {t e : FM α β} {x : Sys α} {Q : β → Sys α → Prop} {E : Sys α → Prop}
    (ht : c → Post t x Q E) (he : ¬c → Post e x Q E) : Post (if c then t else e) x Q E := by
  split
  · exact ht ‹_›
  · exact he ‹_›

@[simp] theorem post_pure (b : β) (x : Sys α) (Q : β → Sys α → Prop) (E : Sys α → Prop) :
    Post (pure b : FM α β) x Q E ↔ Q b x := Iff.rfl

@[simp] theorem post_bind_assoc {δ : Type} (m : FM α β) (f : β → FM α γ) (g : γ → FM α δ) (x : Sys α)
    (Q : δ → Sys α → Prop) (E : Sys α → Prop) :
    Post ((m >>= f) >>= g) x Q E ↔ Post (m >>= fun b => f b >>= g) x Q E := by
  simp only [post_bind]

@[simp] theorem post_throw (x : Sys α) (Q : β → Sys α → Prop) (E : Sys α → Prop) :
    Post (throw : FM α β) x Q E ↔ E x := Iff.rfl

@[simp] theorem post_getArr_bind (f : State α → FM α γ) (x : Sys α) (Q : γ → Sys α → Prop) (E : Sys α → Prop) :
    Post (getArr >>= f) x Q E ↔ Post (f x.arr) x Q E := post_bind ..

@[simp] theorem post_setArr (s : State α) (x : Sys α) (Q : Unit → Sys α → Prop) (E : Sys α → Prop) :
    Post (setArr s) x Q E ↔ Q () { x with arr := s } := Iff.rfl

@[simp] theorem post_modifyCells (g : Cells α → Cells α) (x : Sys α) (Q : Unit → Sys α → Prop) (E : Sys α → Prop) :
    Post (modifyCells g) x Q E ↔ Q () { x with arr := { x.arr with cells := g x.arr.cells } } := Iff.rfl

@[simp] theorem post_tick_false (x : Sys α) (Q : Unit → Sys α → Prop) (E : Sys α → Prop) :
    Post (tick false) x Q E ↔ Q () x := Iff.rfl

@[simp] theorem post_born (x : Sys α) (Q : Unit → Sys α → Prop) (E : Sys α → Prop) :
    Post born x Q E ↔ Q () { x with objs := x.objs + 1 } := Iff.rfl

@[simp] theorem post_destroyObjs (k : Nat) (x : Sys α) (Q : Unit → Sys α → Prop) (E : Sys α → Prop) :
    Post (destroyObjs k) x Q E ↔ Q () { x with objs := x.objs - k, bad := x.bad || decide (x.objs < k) } := Iff.rfl

@[simp] theorem post_deallocB (n : Nat) (x : Sys α) (Q : Unit → Sys α → Prop) (E : Sys α → Prop) :
    Post (deallocB n) x Q E ↔
      Q () { x with blocks := x.blocks.erase n, bad := x.bad || !x.blocks.contains n,
                    evs := x.evs ++ [.did (.dealloc n)] } := Iff.rfl

@[simp] theorem post_inplaceB (o n : Nat) (ok : Bool) (x : Sys α) (Q : Unit → Sys α → Prop) (E : Sys α → Prop) :
    Post (inplaceB o n ok) x Q E ↔
      Q () { x with blocks := if ok then n :: x.blocks.erase o else x.blocks,
                    bad := x.bad || (ok && !x.blocks.contains o), evs := x.evs ++ [.did (.inplace o n ok)] } := Iff.rfl

@[simp] theorem post_undo (k : Nat) (x : Sys α) (Q : β → Sys α → Prop) (E : Sys α → Prop) :
    Post (undo k : FM α β) x Q E ↔ E { x with objs := x.objs - k, bad := x.bad || decide (x.objs < k) } := by
  unfold undo
  rw [post_bind, post_destroyObjs, post_throw]

/-- `Post`, and besides: an exhausted fault schedule is still exhausted after normal completion, and an exception is
    only thrown when the schedule was not exhausted. The clause sits in the predicate and not in `Q` / `E`, so the rules
    below carry it and a specification proved with them also says that the fault-free run completes (`PostF.completes`).
    `throw` and `undo` do not satisfy it: `catch` blocks are specified with plain `Post` (`PostF.tryCatch`). -/
def PostF (m : FM α β) (x : Sys α) (Q : β → Sys α → Prop) (E : Sys α → Prop) : Prop :=
  Post m x (fun b y => Q b y ∧ (x.faults = [] → y.faults = [])) (fun y => E y ∧ x.faults ≠ [])

theorem PostF.post {m : FM α β} {x : Sys α} {Q : β → Sys α → Prop} {E : Sys α → Prop} (h : PostF m x Q E) : Post m x Q E :=
  Post.mono h (fun _ _ h => h.1) fun _ h => h.1

theorem PostF.completes {m : FM α β} {x : Sys α} {Q : β → Sys α → Prop} {E : Sys α → Prop} (h : PostF m x Q E)
    (hx : x.faults = []) : ∃ b y, m.run x = (.ok b, y) ∧ y.faults = [] ∧ Q b y := by
  unfold PostF Post at h
  generalize m.run x = r at h
  obtain ⟨_ | _, y⟩ := r
  · exact ⟨_, y, rfl, h.2 hx, h.1⟩
  · exact absurd hx h.2

theorem PostF.mono {m : FM α β} {x : Sys α} {Q Q' : β → Sys α → Prop} {E E' : Sys α → Prop}
    (h : PostF m x Q E) (hQ : ∀ b y, Q b y → Q' b y) (hE : ∀ y, E y → E' y) : PostF m x Q' E' :=
  Post.mono h (fun _ _ h => ⟨hQ _ _ h.1, h.2⟩) fun _ h => ⟨hE _ h.1, h.2⟩

theorem PostF.bind' {m : FM α β} {f : β → FM α γ} {x : Sys α} {Q : γ → Sys α → Prop} {E : Sys α → Prop}
    (Q' : β → Sys α → Prop) (E' : Sys α → Prop) (h1 : PostF m x Q' E') (hE : ∀ y, E' y → E y)
    (h2 : ∀ b y, Q' b y → PostF (f b) y Q E) : PostF (m >>= f) x Q E :=
  -- the continuation is specified from the state `y` it starts in; its clause follows from that of `m`
  Post.bind' _ _ h1 (fun _ h => ⟨hE _ h.1, h.2⟩) fun b y h =>
    Post.mono (h2 b y h.1) (fun _ _ q => ⟨q.1, fun hx => q.2 (h.2 hx)⟩) fun _ e => ⟨e.1, fun hx => e.2 (h.2 hx)⟩

theorem PostF.bind {m : FM α β} {f : β → FM α γ} {x : Sys α} {Q : γ → Sys α → Prop} {E : Sys α → Prop}
    (Q' : β → Sys α → Prop) (h1 : PostF m x Q' E) (h2 : ∀ b y, Q' b y → PostF (f b) y Q E) :
    PostF (m >>= f) x Q E :=
  PostF.bind' Q' E h1 (fun _ h => h) h2

/-- the handler only runs when the body threw, that is when the schedule was not exhausted -/
theorem PostF.tryCatch {m h : FM α β} {x : Sys α} {Q : β → Sys α → Prop} {E : Sys α → Prop}
    (E' : Sys α → Prop) (h1 : PostF m x Q E') (h2 : ∀ y, E' y → Post h y Q E) : PostF (tryCatch m h) x Q E :=
  Post.tryCatch _ h1 fun y hy => Post.mono (h2 y hy.1) (fun _ _ q => ⟨q, fun hx => absurd hx hy.2⟩) fun _ e => ⟨e, hy.2⟩

theorem PostF.ite {c : Prop} [Decidable c] {t e : FM α β} {x : Sys α} {Q : β → Sys α → Prop} {E : Sys α → Prop}
    (ht : c → PostF t x Q E) (he : ¬c → PostF e x Q E) : PostF (if c then t else e) x Q E :=
  Post.ite ht he

theorem postF_bind_assoc {δ : Type} (m : FM α β) (f : β → FM α γ) (g : γ → FM α δ) (x : Sys α)
    (Q : δ → Sys α → Prop) (E : Sys α → Prop) :
    PostF ((m >>= f) >>= g) x Q E ↔ PostF (m >>= fun b => f b >>= g) x Q E := post_bind_assoc ..

/-- a step for which `Post` is an equation cannot throw; if it also leaves the schedule alone, the equation holds for `PostF` -/
theorem postF_step {m : FM α β} {x y : Sys α} {b : β} (h : ∀ Q E, Post m x Q E ↔ Q b y)
    (Q : β → Sys α → Prop) (E : Sys α → Prop) (hf : y.faults = x.faults := by rfl) : PostF m x Q E ↔ Q b y :=
  (h ..).trans (and_iff_left fun h0 => hf.trans h0)

theorem postF_step_bind {m : FM α β} {x y : Sys α} {b : β} (h : ∀ Q E, Post m x Q E ↔ Q b y) (f : β → FM α γ)
    (Q : γ → Sys α → Prop) (E : Sys α → Prop) (hf : y.faults = x.faults := by rfl) :
    PostF (m >>= f) x Q E ↔ PostF (f b) y Q E := by
  unfold PostF
  rw [post_bind, h, hf]

theorem postF_getArr_bind (f : State α → FM α γ) (x : Sys α) (Q : γ → Sys α → Prop) (E : Sys α → Prop) :
    PostF (getArr >>= f) x Q E ↔ PostF (f x.arr) x Q E := post_getArr_bind ..

theorem PostF.pure {b : β} {x : Sys α} {Q : β → Sys α → Prop} {E : Sys α → Prop} (h : Q b x) :
    PostF (Pure.pure b : FM α β) x Q E := (postF_step (post_pure b x) Q E).mpr h

theorem tick_spec (b : Bool) (x : Sys α) :
    PostF (tick b) x (fun _ y => y.core = x.core) (fun y => y.core = x.core) := by
  unfold PostF Post tick
  obtain ⟨a, fl, bl, o, bd, ev⟩ := x
  cases b
  · exact ⟨rfl, id⟩
  · rcases fl with _ | ⟨_ | _, fs⟩ <;> simp [nextFault, Sys.core]

theorem construct_spec (b : Bool) (x : Sys α) :
    PostF (construct b) x (fun _ y => y.core = { x.core with objs := x.objs + 1 }) (fun y => y.core = x.core) :=
  PostF.bind _ (tick_spec b x) fun _ y h => (postF_step (post_born _) _ _).mpr (by rw [core_eq_iff] at h; simp [Sys.core, h])

theorem construct_false_spec (x : Sys α) :
    PostF (construct false) x (fun _ y => y.core = { x.core with objs := x.objs + 1 }) (fun _ => False) := by
  unfold construct
  rw [postF_step_bind (post_tick_false _), postF_step (post_born _)]
  rfl

theorem allocB_spec (n : Nat) (x : Sys α) :
    PostF (allocB n) x (fun _ y => y.core = { x.core with blocks := n :: x.blocks }) (fun y => y.core = x.core) := by
  unfold PostF Post allocB
  obtain ⟨a, fl, bl, o, bd, ev⟩ := x
  rcases fl with _ | ⟨_ | _, fs⟩ <;> simp [nextFault, Sys.core]

/-- `Reallocate` of the block `o` that stands first in the ledger (the array's own block, `Frame`) -/
theorem reallocB_own (o n : Nat) (rest : List Nat) (x : Sys α) (hb : x.blocks = o :: rest) :
    PostF (reallocB o n) x (fun _ y => y.core = { x.core with blocks := n :: rest }) (fun y => y.core = x.core) := by
  unfold PostF Post reallocB
  obtain ⟨a, fl, bl, ob, bd, ev⟩ := x
  by_cases h : o = n
  · simp [h, Sys.core, show bl = n :: rest from h ▸ hb]
  · rcases fl with _ | ⟨_ | _, fs⟩ <;> simp [nextFault, Sys.core, h, show bl = o :: rest from hb]

-- from here on `Post` is opened only by an explicit `unfold` where a rule is proved: left reducible, every `apply`/`refine` on a
-- goal `Post program ..` unfolds it and runs the program symbolically
attribute [local irreducible] Post

/-! `y.core = { x.core with objs := x.objs + j }`: since `x`, `j` objects were built and nothing else happened to array and ledger.
    This is how the specifications of the creators and of the constructor loop speak; the lemmas below add such steps up and
    take built objects away again (`core_destroy i`: of `j` built objects `k` are destroyed, `i` stay, no flag is set). -/

theorem core_built_trans {x y z : Sys α} {i j k : Nat} (hy : y.core = { x.core with objs := x.objs + i })
    (hz : z.core = { y.core with objs := y.objs + j }) (hk : k = i + j) :
    z.core = { x.core with objs := x.objs + k } := by
  have ho : y.objs = x.objs + i := congrArg Core.objs hy
  rw [hz, hy, ho, hk, Nat.add_assoc]

theorem core_destroy {x y : Sys α} (i : Nat) {j k : Nat} (hy : y.core = { x.core with objs := x.objs + j }) (hi : i + k = j) :
    ({ y with objs := y.objs - k, bad := y.bad || decide (y.objs < k) } : Sys α).core =
      { x.core with objs := x.objs + i } := by
  subst hi
  obtain ⟨ha, hb, ho, hbad⟩ := (core_eq_objs ..).mp hy
  rw [← Nat.add_assoc] at ho
  refine (core_eq_objs ..).mpr ⟨ha, hb, ?_, ?_⟩
  · show y.objs - k = x.objs + i
    rw [ho, Nat.add_sub_cancel]
  · show (y.bad || decide (y.objs < k)) = x.bad
    rw [ho, decide_eq_false (Nat.not_lt.mpr (Nat.le_add_left ..)), Bool.or_false]; exact hbad

theorem post_undo_built {x y : Sys α} {j : Nat} (hy : y.core = { x.core with objs := x.objs + j })
    (Q : β → Sys α → Prop) : Post (undo j : FM α β) y Q (fun z => z.core = x.core) :=
  (post_undo ..).mpr (core_destroy 0 hy (Nat.zero_add j))

theorem PostF.tryCatch_undo {m : FM α β} {x y : Sys α} {j : Nat} {Q : β → Sys α → Prop}
    (hy : y.core = { x.core with objs := x.objs + j }) (h : PostF m y Q (fun z => z.core = y.core)) :
    PostF (FM.tryCatch m (undo j)) y Q (fun z => z.core = x.core) :=
  PostF.tryCatch _ h fun _ hz => post_undo_built (hz.trans hy) Q

theorem post_ctorLoop_succ (b : Bool) (n done : Nat) (x : Sys α) (Q : Nat × Bool → Sys α → Prop) (E : Sys α → Prop) :
    Post (ctorLoop b (n+1) done) x Q E ↔
      Post (construct b) x (fun _ y => Post (ctorLoop b n (done+1)) y Q E) (fun y => Q (done, true) y) := by
  unfold Post
  rw [ctorLoop]
  dsimp only
  generalize (construct b).run x = r
  obtain ⟨r, y⟩ := r
  cases r <;> rfl

/-- the loop with the `catch` block that follows it: `done` objects built since `x0`; when the flag is set a constructor
    threw, so the schedule was not exhausted -/
theorem ctorLoop_undo_from (b : Bool) {rest : FM α β} {Q : β → Sys α → Prop} : ∀ (n done : Nat) (x x0 : Sys α),
    x.core = { x0.core with objs := x0.objs + done } →
    (∀ y, y.core = { x0.core with objs := x0.objs + (done + n) } → PostF rest y Q (fun z => z.core = x0.core)) →
    PostF (ctorLoop b n done >>= fun r => if r.2 then undo r.1 else rest) x Q (fun z => z.core = x0.core)
  | 0, _, x, _, hx, h => (post_bind ..).mpr ((post_pure ..).mpr (h x hx))
  | n+1, done, x, x0, hx, h => by
    unfold PostF
    rw [post_bind, post_ctorLoop_succ]
    refine Post.mono (construct_spec b x) (fun _ y hy => ?_) fun y hy => ?_
    · have ih := ctorLoop_undo_from b n (done+1) y x0 (core_built_trans hx hy.1 rfl)
        fun z hz => h z (by rw [hz, Nat.add_right_comm done 1 n]; rfl)
      exact (post_bind ..).mp (Post.mono ih (fun _ _ q => ⟨q.1, fun h0 => q.2 (hy.2 h0)⟩) fun _ e => ⟨e.1, fun h0 => e.2 (hy.2 h0)⟩)
    · exact (post_undo ..).mpr ⟨core_destroy 0 (hy.1.trans hx) (Nat.zero_add _), hy.2⟩

theorem ctorLoop_undo_spec (b : Bool) (n : Nat) (x : Sys α) {rest : FM α β} {Q : β → Sys α → Prop}
    (h : ∀ y, y.core = { x.core with objs := x.objs + n } → PostF rest y Q (fun z => z.core = x.core)) :
    PostF (ctorLoop b n 0 >>= fun r => if r.2 then undo r.1 else rest) x Q (fun z => z.core = x.core) :=
  ctorLoop_undo_from b n 0 x x rfl fun y hy => h y (by rw [hy, Nat.zero_add])

theorem own_of_gt {cfg : Cfg} {s : State α} (h : capacity cfg s > cfg.intCap) : ownBlocks cfg s = [s.cap] :=
  if_pos h

theorem own_of_le {cfg : Cfg} {s : State α} (h : capacity cfg s ≤ cfg.intCap) : ownBlocks cfg s = [] :=
  if_neg (Nat.not_lt.mpr h)

theorem erase_own (c : Nat) (rest : List Nat) : ([c] ++ rest).erase c = rest := by simp

theorem bad_after_build (bad : Bool) (objs k j : Nat) (h : j ≤ k) : (bad || decide (objs + k < j)) = bad := by
  rw [decide_eq_false (Nat.not_lt.mpr (Nat.le_trans h (Nat.le_add_left ..))), Bool.or_false]

theorem relocateF_spec (cfg : Cfg) (thr : Thr) (x : Sys α) :
    PostF (relocateF cfg thr) x (fun cs y => cs = x.arr.cells ∧ y.core = x.core) (fun y => y.core = x.core) := by
  unfold relocateF
  rw [postF_getArr_bind]
  refine PostF.ite (fun _ => .pure ⟨rfl, rfl⟩) fun _ => PostF.ite (fun _ => .pure ⟨rfl, rfl⟩) fun hlen => ?_
  refine ctorLoop_undo_spec _ _ x fun y hy => ?_
  apply PostF.bind _ (PostF.tryCatch_undo hy (construct_spec _ y))
  intro _ z hz
  rw [postF_step_bind (post_destroyObjs _ _), postF_step_bind (post_destroyObjs _ _)]
  exact .pure ⟨rfl, core_destroy 0 (core_destroy 1 (core_built_trans hy hz rfl) (Nat.add_comm ..)) rfl⟩

theorem own_ext {cfg : Cfg} (s : State α) (c : Nat) (hc : c > cfg.intCap) (hi : s.internal = false) :
    ownBlocks cfg { s with cap := c } = [c] :=
  own_of_gt (by simp only [capacity, hi, Bool.false_eq_true, ↓reduceIte]; exact hc)

theorem frame_resize {cfg : Cfg} {rest : List Nat} {x : Sys α} {c : Nat} (hc : c > cfg.intCap)
    (hi : x.arr.internal = false) (hb : x.blocks = x.arr.cap :: rest) :
    c :: x.blocks.erase x.arr.cap = ownBlocks cfg { x.arr with cap := c } ++ rest ∧
      (x.bad || !x.blocks.contains x.arr.cap) = x.bad := by
  rw [own_ext _ _ hc hi, hb, List.erase_cons_head]
  simp

theorem reallocateF_spec (cfg : Cfg) (lin exp : Nat) (x : Sys α) (rest : List Nat) (w : WF cfg x.arr)
    (hb : Frame cfg rest x) :
    PostF (reallocateF cfg lin exp) x
      (fun ok y => ok = (reallocate cfg x.arr lin exp).1 ∧ y.arr = (reallocate cfg x.arr lin exp).2.1 ∧
        Frame cfg rest y ∧ y.objs = x.objs ∧ y.bad = x.bad)
      (fun y => y.core = x.core) := by
  unfold Frame at *
  -- both definitions are the same decision tree; the model's is opened once, in `hr`
  generalize hr : reallocate cfg x.arr lin exp = r
  unfold reallocate at hr
  unfold reallocateF
  rw [postF_getArr_bind]
  refine PostF.ite (fun h => ?_) fun hne => ?_
  · rw [if_pos h] at hr; subst hr; exact .pure ⟨rfl, rfl, hb, rfl, rfl⟩
  rw [if_neg hne] at hr
  obtain ⟨hi, hgt, hcap⟩ := w.ext_of_ne hne
  have hb' : x.blocks = x.arr.cap :: rest := by rw [hb, own_of_gt (hcap ▸ hgt)]; rfl
  refine PostF.ite (fun h => ?_) fun hle => ?_
  · rw [if_pos h] at hr; subst hr; exact .pure ⟨rfl, rfl, hb, rfl, rfl⟩
  rw [if_neg hle] at hr
  simp only [Bool.or_eq_true, decide_eq_true_eq, not_or, Nat.not_le] at hle
  -- `Reallocate` to `exp`, after any number of calls that left the ledger alone
  have hre : ∀ x' : Sys α, x'.core = x.core →
      PostF (do reallocB x.arr.cap exp; setArr { x.arr with cap := exp }; pure true) x'
        (fun ok y => ok = true ∧ y.arr = { x.arr with cap := exp } ∧ y.blocks = ownBlocks cfg y.arr ++ rest ∧
          y.objs = x.objs ∧ y.bad = x.bad)
        (fun y => y.core = x.core) := by
    intro x' hx'
    have hx := (core_eq_iff _ _).mp hx'
    apply PostF.bind' _ _ (reallocB_own _ exp rest x' (hx.2.1.trans hb')) (fun _ hy => hy.trans hx')
    intro _ y hy
    rw [core_eq_mk] at hy
    rw [postF_step_bind (post_setArr _ _)]
    exact .pure ⟨rfl, rfl, by rw [own_ext _ _ hle.2 hi]; exact hy.2.1, hy.2.2.1.trans hx.2.2.1, hy.2.2.2.trans hx.2.2.2⟩
  refine PostF.ite (fun hin => ?_) fun hin => ?_
  · rw [if_pos hin] at hr
    refine PostF.ite (fun h => ?_) fun hcl => ?_
    · rw [if_pos h] at hr; subst hr; exact .pure ⟨rfl, rfl, hb, rfl, rfl⟩
    rw [if_neg hcl] at hr
    refine PostF.ite (fun ho => ?_) fun ho => ?_
    · rw [if_pos ho] at hr; subst hr
      rw [postF_step_bind (post_inplaceB _ _ _ _), postF_step_bind (post_setArr _ _)]
      simp only [↓reduceIte, Bool.true_and]
      exact .pure ⟨rfl, rfl, (frame_resize hle.1 hi hb').1, rfl, (frame_resize hle.1 hi hb').2⟩
    rw [if_neg ho] at hr
    rw [postF_step_bind (post_inplaceB _ _ _ _)]
    simp only [Bool.false_eq_true, ↓reduceIte, Bool.false_and, Bool.or_false]
    refine PostF.ite (fun hc => ?_) fun hc => ?_
    · rw [if_pos hc] at hr; subst hr; exact hre _ rfl
    · rw [if_neg hc] at hr; subst hr; exact .pure ⟨rfl, rfl, hb, rfl, rfl⟩
  rw [if_neg hin] at hr
  refine PostF.ite (fun hc => ?_) fun hc => ?_
  · rw [if_pos hc] at hr; subst hr; exact hre _ rfl
  · rw [if_neg hc] at hr; subst hr; exact .pure ⟨rfl, rfl, hb, rfl, rfl⟩

theorem erase_after : ∀ (pre : List Nat), pre.length ≤ 1 → ∀ (c : Nat) (rest : List Nat),
    (pre ++ c :: rest).erase c = pre ++ rest
  | [], _, c, rest => List.erase_cons_head ..
  | [p], _, c, rest => by by_cases h : p = c <;> simp [h]
  | _ :: _ :: _, h, _, _ => by simp at h

/-- `pre`: in front of the block of `s` there is at most the block of one other array (new storage, a temporary) -/
theorem release_spec {cfg : Cfg} {s s' : State α} {z : Sys α} {pre rest : List Nat}
    {Q : Unit → Sys α → Prop} {E : Sys α → Prop} (hb : z.blocks = pre ++ (ownBlocks cfg s ++ rest)) (hpre : pre.length ≤ 1)
    (h : ∀ z' : Sys α, z'.blocks = pre ++ rest → z'.objs = z.objs → z'.bad = z.bad → Q () { z' with arr := s' }) :
    PostF (if capacity cfg s > cfg.intCap then deallocB s.cap >>= fun _ => setArr s' else setArr s') z Q E := by
  refine PostF.ite (fun hc => ?_) fun hc => ?_
  · rw [own_of_gt hc] at hb
    rw [postF_step_bind (post_deallocB _ _), postF_step (post_setArr _ _)]
    refine h _ ?_ rfl ?_
    · show z.blocks.erase s.cap = _
      rw [hb]; exact erase_after pre hpre ..
    · show (z.bad || !z.blocks.contains s.cap) = z.bad
      rw [hb]; simp
  · rw [own_of_le (Nat.le_of_not_gt hc)] at hb
    exact (postF_step (post_setArr _ _) _ _).mpr (h z hb rfl rfl)

/-- `Data::Reset` with any items creator. `d`: the objects the creator adds net (0 for `Relocate`, 1 for `RelocateCreate`, the
    new items for `SetCount`), `newCells` what it returns; `hext`: the branch into the internal buffer is only entered from
    external storage; `hd0`: the branch without any storage runs no creator. -/
theorem resetF_spec (cfg : Cfg) (newCap : Nat) (creator : FM α (Cells α)) (x : Sys α) (rest : List Nat)
    (newCells : Cells α) (d : Nat) (hb : Frame cfg rest x)
    (hext : newCap ≤ cfg.intCap → cfg.intCap > 0 → capacity cfg x.arr > cfg.intCap)
    (hd0 : newCap ≤ cfg.intCap → cfg.intCap = 0 → d = 0)
    (hc : ∀ z : Sys α, z.arr = x.arr →
      PostF creator z (fun cs z' => cs = newCells ∧ z'.core = { z.core with objs := z.objs + d })
        (fun z' => z'.core = z.core)) :
    PostF (resetF cfg newCap creator) x
      (fun _ y => y.arr = (reset cfg x.arr newCap newCells).1 ∧ Frame cfg rest y ∧ y.objs = x.objs + d ∧ y.bad = x.bad)
      (fun y => y.core = x.core) := by
  unfold resetF reset Frame at *
  rw [postF_getArr_bind]
  refine PostF.ite (fun hgt => ?_) fun hle => PostF.ite (fun hpos => ?_) fun h0 => ?_
  · rw [if_pos hgt]
    apply PostF.bind _ (allocB_spec newCap x)
    intro _ y hy
    obtain ⟨ya, yb, yo, ybad⟩ := (core_eq_mk ..).mp hy
    apply PostF.bind (fun cs z => cs = newCells ∧ z.arr = x.arr ∧ z.blocks = newCap :: x.blocks ∧ z.objs = x.objs + d ∧
      z.bad = x.bad)
    · apply PostF.tryCatch _ (PostF.mono (hc y ya) _ (fun _ h => h))
      · intro z hz
        obtain ⟨za, zb, zo, zbad⟩ := (core_eq_iff ..).mp hz
        rw [post_bind, post_deallocB, post_throw, core_eq_iff]
        refine ⟨za.trans ya, ?_, zo.trans yo, ?_⟩
        · show z.blocks.erase newCap = x.blocks
          rw [zb, yb]; exact List.erase_cons_head ..
        · show (z.bad || !z.blocks.contains newCap) = x.bad
          rw [zb, yb, zbad, ybad]; simp
      · rintro cs z ⟨h1, h2⟩
        obtain ⟨za, zb, zo, zbad⟩ := (core_eq_objs ..).mp h2
        exact ⟨h1, za.trans ya, zb.trans yb, by rw [zo, yo]; rfl, zbad.trans ybad⟩
    · rintro cs z ⟨rfl, za, zb, zo, zbad⟩
      refine release_spec (pre := [newCap]) (rest := rest) (by rw [zb, hb]; rfl) (Nat.le_refl 1) fun z' hb' ho hbad => ?_
      exact ⟨rfl, by rw [own_of_gt (s := { x.arr with cells := cs, cap := newCap, internal := false }) hgt]; exact hb',
        ho.trans zo, hbad.trans zbad⟩
  · rw [if_neg hle, if_pos hpos]
    apply PostF.bind _ (hc x rfl)
    rintro cs z ⟨rfl, hz⟩
    obtain ⟨za, zb, zo, zbad⟩ := (core_eq_objs ..).mp hz
    rw [postF_step_bind (post_deallocB _ _), postF_step (post_setArr _ _)]
    have hx : z.blocks = x.arr.cap :: rest := by rw [zb, hb, own_of_gt (hext (Nat.le_of_not_gt hle) hpos)]; rfl
    refine ⟨rfl, ?_, zo, ?_⟩
    · show z.blocks.erase x.arr.cap = ownBlocks cfg { x.arr with cells := cs, internal := true } ++ rest
      rw [hx, own_of_le (s := { x.arr with cells := cs, internal := true }) (Nat.le_refl cfg.intCap)]
      exact List.erase_cons_head ..
    · show (z.bad || !z.blocks.contains x.arr.cap) = x.bad
      rw [hx, zbad]; simp
  · rw [if_neg hle, if_neg h0, hd0 (Nat.le_of_not_gt hle) (Nat.eq_zero_of_not_pos h0)]
    refine release_spec (pre := []) hb (Nat.zero_le 1) fun z' hb' ho hbad => ?_
    exact ⟨rfl, by rw [own_of_le (s := { x.arr with cells := [], cap := 0, internal := false }) (Nat.zero_le _)]; exact hb',
      ho, hbad⟩

theorem moveToF_spec (cfg : Cfg) (thr : Thr) (lin exp : Nat) (x : Sys α) (rest : List Nat) (w : WF cfg x.arr)
    (hb : Frame cfg rest x) (hext : exp ≤ cfg.intCap → cfg.intCap > 0 → capacity cfg x.arr > cfg.intCap) :
    PostF (moveToF cfg thr lin exp) x
      (fun _ y => y.arr = (moveTo cfg x.arr lin exp).1 ∧ Frame cfg rest y ∧ y.objs = x.objs ∧ y.bad = x.bad)
      (fun y => y.core = x.core) := by
  unfold moveToF moveTo
  apply PostF.bind _ (reallocateF_spec cfg lin exp x rest w hb)
  rintro ok y ⟨rfl, ya, yf, yo, ybad⟩
  refine PostF.ite (fun h => ?_) fun h => ?_
  · rw [if_pos h]
    exact .pure ⟨ya, yf, yo, ybad⟩
  · rw [if_neg h]
    -- a refused `Reallocate` leaves array and ledger alone
    have hs : (reallocate cfg x.arr lin exp).2.1 = x.arr := by
      rcases reallocate_cases cfg x.arr lin exp with ⟨_, h2⟩ | ⟨h1, _⟩
      · exact h2
      · exact absurd h1 h
    rw [hs] at ya
    have hyx : y.core = x.core := by
      rw [core_eq_iff]
      exact ⟨ya, by unfold Frame at yf hb; rw [yf, hb, ya], yo, ybad⟩
    apply PostF.mono (resetF_spec cfg exp (relocateF cfg thr) y rest x.arr.cells 0 yf (by rw [ya]; exact hext)
      (fun _ _ => rfl) fun z hz => PostF.mono (relocateF_spec cfg thr z) (fun cs _ h => ⟨by rw [h.1, hz, ya], h.2⟩) fun _ h => h)
    · rintro _ z ⟨za, zf, zo, zbad⟩
      exact ⟨by rw [za, ya], zf, zo.trans yo, zbad.trans ybad⟩
    · exact fun z hz => hz.trans hyx

theorem growF_spec (cfg : Cfg) (thr : Thr) (minNew : Nat) (r : Bool) (x : Sys α) (rest : List Nat) (w : WF cfg x.arr)
    (hb : Frame cfg rest x) (hpos : capacity cfg x.arr < minNew) :
    PostF (growF cfg thr minNew r) x
      (fun _ y => y.arr = (grow cfg x.arr minNew r).1 ∧ Frame cfg rest y ∧ y.objs = x.objs ∧ y.bad = x.bad)
      (fun y => y.core = x.core) := by
  unfold growF grow
  rw [postF_getArr_bind]
  apply moveToF_spec cfg thr _ _ x rest w hb
  exact fun h1 _ => absurd h1 (Nat.not_le_of_gt (growCapacity_gt w hpos ..))

end Momo.ArrF
