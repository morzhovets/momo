import Momo.Proof.ValXfer
/-!
  Move assignment of the stdish wrappers (C14): `mNested = pvCreate…(std::move(right), alloc)` with
  `alloc = (propagate ? right : *this).get_allocator()`; steal when the allocators are equal, element-wise otherwise.
-/
namespace Momo.Val

/-- the steps after the temporary has been created -/
def assignTail (cfg : Cfg) (i : Nat) : List Prim :=
  if cfg.k.arrayStyle then [.destroy i, .move i cfg.t1, .destroy cfg.t1]
  else [.move cfg.t1 cfg.t2, .swap cfg.t1 i, .destroy cfg.t1, .destroy cfg.t2]

theorem assignTail_eq (cfg : Cfg) (i : Nat) (hiT : i ≠ tmpT cfg) :
    assignTail cfg i = nativeMoveAssign cfg i (tmpT cfg) ++ [Prim.destroy (tmpT cfg)] := by
  unfold assignTail tmpT nativeMoveAssign
  unfold tmpT at hiT
  rcases Bool.eq_false_or_eq_true cfg.k.arrayStyle with hk | hk
  · simp only [hk, if_true] at hiT ⊢
    simp [hiT]
  · simp [hk]

theorem wMoveAssign_expand (cfg : Cfg) (w : World) (i j : Nat) (hij : i ≠ j) (a : Mgr) (lay : Lay) (keep : Nat)
    (ha : allocOf w (if cfg.isEmpty || cfg.pocma then j else i) = some a) :
    expand cfg w (.wMoveAssign i j lay keep) = (createFrom w (tmpT cfg) j a lay keep).map (· ++ assignTail cfg i) := by
  simp only [expand, hij, if_false, ha, tmpT, assignTail]
  rcases Bool.eq_false_or_eq_true cfg.k.arrayStyle with hk | hk <;> simp [hk]

theorem wMoveAssign_spec (cfg : Cfg) {w w1 : World} {evs : List Ev} (wf : WF w) (i j : Nat) (hij : i ≠ j)
    (ci cj : Cont) (mi mj : Mgr) (hi : w.objs i = some ci) (hj : w.objs j = some cj)
    (hmi : ci.mgr = some mi) (hmj : cj.mgr = some mj) (lay : Lay) (keep : Nat) (a : Mgr)
    (ha : a = if cfg.isEmpty || cfg.pocma then mj else mi)
    (h : step cfg w (.wMoveAssign i j lay keep) = some (w1, evs)) :
    WF w1 ∧
    (mj = a →
      w1.objs i = some cj ∧ contents w1.heap cj = contents w.heap cj ∧ w1.objs j = some (nullOf cfg.k cj) ∧
      Quiet cfg.k (fun m h => m = mi ∧ h ∈ ci.owned) evs) ∧
    (mj ≠ a →
      (∃ t, w1.objs i = some t ∧ t.mgr = some a ∧ usable cfg.k t = true ∧
          contents w1.heap t = lay.inl ++ lay.cells.flatten ∧ (∀ h ∈ t.owned, w.heap.next ≤ h)) ∧
      (∃ cj', w1.objs j = some cj' ∧ cj'.mgr = some mj ∧ cj'.aux = cj.aux ∧ contents w1.heap cj' = []) ∧
      (∃ rest, evs.filter isXfer = xferEvs cfg.k (contents w.heap cj) ++ rest) ∧
      Trace cfg.k (fun m h => m = a ∧ w.heap.next ≤ h)
        (fun m h => (m = mj ∧ h ∈ cj.body) ∨ (m = mi ∧ h ∈ ci.owned)) evs) ∧
    (∀ x c, x ≠ i → x ≠ j → x ≠ tmpT cfg → w.objs x = some c → w1.objs x = some c ∧ contents w1.heap c = contents w.heap c) := by
  have wf1 := (step_effect cfg wf _ h).wf
  have hal : allocOf w (if cfg.isEmpty || cfg.pocma then j else i) = some a := by
    rw [ha]; split <;> simp [allocOf, hi, hj, hmi, hmj]
  have halj : allocOf w j = some mj := by simp [allocOf, hj, hmj]
  simp only [step, wMoveAssign_expand cfg w i j hij a lay keep hal] at h
  cases hc : createFrom w (tmpT cfg) j a lay keep with
  | none => simp [hc] at h
  | some qs =>
    simp only [hc, Option.map_some] at h
    obtain ⟨wA, e1, e2, hA, hB, rfl⟩ := run_append_inv h
    simp only [createFrom, halj] at hc
    have hji : j ≠ i := fun e => hij e.symm
    by_cases hst : mj = a
    · -- equal allocators: the nested container is moved
      simp only [hst, if_true, Option.some.injEq] at hc
      subst hc
      rw [run_single] at hA
      have wfA := (prim_effect cfg.k wf _ hA).wf
      obtain ⟨s, hs, hT, rfl, rfl⟩ := Exec.of_exec hA
      rw [hj] at hs; cases hs
      have hiT := ne_of_live_dead hi hT
      have hjT := ne_of_live_dead hj hT
      rw [assignTail_eq cfg i hiT] at hB
      obtain ⟨g1, g3, g4, g5, q⟩ := assignFromTemp_spec cfg wfA i (tmpT cfg) hiT ci cj
        ((upd_other _ _ hiT).trans ((upd_other _ _ hij).trans hi)) (upd_same _ _ _) hB
      refine ⟨wf1, fun _ => ⟨g1, g3, ?_, ((Trace.relocs _).append q).mono (fun _ _ => id) fun m h hx =>
        ⟨Option.some.inj (hx.1.symm.trans hmi), hx.2⟩⟩, fun hne => absurd hst hne, ?_⟩
      · rw [g4 j hji hjT]; exact (upd_other _ _ hjT).trans (upd_same _ _ _)
      · intro x c hxi hxj hxT hc
        have hxA : (upd (upd w.objs j (some (nullOf cfg.k cj))) (tmpT cfg) (some cj)) x = some c := by
          simp [upd, hxT, hxj, hc]
        exact ⟨by rw [g4 x hxi hxT]; exact hxA, g5 x c hxi hxA⟩
    · -- unequal allocators: element by element
      simp only [hst, if_false, Option.some.injEq] at hc
      subst hc
      obtain ⟨wfA, hT, hjT, ⟨t, htA, htm, htu, htc, htf⟩, ⟨cj', hcA, hcm, hca, _, hcc⟩, hoth, hcon, hx, qx⟩ :=
        xferUnequal_spec cfg.k wf (tmpT cfg) j a mj lay keep cj hj hmj hA
      have hiT := ne_of_live_dead hi hT
      have hAi : wA.objs i = some ci := by rw [hoth i hij hiT]; exact hi
      rw [assignTail_eq cfg i hiT] at hB
      obtain ⟨g1, g3, g4, g5, q⟩ := assignFromTemp_spec cfg wfA i (tmpT cfg) hiT ci t hAi htA hB
      refine ⟨wf1, fun he => absurd he hst, fun _ => ⟨⟨t, g1, htm, htu, by rw [g3, htc], htf⟩, ⟨cj', ?_, hcm, hca, ?_⟩,
        ⟨(e2.filter isXfer), by rw [List.filter_append, hx]⟩,
        (qx.mono (fun _ _ => id) fun _ _ => .inl).append (q.mono (fun _ _ => False.elim) fun m h hx =>
          .inr ⟨Option.some.inj (hx.1.symm.trans hmi), hx.2⟩)⟩, ?_⟩
      · rw [g4 j hji hjT]; exact hcA
      · rw [g5 j cj' hji hcA]; exact hcc
      · intro x c hxi hxj hxT hc
        have hxA : wA.objs x = some c := by rw [hoth x hxj hxT]; exact hc
        exact ⟨by rw [g4 x hxi hxT]; exact hxA, by rw [g5 x c hxi hxA]; exact hcon x c hxj hxT hc⟩

end Momo.Val
