import Momo.Props.C15
import Momo.Model.VerTableX
/-!
  C15 for the entry points of Model/VerTableX.lean (repairs F31 / F32): a detached row of another table given to
  `TryUpdate(rowNumber, Row&&)`, and advancing / dereferencing the iterator of the row bounds of `FindByMultiHash`.
-/
namespace Momo.Ver
open BWorld

/-- "an iterator of another container ... throws std::invalid_argument and leaves the container unchanged", for the detached row
    handed to `TryUpdate(rowNumber, Row&&)` / `Update(rowNumber, Row&&)`: a row made by the other table is rejected for every row
    number and every content, and nothing changes -/
theorem C15_table_update_foreign_row_rejected (w : BWorld) (hw : w.WF) (o : Bool) (i a b : Nat) :
    w.stepX (.updRowOf o (!o) i a b) = (w, none) := by
  have hne : ((w.obj (!o)).id == (w.obj o).id) = false := by
    cases o
    · exact beq_false_of_ne (Ne.symm hw.2.2.2.2.2.2)
    · exact beq_false_of_ne hw.2.2.2.2.2.2
  dsimp only [BWorld.stepX, Table.tryUpdateRowOf]
  rw [hne]; rfl

/-- with a row of its own the repaired entry point is exactly `BOp.updRow` (so every theorem about `updRow` - bump_on_mutation,
    the index rejection table, the history theorems - speaks about it) -/
theorem C15_table_update_own_row (w : BWorld) (o : Bool) (i a b : Nat) :
    w.stepX (.updRowOf o o i a b) = w.step (.updRow o i a b) := by
  dsimp only [BWorld.stepX, BWorld.step, Table.tryUpdateRowOf]
  rw [beq_self_eq_true]; rfl

/-- a rejected call of the additional entry points returns the world unchanged -/
theorem C15_tableX_rejected_unchanged (w : BWorld) (op : BOpX) (h : (w.stepX op).2 = none) : w.stepX op = (w, none) := by
  cases op with
  | updRowOf o src i a b =>
    dsimp only [BWorld.stepX] at h ⊢
    split at h
    · cases h
    · rfl
  | mbAdv m i => dsimp only [BWorld.stepX] at h ⊢; rw [h]
  | mbIt m i => dsimp only [BWorld.stepX] at h ⊢; rw [h]

/-- the iterator entry points never change the world -/
theorem C15_tableX_iter_world (w : BWorld) (m : MBounds) (i : Nat) :
    (w.stepX (.mbAdv m i)).1 = w ∧ (w.stepX (.mbIt m i)).1 = w := ⟨rfl, rfl⟩

/-- the decision table of `it += i` from the begin position -/
theorem C15_bounds_advance_table (m : MBounds) (cs : Cells) (i : Nat) :
    (m.advance cs i).isSome = (decide (i = 0) || (m.ckp.check cs && !m.raws.isEmpty && decide (i ≤ m.raws.length))) := by
  unfold MBounds.advance
  by_cases hi : i = 0
  · rw [if_pos hi, decide_eq_true hi]; rfl
  · rw [if_neg hi, decide_eq_false hi]
    cases m.ckp.check cs <;> cases m.raws.isEmpty <;> cases decide (i ≤ m.raws.length) <;> rfl

/-- `*(GetBegin() + i)` answers exactly like `bounds[i]`: the decision table, stale_rejected, fresh_accepted and the history
    theorems of `BOp.mbAt` hold for it (in particular the END position and every position above it are rejected) -/
theorem C15_bounds_iter_eq_index (w : BWorld) (m : MBounds) (i : Nat) : w.stepX (.mbIt m i) = w.step (.mbAt m i) := by
  have key : m.iterAt w.cs i = m.at_ w.cs i := by
    unfold MBounds.iterAt MBounds.derefAt MBounds.at_
    cases hr : m.raws[i]? with
    | none => cases m.advance w.cs i <;> cases chk (m.ckp.check w.cs) <;> rfl
    | some raw =>
      cases hc : m.ckp.check w.cs
      · cases m.advance w.cs i <;> rfl
      · -- a position that holds a row lies inside non-empty bounds, so the move to it is accepted
        have hlt : i < m.raws.length := (List.getElem?_eq_some_iff.mp hr).1
        have hne : m.raws.isEmpty = false := List.isEmpty_eq_false_iff.mpr (List.ne_nil_of_length_pos (Nat.zero_lt_of_lt hlt))
        have ha : (m.advance w.cs i).isSome = true := by
          rw [C15_bounds_advance_table, hc, hne, decide_eq_true (Nat.le_of_lt hlt)]
          exact Bool.or_true _
        cases hadv : m.advance w.cs i with
        | none => rw [hadv] at ha; cases ha
        | some u => rfl
  show (w, (m.iterAt w.cs i).map BRes.ref) = (w, (m.at_ w.cs i).map BRes.ref)
  rw [key]

/-- stale_rejected / out of range: moving the iterator of stale bounds, moving it above the end, or moving the iterator of empty
    bounds at all throws and changes nothing -/
theorem C15_bounds_advance_rejected (w : BWorld) (m : MBounds) (i : Nat) (hi : 0 < i)
    (h : Stale m.ckp w.cs ∨ m.raws.length < i ∨ m.raws = []) : w.stepX (.mbAdv m i) = (w, none) := by
  have hn : (m.advance w.cs i).isSome = false := by
    rw [C15_bounds_advance_table, decide_eq_false (Nat.ne_of_gt hi)]
    rcases h with h | h | h
    · rw [h.check]; rfl
    · rw [decide_eq_false (Nat.not_le.mpr h)]; exact Bool.and_false _
    · rw [h]
      cases m.ckp.check w.cs <;> rfl
  dsimp only [BWorld.stepX]
  cases hx : m.advance w.cs i with
  | none => rfl
  | some x => rw [hx] at hn; cases hn

/-- fresh_accepted: the iterator of bounds whose keeper is current may be moved to every position up to and including the end;
    not moving it (`+= 0`) is never rejected -/
theorem C15_bounds_advance_accepted (w : BWorld) (m : MBounds) (i : Nat)
    (h : i = 0 ∨ (m.ckp.check w.cs = true ∧ i ≤ m.raws.length ∧ m.raws ≠ [])) : w.stepX (.mbAdv m i) = (w, some .unit) := by
  have hn : (m.advance w.cs i).isSome = true := by
    rw [C15_bounds_advance_table]
    rcases h with h | ⟨h1, h2, h3⟩
    · rw [decide_eq_true h]; rfl
    · have := List.isEmpty_eq_false_iff.mpr h3
      rw [h1, this, decide_eq_true h2]
      exact Bool.or_true _
  dsimp only [BWorld.stepX]
  cases hx : m.advance w.cs i with
  | none => rw [hx] at hn; cases hn
  | some x => rfl

/-- history: bounds taken in `w0` - after any history that changed the rows of their table the iterator can neither be moved nor
    dereferenced; after any history that did not, it can be moved to every position and dereferenced below the end -/
theorem C15_bounds_iter_history (w0 : BWorld) (hw : w0.WF) (ops : List BOp) (o : Bool) (m : MBounds)
    (hk : m.ckp = snap w0.cs (w0.obj o).ccell) :
    (SomeChange o w0 ops → (w0.run ops).cs (w0.obj o).ccell < w0.cs (w0.obj o).ccell + W →
      ∀ i, (w0.run ops).stepX (.mbIt m i) = (w0.run ops, none) ∧ (0 < i → (w0.run ops).stepX (.mbAdv m i) = (w0.run ops, none))) ∧
    (AllQuiet o true w0 ops →
      (∀ i, i < m.raws.length → ((w0.run ops).stepX (.mbIt m i)).2.isSome = true) ∧
      (∀ i, i ≤ m.raws.length → m.raws ≠ [] → (w0.run ops).stepX (.mbAdv m i) = (w0.run ops, some .unit))) := by
  refine ⟨fun hch hlt i => ⟨?_, fun hi => ?_⟩, fun hq => ⟨fun i hi => ?_, fun i hi hne => ?_⟩⟩
  · rw [C15_bounds_iter_eq_index]; exact C15_table_history_bounds_stale w0 hw ops o m hk hch hlt i
  · exact C15_bounds_advance_rejected _ m i hi (Or.inl (hk ▸ snap_stale (run_change o ops w0 hw hch) hlt))
  · rw [C15_bounds_iter_eq_index]; exact C15_table_history_bounds_fresh w0 hw ops o hq m hk i hi
  · have hcell := (run_quiet o true ops w0 hw hq).2 rfl
    have hc : m.ckp.check (w0.run ops).cs = true := by rw [hk]; exact check_of_cell_eq hcell
    exact C15_bounds_advance_accepted _ m i (Or.inr ⟨hc, hi, hne⟩)

/-! non-vacuity: the example world of Props/C15 (`exBW`) -/
example : exBW.WF := by simp [BWorld.WF, exBW, exTbl]
example : (exBW.stepX (.updRowOf false true 0 1 1)).2 = none ∧ (exBW.stepX (.updRowOf false false 0 77 1)).2.isSome = true := by
  constructor <;> decide +kernel
example : (exBW.stepX (.mbIt (exBW.a.findMulti exBW.cs 5) 1)).2.isSome = true ∧ (exBW.stepX (.mbIt (exBW.a.findMulti exBW.cs 5) 2)).2 = none ∧
    (exBW.stepX (.mbAdv (exBW.a.findMulti exBW.cs 5) 2)).2.isSome = true ∧ (exBW.stepX (.mbAdv (exBW.a.findMulti exBW.cs 5) 3)).2 = none := by
  refine ⟨?_, ?_, ?_, ?_⟩ <;> decide +kernel

end Momo.Ver
