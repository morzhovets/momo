import Momo.Proof.BTreeFaultBulk
import Momo.Proof.ListFacts
/-!
  C10 for the B-tree family: merges under every fault schedule. `pvMergeTo` (extract one by one, insert by key) and
  `pvMergeToLinear` here, `pvMergeFast` and the dispatch of `MergeTo(TreeSet&)` in `Proof/BTreeFaultMergeTo.lean`, all with
  the same outcome (`MergeOut`): wherever a step throws, both containers are well-formed and sorted, source + destination hold
  exactly the elements they held before (each element in exactly one place), the source only lost and the destination only
  gained elements, and the ledger moved exactly with what the two containers own (`Frame2`). Without an exception the
  destination is the reference merge (so only refused elements stay behind).
  The searches of the linear loop (`isOrderedF_spec`, `skipF_spec`) are `SearchOK` statements; they speak of
  `Tree.mergeLinear.skip`, hence not in `BTreeFaultBasic`.
-/
namespace Momo.BTreeF
open Momo Momo.BTree Momo.BTree.Node
variable {α : Type}

/-- the extracting creator of the merges as a `CreatorSpec`: what it books (`f`) is the node difference of the source; when it
    throws (`P`) the source is the old one; when it returns (`Q`) the source is well-formed and its iterator is the cursor at
    the same index of the list without the extracted element -/
theorem extractCreator_spec (S : Sched) (ic : ICfg α) (hu : ic.unsafeRepl = false) (cfg : Cfg) {src : FTree α} {pos : Pos}
    {l : List α} {i : Nat} (hw : src.WF cfg) (hc : Cur cfg src.tree pos l i) (hlt : i < l.length) :
    CreatorSpec (extractCreator S ic cfg src pos) (fun s => s.1.nodeLed - src.nodeLed) (fun s => s.1 = src)
      (fun s => s.1.WF cfg ∧ Cur cfg s.1.tree s.2 (l.eraseIdx i) i) := by
  intro w0
  unfold extractCreator
  have hsp := @removeF_spec _ S ic cfg .extract src hw pos (hc.validElem hlt) w0
  generalize removeF S ic cfg .extract src pos w0 = g at hsp ⊢
  obtain ⟨t, src', p, w1⟩ := g
  obtain ⟨a1, a2, -⟩ := hsp rfl
  refine ⟨fun hh => ⟨(a1 hh).1, (a1 hh).2 hu⟩, fun hh => ?_⟩
  obtain ⟨b1, b2, b3, b4, b5⟩ := a2 hh
  exact ⟨b5.trans (Ledger.add_zero' _), b2, b2.tree, b4, hc.list ▸ hc.idx ▸ b1, hc.idx ▸ b3⟩

/-- `Frame` for a source and a destination between which elements move: the ledger moved exactly with what the two own together,
    so an element in transit is never counted twice or lost. A transfer concludes it by `Frame2.of_transfer`. -/
def Frame2 (w : W) (src dst : FTree α) (w' : W) (src' dst' : FTree α) : Prop :=
  w'.led + src.own + dst.own = w.led + src'.own + dst'.own

theorem Frame2.refl (w : W) (src dst : FTree α) : Frame2 w src dst w src dst := rfl

theorem Frame2.trans {w w1 w2 : W} {s s1 s2 d d1 d2 : FTree α} (h1 : Frame2 w s d w1 s1 d1) (h2 : Frame2 w1 s1 d1 w2 s2 d2) :
    Frame2 w s d w2 s2 d2 := by
  unfold Frame2 at *
  rw [Ledger.add_assoc'] at h1 h2 ⊢
  rw [Ledger.add_assoc'] at h1 h2 ⊢
  exact Ledger.add_eq_add_trans h1 h2

theorem Frame2.of_led_eq {w0 w w' : W} {s d s' d' : FTree α} (he : w0.led = w.led) (h : Frame2 w0 s d w' s' d') :
    Frame2 w s d w' s' d' := by
  unfold Frame2 at *; rw [← he]; exact h

theorem Frame2.of_dst {w w' : W} {s d d' : FTree α} (h : Frame w d w' d') : Frame2 w s d w' s d' := by
  unfold Frame2 Frame at *
  rw [Ledger.add_right_comm', h, Ledger.add_right_comm']

theorem Frame2.of_transfer {w w' : W} {s d s' d' : FTree α}
    (hl : w'.led = w.led + (s'.nodeLed - s.nodeLed) + (d'.nodeLed - d.nodeLed))
    (hn : s'.tree.toList.length + d'.tree.toList.length = s.tree.toList.length + d.tree.toList.length) :
    Frame2 w s d w' s' d' := by
  unfold Frame2
  rw [own_eq, own_eq, own_eq, own_eq]
  exact Ledger.frame_of_move hl (by omega)

variable {lt : α → α → Bool}

/-- what `MergeTo` may assume of its two containers and what holds again at every point where it can stop: both are well-formed and
    sorted (so a unique-key destination has no duplicate) -/
structure MergeInv (lt : α → α → Bool) (cfg : Cfg) (src dst : FTree α) : Prop where
  ws : src.WF cfg
  wd : dst.WF cfg
  ss : SortedBy lt cfg.multi src.tree.toList
  sd : SortedBy lt cfg.multi dst.tree.toList

/-- the outcome of a (possibly interrupted) merge from `(w, src, dst)` to `(w', src', dst')`. Composed by `MergeOut.refl` (nothing
    moved), `MergeOut.of_moved`, `MergeOut.of_failed`, `MergeOut.trans` -/
structure MergeOut (lt : α → α → Bool) (cfg : Cfg) (w : W) (src dst : FTree α) (w' : W) (src' dst' : FTree α) : Prop where
  inv : MergeInv lt cfg src' dst'
  perm : (src'.tree.toList ++ dst'.tree.toList).Perm (src.tree.toList ++ dst.tree.toList)
  subS : src'.tree.toList.Sublist src.tree.toList
  subD : dst.tree.toList.Sublist dst'.tree.toList
  frame : Frame2 w src dst w' src' dst'

/-- nothing moved; only steps that leave the ledger alone (comparisons) ran -/
theorem MergeOut.refl {cfg : Cfg} {w w' : W} (hl : w'.led = w.led) {src dst : FTree α} (hi : MergeInv lt cfg src dst) :
    MergeOut lt cfg w src dst w' src dst :=
  ⟨hi, List.Perm.refl _, List.Sublist.refl _, List.Sublist.refl _, Frame2.of_led_eq hl (Frame2.refl w' src dst)⟩

theorem MergeOut.trans {cfg : Cfg} {w w1 w2 : W} {s s1 s2 d d1 d2 : FTree α} (h1 : MergeOut lt cfg w s d w1 s1 d1)
    (h2 : MergeOut lt cfg w1 s1 d1 w2 s2 d2) : MergeOut lt cfg w s d w2 s2 d2 :=
  ⟨h2.inv, h2.perm.trans h1.perm, h2.subS.trans h1.subS, h1.subD.trans h2.subD, h1.frame.trans h2.frame⟩

/-- element `i` of the source went over to place `j` of the destination -/
theorem MergeOut.of_moved {cfg : Cfg} {w w' : W} {src dst src1 dst1 : FTree α} (hi : MergeInv lt cfg src dst) {ls ld : List α}
    {i j : Nat} {x : α} (hls : src.tree.toList = ls) (hld : dst.tree.toList = ld) (hx : ls[i]? = some x) (hj : j ≤ ld.length)
    (e1 : src1.tree.toList = ls.eraseIdx i) (e2 : dst1.tree.toList = ld.insertIdx j x)
    (hw1 : src1.WF cfg) (hw2 : dst1.WF cfg) (hsd : SortedBy lt cfg.multi (ld.insertIdx j x))
    (hl : w'.led = w.led + (src1.nodeLed - src.nodeLed) + (dst1.nodeLed - dst.nodeLed)) :
    MergeOut lt cfg w src dst w' src1 dst1 := by
  subst hls hld
  have hlt := ListFacts.lt_of_getElem? hx
  refine ⟨⟨hw1, hw2, by rw [e1]; exact sortedBy_eraseIdx lt _ _ _ hi.ss, e2 ▸ hsd⟩, ?_, ?_, ?_, ?_⟩
  · rw [e1, e2]; exact ListFacts.perm_move hx hj
  · rw [e1]; exact List.eraseIdx_sublist _ _
  · rw [e2]; exact ListFacts.sublist_insertIdx x hj
  · exact Frame2.of_transfer hl (by rw [e1, e2, List.length_eraseIdx_of_lt hlt, List.length_insertIdx_of_le_length hj x]; omega)

/-- a transfer that failed before the element left the source: the destination has the old tree (only its node-params block
    may have come into being) -/
theorem MergeOut.of_failed {cfg : Cfg} {w w0 w' : W} {src dst dst1 : FTree α} (hi : MergeInv lt cfg src dst)
    (hw0 : w0.led = w.led) (hwf : dst1.WF cfg) (ht : dst1.tree = dst.tree)
    (hl : w'.led = w0.led + (dst1.nodeLed - dst.nodeLed)) : MergeOut lt cfg w src dst w' src dst1 :=
  ⟨⟨hi.ws, hwf, hi.ss, ht ▸ hi.sd⟩, by rw [ht], List.Sublist.refl _, ht ▸ List.Sublist.refl _,
    Frame2.of_led_eq hw0 (Frame2.of_dst (Frame.of_same_tree ht hl))⟩

/-- the loop from the *current* pair of containers: `l` is the list of the current source, `i` the cursor of its iterator (`Cur`) -/
theorem mergeGenericF_go_spec (S : Sched) (ic : ICfg α) (hu : ic.unsafeRepl = false) (cfg : Cfg) (hmax : 0 < cfg.maxCap)
    (lt : α → α → Bool) (ho : Order lt) (fuel : Nat) {src dst : FTree α} {pos : Pos} {l : List α} {i : Nat} (hi : MergeInv lt cfg src dst)
    (hc : Cur cfg src.tree pos l i) (hf : l.length ≤ i + fuel) (w : W)
    {t : Bool} {src' dst' : FTree α} {w' : W} (h : mergeGenericF.go S ic cfg lt fuel src dst pos w = (t, src', dst', w')) :
    MergeOut lt cfg w src dst w' src' dst' ∧
    (t = false → dst'.tree.toList = (l.drop i).foldl (Spec.insert1 lt cfg.multi) dst.tree.toList) := by
  induction fuel generalizing src dst pos l i w with
  | zero =>
    obtain rfl : i = l.length := Nat.le_antisymm hc.le hf
    cases h
    exact ⟨MergeOut.refl rfl hi, fun _ => by simp⟩
  | succ n ih =>
    simp only [mergeGenericF.go] at h
    rcases hc.cases with ⟨hend, rfl⟩ | ⟨hend, x, hx1, hx2⟩
    · rw [if_pos hend] at h
      cases h
      exact ⟨MergeOut.refl rfl hi, fun _ => by simp⟩
    · rw [if_neg hend] at h
      have hlt := ListFacts.lt_of_getElem? hx2
      simp only [hx1] at h
      obtain ⟨j1, j2, j3, j4, -, -⟩ := tree_insert_insert1 lt ho cfg hmax dst.tree hi.wd.tree hi.sd x
      have hsp := @insertF_spec _ _ S ic cfg hmax lt ho dst hi.wd hi.sd x _ (src, pos) _ _ _
        (extractCreator_spec S ic hu cfg hi.ws hc hlt) w
      generalize insertF S ic cfg lt dst x (extractCreator S ic cfg src pos) (src, pos) w = g at h hsp
      obtain ⟨t1, ⟨src1, pp⟩, dst1, p1, ins1, w1⟩ := g
      obtain ⟨a1, a2, a3, -⟩ := hsp rfl
      rw [ListFacts.drop_of_getElem? hx2, List.foldl_cons, ← j1]
      cases t1 with
      | true =>
        cases h
        obtain ⟨e1, e2, e3⟩ := a1 rfl
        cases e3.elim (congrArg Prod.fst) id
        exact ⟨MergeOut.of_failed hi rfl a3 e1 e2, nofun⟩
      | false =>
        obtain ⟨b1, -, b3, b4, b5⟩ := a2 rfl
        cases ins1 with
        | true =>
          obtain ⟨b5, f1, f2⟩ := b5 rfl
          have c1 := tree_insert_inserted lt ho cfg hmax dst.tree hi.wd.tree hi.sd x b3.symm
          have hstep : MergeOut lt cfg w src dst w1 src1 dst1 :=
            MergeOut.of_moved hi hc.list rfl hx2 (upperIdx_le lt _ x) f2.list (b1 ▸ c1) f1 a3 (c1 ▸ j4) b5
          obtain ⟨i1, i2⟩ := ih hstep.inv f2 (by rw [List.length_eraseIdx_of_lt hlt]; omega) w1 h
          exact ⟨hstep.trans i1, fun hh => by rw [i2 hh, ListFacts.drop_eraseIdx_self, b1]⟩
        | false =>
          obtain ⟨-, rfl, e3⟩ := b4 rfl
          obtain ⟨i1, i2⟩ := ih hi (hc.next hlt) (by omega) w1 h
          exact ⟨(MergeOut.refl e3 hi).trans i1, fun hh => by rw [i2 hh, j2 b3.symm]⟩

theorem mergeGenericF_spec (S : Sched) (ic : ICfg α) (hu : ic.unsafeRepl = false) (cfg : Cfg) (hmax : 0 < cfg.maxCap)
    (lt : α → α → Bool) (ho : Order lt) (src dst : FTree α) (hi : MergeInv lt cfg src dst) (w : W)
    {t : Bool} {src' dst' : FTree α} {w' : W} (h : mergeGenericF S ic cfg lt src dst w = (t, src', dst', w')) :
    MergeOut lt cfg w src dst w' src' dst' ∧
    (t = false → dst'.tree.toList = src.tree.toList.foldl (Spec.insert1 lt cfg.multi) dst.tree.toList) := by
  unfold mergeGenericF at h
  have := mergeGenericF_go_spec S ic hu cfg hmax lt ho src.tree.count hi (Cur.begin hi.ws.tree) (by rw [hi.ws.tree.count]; omega) w h
  simpa using this

theorem isOrderedF_spec (S : Sched) (lt : α → α → Bool) (cfg : Cfg) (a b : α) (w : W) :
    SearchOK S w (isOrderedF S lt cfg a b w) (Tree.isOrderedItems lt cfg a b) :=
  SearchOK.cmp SearchOK.pure

theorem skipF_spec (S : Sched) (lt : α → α → Bool) (cfg : Cfg) (dst : Tree α) (x : α) (fuel : Nat) (dpos : Pos) (w : W) :
    SearchOK S w (skipF S lt cfg dst x fuel dpos w) (Tree.mergeLinear.skip lt cfg dst x fuel dpos) := by
  induction fuel generalizing dpos w with
  | zero => exact SearchOK.pure
  | succ n ih =>
    simp only [skipF, Tree.mergeLinear.skip]
    by_cases hend : dpos = dst.endPos
    · rw [if_pos hend, if_pos hend]; exact SearchOK.pure
    · rw [if_neg hend, if_neg hend]
      cases dst.elemAt? dpos with
      | none => exact SearchOK.pure
      | some y =>
        have h := isOrderedF_spec S lt cfg y x w
        simp only
        generalize isOrderedF S lt cfg y x w = g at h ⊢
        obtain ⟨o, w1⟩ := g
        refine h.andThen (by rintro rfl; rfl) ?_
        rintro rfl
        cases Tree.isOrderedItems lt cfg y x
        · exact SearchOK.pure
        · exact ih (dst.next dpos) w1

/-- the loop from the current pair: `ls`, `i` list and cursor of the source, `ld`, `j` of the destination; `LinInv`: everything of the
    destination before `j` is ordered before everything of the source from `i` on -/
theorem mergeLinearF_go_spec (S : Sched) (ic : ICfg α) (hu : ic.unsafeRepl = false) (cfg : Cfg) (hmax : 0 < cfg.maxCap)
    (lt : α → α → Bool) (ho : Order lt) (fuel : Nat) {src dst : FTree α} {pos dpos : Pos} {ls ld : List α} {i j : Nat}
    (hi : MergeInv lt cfg src dst) (hs : Cur cfg src.tree pos ls i) (hd : Cur cfg dst.tree dpos ld j)
    (hf : ls.length ≤ i + fuel) (hinv : LinInv lt cfg.multi ls ld i j) (w : W)
    {t : Bool} {src' dst' : FTree α} {w' : W}
    (h : mergeLinearF.go S ic cfg lt fuel src dst pos dpos w = (t, src', dst', w')) :
    MergeOut lt cfg w src dst w' src' dst' ∧
    (t = false → dst'.tree.toList = (ls.drop i).foldl (Spec.insert1 lt cfg.multi) ld) := by
  induction fuel generalizing src dst pos dpos ls i ld j w with
  | zero =>
    obtain rfl : i = ls.length := Nat.le_antisymm hs.le hf
    cases h
    exact ⟨MergeOut.refl rfl hi, fun _ => by simp [hd.list]⟩
  | succ n ih =>
    simp only [mergeLinearF.go] at h
    rcases hs.cases with ⟨hend, rfl⟩ | ⟨hend, x, hx1, hx2⟩
    · rw [if_pos hend] at h
      cases h
      exact ⟨MergeOut.refl rfl hi, fun _ => by simp [hd.list]⟩
    · rw [if_neg hend] at h
      have hlt := ListFacts.lt_of_getElem? hx2
      have hss : SortedBy lt cfg.multi ls := hs.list ▸ hi.ss
      have hsd : SortedBy lt cfg.multi ld := hd.list ▸ hi.sd
      simp only [hx1] at h
      -- the skip loop stops at cursor `j'`: the elements from `j` to `j'` are ordered before `x` (`k3`), the one at `j'` is not (`k4`)
      obtain ⟨j', hd', -, k3, k4⟩ := hd.skip lt cfg x (dst.tree.count + 1) (by rw [hd.wf.count, hd.list]; omega)
      obtain ⟨sk1, sk2, -⟩ := skipF_spec S lt cfg dst.tree x (dst.tree.count + 1) dpos w
      generalize skipF S lt cfg dst.tree x (dst.tree.count + 1) dpos w = g at h sk1 sk2
      obtain ⟨o, w1⟩ := g
      cases o with
      | none =>
        cases h
        exact ⟨MergeOut.refl sk1 hi, nofun⟩
      | some dp =>
        rw [← sk2 dp rfl] at hd'
        simp only at h
        have hbefore := hinv.before hx2 k3
        -- the test at `j'`: true, then the element there is greater than `x` (`st1`: `x` goes in at `j'`, `LinInv.insert`);
        -- false, then keys are unique and it is equivalent to `x` (`st2`: `x` is refused, both cursors advance, `LinInv.skip`)
        obtain ⟨st1, st2⟩ := isGreater_stop cfg hd'.wf hd'.valid (x := x) (by rw [hd'.list, hd'.idx]; exact k4)
        rw [hd'.list, hd'.idx] at st1 st2
        -- the test `multiKey || pvIsGreater(dstIter, key)`
        have hcond : SearchOK S w1 (if cfg.multi then ((some true : Option Bool), w1) else isGreaterF S lt dst.tree dp x w1)
            (cfg.multi || Tree.isGreater lt dst.tree dp x) := by
          cases cfg.multi
          · exact isGreaterF_spec S lt dst.tree dp x w1
          · exact SearchOK.pure
        generalize (if cfg.multi then ((some true : Option Bool), w1) else isGreaterF S lt dst.tree dp x w1) = g at h hcond
        obtain ⟨o2, w2⟩ := g
        have hw2 : w2.led = w.led := hcond.1.trans sk1
        rw [ListFacts.drop_of_getElem? hx2, List.foldl_cons]
        cases o2 with
        | none =>
          cases h
          exact ⟨MergeOut.refl hw2 hi, nofun⟩
        | some bcond =>
          have hb := (hcond.2.1 bcond rfl).symm
          cases bcond with
          | true =>
            simp only at h
            have hins := insert1_at lt ho cfg.multi ld j' x hsd hd'.le hbefore (st1 hb)
            have hsp := @addF_spec _ _ S ic cfg hmax dst hi.wd dp hd'.valid x _ (src, pos) _ _ _
              (extractCreator_spec S ic hu cfg hi.ws hs hlt) w2
            generalize addF S ic cfg dst dp x (extractCreator S ic cfg src pos) (src, pos) w2 = g at h hsp
            obtain ⟨t1, ⟨src1, pp⟩, dst1, q, w3⟩ := g
            obtain ⟨c1, c2, c3, -⟩ := hsp rfl
            cases t1 with
            | true =>
              cases h
              obtain ⟨e1, e2, e3⟩ := c1 rfl
              cases e3.elim (congrArg Prod.fst) id
              exact ⟨MergeOut.of_failed hi hw2 c3 e1 e2, nofun⟩
            | false =>
              simp only at h
              obtain ⟨d1, d2, d3, f1, f2⟩ := c2 rfl
              have hd1 : Cur cfg dst1.tree q (ld.insertIdx j' x) j' := by rw [d1, d2]; exact hd'.add hmax x
              have hstep : MergeOut lt cfg w src dst w3 src1 dst1 :=
                MergeOut.of_moved hi hs.list hd.list hx2 hd'.le f2.list hd1.list f1 c3
                  (hins ▸ insert1_sorted lt ho _ _ x hsd) (by rw [d3, hw2])
              obtain ⟨i1, i2⟩ := ih hstep.inv f2
                (hd1.next (by rw [List.length_insertIdx_of_le_length hd'.le]; exact Nat.lt_succ_of_le hd'.le))
                (by rw [List.length_eraseIdx_of_lt hlt]; omega) (LinInv.insert ho hss hx2 hd'.le hbefore) w3 h
              exact ⟨hstep.trans i1, fun hh => by rw [i2 hh, ListFacts.drop_eraseIdx_self, hins]⟩
          | false =>
            simp only at h
            obtain ⟨hm, y, hy, hyx, hxy⟩ := st2 hb
            rw [hm] at hss hbefore
            obtain ⟨hskip, hnext⟩ := LinInv.skip ho hss hx2 hy hyx hxy hbefore
            obtain ⟨i1, i2⟩ := ih hi (hs.next hlt) (hd'.next (ListFacts.lt_of_getElem? hy)) (by omega) (hm ▸ hnext) w2 h
            exact ⟨(MergeOut.refl hw2 hi).trans i1, fun hh => by rw [i2 hh, hm, hskip]⟩

theorem mergeLinearF_spec (S : Sched) (ic : ICfg α) (hu : ic.unsafeRepl = false) (cfg : Cfg) (hmax : 0 < cfg.maxCap)
    (lt : α → α → Bool) (ho : Order lt) (src dst : FTree α) (hi : MergeInv lt cfg src dst) (w : W)
    {t : Bool} {src' dst' : FTree α} {w' : W} (h : mergeLinearF S ic cfg lt src dst w = (t, src', dst', w')) :
    MergeOut lt cfg w src dst w' src' dst' ∧
    (t = false → dst'.tree.toList = src.tree.toList.foldl (Spec.insert1 lt cfg.multi) dst.tree.toList) := by
  unfold mergeLinearF at h
  have := mergeLinearF_go_spec S ic hu cfg hmax lt ho (src.tree.count + dst.tree.count + 1) hi (Cur.begin hi.ws.tree)
    (Cur.begin hi.wd.tree) (by rw [hi.ws.tree.count]; omega) (fun _ _ _ _ hj => absurd hj (Nat.not_lt_zero _)) w h
  simpa using this

end Momo.BTreeF
