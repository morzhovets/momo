import Momo.Proof.SortSel
/-!
  C17: the counting pass of `RadixSorter::pvRadixSort` (RadixSorter.h:137-162):
  histogram of radixes, `singleCode`, `singleRadix`, prefix sums; arithmetic of `pvGetRadix`; the reading `cnt` of a counter array;
  the bucket bounds `startC` / `cumC` (number of cells with key `< q` / `≤ q`: begin and end of bucket `q`), in which the prefix sums, the bucket
  layout (SortRadix) and the partition (SortPartition) are stated.
-/
namespace Momo.Sort
variable {σ α : Type}

theorem getRadix_eq (R c shift : Nat) : getRadix R c shift = (c / 2 ^ shift) % 2 ^ R := by
  unfold getRadix
  rw [Nat.shiftRight_eq_div_pow, Nat.and_two_pow_sub_one_eq_mod]

theorem getRadix_lt (R c shift : Nat) : getRadix R c shift < 2 ^ R := by
  rw [getRadix_eq]; exact Nat.mod_lt _ (Nat.pos_of_ne_zero (by simp))

theorem shift_split (R c shift : Nat) : c / 2 ^ shift = (c / 2 ^ (shift + R)) * 2 ^ R + getRadix R c shift := by
  rw [getRadix_eq, Nat.pow_add, ← Nat.div_div_eq_div_mul, Nat.mul_comm]
  exact (Nat.div_add_mod _ _).symm

/-- the digit of a cell that the pass at `shift` looks at: `pvGetRadix(codeGetter(iter), shift)` -/
def rad (R shift : Nat) (x : α × Nat) : Nat := getRadix R x.2 shift

theorem rad_lt {R shift : Nat} (x : α × Nat) : rad R shift x < 2 ^ R := getRadix_lt R x.2 shift

/-- counter `q` of an `endIndexes` / `beginIndexes` array (0 outside) -/
def cnt (E : Array Nat) (q : Nat) : Nat := E[q]?.getD 0

theorem getElem?_eq_cnt {E : Array Nat} {q : Nat} (h : q < E.size) : E[q]? = some (cnt E q) := by
  rw [cnt, Array.getElem?_eq_getElem h]; rfl

theorem cnt_set (E : Array Nat) (r v q : Nat) (h : r < E.size) : cnt (E.set r v h) q = if q = r then v else cnt E q := by
  unfold cnt
  rw [Array.getElem?_set]
  by_cases hq : q = r
  · subst hq; simp
  · simp [hq, Ne.symm hq]

theorem incr_spec (E : Array Nat) (r : Nat) (h : r < E.size) :
    ∃ E', incr E r = some E' ∧ E'.size = E.size ∧ ∀ q, cnt E' q = if q = r then cnt E r + 1 else cnt E q := by
  refine ⟨E.set r (E[r] + 1) h, by simp [incr, h], by simp, ?_⟩
  intro q
  rw [cnt_set]
  by_cases hq : q = r
  · simp [hq, cnt, Array.getElem?_eq_getElem h]
  · simp [hq]

theorem cnt_replicate (n q : Nat) : cnt (Array.replicate n 0) q = 0 := by
  unfold cnt
  by_cases h : q < n
  · simp [h]
  · simp [h]

section
variable {M : Mem σ α} {abs : σ → List (α × Nat)} {ok : σ → Prop} (L : Lawful M abs ok)
  (pre post : List (α × Nat))
include L

theorem countLoop_spec (R shift code0 radix0 : Nat) (s : σ) (seg : List (α × Nat))
    (hh : Holds abs ok s (pre ++ seg ++ post)) :
    ∀ (n i : Nat) (E : Array Nat) (sc sr : Bool), i + n = seg.length → E.size = 2 ^ R →
      (∀ q, cnt E q = (seg.take i).countP (fun x => rad R shift x == q)) →
      (sc = true ↔ ∀ x ∈ seg.take i, x.2 = code0) → (sr = true ↔ ∀ x ∈ seg.take i, rad R shift x = radix0) →
      ∃ E' sc' sr', countLoop M s R pre.length shift code0 radix0 n i E sc sr = some (E', sc', sr') ∧ E'.size = 2 ^ R ∧
        (∀ q, cnt E' q = seg.countP (fun x => rad R shift x == q)) ∧
        (sc' = true ↔ ∀ x ∈ seg, x.2 = code0) ∧ (sr' = true ↔ ∀ x ∈ seg, rad R shift x = radix0) := by
  intro n
  induction n with
  | zero =>
    intro i E sc sr hin hE hcnt hsc hsr
    rw [List.take_of_length_le (i := i) (Nat.le_of_eq hin.symm)] at hcnt hsc hsr
    exact ⟨E, sc, sr, rfl, hE, hcnt, hsc, hsr⟩
  | succ n ih =>
    intro i E sc sr hin hE hcnt hsc hsr
    have hi : i < seg.length := by omega
    obtain ⟨E', hE', hsz, hget⟩ := incr_spec E (getRadix R (seg[i]'hi).2 shift) (by rw [hE]; exact getRadix_lt _ _ _)
    rw [countLoop, L.code_at hh i hi, Option.bind_some, hE', Option.bind_some]
    refine ih (i + 1) E' _ _ (by omega) (hsz.trans hE) (fun q => ?_)
      (by rw [Bool.and_eq_true, beq_iff_eq, hsc, ListFacts.forall_mem_take_succ hi])
      (by rw [Bool.and_eq_true, beq_iff_eq, hsr, ListFacts.forall_mem_take_succ hi]; rfl)
    rw [hget, List.take_succ_eq_append_getElem hi, List.countP_append, hcnt, hcnt, List.countP_singleton]
    by_cases hq : q = getRadix R (seg[i]'hi).2 shift
    · rw [if_pos hq, hq, if_pos (show (rad R shift seg[i] == getRadix R (seg[i]'hi).2 shift) = true from beq_self_eq_true _)]
    · rw [if_neg hq, if_neg (show ¬ (rad R shift seg[i] == q) = true from fun h => hq (beq_iff_eq.1 h).symm)]; rfl

end

section
variable (f : α × Nat → Nat)

/-- number of cells with key `≤ q`: the end of bucket `q`, the value `endIndexes[q]` holds after the prefix sums.  `PartSpec` (SortRadix)
spells this count out; `radixSortF_spec` and `partition_spec` pass between the two forms by unfolding. -/
def cumC (l : List (α × Nat)) (q : Nat) : Nat := l.countP fun x => decide (f x ≤ q)
/-- number of cells with key `< q`: the begin of bucket `q` (`beginIndexes[q]` at the start of the partition) -/
def startC (l : List (α × Nat)) (q : Nat) : Nat := l.countP fun x => decide (f x < q)

theorem cumC_def (l : List (α × Nat)) (q : Nat) : cumC f l q = l.countP fun x => decide (f x ≤ q) := rfl

theorem startC_zero (l : List (α × Nat)) : startC f l 0 = 0 := by simp [startC]

theorem startC_succ (l : List (α × Nat)) (q : Nat) : startC f l (q + 1) = cumC f l q := ListFacts.countP_lt_succ l f q

theorem startC_le_cumC (l : List (α × Nat)) (q : Nat) : startC f l q ≤ cumC f l q := by
  unfold startC cumC
  apply List.countP_mono_left
  intro x _ h
  simp only [decide_eq_true_eq] at h ⊢
  exact Nat.le_of_lt h

theorem cumC_le_startC (l : List (α × Nat)) {q q' : Nat} (h : q < q') : cumC f l q ≤ startC f l q' := by
  unfold startC cumC
  apply List.countP_mono_left
  intro x _ hx
  simp only [decide_eq_true_eq] at hx ⊢
  exact Nat.lt_of_le_of_lt hx h

theorem cumC_le_length (l : List (α × Nat)) (q : Nat) : cumC f l q ≤ l.length := List.countP_le_length

theorem cumC_eq_startC_add (l : List (α × Nat)) (q : Nat) :
    cumC f l q = startC f l q + l.countP (fun x => f x == q) := by
  unfold cumC startC
  rw [ListFacts.countP_le_eq, List.countP_eq_length_filter (p := fun x => f x == q)]

theorem cumC_last (l : List (α × Nat)) (n : Nat) (h : ∀ x ∈ l, f x < n + 1) : cumC f l n = l.length := by
  unfold cumC
  rw [List.countP_eq_length]
  intro x hx
  have := h x hx
  simp only [decide_eq_true_eq]; exact Nat.le_of_lt_succ this

theorem cumC_zero (l : List (α × Nat)) : cumC f l 0 = l.countP (fun x => f x == 0) := ListFacts.countP_le_zero l f

theorem cumC_succ (l : List (α × Nat)) (q : Nat) : cumC f l (q + 1) = cumC f l q + l.countP (fun x => f x == q + 1) :=
  ListFacts.countP_le_succ l f q

theorem cumC_perm {l l' : List (α × Nat)} (h : l'.Perm l) (q : Nat) : cumC f l' q = cumC f l q := h.countP_eq _

theorem startC_perm {l l' : List (α × Nat)} (h : l'.Perm l) (q : Nat) : startC f l' q = startC f l q := h.countP_eq _

theorem region_disjoint (l : List (α × Nat)) {q1 q2 i1 i2 : Nat} (hne : q1 ≠ q2)
    (h1 : startC f l q1 ≤ i1) (h1' : i1 < cumC f l q1) (h2 : startC f l q2 ≤ i2) (h2' : i2 < cumC f l q2) : i1 ≠ i2 := by
  rcases Nat.lt_or_gt_of_ne hne with h | h
  · have := cumC_le_startC f l h; omega
  · have := cumC_le_startC f l h; omega

end

theorem prefixSums_spec (seg : List (α × Nat)) (f : α × Nat → Nat) (size : Nat) :
    ∀ (n r : Nat) (E : Array Nat), 1 ≤ r → r + n = size → E.size = size →
      (∀ q, q < r → cnt E q = cumC f seg q) →
      (∀ q, r ≤ q → cnt E q = seg.countP (fun x => f x == q)) →
      ∃ E', prefixSums n r E = some E' ∧ E'.size = size ∧ ∀ q, q < size → cnt E' q = cumC f seg q := by
  intro n
  induction n with
  | zero =>
    intro r E _ hrn hE h1 _
    exact ⟨E, rfl, hE, fun q hq => h1 q (by omega)⟩
  | succ n ih =>
    intro r E hr hrn hE h1 h2
    have hrs : r < E.size := by omega
    rw [prefixSums, getElem?_eq_cnt hrs, getElem?_eq_cnt (Nat.lt_of_le_of_lt (Nat.sub_le r 1) hrs)]
    simp only [Option.bind_some, dif_pos hrs]
    refine ih (r + 1) _ (Nat.le_succ_of_le hr) (by omega) (by rw [Array.size_set]; exact hE) (fun q hq => ?_) (fun q hq => ?_)
    · rw [cnt_set]
      by_cases hqr : q = r
      · subst hqr
        have := cumC_succ f seg (q - 1)
        rw [Nat.sub_add_cancel hr] at this
        rw [if_pos rfl, h2 q (Nat.le_refl _), h1 (q - 1) (by omega), this, Nat.add_comm]
      · rw [if_neg hqr]; exact h1 q (by omega)
    · rw [cnt_set, if_neg (by omega)]; exact h2 q (by omega)

end Momo.Sort
