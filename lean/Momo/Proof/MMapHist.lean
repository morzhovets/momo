import Momo.Proof.MMapTrav
/-!
  C08: histories.  Operations of the value array and of the multimap as data, the concrete and the abstract step functions, one step
  (`VArr.step_spec`, `MM.step_spec`, `MM.step2_spec`) and whole histories by induction over the operation list: `VArr.foldl_step_spec` for the
  value array; `runBoth`, `runBoth_spec` for two multimaps, the subject `a` and the partner `b` of copy / move / swap.
-/
namespace Momo.MMap
open Momo

inductive VOp
  | add (v : Nat)
  | removeAt (i : Nat) (shrinkFails : Bool)
  | removeAll
  | copy
  | removeIf (p : Nat → Bool)

def VArr.step (mf : Nat) (a : VArr) : VOp → VArr
  | .add v => a.addBack mf v
  | .removeAt i sf => a.removeAt i sf
  | .removeAll => VArr.empty
  | .copy => a.copy mf
  | .removeIf p => VArr.removeIf p a.count a 0

def listStep (l : List Nat) : VOp → List Nat
  | .add v => l ++ [v]
  | .removeAt i _ => swapRemove l i
  | .removeAll => []
  | .copy => l
  | .removeIf p => swapFilter p l.length l 0

theorem VArr.step_spec {mf : Nat} (h1 : 1 ≤ mf) (hmf : mf < Extracted.abMaxFastLimit) (a : VArr) (h : a.WF mf)
    (op : VOp) : (a.step mf op).WF mf ∧ (a.step mf op).bounds = listStep a.bounds op := by
  cases op with
  | add v => exact VArr.addBack_spec h1 hmf h v
  | removeAt i sf => exact VArr.removeAt_spec hmf h i sf
  | removeAll => exact ⟨VArr.empty_wf mf, rfl⟩
  | copy => exact VArr.copy_spec hmf
  | removeIf p =>
    have hc : a.count = a.bounds.length := by rw [h.bounds_eq hmf, h.count_eq hmf]
    have := VArr.removeIf_spec p hmf a.count a 0 h
    simp only [VArr.step, listStep]
    rw [← hc]; exact this

theorem VArr.foldl_step_spec {mf : Nat} (h1 : 1 ≤ mf) (hmf : mf < Extracted.abMaxFastLimit) (ops : List VOp) :
    ∀ (a : VArr), a.WF mf → (ops.foldl (VArr.step mf) a).WF mf ∧ (ops.foldl (VArr.step mf) a).bounds = ops.foldl listStep a.bounds := by
  induction ops with
  | nil => exact fun a h => ⟨h, rfl⟩
  | cons op ops ih =>
    intro a h
    obtain ⟨s1, s2⟩ := VArr.step_spec h1 hmf a h op
    rw [List.foldl_cons, List.foldl_cons, ← s2]
    exact ih _ s1

inductive Op
  | add (k tg v : Nat) (f : HT.Faults) (valueAllocFails : Bool)
  | insertKey (k tg : Nat) (f : HT.Faults)
  | removeValue (k i : Nat) (shrinkFails : Bool)
  | removeValues (k : Nat)
  | removeKey (k : Nat)
  | removeIf (p : Nat → Nat → Bool)
  | resetKey (k tg : Nat)
  | clear

inductive Op2
  | onA (op : Op)
  | copyTo      -- b = a
  | moveTo      -- b = std::move(a); a = fresh
  | swap

section
variable {σ : Type} (K : KeyMap σ) (mf : Nat)

/-- the Boolean says whether the operation succeeded (no exception) -/
def MM.step (m : MM σ) : Op → MM σ × Bool
  | .add k tg v f fv => ((MM.add K mf m k tg v f fv).1, (MM.add K mf m k tg v f fv).2 = .ok)
  | .insertKey k tg f => ((MM.insertKey K m k tg f).1, (MM.insertKey K m k tg f).2.1 = .ok)
  | .removeValue k i sf => (MM.removeValue K m k i sf, true)
  | .removeValues k => (MM.removeValues K m k, true)
  | .removeKey k => ((MM.removeKey K m k).1, true)
  | .removeIf p => ((MM.removeIf K m p).1, true)
  | .resetKey k tg => (MM.resetKey K m k tg, true)
  | .clear => (MM.clear K m, true)

def MM.step2 (s : MM σ × MM σ) : Op2 → (MM σ × MM σ) × Bool
  | .onA op => (((MM.step K mf s.1 op).1, s.2), (MM.step K mf s.1 op).2)
  | .copyTo => ((s.1, (MM.copy K mf s.1).getD s.2), (MM.copy K mf s.1).isSome)
  | .moveTo => ((MM.empty K, s.1), true)
  | .swap => ((s.2, s.1), true)

end

/-- `ok`: whether the concrete operation succeeded -/
def AMap.step (A : AMap) (ok : Bool) : Op → AMap
  | .add k _ v _ _ => if ok then A.add k v else A
  | .insertKey k _ _ => if ok then A.insertKey k else A
  | .removeValue k i _ => if i < ((A k).getD []).length then A.removeValue k i else A
  | .removeValues k => A.removeValues k
  | .removeKey k => A.removeKey k
  | .removeIf p => A.removeIf p
  | .resetKey _ _ => A
  | .clear => fun _ => none

theorem AMap.step_ne_none {A : AMap} {k : Nat} (hk : A k ≠ none) (ok : Bool) {op : Op} (hop : op ≠ .removeKey k ∧ op ≠ .clear) :
    AMap.step A ok op k ≠ none := by
  -- a change at one key: the new entry matters only if that key is `k`
  have alt : ∀ k' x, (k = k' → x ≠ none) → AMap.alter A k' x k ≠ none := fun k' x hx => by
    unfold AMap.alter; split
    · exact hx ‹_›
    · exact hk
  have map : ∀ (g : List Nat → List Nat) k', k = k' → (A k').map g ≠ none :=
    fun g k' e h => hk (e ▸ Option.map_eq_none_iff.mp h)
  cases op with
  | add | insertKey => simp only [AMap.step]; split; exact alt _ _ (fun _ => nofun); exact hk
  | removeValue k' => simp only [AMap.step]; split; exact alt _ _ (map _ k'); exact hk
  | removeValues k' => exact alt _ _ (map _ k')
  | removeKey => exact alt _ _ (fun e => absurd (e ▸ rfl) hop.1)
  | removeIf => exact map _ k rfl
  | resetKey => exact hk
  | clear => exact absurd rfl hop.2

def AMap.step2 (S : AMap × AMap) (ok : Bool) : Op2 → AMap × AMap
  | .onA op => (AMap.step S.1 ok op, S.2)
  | .copyTo => if ok then (S.1, S.1) else S
  | .moveTo => (fun _ => none, S.1)
  | .swap => (S.2, S.1)

section
variable {σ : Type} (K : KeyMap σ) (L : K.Lawful) (mf : Nat)

def Op.FOK : Op → Prop
  | .add _ _ _ f _ => L.FOK f
  | .insertKey _ _ f => L.FOK f
  | _ => True

def Op2.FOK : Op2 → Prop
  | .onA op => Op.FOK K L op
  | _ => True

theorem MM.step_spec (h1 : 1 ≤ mf) (hmf : mf < Extracted.abMaxFastLimit) (m : MM σ) (hI : MM.Inv K L mf m)
    (op : Op) (hF : Op.FOK K L op) :
    MM.Inv K L mf (MM.step K mf m op).1 ∧
    MM.abs K (MM.step K mf m op).1 = AMap.step (MM.abs K m) (MM.step K mf m op).2 op := by
  cases op with
  | add k tg v f fv =>
    obtain ⟨i1, i2⟩ := MM.add_spec K L mf h1 hmf m hI k tg v f fv hF
    refine ⟨i1, ?_⟩
    simp only [MM.step, AMap.step]
    rw [i2]
    by_cases hok : (MM.add K mf m k tg v f fv).2 = .ok <;> simp [hok]
  | insertKey k tg f =>
    obtain ⟨i1, i2, _⟩ := MM.insertKey_spec K L mf m hI k tg f hF
    refine ⟨i1, ?_⟩
    simp only [MM.step, AMap.step]
    rw [i2]
    by_cases hok : (MM.insertKey K m k tg f).2.1 = .ok <;> simp [hok]
  | removeValue k i sf =>
    simp only [MM.step, AMap.step]
    -- outside the precondition nothing happens, on either side (`removeValue_of_not`)
    rcases L.has_cases hI.km k with ⟨_, hk⟩ | ⟨hh, hk⟩
    · rw [MM.abs_of_mem K hk, Option.getD_some]
      by_cases hi : i < (getArr m.arrs k).bounds.length
      · obtain ⟨i1, i2, _⟩ := MM.removeValue_spec K L mf hmf m hI k i sf hk hi
        rw [if_pos hi]; exact ⟨i1, i2⟩
      · rw [if_neg hi, MM.removeValue_of_not K sf (fun h => hi (hI.count_eq hmf k ▸ h.2))]; exact ⟨hI, rfl⟩
    · rw [MM.abs_of_not_mem K hk, Option.getD_none, List.length_nil, if_neg (Nat.not_lt_zero i),
        MM.removeValue_of_not K sf (fun h => by rw [hh] at h; cases h.1)]; exact ⟨hI, rfl⟩
  | removeValues k => exact MM.removeValues_spec K L mf hmf m hI k
  | removeKey k =>
    obtain ⟨i1, i2, _⟩ := MM.removeKey_spec K L mf hmf m hI k
    exact ⟨i1, i2⟩
  | removeIf p =>
    obtain ⟨i1, i2, _⟩ := MM.removeIf_spec K L mf hmf m hI p
    exact ⟨i1, i2⟩
  | resetKey k tg => exact MM.resetKey_spec K L mf m hI k tg
  | clear => exact MM.clear_spec K L mf m hI

theorem MM.step2_spec (h1 : 1 ≤ mf) (hmf : mf < Extracted.abMaxFastLimit) (s : MM σ × MM σ)
    (hA : MM.Inv K L mf s.1) (hB : MM.Inv K L mf s.2) (op : Op2) (hF : Op2.FOK K L op) :
    MM.Inv K L mf (MM.step2 K mf s op).1.1 ∧ MM.Inv K L mf (MM.step2 K mf s op).1.2 ∧
    (MM.abs K (MM.step2 K mf s op).1.1, MM.abs K (MM.step2 K mf s op).1.2)
      = AMap.step2 (MM.abs K s.1, MM.abs K s.2) (MM.step2 K mf s op).2 op := by
  cases op with
  | onA op =>
    obtain ⟨i1, i2⟩ := MM.step_spec K L mf h1 hmf s.1 hA op hF
    exact ⟨i1, hB, by simp only [MM.step2, AMap.step2]; rw [i2]⟩
  | copyTo =>
    cases hc : MM.copy K mf s.1 with
    | none => simp only [MM.step2, AMap.step2, hc]; exact ⟨hA, hB, by simp⟩
    | some c =>
      obtain ⟨c1, c2, _⟩ := MM.copy_spec K L mf hmf s.1 c hA hc
      simp only [MM.step2, AMap.step2, hc]
      exact ⟨hA, c1, by simp [c2]⟩
  | moveTo =>
    exact ⟨MM.empty_inv K L mf, hA, by simp only [MM.step2, AMap.step2]; rw [MM.empty_abs K L]⟩
  | swap => exact ⟨hB, hA, rfl⟩

def runBoth : List Op2 → (MM σ × MM σ) × (AMap × AMap) → (MM σ × MM σ) × (AMap × AMap)
  | [], s => s
  | op :: ops, s => runBoth ops ((MM.step2 K mf s.1 op).1, AMap.step2 s.2 (MM.step2 K mf s.1 op).2 op)

theorem runBoth_spec (h1 : 1 ≤ mf) (hmf : mf < Extracted.abMaxFastLimit) :
    ∀ (ops : List Op2) (s : (MM σ × MM σ) × (AMap × AMap)), (∀ op ∈ ops, Op2.FOK K L op) →
      MM.Inv K L mf s.1.1 → MM.Inv K L mf s.1.2 → (MM.abs K s.1.1, MM.abs K s.1.2) = s.2 →
      MM.Inv K L mf (runBoth K mf ops s).1.1 ∧ MM.Inv K L mf (runBoth K mf ops s).1.2 ∧
      (MM.abs K (runBoth K mf ops s).1.1, MM.abs K (runBoth K mf ops s).1.2) = (runBoth K mf ops s).2 := by
  intro ops
  induction ops with
  | nil => intro s _ hA hB he; exact ⟨hA, hB, he⟩
  | cons op ops ih =>
    intro s hF hA hB he
    obtain ⟨i1, i2, i3⟩ := MM.step2_spec K L mf h1 hmf s.1 hA hB op (hF op (by simp))
    simp only [runBoth]
    exact ih _ (fun o ho => hF o (by simp [ho])) i1 i2 (by rw [i3, he])

end

end Momo.MMap
