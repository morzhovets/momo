import Momo.Proof.TableIdxUpd
import Momo.Proof.MMapHT
/-!
  C07 / F9, bucket level: the bucket description of the DataTable indexes satisfies `SpecOK`; a one-row index that satisfies
  `IdxInv` and whose update completes (`F9one`, for the non-vacuity `example` after the `C07_updcol_*` theorems).
-/
namespace Momo.TIdx
open Momo Momo.HT Momo.Table

/-- `BucketOpen2N2<3, part getter>` as the index hash sets use it is a bucket description the C01 theorems cover -/
theorem open2N2part_ok (ls : Nat) : SpecOK (open2N2part ls).sp := by
  have : (open2N2part ls).sp = Driver.HashTable.mkSpec "Open2N2" 3 8 8 true false true 3 ls := rfl
  rw [this]
  exact Momo.MMap.mkSpec_ok_c08 "Open2N2" (Or.inr (Or.inr rfl)) 3 8 8 true false true 3 ls (by decide)

/-! `F9one`: one row with value 0 in a 4-bucket index on column 0 (`bs`: the bucket kind of the DataTable indexes with 4 buckets;
    `acc`: the hash code is the sum of the values in the index columns, here the value in column 0; `st`: the row; `u`: the index that holds it) -/
namespace F9one
def bs : BSpec := open2N2part 2
def acc : Acc := fun h _ v => h + v
def st : Store := [⟨0, 0, 0, [0]⟩]
def hs : Nat → Nat := fun _ => 0
def u : UH := { cols := [0], t := (add bs.sp hs emptyTable ⟨0, 0⟩ {}).1, hs := hs, next := 1 }

theorem inv : IdxInv bs acc st u := by
  have hok : (add bs.sp hs emptyTable ⟨0, 0⟩ {}).2 = .ok := by decide +kernel
  obtain ⟨hT, hp⟩ := add_ok bs.sp hs (open2N2part_ok 2) emptyTable ⟨0, 0⟩ {} (emptyTable_inv _ _) (fun _ => rfl)
    (fun x hx => absurd (show x ∈ ([] : List Item) from hx) (by simp)) hok
  have htr : HT.traverse emptyTable = [] := rfl
  rw [htr] at hp
  have hmem : ∀ it ∈ HT.traverse u.t, it = ⟨0, 0⟩ := fun it hit => by simpa using hp.mem_iff.mp hit
  refine ⟨hT, ?_, ?_, by decide, ?_, ?_⟩
  · intro it hit; rw [hmem it hit]; decide
  · exact (hp.map (·.val))
  · intro it hit; rw [hmem it hit]; decide
  · intro r1 h1 r2 h2 _
    have e1 : r1 = ⟨0, 0, 0, [0]⟩ := by simpa [st] using h1
    have e2 : r2 = ⟨0, 0, 0, [0]⟩ := by simpa [st] using h2
    rw [e1, e2]

theorem entry : (⟨0, 0⟩ : Item) ∈ traverse u.t := by decide +kernel

/-- `TryUpdate(row 0, column 0, 4)` completes -/
theorem done : ∃ u' st', updCol bs acc st u 0 0 4 {} = .done u' st' := by
  have h : (match updCol bs acc st u 0 0 4 {} with | .done _ _ => true | _ => false) = true := by decide +kernel
  cases hr : updCol bs acc st u 0 0 4 {} with
  | done u' st' => exact ⟨u', st', rfl⟩
  | dup id => rw [hr] at h; cases h
  | fail o => rw [hr] at h; cases h

end F9one
end Momo.TIdx
