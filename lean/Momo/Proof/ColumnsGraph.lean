import Momo.Proof.ColumnsDfs
/-!
# `GetVertices` and the graph built by `pvFillAddends` / `pvAddEdges` — lemmas for C18

The two vertices of a code are always distinct and, for `logVertexCount ≥ 4` and `codeParam ≤ 255`, below
`2^logVertexCount` (so `Graph::AddEdges`' extra check holds and no array index is out of range). The graph of one
attempt is `oldEdges` over the old columns followed by the new items as `UIntMath::Ceil` lays them out (`place`); it has
exactly two directed edges, hence two `Graph::Edge` records, per column record.
-/
namespace Momo.Col

theorem xor_one_ne (x : Nat) : x ^^^ 1 ≠ x := by
  intro h
  have h2 : x ^^^ (x ^^^ 1) = x ^^^ x := by rw [h]
  rw [← Nat.xor_assoc, Nat.xor_self, Nat.zero_xor] at h2
  cases h2

theorem sixteen_le_two_pow (L : Nat) (hL : Extracted.colLogVertexMin ≤ L) : 16 ≤ 2 ^ L := by
  have : 2 ^ Extracted.colLogVertexMin ≤ 2 ^ L := Nat.pow_le_pow_right (by decide) hL
  simpa [Extracted.colLogVertexMin] using this

theorem vertex1_lt (c : Cfg) (code param : Nat) (hL : Extracted.colLogVertexMin ≤ c.L)
    (hp : param ≤ Extracted.colMaxCodeParam) : vertex1 c code param < 2 ^ c.L := by
  have h16 := sixteen_le_two_pow c.L hL
  unfold vertex1
  apply Nat.xor_lt_two_pow
  · apply Nat.and_lt_two_pow; omega
  · simp only [Extracted.colParamShift, Extracted.colMaxCodeParam, Nat.shiftRight_eq_div_pow] at hp ⊢
    omega

theorem vertex2raw_lt (c : Cfg) (code param : Nat) (hL : Extracted.colLogVertexMin ≤ c.L) :
    vertex2raw c code param < 2 ^ c.L := by
  have h16 := sixteen_le_two_pow c.L hL
  unfold vertex2raw
  apply Nat.xor_lt_two_pow
  · apply Nat.and_lt_two_pow; omega
  · have : param &&& Extracted.colParamMask ≤ Extracted.colParamMask := Nat.and_le_right
    simp only [Extracted.colParamMask] at this ⊢
    omega

theorem vertices_lt (c : Cfg) (code param : Nat) (hL : Extracted.colLogVertexMin ≤ c.L)
    (hp : param ≤ Extracted.colMaxCodeParam) :
    (getVertices c code param).1 < c.N ∧ (getVertices c code param).2 < c.N := by
  have h16 := sixteen_le_two_pow c.L hL
  unfold getVertices Cfg.N
  refine ⟨vertex1_lt c code param hL hp, ?_⟩
  apply Nat.xor_lt_two_pow (vertex2raw_lt c code param hL)
  split <;> omega

/-- `MOMO_EXTRA_CHECK(vertex1 != vertex2)` of `Graph::AddEdges` always holds -/
theorem vertices_ne (c : Cfg) (code param : Nat) :
    (getVertices c code param).1 ≠ (getVertices c code param).2 := by
  unfold getVertices
  simp only
  split
  · rename_i h
    rw [h]
    exact fun h2 => xor_one_ne _ h2.symm
  · rename_i h
    simpa using h

theorem le_ceil (off a : Nat) (ha : 0 < a) : off ≤ ceil off a := by
  unfold ceil
  have h := Nat.div_add_mod (off + a - 1) a
  have hr := Nat.mod_lt (off + a - 1) ha
  rw [Nat.mul_comm] at h
  omega

theorem ceil_mod (off a : Nat) : ceil off a % a = 0 := by
  unfold ceil; exact Nat.mul_mod_left _ _

theorem ceil_lt (off a : Nat) (ha : 0 < a) : ceil off a < off + a := by
  unfold ceil
  have h := Nat.div_add_mod (off + a - 1) a
  rw [Nat.mul_comm] at h
  omega

/-- the column records `pvAddEdges` lays out for the new items, starting at `off` -/
def place : List Item → Nat → List ColRec
  | [], _ => []
  | it :: its, off => ⟨it.code, ceil off it.align, it.size, it.align⟩ :: place its (ceil off it.align + it.size)

/-- `offset` after `pvAddEdges` -/
def endOf : List Item → Nat → Nat
  | [], off => off
  | it :: its, off => endOf its (ceil off it.align + it.size)

/-- `maxAlignment` after `pvAddEdges` -/
def alignOf : List Item → Nat → Nat
  | [], al => al
  | it :: its, al => alignOf its (max al it.align)

theorem place_map {β : Type} (f : ColRec → β) (g : Item → β) (h : ∀ it off, f ⟨it.code, off, it.size, it.align⟩ = g it)
    (items : List Item) (off : Nat) : (place items off).map f = items.map g := by
  induction items generalizing off with
  | nil => rfl
  | cons it its ih => simp only [place, List.map_cons]; rw [ih, h]

theorem place_codes (items : List Item) (off : Nat) : (place items off).map (·.code) = items.map (·.code) :=
  place_map _ _ (fun _ _ => rfl) items off

theorem place_length (items : List Item) (off : Nat) : (place items off).length = items.length := by
  rw [← List.length_map (f := (·.code)), place_codes, List.length_map]

theorem alignOf_append (xs ys : List Item) (al : Nat) : alignOf (xs ++ ys) al = alignOf ys (alignOf xs al) := by
  induction xs generalizing al with
  | nil => rfl
  | cons x xs ih => simp only [List.cons_append, alignOf]; exact ih _

/-- `Inv.align` (ColumnsInv) reads the records back as items to state `mAlignment` with `alignOf`; mutability plays no part in it -/
theorem alignOf_place (items : List Item) (off al : Nat) :
    alignOf ((place items off).map (fun r => (⟨r.code, r.size, r.align, false⟩ : Item))) al = alignOf items al := by
  induction items generalizing off al with
  | nil => rfl
  | cons it its ih => exact ih _ _

theorem le_alignOf (items : List Item) (al : Nat) : al ≤ alignOf items al := by
  induction items generalizing al with
  | nil => exact Nat.le_refl _
  | cons it its ih => exact Nat.le_trans (Nat.le_max_left _ _) (ih _)

theorem mem_le_alignOf (items : List Item) (al : Nat) {it : Item} (h : it ∈ items) : it.align ≤ alignOf items al := by
  induction items generalizing al with
  | nil => cases h
  | cons x xs ih =>
    rcases List.mem_cons.mp h with rfl | h
    · exact Nat.le_trans (Nat.le_max_right _ _) (le_alignOf _ _)
    · exact ih _ h

theorem alignOf_cases (items : List Item) (al : Nat) :
    alignOf items al = al ∨ ∃ it ∈ items, alignOf items al = it.align := by
  induction items generalizing al with
  | nil => exact Or.inl rfl
  | cons x xs ih =>
    rcases ih (max al x.align) with h | ⟨it, hit, h⟩
    · rcases Nat.le_total al x.align with hle | hle
      · right; exact ⟨x, by simp, by simp only [alignOf]; rw [h, Nat.max_eq_right hle]⟩
      · left; simp only [alignOf]; rw [h, Nat.max_eq_left hle]
    · right; exact ⟨it, by simp [hit], by simpa [alignOf] using h⟩

theorem oldEdges_append (c : Cfg) (param : Nat) (rs ss : List ColRec) (g : Adj) :
    oldEdges c param (rs ++ ss) g = oldEdges c param ss (oldEdges c param rs g) := by
  induction rs generalizing g with
  | nil => rfl
  | cons r rs ih => simp only [List.cons_append, oldEdges]; exact ih _

theorem newEdges_eq (c : Cfg) (param : Nat) (items : List Item) (g : Adj) (off al : Nat) :
    newEdges c param items g off al = (oldEdges c param (place items off) g, endOf items off, alignOf items al) := by
  induction items generalizing g off al with
  | nil => rfl
  | cons it its ih => simp only [newEdges, place, oldEdges, endOf, alignOf]; exact ih _ _ _

theorem buildGraph_eq (c : Cfg) (st : State) (items : List Item) (param : Nat) :
    buildGraph c st items param =
      (oldEdges c param (st.columns ++ place items st.totalSize) (Array.replicate c.N []),
       endOf items st.totalSize, alignOf items st.alignment) := by
  unfold buildGraph
  rw [newEdges_eq, oldEdges_append]

theorem addEdge_size (g : Adj) (v1 v2 val : Nat) : (addEdge g v1 v2 val).size = g.size := by
  simp [addEdge]

theorem addEdge_mem {g : Adj} {v1 v2 val w : Nat} {e : Edge} (h1 : v1 < g.size) :
    e ∈ (addEdge g v1 v2 val).getD w [] ↔ (w = v1 ∧ e = ⟨v2, val⟩) ∨ e ∈ g.getD w [] := by
  unfold addEdge
  rw [getD_set]
  by_cases h : v1 = w
  · subst h
    simp [h1]
  · have : ¬ (v1 = w ∧ v1 < g.size) := fun hh => h hh.1
    rw [if_neg this]
    constructor
    · exact Or.inr
    · rintro (⟨hw, _⟩ | hm)
      · exact absurd hw.symm h
      · exact hm

theorem addEdges_size (g : Adj) (v1 v2 val : Nat) : (addEdges g v1 v2 val).size = g.size := by
  simp [addEdges, addEdge_size]

theorem addEdges_mem {g : Adj} {v1 v2 val w : Nat} {e : Edge} (h1 : v1 < g.size) (h2 : v2 < g.size) :
    e ∈ (addEdges g v1 v2 val).getD w [] ↔
      (w = v1 ∧ e = ⟨v2, val⟩) ∨ (w = v2 ∧ e = ⟨v1, val⟩) ∨ e ∈ g.getD w [] := by
  unfold addEdges
  rw [addEdge_mem (by rw [addEdge_size]; exact h2), addEdge_mem h1]
  exact or_left_comm

/-- `e` is one of the two directed edges that `Graph::AddEdges` stores at vertex `w` for the record `r` (`oldEdges_mem`) -/
def IsEdgeOf (c : Cfg) (param : Nat) (r : ColRec) (w : Nat) (e : Edge) : Prop :=
  (w = (getVertices c r.code param).1 ∧ e = ⟨(getVertices c r.code param).2, r.offset⟩) ∨
  (w = (getVertices c r.code param).2 ∧ e = ⟨(getVertices c r.code param).1, r.offset⟩)

theorem oldEdges_size (c : Cfg) (param : Nat) (rs : List ColRec) (g : Adj) :
    (oldEdges c param rs g).size = g.size := by
  induction rs generalizing g with
  | nil => rfl
  | cons r rs ih => simp only [oldEdges]; rw [ih, addEdges_size]

theorem oldEdges_mem (c : Cfg) (param : Nat) (hL : Extracted.colLogVertexMin ≤ c.L)
    (hp : param ≤ Extracted.colMaxCodeParam) (rs : List ColRec) (g : Adj) (hg : g.size = c.N)
    (w : Nat) (e : Edge) :
    e ∈ (oldEdges c param rs g).getD w [] ↔ e ∈ g.getD w [] ∨ ∃ r ∈ rs, IsEdgeOf c param r w e := by
  induction rs generalizing g with
  | nil => simp [oldEdges]
  | cons r rs ih =>
    have hv := vertices_lt c r.code param hL hp
    simp only [oldEdges]
    rw [ih _ (by rw [addEdges_size]; exact hg), addEdges_mem (hg ▸ hv.1) (hg ▸ hv.2)]
    constructor
    · rintro ((h | h | h) | ⟨r', hr', h⟩)
      · exact Or.inr ⟨r, by simp, Or.inl h⟩
      · exact Or.inr ⟨r, by simp, Or.inr h⟩
      · exact Or.inl h
      · exact Or.inr ⟨r', by simp [hr'], h⟩
    · rintro (h | ⟨r', hr', h⟩)
      · exact Or.inl (Or.inr (Or.inr h))
      · rcases List.mem_cons.mp hr' with rfl | hr'
        · rcases h with h | h
          · exact Or.inl (Or.inl h)
          · exact Or.inl (Or.inr (Or.inl h))
        · exact Or.inr ⟨r', hr', h⟩

theorem graph_ok (c : Cfg) (param : Nat) (hL : Extracted.colLogVertexMin ≤ c.L)
    (hp : param ≤ Extracted.colMaxCodeParam) (rs : List ColRec) (B : Nat) (hB : ∀ r ∈ rs, r.offset ≤ B) :
    GOK (oldEdges c param rs (Array.replicate c.N [])) c.N B := by
  refine ⟨by rw [oldEdges_size]; simp, ?_⟩
  intro w e he
  rw [oldEdges_mem c param hL hp rs _ (by simp)] at he
  rcases he with he | ⟨r, hr, he⟩
  · rw [getD_replicate] at he; cases he
  · have hv := vertices_lt c r.code param hL hp
    rcases he with ⟨_, rfl⟩ | ⟨_, rfl⟩
    · exact ⟨hv.2, hB r hr⟩
    · exact ⟨hv.1, hB r hr⟩

/-- number of `Graph::Edge` records in use (`mEdgeNumber`) -/
def edgeCount (g : Adj) : Nat := (g.toList.map List.length).sum

theorem sum_set_length (l : List (List Edge)) (i : Nat) (x : List Edge) (h : i < l.length) :
    ((l.set i x).map List.length).sum + l[i].length = (l.map List.length).sum + x.length := by
  induction l generalizing i with
  | nil => simp at h
  | cons y ys ih =>
    cases i with
    | zero => simp; omega
    | succ j =>
      simp only [List.length_cons] at h
      have := ih j (by omega)
      simp only [List.set_cons_succ, List.map_cons, List.sum_cons, List.getElem_cons_succ]
      omega

theorem addEdge_count {g : Adj} {v1 v2 val : Nat} (h : v1 < g.size) :
    edgeCount (addEdge g v1 v2 val) = edgeCount g + 1 := by
  unfold edgeCount addEdge
  rw [Array.toList_setIfInBounds]
  have hl : v1 < g.toList.length := by simpa using h
  have hs := sum_set_length g.toList v1 (⟨v2, val⟩ :: g.getD v1 []) hl
  have hg : g.getD v1 [] = g.toList[v1] := by
    simp [Array.getD_eq_getD_getElem?, h]
  rw [hg] at hs ⊢
  simp only [List.length_cons] at hs
  omega

theorem addEdges_count {g : Adj} {v1 v2 val : Nat} (h1 : v1 < g.size) (h2 : v2 < g.size) :
    edgeCount (addEdges g v1 v2 val) = edgeCount g + 2 := by
  unfold addEdges
  rw [addEdge_count (by rw [addEdge_size]; exact h2), addEdge_count h1]

theorem oldEdges_count (c : Cfg) (param : Nat) (hL : Extracted.colLogVertexMin ≤ c.L)
    (hp : param ≤ Extracted.colMaxCodeParam) (rs : List ColRec) (g : Adj) (hg : g.size = c.N) :
    edgeCount (oldEdges c param rs g) = edgeCount g + 2 * rs.length := by
  induction rs generalizing g with
  | nil => simp [oldEdges]
  | cons r rs ih =>
    have hv := vertices_lt c r.code param hL hp
    simp only [oldEdges]
    rw [ih _ (by rw [addEdges_size]; exact hg), addEdges_count (hg ▸ hv.1) (hg ▸ hv.2)]
    simp only [List.length_cons]
    omega

theorem edgeCount_replicate (n : Nat) : edgeCount (Array.replicate n []) = 0 := by
  unfold edgeCount
  induction n with
  | zero => rfl
  | succ k ih => simp [Array.replicate_succ] at ih ⊢

end Momo.Col
