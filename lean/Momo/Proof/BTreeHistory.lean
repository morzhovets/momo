import Momo.Proof.BTreeRange
/-!
  C02, the complete history theorem: every operation of `OpFull` follows the reference semantics `Spec.stepFull` and
  keeps the invariants (the reference semantics of `mergeFrom` tests a proposition, hence classical).
-/
namespace Momo.BTree
open Node
variable {α : Type}

theorem runOpFull_spec (lt : α → α → Bool) (ho : Order lt) (cfg : Cfg) (hmax : 0 < cfg.maxCap) (t : Tree α)
    (hw : t.WF cfg) (hs : SortedBy lt cfg.multi t.toList) (op : OpFull α) (l' : List α)
    (h : Spec.stepFull lt cfg t.toList op = some l') :
    (Tree.runOpFull lt cfg t op).toList = l' ∧ (Tree.runOpFull lt cfg t op).WF cfg ∧
    SortedBy lt cfg.multi (Tree.runOpFull lt cfg t op).toList := by
  cases op with
  | base op => exact runOp_spec lt ho cfg hmax t hw hs op l' (by simpa [Spec.stepFull] using h)
  | removeKey k =>
    simp only [Spec.stepFull] at h; cases h
    obtain ⟨a, b, _⟩ := tree_removeKey_spec lt ho cfg t hw hs k
    simp only [Tree.runOpFull]
    exact ⟨a, b, by rw [a]; exact sortedBy_sublist lt _ (List.filter_sublist) hs⟩
  | removeRange i j =>
    simp only [Spec.stepFull] at h
    split at h
    · rename_i hc
      cases h
      have a := (Cur.posOfIdx hw (Nat.le_trans hc.1 hc.2)).removeRange (Cur.posOfIdx hw hc.2) hc.1
      simp only [Tree.runOpFull]
      exact ⟨a.list, a.wf, by rw [a.list]; exact sortedBy_sublist lt _ (ListFacts.take_append_drop_sublist _ hc.1) hs⟩
    · cases h
  | removeIf f =>
    simp only [Spec.stepFull] at h; cases h
    obtain ⟨a, b⟩ := tree_removeIf_spec cfg f t hw
    simp only [Tree.runOpFull]
    exact ⟨a, b, by rw [a]; exact sortedBy_sublist lt _ (List.filter_sublist) hs⟩
  | insertRange xs =>
    simp only [Spec.stepFull] at h; cases h
    simp only [Tree.runOpFull]
    exact tree_insertRange_spec lt ho cfg hmax t hw hs xs
  | mergeFrom src =>
    simp only [Spec.stepFull] at h
    split at h
    · rename_i hc
      cases h
      simp only [Tree.runOpFull]
      obtain ⟨m1, m2, m3, _⟩ := tree_mergeTo_spec lt ho cfg hmax src t hc.1 hc.2 hw hs
      exact ⟨m1, m2, m3⟩
    · cases h
  | copy =>
    simp only [Spec.stepFull] at h; cases h
    obtain ⟨a, b⟩ := tree_copy_spec cfg t hw
    simp only [Tree.runOpFull]
    exact ⟨a, b, by rw [a]; exact hs⟩

theorem runFull_spec (lt : α → α → Bool) (ho : Order lt) (cfg : Cfg) (hmax : 0 < cfg.maxCap) (ops : List (OpFull α))
    (t : Tree α) (hw : t.WF cfg) (hs : SortedBy lt cfg.multi t.toList) (l' : List α)
    (h : Spec.runFull lt cfg t.toList ops = some l') :
    (ops.foldl (Tree.runOpFull lt cfg) t).toList = l' ∧ (ops.foldl (Tree.runOpFull lt cfg) t).WF cfg ∧
    SortedBy lt cfg.multi (ops.foldl (Tree.runOpFull lt cfg) t).toList := by
  induction ops generalizing t with
  | nil => simp only [Spec.runFull] at h; cases h; exact ⟨rfl, hw, hs⟩
  | cons op ops ih =>
    simp only [Spec.runFull] at h
    cases hstep : Spec.stepFull lt cfg t.toList op with
    | none => simp [hstep] at h
    | some l1 =>
      simp only [hstep] at h
      obtain ⟨a, b, c⟩ := runOpFull_spec lt ho cfg hmax t hw hs op l1 hstep
      simp only [List.foldl_cons]
      exact ih _ b c (by rw [a]; exact h)

end Momo.BTree
