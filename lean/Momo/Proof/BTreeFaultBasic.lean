import Momo.Proof.BTreeFaultLedger
import Momo.Proof.BTreeTree
/-!
  C04 / C10 for the B-tree family: the search under a throwing comparison. It never touches the ledger; when it returns, it
  returns what the fault-free search returns; when no comparison is scheduled to throw, it returns (`SearchOK`).
-/
namespace Momo.BTreeF
open Momo Momo.BTree Momo.BTree.Node
variable {α : Type}

/-- `r` is what a search with fault-free value `v` returned when started in world `w` -/
def SearchOK {β : Type} (S : Sched) (w : W) (r : Option β × W) (v : β) : Prop :=
  r.2.led = w.led ∧ (∀ x, r.1 = some x → x = v) ∧ (S.NoCmp → r.1 = some v)

theorem SearchOK.pure {β : Type} {S : Sched} {w : W} {v : β} : SearchOK S w (some v, w) v :=
  ⟨rfl, fun _ h => (Option.some.inj h).symm, fun _ => rfl⟩

theorem SearchOK.cmp {β : Type} {S : Sched} {w : W} {r : Option β × W} {v : β} (h : SearchOK S w.tickCmp r v) :
    SearchOK S w (if S.cmp w.cmpN then (none, w.tickCmp) else r) v := by
  cases hf : S.cmp w.cmpN
  · exact h
  · exact ⟨rfl, nofun, fun hn => nomatch (hn _).symm.trans hf⟩

theorem scanF_spec (S : Sched) (p : α → Bool) (items : List α) (i : Nat) (w : W) :
    SearchOK S w (scanF S p items i w) (i + firstTrue p items) := by
  induction items generalizing i w with
  | nil => exact SearchOK.pure
  | cons x xs ih =>
    simp only [scanF, firstTrue]
    refine SearchOK.cmp ?_
    cases p x
    · have := ih (i + 1) w.tickCmp
      rwa [Nat.add_assoc, Nat.add_comm 1] at this
    · exact SearchOK.pure

theorem findLinF_spec (S : Sched) (p : α → Bool) (items : List α) (w : W) :
    SearchOK S w (findLinF S p items w) (findLin p items) := by
  unfold findLinF findLin
  cases items.getLast? with
  | none => exact SearchOK.pure
  | some l =>
    simp only
    refine SearchOK.cmp ?_
    cases p l
    · exact SearchOK.pure
    · simp only [if_true]
      have := scanF_spec S p items 0 w.tickCmp
      rwa [Nat.zero_add] at this

theorem binLoopF_spec (S : Sched) (p : α → Bool) (items : List α) (fuel lo hi : Nat) (w : W) :
    SearchOK S w (binLoopF S p items fuel lo hi w) (binLoop p items fuel lo hi) := by
  induction fuel generalizing lo hi w with
  | zero => exact SearchOK.pure
  | succ fuel ih =>
    simp only [binLoopF, binLoop]
    split
    · cases items[(lo + hi) / 2]? with
      | none => exact SearchOK.pure
      | some x =>
        simp only
        refine SearchOK.cmp ?_
        cases p x
        · exact ih _ _ _
        · simp only [if_true]; exact ih _ _ _
    · exact SearchOK.pure

theorem findInF_spec (S : Sched) (lin : Bool) (p : α → Bool) (items : List α) (w : W) :
    SearchOK S w (findInF S lin p items w) (findIn lin p items) := by
  unfold findInF findIn
  cases lin with
  | true => exact findLinF_spec S p items w
  | false => exact binLoopF_spec S p items items.length 0 items.length w

theorem findInF_led (S : Sched) (lin : Bool) (p : α → Bool) (items : List α) (w : W) :
    (findInF S lin p items w).2.led = w.led := (findInF_spec S lin p items w).1

theorem SearchOK.andThen {β γ : Type} {S : Sched} {w w' : W} {o : Option β} {v : β} (h : SearchOK S w (o, w') v)
    {r : Option γ × W} {u : γ} (hnone : o = none → r = (none, w')) (hsome : o = some v → SearchOK S w' r u) :
    SearchOK S w r u := by
  obtain ⟨a, b, c⟩ := h
  cases o with
  | none => rw [hnone rfl]; exact ⟨a, nofun, fun hn => nomatch c hn⟩
  | some i =>
    cases b i rfl
    obtain ⟨a2, b2, c2⟩ := hsome rfl
    exact ⟨a2.trans a, b2, c2⟩

theorem findFirstAtF_eq (S : Sched) (lin : Bool) (p : α → Bool) (cs : List (Node α)) (i : Nat) (w : W) :
    findFirstAtF S lin p cs i w = (match cs[i]? with
      | some c => findFirstF S lin p c w
      | none => (some none, w)) := by
  induction cs generalizing i with
  | nil => simp [findFirstAtF]
  | cons c cs ih =>
    cases i with
    | zero => simp [findFirstAtF]
    | succ i => simp [findFirstAtF, ih]

theorem findFirstF_spec (S : Sched) (lin : Bool) (p : α → Bool) {d : Nat} {n : Node α} (hb : Bal d n) (w : W) :
    SearchOK S w (findFirstF S lin p n w) (findFirst lin p n) := by
  induction hb generalizing w with
  | leaf cap items =>
    simp only [findFirstF, findFirst]
    have h := findInF_spec S lin p items w
    generalize findInF S lin p items w = g at h ⊢
    obtain ⟨o, w'⟩ := g
    exact h.andThen (by rintro rfl; rfl) (by rintro rfl; exact SearchOK.pure)
  | inner d items cs hlen hall ih =>
    simp only [findFirstF, findFirst, findFirstAt_eq, findFirstAtF_eq]
    have h := findInF_spec S lin p items w
    generalize findInF S lin p items w = g at h ⊢
    obtain ⟨o, w'⟩ := g
    refine h.andThen (by rintro rfl; rfl) ?_
    rintro rfl
    simp only
    cases hc : cs[findIn lin p items]? with
    | none => exact SearchOK.pure
    | some ch =>
      have h2 := ih ch (List.mem_of_getElem? hc) w'
      simp only
      generalize findFirstF S lin p ch w' = g2 at h2 ⊢
      obtain ⟨o2, w2⟩ := g2
      refine h2.andThen (by rintro rfl; rfl) ?_
      rintro rfl
      cases findFirst lin p ch <;> exact SearchOK.pure

theorem findPosF_spec (S : Sched) (lin : Bool) (p : α → Bool) (cfg : Cfg) (t : Tree α) (hw : t.WF cfg) (w : W) :
    SearchOK S w (findPosF S lin p t w) (match t.root with
        | some r => findPos lin p r
        | none => ⟨[], 0⟩) := by
  unfold findPosF
  cases hr : t.root with
  | none => exact SearchOK.pure
  | some r =>
    obtain ⟨d, hb⟩ := hw.bal r hr
    have h := findFirstF_spec S lin p hb w
    simp only [findPos]
    generalize findFirstF S lin p r w = g at h ⊢
    obtain ⟨o, w'⟩ := g
    exact h.andThen (by rintro rfl; rfl) (by rintro rfl; exact SearchOK.pure)

theorem isGreaterF_spec (S : Sched) (lt : α → α → Bool) (t : Tree α) (pos : Pos) (k : α) (w : W) :
    SearchOK S w (isGreaterF S lt t pos k w) (Tree.isGreater lt t pos k) := by
  unfold isGreaterF Tree.isGreater
  split
  · exact SearchOK.pure
  · cases t.elemAt? pos with
    | none => exact SearchOK.pure
    | some x => exact SearchOK.cmp SearchOK.pure

end Momo.BTreeF
