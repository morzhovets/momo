import Momo.Proof.HashTableReloc
/-!
  C01/C11: the single-element and whole-table operations under every fault: `pvAdd` with the sizing loop of `pvAddGrow`, the
  refused-growth fallback and the `invalid` outcome, `pvRemove`, `Reserve`, `Clear`.
  `pvAdd` is split as `add = addFinish (addPhase1 …)` (`add_eq`: everything before the migration, then the migration) with the case
  list `addPhase1_cases`; `TableInv.of_modify` is the invariant of a table one of whose generations was rebuilt in place.
-/
namespace Momo.HT
open Momo Momo.Probe

/-- faults that can occur for a given item category: when items are nothrow-relocatable and the
    hash is nothrow (`sp.nothrowReloc`), the migration cannot be interrupted by an exception -/
def FaultsOK (sp : Spec) (f : Faults) : Prop := sp.nothrowReloc = true → f.relocStop = none

instance (sp : Spec) (f : Faults) : Decidable (FaultsOK sp f) :=
  inferInstanceAs (Decidable (sp.nothrowReloc = true → f.relocStop = none))

theorem faultsOK_default (sp : Spec) : FaultsOK sp {} := fun _ => rfl

theorem shiftOf_pos (sp : Spec) (L : Nat) : 1 ≤ shiftOf sp L := (shiftOf_le sp L).1

/-- a bucket array of at least the size `pvGetNewLogBucketCount()` asks for has a slot for every item of the table and one more
    (single-generation tables: the size at least doubles); what lets an uninterrupted migration into a fresh head complete -/
theorem room_fresh_head (sp : Spec) (hf : Nat → Nat) (ok : SpecOK sp) (t : Table) (hI : TableInv sp hf t)
    (hnr : sp.nothrowReloc = true) (L' : Nat) (hL : newLog sp t ≤ L') (hu : sp.unlimited = false) :
    (traverse t).length + 1 ≤ 2 ^ L' * sp.maxCount := by
  have hs := hI.single hnr
  rw [traverse_eq_gensItems]
  cases hgs : t.gens with
  | nil => exact Nat.mul_pos (Nat.two_pow_pos _) ok.maxPos
  | cons g rest =>
    rw [hgs] at hs
    obtain rfl : rest = [] := List.eq_nil_of_length_eq_zero (by simpa using hs)
    rw [newLog, hgs] at hL
    have h1 := genItems_length_le sp hf g (hI.core.gens_cons hgs).1 hu
    have h2 : 2 * (2 ^ g.L * sp.maxCount) ≤ 2 ^ L' * sp.maxCount := by
      rw [← Nat.mul_assoc, ← Nat.pow_succ']
      exact Nat.mul_le_mul_right _ (Nat.pow_le_pow_right (by decide)
        (Nat.le_trans (Nat.add_le_add_left (shiftOf_pos sp g.L) _) hL))
    have h3 : 0 < 2 ^ g.L * sp.maxCount := Nat.mul_pos (Nat.two_pow_pos _) ok.maxPos
    rw [gensItems_cons, gensItems_nil, List.append_nil]
    omega

/-- the loop as the C++ runs it (no fuel), for EVERY capacity rule: `hfu` says the fuel covers `count + 2 - capacity` rounds
    (it does: `growLog`) -/
theorem growLoop_some {sp : Spec} {count fuel nl r : Nat} (hfu : count + 2 ≤ fuel + capacityOf sp nl)
    (h : growLoop sp count fuel nl = some r) :
    nl ≤ r ∧ count < capacityOf sp r ∧ ∀ l, nl ≤ l → l < r → capacityOf sp l ≤ count := by
  -- arms: no fuel; capacity too small and the next size is larger, go on; capacity too small and it stalls (the `MOMO_CHECK` fails);
  -- capacity above the count, stop
  fun_induction growLoop sp count fuel nl
  case case1 => cases h; exact ⟨Nat.le_refl _, by omega, fun l h1 h2 => absurd h1 (Nat.not_le.mpr h2)⟩
  case case2 nl hle hlt ih =>
    obtain ⟨h0, h1, h2⟩ := ih (by omega) h
    exact ⟨Nat.le_of_succ_le h0, h1, fun l hl hr => (Nat.eq_or_lt_of_le hl).elim (fun e => e ▸ hle) (fun hlt => h2 l hlt hr)⟩
  case case3 => cases h
  case case4 hgt => cases h; exact ⟨Nat.le_refl _, Nat.lt_of_not_le hgt, fun l h1 h2 => absurd h1 (Nat.not_le.mpr h2)⟩

theorem growLoop_none {sp : Spec} {count fuel nl : Nat} (h : growLoop sp count fuel nl = none) :
    ∃ l, nl ≤ l ∧ capacityOf sp l ≤ count ∧ capacityOf sp (l + 1) ≤ capacityOf sp l := by
  -- arms as in `growLoop_some`
  fun_induction growLoop sp count fuel nl
  case case1 => cases h
  case case2 ih => obtain ⟨l, a, b, c⟩ := ih h; exact ⟨l, Nat.le_of_succ_le a, b, c⟩
  case case3 nl hle hn => exact ⟨nl, Nat.le_refl _, hle, Nat.le_of_not_lt hn⟩
  case case4 => cases h

/-- **`pvAddGrow` finds its size** (capacity rule strictly growing, `SpecOK.capMono`): the check inside the loop never fails
    and the loop stops at the first size `≥ pvGetNewLogBucketCount()` whose capacity exceeds the count -/
theorem growLog_spec (sp : Spec) (ok : SpecOK sp) (t : Table) :
    ∃ nl, growLog sp t = some nl ∧ newLog sp t ≤ nl ∧ t.count < capacityOf sp nl ∧
      ∀ l, newLog sp t ≤ l → l < nl → capacityOf sp l ≤ t.count := by
  cases h : growLog sp t with
  | none =>
    obtain ⟨l, _, _, hc⟩ := growLoop_none h
    have := ok.capMono l; omega
  | some nl => exact ⟨nl, rfl, growLoop_some (by omega) h⟩

theorem growLog_eq_newLog (sp : Spec) (t : Table) (h : t.count < capacityOf sp (newLog sp t)) :
    growLog sp t = some (newLog sp t) := by
  unfold growLog
  simp only [growLoop]
  rw [if_neg (by omega)]

/-- the local `addHead` of the model's `add`: `pvAddNogrow` on the newest generation -/
def addHead (sp : Spec) (t : Table) (h : Nat) (it : Item) (f : Faults) : Table × Outcome :=
  match t.gens with
  | [] => (t, .badAlloc)
  | g :: rest =>
    if f.refuseAdd then (t, .badAlloc) else
    match addNogrowGen sp g h it with
    | none => (t, .full)
    | some (g', _) => ({ t with gens := g' :: rest, count := t.count + 1 }, .ok)

/-- everything in `pvAdd` before the migration -/
def addPhase1 (sp : Spec) (hf : Nat → Nat) (t : Table) (it : Item) (f : Faults) : Table × Outcome :=
  if t.count < t.cap then addHead sp t (hf it.key) it f
  else
    match growLog sp t with
    | none => (t, .invalid)
    | some nl =>
      if f.refuseGrow then
        if sp.overloadIfCannotGrow && !t.gens.isEmpty then addHead sp t (hf it.key) it f else (t, .badAlloc)
      else if f.refuseAdd then (t, .badAlloc)
      else
        match addNogrowGen sp (emptyGen sp nl) (hf it.key) it with
        | none => (t, .full)
        | some (g', _) =>
          ({ gens := g' :: t.gens, count := t.count + 1, cap := capacityOf sp nl }, .ok)

/-- the migration step at the end of `pvAdd` -/
def addFinish (sp : Spec) (hf : Nat → Nat) (f : Faults) (r : Table × Outcome) : Table × Outcome :=
  match r.2 with
  | .ok => if r.1.gens.length > 1 then (relocate sp hf r.1 f.relocStop, .ok) else (r.1, .ok)
  | _ => (r.1, r.2)

theorem add_eq (sp : Spec) (hf : Nat → Nat) (t : Table) (it : Item) (f : Faults) :
    add sp hf t it f = addFinish sp hf f (addPhase1 sp hf t it f) := by
  have h : ∀ r : Table × Outcome, (match r with
      | (t1, out) => match out with
        | .ok => if t1.gens.length > 1 then (relocate sp hf t1 f.relocStop, Outcome.ok) else (t1, .ok)
        | _ => (t1, out)) = addFinish sp hf f r := by
    intro r; obtain ⟨t1, out⟩ := r; cases out <;> rfl
  unfold add
  exact h _

theorem addFinish_out (sp : Spec) (hf : Nat → Nat) (f : Faults) (r : Table × Outcome) :
    (addFinish sp hf f r).2 = r.2 := by
  unfold addFinish
  split
  · rename_i h; split <;> simp [h]
  · rfl

theorem addFinish_fail (sp : Spec) (hf : Nat → Nat) (f : Faults) (r : Table × Outcome) (h : r.2 ≠ .ok) :
    addFinish sp hf f r = r := by
  unfold addFinish
  split
  · rename_i h'; exact absurd h' h
  · rfl

theorem addFinish_ok (sp : Spec) (hf : Nat → Nat) (f : Faults) (r : Table × Outcome) (h : r.2 = .ok) :
    (addFinish sp hf f r).1 = if r.1.gens.length > 1 then relocate sp hf r.1 f.relocStop else r.1 := by
  unfold addFinish
  rw [h]
  simp only
  split <;> rfl

theorem addPhase1_cases (sp : Spec) (hf : Nat → Nat) (t : Table) (it : Item) (f : Faults) :
    (∃ o, o ≠ .ok ∧ addPhase1 sp hf t it f = (t, o) ∧ (o = .invalid → t.cap ≤ t.count ∧ growLog sp t = none)) ∨
    (∃ g rest g' idx, t.gens = g :: rest ∧ addNogrowGen sp g (hf it.key) it = some (g', idx) ∧
      addPhase1 sp hf t it f = ({ t with gens := g' :: rest, count := t.count + 1 }, .ok)) ∨
    (∃ nl g' idx, growLog sp t = some nl ∧ addNogrowGen sp (emptyGen sp nl) (hf it.key) it = some (g', idx) ∧
      addPhase1 sp hf t it f = (⟨g' :: t.gens, t.count + 1, capacityOf sp nl⟩, .ok)) := by
  have fail : ∀ (o : Outcome), o ≠ .ok → o ≠ .invalid →
      ∃ o', o' ≠ .ok ∧ (t, o) = (t, o') ∧ (o' = .invalid → t.cap ≤ t.count ∧ growLog sp t = none) :=
    fun o h1 h2 => ⟨o, h1, rfl, fun h => absurd h h2⟩
  -- `pvAddNogrow` on the newest generation: within capacity, or growth refused and overloading allowed
  have head : (∃ o, o ≠ .ok ∧ addHead sp t (hf it.key) it f = (t, o) ∧
        (o = .invalid → t.cap ≤ t.count ∧ growLog sp t = none)) ∨
      (∃ g rest g' idx, t.gens = g :: rest ∧ addNogrowGen sp g (hf it.key) it = some (g', idx) ∧
        addHead sp t (hf it.key) it f = ({ t with gens := g' :: rest, count := t.count + 1 }, .ok)) := by
    -- arms: no bucket array; the item creation throws; the newest generation is full; inserted
    fun_cases addHead sp t (hf it.key) it f
    · exact Or.inl (fail .badAlloc nofun nofun)
    · exact Or.inl (fail .badAlloc nofun nofun)
    · exact Or.inl (fail .full nofun nofun)
    · rename_i g rest hg _ g' idx hadd
      exact Or.inr ⟨g, rest, g', idx, hg, hadd, rfl⟩
  -- arms: within capacity; the sizing loop fails its check; growth refused and overloading allowed; growth refused, not allowed; the item
  -- creation throws; the fresh generation is full; inserted into the fresh generation
  fun_cases addPhase1 sp hf t it f
  · exact head.imp_right Or.inl
  · rename_i hlt hgl
    exact Or.inl ⟨.invalid, nofun, rfl, fun _ => ⟨Nat.le_of_not_lt hlt, hgl⟩⟩
  · exact head.imp_right Or.inl
  · exact Or.inl (fail .badAlloc nofun nofun)
  · exact Or.inl (fail .badAlloc nofun nofun)
  · exact Or.inl (fail .full nofun nofun)
  · rename_i nl hgl _ _ g' idx hadd
    exact Or.inr (Or.inr ⟨nl, g', idx, hgl, hadd, rfl⟩)

/-- **strong guarantee of `pvAdd`**: whatever fault strikes (refused bucket array, throwing item
    creation, full table), a failed insertion leaves the table exactly as it was -/
theorem add_fail_unchanged (sp : Spec) (hf : Nat → Nat) (t : Table) (it : Item) (f : Faults)
    (hne : (add sp hf t it f).2 ≠ .ok) : (add sp hf t it f).1 = t := by
  rw [add_eq, addFinish_out] at hne
  rw [add_eq, addFinish_fail sp hf f _ hne]
  rcases addPhase1_cases sp hf t it f with ⟨_, _, e, _⟩ | ⟨_, _, _, _, _, _, e⟩ | ⟨_, _, _, _, _, e⟩ <;> rw [e] at hne ⊢
  · exact absurd rfl hne
  · exact absurd rfl hne

/-- both successes of the first phase of `pvAdd`: `g` is the newest generation, or a fresh generation in front of all of `t.gens` -/
theorem TableCore.of_add {sp : Spec} {hf : Nat → Nat} {t : Table} (hI : TableCore sp hf t) (it : Item) (g g' : Gen)
    (rest : List Gen) (cap : Nat) (hk : ∀ x ∈ traverse t, x.key ≠ it.key) (hG' : GenInv sp hf g')
    (hrest : ∀ g'' ∈ rest, GenInv sp hf g'') (hperm : (genItems g').Perm (it :: genItems g))
    (htr : traverse t = genItems g ++ gensItems rest)
    (hcap : sp.unlimited = false → cap ≤ 2 ^ g'.L * sp.maxCount) :
    TableCore sp hf ⟨g' :: rest, t.count + 1, cap⟩ ∧
    (traverse ⟨g' :: rest, t.count + 1, cap⟩).Perm (it :: traverse t) := by
  have hp : (traverse ⟨g' :: rest, t.count + 1, cap⟩).Perm (it :: traverse t) := by
    rw [htr]; exact List.Perm.append_right _ hperm
  exact ⟨TableCore.of_perm hG' hrest hp
    (List.nodup_cons.mpr ⟨fun h => (List.mem_map.mp h).elim fun x hx => hk x hx.1 hx.2, hI.nodup⟩)
    (by rw [hI.count]; rfl) hcap, hp⟩

theorem addPhase1_ok (sp : Spec) (hf : Nat → Nat) (ok : SpecOK sp) (t : Table) (it : Item) (f : Faults)
    (hI : TableCore sp hf t) (hk : ∀ x ∈ traverse t, x.key ≠ it.key)
    (hok : (addPhase1 sp hf t it f).2 = .ok) :
    TableCore sp hf (addPhase1 sp hf t it f).1 ∧
    (traverse (addPhase1 sp hf t it f).1).Perm (it :: traverse t) ∧
    ((addPhase1 sp hf t it f).1.gens.length = t.gens.length ∨
      ∃ g', (addPhase1 sp hf t it f).1.gens = g' :: t.gens ∧ newLog sp t ≤ g'.L) := by
  rcases addPhase1_cases sp hf t it f with ⟨o, ho, e, _⟩ | ⟨g, rest, g', idx, hg, hadd, e⟩ | ⟨nl, g', idx, hgl, hadd, e⟩ <;>
    rw [e] at hok ⊢
  · exact absurd hok ho
  · obtain ⟨hG', hperm, hL⟩ := addNogrowGen_inv sp hf ok g g' it idx (hI.gens_cons hg).1 hadd
    obtain ⟨c, p⟩ := hI.of_add it g g' rest t.cap hk hG' (hI.gens_cons hg).2 hperm (by rw [traverse_eq_gensItems, hg]; rfl)
      (fun hu => by rw [hL]; exact hI.capLe hu g rest hg)
    exact ⟨c, p, Or.inl (by rw [hg]; rfl)⟩
  · obtain ⟨hG', hperm, hL⟩ := addNogrowGen_inv sp hf ok _ g' it idx (emptyGen_inv sp hf ok _) hadd
    rw [emptyGen_L] at hL
    obtain ⟨c, p⟩ := hI.of_add it (emptyGen sp nl) g' t.gens (capacityOf sp nl) hk hG' hI.gens hperm
      (by rw [genItems_emptyGen]; rfl) (fun hu => by rw [hL]; exact ok.capLe hu _)
    exact ⟨c, p, Or.inr ⟨g', rfl, hL ▸ (growLoop_some (by omega) hgl).1⟩⟩

/-- the migration that follows a growth (`pvAdd` phase 1, `Reserve`) restores `TableInv`: for nothrow-relocatable items (no stop
    possible, `hF`) it leaves a single generation, by `room_fresh_head` -/
theorem relocate_grown (sp : Spec) (hf : Nat → Nat) (ok : SpecOK sp) (t t1 : Table) (hI : TableInv sp hf t)
    (hC : TableCore sp hf t1) (stop : Option Nat) (hF : sp.nothrowReloc = true → stop = none)
    (hshape : t1.gens.length = t.gens.length ∨ ∃ g', t1.gens = g' :: t.gens ∧ newLog sp t ≤ g'.L)
    (hlen : (traverse t1).length ≤ (traverse t).length + 1) :
    TableInv sp hf (relocate sp hf t1 stop) ∧ (traverse (relocate sp hf t1 stop)).Perm (traverse t1) := by
  obtain ⟨c, p, l, _, _⟩ := relocate_core sp hf ok _ hC stop
  refine ⟨⟨c, fun hnr => ?_⟩, p⟩
  have hs := hI.single hnr
  rcases hshape with h | ⟨g', hg', hL'⟩
  · omega
  · rw [hF hnr, relocate_complete sp hf ok _ hC g' t.gens hg' ?_]
    cases hu : sp.unlimited with
    | true => exact Or.inl rfl
    | false => exact Or.inr (Nat.le_trans hlen (room_fresh_head sp hf ok t hI hnr g'.L hL' hu))

/-- **`pvAdd` of a key that is not present, under every fault**: on success the invariant holds
    and the traversal gained exactly the new item — including when the migration that follows the
    insertion is interrupted at an arbitrary point (`f.relocStop`) -/
theorem add_ok (sp : Spec) (hf : Nat → Nat) (ok : SpecOK sp) (t : Table) (it : Item) (f : Faults)
    (hI : TableInv sp hf t) (hF : FaultsOK sp f) (hk : ∀ x ∈ traverse t, x.key ≠ it.key)
    (hok : (add sp hf t it f).2 = .ok) :
    TableInv sp hf (add sp hf t it f).1 ∧ (traverse (add sp hf t it f).1).Perm (it :: traverse t) := by
  rw [add_eq, addFinish_out] at hok
  rw [add_eq, addFinish_ok sp hf f _ hok]
  obtain ⟨hC, hp, hshape⟩ := addPhase1_ok sp hf ok t it f hI.core hk hok
  split
  · obtain ⟨i, p⟩ := relocate_grown sp hf ok t _ hI hC f.relocStop hF hshape (Nat.le_of_eq hp.length_eq)
    exact ⟨i, p.trans hp⟩
  · exact ⟨⟨hC, fun _ => by omega⟩, hp⟩

theorem add_keeps_inv (sp : Spec) (hf : Nat → Nat) (ok : SpecOK sp) (t : Table) (it : Item) (f : Faults)
    (hI : TableInv sp hf t) (hF : FaultsOK sp f) (hk : ∀ x ∈ traverse t, x.key ≠ it.key) :
    TableInv sp hf (add sp hf t it f).1 := by
  by_cases hok : (add sp hf t it f).2 = .ok
  · exact (add_ok sp hf ok t it f hI hF hk hok).1
  · rw [add_fail_unchanged sp hf t it f hok]; exact hI

/-- **later operations complete the migration**: an insertion whose migration is not interrupted
    leaves exactly one generation, as long as the table is not overloaded afterwards (count within
    capacity — overload only arises from refused growth) -/
theorem add_completes (sp : Spec) (hf : Nat → Nat) (ok : SpecOK sp) (t : Table) (it : Item) (f : Faults)
    (hI : TableInv sp hf t) (hk : ∀ x ∈ traverse t, x.key ≠ it.key) (hstop : f.relocStop = none)
    (hok : (add sp hf t it f).2 = .ok) (hcap : (add sp hf t it f).1.count ≤ (add sp hf t it f).1.cap) :
    (add sp hf t it f).1.gens.length = 1 := by
  rw [add_eq, addFinish_out] at hok
  rw [add_eq, addFinish_ok sp hf f _ hok] at hcap ⊢
  obtain ⟨hC, hp, _⟩ := addPhase1_ok sp hf ok t it f hI.core hk hok
  generalize (addPhase1 sp hf t it f).1 = t1 at *
  have hpos : 0 < (traverse t1).length := by rw [hp.length_eq]; exact Nat.succ_pos _
  have hne : t1.gens ≠ [] := by
    intro h0; rw [traverse_eq_gensItems, h0] at hpos; cases hpos
  obtain ⟨head, olds, hg⟩ := List.exists_cons_of_ne_nil hne
  by_cases hlen : t1.gens.length > 1
  · rw [if_pos hlen] at hcap ⊢
    obtain ⟨_, _, _, hcnt, hcp⟩ := relocate_core sp hf ok _ hC f.relocStop
    rw [hcnt, hcp] at hcap
    rw [hstop]
    apply relocate_complete sp hf ok _ hC head olds hg
    cases hu : sp.unlimited with
    | true => exact Or.inl rfl
    | false => exact Or.inr (by rw [← hC.count]; exact Nat.le_trans hcap (hC.capLe hu head olds hg))
  · rw [if_neg hlen]
    rw [hg] at hlen ⊢
    simp only [List.length_cons] at hlen ⊢
    omega

theorem addHead_out (sp : Spec) (t : Table) (h : Nat) (it : Item) (f : Faults) (g : Gen) (rest : List Gen)
    (hg : t.gens = g :: rest) (hra : f.refuseAdd = false) :
    ((addHead sp t h it f).2 = .ok ∨ (addHead sp t h it f).2 = .full) ∧
    ((addHead sp t h it f).2 = .full ↔ ∀ b, b < 2 ^ g.L → isFull sp (bkt sp g.bs b) = true) := by
  unfold addHead
  simp only [hg, hra, Bool.false_eq_true, if_false]
  rw [← addNogrowGen_none_iff sp g h it]
  cases addNogrowGen sp g h it <;> simp

/-- **C11, refused growth**: when `Buckets::Create` of the larger bucket array fails and a table
    exists, `pvAdd` inserts into the existing newest bucket array; it fails — with "Hash table is
    full", never `bad_alloc` — only if literally every bucket of that array is full -/
theorem add_refused_fallback (sp : Spec) (hf : Nat → Nat) (t : Table) (it : Item) (f : Faults)
    (g : Gen) (rest : List Gen) (hg : t.gens = g :: rest) (hov : sp.overloadIfCannotGrow = true)
    (hrg : f.refuseGrow = true) (hra : f.refuseAdd = false) (nl : Nat) (hgl : growLog sp t = some nl) :
    ((add sp hf t it f).2 = .ok ∨ (add sp hf t it f).2 = .full) ∧
    ((add sp hf t it f).2 = .full ↔ ∀ b, b < 2 ^ g.L → isFull sp (bkt sp g.bs b) = true) := by
  rw [add_eq, addFinish_out]
  have hp : addPhase1 sp hf t it f = addHead sp t (hf it.key) it f := by
    unfold addPhase1
    by_cases hlt : t.count < t.cap
    · rw [if_pos hlt]
    · rw [if_neg hlt]
      simp only [hgl, hrg, hov, hg, if_true, Bool.true_and, List.isEmpty_cons, Bool.not_false]
  rw [hp]
  exact addHead_out sp t _ it f g rest hg hra

theorem addPhase1_grow (sp : Spec) (hf : Nat → Nat) (ok : SpecOK sp) (t : Table) (it : Item) (f : Faults)
    (hov : t.cap ≤ t.count) (hrg : f.refuseGrow = false) (hra : f.refuseAdd = false) :
    ∃ nl g' idx, growLog sp t = some nl ∧ addNogrowGen sp (emptyGen sp nl) (hf it.key) it = some (g', idx) ∧
      addPhase1 sp hf t it f = (⟨g' :: t.gens, t.count + 1, capacityOf sp nl⟩, .ok) := by
  obtain ⟨nl, hgl, _⟩ := growLog_spec sp ok t
  have hsome := addNogrowGen_emptyGen_isSome sp ok nl (hf it.key) it
  cases hadd : addNogrowGen sp (emptyGen sp nl) (hf it.key) it with
  | none => rw [hadd] at hsome; cases hsome
  | some r =>
    obtain ⟨g', idx⟩ := r
    refine ⟨nl, g', idx, hgl, hadd, ?_⟩
    unfold addPhase1
    rw [if_neg (Nat.not_lt.mpr hov)]
    simp only [hgl, hrg, hra, Bool.false_eq_true, if_false, hadd]

/-- without a fault an insertion always succeeds: the capacity rule grows the table before a
    bucket array can be completely full -/
theorem add_nofault_ok (sp : Spec) (hf : Nat → Nat) (ok : SpecOK sp) (t : Table) (it : Item) (f : Faults)
    (hI : TableCore sp hf t) (hrg : f.refuseGrow = false) (hra : f.refuseAdd = false) :
    (add sp hf t it f).2 = .ok := by
  rw [add_eq, addFinish_out]
  by_cases hlt : t.count < t.cap
  · rw [show addPhase1 sp hf t it f = addHead sp t (hf it.key) it f from if_pos hlt]
    cases hg : t.gens with
    | nil => have := hI.capNil hg; omega
    | cons g rest =>
      obtain ⟨h1, h2⟩ := addHead_out sp t (hf it.key) it f g rest hg hra
      refine h1.resolve_right fun h1 => ?_
      -- a completely full newest generation holds at least `capacity` items
      have hGI := (hI.gens_cons hg).1
      obtain ⟨hu, hge⟩ := genCount_of_all_full sp g hGI.len (h2.mp h1)
      have hcap := hI.capLe hu g rest hg
      have hc := hI.count
      rw [traverse_eq_gensItems, hg, gensItems_cons, List.length_append, ← genCount_eq] at hc
      omega
  · obtain ⟨_, _, _, _, _, e⟩ := addPhase1_grow sp hf ok t it f (Nat.le_of_not_lt hlt) hrg hra
    rw [e]

theorem gensItems_modify (gs : List Gen) (gi : Nat) (g : Gen) (F : Gen → Gen) (x : Item)
    (hg : gs[gi]? = some g) (hp : (x :: genItems (F g)).Perm (genItems g)) :
    (x :: gensItems (gs.modify gi F)).Perm (gensItems gs) := by
  induction gs generalizing gi with
  | nil => simp at hg
  | cons a as ih =>
    cases gi with
    | zero =>
      simp only [List.getElem?_cons_zero, Option.some.injEq] at hg
      subst hg
      simp only [List.modify_zero_cons, gensItems_cons]
      exact List.Perm.append_right _ hp
    | succ n =>
      simp only [List.getElem?_cons_succ] at hg
      simp only [List.modify_succ_cons, gensItems_cons]
      exact (List.perm_middle.symm).trans (List.Perm.append_left _ (ih n hg))

theorem TableInv.of_modify {sp : Spec} {hf : Nat → Nat} {t : Table} (hI : TableInv sp hf t) (gi : Nat) {F : Gen → Gen}
    (hF : ∀ g, GenInv sp hf g → GenInv sp hf (F g)) (hL : ∀ g, (F g).L = g.L) {count' : Nat}
    (hn : ((gensItems (t.gens.modify gi F)).map (·.key)).Nodup) (hc : count' = (gensItems (t.gens.modify gi F)).length) :
    TableInv sp hf ⟨t.gens.modify gi F, count', t.cap⟩ := by
  refine ⟨⟨ListFacts.forall_mem_modify hF _ _ hI.core.gens, hn, hc, fun hu g' rest' hgr => ?_, fun h => ?_⟩, fun hnr => ?_⟩
  · change t.gens.modify gi F = g' :: rest' at hgr
    show t.cap ≤ _
    -- the newest generation keeps its size whether or not it is the one modified
    cases hgs : t.gens with
    | nil => rw [hgs, List.modify_nil] at hgr; cases hgr
    | cons g0 rest0 =>
      have hcap := hI.core.capLe hu g0 rest0 hgs
      rw [hgs] at hgr
      cases gi with
      | zero => rw [List.modify_zero_cons] at hgr; cases hgr; rw [hL]; exact hcap
      | succ n => rw [List.modify_succ_cons] at hgr; cases hgr; exact hcap
  · exact hI.core.capNil (List.modify_eq_nil_iff.mp h)
  · show (t.gens.modify gi F).length ≤ 1
    rw [List.length_modify]; exact hI.single hnr

/-- **`pvRemove` at a position returned by `pvFind`**: the invariant is kept and exactly the item
    at that position leaves the traversal (in whichever generation it was found) -/
theorem removePos_spec (sp : Spec) (hf : Nat → Nat) (t : Table) (hI : TableInv sp hf t) (gi b j : Nat)
    (g : Gen) (it : Item) (hg : t.gens[gi]? = some g) (hj : (bkt sp g.bs b).items[j]? = some it) :
    TableInv sp hf (removePos sp t gi b j) ∧ (it :: traverse (removePos sp t gi b j)).Perm (traverse t) := by
  obtain ⟨hjlt, hget⟩ := List.getElem?_eq_some_iff.mp hj
  have hb : b < g.bs.length := by
    apply Decidable.byContradiction; intro hnb
    rw [bkt_of_ge sp g.bs b (Nat.le_of_not_lt hnb)] at hjlt; exact Nat.not_lt_zero _ hjlt
  have hrem := removeBkt_items sp g b j hb hjlt
  rw [hget] at hrem
  have hp : (it :: traverse (removePos sp t gi b j)).Perm (traverse t) :=
    gensItems_modify t.gens gi g _ it hg hrem
  refine ⟨hI.of_modify gi (fun g0 h0 => removeBkt_inv sp hf g0 b j h0) (fun _ => rfl)
    (List.nodup_cons.mp (nodup_keys_perm hp hI.core.nodup)).2 ?_, hp⟩
  have := hp.length_eq
  rw [List.length_cons] at this
  show t.count - 1 = _
  rw [hI.core.count, ← this]; rfl

theorem reserve_grow_ge (sp : Spec) (c : Nat) : ∀ fuel nl, nl ≤ reserve.grow sp c fuel nl := by
  intro fuel
  induction fuel with
  | zero => intro nl; simp [reserve.grow]
  | succ f ih =>
    intro nl
    simp only [reserve.grow]
    split
    · exact Nat.le_refl _
    · exact Nat.le_trans (Nat.le_succ _) (ih (nl + 1))

/-- **`Reserve` under every fault** (refused bucket array: unchanged; interrupted migration: any
    stopping point): invariant kept, contents unchanged -/
theorem reserve_spec (sp : Spec) (hf : Nat → Nat) (ok : SpecOK sp) (t : Table) (c : Nat) (f : Faults)
    (hI : TableInv sp hf t) (hF : FaultsOK sp f) :
    TableInv sp hf (reserve sp hf t c f).1 ∧ (traverse (reserve sp hf t c f).1).Perm (traverse t) ∧
    ((reserve sp hf t c f).2 ≠ .ok → (reserve sp hf t c f).1 = t) := by
  unfold reserve
  split
  · exact ⟨hI, List.Perm.refl _, fun _ => rfl⟩
  · simp only
    split
    · exact ⟨hI, List.Perm.refl _, fun _ => rfl⟩
    · generalize hnl : reserve.grow sp c 64 (newLog sp t) = nl
      have hnlge : newLog sp t ≤ nl := hnl ▸ reserve_grow_ge sp c 64 _
      have htr : traverse ⟨emptyGen sp nl :: t.gens, t.count, capacityOf sp nl⟩ = traverse t := by
        rw [traverse_eq_gensItems, gensItems_cons, genItems_emptyGen]; rfl
      have hC : TableCore sp hf ⟨emptyGen sp nl :: t.gens, t.count, capacityOf sp nl⟩ :=
        TableCore.of_perm (emptyGen_inv sp hf ok nl) hI.core.gens (List.Perm.of_eq htr) hI.core.nodup
          hI.core.count (fun hu => ok.capLe hu nl)
      split
      · obtain ⟨i, p⟩ := relocate_grown sp hf ok t _ hI hC f.relocStop hF (Or.inr ⟨_, rfl, hnlge⟩)
          (htr ▸ Nat.le_succ _)
        exact ⟨i, by rw [← htr]; exact p, fun h => absurd rfl h⟩
      · rename_i hlen
        exact ⟨⟨hC, fun _ => Nat.le_of_not_lt hlen⟩, by rw [htr], fun h => absurd rfl h⟩

theorem clear_spec (sp : Spec) (hf : Nat → Nat) (ok : SpecOK sp) (t : Table) (shrink : Bool)
    (hI : TableInv sp hf t) :
    TableInv sp hf (clear sp t shrink) ∧ traverse (clear sp t shrink) = [] := by
  unfold clear
  cases hg : t.gens with
  | nil =>
    simp only
    exact ⟨hI, by rw [traverse_eq_gensItems, hg]; rfl⟩
  | cons g rest =>
    simp only
    cases shrink with
    | true => simp only [if_true]; exact ⟨emptyTable_inv sp hf, rfl⟩
    | false =>
      simp only [Bool.false_eq_true, if_false]
      have htr : traverse ⟨[emptyGen sp g.L], 0, t.cap⟩ = [] := by
        rw [traverse_eq_gensItems, gensItems_cons, genItems_emptyGen]; rfl
      exact ⟨⟨TableCore.of_perm (emptyGen_inv sp hf ok g.L) (fun _ h => by cases h) (List.Perm.of_eq htr)
        List.nodup_nil rfl (fun hu => hI.core.capLe hu g rest hg), fun _ => Nat.le_refl 1⟩, htr⟩

theorem add_never_invalid (sp : Spec) (hf : Nat → Nat) (ok : SpecOK sp) (t : Table) (it : Item) (f : Faults) :
    (add sp hf t it f).2 ≠ .invalid := by
  rw [add_eq, addFinish_out]
  rcases addPhase1_cases sp hf t it f with ⟨o, _, e, hinv⟩ | ⟨_, _, _, _, _, _, e⟩ | ⟨_, _, _, _, _, e⟩ <;> rw [e]
  · intro ho
    obtain ⟨nl, hgl, _⟩ := growLog_spec sp ok t
    rw [(hinv ho).2] at hgl; cases hgl
  · nofun
  · nofun

theorem add_invalid_stalls (sp : Spec) (hf : Nat → Nat) (t : Table) (it : Item) (f : Faults)
    (h : (add sp hf t it f).2 = .invalid) :
    t.cap ≤ t.count ∧
    ∃ l, newLog sp t ≤ l ∧ capacityOf sp l ≤ t.count ∧ capacityOf sp (l + 1) ≤ capacityOf sp l := by
  rw [add_eq, addFinish_out] at h
  rcases addPhase1_cases sp hf t it f with ⟨o, _, e, hinv⟩ | ⟨_, _, _, _, _, _, e⟩ | ⟨_, _, _, _, _, e⟩ <;> rw [e] at h
  · exact ⟨(hinv h).1, growLoop_none (hinv h).2⟩
  · cases h
  · cases h

/-- the state `pvAdd` leaves when it has to grow (count ≥ capacity: a full table, or one overloaded by any number of refused
    growths) and the bucket array is granted: one more item, and the capacity is that of the first size
    `≥ pvGetNewLogBucketCount()` that exceeds the old count — whatever the migration does afterwards -/
theorem add_grow_shape (sp : Spec) (hf : Nat → Nat) (ok : SpecOK sp) (t : Table) (it : Item) (f : Faults)
    (hI : TableCore sp hf t) (hk : ∀ x ∈ traverse t, x.key ≠ it.key) (hov : t.cap ≤ t.count)
    (hrg : f.refuseGrow = false) (hra : f.refuseAdd = false) :
    ∃ nl, growLog sp t = some nl ∧ newLog sp t ≤ nl ∧ t.count < capacityOf sp nl ∧
      (∀ l, newLog sp t ≤ l → l < nl → capacityOf sp l ≤ t.count) ∧
      (add sp hf t it f).2 = .ok ∧ (add sp hf t it f).1.count = t.count + 1 ∧
      (add sp hf t it f).1.cap = capacityOf sp nl ∧
      ∃ head olds, (add sp hf t it f).1.gens = head :: olds ∧ head.L = nl := by
  obtain ⟨nl, hgl, hge, hgt, hmin⟩ := growLog_spec sp ok t
  refine ⟨nl, hgl, hge, hgt, hmin, ?_⟩
  obtain ⟨nl', g', idx, hgl', hadd, e⟩ := addPhase1_grow sp hf ok t it f hov hrg hra
  obtain rfl : nl = nl' := Option.some.inj (hgl.symm.trans hgl')
  have hL : g'.L = nl := addNogrowGen_L sp _ g' _ it idx hadd
  have hok : (addPhase1 sp hf t it f).2 = .ok := by rw [e]
  have hC := (addPhase1_ok sp hf ok t it f hI hk hok).1
  rw [add_eq, addFinish_out, addFinish_ok sp hf f _ hok]
  rw [e] at hC ⊢
  refine ⟨rfl, ?_⟩
  split
  · -- the migration keeps count, capacity and the newest bucket array
    obtain ⟨_, _, _, hcnt, hcp⟩ := relocate_core sp hf ok _ hC f.relocStop
    obtain ⟨head', olds', hg', hL'⟩ := relocate_head sp hf ok _ hC f.relocStop g' t.gens rfl
    exact ⟨hcnt, hcp, head', olds', hg', by rw [hL', hL]⟩
  · exact ⟨rfl, rfl, g', t.gens, rfl, hL⟩

theorem removePos_gens_length (sp : Spec) (t : Table) (gi b j : Nat) :
    (removePos sp t gi b j).gens.length = t.gens.length := by
  simp [removePos]

theorem removePos_L (sp : Spec) (t : Table) (gi b j : Nat) :
    (removePos sp t gi b j).gens.map (·.L) = t.gens.map (·.L) := by
  simp only [removePos]
  apply List.ext_getElem?
  intro i
  simp only [List.getElem?_map, List.getElem?_modify]
  by_cases h : gi = i
  · subst h
    cases t.gens[gi]? <;> simp
  · simp [h]

theorem removePos_isEmpty (sp : Spec) (t : Table) (gi b j : Nat) :
    (removePos sp t gi b j).gens.isEmpty = t.gens.isEmpty := by
  have := removePos_gens_length sp t gi b j
  cases h1 : (removePos sp t gi b j).gens <;> cases h2 : t.gens <;> simp_all

end Momo.HT
