import Momo.Translated.Wave3
import Momo.Proof.Word64
/-!
  C12 (translator spec tools/trspecs/Wave3.py, Momo/Translated/Wave3.lean): the class constants the metadata models `Momo.HashMeta.P4` /
  `Momo.HashMeta.O2` read (`hashCodeShift`, `maskEmpty`, `emptyHashProbe`) and `BucketLimP4::WasFull`, as translated from the headers, are
  the model's definitions; `BucketOne`'s shift, `BucketLim4`'s `maxCount` / `pvGetMemPoolIndex()` and `UIntMath::DivByConst` compute the
  plain arithmetic they stand for (no 64-bit wrap under the stated bounds).
-/
namespace Momo.TrEq
open Momo Momo.Seg

/-- `BucketLimP4::hashCodeShift = sizeof(size_t) * 8 - 7` -/
theorem tr_limp4_hashCodeShift : Tr.limp4_hashCodeShift = HashMeta.P4.hashCodeShift := by decide
theorem tr_limp4_maskEmpty : Tr.limp4_maskEmpty = HashMeta.P4.maskEmpty := by decide
theorem tr_limp4_emptyHashProbe : Tr.limp4_emptyHashProbe = HashMeta.P4.emptyHashProbe := by decide
/-- `BucketOpen2N2::hashCodeShift = sizeof(size_t) * 8 - sizeof(ShortHash) * 8 + 1` -/
theorem tr_open2n2_hashCodeShift : Tr.open2n2_hashCodeShift = HashMeta.O2.hashCodeShift := by decide

/-- `pvGetMemPoolIndex()` is the model's `mpi` -/
theorem tr_limp4_WasFull (b : HashMeta.P4.Bucket) : Tr.limp4_WasFull b.maxCount b.mpi = b.wasFull := by
  unfold Tr.limp4_WasFull HashMeta.P4.Bucket.wasFull
  rw [Bool.eq_iff_iff]; simp

theorem tr_open2n2_WasFull : Tr.open2n2_WasFull = true := rfl

/-- `BucketOne`: `(sizeof(size_t) - stateSize) * 8` for a state of at most 8 bytes -/
theorem tr_one_hashCodeShift (s : Nat) (h : s ≤ 8) : Tr.one_hashCodeShift s = (8 - s) * 8 := by
  unfold Tr.one_hashCodeShift
  rw [sub64_of_le h, mul64_of_lt (by omega)]

/-- `BucketLim4::maxCount = size_t{1} << logMaxCount` -/
theorem tr_lim4_maxCount (L : Nat) (h : L < 64) : Tr.lim4_maxCount L = 2 ^ L := by
  unfold Tr.lim4_maxCount; exact shl64_one h

/-- `BucketLim4::pvGetMemPoolIndex()`: the top `logMaxCount` bits of the 32-bit state, plus one -/
theorem tr_lim4_pvGetMemPoolIndex (L s : Nat) (hL : L ≤ 32) (hs : s < 2 ^ 32) :
    Tr.lim4_pvGetMemPoolIndex L s = s / 2 ^ (32 - L) + 1 := by
  unfold Tr.lim4_pvGetMemPoolIndex
  rw [sub64_of_le hL, Nat.shiftRight_eq_div_pow]
  have : s / 2 ^ (32 - L) ≤ s := Nat.div_le_self _ _
  rw [add64_of_lt (by omega)]

/-- `UIntMath::DivByConst<mod>(value)`: `value - (value / mod) * mod` does not wrap and is the remainder -/
theorem tr_um_DivByConst (v m : Nat) (hv : v < 2 ^ 64) :
    Tr.um_DivByConst_quotient v m = v / m ∧
    Tr.um_DivByConst_remainder v m (Tr.um_DivByConst_quotient v m) = v % m := by
  unfold Tr.um_DivByConst_remainder Tr.um_DivByConst_quotient
  have hle : v / m * m ≤ v := Nat.div_mul_le_self v m
  refine ⟨rfl, ?_⟩
  rw [mul64_of_lt (by omega), sub64_of_le hle, Nat.mod_def, Nat.mul_comm]

end Momo.TrEq
