import Momo.Proof.PoolAllocInv
import Momo.Model.PoolAllocFault
/-!
  C20, routing. Of a value type to pool parameters: `pvGetMemPoolParams` for every size and alignment (`paramsOf_cpp`), `pvIsEqual`
  (`same_class_iff`), the re-parameterisation of line 119 and the `pvCheckParams` it runs into (`paramsOf_checks`). Of a call to the pool or
  the memory manager: which way a legal `allocate` / `deallocate` goes (`alloc_route`, `dealloc_route`).
-/
namespace Momo.PoolAlloc

theorem objAlignment_eq_min (M a : Nat) : objAlignment M a = min a M := by
  unfold objAlignment
  split
  · exact (Nat.min_eq_left (Nat.le_of_lt ‹_›)).symm
  · exact (Nat.min_eq_right (Nat.le_of_not_lt ‹_›)).symm

theorem paramsOf_eq (N M s a : Nat) : paramsOf N M s a = (correctBlockSize s (min a M) N, min a M) := by
  rw [paramsOf, objAlignment_eq_min]

theorem correctBlockSize_mul {A N : Nat} (hA : 0 < A) (hN : N ≠ 1) (s : Nat) :
    ∃ k, 2 ≤ k ∧ correctBlockSize s A N = k * A := by
  unfold correctBlockSize
  rw [if_neg hN]
  by_cases hs : s ≤ A
  · rw [if_pos hs]; exact ⟨2, Nat.le_refl 2, rfl⟩
  · rw [if_neg hs]
    refine ⟨(s + A - 1) / A, (Nat.le_div_iff_mul_le hA).mpr (Nat.le_sub_one_of_lt ?_), rfl⟩
    rw [Nat.two_mul]
    exact Nat.add_lt_add_right (Nat.lt_of_not_le hs) A

theorem paramsOf_checks {N M : Nat} (hN : 0 < N) (hN2 : N < Extracted.poolBlockCountLimit) (hM : 0 < M)
    (hM2 : M ≤ Extracted.poolMaxBlockAlignment) (s : Nat) {a : Nat} (ha : 0 < a) : checkParams N (paramsOf N M s a) := by
  have hA : 0 < min a M := Nat.lt_min.mpr ⟨ha, hM⟩
  rw [paramsOf_eq]
  refine ⟨hN, hN2, hA, Nat.le_trans (Nat.min_le_right a M) hM2, ?_⟩
  by_cases h1 : N = 1
  · refine ⟨?_, Or.inl h1, Or.inl h1⟩
    simp only [correctBlockSize, if_pos h1]
    by_cases hs : s > 0
    · rw [if_pos hs]; exact hs
    · rw [if_neg hs]; exact Nat.one_pos
  · obtain ⟨k, hk, he⟩ := correctBlockSize_mul hA h1 s
    simp only [he]
    exact ⟨Nat.mul_pos (Nat.lt_of_lt_of_le Nat.zero_lt_two hk) hA, Or.inr (Nat.mul_mod_left _ _), Or.inr (by rw [Nat.mul_div_cancel _ hA]; exact hk)⟩

/-- what C++ guarantees about `sizeof(T)` and `alignof(T)` relative to `UIntConst::maxAlignment = M`: the size is a
    positive multiple of the alignment; alignments are powers of two, so of two alignments one divides the other -/
structure CppType (M size align : Nat) : Prop where
  apos : 0 < align
  dvd : align ∣ size
  spos : 0 < size
  pow : align ∣ M ∨ M ∣ align

theorem CppType.min_dvd {M s a : Nat} (hM : 0 < M) (h : CppType M s a) : min a M ∣ s := by
  by_cases hle : a ≤ M
  · rw [Nat.min_eq_left hle]; exact h.dvd
  · rw [Nat.min_eq_right (Nat.le_of_not_le hle)]
    rcases h.pow with hp | hp
    · exact absurd (Nat.le_of_dvd hM hp) hle
    · exact Nat.dvd_trans hp h.dvd

theorem correctBlockSize_of_dvd {s A : Nat} (hs : 0 < s) (hA : 0 < A) (hd : A ∣ s) (N : Nat) :
    correctBlockSize s A N = if N ≠ 1 ∧ s = A then Extracted.poolCorrectSmallMul * s else s := by
  obtain ⟨k, rfl⟩ := hd
  have hk : 0 < k := Nat.pos_of_mul_pos_left hs
  unfold correctBlockSize
  by_cases h1 : N = 1
  · rw [if_pos h1, if_pos hs, if_neg (fun h => h.1 h1)]
  · by_cases h2 : A * k ≤ A
    · have : k = 1 := Nat.le_antisymm (Nat.le_of_mul_le_mul_left (by rwa [Nat.mul_one]) hA) hk
      subst this
      rw [if_neg h1, if_pos h2, if_pos ⟨h1, Nat.mul_one A⟩, Nat.mul_one]
    · have hne : ¬ (N ≠ 1 ∧ A * k = A) := fun h => h2 (Nat.le_of_eq h.2)
      rw [if_neg h1, if_neg h2, if_neg hne, Nat.add_sub_assoc hA, Nat.mul_add_div hA,
        Nat.div_eq_of_lt (Nat.sub_lt hA Nat.one_pos), Nat.add_zero, Nat.mul_comm]

theorem paramsOf_cpp {N M s a : Nat} (hM : 0 < M) (h : CppType M s a) :
    paramsOf N M s a = (if N ≠ 1 ∧ s = min a M then Extracted.poolCorrectSmallMul * s else s, min a M) := by
  rw [paramsOf_eq, correctBlockSize_of_dvd h.spos (Nat.lt_min.mpr ⟨h.apos, hM⟩) (h.min_dvd hM)]

theorem paramsOf_overaligned {N M s a : Nat} (hM : 0 < M) (h : CppType M s a) (ho : M < a) : paramsOf N M s a = (s, M) := by
  rw [paramsOf_cpp hM h]
  rw [Nat.min_eq_right (Nat.le_of_lt ho), if_neg fun hh => ?_]
  exact Nat.lt_irrefl M (Nat.lt_of_lt_of_le ho (hh.2 ▸ Nat.le_of_dvd h.spos h.dvd))

theorem doubled_eq_iff (A s1 s2 : Nat) :
    ((if s1 = A then 2 * s1 else s1) = if s2 = A then 2 * s2 else s2) ↔
      s1 = s2 ∨ (s1 = A ∧ s2 = 2 * s1) ∨ (s2 = A ∧ s1 = 2 * s2) := by
  by_cases e1 : s1 = A <;> by_cases e2 : s2 = A
  · rw [e1, e2]; exact ⟨fun _ => Or.inl rfl, fun _ => rfl⟩
  · rw [if_pos e1, if_neg e2]
    refine ⟨fun h => Or.inr (Or.inl ⟨e1, h.symm⟩), ?_⟩
    rintro (h | ⟨_, h⟩ | ⟨h, _⟩)
    · exact absurd (h.symm.trans e1) e2
    · exact h.symm
    · exact absurd h e2
  · rw [if_neg e1, if_pos e2]
    refine ⟨fun h => Or.inr (Or.inr ⟨e2, h⟩), ?_⟩
    rintro (h | ⟨h, _⟩ | ⟨_, h⟩)
    · exact absurd (h.trans e2) e1
    · exact absurd h e1
    · exact h
  · rw [if_neg e1, if_neg e2]
    refine ⟨Or.inl, ?_⟩
    rintro (h | ⟨h, _⟩ | ⟨h, _⟩)
    · exact h
    · exact absurd h e1
    · exact absurd h e2

/-- the `2` of the statement is `Extracted.poolCorrectSmallMul` (`paramsOf_cpp`), unfolded in the proof: a change of the
    header's constant stops the build here -/
theorem same_class_iff {N M s1 a1 s2 a2 : Nat} (hM : 0 < M) (hN : N ≠ 1) (h1 : CppType M s1 a1) (h2 : CppType M s2 a2) :
    paramsOf N M s1 a1 = paramsOf N M s2 a2 ↔
      min a1 M = min a2 M ∧ (s1 = s2 ∨ (s1 = min a1 M ∧ s2 = 2 * s1) ∨ (s2 = min a2 M ∧ s1 = 2 * s2)) := by
  rw [paramsOf_cpp hM h1, paramsOf_cpp hM h2, Prod.mk.injEq, and_comm]
  refine and_congr_right fun ha => ?_
  rw [← ha]
  simp only [hN, ne_eq, not_false_eq_true, true_and, Extracted.poolCorrectSmallMul]
  exact doubled_eq_iff _ _ _

theorem same_class_iff_one {M s1 a1 s2 a2 : Nat} (hM : 0 < M) (h1 : CppType M s1 a1) (h2 : CppType M s2 a2) :
    paramsOf 1 M s1 a1 = paramsOf 1 M s2 a2 ↔ min a1 M = min a2 M ∧ s1 = s2 := by
  rw [paramsOf_cpp hM h1, paramsOf_cpp hM h2, Prod.mk.injEq]
  simp only [ne_eq, not_true_eq_false, false_and, if_false]
  constructor <;> intro h <;> exact ⟨h.2, h.1⟩

/-- the statement of `C20_allocate_route` for any `cls` -/
theorem alloc_route {s : Sys} {p : Nat} {st : PoolSt} (h0 : s.err = none) (hl : livePool s p = some st)
    (cls : Cls) {n : Nat} (hn : n ≠ 0) {id : Nat} (hfresh : ∀ b ∈ s.blocks, b.id ≠ id) (ms : List Nat) :
    let s' := step s (.alloc p cls n id ms)
    s'.err = none ∧
    s'.blocks = ⟨id, p, cls, n, if n = 1 ∧ (cls = st.params ∨ st.allocCount = 0) then .pool cls else .raw⟩ :: s.blocks ∧
    (n = 1 ∧ (cls = st.params ∨ st.allocCount = 0) →
      s'.pools[p]? = some { st with params := cls, allocCount := st.allocCount + 1 }) ∧
    (¬ (n = 1 ∧ (cls = st.params ∨ st.allocCount = 0)) → s'.pools = s.pools) := by
  intro s'
  obtain ⟨hst, _⟩ := livePool_eq_some.mp hl
  have hill : ¬ (n = 0 ∨ (s.blocks.any fun b => b.id == id) = true) := by
    rintro (h | h)
    · exact hn h
    · obtain ⟨b, hb, hbid⟩ := List.any_eq_true.mp h
      exact hfresh b hb (beq_iff_eq.mp hbid)
  have hs' : s' = doAlloc s p cls n id ms := step_of_err_none h0 _
  simp only [doAlloc, hl, if_neg hill] at hs'
  by_cases hpath : n = 1 ∧ (cls = st.params ∨ st.allocCount = 0)
  · rw [if_pos hpath] at hs'
    rw [hs', if_pos hpath, hpath.1]
    exact ⟨h0, rfl, fun _ => ListFacts.getElem?_set_self hst, fun h => absurd ⟨rfl, hpath.2⟩ h⟩
  · rw [if_neg hpath] at hs'
    rw [hs', if_neg hpath]
    exact ⟨h0, rfl, fun h => absurd h hpath, fun _ => rfl⟩

theorem dealloc_route {s : Sys} (hi : Inv s) {p : Nat} {st : PoolSt} (h0 : s.err = none) (hl : livePool s p = some st)
    {b : Block} (hb : b ∈ s.blocks) (hp : b.pid = p) (frees : List Nat) :
    let s' := step s (.dealloc p b.cls b.n b.id frees)
    (b.n = 1 ∧ b.cls = st.params →
      (b.prov = .raw → s'.err = some (.rawIntoPool b.id)) ∧
      (b.prov ≠ .raw →
        s'.err = none ∧
        s'.pools[p]? = some { st with allocCount := st.allocCount - 1 } ∧
        s'.blocks = s.blocks.filter (fun x => x.id != b.id) ∧
        (∀ x ∈ s.base, x.kind ≠ .buf → x ∈ s'.base))) ∧
    (¬ (b.n = 1 ∧ b.cls = st.params) →
      (b.prov ≠ .raw → s'.err = some (.poolIntoRaw b.id)) ∧
      (b.prov = .raw →
        s'.err = none ∧
        s'.pools = s.pools ∧
        s'.blocks = s.blocks.filter (fun x => x.id != b.id) ∧
        s'.base =
          s.base.filter (fun e => !(e.pid == p && e.kind == .raw && e.id == b.id)))) := by
  obtain ⟨hst, _⟩ := livePool_eq_some.mp hl
  have hill : ¬ (b.pid ≠ p ∨ b.cls ≠ b.cls ∨ b.n ≠ b.n) := fun h => h.elim (· hp) (·.elim (· rfl) (· rfl))
  intro s'
  have hs' : step s (.dealloc p b.cls b.n b.id frees) = s' := rfl
  clear_value s'
  rw [step_of_err_none h0] at hs'
  simp only [doDealloc, hl, find_id_of_mem hi.nodup hb, if_neg hill] at hs'
  constructor <;> intro hpath
  · rw [if_pos hpath] at hs'
    cases hq : b.prov with
    | raw =>
      rw [hq] at hs'
      exact ⟨fun _ => hs' ▸ rfl, fun h => absurd rfl h⟩
    | pool q =>
      rw [hq] at hs'
      subst hs'
      refine ⟨nofun, fun _ => ⟨h0, ListFacts.getElem?_set_self hst, rfl, fun x hx hk => List.mem_filter.mpr ⟨hx, ?_⟩⟩⟩
      rw [beq_false_of_ne hk, Bool.and_false, Bool.false_and]
      rfl
  · rw [if_neg hpath] at hs'
    cases hq : b.prov with
    | raw =>
      rw [hq] at hs'
      subst hs'
      exact ⟨fun h => absurd rfl h, fun _ => ⟨h0, rfl, rfl, rfl⟩⟩
    | pool q =>
      rw [hq] at hs'
      exact ⟨fun _ => hs' ▸ rfl, nofun⟩

end Momo.PoolAlloc
