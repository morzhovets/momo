import Momo.Proof.BTreeAdd
/-!
  C02, rebalancing: every merge step of `pvRebalance(parentNode, index, savedNode)` and the root collapse keep the
  in-order list, the structure and the capacities; the saved leaf stays a leaf of the tree (possibly longer to the right)
  with the same number of elements before it (`SavedOk`), so the iterator `(savedNode, itemIndex)` returned by the removal
  functions denotes the same in-order index. `RebOK` is what a whole pass owes its callers; the loop of
  `pvRebalance(node, savedNode, fast)` itself is proved for every fault schedule in `BTreeFaultReb`. Core Lean only.
-/
namespace Momo.BTree
open Node
variable {α : Type}

theorem mergeNodes_toList {d : Nat} (n1 : Node α) (sep : α) (n2 : Node α) (h1 : Bal d n1) (h2 : Bal d n2) :
    toList (mergeNodes n1 sep n2) = toList n1 ++ sep :: toList n2 := by
  cases h1 with
  | leaf cap is =>
    obtain ⟨cap2, is2, rfl⟩ := h2.zero_isLeaf
    simp [mergeNodes, Node.items]
  | inner d' is cs hlen hall =>
    cases h2 with
    | inner _ is2 cs2 hlen2 hall2 =>
      simp [mergeNodes, Node.items, Node.children, inter_append cs cs2 is is2 sep hlen]

theorem mergeNodes_bal {d : Nat} (n1 : Node α) (sep : α) (n2 : Node α) (h1 : Bal d n1) (h2 : Bal d n2) :
    Bal d (mergeNodes n1 sep n2) := by
  cases h1 with
  | leaf cap is => exact Bal.leaf _ _
  | inner d' is cs hlen hall =>
    cases h2 with
    | inner _ is2 cs2 hlen2 hall2 =>
      simp only [mergeNodes, Node.items, Node.children]
      refine Bal.inner d' _ _ (by simp; omega) ?_
      intro c hc
      rcases List.mem_append.mp hc with h | h
      · exact hall c h
      · exact hall2 c h

theorem mergeNodes_size {d : Nat} (n1 : Node α) (sep : α) (n2 : Node α) (h1 : Bal d n1) (h2 : Bal d n2) :
    size (mergeNodes n1 sep n2) = size n1 + 1 + size n2 := by
  simp only [size, mergeNodes_toList n1 sep n2 h1 h2]; simp; omega

theorem mergeNodes_caps (cfg : Cfg) (n1 : Node α) (sep : α) (n2 : Node α) (h1 : Caps cfg.maxCap n1) (h2 : Caps cfg.maxCap n2)
    (hfit : n1.count + n2.count + 1 ≤ capOf cfg n1) : Caps cfg.maxCap (mergeNodes n1 sep n2) := by
  cases h1 with
  | leaf cap is hc1 hc2 =>
    simp only [mergeNodes]
    refine Caps.leaf _ _ ?_ hc2
    cases n2 <;> simp [Node.items, Node.count, capOf] at hfit ⊢ <;> omega
  | inner is cs hc1 hall =>
    simp only [mergeNodes]
    refine Caps.inner _ _ ?_ ?_
    · cases n2 <;> simp [Node.items, Node.count, capOf] at hfit ⊢ <;> omega
    · intro c hc
      rcases List.mem_append.mp hc with h | h
      · exact hall c h
      · cases h2 with
        | leaf _ _ _ _ => simp [Node.children] at h
        | inner _ _ _ hall2 => exact hall2 c (by simpa [Node.children] using h)

/-- the children of a parent after its children `i` and `i + 1` were merged into `m`: what `tryMerge` builds inline (equal by `rfl`) -/
def mergedChildren (cs : List (Node α)) (i : Nat) (m : Node α) : List (Node α) := cs.take i ++ m :: cs.drop (i + 2)

theorem inter_merge (cs : List (Node α)) (is : List α) (i : Nat) (n1 n2 m : Node α) (sep : α)
    (h1 : cs[i]? = some n1) (h2 : cs[i+1]? = some n2) (hs : is[i]? = some sep)
    (hm : toList m = toList n1 ++ sep :: toList n2) :
    inter (mergedChildren cs i m) (is.eraseIdx i) = inter cs is := by
  induction cs generalizing is i with
  | nil => simp at h1
  | cons c cs ih =>
    cases is with
    | nil => simp at hs
    | cons s is' =>
      cases i with
      | zero =>
        cases cs with
        | nil => simp at h2
        | cons c2 cs2 =>
          simp at h1 h2 hs; subst h1; subst h2; subst hs
          cases is' <;> simp [mergedChildren, hm]
      | succ j =>
        have := ih is' j (by simpa using h1) (by simpa using h2) (by simpa using hs)
        simp only [mergedChildren] at this ⊢
        simp only [List.take_succ_cons, List.drop_succ_cons, List.eraseIdx_cons_succ, List.cons_append,
          inter_cons_cons, this]

theorem mergedChildren_length (cs : List (Node α)) (i : Nat) (m : Node α) (h : i + 1 < cs.length) :
    (mergedChildren cs i m).length + 1 = cs.length := by
  simp [mergedChildren]; omega

theorem mergedChildren_mem (cs : List (Node α)) (i : Nat) (m x : Node α) (hx : x ∈ mergedChildren cs i m) :
    x ∈ cs ∨ x = m := by
  simp only [mergedChildren, List.mem_append, List.mem_cons] at hx
  rcases hx with hx | rfl | hx
  · exact Or.inl (List.mem_of_mem_take hx)
  · exact Or.inr rfl
  · exact Or.inl (List.mem_of_mem_drop hx)

theorem mergedChildren_getElem_lt (cs : List (Node α)) (i j : Nat) (m : Node α) (hj : j < i) (hi : i < cs.length) :
    (mergedChildren cs i m)[j]? = cs[j]? := by
  simp only [mergedChildren]
  rw [List.getElem?_append_left (by simp; omega), List.getElem?_take]; simp [hj]

theorem mergedChildren_getElem_at (cs : List (Node α)) (i : Nat) (m : Node α) (hi : i < cs.length) :
    (mergedChildren cs i m)[i]? = some m := by
  have := ListFacts.getElem?_length_add (cs.take i) (m :: cs.drop (i + 2)) 0
  rwa [List.length_take, Nat.min_eq_left (Nat.le_of_lt hi)] at this

theorem mergedChildren_getElem_gt (cs : List (Node α)) (i j : Nat) (m : Node α) (hj : i + 1 < j) (hi : i < cs.length) :
    (mergedChildren cs i m)[j - 1]? = cs[j]? := by
  have h : (cs.take i).length = i := by simp; omega
  simp only [mergedChildren]
  rw [List.getElem?_append_right (by omega), h]
  have : j - 1 - i = (j - 2 - i) + 1 := by omega
  rw [this, List.getElem?_cons_succ, List.getElem?_drop]
  congr 1; omega

theorem sum_take_mergedChildren_le (cs : List (Node α)) (i j : Nat) (m : Node α) (hj : j ≤ i) (hi : i < cs.length) :
    (((mergedChildren cs i m).take j).map (fun c => size c)).sum = ((cs.take j).map (fun c => size c)).sum := by
  simp only [mergedChildren]
  rw [List.take_append_of_le_length (by simp; omega), List.take_take]
  congr 3; omega

theorem sum_take_mergedChildren_gt (cs : List (Node α)) (i j : Nat) (n1 n2 m : Node α) (hj : i + 1 < j)
    (h1 : cs[i]? = some n1) (h2 : cs[i+1]? = some n2) (hm : size m = size n1 + 1 + size n2) :
    (((mergedChildren cs i m).take (j - 1)).map (fun c => size c)).sum = ((cs.take j).map (fun c => size c)).sum + 1 := by
  have hi : i < cs.length := ListFacts.lt_of_getElem? h1
  have h : (cs.take i).length = i := by simp; omega
  have e1 : j - 1 = (cs.take i).length + ((j - 2 - i) + 1) := by omega
  have e2 : j = (i + 2) + (j - 2 - i) := by omega
  have s1 := sum_take_split cs (i + 2) (j - 2 - i)
  rw [← e2] at s1
  have s2 : ((cs.take (i+2)).map (fun c => size c)).sum = ((cs.take (i+1)).map (fun c => size c)).sum + size n2 :=
    sum_take_succ cs (i+1) n2 h2
  have s3 := sum_take_succ cs i n1 h1
  simp only [mergedChildren]
  rw [e1, List.take_length_add_append]
  simp only [List.take_succ_cons, List.map_append, List.map_cons, List.sum_append, List.sum_cons]
  omega

/-- the saved node of `pvRebalance` (the leaf the returned iterator will name) across one step from `n` to `n'`: if `saved` is
    the path of a leaf of `n`, then `saved'` is the path of a leaf of `n'` that is not shorter and has as many elements in front
    of it, so a slot `(savedNode, itemIndex)` keeps its in-order index. `none` = the saved node does not lie below `n`, nothing
    is claimed. -/
def SavedOk (n : Node α) (saved : Option (List Nat)) (n' : Node α) (saved' : Option (List Nat)) : Prop :=
  ∀ sp cap its, saved = some sp → nodeAt? n sp = some (leaf cap its) →
    ∃ sp' cap' its', saved' = some sp' ∧ nodeAt? n' sp' = some (leaf cap' its') ∧ its.length ≤ its'.length ∧
      offsetOf n' sp' = offsetOf n sp

theorem SavedOk.refl (n : Node α) (saved : Option (List Nat)) : SavedOk n saved n saved := by
  intro sp cap its h1 h2
  exact ⟨sp, cap, its, h1, h2, Nat.le_refl _, rfl⟩

theorem SavedOk.trans {n n1 n2 : Node α} {s s1 s2 : Option (List Nat)} (h1 : SavedOk n s n1 s1)
    (h2 : SavedOk n1 s1 n2 s2) : SavedOk n s n2 s2 := by
  intro sp cap its hs hn
  obtain ⟨sp1, cap1, its1, e1, e2, e3, e4⟩ := h1 sp cap its hs hn
  obtain ⟨sp2, cap2, its2, f1, f2, f3, f4⟩ := h2 sp1 cap1 its1 e1 e2
  exact ⟨sp2, cap2, its2, f1, f2, by omega, by omega⟩

/-- what a rebalancing pass `reb r path saved` (new root, new path of the saved node) owes its callers; the third clause is
    `SavedOk r (some saved) … (some …)` written out for a path instead of an optional path. `pvRebalance` satisfies it under
    every fault schedule (`rebalanceF_spec` in `BTreeFaultReb`; `rebOK_rebalance` in `BTreeRemove` is the case without
    faults), and the removal proofs of `BTreeRemove` assume nothing else about the pass. -/
def RebOK (cfg : Cfg) (reb : Node α → List Nat → List Nat → Node α × List Nat) : Prop :=
  ∀ {d : Nat} {r : Node α}, Bal d r → ∀ (path saved : List Nat),
    toList (reb r path saved).1 = toList r ∧ (∃ d', Bal d' (reb r path saved).1) ∧
    (∀ cap its, nodeAt? r saved = some (leaf cap its) →
      ∃ cap' its', nodeAt? (reb r path saved).1 (reb r path saved).2 = some (leaf cap' its') ∧
        its.length ≤ its'.length ∧ offsetOf (reb r path saved).1 (reb r path saved).2 = offsetOf r saved) ∧
    (Caps cfg.maxCap r → Caps cfg.maxCap (reb r path saved).1)

theorem offsetOf_mergeNodes_left (n1 : Node α) (sep : α) (n2 : Node α) (s : List Nat) (cap : Nat) (its : List α)
    (h : nodeAt? n1 s = some (leaf cap its)) :
    ∃ cap' its', nodeAt? (mergeNodes n1 sep n2) s = some (leaf cap' its') ∧ its.length ≤ its'.length ∧
      offsetOf (mergeNodes n1 sep n2) s = offsetOf n1 s := by
  cases n1 with
  | leaf cap1 is1 =>
    cases s with
    | nil =>
      simp at h
      exact ⟨cap1, is1 ++ sep :: n2.items, by simp [mergeNodes], by rw [← h.2]; simp, by simp⟩
    | cons k s' => simp at h
  | inner is1 cs1 =>
    cases s with
    | nil => simp at h
    | cons k s' =>
      simp only [nodeAt?_inner_cons] at h
      cases hk : cs1[k]? with
      | none => simp [hk] at h
      | some ck =>
        simp only [hk] at h
        have hkl := ListFacts.lt_of_getElem? hk
        have hk' : (cs1 ++ n2.children)[k]? = some ck := by rw [List.getElem?_append_left hkl]; exact hk
        refine ⟨cap, its, ?_, Nat.le_refl _, ?_⟩
        · simp only [mergeNodes]; rw [nodeAt?_inner_cons' hk']; exact h
        · simp only [mergeNodes]
          rw [offsetOf_inner_cons' hk', offsetOf_inner_cons' hk, List.take_append_of_le_length (by omega)]

theorem offsetOf_mergeNodes_right {d : Nat} (n1 : Node α) (sep : α) (n2 : Node α) (k : Nat) (s' : List Nat) (cap : Nat)
    (its : List α) (hb1 : Bal d n1) (hb2 : Bal d n2) (h : nodeAt? n2 (k :: s') = some (leaf cap its)) :
    nodeAt? (mergeNodes n1 sep n2) ((k + n1.count + 1) :: s') = some (leaf cap its) ∧
      offsetOf (mergeNodes n1 sep n2) ((k + n1.count + 1) :: s') = size n1 + 1 + offsetOf n2 (k :: s') := by
  cases hb2 with
  | leaf cap2 is2 => simp at h
  | inner d' is2 cs2 hlen2 hall2 =>
    cases hb1 with
    | inner _ is1 cs1 hlen1 hall1 =>
      simp only [nodeAt?_inner_cons] at h
      cases hk : cs2[k]? with
      | none => simp [hk] at h
      | some ck =>
        simp only [hk] at h
        have hk' : (cs1 ++ cs2)[k + is1.length + 1]? = some ck := by
          rw [List.getElem?_append_right (by omega)]
          have : k + is1.length + 1 - cs1.length = k := by omega
          rw [this]; exact hk
        simp only [mergeNodes, Node.count, Node.children]
        refine ⟨by rw [nodeAt?_inner_cons' hk']; exact h, ?_⟩
        rw [offsetOf_inner_cons' hk', offsetOf_inner_cons' hk, size_inner is1 cs1 hlen1]
        have e : k + is1.length + 1 = cs1.length + k := by omega
        rw [e, List.take_append]
        have : cs1.length + k - cs1.length = k := by omega
        rw [this, List.take_of_length_le (by omega : cs1.length ≤ cs1.length + k)]
        simp only [List.map_append, List.sum_append]
        omega

theorem tryMerge_some {cfg : Cfg} {items : List α} {cs : List (Node α)} {i : Nat} {saved saved' : Option (List Nat)}
    {n' : Node α} (h : tryMerge cfg items cs i saved = some (n', saved')) :
    ∃ sep n1 n2, items[i]? = some sep ∧ cs[i]? = some n1 ∧ cs[i + 1]? = some n2 ∧ saved ≠ some [i + 1] ∧
      n1.count + n2.count + 1 ≤ capOf cfg n1 ∧
      n' = inner (items.eraseIdx i) (mergedChildren cs i (mergeNodes n1 sep n2)) ∧
      saved' = saved.map (mergeSaved i n1.count) := by
  unfold tryMerge at h
  split at h
  · rename_i sep n1 n2 hs h1 h2
    by_cases hsv : saved = some [i + 1]
    · rw [if_pos hsv] at h; cases h
    · rw [if_neg hsv] at h
      by_cases hfit : n1.count + n2.count + 1 > capOf cfg n1
      · rw [if_pos hfit] at h; cases h
      · rw [if_neg hfit] at h; cases h
        exact ⟨sep, n1, n2, hs, h1, h2, hsv, Nat.le_of_not_lt hfit, rfl, rfl⟩
  · cases h

theorem tryMerge_spec {cfg : Cfg} {d : Nat} {items : List α} {cs : List (Node α)} {i : Nat}
    {saved saved' : Option (List Nat)} {n' : Node α}
    (hb : Bal (d+1) (inner items cs)) (h : tryMerge cfg items cs i saved = some (n', saved')) :
    toList n' = inter cs items ∧ Bal (d+1) n' ∧ SavedOk (inner items cs) saved n' saved' := by
  have hlen := hb.inner_len
  have hall := hb.inner_child
  obtain ⟨sep, n1, n2, hs, h1, h2, hns, _, rfl, rfl⟩ := tryMerge_some h
  have hi : i < cs.length := ListFacts.lt_of_getElem? h1
  have hi2 : i + 1 < cs.length := ListFacts.lt_of_getElem? h2
  have hb1 := hall n1 (List.mem_of_getElem? h1)
  have hb2 := hall n2 (List.mem_of_getElem? h2)
  have hmt := mergeNodes_toList n1 sep n2 hb1 hb2
  have hms := mergeNodes_size n1 sep n2 hb1 hb2
  have hil : i < items.length := ListFacts.lt_of_getElem? hs
  refine ⟨?_, ?_, ?_⟩
  · rw [toList_inner]; exact inter_merge cs items i n1 n2 _ sep h1 h2 hs hmt
  · refine Bal.inner d _ _ ?_ ?_
    · have := mergedChildren_length cs i (mergeNodes n1 sep n2) hi2
      rw [List.length_eraseIdx_of_lt hil]; omega
    · intro x hx
      rcases mergedChildren_mem cs i _ x hx with hx | rfl
      · exact hall x hx
      · exact mergeNodes_bal n1 sep n2 hb1 hb2
  · -- the saved path enters the parent left of the pair (`j < i`), through `n1` (`j = i`), through `n2` (`j = i + 1`:
    -- its next index shifts behind `n1`'s children) or right of the pair (`j > i + 1`: one child less in front)
    intro sp cap its hsp hnode
    subst hsp
    rcases sp with _ | ⟨j, s⟩
    · simp at hnode
    obtain ⟨_, _, cj, he, hj, hnode⟩ := nodeAt?_cons_some hnode
    cases he
    simp only [Option.map_some, mergeSaved]
    by_cases hji : j ≤ i
    · simp only [hji, if_true]
      by_cases hjlt : j < i
      · have hg := mergedChildren_getElem_lt cs i j (mergeNodes n1 sep n2) hjlt hi
        rw [hj] at hg
        refine ⟨j :: s, cap, its, rfl, by rw [nodeAt?_inner_cons' hg]; exact hnode, Nat.le_refl _, ?_⟩
        rw [offsetOf_inner_cons' hg, offsetOf_inner_cons' hj,
          sum_take_mergedChildren_le cs i j _ (by omega) hi]
      · have hje : j = i := by omega
        subst hje
        rw [h1] at hj; cases hj
        have hg := mergedChildren_getElem_at cs j (mergeNodes n1 sep n2) hi
        obtain ⟨cap', its', e1, e2, e3⟩ := offsetOf_mergeNodes_left n1 sep n2 s cap its hnode
        refine ⟨j :: s, cap', its', rfl, by rw [nodeAt?_inner_cons' hg]; exact e1, e2, ?_⟩
        rw [offsetOf_inner_cons' hg, offsetOf_inner_cons' h1,
          sum_take_mergedChildren_le cs j j _ (Nat.le_refl _) hi, e3]
    · simp only [hji, if_false]
      by_cases hje : j = i + 1
      · subst hje
        simp only [if_true]
        rw [h2] at hj; cases hj
        cases s with
        | nil => exact absurd rfl hns
        | cons k s' =>
          have hg := mergedChildren_getElem_at cs i (mergeNodes n1 sep n2) hi
          obtain ⟨e1, e2⟩ := offsetOf_mergeNodes_right n1 sep n2 k s' cap its hb1 hb2 hnode
          refine ⟨i :: (k + n1.count + 1) :: s', cap, its, rfl, by rw [nodeAt?_inner_cons' hg]; exact e1,
            Nat.le_refl _, ?_⟩
          rw [offsetOf_inner_cons' hg, offsetOf_inner_cons' h2,
            sum_take_mergedChildren_le cs i i _ (Nat.le_refl _) hi, e2, sum_take_succ cs i n1 h1]
          omega
      · simp only [hje, if_false]
        have hgt : i + 1 < j := by omega
        have hg := mergedChildren_getElem_gt cs i j (mergeNodes n1 sep n2) hgt hi
        rw [hj] at hg
        refine ⟨(j - 1) :: s, cap, its, rfl, by rw [nodeAt?_inner_cons' hg]; exact hnode, Nat.le_refl _, ?_⟩
        rw [offsetOf_inner_cons' hg, offsetOf_inner_cons' hj,
          sum_take_mergedChildren_gt cs i j n1 n2 _ hgt h1 h2 hms]
        omega

theorem tryMerge_caps {cfg : Cfg} {items : List α} {cs : List (Node α)} {i : Nat}
    {saved saved' : Option (List Nat)} {n' : Node α}
    (hc : Caps cfg.maxCap (inner items cs)) (h : tryMerge cfg items cs i saved = some (n', saved')) :
    Caps cfg.maxCap n' := by
  obtain ⟨sep, n1, n2, _, h1, h2, _, hfit, rfl, _⟩ := tryMerge_some h
  refine Caps.inner _ _ (Nat.le_trans (List.length_eraseIdx_le items i) hc.inner_items) (fun x hx => ?_)
  rcases mergedChildren_mem cs i _ x hx with hx | rfl
  · exact hc.inner_child x hx
  · exact mergeNodes_caps cfg n1 sep n2 (hc.getElem h1) (hc.getElem h2) hfit

theorem sum_take_set_same_size (cs : List (Node α)) (c j : Nat) (ch ch' : Node α) (hc : cs[c]? = some ch)
    (hs : size ch' = size ch) :
    (((cs.set c ch').take j).map (fun x => size x)).sum = ((cs.take j).map (fun x => size x)).sum := by
  induction cs generalizing c j with
  | nil => simp
  | cons x xs ih =>
    cases j with
    | zero => simp
    | succ j' =>
      cases c with
      | zero => simp at hc; subst hc; simp [hs]
      | succ c' =>
        simp only [List.set_cons_succ, List.take_succ_cons, List.map_cons, List.sum_cons]
        rw [ih c' j' (by simpa using hc)]

theorem savedOk_set_child (items : List α) (cs : List (Node α)) (c : Nat) (ch ch' : Node α)
    (saved savedC : Option (List Nat)) (hc : cs[c]? = some ch) (hsize : size ch' = size ch)
    (hok : SavedOk ch (savedBelow saved c) ch' savedC) :
    SavedOk (inner items cs) saved (inner items (cs.set c ch')) (savedLift saved c savedC) := by
  have hcl := ListFacts.lt_of_getElem? hc
  intro sp cap its hsp hnode
  subst hsp
  rcases sp with _ | ⟨j, s⟩
  · simp at hnode
  obtain ⟨_, _, cj, he, hj, hnode⟩ := nodeAt?_cons_some hnode
  cases he
  by_cases hjc : j = c
  · subst hjc
    rw [hc] at hj; cases hj
    obtain ⟨s', cap', its', e1, e2, e3, e4⟩ := hok s cap its (by simp [savedBelow]) hnode
    have hset : (cs.set j ch')[j]? = some ch' := by simp [hcl]
    refine ⟨j :: s', cap', its', by simp [savedLift, e1], by rw [nodeAt?_inner_cons' hset]; exact e2, e3, ?_⟩
    rw [offsetOf_inner_cons' hset, offsetOf_inner_cons' hc, sum_take_set_same_size cs j j ch ch' hc hsize, e4]
  · have hset : (cs.set c ch')[j]? = some cj := by rw [List.getElem?_set_ne (Ne.symm hjc)]; exact hj
    refine ⟨j :: s, cap, its, by simp [savedLift, hjc], by rw [nodeAt?_inner_cons' hset]; exact hnode,
      Nat.le_refl _, ?_⟩
    rw [offsetOf_inner_cons' hset, offsetOf_inner_cons' hj, sum_take_set_same_size cs c j ch ch' hc hsize]

theorem collapseRoot_spec {d : Nat} {r : Node α} (hb : Bal d r) (saved path : List Nat) :
    toList (collapseRoot r saved path).1 = toList r ∧ (∃ d', Bal d' (collapseRoot r saved path).1) ∧
    (∀ cap its, nodeAt? r saved = some (leaf cap its) →
      nodeAt? (collapseRoot r saved path).1 (collapseRoot r saved path).2.1 = some (leaf cap its) ∧
      offsetOf (collapseRoot r saved path).1 (collapseRoot r saved path).2.1 = offsetOf r saved) ∧
    (∀ maxCap, Caps maxCap r → Caps maxCap (collapseRoot r saved path).1) := by
  fun_induction collapseRoot r saved path generalizing d with
  | case1 c cs' j s path ih =>
    obtain ⟨d', rfl, hall⟩ := hb.inner_depth
    obtain rfl : cs' = [] := by simpa using hb.inner_len
    obtain ⟨a, b, e, f⟩ := ih (hall c (by simp))
    refine ⟨by rw [a]; simp, b, fun cap its hnode => ?_, fun maxCap hcaps => f maxCap (hcaps.inner_child c (by simp))⟩
    cases j with
    | zero =>
      obtain ⟨e1, e2⟩ := e cap its (by simpa using hnode)
      exact ⟨e1, by rw [e2]; simp⟩
    | succ j' => simp at hnode
  | case2 r saved path _ => exact ⟨rfl, ⟨d, hb⟩, fun _ _ h => ⟨h, rfl⟩, fun _ h => h⟩

end Momo.BTree
