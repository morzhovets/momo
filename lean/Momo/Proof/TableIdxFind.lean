import Momo.Model.TableIdx
import Momo.Proof.ListFacts
import Momo.Proof.HashTableAbs
/-!
  C07 / F9, bucket level: the lookup of the refined index model (`findTableP`: first examined position whose item
  passes a predicate) against the lookup of the C01 model (`HT.findTable`: by key), and what a lookup returns in terms
  of the entries and their `visitRank` (the F9 characterisation rests on these); at the end `findTableP_unique`: the lookup of a key
  that exactly one entry answers to returns that entry (C01 completeness for lookups by row values).
-/
namespace Momo.TIdx
open Momo Momo.HT Momo.Probe

/-- index of the first element passing `q`, if any. This is the body of the model's `posOf` / `visitRank` with the list and the
    test as parameters (`visitRank_eq_firstIdx`), so that the facts about "who comes first" can be proved on plain lists. -/
def firstIdx {α : Type} (l : List α) (q : α → Bool) : Option Nat :=
  if l.findIdx q < l.length then some (l.findIdx q) else none

theorem visitRank_eq_firstIdx (bs : BSpec) (t : Table) (h e : Nat) :
    visitRank bs t h e = firstIdx (visitSeq bs t h) (holds bs.sp t (fun it => it.key == e)) := rfl

theorem firstIdx_cons {α : Type} (a : α) (l : List α) (q : α → Bool) :
    firstIdx (a :: l) q = if q a then some 0 else (firstIdx l q).map (· + 1) := by
  unfold firstIdx
  rw [List.findIdx_cons]
  cases hq : q a with
  | true => simp
  | false =>
    simp only [cond_false, List.length_cons, Nat.add_lt_add_iff_right, Bool.false_eq_true, if_false]
    split <;> simp

theorem before_succ (a b : Option Nat) : before (a.map (· + 1)) (b.map (· + 1)) = before a b := by
  cases a <;> cases b <;> simp [before]

theorem before_zero_left (b : Option Nat) : before (some 0) (b.map (· + 1)) = true := by
  cases b <;> rfl

theorem before_asymm (a b : Option Nat) (h : before a b = true) : before b a = false := by
  cases a with
  | none => exact absurd h (by simp [before])
  | some i =>
    cases b with
    | none => rfl
    | some j => simp only [before, decide_eq_true_eq, decide_eq_false_iff_not] at h ⊢; exact Nat.lt_asymm h

/-- when the first match of `P` passes `A`, and `A`, `X` are exclusive kinds of matches, an `A` comes before every `X` -/
theorem before_of_find {α : Type} (A X P : α → Bool) (l : List α) (x : α) (hf : l.find? P = some x) (hx : A x = true)
    (hA : ∀ y ∈ l, A y = true → P y = true) (hX : ∀ y ∈ l, X y = true → P y = true ∧ A y = false) :
    before (firstIdx l A) (firstIdx l X) = true := by
  induction l with
  | nil => cases hf
  | cons a l ih =>
    have hAa := hA a List.mem_cons_self
    have hXa := hX a List.mem_cons_self
    rw [firstIdx_cons, firstIdx_cons]
    rw [List.find?_cons] at hf
    cases hP : P a with
    | true =>
      -- `a` is the first match: it passes `A`, hence not `X`
      obtain rfl : a = x := by simpa [hP] using hf
      have hXf : X a = false := Bool.eq_false_iff.mpr fun h => by rw [(hXa h).2] at hx; cases hx
      rw [hx, hXf]
      exact before_zero_left _
    | false =>
      rw [hP] at hAa hXa
      have hAf : A a = false := Bool.eq_false_iff.mpr fun h => Bool.false_ne_true (hAa h)
      have hXf : X a = false := Bool.eq_false_iff.mpr fun h => Bool.false_ne_true (hXa h).1
      rw [hAf, hXf]
      simp only [Bool.false_eq_true, if_false, before_succ]
      exact ih (by simpa [hP] using hf) (fun y hy => hA y (List.mem_cons_of_mem _ hy)) (fun y hy => hX y (List.mem_cons_of_mem _ hy))

/-- `holds` inside one generation `g`: the test of the position `q = (bucket, slot)`; `holds_eq_holdsG` -/
def holdsG (sp : Spec) (g : Gen) (p : Item → Bool) (q : Nat × Nat) : Bool :=
  match (bkt sp g.bs q.1).items[q.2]? with
  | some it => p it
  | none => false

theorem mem_scanOrder (bs : BSpec) (n j : Nat) : j ∈ scanOrder bs n ↔ j < n := by
  unfold scanOrder; split <;> simp

theorem mem_bucketSeq (bs : BSpec) (g : Gen) (b : Nat) (q : Nat × Nat) :
    q ∈ bucketSeq bs g b ↔ q.1 = b ∧ q.2 < (bkt bs.sp g.bs b).items.length := by
  unfold bucketSeq
  simp only [List.mem_map, mem_scanOrder]
  constructor
  · rintro ⟨j, hj, rfl⟩; exact ⟨rfl, hj⟩
  · rintro ⟨h1, h2⟩; exact ⟨q.2, h2, by cases q; simp at h1; simp [h1]⟩

/-- in a bucket whose keys are distinct the scan order does not matter for a lookup by key -/
theorem bucketSeq_find_key (bs : BSpec) (g : Gen) (b k : Nat)
    (hnd : ((bkt bs.sp g.bs b).items.map (·.key)).Nodup) :
    (bucketSeq bs g b).find? (holdsG bs.sp g (fun it => it.key == k)) =
      (keyIdx (bkt bs.sp g.bs b).items k).map (fun j => (b, j)) := by
  cases hk : keyIdx (bkt bs.sp g.bs b).items k with
  | none =>
    simp only [Option.map_none]
    apply List.find?_eq_none.mpr
    intro q hq
    obtain ⟨h1, h2⟩ := (mem_bucketSeq bs g b q).mp hq
    unfold holdsG
    rw [h1, List.getElem?_eq_getElem h2]
    simp only [beq_iff_eq]
    exact keyIdx_none _ _ hk _ (List.getElem_mem h2)
  | some j0 =>
    obtain ⟨it0, hj0, hkey0⟩ := keyIdx_some _ _ _ hk
    have hlt0 : j0 < (bkt bs.sp g.bs b).items.length := by
      rcases List.getElem?_eq_some_iff.mp hj0 with ⟨h, _⟩; exact h
    simp only [Option.map_some]
    apply ListFacts.find?_unique
    · exact (mem_bucketSeq bs g b (b, j0)).mpr ⟨rfl, hlt0⟩
    · unfold holdsG; simp [hj0, hkey0]
    · intro q hq hh
      obtain ⟨h1, h2⟩ := (mem_bucketSeq bs g b q).mp hq
      unfold holdsG at hh
      rw [h1, List.getElem?_eq_getElem h2] at hh
      simp only [beq_iff_eq] at hh
      have e1 : ((bkt bs.sp g.bs b).items.map (·.key))[q.2]? = some k := by
        rw [List.getElem?_map, List.getElem?_eq_getElem h2]; simp [hh]
      have e2 : ((bkt bs.sp g.bs b).items.map (·.key))[j0]? = some k := by
        rw [List.getElem?_map, hj0]; simp [hkey0]
      have : q.2 = j0 := (List.getElem?_inj (by simpa using h2) hnd).mp (e1.trans e2.symm)
      cases q; simp at h1 this; simp [h1, this]

theorem pathLoop_find_key (bs : BSpec) (g : Gen) (k maxP : Nat)
    (hnd : ∀ b, ((bkt bs.sp g.bs b).items.map (·.key)).Nodup) :
    ∀ fuel probe idx,
      ((pathLoop bs.sp g maxP fuel probe idx).flatMap (bucketSeq bs g)).find? (holdsG bs.sp g (fun it => it.key == k)) =
        findLoop bs.sp g k maxP fuel probe idx := by
  intro fuel
  induction fuel with
  | zero => intro _ _; simp [pathLoop, findLoop]
  | succ f ih =>
    intro probe idx
    simp only [pathLoop, findLoop]
    split
    · simp only [List.flatMap_cons, List.find?_append]
      rw [bucketSeq_find_key bs g _ k (hnd _), ih]
      cases keyIdx (bkt bs.sp g.bs (nextIdx bs.sp g.L idx probe)).items k <;> simp
    · simp

theorem visitGen_find_key (bs : BSpec) (g : Gen) (h k : Nat)
    (hnd : ∀ b, ((bkt bs.sp g.bs b).items.map (·.key)).Nodup) :
    (visitGen bs g h).find? (holdsG bs.sp g (fun it => it.key == k)) = findGen bs.sp g h k := by
  unfold visitGen pathGen findGen
  simp only [List.flatMap_cons, List.find?_append]
  rw [bucketSeq_find_key bs g _ k (hnd _), pathLoop_find_key bs g k _ hnd]
  cases keyIdx (bkt bs.sp g.bs (start g.L h)).items k <;> simp

theorem holds_eq_holdsG (sp : Spec) (t : Table) (p : Item → Bool) (gi : Nat) (g : Gen) (hg : t.gens[gi]? = some g)
    (q : Nat × Nat) : holds sp t p (gi, q.1, q.2) = holdsG sp g p q := by
  unfold holds itemAt holdsG
  simp only [hg]
  rfl

theorem visitGens_find_key (bs : BSpec) (hf : Nat → Nat) (k : Nat) (t : Table)
    (hnd : ∀ g ∈ t.gens, ∀ b, ((bkt bs.sp g.bs b).items.map (·.key)).Nodup) :
    ∀ (gs : List Gen) (gi : Nat), (∀ i g, gs[i]? = some g → t.gens[gi + i]? = some g) →
      (visitGens bs (hf k) gi gs).find? (holds bs.sp t (fun it => it.key == k)) = findTable.go bs.sp hf k gi gs := by
  intro gs
  induction gs with
  | nil => intro _ _; simp [visitGens, findTable.go]
  | cons g rest ih =>
    intro gi hsub
    have hg : t.gens[gi]? = some g := by simpa using hsub 0 g (by simp)
    have hgm : g ∈ t.gens := List.mem_of_getElem? hg
    simp only [visitGens, findTable.go, List.find?_append, List.find?_map]
    have hcomp : (holds bs.sp t (fun it => it.key == k) ∘ fun p : Nat × Nat => (gi, p.1, p.2)) =
        holdsG bs.sp g (fun it => it.key == k) := by
      funext q; exact holds_eq_holdsG bs.sp t _ gi g hg q
    rw [hcomp, visitGen_find_key bs g (hf k) k (hnd g hgm)]
    cases hfg : findGen bs.sp g (hf k) k with
    | some r => obtain ⟨b, j⟩ := r; simp
    | none =>
      simp only [Option.map_none, Option.none_or]
      split
      · simp
      · exact ih (gi + 1) (fun i g' hi => by
          have := hsub (i + 1) g' (by simpa using hi)
          rw [show gi + 1 + i = gi + (i + 1) by omega]; exact this)

/-- **the refined lookup agrees with the C01 lookup on tables without duplicate keys** -/
theorem findTableP_key (bs : BSpec) (hf : Nat → Nat) (t : Table) (k : Nat)
    (hnd : ((HT.traverse t).map (·.key)).Nodup) :
    findTableP bs t (hf k) (fun it => it.key == k) = findTable bs.sp hf t k := by
  unfold findTableP findTable visitSeq
  split
  · rfl
  · exact visitGens_find_key bs hf k t (bucket_keys_nodup bs.sp t hnd) t.gens 0 (fun i g h => by simpa using h)

theorem itemAt_some (sp : Spec) (t : Table) (pos : Nat × Nat × Nat) (it : Item) (h : itemAt sp t pos = some it) :
    ∃ g, t.gens[pos.1]? = some g ∧ (bkt sp g.bs pos.2.1).items[pos.2.2]? = some it := by
  unfold itemAt at h
  cases hg : t.gens[pos.1]? with
  | none => simp [hg] at h
  | some g => simp only [hg] at h; exact ⟨g, rfl, h⟩

theorem itemAt_mem (sp : Spec) (t : Table) (pos : Nat × Nat × Nat) (it : Item) (h : itemAt sp t pos = some it) :
    it ∈ HT.traverse t := by
  obtain ⟨g, hg, hj⟩ := itemAt_some sp t pos it h
  exact (mem_traverse t it).mpr ⟨g, List.mem_of_getElem? hg, (mem_genItems sp g it).mpr ⟨pos.2.1, List.mem_of_getElem? hj⟩⟩

theorem holds_of_itemAt (sp : Spec) (t : Table) (p : Item → Bool) (pos : Nat × Nat × Nat) (it : Item)
    (h : itemAt sp t pos = some it) : holds sp t p pos = p it := by
  unfold holds; rw [h]

theorem holds_item (sp : Spec) (t : Table) (p : Item → Bool) (pos : Nat × Nat × Nat)
    (h : holds sp t p pos = true) : ∃ it, itemAt sp t pos = some it ∧ it ∈ HT.traverse t ∧ p it = true := by
  unfold holds at h
  cases hi : itemAt sp t pos with
  | none => simp [hi] at h
  | some it => rw [hi] at h; exact ⟨it, rfl, itemAt_mem sp t pos it hi, h⟩

/-! ### the lookup as a choice among entries

  With distinct keys a position is as good as the entry it holds (`holds_key`), and the order of examination is `visitRank`
  (`visitRank_ne_none`): `findTableP_found`, `findTableP_isSome`, `findTableP_first` speak of entries only, not of positions, `holds` or `visitSeq`. -/

theorem holds_key (sp : Spec) (t : Table) (hnd : ((HT.traverse t).map (·.key)).Nodup) (it : Item) (hit : it ∈ HT.traverse t)
    (pos : Nat × Nat × Nat) (h : holds sp t (fun x => x.key == it.key) pos = true) : itemAt sp t pos = some it := by
  obtain ⟨x, hx, hm, hk⟩ := holds_item sp t _ pos h
  rw [hx, ListFacts.key_inj (·.key) hnd hm hit (by simpa using hk)]

theorem visitRank_ne_none (bs : BSpec) (t : Table) (h k : Nat) :
    visitRank bs t h k ≠ none ↔ ∃ pos ∈ visitSeq bs t h, holds bs.sp t (fun x => x.key == k) pos = true := by
  rw [← List.findIdx_lt_length, visitRank_eq_firstIdx]
  unfold firstIdx
  split
  · rename_i h; exact ⟨fun _ => h, fun _ => Option.some_ne_none _⟩
  · rename_i h; exact ⟨fun hn => absurd rfl hn, fun hl => absurd hl h⟩

theorem findTableP_pos (bs : BSpec) (t : Table) (h : Nat) (p : Item → Bool) (pos : Nat × Nat × Nat)
    (hf : findTableP bs t h p = some pos) : holds bs.sp t p pos = true ∧ pos ∈ visitSeq bs t h := by
  unfold findTableP at hf
  split at hf
  · simp at hf
  · exact ⟨List.find?_some hf, List.mem_of_find?_eq_some hf⟩

theorem findTableP_found (bs : BSpec) (t : Table) (h : Nat) (p : Item → Bool) (pos : Nat × Nat × Nat)
    (hf : findTableP bs t h p = some pos) : ∃ it, itemAt bs.sp t pos = some it ∧ it ∈ HT.traverse t ∧ p it = true := by
  exact holds_item _ _ _ pos (findTableP_pos bs t h p pos hf).1

theorem findTableP_isSome (bs : BSpec) (t : Table) (hnd : ((HT.traverse t).map (·.key)).Nodup)
    (hc : t.count = (HT.traverse t).length) (h : Nat) (p : Item → Bool) :
    (findTableP bs t h p).isSome ↔ ∃ it ∈ HT.traverse t, p it = true ∧ visitRank bs t h it.key ≠ none := by
  constructor
  · intro hs
    obtain ⟨pos, hf⟩ := Option.isSome_iff_exists.mp hs
    obtain ⟨it, hi, hm, hp⟩ := findTableP_found bs t h p pos hf
    exact ⟨it, hm, hp, (visitRank_ne_none bs t h it.key).mpr
      ⟨pos, (findTableP_pos bs t h p pos hf).2, by rw [holds_of_itemAt _ _ _ pos it hi]; simp⟩⟩
  · rintro ⟨it, hm, hp, hr⟩
    obtain ⟨pos, hpos, hh⟩ := (visitRank_ne_none bs t h it.key).mp hr
    -- the table is not empty: `count` is the number of entries
    have hcnt : (t.count == 0) = false := by
      rw [hc, beq_eq_false_iff_ne]; exact Nat.ne_of_gt (List.length_pos_of_mem hm)
    unfold findTableP
    rw [hcnt]
    exact List.find?_isSome.mpr ⟨pos, hpos, by rw [holds_of_itemAt _ _ _ pos it (holds_key _ t hnd it hm pos hh)]; exact hp⟩

/-- the entry returned is examined before every other passing entry -/
theorem findTableP_first (bs : BSpec) (t : Table) (hnd : ((HT.traverse t).map (·.key)).Nodup) (h : Nat) (p : Item → Bool)
    (pos : Nat × Nat × Nat) (it x : Item) (hf : findTableP bs t h p = some pos) (hi : itemAt bs.sp t pos = some it)
    (hx : x ∈ HT.traverse t) (hpx : p x = true) (hne : x.key ≠ it.key) :
    before (visitRank bs t h it.key) (visitRank bs t h x.key) = true := by
  obtain ⟨_, hi', hm, hp⟩ := findTableP_found bs t h p pos hf
  rw [hi] at hi'; cases hi'
  have hfind : (visitSeq bs t h).find? (holds bs.sp t p) = some pos := by
    unfold findTableP at hf
    split at hf
    · cases hf
    · exact hf
  rw [visitRank_eq_firstIdx, visitRank_eq_firstIdx]
  refine before_of_find (holds bs.sp t (fun y => y.key == it.key)) (holds bs.sp t (fun y => y.key == x.key)) _ _ pos hfind
    (by rw [holds_of_itemAt _ _ _ pos it hi]; simp) ?_ ?_
  · intro q _ hq
    rw [holds_of_itemAt _ _ _ q it (holds_key _ t hnd it hm q hq)]; exact hp
  · intro q _ hq
    have hq' := holds_key _ t hnd x hx q hq
    rw [holds_of_itemAt _ _ _ q x hq', holds_of_itemAt _ _ _ q x hq']
    exact ⟨hpx, by simpa using hne⟩

/-- C01 completeness as a rank: every entry is examined by the lookup of the hash code it was inserted under -/
theorem visitRank_entry (bs : BSpec) (hs : Nat → Nat) (t : Table) (hT : TableInv bs.sp hs t) (it : Item) (hm : it ∈ HT.traverse t) :
    visitRank bs t (hs it.key) it.key ≠ none := by
  have h1 : (findTableP bs t (hs it.key) (fun x => x.key == it.key)).isSome := by
    rw [findTableP_key bs hs t it.key hT.core.nodup]
    exact (findTable_spec bs.sp hs t hT it.key).mpr (List.mem_map.mpr ⟨it, hm, rfl⟩)
  obtain ⟨pos, hf⟩ := Option.isSome_iff_exists.mp h1
  obtain ⟨hh, hv⟩ := findTableP_pos bs t _ _ pos hf
  exact (visitRank_ne_none bs t _ _).mpr ⟨pos, hv, hh⟩

/-- the lookup returns SOME passing entry, not necessarily `it0` (that is `findTableP_unique`, which needs `it0` to be the only one) -/
theorem findTableP_passing (bs : BSpec) (hs : Nat → Nat) (t : Table) (hT : TableInv bs.sp hs t)
    (it0 : Item) (h0 : it0 ∈ HT.traverse t) (p : Item → Bool) (hp0 : p it0 = true) :
    ∃ pos it, findTableP bs t (hs it0.key) p = some pos ∧ itemAt bs.sp t pos = some it ∧ it ∈ HT.traverse t ∧ p it = true := by
  obtain ⟨pos, hf⟩ := Option.isSome_iff_exists.mp ((findTableP_isSome bs t hT.core.nodup hT.core.count (hs it0.key) p).mpr
    ⟨it0, h0, hp0, visitRank_entry bs hs t hT it0 h0⟩)
  exact ⟨pos, (findTableP_found bs t _ p pos hf).elim fun it h => ⟨it, hf, h⟩⟩

/-- **lookups under the invariant**: the lookup of a key that exactly one entry `it0` answers to returns the position of that
    entry (the C01 completeness theorem carried over to lookups by row values) -/
theorem findTableP_unique (bs : BSpec) (hs : Nat → Nat) (t : Table) (hT : TableInv bs.sp hs t)
    (it0 : Item) (h0 : it0 ∈ HT.traverse t) (eq : Nat → Bool) (heq0 : eq it0.val = true)
    (hu : ∀ it ∈ HT.traverse t, eq it.val = true → it = it0) :
    ∃ pos, findTableP bs t (hs it0.key) (entPred bs hs (hs it0.key) eq) = some pos ∧
      itemAt bs.sp t pos = some it0 := by
  obtain ⟨pos, it, hf, hi, hm, hp⟩ := findTableP_passing bs hs t hT it0 h0 (entPred bs hs (hs it0.key) eq) (by simp [entPred, heq0])
  refine ⟨pos, hf, ?_⟩
  rw [hi, hu it hm (by unfold entPred at hp; exact (Bool.and_eq_true _ _ |>.mp hp).2)]

end Momo.TIdx
