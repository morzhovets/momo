import Momo.Proof.TableIdxFind
import Momo.Proof.TableIdx
/-!
  C07 / F9, bucket level: the invariant of one unique hash index over the refined model (`IdxInv`) and the single-column update
  (`DataIndexes::UpdateRaw(raw, offset, item, assigner)`): what the update leaves behind, depending on which entry
  `PrepareRemove` settled on. `Mid` is the index between `Add(hashMixedKey)` and `PrepareRemove`, `Done` a completed update
  (`updCol_out`); the results are `Done.remTarget_new_iff`, `Done.inv_iff` (with `Done.inv_of_f9cond_false`) and `Done.stale`; the `C07_updcol_*` theorems are these after `updCol_out`.
  From the list-level file `TableIdx` only the facts about the store and the key functions are used (`Table.valsOf_mem`, `Table.keyEq_*`, `Table.hashVals_congr`).
  Lemmas that start from a record (`IdxInv.*`, `Mid.*`, `Done.*`) take its parameters implicitly; the others take theirs explicitly.
-/
namespace Momo.TIdx
open Momo Momo.HT Momo.Probe
open Momo.Table (Row Store valsOf rowOf keyEq hashVals mixVals Acc)
-- Write `Table.Acc`: the bare `Acc` also names the accessibility predicate of core, so that every binder `(acc : Acc)` is elaborated both
-- ways before the overload is resolved. Both spellings elaborate to the same type; `IdxInv`, `IdxInv.findRaw_row`, `hOldOf`, `hNewOf`,
-- `hs1Of`, `t1Of` have the bare one, as have the C07 statements phrased with them.

/-- invariant of one unique hash index with respect to the rows `st` of the table: the hash set satisfies the C01 invariant
    (under the hash codes `u.hs` the entries were inserted with), its entries are exactly the rows, every entry was inserted under
    the hash code of its row's CURRENT key, and no two rows have equal keys -/
structure IdxInv (bs : BSpec) (acc : Acc) (st : Store) (u : UH) : Prop where
  tinv : TableInv bs.sp u.hs u.t
  fresh : ∀ it ∈ traverse u.t, it.key < u.next
  raws : ((traverse u.t).map (·.val)).Perm (st.map (·.id))
  ids : (st.map (·.id)).Nodup
  stored : ∀ it ∈ traverse u.t, u.hs it.key = hashVals acc u.cols (valsOf st it.val)
  uniq : ∀ r1 ∈ st, ∀ r2 ∈ st, keyEq u.cols r1.vals r2.vals = true → r1.id = r2.id

theorem valsOf_assignCol (st : Store) (raw col v id : Nat) :
    valsOf (assignCol st raw col v) id = if id = raw then mixVals (valsOf st raw) col v else valsOf st id := by
  unfold valsOf rowOf assignCol
  rw [List.find?_map]
  have hc : ((fun r : Row => r.id == id) ∘ fun r : Row => if r.id = raw then { r with vals := r.vals.set col v } else r) =
      fun r : Row => r.id == id := by
    funext r; simp only [Function.comp]; split <;> rfl
  rw [hc]
  cases hf : st.find? (fun r => r.id == id) with
  | none =>
    simp only [Option.map_none]
    split
    · rename_i he; subst he; rw [hf]; simp [mixVals]
    · rfl
  | some r =>
    have hid : r.id = id := by simpa using List.find?_some hf
    simp only [Option.map_some]
    by_cases he : id = raw
    · subst he; rw [hf]; simp [hid, mixVals]
    · have : ¬ r.id = raw := by rw [hid]; exact he
      simp [this, he]

theorem assignCol_ids (st : Store) (raw col v : Nat) : (assignCol st raw col v).map (·.id) = st.map (·.id) := by
  unfold assignCol
  rw [List.map_map]
  apply List.map_congr_left
  intro r _; simp only [Function.comp]; split <;> rfl

theorem IdxInv.vals_nodup {bs : BSpec} {acc : Table.Acc} {st : Store} {u : UH} (hI : IdxInv bs acc st u) :
    ((HT.traverse u.t).map (·.val)).Nodup := hI.raws.nodup_iff.mpr hI.ids

theorem IdxInv.entry_of_row {bs : BSpec} {acc : Table.Acc} {st : Store} {u : UH} (hI : IdxInv bs acc st u)
    (id : Nat) (hid : id ∈ st.map (·.id)) : ∃ it ∈ HT.traverse u.t, it.val = id := by
  have := hI.raws.mem_iff.mpr hid
  obtain ⟨it, hit, hv⟩ := List.mem_map.mp this
  exact ⟨it, hit, hv⟩

theorem IdxInv.row_of_entry {bs : BSpec} {acc : Table.Acc} {st : Store} {u : UH} (hI : IdxInv bs acc st u)
    (it : Item) (hit : it ∈ HT.traverse u.t) : ∃ r ∈ st, r.id = it.val := by
  have := hI.raws.mem_iff.mp (List.mem_map.mpr ⟨it, hit, rfl⟩)
  obtain ⟨r, hr, hv⟩ := List.mem_map.mp this
  exact ⟨r, hr, hv⟩

theorem IdxInv.uniq_ids {bs : BSpec} {acc : Table.Acc} {st : Store} {u : UH} (hI : IdxInv bs acc st u)
    (a b : Item) (ha : a ∈ HT.traverse u.t) (hb : b ∈ HT.traverse u.t)
    (h : keyEq u.cols (valsOf st a.val) (valsOf st b.val) = true) : a = b := by
  obtain ⟨r1, hr1, e1⟩ := hI.row_of_entry a ha
  obtain ⟨r2, hr2, e2⟩ := hI.row_of_entry b hb
  rw [← e1, ← e2, Table.valsOf_mem hI.ids hr1, Table.valsOf_mem hI.ids hr2] at h
  have := hI.uniq r1 hr1 r2 hr2 h
  exact ListFacts.key_inj (·.val) hI.vals_nodup ha hb (by rw [← e1, ← e2, this])

/-- `Find(Raw*)` returns the position of an entry that sits under the hash code of its row's current key, when no other entry's
    row has that key (the index need not be consistent otherwise) -/
theorem findRaw_unique (bs : BSpec) (acc : Table.Acc) (st : Store) (u : UH) (hT : TableInv bs.sp u.hs u.t)
    (it0 : Item) (h0 : it0 ∈ HT.traverse u.t) (hst : u.hs it0.key = hashVals acc u.cols (valsOf st it0.val))
    (hu : ∀ x ∈ HT.traverse u.t, keyEq u.cols (valsOf st it0.val) (valsOf st x.val) = true → x = it0) :
    ∃ pos, findRaw bs acc st u it0.val = some pos ∧ itemAt bs.sp u.t pos = some it0 := by
  unfold findRaw
  rw [← hst]
  exact findTableP_unique bs u.hs u.t hT it0 h0 _ (Momo.Table.keyEq_refl _ _) hu

theorem IdxInv.findRaw_row {bs : BSpec} {acc : Acc} {st : Store} {u : UH} (hI : IdxInv bs acc st u)
    (it0 : Item) (h0 : it0 ∈ traverse u.t) :
    ∃ pos, findRaw bs acc st u it0.val = some pos ∧ itemAt bs.sp u.t pos = some it0 :=
  findRaw_unique bs acc st u hI.tinv it0 h0 (hI.stored it0 h0) (fun x hx he => (hI.uniq_ids it0 x h0 hx he).symm)

/-- hash code of the raw's key before the update -/
def hOldOf (acc : Acc) (st : Store) (u : UH) (raw : Nat) : Nat := hashVals acc u.cols (valsOf st raw)

/-- hash code of the raw's key after the update (`GetHashCode(HashMixedKey)`) -/
def hNewOf (acc : Acc) (st : Store) (u : UH) (raw col v : Nat) : Nat :=
  hashVals acc u.cols (mixVals (valsOf st raw) col v)

/-- insertion hash codes once `Add(hashMixedKey)` has made the entry `u.next` -/
def hs1Of (acc : Acc) (st : Store) (u : UH) (raw col v : Nat) : Nat → Nat :=
  fun e => if e = u.next then hashVals acc u.cols (mixVals (valsOf st raw) col v) else u.hs e

/-- the hash set as `Add(hashMixedKey)` leaves it (the raw is in it twice) -/
def t1Of (bs : BSpec) (acc : Acc) (st : Store) (u : UH) (raw col v : Nat) (f : Faults) : Table :=
  (add bs.sp (hs1Of acc st u raw col v) u.t ⟨u.next, raw⟩ f).1

/-- the index as `Add(hashMixedKey)` leaves it -/
def u1Of (bs : BSpec) (acc : Table.Acc) (st : Store) (u : UH) (raw col v : Nat) (f : Faults) : UH :=
  { u with t := t1Of bs acc st u raw col v f, hs := hs1Of acc st u raw col v, next := u.next + 1, posAdd := some u.next }

/-- the test `PrepareRemove(raw)` applies to the entries it meets, `hs1` the insertion hash codes at that moment -/
def remPred (bs : BSpec) (acc : Table.Acc) (st : Store) (u : UH) (raw : Nat) (hs1 : Nat → Nat) : Item → Bool :=
  entPred bs hs1 (hOldOf acc st u raw) (fun id => keyEq u.cols (valsOf st raw) (valsOf st id))

/-- `PrepareRemove(raw)` after `Add(hashMixedKey)` is the lookup that `Mid.findRaw_old_or_new` speaks of -/
theorem findRaw_u1Of (bs : BSpec) (acc : Table.Acc) (st : Store) (u : UH) (raw col v : Nat) (f : Faults) :
    findRaw bs acc st (u1Of bs acc st u raw col v f) raw =
      findTableP bs (t1Of bs acc st u raw col v f) (hOldOf acc st u raw) (remPred bs acc st u raw (hs1Of acc st u raw col v)) := rfl

/-- a completed `updCol` went through the `added` branch of `Add(hashMixedKey)`: what `u'` and `st'` are -/
theorem updCol_eq_done (bs : BSpec) (acc : Table.Acc) (st : Store) (u : UH) (raw col v : Nat) (f : Faults) (u' : UH) (st' : Store)
    (h : updCol bs acc st u raw col v f = .done u' st') :
    findMixed bs acc st u raw col v = none ∧
    (add bs.sp (hs1Of acc st u raw col v) u.t ⟨u.next, raw⟩ f).2 = .ok ∧
    (addMixed bs acc st u raw col v f).1 = u1Of bs acc st u raw col v f ∧
    u' = acceptRemove bs (acceptAdd (prepareRemove bs acc st (u1Of bs acc st u raw col v f) raw)) ∧
    st' = assignCol st raw col v := by
  revert h
  unfold updCol
  -- case1: a row with the new key exists; case2: the entry is added; case3: the insertion fails
  fun_cases addMixed bs acc st u raw col v f with
  | case1 pos hn => intro h; cases h
  | case3 hn hs' r hok => intro h; cases h
  | case2 hn hs' r hok =>
    intro h
    injection h with h1 h2
    exact ⟨hn, hok, rfl, h1.symm, h2.symm⟩

/-- `Add(hashMixedKey)` took its "absent" branch: no row has the new key -/
theorem no_row_with_new_key (bs : BSpec) (acc : Table.Acc) (st : Store) (u : UH) (raw col v : Nat) (hI : IdxInv bs acc st u) (hnone : findMixed bs acc st u raw col v = none)
    (r2 : Row) (hr2 : r2 ∈ st) (hk : keyEq u.cols (mixVals (valsOf st raw) col v) r2.vals = true) : False := by
  obtain ⟨it2, hit2, hv2⟩ := hI.entry_of_row r2.id (List.mem_map.mpr ⟨r2, hr2, rfl⟩)
  have hvals : valsOf st it2.val = r2.vals := by rw [hv2]; exact Table.valsOf_mem hI.ids hr2
  have hh : u.hs it2.key = hashVals acc u.cols (mixVals (valsOf st raw) col v) := by
    rw [hI.stored it2 hit2, hvals]
    exact (Momo.Table.hashVals_congr acc u.cols _ _ hk).symm
  obtain ⟨pos, hpos, _⟩ := findTableP_unique bs u.hs u.t hI.tinv it2 hit2
    (fun id => keyEq u.cols (mixVals (valsOf st raw) col v) (valsOf st id)) (by simp only [hvals]; exact hk)
    (fun it hit he => by
      apply hI.uniq_ids it it2 hit hit2
      rw [hvals]
      exact Momo.Table.keyEq_trans (by rw [Momo.Table.keyEq_symm]; exact he) hk)
  unfold findMixed at hnone
  rw [hh] at hpos
  rw [hpos] at hnone; cases hnone

/-- the index between `Add(hashMixedKey)` and `PrepareRemove`: the raw has its old entry `itO` and the new entry `⟨u.next, raw⟩`,
    inserted under `hNew`; `hs1`, `t1` are the insertion hash codes and the hash set at that moment. Nothing below depends on
    what they are (`mid_of_add` puts `hs1Of`, `t1Of` in). -/
structure Mid (bs : BSpec) (acc : Table.Acc) (st : Store) (u : UH) (raw hNew : Nat) (hs1 : Nat → Nat) (t1 : Table) (itO : Item) : Prop where
  inv : IdxInv bs acc st u
  tinv : TableInv bs.sp hs1 t1
  perm : (HT.traverse t1).Perm (⟨u.next, raw⟩ :: HT.traverse u.t)
  old : ∀ it ∈ HT.traverse u.t, hs1 it.key = u.hs it.key
  new : hs1 u.next = hNew
  memO : itO ∈ HT.traverse u.t
  valO : itO.val = raw

theorem mid_of_add (bs : BSpec) (acc : Table.Acc) (st : Store) (u : UH) (raw col v : Nat) (f : Faults)
    (ok : SpecOK bs.sp) (hF : FaultsOK bs.sp f) (hI : IdxInv bs acc st u)
    (hok : (add bs.sp (hs1Of acc st u raw col v) u.t ⟨u.next, raw⟩ f).2 = .ok)
    (itO : Item) (hO : itO ∈ HT.traverse u.t) (hOv : itO.val = raw) :
    Mid bs acc st u raw (hNewOf acc st u raw col v) (hs1Of acc st u raw col v) (t1Of bs acc st u raw col v f) itO := by
  have hag : ∀ it ∈ HT.traverse u.t, hs1Of acc st u raw col v it.key = u.hs it.key := fun it hit => by
    unfold hs1Of; simp [Nat.ne_of_lt (hI.fresh it hit)]
  have hT := tableInv_congr bs.sp u.hs (hs1Of acc st u raw col v) u.t hI.tinv hag
  obtain ⟨hT1, hperm⟩ := add_ok bs.sp _ ok u.t ⟨u.next, raw⟩ f hT hF (fun x hx => Nat.ne_of_lt (hI.fresh x hx)) hok
  exact ⟨hI, hT1, hperm, hag, by unfold hs1Of hNewOf; simp, hO, hOv⟩

namespace Mid
variable {bs : BSpec} {acc : Table.Acc} {st : Store} {u : UH} {raw hNew : Nat} {hs1 : Nat → Nat} {t1 : Table} {itO : Item}
  (M : Mid bs acc st u raw hNew hs1 t1 itO)
include M

theorem lt : itO.key < u.next := M.inv.fresh itO M.memO

theorem hsO : hs1 itO.key = hOldOf acc st u raw := by
  rw [M.old _ M.memO, M.inv.stored _ M.memO, M.valO]; rfl

theorem uniqO (x : Item) (hx : x ∈ HT.traverse u.t) (hxv : x.val = raw) : x = itO :=
  ListFacts.key_inj (·.val) M.inv.vals_nodup hx M.memO (by rw [hxv, M.valO])

/-- which entries pass the test of `PrepareRemove(raw)`: the raw's old entry, and the new one when the short hashes agree -/
theorem remPred_eq (it : Item) (hit : it ∈ HT.traverse t1) :
    remPred bs acc st u raw hs1 it =
      (it.key == itO.key || ((bs.short hNew == bs.short (hOldOf acc st u raw)) && it.key == u.next)) := by
  have hI := M.inv
  have hOlt := M.lt
  rcases List.mem_cons.mp (M.perm.mem_iff.mp hit) with rfl | hin
  · have h1 : ((u.next : Nat) == itO.key) = false := by simp; omega
    unfold remPred entPred
    simp [h1, M.new, Momo.Table.keyEq_refl]
  · have hlt := hI.fresh it hin
    have hne : (it.key == u.next) = false := by simp; omega
    unfold remPred entPred
    rw [M.old it hin, hne]
    by_cases he : it = itO
    · subst he
      rw [hI.stored it hin, M.valO]
      simp [hOldOf, Momo.Table.keyEq_refl]
    · have hk : (it.key == itO.key) = false := Bool.eq_false_iff.mpr fun h =>
        he (ListFacts.key_inj (·.key) hI.tinv.core.nodup hin M.memO (beq_iff_eq.mp h))
      have hq : keyEq u.cols (valsOf st raw) (valsOf st it.val) = false := Bool.eq_false_iff.mpr fun h =>
        he (hI.uniq_ids itO it M.memO hin (M.valO.symm ▸ h)).symm
      simp [hk, hq]

/-- `PrepareRemove(raw)` returns the old entry, or, when the short hashes agree, the new one; and the new one exactly under the
    layout condition `f9cond` -/
theorem findRaw_old_or_new : ∃ pos it,
    findTableP bs t1 (hOldOf acc st u raw) (remPred bs acc st u raw hs1) = some pos ∧
    itemAt bs.sp t1 pos = some it ∧
    (it = itO ∨ ((bs.short hNew == bs.short (hOldOf acc st u raw)) = true ∧ it = ⟨u.next, raw⟩)) ∧
    (it.key = u.next ↔ f9cond bs t1 (hOldOf acc st u raw) hNew itO.key u.next = true) := by
  have hnd := M.tinv.core.nodup
  have hO1 : itO ∈ HT.traverse t1 := M.perm.mem_iff.mpr (List.mem_cons_of_mem _ M.memO)
  have hN1 : (⟨u.next, raw⟩ : Item) ∈ HT.traverse t1 := M.perm.mem_iff.mpr List.mem_cons_self
  -- the old entry passes and is examined: the lookup succeeds
  have hpO : remPred bs acc st u raw hs1 itO = true := by rw [M.remPred_eq itO hO1]; simp
  obtain ⟨pos, it, hfp, hi, hm, hp⟩ := M.hsO ▸ findTableP_passing bs hs1 t1 M.tinv itO hO1 (remPred bs acc st u raw hs1) hpO
  have first := fun x => findTableP_first bs t1 hnd _ _ pos it x hfp hi
  rw [M.remPred_eq it hm] at hp
  refine ⟨pos, it, hfp, hi, ?_⟩
  unfold f9cond
  rcases Bool.or_eq_true _ _ |>.mp hp with h1 | h2
  · -- the old entry was returned: if the new one passes too, it comes later
    obtain rfl := ListFacts.key_inj (·.key) hnd hm hO1 (beq_iff_eq.mp h1)
    refine ⟨Or.inl rfl, fun hk => absurd hk (Nat.ne_of_lt M.lt), fun h => ?_⟩
    obtain ⟨hs, hb⟩ := Bool.and_eq_true _ _ |>.mp h
    rw [before_asymm _ _ (first ⟨u.next, raw⟩ hN1 (by rw [M.remPred_eq _ hN1, hs]; simp) (Nat.ne_of_gt M.lt))] at hb
    cases hb
  · -- the new entry was returned: it is examined before the old one, which passes too
    obtain ⟨hs, hk⟩ := Bool.and_eq_true _ _ |>.mp h2
    obtain rfl := ListFacts.key_inj (·.key) hnd hm hN1 (beq_iff_eq.mp hk)
    refine ⟨Or.inr ⟨hs, rfl⟩, fun _ => ?_, fun _ => rfl⟩
    rw [hs, first itO hO1 hpO (Nat.ne_of_lt M.lt)]; rfl

end Mid

/-- what a completed single-column update did: `it` is the entry `PrepareRemove` settled on and `AcceptRemove` removed -/
structure Done (bs : BSpec) (acc : Table.Acc) (st : Store) (u : UH) (raw col v : Nat) (f : Faults) (u' : UH) (st' : Store)
    (itO it : Item) : Prop where
  mid : Mid bs acc st u raw (hNewOf acc st u raw col v) (hs1Of acc st u raw col v) (t1Of bs acc st u raw col v f) itO
  nokey : ∀ r ∈ st, keyEq u.cols (mixVals (valsOf st raw) col v) r.vals = true → False
  which : it = itO ∨ ((bs.short (hNewOf acc st u raw col v) == bs.short (hOldOf acc st u raw)) = true ∧ it = ⟨u.next, raw⟩)
  target : remTarget bs acc st u raw col v f = some it.key
  new_iff : it.key = u.next ↔
    f9cond bs (t1Of bs acc st u raw col v f) (hOldOf acc st u raw) (hNewOf acc st u raw col v) itO.key u.next = true
  st_eq : st' = assignCol st raw col v
  cols : u'.cols = u.cols
  hs : u'.hs = hs1Of acc st u raw col v
  next : u'.next = u.next + 1
  tinv : TableInv bs.sp (hs1Of acc st u raw col v) u'.t
  perm : (it :: HT.traverse u'.t).Perm (⟨u.next, raw⟩ :: HT.traverse u.t)

theorem updCol_out (bs : BSpec) (acc : Table.Acc) (st : Store) (u : UH) (raw col v : Nat) (f : Faults)
    (ok : SpecOK bs.sp) (hF : FaultsOK bs.sp f) (hI : IdxInv bs acc st u)
    (u' : UH) (st' : Store) (hdone : updCol bs acc st u raw col v f = .done u' st')
    (itO : Item) (hO : itO ∈ HT.traverse u.t) (hOv : itO.val = raw) :
    ∃ it, Done bs acc st u raw col v f u' st' itO it := by
  obtain ⟨hnone, hok, hu1, hu', hst'⟩ := updCol_eq_done bs acc st u raw col v f u' st' hdone
  have M := mid_of_add bs acc st u raw col v f ok hF hI hok itO hO hOv
  obtain ⟨⟨gi, b, j⟩, it, hfp, hi, hwhich, hnew⟩ := M.findRaw_old_or_new
  have hfr : findRaw bs acc st (u1Of bs acc st u raw col v f) raw = some (gi, b, j) := (findRaw_u1Of bs acc st u raw col v f).trans hfp
  have hu : u'.cols = u.cols ∧ u'.t = removePos bs.sp (t1Of bs acc st u raw col v f) gi b j ∧
      u'.hs = hs1Of acc st u raw col v ∧ u'.next = u.next + 1 := by
    rw [hu']; unfold prepareRemove acceptAdd acceptRemove; simp only [hfr]; exact ⟨rfl, rfl, rfl, rfl⟩
  obtain ⟨g, hg, hj⟩ := itemAt_some _ _ (gi, b, j) it hi
  obtain ⟨hT2, hperm2⟩ := removePos_spec bs.sp _ _ M.tinv gi b j g it hg hj
  rw [← hu.2.1] at hT2 hperm2
  have hrem : remTarget bs acc st u raw col v f = some it.key := by
    unfold remTarget
    rw [hu1, hfr]
    show entAt bs (u1Of bs acc st u raw col v f) (gi, b, j) = some it.key
    unfold entAt
    rw [show (u1Of bs acc st u raw col v f).t = t1Of bs acc st u raw col v f from rfl, hi]; rfl
  exact ⟨it, M, no_row_with_new_key bs acc st u raw col v hI hnone, hwhich, hrem, hnew, hst',
    hu.1, hu.2.2.1, hu.2.2.2, hT2, hperm2.trans M.perm⟩

namespace Done
variable {bs : BSpec} {acc : Table.Acc} {st : Store} {u : UH} {raw col v : Nat} {f : Faults} {u' : UH} {st' : Store} {itO it : Item}
  (D : Done bs acc st u raw col v f u' st' itO it)
include D

/-- the entry removed is the new one exactly under the layout condition -/
theorem remTarget_new_iff : remTarget bs acc st u raw col v f = some u.next ↔
    f9cond bs (t1Of bs acc st u raw col v f) (hOldOf acc st u raw) (hNewOf acc st u raw col v) itO.key u.next = true := by
  rw [D.target, ← D.new_iff]
  exact ⟨fun h => Option.some.inj h, fun h => congrArg some h⟩

theorem mem_new_or_old (x : Item) (hx : x ∈ HT.traverse u'.t) : x = ⟨u.next, raw⟩ ∨ x ∈ HT.traverse u.t :=
  List.mem_cons.mp (D.perm.mem_iff.mp (List.mem_cons_of_mem _ hx))

/-- the updated rows still have distinct keys -/
theorem uniq_ids (x y : Item) (hx : x ∈ HT.traverse u.t) (hy : y ∈ HT.traverse u.t)
    (h : keyEq u.cols (valsOf (assignCol st raw col v) x.val) (valsOf (assignCol st raw col v) y.val) = true) : x = y := by
  have M := D.mid
  have nokey : ∀ z ∈ HT.traverse u.t, keyEq u.cols (mixVals (valsOf st raw) col v) (valsOf st z.val) = true → False := fun z hz hk => by
    obtain ⟨r, hr, hrv⟩ := M.inv.row_of_entry z hz
    rw [← hrv, Table.valsOf_mem M.inv.ids hr] at hk
    exact D.nokey r hr hk
  rw [valsOf_assignCol, valsOf_assignCol] at h
  by_cases hxr : x.val = raw <;> by_cases hyr : y.val = raw
  · rw [M.uniqO x hx hxr, M.uniqO y hy hyr]
  · rw [if_pos hxr, if_neg hyr] at h; exact (nokey y hy h).elim
  · rw [if_neg hxr, if_pos hyr, Momo.Table.keyEq_symm] at h; exact (nokey x hx h).elim
  · rw [if_neg hxr, if_neg hyr] at h; exact M.inv.uniq_ids x y hx hy h

/-- **what the update leaves**: the index is consistent with the updated rows iff every remaining entry of the raw was
    inserted under the NEW hash code -/
theorem inv_iff_hash : IdxInv bs acc st' u' ↔
    (∀ x ∈ HT.traverse u'.t, x.val = raw → hs1Of acc st u raw col v x.key = hNewOf acc st u raw col v) := by
  have M := D.mid
  have hI := M.inv
  rw [D.st_eq]
  constructor
  · intro hI2 x hx hv'
    have := hI2.stored x hx
    rw [D.hs, D.cols, valsOf_assignCol, if_pos hv'] at this
    exact this
  · intro hcond
    refine ⟨by rw [D.hs]; exact D.tinv, ?_, ?_, by rw [assignCol_ids]; exact hI.ids, ?_, ?_⟩
    · intro x hx
      rw [D.next]
      rcases D.mem_new_or_old x hx with rfl | hin
      · exact Nat.lt_succ_self _
      · exact Nat.lt_succ_of_lt (hI.fresh x hin)
    · rw [assignCol_ids]
      have hv : it.val = raw := by
        rcases D.which with h | ⟨_, h⟩ <;> rw [h]
        exact M.valO
      have := D.perm.map (·.val)
      simp only [List.map_cons, hv] at this
      exact (List.Perm.cons_inv this).trans hI.raws
    · intro x hx
      by_cases hv' : x.val = raw
      · rw [D.hs, D.cols, valsOf_assignCol, if_pos hv']; exact hcond x hx hv'
      · rcases D.mem_new_or_old x hx with rfl | hin
        · exact absurd rfl hv'
        · rw [D.hs, D.cols, valsOf_assignCol, if_neg hv', M.old x hin]; exact hI.stored x hin
    · intro r1 h1 r2 h2 hk
      have hids : ((assignCol st raw col v).map (·.id)).Nodup := by rw [assignCol_ids]; exact hI.ids
      obtain ⟨x, hx, hxv⟩ := hI.entry_of_row r1.id (assignCol_ids st raw col v ▸ List.mem_map_of_mem h1)
      obtain ⟨y, hy, hyv⟩ := hI.entry_of_row r2.id (assignCol_ids st raw col v ▸ List.mem_map_of_mem h2)
      rw [D.cols, ← Table.valsOf_mem hids h1, ← Table.valsOf_mem hids h2, ← hxv, ← hyv] at hk
      rw [← hxv, ← hyv, D.uniq_ids x y hx hy hk]

/-- the index is consistent with the updated rows iff the old entry was removed, or the hash code did not change -/
theorem inv_iff : IdxInv bs acc st' u' ↔
    (remTarget bs acc st u raw col v f ≠ some u.next ∨ hOldOf acc st u raw = hNewOf acc st u raw col v) := by
  have M := D.mid
  have hperm2 := D.perm
  rw [D.inv_iff_hash, D.target]
  have hnd2 : (it :: HT.traverse u'.t).Nodup :=
    hperm2.nodup_iff.mpr (M.perm.nodup_iff.mp (List.Nodup.of_map _ M.tinv.core.nodup))
  rcases D.which with rfl | ⟨_, rfl⟩
  · -- the old entry was removed: only the new entry holds the raw
    constructor
    · intro _; left; intro h; exact absurd (Option.some.inj h) (Nat.ne_of_lt M.lt)
    · intro _ x hx hxv
      rcases D.mem_new_or_old x hx with rfl | hin
      · exact M.new
      · rw [M.uniqO x hin hxv] at hx
        exact absurd hx (List.nodup_cons.mp hnd2).1
  · -- the new entry was removed: the old one stays, under the old hash code
    have hp3 : (HT.traverse u'.t).Perm (HT.traverse u.t) := List.Perm.cons_inv hperm2
    constructor
    · intro hcond; right
      rw [← M.hsO]; exact hcond itO (hp3.mem_iff.mpr M.memO) M.valO
    · rintro (h | h)
      · exact absurd rfl h
      · intro x hx hxv
        rw [M.uniqO x (hp3.mem_iff.mp hx) hxv, M.hsO]; exact h

/-- **the stale state**, when `PrepareRemove` settled on the new entry: the entries are those from before the update, each under
    the hash code it had; every other row is still found at its own entry; the updated row is found under its new key only if its
    old entry happens to pass for it -/
theorem stale (hf9 : remTarget bs acc st u raw col v f = some u.next) :
    (HT.traverse u'.t).Perm (HT.traverse u.t) ∧
    (∀ x ∈ HT.traverse u'.t, u'.hs x.key = u.hs x.key) ∧
    (∀ x ∈ HT.traverse u'.t, x.val = raw → u'.hs x.key = hOldOf acc st u raw) ∧
    (∀ id ∈ st.map (·.id), id ≠ raw →
      ∃ pos x, findRaw bs acc st' u' id = some pos ∧ itemAt bs.sp u'.t pos = some x ∧ x.val = id) ∧
    ((findRaw bs acc st' u' raw).isSome ↔
      ((bs.short (hOldOf acc st u raw) == bs.short (hNewOf acc st u raw col v)) = true ∧
        visitRank bs u'.t (hNewOf acc st u raw col v) itO.key ≠ none)) := by
  have M := D.mid
  have hI := M.inv
  have hitN : it = ⟨u.next, raw⟩ := by
    have hk : it.key = u.next := Option.some.inj (D.target.symm.trans hf9)
    rcases D.which with h | ⟨_, h⟩
    · exact absurd (h ▸ hk) (Nat.ne_of_lt M.lt)
    · exact h
  subst hitN
  have hst := D.st_eq
  subst hst
  have hT2 := D.tinv
  have hp3 : (HT.traverse u'.t).Perm (HT.traverse u.t) := List.Perm.cons_inv D.perm
  have hvraw : valsOf (assignCol st raw col v) raw = mixVals (valsOf st raw) col v := by rw [valsOf_assignCol, if_pos rfl]
  have hvoth : ∀ id, id ≠ raw → valsOf (assignCol st raw col v) id = valsOf st id := fun id hne => by
    rw [valsOf_assignCol, if_neg hne]
  refine ⟨hp3, fun x hx => by rw [D.hs]; exact M.old x (hp3.mem_iff.mp hx),
    fun x hx hv => by rw [D.hs, M.uniqO x (hp3.mem_iff.mp hx) hv]; exact M.hsO, ?_, ?_⟩
  · intro id hid hne
    obtain ⟨it0, h0, rfl⟩ := hI.entry_of_row id hid
    obtain ⟨pos, hpos, hat⟩ := findRaw_unique bs acc (assignCol st raw col v) u' (D.hs ▸ hT2) it0 (hp3.mem_iff.mpr h0)
      (by rw [D.hs, D.cols, M.old it0 h0, hI.stored it0 h0, hvoth _ hne])
      (fun x hx he => (D.uniq_ids it0 x h0 (hp3.mem_iff.mp hx) (D.cols ▸ he)).symm)
    exact ⟨pos, it0, hpos, hat, rfl⟩
  · have hfr : findRaw bs acc (assignCol st raw col v) u' raw =
        findTableP bs u'.t (hNewOf acc st u raw col v) (entPred bs (hs1Of acc st u raw col v) (hNewOf acc st u raw col v)
          (fun id => keyEq u.cols (mixVals (valsOf st raw) col v) (valsOf (assignCol st raw col v) id))) := by
      unfold findRaw; rw [D.hs, D.cols, hvraw]; rfl
    rw [hfr, findTableP_isSome bs u'.t hT2.core.nodup hT2.core.count]
    constructor
    · -- an entry that passes for the new key holds the raw itself: it is the old entry
      rintro ⟨x, hx, hp, hr⟩
      obtain ⟨hsh, hk⟩ := Bool.and_eq_true _ _ |>.mp hp
      replace hk : keyEq u.cols (valsOf (assignCol st raw col v) itO.val) (valsOf (assignCol st raw col v) x.val) = true := by
        rw [M.valO, hvraw]; exact hk
      rw [← D.uniq_ids itO x M.memO (hp3.mem_iff.mp hx) hk] at hsh hr
      exact ⟨by rw [← M.hsO]; exact hsh, hr⟩
    · rintro ⟨hsh, hr⟩
      refine ⟨itO, hp3.mem_iff.mpr M.memO, ?_, hr⟩
      unfold entPred
      rw [M.hsO, hsh, M.valO]
      show (true && keyEq u.cols _ (valsOf (assignCol st raw col v) raw)) = true
      rw [hvraw, Momo.Table.keyEq_refl]; rfl

/-- where the layout condition `f9cond` fails the update leaves a consistent index (`C07_updcol_safe_when_paths_disjoint` lists the layouts) -/
theorem inv_of_f9cond_false
    (hsafe : f9cond bs (t1Of bs acc st u raw col v f) (hOldOf acc st u raw) (hNewOf acc st u raw col v) itO.key u.next = false) :
    IdxInv bs acc st' u' := by
  refine D.inv_iff.mpr (Or.inl fun h => ?_)
  rw [D.remTarget_new_iff.mp h] at hsafe
  cases hsafe

end Done

end Momo.TIdx
