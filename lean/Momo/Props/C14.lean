import Momo.Proof.ValWrap
/-!
# C14 — Containers are regular values: deep copies, emptying moves, exact swaps

The property theorems, and the two `Prop`s that state what is left to run-time evidence. Model: `Momo/Model/Val.lean`
(a heap of blocks that remember the allocating memory manager; container objects = manager + handles; the special member
functions of the native containers and of the stdish wrappers as sequences of primitive steps).

Statement (properties.jsonl): for every momo container and stdish wrapper, a copy holds equal contents and
is independent of the original (mutating or destroying either never affects the other); a move leaves the
target with exactly the former contents without copy-constructing any movable element and leaves the source
empty, destructible, clearable, swappable and assignable (and fully usable again once assigned; array-like
containers are reusable immediately); self-assignment changes nothing and swap exchanges contents exactly.
With stateful memory managers or allocators, each container keeps allocating and freeing through the manager
dictated by the std propagation rules, and a move between unequal managers transfers the elements one by one.

Reading guide. `w.objs i = some c`: the program variable `i` is a live container object `c`; `contents H c`:
what iteration over `c` yields in heap `H`; `c.owned`: the heap blocks `c` points to; `WF w`: the ownership invariant,
spelled out at `C14_history`.
`cfg : Cfg` is universally quantified everywhere: all container kinds (`Kind`: internal capacity, crew pointer,
constructor blocks, trivially relocatable / movable / copy-only elements, Array-style or swap-style assignment,
copy layout) × the manager's copy constructor `sel` × the allocator traits POCCA / POCMA / POCS / is_empty.
A hypothesis `step cfg w op = some (w1, evs)` says that the operation is defined in `w` (slots dead / alive as
the operation needs them); definedness itself is the subject of the `C14_null_*` theorems.
`RebuildOk cfg.k`: the block layout chosen by the copy constructor keeps the elements and their order — proved
for the layouts of all driven kinds (`C14_rebuild_layouts`).
-/
namespace Momo.Val

/-- the statement of `C14_copy_ctor` (below) for `C b(a, MemManager(m))` and the wrappers' `W b(a, alloc)`: the copy allocates
through `m` -/
theorem C14_copy_ctor_with_manager (cfg : Cfg) (hrb : RebuildOk cfg.k) {w w1 : World} {evs : List Ev} (wf : WF w)
    (b a : Nat) (m : Mgr) (h : step cfg w (.copyCtorM b a m) = some (w1, evs)) :
    ∃ s t, w.objs a = some s ∧ w.objs b = none ∧ w1.objs a = some s ∧ w1.objs b = some t ∧
      contents w1.heap t = contents w.heap s ∧ contents w1.heap s = contents w.heap s ∧
      t.mgr = some m ∧ usable cfg.k t = true ∧
      (∀ x c, x ≠ b → w1.objs x = some c → ∀ h ∈ t.owned, h ∉ c.owned) ∧
      (∀ x, x ≠ b → w1.objs x = w.objs x) ∧
      (∀ x c, x ≠ b → w.objs x = some c → contents w1.heap c = contents w.heap c) ∧ WF w1 ∧
      (∀ e, Ev.move e ∉ evs) ∧ (∀ m' h', Ev.free m' h' ∉ evs) ∧ (∀ m' h', Ev.alloc m' h' ∈ evs → m' = m) := by
  simp only [step, expand, run_single] at h
  obtain ⟨s, _, hs, _⟩ := Exec.of_exec h
  obtain ⟨wf1, hb, hab, hoth, ⟨t, ht, htm, hta, hct, hcs, hco⟩, hmv, hfr, hal⟩ := copy_step_spec cfg.k hrb wf b a m s hs h
  exact ⟨s, t, hs, hb, (hoth a hab).trans hs, ht, hct, hcs, htm, by simp [usable, htm, hta],
    fun x c hx hc hh hm => wf1.disj b x t c (fun e => hx e.symm) ht hc hh hm, hoth,
    fun x c hx hc => hco c x hx hc, wf1, hmv, hfr, hal⟩

/-- **C14 "a copy holds equal contents and is independent of the original"**, copy constructor `C b(a)`:
the copy `t` iterates over the same elements as the source `s`, is a fully usable object and **shares no block with any
other live object**; it holds the manager that the manager's copy constructor selects (`cfg.sel`), and every block of `t`
was obtained from it; nothing is freed, no element is moved; `s` and every third object keep handles and contents. -/
theorem C14_copy_ctor (cfg : Cfg) (hrb : RebuildOk cfg.k) {w w1 : World} {evs : List Ev} (wf : WF w) (b a : Nat)
    (h : step cfg w (.copyCtor b a) = some (w1, evs)) :
    ∃ s t m, w.objs a = some s ∧ s.mgr = some m ∧ w.objs b = none ∧ w1.objs a = some s ∧ w1.objs b = some t ∧
      contents w1.heap t = contents w.heap s ∧ contents w1.heap s = contents w.heap s ∧
      t.mgr = some (cfg.sel m) ∧ usable cfg.k t = true ∧
      (∀ x c, x ≠ b → w1.objs x = some c → ∀ h ∈ t.owned, h ∉ c.owned) ∧
      (∀ x, x ≠ b → w1.objs x = w.objs x) ∧
      (∀ x c, x ≠ b → w.objs x = some c → contents w1.heap c = contents w.heap c) ∧ WF w1 ∧
      (∀ e, Ev.move e ∉ evs) ∧ (∀ m' h', Ev.free m' h' ∉ evs) ∧ (∀ m' h', Ev.alloc m' h' ∈ evs → m' = cfg.sel m) := by
  cases ha : allocOf w a with
  | none => simp only [step, expand, ha] at h; cases h
  | some m =>
    -- `C b(a)` runs the same step as `C b(a, MemManager(sel m))`
    have h' : step cfg w (.copyCtorM b a (cfg.sel m)) = some (w1, evs) := by
      simpa only [step, expand, ha] using h
    obtain ⟨s, t, hs, rest⟩ := C14_copy_ctor_with_manager cfg hrb wf b a (cfg.sel m) h'
    obtain ⟨s0, hs0, hm0⟩ := allocOf_some ha
    cases hs0.symm.trans hs
    exact ⟨s, t, m, hs, hm0, rest⟩

/-- **C14 "mutating or destroying either never affects the other"**, general form (frame property): in a
well-formed world, an object `x` that a history of operations never names (neither as an operand nor as the slot
of a temporary) keeps its handles, the contents of every one of its blocks, and hence its contents — whatever the
operations do to all other objects (mutation with any resulting layout, Clear, assignment, swap, destruction). -/
theorem C14_independent (cfg : Cfg) {w w' : World} (wf : WF w) (ops : List Op) (h : runOps cfg w ops = some w')
    (x : Nat) (c : Cont) (hx : ∀ op ∈ ops, x ∉ op.writes cfg) (hc : w.objs x = some c) :
    w'.objs x = some c ∧ contents w'.heap c = contents w.heap c ∧ layout w'.heap c = layout w.heap c :=
  untouched_runOps cfg wf ops h x c hx hc

/-- **copy, then anything**: after `C b(a)`, every history that does not name `a` leaves `a` with its original
contents, and every history that does not name `b` leaves `b` with the original contents of `a`. -/
theorem C14_copy_independent (cfg : Cfg) (hrb : RebuildOk cfg.k) {w w1 : World} {evs : List Ev} (wf : WF w) (b a : Nat)
    (h : step cfg w (.copyCtor b a) = some (w1, evs)) :
    ∃ s t, w.objs a = some s ∧ w1.objs a = some s ∧ w1.objs b = some t ∧
      (∀ ops w2, runOps cfg w1 ops = some w2 → (∀ op ∈ ops, a ∉ op.writes cfg) →
        w2.objs a = some s ∧ contents w2.heap s = contents w.heap s) ∧
      (∀ ops w2, runOps cfg w1 ops = some w2 → (∀ op ∈ ops, b ∉ op.writes cfg) →
        w2.objs b = some t ∧ contents w2.heap t = contents w.heap s) := by
  obtain ⟨s, t, m, hs, _, _, h1a, h1b, hct, hcs, _, _, _, _, _, wf1, _⟩ := C14_copy_ctor cfg hrb wf b a h
  refine ⟨s, t, hs, h1a, h1b, ?_, ?_⟩
  · intro ops w2 hr hn
    obtain ⟨e, c2, _⟩ := untouched_runOps cfg wf1 ops hr a s hn h1a
    exact ⟨e, c2.trans hcs⟩
  · intro ops w2 hr hn
    obtain ⟨e, c2, _⟩ := untouched_runOps cfg wf1 ops hr b t hn h1b
    exact ⟨e, c2.trans hct⟩

/-- **"destroying either never affects the other"**: after `C b(a)` both destructors are defined; `~a` leaves `b`
holding the original contents, `~b` leaves `a` holding them; the world stays well-formed. -/
theorem C14_copy_destroy_either (cfg : Cfg) (hrb : RebuildOk cfg.k) {w w1 : World} {evs : List Ev} (wf : WF w) (b a : Nat)
    (h : step cfg w (.copyCtor b a) = some (w1, evs)) :
    ∃ s t, w.objs a = some s ∧ w1.objs a = some s ∧ w1.objs b = some t ∧
      (∃ w2 e2, step cfg w1 (.destroy a) = some (w2, e2) ∧ w2.objs a = none ∧ w2.objs b = some t ∧
        contents w2.heap t = contents w.heap s ∧ WF w2) ∧
      (∃ w2 e2, step cfg w1 (.destroy b) = some (w2, e2) ∧ w2.objs b = none ∧ w2.objs a = some s ∧
        contents w2.heap s = contents w.heap s ∧ WF w2) := by
  obtain ⟨s, t, m, hs, hsm, hb, h1a, h1b, hct, hcs, htm, _, _, _, _, wf1, _⟩ := C14_copy_ctor cfg hrb wf b a h
  have hab := ne_of_live_dead hs hb
  obtain ⟨w2, e2, hr, hd, e, c2, wf2⟩ := destroy_other cfg wf1 a b hab s t m h1a hsm h1b
  obtain ⟨w3, e3, hr', hd', e', c3, wf3⟩ := destroy_other cfg wf1 b a (Ne.symm hab) t s _ h1b htm h1a
  exact ⟨s, t, hs, h1a, h1b, ⟨w2, e2, hr, hd, e, c2.trans hct, wf2⟩, ⟨w3, e3, hr', hd', e', c3.trans hcs, wf3⟩⟩

/-- **`i = j`, copy assignment of the native containers** (`*this = Array(array)` / `C(x).Swap(*this)`): afterwards
`i` holds a usable object with contents equal to `j`'s, allocating through a manager copied from `j`'s; `j` is
unchanged; the result is well-formed (so `i` and `j` share no block). -/
theorem C14_copy_assign (cfg : Cfg) (hrb : RebuildOk cfg.k) {w w1 : World} {evs : List Ev} (wf : WF w)
    (i j : Nat) (hij : i ≠ j) (ci cj : Cont) (hi : w.objs i = some ci) (hj : w.objs j = some cj)
    (h : step cfg w (.copyAssign i j) = some (w1, evs)) :
    ∃ t, w1.objs i = some t ∧ t.mgr = cj.mgr.map cfg.sel ∧ usable cfg.k t = true ∧
      contents w1.heap t = contents w.heap cj ∧ w1.objs j = some cj ∧ contents w1.heap cj = contents w.heap cj ∧
      (∀ h ∈ t.owned, h ∉ cj.owned) ∧ WF w1 := by
  obtain ⟨t, h1, h2, h3, h4, h5, h6⟩ := copyAssign_spec cfg hrb wf i j hij ci cj hi hj h
  have wf1 := (step_effect cfg wf _ h).wf
  exact ⟨t, h1, h2, h3, h4, h5, h6, fun x hx => wf1.disj i j t cj hij h1 h5 x hx, wf1⟩

/-- **C14 "a move leaves the target with exactly the former contents without copy-constructing any movable
element and leaves the source empty"**, move constructor `C b(std::move(a))`: `b` *is* the former object (same
blocks, same manager, heap untouched, hence the very same contents); `a` is left in the null state; no block is
allocated or freed; only the items of an `Array`'s internal buffer are relocated — for every other state there is no
element event at all. -/
theorem C14_move_ctor_exact (cfg : Cfg) {w w1 : World} {evs : List Ev} (b a : Nat)
    (h : step cfg w (.moveCtor b a) = some (w1, evs)) :
    ∃ s, w.objs a = some s ∧ w.objs b = none ∧ w1.heap = w.heap ∧ w1.objs b = some s ∧
      contents w1.heap s = contents w.heap s ∧
      w1.objs a = some (nullOf cfg.k s) ∧ IsNull (nullOf cfg.k s) ∧ contents w1.heap (nullOf cfg.k s) = [] ∧
      (∀ x, x ≠ a → x ≠ b → w1.objs x = w.objs x) ∧
      (cfg.k.movable = true → ∀ e, Ev.copy e ∉ evs) ∧ (∀ m h, Ev.alloc m h ∉ evs) ∧ (∀ m h, Ev.free m h ∉ evs) ∧
      (s.inl = [] → evs = []) := by
  obtain ⟨s, h1, h2, h3, h4, h5, h6, rfl⟩ := moveCtor_spec cfg b a h
  have q : Quiet cfg.k (fun _ _ => False) _ := .relocs s.inl
  exact ⟨s, h1, h2, h3, h4, by rw [h3], h5, nullOf_isNull _ _, contents_null _ _ _, h6, q.copy, q.alloc, q.free,
    fun hn => by rw [hn]; exact relocEvs_nil _⟩

/-- **move assignment `i = std::move(j)`** (both source forms: `Array::Data::operator=(Data&&)` and
`C(std::move(j)).Swap(*this)`): `i` becomes exactly the former `j`, `j` is left in the null state, the former blocks
of `i` — and only those — are released, through the manager `i` held; nothing is allocated; no movable element is
copy-constructed; nothing else changes. -/
theorem C14_move_assign_exact (cfg : Cfg) {w w1 : World} {evs : List Ev} (wf : WF w) (i j : Nat) (hij : i ≠ j)
    (ci cj : Cont) (hi : w.objs i = some ci) (hj : w.objs j = some cj)
    (h : step cfg w (.moveAssign i j) = some (w1, evs)) :
    w1.objs i = some cj ∧ contents w1.heap cj = contents w.heap cj ∧
      w1.objs j = some (nullOf cfg.k cj) ∧ IsNull (nullOf cfg.k cj) ∧ contents w1.heap (nullOf cfg.k cj) = [] ∧
      (∀ x, x ≠ i → x ≠ j → w1.objs x = w.objs x) ∧
      (cfg.k.movable = true → ∀ e, Ev.copy e ∉ evs) ∧ (∀ m h, Ev.alloc m h ∉ evs) ∧
      (∀ m h, Ev.free m h ∈ evs → ci.mgr = some m ∧ h ∈ ci.owned) ∧ WF w1 := by
  obtain ⟨h1, h2, h3, h4, q⟩ := moveAssign_spec cfg wf i j hij ci cj hi hj h
  exact ⟨h1, h3, h2, nullOf_isNull _ _, contents_null _ _ _, h4, q.copy, q.alloc, q.free, (step_effect cfg wf _ h).wf⟩

/-- **"leaves the source … destructible"**: the destructor of an object in the null state is defined and does
nothing but end the object (no block touched, no event). -/
theorem C14_null_destroy (cfg : Cfg) (w : World) (i : Nat) (c : Cont) (hi : w.objs i = some c) (hn : IsNull c) :
    step cfg w (.destroy i) = some (⟨w.heap, upd w.objs i none⟩, []) := by
  simp only [step, expand, run_single]
  exact exec_destroy_null cfg.k w i c hi hn

/-- **"… clearable"**: `Clear` of an object in the null state is defined (for every variant `keep`), changes
nothing and leaves it in the null state (TreeSet / DataTable after repairs 7283f61, b5e50c3). -/
theorem C14_null_clear (cfg : Cfg) (w : World) (i keep : Nat) (c : Cont) (hi : w.objs i = some c) (hn : IsNull c) :
    ∃ w1, step cfg w (.clear i keep) = some (w1, []) ∧ w1.heap = w.heap ∧ (∀ x, x ≠ i → w1.objs x = w.objs x) ∧
      ∃ c', w1.objs i = some c' ∧ IsNull c' ∧ c'.mgr = c.mgr := by
  simp only [step, expand, run_single]
  cases hm : c.mgr with
  | none => exact ⟨w, Exec.exec ⟨c, hi, .inl ⟨hm, hn.1, hn.2, rfl, rfl⟩⟩, rfl, fun _ _ => rfl, c, hi, hn, hm⟩
  | some m =>
    have h := Exec.exec (k := cfg.k) (p := .clear i keep) ⟨c, hi, .inr ⟨m, hm, rfl, rfl⟩⟩
    rw [hn.body, hn.contents, destroyEvs_nil] at h
    simp only [List.take_nil, List.drop_nil, List.map_nil, List.append_nil] at h
    refine ⟨_, h, rfl, fun x hx => upd_other _ _ hx, _, upd_same _ _ _, ⟨?_, rfl⟩, hm⟩
    exact (List.append_nil _).trans (List.append_eq_nil_iff.mp hn.1).1

/-- **"swap exchanges contents exactly"** — and **"… swappable"**: for *any* two distinct live objects, in whatever
state (the null state included, on either side), `i.Swap(j)` is defined, exchanges the two objects (handles,
manager, internal items; the heap is untouched, so the contents are exchanged exactly), changes no other object,
allocates and frees nothing and copy-constructs no movable element. -/
theorem C14_swap_exact (cfg : Cfg) (w : World) (i j : Nat) (a b : Cont) (hij : i ≠ j)
    (hi : w.objs i = some a) (hj : w.objs j = some b) (ht : w.objs cfg.t1 = none) :
    ∃ w1 evs, step cfg w (.swap i j) = some (w1, evs) ∧
      w1.heap = w.heap ∧ w1.objs i = some b ∧ w1.objs j = some a ∧
      contents w1.heap b = contents w.heap b ∧ contents w1.heap a = contents w.heap a ∧
      (∀ x, x ≠ i → x ≠ j → w1.objs x = w.objs x) ∧
      (cfg.k.movable = true → ∀ e, Ev.copy e ∉ evs) ∧ (∀ m h, Ev.alloc m h ∉ evs) ∧ (∀ m h, Ev.free m h ∉ evs) := by
  obtain ⟨w1, evs, h0, h1, h2, h3, h4, h5, h6, h7⟩ := swap_exact cfg w i j a b hij hi hj ht
  exact ⟨w1, evs, h0, h1, h2, h3, by rw [h1], by rw [h1], h4, h5, h6, h7⟩

/-- **"… and assignable (and fully usable again once assigned)"**, copy assignment to an object in the null state:
`i = j` is defined for every source `j` that holds a manager, and afterwards `i` is a usable object holding `j`'s
contents; being usable, every mutation of `i` is defined again. -/
theorem C14_null_copy_assign (cfg : Cfg) (hrb : RebuildOk cfg.k) {w : World} (wf : WF w) (i j : Nat) (ci cj : Cont)
    (hij : i ≠ j) (hi : w.objs i = some ci) (hn : IsNull ci) (hj : w.objs j = some cj) (hm : cj.mgr.isSome = true)
    (ht : w.objs cfg.t1 = none) :
    ∃ w1 evs t, step cfg w (.copyAssign i j) = some (w1, evs) ∧ w1.objs i = some t ∧ usable cfg.k t = true ∧
      contents w1.heap t = contents w.heap cj ∧ w1.objs j = some cj ∧ contents w1.heap cj = contents w.heap cj ∧
      ∀ inl cells cap, (step cfg w1 (.mutate i inl cells cap)).isSome = true := by
  obtain ⟨r, hr⟩ := Option.isSome_iff_exists.mp (copyAssign_null_defined cfg w i j hij ci cj hi hn hj hm ht)
  obtain ⟨w1, evs⟩ := r
  obtain ⟨t, h1, _, h3, h4, h5, h6⟩ := copyAssign_spec cfg hrb wf i j hij ci cj hi hj hr
  exact ⟨w1, evs, t, hr, h1, h3, h4, h5, h6, fun inl cells cap => mutate_defined cfg w1 i t h1 h3 inl cells cap⟩

/-- move assignment to an object in the null state: `i = std::move(j)` is defined for every live `j`; `i` becomes the
former `j` — in particular as usable as `j` was. -/
theorem C14_null_move_assign (cfg : Cfg) {w : World} (wf : WF w) (i j : Nat) (ci cj : Cont)
    (hij : i ≠ j) (hi : w.objs i = some ci) (hn : IsNull ci) (hj : w.objs j = some cj) (ht : w.objs cfg.t1 = none) :
    ∃ w1 evs, step cfg w (.moveAssign i j) = some (w1, evs) ∧ w1.objs i = some cj ∧
      contents w1.heap cj = contents w.heap cj ∧ w1.objs j = some (nullOf cfg.k cj) := by
  obtain ⟨r, hr⟩ := Option.isSome_iff_exists.mp (moveAssign_null_defined cfg w i j hij ci cj hi hn hj ht)
  obtain ⟨w1, evs⟩ := r
  obtain ⟨h1, h2, h3, _⟩ := moveAssign_spec cfg wf i j hij ci cj hi hj hr
  exact ⟨w1, evs, hr, h1, h3, h2⟩

/-- **"array-like containers are reusable immediately"**: when the manager lives inside the object and no
constructor block exists (Array, SegmentedArray, containers with a stateless inline crew), the moved-from object is
an ordinary usable empty object: every mutation is defined on it at once. -/
theorem C14_null_reusable_arraylike (cfg : Cfg) (hc : cfg.k.crewPtr = false) (ha : cfg.k.ctorAux = 0)
    {w w1 : World} {evs : List Ev} (b a : Nat) (h : step cfg w (.moveCtor b a) = some (w1, evs))
    (s : Cont) (hs : w.objs a = some s) (hm : s.mgr.isSome = true) :
    w1.objs a = some (nullOf cfg.k s) ∧ usable cfg.k (nullOf cfg.k s) = true ∧
      ∀ inl cells cap, (step cfg w1 (.mutate a inl cells cap)).isSome = true := by
  obtain ⟨s', h1, _, _, _, h5, _⟩ := moveCtor_spec cfg b a h
  rw [hs] at h1; cases h1
  have hu := null_usable_inline cfg.k hc ha s hm
  exact ⟨h5, hu, fun inl cells cap => mutate_defined cfg w1 a _ h5 hu inl cells cap⟩

/-- **C14 "self-assignment changes nothing"**: `x = x` (native and wrapper forms), `x = std::move(x)` (native and
wrapper forms) and `x.Swap(x)` leave the whole world — every object and every block — as it was. -/
theorem C14_self_assign_id (cfg : Cfg) (w : World) (i : Nat) (c : Cont) (hi : w.objs i = some c)
    (ht : w.objs cfg.t1 = none) (lay : Lay) (keep : Nat) :
    step cfg w (.copyAssign i i) = some (w, []) ∧
    (∃ evs, step cfg w (.moveAssign i i) = some (w, evs) ∧ (cfg.k.movable = true → ∀ e, Ev.copy e ∉ evs) ∧
        (∀ m h, Ev.alloc m h ∉ evs) ∧ (∀ m h, Ev.free m h ∉ evs)) ∧
    step cfg w (.wCopyAssign i i) = some (w, []) ∧
    step cfg w (.wMoveAssign i i lay keep) = some (w, []) ∧
    step cfg w (.swap i i) = some (w, []) := by
  have q : Quiet cfg.k (fun _ _ => False) (if cfg.k.arrayStyle then [] else relocEvs cfg.k c.inl) := by
    split
    · exact .nil
    · exact .relocs _
  exact ⟨copyAssign_self cfg w i, ⟨_, moveAssign_self cfg w i c hi ht, q.copy, q.alloc, q.free⟩,
    wCopyAssign_self cfg w i, wMoveAssign_self cfg w i lay keep, swap_self cfg w i c hi⟩

/-- **C14 "each container keeps allocating and freeing through the manager dictated by the std propagation
rules"**, decision table: for every combination of the traits POCCA, POCMA, POCS, `is_empty` and every pair of allocator
identities, the allocator the wrappers end up with and the way they transfer the elements (`steal` / `elementwise`
/ `copyAll`) are those of the standard's allocator-aware container requirements ([container.alloc.reqmts]:
`a = t`, `a = rv`, `X(rv, m)`). Instances of an empty allocator type are all equal (hypothesis `he`). -/
theorem C14_propagation_table (t : Traits) (dst src : Mgr) (he : t.isEmpty = true → dst = src) :
    momoCopyAssign t dst src = stdCopyAssign t dst src ∧
    momoMoveAssign t dst src = stdMoveAssign t dst src ∧
    ∀ a, momoMoveCtorA src a = stdMoveCtorA src a := by
  obtain ⟨pocca, pocma, pocs, isEmpty⟩ := t
  refine ⟨?_, ?_, fun _ => rfl⟩
  · cases isEmpty <;> cases pocca <;> simp_all [momoCopyAssign, stdCopyAssign]
  · cases isEmpty <;> cases pocma <;> simp_all [momoMoveAssign, stdMoveAssign] <;>
      (by_cases hds : dst = src <;> simp [hds, eq_comm])

/-- `MemManagerStd::operator=(MemManagerStd&&)` / `MemManagerProxy::Assign`, all 16 combinations of
(`is_nothrow_move_assignable`, POCMA, POCCA, POCS): the overload selected uses only an allocator operation that the
allocator requirements forbid to throw for these traits, and whatever path is taken the destination afterwards has
the identity of the source manager. -/
theorem C14_manager_assign_table : ∀ nma pocma pocca pocs : Bool,
    pathNoThrow nma pocma pocca pocs (assignPath nma pocma pocca pocs) = true ∧
    ∀ dst src, pathResult dst src (assignPath nma pocma pocca pocs) = src := by
  intro nma pocma pocca pocs
  refine ⟨by revert nma pocma pocca pocs; decide, fun dst src => ?_⟩
  cases assignPath nma pocma pocca pocs <;> rfl

/-- **wrapper copy assignment `i = j`**, every trait combination: `i` afterwards is a usable object with `j`'s
contents whose manager is the one the standard's table names (`j`'s if POCCA, else the one `i` had); `j` is
unchanged; well-formedness of the result says that every block `i` now holds was allocated by that manager. -/
theorem C14_wrapper_copy_assign (cfg : Cfg) (hrb : RebuildOk cfg.k) {w w1 : World} {evs : List Ev} (wf : WF w)
    (i j : Nat) (hij : i ≠ j) (ci cj : Cont) (mi mj : Mgr) (hi : w.objs i = some ci) (hj : w.objs j = some cj)
    (hmi : ci.mgr = some mi) (hmj : cj.mgr = some mj) (he : cfg.isEmpty = true → mi = mj)
    (h : step cfg w (.wCopyAssign i j) = some (w1, evs)) :
    ∃ t, w1.objs i = some t ∧
      t.mgr = some (stdCopyAssign ⟨cfg.pocca, cfg.pocma, cfg.pocs, cfg.isEmpty⟩ mi mj).alloc ∧
      usable cfg.k t = true ∧ contents w1.heap t = contents w.heap cj ∧
      w1.objs j = some cj ∧ contents w1.heap cj = contents w.heap cj ∧
      (∀ h ∈ t.owned, ∃ cell, w1.heap.get h = some cell ∧ some cell.mgr = t.mgr) ∧ WF w1 := by
  obtain ⟨t, a, ha, h1, h2, h3, h4, h5, h6⟩ := wCopyAssign_spec cfg hrb wf i j hij ci cj hi hj h
  have wf1 := (step_effect cfg wf _ h).wf
  have hta : a = (stdCopyAssign ⟨cfg.pocca, cfg.pocma, cfg.pocs, cfg.isEmpty⟩ mi mj).alloc := by
    simp only [stdCopyAssign]
    cases hE : cfg.isEmpty <;> cases hP : cfg.pocca <;>
      simp_all [allocOf]
  refine ⟨t, h1, by rw [h2, hta], h3, h4, h5, h6, ?_, wf1⟩
  intro x hx
  obtain ⟨cell, hg, hm⟩ := (wf1.ok i t h1).live x hx
  exact ⟨cell, hg, hm.symm⟩

/-- wrapper copy assignment **to a moved-from wrapper** (null crew pointer) when the allocator propagates on copy
assignment or is empty — the case F15 leaves defined: `i` becomes a usable object with `j`'s allocator and contents. -/
theorem C14_wrapper_copy_assign_to_moved_from (cfg : Cfg) (hrb : RebuildOk cfg.k) {w w1 : World} {evs : List Ev} (wf : WF w)
    (i j : Nat) (hij : i ≠ j) (ci cj : Cont) (mj : Mgr) (hi : w.objs i = some ci) (hj : w.objs j = some cj)
    (hmj : cj.mgr = some mj) (hp : (cfg.isEmpty || cfg.pocca) = true)
    (h : step cfg w (.wCopyAssign i j) = some (w1, evs)) :
    ∃ t, w1.objs i = some t ∧ t.mgr = some mj ∧ usable cfg.k t = true ∧ contents w1.heap t = contents w.heap cj ∧
      w1.objs j = some cj ∧ contents w1.heap cj = contents w.heap cj ∧ WF w1 := by
  obtain ⟨t, a, ha, h1, h2, h3, h4, h5, h6⟩ := wCopyAssign_spec cfg hrb wf i j hij ci cj hi hj h
  have : a = mj := by
    simp only [hp, if_true, allocOf, hj, Option.bind_some, hmj, Option.some.injEq] at ha
    exact ha.symm
  exact ⟨t, h1, by rw [h2, this], h3, h4, h5, h6, (step_effect cfg wf _ h).wf⟩

/-- **wrapper move construction with an equal allocator `W j(std::move(i), alloc)`, `alloc == i.get_allocator()`**:
the nested container is moved — `j` is the former object, no element event for containers without internal buffer. -/
theorem C14_wrapper_move_ctor_equal_steals (cfg : Cfg) {w w1 : World} {evs : List Ev} (j i : Nat) (a : Mgr) (lay : Lay)
    (keep : Nat) (ha : allocOf w i = some a) (h : step cfg w (.wMoveCtorA j i a lay keep) = some (w1, evs)) :
    ∃ s, w.objs i = some s ∧ w1.heap = w.heap ∧ w1.objs j = some s ∧ w1.objs i = some (nullOf cfg.k s) ∧
      (cfg.k.movable = true → ∀ e, Ev.copy e ∉ evs) ∧ (∀ m h, Ev.alloc m h ∉ evs) ∧ (∀ m h, Ev.free m h ∉ evs) := by
  have h' : step cfg w (.moveCtor j i) = some (w1, evs) := by
    simpa [step, expand, createFrom, ha] using h
  obtain ⟨s, h1, _, h3, h4, _, h6, _, _, _, h10, h11, h12, _⟩ := C14_move_ctor_exact cfg j i h'
  exact ⟨s, h1, h3, h4, h6, h10, h11, h12⟩

/-- full statement of the element-wise clause: the target ends up with the source's elements (as a multiset — the
order inside an unordered container is not part of its value) -/
def C14_unequal_move_elementwise : Prop :=
  ∀ (cfg : Cfg) (w w1 : World) (evs : List Ev) (j i : Nat) (a ai : Mgr) (lay : Lay) (keep : Nat) (ci : Cont),
    WF w → w.objs i = some ci → ci.mgr = some ai → ai ≠ a →
    step cfg w (.wMoveCtorA j i a lay keep) = some (w1, evs) →
    ∃ t, w1.objs j = some t ∧ (contents w1.heap t).Perm (contents w.heap ci) ∧
      evs.filter isXfer = xferEvs cfg.k (contents w.heap ci)

/-- **C14 "a move between unequal managers transfers the elements one by one"**, `W j(std::move(i), alloc)` with
`alloc != i.get_allocator()` (`pvCreateArray / Set / Map / MultiMap`): exactly one element construction per element of
the source, in the source's iteration order — move constructions if the element type is movable; **no block changes
owner**: every block of the target is new (handle ≥ the old heap limit) and obtained from `alloc`, every block freed is
a body block of the source and is freed through the *source's* allocator; the source keeps its allocator and its constructor blocks, is empty afterwards and stays an
ordinary (not null) object; no third object changes.
*Partial*: the contents of the target are whatever layout `lay` the element-wise insertion produced (a parameter of
the model: the insertion algorithms belong to C01 / C02 / C05); that this layout holds exactly the source's
elements — the remaining conjunct of `C14_unequal_move_elementwise` — is checked on every run by the harness's
reference-contents oracle, not proved here. -/
theorem C14_unequal_move_elementwise_partial (cfg : Cfg) {w w1 : World} {evs : List Ev} (wf : WF w) (j i : Nat)
    (a ai : Mgr) (lay : Lay) (keep : Nat) (ci : Cont) (hi : w.objs i = some ci) (hm : ci.mgr = some ai) (hne : ai ≠ a)
    (h : step cfg w (.wMoveCtorA j i a lay keep) = some (w1, evs)) :
    evs.filter isXfer = xferEvs cfg.k (contents w.heap ci) ∧
    (evs.filter isXfer).length = (contents w.heap ci).length ∧
    (cfg.k.movable = true → ∀ e, Ev.copy e ∉ evs) ∧
    (∃ t, w1.objs j = some t ∧ t.mgr = some a ∧ usable cfg.k t = true ∧
        contents w1.heap t = lay.inl ++ lay.cells.flatten ∧ (∀ h ∈ t.owned, w.heap.next ≤ h)) ∧
    (∃ ci', w1.objs i = some ci' ∧ ci'.mgr = some ai ∧ ci'.aux = ci.aux ∧ contents w1.heap ci' = []) ∧
    (∀ m h, Ev.alloc m h ∈ evs → m = a ∧ w.heap.next ≤ h) ∧
    (∀ m h, Ev.free m h ∈ evs → m = ai ∧ h ∈ ci.body) ∧
    (∀ x c, x ≠ i → x ≠ j → w.objs x = some c → w1.objs x = some c ∧ contents w1.heap c = contents w.heap c) ∧
    WF w1 := by
  have hal : allocOf w i = some ai := by simp [allocOf, hi, hm]
  simp only [step, expand, createFrom, hal, hne, if_false] at h
  obtain ⟨wf1, _, _, ht, ⟨ci', hc1, hc2, hc3, _, hc5⟩, hoth, hcon, hx, q⟩ :=
    xferUnequal_spec cfg.k wf j i a ai lay keep ci hi hm h
  exact ⟨hx, by rw [hx]; simp [xferEvs], q.copy, ht, ⟨ci', hc1, hc2, hc3, hc5⟩, q.alloc, q.free,
    fun x c hxi hxj hc => ⟨(hoth x hxi hxj).trans hc, hcon x c hxi hxj hc⟩, wf1⟩

/-- **"freeing through the manager"**: the destructor of an object gives back every block the object owns, each
exactly once, and each *through the manager that allocated it* (the heap remembers the allocating manager of every
block); afterwards none of these blocks is live, no other block is touched. -/
theorem C14_destroy_frees_through_allocator (cfg : Cfg) {w w1 : World} {evs : List Ev} (wf : WF w) (i : Nat) (c : Cont)
    (m : Mgr) (hi : w.objs i = some c) (hm : c.mgr = some m) (h : step cfg w (.destroy i) = some (w1, evs)) :
    evs.filterMap (fun e => match e with | .free m' h' => some (m', h') | _ => none) = c.owned.map (fun h' => (m, h')) ∧
    c.owned.Nodup ∧
    (∀ h' ∈ c.owned, ∃ cell, w.heap.get h' = some cell ∧ cell.mgr = m) ∧
    (∀ h' ∈ c.owned, w1.heap.get h' = none) ∧ (∀ h', h' ∉ c.owned → w1.heap.get h' = w.heap.get h') ∧
    (∀ m' h', Ev.alloc m' h' ∉ evs) := by
  simp only [step, expand, run_single] at h
  obtain ⟨c', hc, rfl, hev⟩ := Exec.of_exec h
  cases hi.symm.trans hc
  obtain ⟨hn, _⟩ | ⟨m', hm', rfl⟩ := hev
  · cases hm.symm.trans hn
  cases hm.symm.trans hm'
  refine ⟨?_, (wf.ok i c hi).nodup, wf.live_mgr hi hm, fun h' hh => (freeCells_get _ _ h').trans (if_pos hh),
    fun h' hh => (freeCells_get _ _ h').trans (if_neg hh), fun m' h' he => ?_⟩
  · rw [List.filterMap_append]
    have h1 : (destroyEvs cfg.k (contents w.heap c)).filterMap
        (fun e => match e with | .free m' h' => some (m', h') | _ => none) = [] := by
      apply List.filterMap_eq_nil_iff.mpr
      intro e he; obtain ⟨x, rfl⟩ := mem_destroyEvs he; rfl
    rw [h1, List.nil_append, List.filterMap_map]
    induction c.owned with
    | nil => rfl
    | cons a r ih => simp [ih]
  · rcases List.mem_append.mp he with he | he
    · exact nomatch neutral_destroyEvs _ _ _ he
    · obtain ⟨_, _, e⟩ := List.mem_map.mp he; cases e

/-- full statement of the element-wise clause for move assignment: when the standard's table says *element-wise*,
`i` ends up with `j`'s elements -/
def C14_wrapper_move_assign_elementwise : Prop :=
  ∀ (cfg : Cfg) (w w1 : World) (evs : List Ev) (i j : Nat) (ci cj : Cont) (mi mj : Mgr) (lay : Lay) (keep : Nat),
    WF w → i ≠ j → w.objs i = some ci → w.objs j = some cj → ci.mgr = some mi → cj.mgr = some mj →
    (cfg.isEmpty = true → mi = mj) →
    (stdMoveAssign ⟨cfg.pocca, cfg.pocma, cfg.pocs, cfg.isEmpty⟩ mi mj).how = .elementwise →
    step cfg w (.wMoveAssign i j lay keep) = some (w1, evs) →
    ∃ t, w1.objs i = some t ∧ (contents w1.heap t).Perm (contents w.heap cj)

/-- **wrapper move assignment `i = std::move(j)`**, every trait combination and every pair of allocator identities, by
the rows of the standard's table (`stdMoveAssign`). *Steal* (POCMA, or equal allocators), as in `C14_move_assign_exact`:
`i` becomes exactly the former `j` — whose manager is the tabled one —, `j` is left in the null state, nothing is
allocated and only `i`'s former blocks are released, through the allocator `i` had. *Element-wise* (no propagation,
unequal allocators), as in `C14_unequal_move_elementwise_partial`: `i` ends as a usable object with the tabled allocator
(its own) whose blocks are all new, `j` keeps its allocator and its constructor blocks and is empty but not null, the
element constructions start with exactly one per element of `j` in `j`'s iteration order (`rest`: relocation of an
`Array`'s internal items when the temporary is handed to `*this`), and every block freed is a body block of `j` freed
through `j`'s allocator or a former block of `i` freed through `i`'s: **no block changes owner**. In neither case is a
movable element copy-constructed; no third object changes.
*Partial* in the same way as `C14_unequal_move_elementwise_partial`: in the element-wise case the contents of `i` are
the reported layout `lay`; `C14_wrapper_move_assign_elementwise` (they are `j`'s elements) is checked at run time only. -/
theorem C14_wrapper_move_assign_partial (cfg : Cfg) {w w1 : World} {evs : List Ev} (wf : WF w) (i j : Nat) (hij : i ≠ j)
    (ci cj : Cont) (mi mj : Mgr) (hi : w.objs i = some ci) (hj : w.objs j = some cj)
    (hmi : ci.mgr = some mi) (hmj : cj.mgr = some mj) (he : cfg.isEmpty = true → mi = mj) (lay : Lay) (keep : Nat)
    (h : step cfg w (.wMoveAssign i j lay keep) = some (w1, evs)) :
    WF w1 ∧
    ((stdMoveAssign ⟨cfg.pocca, cfg.pocma, cfg.pocs, cfg.isEmpty⟩ mi mj).how = .steal →
      w1.objs i = some cj ∧ cj.mgr = some (stdMoveAssign ⟨cfg.pocca, cfg.pocma, cfg.pocs, cfg.isEmpty⟩ mi mj).alloc ∧
      contents w1.heap cj = contents w.heap cj ∧ w1.objs j = some (nullOf cfg.k cj) ∧
      (cfg.k.movable = true → ∀ e, Ev.copy e ∉ evs) ∧ (∀ m h, Ev.alloc m h ∉ evs) ∧
      (∀ m h, Ev.free m h ∈ evs → m = mi ∧ h ∈ ci.owned)) ∧
    ((stdMoveAssign ⟨cfg.pocca, cfg.pocma, cfg.pocs, cfg.isEmpty⟩ mi mj).how = .elementwise →
      (∃ t, w1.objs i = some t ∧
          t.mgr = some (stdMoveAssign ⟨cfg.pocca, cfg.pocma, cfg.pocs, cfg.isEmpty⟩ mi mj).alloc ∧
          usable cfg.k t = true ∧ contents w1.heap t = lay.inl ++ lay.cells.flatten ∧
          (∀ h ∈ t.owned, w.heap.next ≤ h)) ∧
      (∃ cj', w1.objs j = some cj' ∧ cj'.mgr = some mj ∧ cj'.aux = cj.aux ∧ contents w1.heap cj' = []) ∧
      (∃ rest, evs.filter isXfer = xferEvs cfg.k (contents w.heap cj) ++ rest) ∧
      (cfg.k.movable = true → ∀ e, Ev.copy e ∉ evs) ∧
      (∀ m h, Ev.alloc m h ∈ evs →
          m = (stdMoveAssign ⟨cfg.pocca, cfg.pocma, cfg.pocs, cfg.isEmpty⟩ mi mj).alloc ∧ w.heap.next ≤ h) ∧
      (∀ m h, Ev.free m h ∈ evs → (m = mj ∧ h ∈ cj.body) ∨ (m = mi ∧ h ∈ ci.owned))) ∧
    (stdMoveAssign ⟨cfg.pocca, cfg.pocma, cfg.pocs, cfg.isEmpty⟩ mi mj).how ≠ .copyAll ∧
    (∀ x c, x ≠ i → x ≠ j → x ≠ tmpT cfg → w.objs x = some c →
        w1.objs x = some c ∧ contents w1.heap c = contents w.heap c) := by
  have htab := (C14_propagation_table ⟨cfg.pocca, cfg.pocma, cfg.pocs, cfg.isEmpty⟩ mi mj he).2.1
  obtain ⟨g0, g1, g2, g3⟩ := wMoveAssign_spec cfg wf i j hij ci cj mi mj hi hj hmi hmj lay keep _ rfl h
  rw [← htab]
  dsimp only [momoMoveAssign]
  by_cases hst : mj = if (cfg.isEmpty || cfg.pocma) = true then mj else mi
  · rw [if_pos hst]
    obtain ⟨q1, q2, q3, q⟩ := g1 hst
    exact ⟨g0, fun _ => ⟨q1, by rw [hmj, ← hst], q2, q3, q.copy, q.alloc, q.free⟩, fun hs => How.noConfusion hs,
      fun e => How.noConfusion e, g3⟩
  · rw [if_neg hst]
    obtain ⟨p1, p2, p3, q⟩ := g2 hst
    exact ⟨g0, fun hs => How.noConfusion hs, fun _ => ⟨p1, p2, p3, q.copy, q.alloc, q.free⟩, fun e => How.noConfusion e, g3⟩

/-- known finding F15, as the model shows it: `operator=` of a stdish wrapper whose crew pointer is null (moved-from
set / map / unordered_*) evaluates `get_allocator()` of `*this` when the allocator does not propagate on that
assignment — the operation is **undefined** in the model (the driver answers `crash`, and so does the library).
Hence "assignable" holds for moved-from wrappers only when the allocator propagates (or is empty); the native
containers are covered unconditionally by `C14_null_copy_assign` / `C14_null_move_assign`. -/
theorem C14_F15_wrapper_assign_undefined (cfg : Cfg) (w : World) (i j : Nat) (ci : Cont) (hij : i ≠ j)
    (hi : w.objs i = some ci) (hm : ci.mgr = none) (lay : Lay) (keep : Nat) :
    ((cfg.isEmpty || cfg.pocca) = false → step cfg w (.wCopyAssign i j) = none) ∧
    ((cfg.isEmpty || cfg.pocma) = false → step cfg w (.wMoveAssign i j lay keep) = none) :=
  ⟨fun hp => by simp [step, expand, hij, hp, allocOf, hi, hm],
   fun hp => by simp [step, expand, hij, hp, allocOf, hi, hm]⟩

/-- **history theorem**: for every configuration and every finite list of operations (any `Op`s, in any order, on any
slots) that is defined from the initial world, the resulting world is well-formed: every handle an object holds
refers to a live block (no dangling pointer), that block was allocated by the manager the object holds *now* (so it
will be freed through the manager that allocated it), no object holds a block twice (no double free), and no two
objects share a block (deep copies, stealing moves). -/
theorem C14_history (cfg : Cfg) (ops : List Op) (w : World) (h : runOps cfg World.init ops = some w) : WF w :=
  (runOps_sound cfg WF.init ops h).1

/-- `C14_history`, spelled out -/
theorem C14_history_ownership (cfg : Cfg) (ops : List Op) (w : World) (h : runOps cfg World.init ops = some w) :
    (∀ i c, w.objs i = some c → c.owned.Nodup ∧
        ∀ b ∈ c.owned, ∃ cell, w.heap.get b = some cell ∧ c.mgr = some cell.mgr) ∧
    (∀ i j c d, i ≠ j → w.objs i = some c → w.objs j = some d → ∀ b, b ∈ c.owned → b ∉ d.owned) := by
  have wf := C14_history cfg ops w h
  exact ⟨fun i c hc => ⟨(wf.ok i c hc).nodup, (wf.ok i c hc).live⟩, wf.disj⟩

/-- **history theorem for the managers' ledger** ("each container keeps … freeing through the manager"): for every
configuration and every finite list of operations defined from the initial world, the *whole trace* of manager
events passes the ledger check the harness applies to the real managers — every `Allocate` hands out a block that
is not live, every `Deallocate` gives back a live block *to the manager identity that allocated it* (hence never
twice, never a foreign or unknown block) — and the blocks live at the end, with their allocating managers, are
exactly those of the final heap. -/
theorem C14_history_ledger (cfg : Cfg) (ops : List Op) (w : World) (evs : List Ev)
    (h : runOpsEv cfg World.init ops = some (w, evs)) :
    WF w ∧ ledgerRun (fun _ => none) evs = some (ownerOf w.heap) := by
  have e := runOpsEv_effect cfg WF.init ops h
  exact ⟨e.wf, e.ledger⟩

/-- **nothing is left behind**: in every reachable world each live block is owned by a live object (exactly one, by
`C14_history`); so once all objects have been destroyed no block is live — the ledger of `C14_history_ledger` is
empty, whatever mixture of copies, moves, swaps and assignments between whatever managers went before. -/
theorem C14_history_no_leak (cfg : Cfg) (ops : List Op) (w : World) (h : runOps cfg World.init ops = some w) :
    (∀ b cell, w.heap.get b = some cell → ∃ i c, w.objs i = some c ∧ b ∈ c.owned) ∧
    ((∀ i, w.objs i = none) → ∀ b, w.heap.get b = none ∧ ownerOf w.heap b = none) := by
  have tt := runOps_tight cfg WF.init Tight.init ops h
  refine ⟨tt, fun hdead b => ?_⟩
  have hb := tt.dead hdead b
  exact ⟨hb, by simp [ownerOf, hb]⟩

/-- the hypothesis `RebuildOk` holds for the copy layouts of every driven container kind: one block (Array,
HashSet / HashMap / HashMultiMap, DataTable), node by node (TreeSet / TreeMap), pointer array + full segments
(SegmentedArray, for every segment-size function) -/
theorem C14_rebuild_layouts (k : Kind) :
    (k.rebuild = rebuildOne → RebuildOk k) ∧ (k.rebuild = rebuildSame → RebuildOk k) ∧
    (∀ sizes, k.rebuild = rebuildSeg sizes → RebuildOk k) :=
  ⟨rebuildOk_one k, rebuildOk_same k, fun sizes => rebuildOk_seg k sizes⟩

/-! ## non-vacuity: concrete worlds with several containers and a stateful manager -/

/-- a HashSet-like kind (crew pointer, one-block copy layout), stateful manager whose copy constructor adds 100 to
the identity (as `select_on_container_copy_construction` of the harness's allocator), POCMA only -/
def exCfg : Cfg := { k := { crewPtr := true, rebuild := rebuildOne }, sel := fun m => m + 100, pocma := true }

/-- an `Array`-like kind with internal capacity 2 and copy-only elements -/
def exArr : Cfg := { k := { icap := 2, arrayStyle := true, movable := false, rebuild := rebuildOne } }

def exOps : List Op :=
  [.new 0 1, .mutate 0 [] [[1, 2], [3]] 0, .new 1 2, .mutate 1 [] [[7]] 0, .copyCtor 2 0, .moveAssign 1 0,
   .wMoveCtorA 3 2 5 ⟨[], [[3, 2, 1]], 0⟩ 0, .swap 1 3, .destroy 0]

/-- (manager, contents) of the slots 0..3 -/
def exSummary (w : World) : List (Option (Option Mgr × List Elem)) :=
  (List.range 4).map (fun i => (w.objs i).map (fun c => (c.mgr, contents w.heap c)))

example : RebuildOk exCfg.k := rebuildOk_one _ rfl
example : RebuildOk exArr.k := rebuildOk_one _ rfl

/-- the history is defined: two sets with managers 1 and 2 are filled; 0 is copied into 2 (manager 101); 1 takes over
0 (0 is left with a null crew); 2 is moved into 3 under the unequal allocator 5, element by element; 1 and 3 are
swapped; the moved-from 0 is destroyed -/
example : (runOps exCfg World.init exOps).map exSummary =
    some [none, some (some 5, [3, 2, 1]), some (some 101, []), some (some 1, [1, 2, 3])] := by decide +kernel

/-- hypotheses of `C14_copy_ctor` / `C14_copy_independent` / `C14_copy_destroy_either`: a non-empty two-generation
source and a second live object -/
example : ((runOps exCfg World.init (exOps.take 4)).bind (fun w => step exCfg w (.copyCtor 2 0))).isSome = true := by decide +kernel

/-- hypotheses of `C14_unequal_move_elementwise_partial`: source with manager 101 and three elements, target
allocator 5; exactly three element moves, no copy -/
example : ((runOps exCfg World.init (exOps.take 6)).bind
    (fun w => (step exCfg w (.wMoveCtorA 3 2 5 ⟨[], [[3, 2, 1]], 0⟩ 0)).map (fun r => r.2.filter isXfer))) =
    some [Ev.move 1, Ev.move 2, Ev.move 3] := by decide +kernel

/-- hypotheses of the `C14_null_*` theorems: after `1 = std::move(0)` object 0 is alive, in the null state, with a
null crew pointer; and F15: wrapper copy assignment to it is undefined when POCCA = false -/
example : ((runOps exCfg World.init (exOps.take 6)).map
    (fun w => (w.objs 0).map (fun c => (c.mgr.isNone, c.owned.isEmpty, c.inl.isEmpty)))) =
    some (some (true, true, true)) := by decide +kernel
example : ((runOps exCfg World.init (exOps.take 6)).map
    (fun w => ((step exCfg w (.wCopyAssign 0 1)).isSome, (step exCfg w (.copyAssign 0 1)).isSome))) =
    some (false, true) := by decide +kernel

/-- the ledger accepts the whole event trace of the example history, and one block-owning object of each of the
managers 1, 5, 101 is left -/
example : ((runOpsEv exCfg World.init exOps).bind (fun r => (ledgerRun (fun _ => none) r.2).map
    (fun L => (List.range 40).filterMap L))).map (fun l => (l.length, l.contains 1, l.contains 5, l.contains 101, l.contains 2)) =
    some (6, true, true, true, false) := by decide +kernel

/-- `Array` with items in the internal buffer: moving relocates them (copy-only elements: by copy + destroy), the
moved-from array is reusable at once -/
example : (runOps exArr World.init
    [.new 0 1, .mutate 0 [4, 5] [] 0, .moveCtor 1 0, .mutate 0 [] [[6, 7, 8]] 3, .copyAssign 1 0, .swap 0 1]).map exSummary =
    some [some (some 1, [6, 7, 8]), some (some 1, [6, 7, 8]), none, none] := by decide +kernel

end Momo.Val
