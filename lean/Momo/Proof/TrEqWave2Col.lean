import Momo.Translated.Wave2
import Momo.Proof.TrEqMisc2Col
/-!
  C18: `DataColumnList::pvGetOffset` (DataColumn.h) as a whole — the two reads of `mAddends` at the vertices and the `size_t` sum —
  as translated from the header (area Wave2, lean/Momo/Translated/Wave2.lean), fed with the translated `GetVertices` of area Misc,
  is the model's `Col.getOffsetWith` (`Momo/Model/Columns.lean`).
-/
namespace Momo.TrEq
open Momo Momo.Seg

/-- `mAddends[vertices.first] + mAddends[vertices.second]` (wrapping `size_t` sum), for `logVertexCount < 64` and any 64-bit
    column code; `mAddends i` is `a.getD i 0` -/
theorem tr_col_pvGetOffset (c : Col.Cfg) (param : Nat) (a : Array Nat) (code : Nat) (hL : c.L < 64) (hcode : code < 2 ^ 64) :
    Tr.col_pvGetOffset (fun i => a.getD i 0) (Tr.col_GetVertices c.L c.codeBytes code param).1
        (Tr.col_GetVertices c.L c.codeBytes code param).2 = Col.getOffsetWith c param a code := by
  rw [getOffsetWith_translated c param a code hL hcode]
  rfl

end Momo.TrEq
