import Momo.Proof.PoolLayout
/-!
  Geometry of one `MemPool` buffer (C09): where blocks and metadata lie relative to one another and to
  the memory obtained from the memory manager (`newBuffer_inside`; `newBuffer_range` for any base address); the single-block form.
  Core lemmas and `omega`; `lowBit_table` is a sweep over the 1024 admissible alignments, evaluated by the kernel.
-/
namespace Momo.Pool

/-- the byte ranges `[a, a + la)` and `[b, b + lb)` (start, length each) do not overlap -/
def Disj (a la b lb : Int) : Prop := a + la ≤ b ∨ b + lb ≤ a
/-- the byte range `[a, a + la)` (start, length) lies in `[lo, hi)` (two bounds) -/
def Inside (a la lo hi : Int) : Prop := lo ≤ a ∧ a + la ≤ hi

theorem Disj.symm {a la b lb : Int} (h : Disj a la b lb) : Disj b lb a la := Or.symm h

/-- `min maxAllocAlignment (lowBit a)` is `Params.allocAlign`, the alignment the pool assumes of the memory manager. Checked for every
    admissible value: `CheckBlockAlignment` admits `blockAlignment ≤ poolMaxBlockAlignment = 1024` -/
theorem lowBit_table : ∀ a : Nat, a < 1025 → 0 < a →
    0 < min maxAllocAlignment (lowBit a) ∧ min maxAllocAlignment (lowBit a) ∣ a := by
  decide +kernel

theorem allocAlign_spec (P : Params) (hA : 0 < P.A) (hA2 : P.A ≤ 1024) :
    0 < P.allocAlign ∧ P.allocAlign ∣ P.A ∧ P.allocAlign ≤ 16 := by
  obtain ⟨a, ha⟩ : ∃ a : Nat, P.A = (a : Int) := ⟨P.A.toNat, (Int.toNat_of_nonneg (Int.le_of_lt hA)).symm⟩
  have h1 := lowBit_table a (by omega) (by omega)
  have h16 : min maxAllocAlignment (lowBit a) ≤ 16 := Nat.min_le_left _ _
  unfold Params.allocAlign
  rw [ha]; simp only [Int.toNat_natCast, Int.ofNat_eq_natCast]
  generalize min maxAllocAlignment (lowBit a) = m at h1 h16
  refine ⟨?_, ?_, ?_⟩
  · exact Int.natCast_pos.mpr h1.1
  · exact Int.natCast_dvd_natCast.mpr h1.2
  · exact Int.ofNat_le.mpr h16

theorem ceilTo_le (x m g : Int) (hg : 0 < g) (hm : 0 < m) (hgm : g ∣ m) (hgx : g ∣ x) :
    x ≤ ceilTo x m ∧ ceilTo x m ≤ x + m - g ∧ ceilTo x m % m = 0 := by
  obtain ⟨hc0, hc1, hc2⟩ := ceilTo_spec x m hm
  refine ⟨hc1, ?_, hc0⟩
  -- `ceilTo x m - x` is a multiple of `g` below `m`, which is one too
  obtain ⟨t, rfl⟩ := hgm
  obtain ⟨s, hs⟩ := Int.dvd_sub (Int.dvd_trans (Int.dvd_mul_right g t) (Int.dvd_of_emod_eq_zero hc0)) hgx
  have hst : s < t := Int.lt_of_mul_lt_mul_left (by omega : g * s < g * t) (Int.le_of_lt hg)
  have := Int.mul_le_mul_of_nonneg_left (Int.add_one_le_of_lt hst) (Int.le_of_lt hg)
  rw [Int.mul_add] at this
  omega

/-- `pvNewBlock1` (491-504) against `pvGetBufferSize1()` -/
theorem newBlock1_ok (P : Params) (base : Int) (hA : 0 < P.A) (hA2 : P.A ≤ 1024)
    (hbase : P.allocAlign ∣ base) :
    (newBlock1 P base).1 % P.A = 0 ∧ base ≤ (newBlock1 P base).1 ∧
    0 ≤ (newBlock1 P base).2 ∧ (newBlock1 P base).2 ≤ P.alignAddend ∧
    (newBlock1 P base).2 < (Extracted.poolOffsetLimit1 : Int) ∧
    (newBlock1 P base).1 + P.S + sizeofU16 ≤ base + P.bufferSize1 ∧
    (newBlock1 P base).1 - (newBlock1 P base).2 = base := by
  obtain ⟨hg0, hgA, _⟩ := allocAlign_spec P hA hA2
  obtain ⟨hc1, hc2, hc3⟩ := ceilTo_le base P.A P.allocAlign hg0 hA hgA hbase
  simp only [newBlock1, Params.bufferSize1, Params.alignAddend, Extracted.poolOffsetLimit1, sizeofU16]
  exact ⟨hc3, hc1, Int.sub_nonneg_of_le hc1, by omega, by omega, by omega, Int.sub_sub_self _ base⟩

/-- `blockCount == 1` with `pvGetAlignmentAddend() == 0`: the manager's address is itself aligned -/
theorem plain_single_ok (P : Params) (base : Int) (hbase : P.allocAlign ∣ base) (h0 : P.alignAddend = 0) :
    base % P.A = 0 := by
  have : P.allocAlign = P.A := by unfold Params.alignAddend at h0; omega
  rw [this] at hbase
  exact Int.emod_eq_zero_of_dvd hbase

theorem metaEnd_eq (P : Params) (buf first : Int) :
    metaEnd P buf first =
      blocksEnd P buf first + (if P.bytesNear then 0 else sizeofBufferBytes) + 2 * sizeofPtr + sizeofU16 := by
  simp only [metaEnd, beginOffPos, nextPos, prevPos, sizeofPtr]
  omega

/-- `BufferBytes` in the gap (`pvIsBufferBytesNear`, `A ≥ 3`) or behind the blocks -/
theorem metaRanges_cases (P : Params) (buf first : Int) :
    (3 ≤ P.A ∧
      metaRanges P buf first = [(buf, 1), (buf + 1, 2), (blocksEnd P buf first, 8),
        (blocksEnd P buf first + 8, 8), (blocksEnd P buf first + 16, 2)] ∧
      metaEnd P buf first = blocksEnd P buf first + 18) ∨
    (metaRanges P buf first = [(buf, 1), (blocksEnd P buf first, 2), (blocksEnd P buf first + 2, 8),
        (blocksEnd P buf first + 10, 8), (blocksEnd P buf first + 18, 2)] ∧
      metaEnd P buf first = blocksEnd P buf first + 20) := by
  by_cases hn : P.A ≥ sizeofBufferBytes + 1
  · have hb : P.bytesNear = true := by simp [Params.bytesNear, hn]
    refine Or.inl ⟨hn, ?_, ?_⟩ <;>
      simp only [metaRanges, metaEnd, bytesPos, prevPos, nextPos, beginOffPos, hb, ↓reduceIte, sizeofBufferBytes,
        sizeofPtr, sizeofU16, Int.add_zero, Int.add_assoc] <;> rfl
  · have hb : P.bytesNear = false := by simp [Params.bytesNear, hn]
    refine Or.inr ⟨?_, ?_⟩ <;>
      simp only [metaRanges, metaEnd, bytesPos, prevPos, nextPos, beginOffPos, hb, Bool.false_eq_true, ↓reduceIte,
        sizeofBufferBytes, sizeofPtr, sizeofU16, Int.add_assoc] <;> rfl

theorem blocksEnd_le_metaEnd (P : Params) (buf first : Int) : blocksEnd P buf first ≤ metaEnd P buf first := by
  rw [metaEnd_eq]
  simp only [sizeofBufferBytes, sizeofPtr, sizeofU16]
  split <;> omega

theorem mul_bounds {N S i : Int} (hS : 0 ≤ S) (h1 : -N ≤ i) (h2 : i ≤ N) : -(N * S) ≤ i * S ∧ i * S ≤ N * S :=
  ⟨Int.neg_mul N S ▸ Int.mul_le_mul_of_nonneg_right h1 hS, Int.mul_le_mul_of_nonneg_right h2 hS⟩

namespace Multi
variable {P : Params} {k : Int} (h : Multi P k)
include h

theorem getBlock_aligned (buf i : Int) (hb : buf % P.A = 0) : getBlock P buf i % P.A = 0 := by
  have h1 : P.A ∣ buf := Int.dvd_of_emod_eq_zero hb
  have h2 : P.A ∣ i * P.S := Int.dvd_trans h.A_dvd_S (Int.dvd_mul_left _ _)
  apply Int.emod_eq_zero_of_dvd
  unfold getBlock
  split
  · exact Int.dvd_add (Int.dvd_add h1 h2) (Int.dvd_refl _)
  · simpa using Int.dvd_add h1 h2

/-- third conjunct: outside the gap `[buf, buf + A)` that holds the near metadata -/
theorem block_geometry (buf first i : Int) (hi : first ≤ i) (hi2 : i < first + P.N) :
    buf + first * P.S ≤ getBlock P buf i ∧ getBlock P buf i + P.S ≤ blocksEnd P buf first ∧
    (getBlock P buf i + P.S ≤ buf ∨ buf + P.A ≤ getBlock P buf i) := by
  have hS := Int.le_of_lt h.S_pos; have hA := h.hA
  have m1 : first * P.S ≤ i * P.S := Int.mul_le_mul_of_nonneg_right hi hS
  have m2 : (i + 1) * P.S ≤ (P.N + first) * P.S :=
    Int.mul_le_mul_of_nonneg_right (by rw [Int.add_comm P.N]; exact Int.add_one_le_of_lt hi2) hS
  rw [Int.add_mul, Int.one_mul] at m2
  unfold getBlock blocksEnd
  rw [Int.mul_comm P.S]
  by_cases hs : 0 ≤ i
  · rw [if_pos hs]
    have m3 : 0 ≤ i * P.S := Int.mul_nonneg hs hS
    omega
  · rw [if_neg hs]
    have m3 := Int.mul_nonpos_of_nonpos_of_nonneg (Int.add_one_le_of_lt (Int.not_le.mp hs)) hS
    rw [Int.add_mul, Int.one_mul] at m3
    omega

theorem block_order (buf i j : Int) (hij : i < j) : getBlock P buf i + P.S ≤ getBlock P buf j := by
  have hA := h.hA
  have m2 := Int.mul_le_mul_of_nonneg_right (Int.add_one_le_of_lt hij) (Int.le_of_lt h.S_pos)
  rw [Int.add_mul, Int.one_mul] at m2
  unfold getBlock
  split <;> split <;> omega

theorem blocksEnd_ge (buf first : Int) (hf : -P.N < first) : buf + P.A ≤ blocksEnd P buf first := by
  exact Int.le_add_of_nonneg_right (Int.mul_nonneg (Int.le_of_lt h.S_pos) (by omega))

theorem meta_geometry (buf first : Int) (hf : -P.N < first) :
    ∀ r ∈ metaRanges P buf first,
      (buf ≤ r.1 ∧ r.1 + r.2 ≤ buf + P.A) ∨
      (blocksEnd P buf first ≤ r.1 ∧ r.1 + r.2 ≤ metaEnd P buf first) := by
  have hA := h.hA
  have hE := h.blocksEnd_ge buf first hf
  rcases metaRanges_cases P buf first with ⟨hn, e1, e2⟩ | ⟨e1, e2⟩ <;> rw [e1, e2] <;>
    simp only [List.forall_mem_cons, List.not_mem_nil, false_imp_iff, implies_true, and_true] <;> omega

theorem meta_pairwise (buf first : Int) (hf : -P.N < first) :
    (metaRanges P buf first).Pairwise (fun r s => Disj r.1 r.2 s.1 s.2) := by
  have hA := h.hA
  have hE := h.blocksEnd_ge buf first hf
  rcases metaRanges_cases P buf first with ⟨hn, e1, -⟩ | ⟨e1, -⟩ <;> rw [e1] <;>
    simp only [List.pairwise_cons, List.forall_mem_cons, List.not_mem_nil, false_imp_iff, implies_true, and_true,
      List.Pairwise.nil, Disj] <;> omega

/-- `pvNewBuffer` stays inside `[base, base + pvGetBufferSize())` if `base` is aligned as the pool assumes (`allocAlign`) -/
theorem newBuffer_inside (base : Int) (hA2 : P.A ≤ 1024) (hbase : P.allocAlign ∣ base) :
    base ≤ (newBuffer P base).buf + (newBuffer P base).first * P.S ∧
    metaEnd P (newBuffer P base).buf (newBuffer P base).first ≤ base + P.bufferSize ∧
    0 ≤ (newBuffer P base).beginOffset ∧ (newBuffer P base).beginOffset < 4 * P.A ∧
    getBlock P (newBuffer P base).buf (newBuffer P base).first - (newBuffer P base).beginOffset = base := by
  have hA := h.hA
  obtain ⟨hg0, hgA, -⟩ := allocAlign_spec P hA hA2
  obtain ⟨-, hc2, -⟩ := ceilTo_le base P.A P.allocAlign hg0 hA hgA hbase
  obtain ⟨-, -, hi2, -, hgb, hlo, hbb, hb3, hup⟩ := h.firstBlock_ok base
  have e3 : k % 2 * P.A ≤ 1 * P.A :=
    Int.mul_le_mul_of_nonneg_right (Int.le_of_lt_add_one (Int.emod_lt_of_pos k (by decide))) (Int.le_of_lt hA)
  simp only [newBuffer]
  generalize firstBlock P base = b at *
  generalize blockBuf P b = buf at *
  generalize blockIdx P b = first at *
  simp only [Int.add_mul] at hb3 hup
  -- the lowest block starts at `buf + first * S`; it is `b`, or `b` is the slot behind it
  obtain ⟨hlo', hX⟩ : base ≤ buf + first * P.S ∧
      buf + first * P.S + P.A ≤ ceilTo base P.A + (2 * P.A + k % 2 * P.A) := by
    unfold getBlock at hgb
    by_cases h0 : first = 0
    · subst h0
      rw [if_pos rfl, Int.add_zero] at hlo hup
      rw [if_pos (Int.le_refl 0)] at hgb
      rw [hgb, Int.zero_mul, Int.add_zero]
      exact ⟨hlo, hup⟩
    · rw [if_neg h0] at hlo hup
      rw [if_neg (Int.not_le.mpr (Int.lt_iff_le_and_ne.mpr ⟨hi2, h0⟩)), Int.add_zero] at hgb
      rw [← hgb] at hup
      exact ⟨hlo, hup⟩
  refine ⟨hlo', ?_, Int.sub_nonneg_of_le hbb, by omega, by rw [hgb]; exact Int.sub_sub_self b base⟩
  rw [metaEnd_eq]
  unfold blocksEnd Params.bufferSize Params.alignAddend
  rw [h.S_div_A, Int.mul_add, Int.mul_comm P.S P.N, Int.mul_comm P.S first,
    show ((Extracted.poolBufSizeAlignMul : Nat) : Int) = 2 from rfl, Int.add_mul]
  omega

theorem newBuffer_range (base : Int) :
    base ≤ (newBuffer P base).buf ∧ (newBuffer P base).buf ≤ firstBlock P base + P.N * P.S ∧
    firstBlock P base < base + 4 * P.A := by
  obtain ⟨-, f2, f3, -, f5, f6, -, f8, -⟩ := h.firstBlock_ok base
  have hS := Int.le_of_lt h.S_pos
  have hA := h.hA
  have hk : (3 + k % 2) * P.A ≤ 4 * P.A := Int.mul_le_mul_of_nonneg_right (by omega) (Int.le_of_lt hA)
  have hlo := (mul_bounds hS (Int.le_of_lt f2) (Int.le_trans f3 (Int.le_trans (by decide) h.hN))).1
  have hhi : blockIdx P (firstBlock P base) * P.S ≤ 0 * P.S := Int.mul_le_mul_of_nonneg_right f3 hS
  rw [Int.zero_mul] at hhi
  unfold getBlock at f5
  simp only [newBuffer]
  generalize blockIdx P (firstBlock P base) * P.S = m at *
  generalize P.N * P.S = ns at *
  generalize (3 + k % 2) * P.A = t at *
  refine ⟨?_, ?_, by omega⟩
  · split at f6 <;> omega
  · split at f5 <;> omega

end Multi

/-- stated for variables `buf`, `first` with equations, because `C09_blocks_disjoint_inside` introduces them by `let` -/
theorem Multi.buffer_layout_ok {P : Params} {k : Int} (hM : Multi P k) (hA2 : P.A ≤ 1024) (base : Int)
    (hbase : P.allocAlign ∣ base) (buf first : Int) (hbuf : buf = (newBuffer P base).buf)
    (hfirst : first = (newBuffer P base).first) :
    (∀ i, first ≤ i → i < first + P.N →
        getBlock P buf i % P.A = 0 ∧ Inside (getBlock P buf i) P.S base (base + P.bufferSize) ∧
        (∀ j, first ≤ j → j < first + P.N → i ≠ j → Disj (getBlock P buf i) P.S (getBlock P buf j) P.S) ∧
        (∀ r ∈ metaRanges P buf first, Disj (getBlock P buf i) P.S r.1 r.2)) ∧
    (∀ r ∈ metaRanges P buf first, Inside r.1 r.2 base (base + P.bufferSize)) ∧
    (metaRanges P buf first).Pairwise (fun r s => Disj r.1 r.2 s.1 s.2) ∧
    0 ≤ (newBuffer P base).beginOffset ∧
    (newBuffer P base).beginOffset < 2 ^ Extracted.poolBeginOffsetLog ∧
    getBlock P buf first - (newBuffer P base).beginOffset = base := by
  obtain ⟨hlo, hhi, ho0, ho1, hoff⟩ := hM.newBuffer_inside base hA2 hbase
  obtain ⟨-, hf1, hf2, hok, -⟩ := hM.firstBlock_ok base
  rw [← hbuf, ← hfirst] at hlo hhi hoff
  replace hf1 : -P.N < first := by rw [hfirst]; exact hf1
  replace hf2 : first ≤ 0 := by rw [hfirst]; exact hf2
  replace hok : BufOK P buf := by rw [hbuf]; exact hok
  clear hbuf hfirst
  have hA := hM.hA
  have hmeta := hM.meta_geometry buf first hf1
  have hE := hM.blocksEnd_ge buf first hf1
  have hmEnd := blocksEnd_le_metaEnd P buf first
  have hb0 : base ≤ buf := by
    have := Int.add_le_add_left (Int.mul_nonpos_of_nonpos_of_nonneg hf2 (Int.le_of_lt hM.S_pos)) buf
    rw [Int.add_zero] at this
    exact Int.le_trans hlo this
  have hend := Int.le_trans hE (Int.le_trans hmEnd hhi)
  refine ⟨fun i hi hi2 => ?_, fun r hr => ?_, hM.meta_pairwise buf first hf1, ho0, ?_, hoff⟩
  · obtain ⟨g1, g2, g3⟩ := hM.block_geometry buf first i hi hi2
    refine ⟨hM.getBlock_aligned buf i hok.aligned, ⟨Int.le_trans hlo g1, Int.le_trans g2 (Int.le_trans hmEnd hhi)⟩,
      fun j _ _ hij => ?_, fun r hr => ?_⟩
    · rcases Int.lt_or_gt_of_ne hij with hlt | hgt
      · exact Or.inl (hM.block_order buf i j hlt)
      · exact Or.inr (hM.block_order buf j i hgt)
    · -- a field in the gap lies on the other side of `buf` or of `buf + A`; the others lie behind the blocks
      rcases hmeta r hr with ⟨m1, m2⟩ | ⟨m1, -⟩
      · exact g3.imp (fun g => Int.le_trans g m1) (fun g => Int.le_trans m2 g)
      · exact Or.inl (Int.le_trans g2 m1)
  · rcases hmeta r hr with ⟨m1, m2⟩ | ⟨m1, m2⟩
    · exact ⟨Int.le_trans hb0 m1, Int.le_trans m2 hend⟩
    · exact ⟨Int.le_trans hb0 (Int.le_trans (Int.le_add_of_nonneg_right (Int.le_of_lt hA)) (Int.le_trans hE m1)),
        Int.le_trans m2 hhi⟩
  · simp only [Extracted.poolBeginOffsetLog]; omega

end Momo.Pool
