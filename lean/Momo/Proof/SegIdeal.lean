import Momo.Proof.SegLog
/-!
  `Sizing.Lawful`: what every later file assumes of a sizing, with its consequences (among them those about `Arr.segsFor`, the
  segments needed for a capacity), and the proof that the ideal (unbounded) index arithmetic of `SegmentedArraySettings` is
  lawful for both sizings and every `logInitialItemCount`, over all naturals (`sizing_lawful`).
-/
namespace Momo.Seg
open Momo

/-- What the container needs to know about its `Settings`: segment `s` holds exactly the indexes `getIndex s 0 … + itemCount s - 1`,
    the segments follow each other from 0 (`affine`, `base_succ`, `base_zero`, `count_pos`), and `getSeg` finds the slot of an index
    (`inverse`). `roundtrip` and `item_lt` follow from these five: an instance is built with `of_inverse`, never field by field. -/
structure Sizing.Lawful (S : Sizing) : Prop where
  /-- `GetIndex ∘ GetSegItemIndexes = id` -/
  roundtrip : ∀ i, S.getIndex (S.getSeg i).1 (S.getSeg i).2 = i
  item_lt : ∀ i, (S.getSeg i).2 < S.itemCount (S.getSeg i).1
  inverse : ∀ s o, o < S.itemCount s → S.getSeg (S.getIndex s o) = (s, o)
  affine : ∀ s o, S.getIndex s o = S.getIndex s 0 + o
  base_succ : ∀ s, S.getIndex (s + 1) 0 = S.getIndex s 0 + S.itemCount s
  base_zero : S.getIndex 0 0 = 0
  count_pos : ∀ s, 0 < S.itemCount s

theorem Sizing.Lawful.of_inverse {S : Sizing}
    (inverse : ∀ s o, o < S.itemCount s → S.getSeg (S.getIndex s o) = (s, o))
    (affine : ∀ s o, S.getIndex s o = S.getIndex s 0 + o)
    (base_succ : ∀ s, S.getIndex (s + 1) 0 = S.getIndex s 0 + S.itemCount s)
    (base_zero : S.getIndex 0 0 = 0) (count_pos : ∀ s, 0 < S.itemCount s) : S.Lawful := by
  -- the segments tile the naturals: every index is `getIndex s o` of a slot, and `inverse` says what `getSeg` answers there
  have slot : ∀ i, ∃ s o, o < S.itemCount s ∧ S.getIndex s o = i := by
    intro i
    induction i with
    | zero => exact ⟨0, 0, count_pos 0, base_zero⟩
    | succ i ih =>
      obtain ⟨s, o, ho, hi⟩ := ih
      rw [affine] at hi
      by_cases h : o + 1 < S.itemCount s
      · exact ⟨s, o + 1, h, by rw [affine]; omega⟩
      · exact ⟨s + 1, 0, count_pos _, by rw [base_succ]; omega⟩
  refine ⟨fun i => ?_, fun i => ?_, inverse, affine, base_succ, base_zero, count_pos⟩
  · obtain ⟨s, o, ho, rfl⟩ := slot i
    rw [inverse s o ho]
  · obtain ⟨s, o, ho, rfl⟩ := slot i
    rw [inverse s o ho]; exact ho

namespace Sizing.Lawful
variable {S : Sizing} (h : S.Lawful)
include h

/-! In the names below `cap` is `S.getIndex n 0`, the capacity of an array with `n` segments (`Arr.capacity`); an argument is
    implicit when a hypothesis of the lemma determines it. -/

theorem cap_mono {m n : Nat} (hmn : m ≤ n) : S.getIndex m 0 ≤ S.getIndex n 0 := by
  induction hmn with
  | refl => exact Nat.le_refl _
  | step _ ih => rw [h.base_succ]; exact Nat.le_add_right_of_le ih

theorem cap_eq_sum (n : Nat) : S.getIndex n 0 = ((List.range n).map S.itemCount).sum := by
  induction n with
  | zero => exact h.base_zero
  | succ n ih => rw [h.base_succ, ih, List.range_succ]; simp

theorem cap_strict {m n : Nat} (hmn : m < n) : S.getIndex m 0 < S.getIndex n 0 :=
  Nat.lt_of_lt_of_le (by rw [h.base_succ]; exact Nat.lt_add_of_pos_right (h.count_pos m)) (h.cap_mono hmn)

theorem index_eq (i : Nat) : S.getIndex (S.getSeg i).1 0 + (S.getSeg i).2 = i := by
  rw [← h.affine]; exact h.roundtrip i

theorem lt_cap_succ (i : Nat) : i < S.getIndex ((S.getSeg i).1 + 1) 0 := by
  rw [h.base_succ]
  exact Nat.lt_of_le_of_lt (Nat.le_of_eq (h.index_eq i).symm) (Nat.add_lt_add_left (h.item_lt i) _)

theorem seg_lt_iff (i n : Nat) : (S.getSeg i).1 < n ↔ i < S.getIndex n 0 :=
  ⟨fun hs => Nat.lt_of_lt_of_le (h.lt_cap_succ i) (h.cap_mono hs),
   fun hi => Decidable.byContradiction fun hn => Nat.lt_irrefl i <| Nat.lt_of_lt_of_le hi <|
     Nat.le_trans (h.cap_mono (Nat.le_of_not_lt hn)) (Nat.le.intro (h.index_eq i))⟩

theorem getSeg_cap (n : Nat) : S.getSeg (S.getIndex n 0) = (n, 0) := h.inverse n 0 (h.count_pos n)

theorem segsFor_le_iff (c n : Nat) : Arr.segsFor S c ≤ n ↔ c ≤ S.getIndex n 0 := by
  have e := h.index_eq c
  unfold Arr.segsFor
  split
  · rename_i ho
    rw [Nat.succ_le_iff, h.seg_lt_iff, Nat.lt_iff_le_and_ne]
    exact and_iff_left fun e => by rw [e, h.getSeg_cap] at ho; exact Nat.lt_irrefl 0 ho
  · rename_i ho
    rw [Nat.eq_zero_of_not_pos ho, Nat.add_zero] at e
    exact ⟨fun hs => Nat.le_trans (Nat.le_of_eq e.symm) (h.cap_mono hs), fun hc => Decidable.byContradiction fun hn =>
      Nat.lt_irrefl _ (Nat.lt_of_lt_of_le (h.cap_strict (Nat.lt_of_not_le hn)) (Nat.le_trans (Nat.le_of_eq e) hc))⟩

theorem le_cap_segsFor (c : Nat) : c ≤ S.getIndex (Arr.segsFor S c) 0 :=
  (h.segsFor_le_iff c _).mp (Nat.le_refl _)

theorem segsFor_cap (n : Nat) : Arr.segsFor S (S.getIndex n 0) = n := by
  unfold Arr.segsFor; rw [h.getSeg_cap]; rfl

theorem succ_contiguous (i : Nat) :
    S.getSeg (i + 1) =
      if (S.getSeg i).2 + 1 < S.itemCount (S.getSeg i).1 then ((S.getSeg i).1, (S.getSeg i).2 + 1)
      else ((S.getSeg i).1 + 1, 0) := by
  have e := h.index_eq i
  split
  · rename_i hlt
    rw [show i + 1 = S.getIndex (S.getSeg i).1 ((S.getSeg i).2 + 1) by rw [h.affine, ← Nat.add_assoc, e]]
    exact h.inverse _ _ hlt
  · rename_i hge
    rw [show i + 1 = S.getIndex ((S.getSeg i).1 + 1) 0 by rw [h.base_succ]; have := h.item_lt i; omega]
    exact h.getSeg_cap _

theorem lex_mono {i j : Nat} (hij : i < j) :
    (S.getSeg i).1 < (S.getSeg j).1 ∨ ((S.getSeg i).1 = (S.getSeg j).1 ∧ (S.getSeg i).2 < (S.getSeg j).2) := by
  rcases Nat.lt_trichotomy (S.getSeg i).1 (S.getSeg j).1 with h1 | h1 | h1
  · exact .inl h1
  · have ei := h.index_eq i
    have ej := h.index_eq j
    rw [h1] at ei
    exact .inr ⟨h1, by omega⟩
  · exact absurd (Nat.lt_of_lt_of_le (h.lt_cap_succ j) (Nat.le_trans (h.cap_mono h1) (Nat.le.intro (h.index_eq i))))
      (Nat.lt_asymm hij)

theorem injective {i j : Nat} (hij : S.getSeg i = S.getSeg j) : i = j := by
  have hri := h.roundtrip i
  rw [hij, h.roundtrip j] at hri
  exact hri.symm

end Sizing.Lawful

/-! ### literal forms (break when an extracted constant changes) -/

theorem logItem_def (n : Nat) : logItem n = (Nat.log2 n + 1) / 2 := rfl
theorem segLog_def (s : Nat) : segLog s = Nat.log2 ((s * 2 + 4) / 3) := rfl

theorem getSeg_sqrt (L0 index : Nat) : getSeg .sqrt L0 index =
    ((index / 2 ^ L0 + 1) / 2 ^ logItem (index / 2 ^ L0 + 1) + 2 ^ logItem (index / 2 ^ L0 + 1) - 2,
     ((index / 2 ^ L0 + 1) % 2 ^ logItem (index / 2 ^ L0 + 1)) * 2 ^ L0 + index % 2 ^ L0) := rfl

theorem getIndex_sqrt (L0 seg item : Nat) : getIndex .sqrt L0 seg item =
    ((seg + 2 - 2 ^ segLog seg) * 2 ^ segLog seg + item / 2 ^ L0 - 1) * 2 ^ L0 + item % 2 ^ L0 := rfl

theorem itemCount_sqrt (L0 seg : Nat) : itemCount .sqrt L0 seg = 2 ^ (segLog seg + L0) := rfl

theorem logItem_eq_iff {n : Nat} (hn : n ≠ 0) (k : Nat) :
    logItem n = k ↔ 2 ^ (2 * k) ≤ 2 * n ∧ n < 2 ^ (2 * k + 1) := by
  rw [logItem_def, ← Nat.le_log2 (Nat.mul_ne_zero (by decide) hn), Nat.log2_two_mul hn, ← Nat.log2_lt hn]
  omega

theorem two_pow_pred {k : Nat} (hk : 1 ≤ k) : 2 ^ k = 2 * 2 ^ (k - 1) := by
  rw [Nat.mul_comm, ← Nat.pow_succ, Nat.succ_eq_add_one, Nat.sub_add_cancel hk]

theorem logItem_class (i1 : Nat) (h : 1 ≤ i1) :
    (logItem i1 = 0 ∧ i1 = 1) ∨
    (1 ≤ logItem i1 ∧ 2 ^ (2 * logItem i1 - 1) ≤ i1 ∧ i1 < 2 ^ (2 * logItem i1 + 1)) := by
  obtain ⟨lo, hi⟩ := (logItem_eq_iff (Nat.ne_of_gt h) _).mp rfl
  by_cases hk : logItem i1 = 0
  · rw [hk] at hi
    exact .inl ⟨hk, by omega⟩
  · rw [two_pow_pred (by omega : 1 ≤ 2 * logItem i1)] at lo
    exact .inr ⟨by omega, by omega, hi⟩

theorem quot_range (i1 k : Nat) (hk : 1 ≤ k) (lo : 2 ^ (2 * k - 1) ≤ i1) (hi : i1 < 2 ^ (2 * k + 1)) :
    2 ^ (k - 1) ≤ i1 / 2 ^ k ∧ i1 / 2 ^ k < 2 * 2 ^ k := by
  rw [Nat.le_div_iff_mul_le (Nat.two_pow_pos k), Nat.div_lt_iff_lt_mul (Nat.two_pow_pos k), ← Nat.pow_add,
    Nat.mul_comm 2, ← Nat.pow_succ, ← Nat.pow_add]
  exact ⟨by rwa [show k - 1 + k = 2 * k - 1 by omega], by rwa [show k + 1 + k = 2 * k + 1 by omega]⟩

theorem segLog_eq_iff (s k : Nat) : segLog s = k ↔ 3 * 2 ^ k ≤ 2 * s + 4 ∧ 2 * s + 4 < 6 * 2 ^ k := by
  rw [segLog_def, Nat.log2_eq_iff (by omega), Nat.le_div_iff_mul_le (by decide), Nat.div_lt_iff_lt_mul (by decide),
    Nat.pow_succ]
  omega

theorem segLog_class (s : Nat) : 3 * 2 ^ segLog s ≤ 2 * s + 4 ∧ 2 * s + 4 < 6 * 2 ^ segLog s :=
  (segLog_eq_iff s _).mp rfl

/-- the quotient `q = s + 2 - 2^k` of a segment of class `k = segLog s` lies in `[2^k / 2, 2 · 2^k)`; the third part is what the
    machine subtraction `segIndex + 2 - (1 << k)` needs in order not to wrap -/
theorem seg_quot (s : Nat) :
    2 ^ segLog s ≤ 2 * (s + 2 - 2 ^ segLog s) ∧ 2 * (s + 2 - 2 ^ segLog s) < 4 * 2 ^ segLog s ∧
    2 ^ segLog s ≤ s + 2 - 1 := by
  have := segLog_class s
  have := Nat.two_pow_pos (segLog s)
  omega

/-- `index1` of the first slot of segment `s` -/
def segBase (s : Nat) : Nat := (s + 2 - 2 ^ segLog s) * 2 ^ segLog s

theorem segBase_pos (s : Nat) : 1 ≤ segBase s :=
  Nat.mul_pos (by have := seg_quot s; have := Nat.two_pow_pos (segLog s); omega) (Nat.two_pow_pos _)

theorem segBase_succ (s : Nat) : segBase (s + 1) = segBase s + 2 ^ segLog s := by
  obtain ⟨lo, hi⟩ := segLog_class s
  unfold segBase
  -- the next segment has the same class, or the next class exactly at `s = 3·2^k - 3`
  by_cases h : 2 * (s + 1) + 4 < 6 * 2 ^ segLog s
  · rw [(segLog_eq_iff (s + 1) _).mpr ⟨Nat.le_trans lo (by omega), h⟩, ← Nat.succ_mul, Nat.succ_eq_add_one,
      ← Nat.sub_add_comm (by omega)]
  · have e : segLog (s + 1) = segLog s + 1 := by
      rw [segLog_eq_iff, Nat.pow_succ]; omega
    rw [e, Nat.pow_succ, ← Nat.succ_mul]
    generalize 2 ^ segLog s = P at *
    obtain ⟨e1, e2⟩ : s + 1 + 2 - P * 2 = P ∧ (s + 2 - P).succ = P * 2 := by omega
    rw [e1, e2, Nat.mul_comm]

theorem logItem_of_seg (s r : Nat) (hr : r < 2 ^ segLog s) : logItem (segBase s + r) = segLog s := by
  obtain ⟨q1, q2, _⟩ := seg_quot s
  have hB := segBase_pos s
  unfold segBase at *
  generalize s + 2 - 2 ^ segLog s = q at *
  generalize segLog s = k at *
  have lo : 2 ^ k * 2 ^ k ≤ 2 * q * 2 ^ k := Nat.mul_le_mul_right _ q1
  have hi : (q + 1) * 2 ^ k ≤ 2 * 2 ^ k * 2 ^ k := Nat.mul_le_mul_right _ (by omega)
  rw [logItem_eq_iff (by omega), Nat.pow_succ, Nat.two_mul k, Nat.pow_add]
  rw [Nat.mul_assoc] at lo hi
  rw [Nat.add_mul] at hi
  omega

theorem getIndex_sqrt_eq (L0 s o : Nat) : getIndex .sqrt L0 s o = (segBase s - 1) * 2 ^ L0 + o := by
  rw [getIndex_sqrt]
  show (segBase s + o / 2 ^ L0 - 1) * 2 ^ L0 + o % 2 ^ L0 = _
  rw [Nat.sub_add_comm (segBase_pos s), Nat.add_mul, Nat.add_assoc, Nat.div_add_mod']

/-- `index1 = (index >> L0) + 1` of slot `(s, o)` -/
theorem sqrt_index1 (L0 s o : Nat) : getIndex .sqrt L0 s o / 2 ^ L0 + 1 = segBase s + o / 2 ^ L0 := by
  rw [getIndex_sqrt_eq, Nat.mul_comm, Nat.mul_add_div (Nat.two_pow_pos L0), Nat.add_right_comm,
    Nat.sub_add_cancel (segBase_pos s)]

theorem sqrt_affine (L0 s o : Nat) : getIndex .sqrt L0 s o = getIndex .sqrt L0 s 0 + o := by
  rw [getIndex_sqrt_eq, getIndex_sqrt_eq]; rfl

theorem sqrt_inverse (L0 s o : Nat) (ho : o < itemCount .sqrt L0 s) :
    getSeg .sqrt L0 (getIndex .sqrt L0 s o) = (s, o) := by
  rw [itemCount_sqrt, Nat.pow_add] at ho
  have hr : o / 2 ^ L0 < 2 ^ segLog s := (Nat.div_lt_iff_lt_mul (Nat.two_pow_pos L0)).mpr ho
  have hmod : getIndex .sqrt L0 s o % 2 ^ L0 = o % 2 ^ L0 := by
    rw [getIndex_sqrt_eq, Nat.mul_comm, Nat.mul_add_mod]
  rw [getSeg_sqrt, sqrt_index1, hmod, logItem_of_seg s _ hr, segBase, Nat.mul_comm _ (2 ^ segLog s),
    Nat.mul_add_div (Nat.two_pow_pos _), Nat.mul_add_mod, Nat.div_eq_of_lt hr, Nat.mod_eq_of_lt hr,
    Nat.div_add_mod']
  have := seg_quot s
  congr 1; omega

theorem sqrt_base_succ (L0 s : Nat) :
    getIndex .sqrt L0 (s + 1) 0 = getIndex .sqrt L0 s 0 + itemCount .sqrt L0 s := by
  rw [getIndex_sqrt_eq, getIndex_sqrt_eq, segBase_succ, itemCount_sqrt, Nat.pow_add,
    Nat.sub_add_comm (segBase_pos s), Nat.add_mul, Nat.add_zero, Nat.add_zero]

theorem sqrt_base_zero (L0 : Nat) : getIndex .sqrt L0 0 0 = 0 := by
  rw [getIndex_sqrt_eq, show segBase 0 = 1 by decide, Nat.zero_mul]

theorem sqrt_lawful (L0 : Nat) : (sizing .sqrt L0).Lawful :=
  .of_inverse (sqrt_inverse L0) (sqrt_affine L0) (sqrt_base_succ L0) (sqrt_base_zero L0) fun _ => Nat.two_pow_pos _

theorem sqrt_roundtrip (L0 index : Nat) :
    getIndex .sqrt L0 (getSeg .sqrt L0 index).1 (getSeg .sqrt L0 index).2 = index :=
  (sqrt_lawful L0).roundtrip index

theorem segLog_getSeg (L0 index : Nat) :
    segLog (getSeg .sqrt L0 index).1 = logItem (index / 2 ^ L0 + 1) := by
  have lt : (getSeg .sqrt L0 index).2 < itemCount .sqrt L0 (getSeg .sqrt L0 index).1 :=
    (sqrt_lawful L0).item_lt index
  rw [itemCount_sqrt, Nat.pow_add, ← Nat.div_lt_iff_lt_mul (Nat.two_pow_pos L0)] at lt
  conv => rhs; rw [← sqrt_roundtrip L0 index, sqrt_index1]
  exact (logItem_of_seg _ _ lt).symm

theorem sqrt_offset_le (L0 index : Nat) : (getSeg .sqrt L0 index).2 ≤ index := by
  have h := sqrt_roundtrip L0 index
  rw [sqrt_affine] at h
  omega

theorem two_pow_logItem_le {n : Nat} (hn : n ≠ 0) : 2 ^ logItem n ≤ n :=
  Nat.le_trans (Nat.pow_le_pow_right (by decide) (by rw [logItem_def]; omega)) (Nat.log2_self_le hn)

theorem cnst_lawful (L0 : Nat) : (sizing .cnst L0).Lawful := by
  refine .of_inverse (fun s o (ho : o < 2 ^ L0) => ?_) (fun _ _ => rfl) (fun s => Nat.succ_mul s _) (Nat.zero_mul _)
    fun _ => Nat.two_pow_pos _
  show ((s * 2 ^ L0 + o) / 2 ^ L0, (s * 2 ^ L0 + o) % 2 ^ L0) = (s, o)
  rw [Nat.mul_comm, Nat.mul_add_div (Nat.two_pow_pos L0), Nat.mul_add_mod, Nat.div_eq_of_lt ho, Nat.mod_eq_of_lt ho]
  rfl

theorem sizing_lawful (f : Func) (L0 : Nat) : (sizing f L0).Lawful := by
  cases f
  · exact sqrt_lawful L0
  · exact cnst_lawful L0

/-! The laws in the model's own terms: a `rw` needs `getIndex f L0 …`, which `(sizing f L0).getIndex …` does not match syntactically. -/

theorem getIndex_getSeg (f : Func) (L0 i : Nat) : getIndex f L0 (getSeg f L0 i).1 (getSeg f L0 i).2 = i :=
  (sizing_lawful f L0).roundtrip i

theorem getSeg_getIndex (f : Func) (L0 s o : Nat) (ho : o < itemCount f L0 s) : getSeg f L0 (getIndex f L0 s o) = (s, o) :=
  (sizing_lawful f L0).inverse s o ho

theorem getIndex_zero_eq_sum (f : Func) (L0 n : Nat) : getIndex f L0 n 0 = ((List.range n).map (itemCount f L0)).sum :=
  (sizing_lawful f L0).cap_eq_sum n

end Momo.Seg
