import Momo.Proof.ArrFaultBasic
/-!
  C04 / C10: the summary theorems: `step_spec` over all operations with its two readings `strong_step`, `basic_step`; `ctor_step` for the
  constructors; `nofault_step` (no fault: every operation completes). That the fault-free results are valid (`addBackCopy_wf`,
  `setCount_wf`, ...) comes from `ArrOps.lean`.
-/
namespace Momo.ArrF
open Momo Momo.Arr
open FM (throw tryCatch)
variable {α β γ : Type}

-- `Post` is used through its lemmas only (the reason is given in `ArrFault.lean`)
attribute [local irreducible] Post

set_option linter.unusedVariables false in -- `cfg` is not used
/-- preconditions of the operations (the `MOMO_CHECK`s of the interface) -/
def FOp.pre (cfg : Cfg) (s : State α) : FOp α → Prop
  | .insertCrt index _ _ => index ≤ s.cells.length
  | .insertMove index _ => index ≤ s.cells.length
  | .insertN index _ _ => index ≤ s.cells.length
  | .insertRange index _ => index ≤ s.cells.length
  | .remove index count => index + count ≤ s.cells.length
  | _ => True

/-- upper bound for the items an interrupted operation may have added -/
def FOp.maxAdd : FOp α → Nat
  | .insertCrt .. => 1
  | .insertMove .. => 1
  | .insertN _ count _ => count
  | .insertRange _ xs => xs.length
  | _ => 0

theorem Strong.valid {cfg : Cfg} {rest : List Nat} {k : Nat} {m : FM α Unit} {x : Sys α} {s' : State α}
    (h : Strong cfg rest k m x s') (w : WF cfg s') :
    PostF m x (fun _ y => y.arr = s' ∧ Valid cfg rest k y) (fun y => y.core = x.core) :=
  PostF.mono h (fun _ _ h => ⟨h.1, h.1 ▸ w, h.2.1, by rw [h.2.2.1, h.1], h.2.2.2⟩) fun _ h => h

/-- every operation: the fault-free state on completion; after an exception everything as before for the operations
    documented as strongly exception-safe (Array.h:181-186), a valid array with a count between the old and the intended
    one for the others -/
theorem step_spec (cfg : Cfg) (thr : Thr) (rest : List Nat) (k : Nat) (op : FOp α)
    (x : Sys α) (v : Valid cfg rest k x) (hpre : op.pre cfg x.arr) :
    PostF (stepF cfg thr op) x
      (fun _ y => y.arr = (pureStep cfg x.arr op).1 ∧ Valid cfg rest k y)
      (fun y => if op.strong then y.core = x.core else Valid cfg rest k y ∧ x.arr.cells.length ≤ y.arr.cells.length ∧
        y.arr.cells.length ≤ x.arr.cells.length + op.maxAdd) :=
  match op, hpre with
  | .addBackCopy item, _ => (addBackCopyF_strong cfg thr rest k item x v).valid (addBackCopy_wf cfg x.arr item v.wf)
  | .addBackMove item, _ => (addBackMoveF_strong cfg thr rest k item x v).valid (addBackMoveOp_wf cfg x.arr item v.wf)
  | .addBackCrt mv item, _ => (addBackCrtF_strong cfg thr rest k mv item x v).valid (addBackCrt_wf cfg x.arr mv item v.wf)
  | .setCount count item, _ => (setCountF_strong cfg thr rest k count item x v).valid (setCount_wf cfg x.arr count item v.wf)
  | .reserve n, _ => (reserveF_strong cfg thr rest k n x v).valid (reserve_spec cfg x.arr n v.wf).2.2
  | .shrink n, _ => (shrinkF_strong cfg thr rest k n x v).valid (shrink_wf cfg x.arr n v.wf)
  | .copyAssign src, _ => (copyAssignF_strong cfg thr rest k src x v).valid (copyAssign_wf cfg x.arr src)
  | .insertCrt index mv item, hpre => insertCrtF_basic cfg thr rest k index mv item x v hpre
  | .insertMove index item, hpre => insertMoveF_basic cfg thr rest k index item x v hpre
  | .insertN index count item, hpre => insertNF_basic cfg thr rest k index count item x v hpre
  | .insertRange index xs, hpre => insertRangeF_basic cfg thr rest k index xs x v hpre
  | .remove index count, hpre => removeF_basic cfg thr rest k index count x v hpre
  | .removeIf p, _ =>
    PostF.bind' _ _ (removeIfF_basic cfg thr rest k p x v) (fun _ h => ⟨h.1, Nat.le_of_eq h.2.symm, Nat.le_of_eq h.2⟩)
      fun _ _ h => .pure ⟨h.1, h.2.2⟩

theorem pre_of_strong (cfg : Cfg) (op : FOp α) (hop : op.strong = true) (a : State α) : op.pre cfg a := by
  cases op <;> simp [FOp.strong] at hop <;> trivial

theorem strong_step (cfg : Cfg) (thr : Thr) (rest : List Nat) (k : Nat) (op : FOp α) (hop : op.strong = true)
    (x : Sys α) (v : Valid cfg rest k x) :
    PostF (stepF cfg thr op) x
      (fun _ y => y.arr = (pureStep cfg x.arr op).1 ∧ Valid cfg rest k y)
      (fun y => y.core = x.core) :=
  PostF.mono (step_spec cfg thr rest k op x v (pre_of_strong cfg op hop x.arr)) (fun _ _ h => h) fun _ h => (if_pos hop).mp h

theorem basic_step (cfg : Cfg) (thr : Thr) (rest : List Nat) (k : Nat) (op : FOp α)
    (x : Sys α) (v : Valid cfg rest k x) (hpre : op.pre cfg x.arr) :
    PostF (stepF cfg thr op) x
      (fun _ y => y.arr = (pureStep cfg x.arr op).1 ∧ Valid cfg rest k y)
      (fun y => Valid cfg rest k y ∧ x.arr.cells.length ≤ y.arr.cells.length ∧
        y.arr.cells.length ≤ x.arr.cells.length + op.maxAdd) :=
  PostF.mono (step_spec cfg thr rest k op x v hpre) (fun _ _ h => h) fun _ h => by
    split at h
    · exact v.unchanged h
    · exact h

/-- the constructors `Array(const Array&, bool shrink)`, `Array(count, item)`, `Array(begin, end)` -/
theorem ctor_step (cfg : Cfg) (thr : Thr) (cap0 : Nat) (xs : List (Cell α)) (x : Sys α) (hx : xs.length ≤ cap0) :
    PostF (newFromF cfg thr cap0 xs) x
      (fun _ y => y.arr = (withCells (newCap cfg cap0) (fun _ => xs)).1 ∧ WF cfg y.arr ∧
        y.blocks = ownBlocks cfg y.arr ++ x.blocks ∧ y.objs = x.objs + y.arr.cells.length ∧ y.bad = x.bad)
      (fun y => y.blocks = x.blocks ∧ y.objs = x.objs ∧ y.bad = x.bad) := by
  apply PostF.mono (newFromF_spec cfg thr cap0 xs x) _ (fun _ h => h)
  rintro _ y ⟨ya, yb, yo, ybad⟩
  have w := (newCap_wf cfg cap0 xs hx).oracle (withCells (newCap cfg cap0) (fun _ => xs)).1.oracle
  refine ⟨ya, ya ▸ w, yb.blocks, ?_, ybad⟩
  rw [yo, ya]; rfl

/-! With an exhausted fault schedule every operation completes with the fault-free state: the clause that `PostF` adds to `Post`,
    read off `basic_step`. -/

def CompletesP (m : FM α β) (P : β → Prop) : Prop :=
  ∀ x : Sys α, x.faults = [] → ∃ b y, m.run x = (.ok b, y) ∧ y.faults = [] ∧ P b

theorem CompletesP.weaken {m : FM α β} {P Q : β → Prop} (h : CompletesP m P) (hq : ∀ b, P b → Q b) : CompletesP m Q := by
  intro x hx
  obtain ⟨b, y, hm, hy, hp⟩ := h x hx
  exact ⟨b, y, hm, hy, hq b hp⟩

theorem nofault_step (cfg : Cfg) (thr : Thr) (rest : List Nat) (k : Nat) (op : FOp α)
    (x : Sys α) (v : Valid cfg rest k x) (hpre : op.pre cfg x.arr) (hf : x.faults = []) :
    ∃ y, (stepF cfg thr op).run x = (.ok (), y) ∧ y.arr = (pureStep cfg x.arr op).1 ∧ Valid cfg rest k y :=
  have ⟨_, y, hrun, _, h⟩ := (basic_step cfg thr rest k op x v hpre).completes hf
  ⟨y, hrun, h⟩

end Momo.ArrF
