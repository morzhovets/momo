import Momo.Model.StdWrap
import Batteries.Data.List.Perm
import Momo.Proof.ListFacts
/-!
  C06, section 2 of `Model/StdWrap.lean`: `unordered_multimap::operator==` decides equality of the stored
  pairs as multisets; with distinct keys, `operator==` of `unordered_set` / `unordered_map` decides equality up to order.
-/
namespace Momo.StdWrap
open List

theorem pairs_cons (e : Nat × List Nat) (t : MM) : MM.pairs (e :: t) = e.2.map (fun v => (e.1, v)) ++ MM.pairs t :=
  flatMap_cons

theorem length_pairs (a : MM) : a.pairs.length = a.count := by
  induction a with
  | nil => rfl
  | cons e t ih => rw [pairs_cons, length_append, length_map, ih, MM.count, MM.count, map_cons, sum_cons]

theorem mem_pairs_key {m : MM} {x : Nat × Nat} (h : x ∈ m.pairs) : x.1 ∈ m.map (·.1) := by
  obtain ⟨e, he, hx⟩ := mem_flatMap.mp h
  obtain ⟨v, _, rfl⟩ := mem_map.mp hx
  exact mem_map_of_mem he

theorem pairs_filter_key (m : MM) (hn : (m.map (·.1)).Nodup) (k : Nat) :
    m.pairs.filter (fun e => e.1 == k) = ((m.lookup k).getD []).map (fun v => (k, v)) := by
  induction m with
  | nil => rfl
  | cons e t ih =>
    obtain ⟨k', vs⟩ := e
    obtain ⟨he, hn'⟩ := nodup_cons.mp hn
    rw [pairs_cons, filter_append, ListFacts.filter_map_fst (· == k), ListFacts.lookup_cons_ite]
    by_cases hk : k = k'
    · subst hk
      rw [beq_self_eq_true, if_pos rfl, if_pos rfl, Option.getD_some, append_right_eq_self, filter_eq_nil_iff]
      exact fun x hx hxk => he (beq_iff_eq.mp hxk ▸ mem_pairs_key hx)
    · rw [beq_false_of_ne (Ne.symm hk), if_neg Bool.false_ne_true, if_neg hk]; exact ih hn'

theorem count_pairs (a : MM) (ha : (a.map (·.1)).Nodup) (k v : Nat) :
    count (k, v) a.pairs = count v ((a.lookup k).getD []) := by
  rw [← count_filter (p := fun e => e.1 == k) (beq_self_eq_true k), pairs_filter_key a ha k]
  generalize (a.lookup k).getD [] = vs
  induction vs with
  | nil => rfl
  | cons w t ih => rw [map_cons, count_cons, count_cons, ih]; simp

theorem lookup_of_mem (a : MM) (ha : (a.map (·.1)).Nodup) (e : Nat × List Nat) (he : e ∈ a) :
    a.lookup e.1 = some e.2 := by
  induction a with
  | nil => cases he
  | cons x t ih =>
    obtain ⟨k', vs⟩ := x
    obtain ⟨hx, hn'⟩ := nodup_cons.mp ha
    rw [ListFacts.lookup_cons_ite]
    rcases mem_cons.mp he with rfl | h
    · rw [if_pos rfl]
    · rw [if_neg fun heq : e.1 = k' => hx (heq ▸ mem_map_of_mem (f := (·.1)) h)]; exact ih hn' h

theorem mmEq_iff (a b : MM) : mmEq a b = true ↔
    a.count = b.count ∧ ∀ e ∈ a, e.2 = [] ∨ ∃ ws, b.lookup e.1 = some ws ∧ e.2.length = ws.length ∧ e.2 ~ ws := by
  rw [mmEq]
  by_cases hc : a.count = b.count
  · rw [if_neg (not_not_intro hc), all_eq_true]
    refine (and_iff_right hc).symm.trans (and_congr_right' (forall₂_congr fun e _ => ?_))
    rw [Bool.or_eq_true, isEmpty_iff]
    refine or_congr_right ?_
    cases b.lookup e.1 with
    | none => exact ⟨fun h => (nomatch h), fun ⟨_, h, _⟩ => (nomatch h)⟩
    | some ws => simp only [Bool.and_eq_true, beq_iff_eq, isPerm_iff, Option.some.injEq, exists_eq_left']
  · rw [if_pos hc]; exact ⟨fun h => (nomatch h), fun h => absurd h.1 hc⟩

theorem mmEq_iff_perm (a b : MM) (ha : (a.map (·.1)).Nodup) (hb : (b.map (·.1)).Nodup) :
    mmEq a b = true ↔ a.pairs ~ b.pairs := by
  rw [mmEq_iff]
  constructor
  · intro ⟨hc, hall⟩
    -- each pair occurs in `b` at least as often as in `a` (`count_pairs`: the multiplicity of `(k, v)` is that of `v` in the array of `k`),
    -- and the lengths agree
    apply Subperm.perm_of_length_le
    · rw [subperm_ext_iff]
      intro x hx
      obtain ⟨k, v⟩ := x
      simp only [MM.pairs, mem_flatMap, mem_map] at hx
      obtain ⟨e, he, w, hw, hkv⟩ := hx
      have hk : e.1 = k := by cases hkv; rfl
      have hv : w = v := by cases hkv; rfl
      subst hk hv
      rw [count_pairs a ha, count_pairs b hb]
      have hla := lookup_of_mem a ha e he
      rcases hall e he with h | ⟨ws, hl, _, hp⟩
      · rw [h] at hw; cases hw
      · rw [hla, hl]; exact Nat.le_of_eq (hp.count_eq w)
    · rw [length_pairs, length_pairs, hc]; exact Nat.le_refl _
  · intro hp
    -- the arrays of one key have the same multiplicities (`perm_iff_count`), read off the pairs
    refine ⟨by rw [← length_pairs, ← length_pairs]; exact hp.length_eq, ?_⟩
    intro e he
    by_cases hemp : e.2 = []
    · exact Or.inl hemp
    · right
      have hla := lookup_of_mem a ha e he
      have hperm : e.2 ~ (b.lookup e.1).getD [] := perm_iff_count.mpr fun v => by
        have := hp.count_eq (e.1, v)
        rwa [count_pairs a ha, count_pairs b hb, hla] at this
      cases hl : b.lookup e.1 with
      | none => rw [hl] at hperm; exact absurd hperm.eq_nil hemp
      | some ws => rw [hl] at hperm; exact ⟨ws, rfl, hperm.length_eq, hperm⟩

theorem find?_key_iff {b : List Item} (hb : (b.map (·.1)).Nodup) {k : Nat} {x : Item} :
    b.find? (fun y => y.1 == k) = some x ↔ x ∈ b ∧ x.1 = k :=
  ⟨fun h => ⟨mem_of_find?_eq_some h, beq_iff_eq.mp (find?_some h :)⟩,
    fun ⟨hx, hk⟩ => ListFacts.find?_unique hx (beq_iff_eq.mpr hk) fun _ hy hq =>
      ListFacts.key_inj (·.1) hb hy hx ((beq_iff_eq.mp hq).trans hk.symm)⟩

theorem usetEq_iff_perm (a b : List Item) (ha : (a.map (·.1)).Nodup) (hb : (b.map (·.1)).Nodup) :
    usetEq a b = true ↔ a.Perm b := by
  rw [usetEq, Bool.and_eq_true, beq_iff_eq, all_eq_true]
  refine (and_congr_right' (forall₂_congr fun e _ => ?_)).trans
    ⟨fun ⟨hlen, hsub⟩ => (subperm_of_subset (ListFacts.nodup_of_keys ha) hsub).perm_of_length_le (Nat.le_of_eq hlen.symm),
      fun hp => ⟨hp.length_eq, fun _ he => hp.subset he⟩⟩
  -- the test on one element of `a` says that it is an element of `b`
  refine Iff.trans ?_ ((find?_key_iff hb (k := e.1) (x := e)).trans (and_iff_left rfl))
  cases b.find? (fun x => x.1 == e.1) with
  | none => exact ⟨nofun, nofun⟩
  | some x => rw [beq_iff_eq, Option.some.injEq]

end Momo.StdWrap
