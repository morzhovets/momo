import Momo.Proof.StdWUnoOps
/-!
  The C06 history theorem for `unordered_set` / `unordered_map`: the wrapper model keeps each table in a traversal
  order that an oracle re-arranges after every call; the specification keeps the elements in some other order. The
  abstraction relation `RelU` says the two are permutations of each other (and the keys are distinct). Every legal
  call gives the same observation and keeps the relation, for every oracle.
-/
namespace Momo.StdW
open Momo.StdWrap List
open Momo.StdSpec hiding Item

/-- wrapper state `w` (tables in traversal order) against specification state `s`: the same elements in some order, the same node handle.
    Distinctness of keys is kept on the specification side, where the `su*` functions are applied; `RelU.nodupW` carries it over. -/
structure RelU (w s : St) : Prop where
  a : w.a.Perm s.a
  b : w.b.Perm s.b
  node : w.node = s.node
  na : NodupKeys s.a
  nb : NodupKeys s.b

theorem RelU.get {w s : St} (h : RelU w s) (c : Side) : (w.get c).Perm (s.get c) := by
  cases c <;> simp [St.get, h.a, h.b]

theorem RelU.nodup {w s : St} (h : RelU w s) (c : Side) : NodupKeys (s.get c) := by
  cases c <;> simp [St.get, h.na, h.nb]

theorem RelU.uFind {w s : St} (h : RelU w s) (c : Side) (k : Nat) : uFind k (w.get c) = uFind k (s.get c) :=
  uFind_perm (h.get c) (h.nodup c) k

theorem RelU.nodupW {w s : St} (h : RelU w s) (c : Side) : NodupKeys (w.get c) := (h.nodup c).perm (h.get c)

theorem RelU.put {w s : St} (h : RelU w s) (c : Side) {xs ys : List Item} (hp : xs.Perm ys) (hn : NodupKeys ys) :
    RelU (w.put c xs) (s.put c ys) := by
  cases c
  · exact ⟨hp, h.b, h.node, hn, h.nb⟩
  · exact ⟨h.a, hp, h.node, h.na, hn⟩

theorem RelU.setNode {w s : St} (h : RelU w s) (n : Option Item) : RelU { w with node := n } { s with node := n } :=
  ⟨h.a, h.b, rfl, h.na, h.nb⟩

theorem RelU.filter {w s : St} (h : RelU w s) (c : Side) (p : Item → Bool) :
    RelU (w.put c ((w.get c).filter p)) (s.put c ((s.get c).filter p)) :=
  h.put c ((h.get c).filter p) ((h.nodup c).filter p)

theorem wrapUCore_refines (isMap : Bool) (w s : St) (hr : RelU w s) (c : UCall) (hl : c.legal isMap s = true) :
    (wrapUCore w c).2 = (c.spec s).2 ∧ RelU (wrapUCore w c).1 (c.spec s).1 := by
  cases c with
  | insertRange c ys | insertList c ys =>
    obtain ⟨h1, h3⟩ := hInsertMany_rel ys (hr.get c) (hr.nodup c)
    exact ⟨rfl, hr.put c h1 h3⟩
  | insert c x | emplace c x | insertHint c x | emplaceHint c x | tryEmplace c _ x =>
    obtain ⟨h1, h2, h3⟩ := hInsert_rel (hr.get c) (hr.nodup c) x
    simp only [wrapUCore, UCall.spec, h2]
    exact ⟨trivial, hr.put c h1 h3⟩
  | insertOrAssign c hinted x =>
    obtain ⟨h1, h2, h3⟩ := wuInsertOrAssign_rel (hr.get c) (hr.nodup c) x
    simp only [wrapUCore, UCall.spec, h2]
    exact ⟨trivial, hr.put c h1 h3⟩
  | index c k =>
    obtain ⟨h1, h2, h3⟩ := hInsert_rel (hr.get c) (hr.nodup c) (k, 0)
    simp only [wrapUCore, UCall.spec, wuIndex_eq, h2]
    exact ⟨trivial, hr.put c h1 h3⟩
  | indexAssign c k v =>
    obtain ⟨h1, _, h3⟩ := wuInsertOrAssign_rel (hr.get c) (hr.nodup c) (k, v)
    simp only [wrapUCore, UCall.spec, wuIndexAssign_eq]
    exact ⟨trivial, hr.put c h1 h3⟩
  | «at» c k =>
    simp only [wrapUCore, UCall.spec, hFind_eq_uFind, hr.uFind c k]
    refine ⟨?_, hr⟩
    cases uFind k (s.get c) <;> simp [atObs]
  | find c k =>
    simp only [wrapUCore, UCall.spec, hFind_eq_uFind, hr.uFind c k]
    exact ⟨trivial, hr⟩
  | count c k =>
    simp only [wrapUCore, UCall.spec, hFind_eq_uFind, hr.uFind c k, uFind_isSome,
      countKey_unique _ (hr.nodup c) k]
    exact ⟨trivial, hr⟩
  | contains c k =>
    simp only [wrapUCore, UCall.spec, hFind_eq_uFind, hr.uFind c k, uFind_isSome]
    exact ⟨trivial, hr⟩
  | equalRange c k =>
    simp only [wrapUCore, UCall.spec, hFind_eq_uFind, hr.uFind c k,
      filter_key_unique _ (hr.nodup c) k]
    refine ⟨?_, hr⟩
    cases uFind k (s.get c) <;> simp [canon, canonIns]
  | eraseKey c k =>
    simp only [wrapUCore, UCall.spec, hRemoveKey, hFind_eq_uFind, hr.uFind c k, uFind_isSome,
      countKey_unique _ (hr.nodup c) k]
    exact ⟨trivial, hr.filter c _⟩
  | eraseElem c k =>
    simp only [wrapUCore, UCall.spec, hRemoveAt_hPos _ (hr.nodupW c) k]
    exact ⟨trivial, hr.filter c _⟩
  | eraseRange c r =>
    cases r with
    | empty =>
      simp only [wrapUCore, UCall.spec, wuEraseRange_empty, St.put_get]
      exact ⟨trivial, hr⟩
    | single k mv =>
      have hk : hasKey k (w.get c) = true := by
        rw [hasKey_perm (hr.get c)]; simpa [UCall.legal] using hl
      simp only [wrapUCore, UCall.spec, wuEraseRange_single _ (hr.nodupW c) k mv hk]
      exact ⟨trivial, hr.filter c _⟩
    | whole =>
      simp only [wrapUCore, UCall.spec, wuEraseRange_whole]
      exact ⟨trivial, hr.put c (Perm.refl _) nodupKeys_nil⟩
  | eraseIf c m r =>
    have e : ((w.get c).filter fun e => !(e.1 % m == r)) = (w.get c).filter fun e => e.1 % m != r := rfl
    have hlen := ((hr.get c).filter (fun e => e.1 % m != r)).length_eq
    simp only [wrapUCore, UCall.spec, e, hlen, (hr.get c).length_eq]
    exact ⟨trivial, hr.filter c _⟩
  | extractKey c k =>
    have hu := hr.uFind c k
    simp only [wrapUCore, UCall.spec, hFind_eq_uFind, hu]
    cases hf : uFind k (s.get c) with
    | some e =>
      simp only [hRemoveAt_hPos _ (hr.nodupW c) k]
      exact ⟨trivial, (hr.filter c _).setNode _⟩
    | none =>
      simp only [filter_ne_of_absent _ k ((uFind_none_iff _ k).mp hf), St.put_get]
      exact ⟨trivial, hr.setNode _⟩
  | extractElem c k =>
    have hu := hr.uFind c k
    simp only [wrapUCore, UCall.spec, getElem?_hPos, hu, hRemoveAt_hPos _ (hr.nodupW c) k]
    exact ⟨trivial, (hr.filter c _).setNode _⟩
  | insertNode c =>
    simp only [wrapUCore, UCall.spec, hr.node]
    cases hn : s.node with
    | none => exact ⟨rfl, hr⟩
    | some x =>
      obtain ⟨h1, h2, h3⟩ := hInsert_rel (hr.get c) (hr.nodup c) x
      simp only [h2]
      exact ⟨trivial, (hr.put c h1 h3).setNode _⟩
  | insertNodeHint c =>
    simp only [wrapUCore, UCall.spec, hr.node]
    cases hn : s.node with
    | none => exact ⟨rfl, hr⟩
    | some x =>
      obtain ⟨h1, h2, h3⟩ := hInsert_rel (hr.get c) (hr.nodup c) x
      simp only [h2]
      exact ⟨trivial, (hr.put c h1 h3).setNode _⟩
  | dropNode => exact ⟨rfl, hr.setNode _⟩
  | merge c =>
    obtain ⟨h1, h2, h3, h4⟩ := suMerge_rel (hr.get c) (hr.get c.other) (hr.nodup c) (hr.nodup c.other)
    simp only [wrapUCore, UCall.spec, hMergeFrom_eq _ _ (hr.nodupW c.other)]
    exact ⟨trivial, (hr.put c h1 h3).put c.other h2 h4⟩
  | clear c => exact ⟨rfl, hr.put c (Perm.refl _) nodupKeys_nil⟩
  | size c => simp only [wrapUCore, UCall.spec, (hr.get c).length_eq]; exact ⟨trivial, hr⟩
  | empty c =>
    refine ⟨?_, hr⟩
    simp only [wrapUCore, UCall.spec, Obs.flag.injEq]
    have := (hr.get c).length_eq
    cases h1 : w.get c <;> cases h2 : s.get c <;> simp_all
  | swap => exact ⟨rfl, hr.b, hr.a, hr.node, hr.nb, hr.na⟩
  | assignCopy c | constructCopy c => exact ⟨rfl, hr.put c (hr.get c.other) (hr.nodup c.other)⟩
  | assignMove c | constructMove c =>
    exact ⟨rfl, (hr.put c (hr.get c.other) (hr.nodup c.other)).put c.other (Perm.refl _) nodupKeys_nil⟩
  | compare =>
    simp only [wrapUCore, UCall.spec, usetEq_rel hr.a hr.b hr.na hr.nb]
    exact ⟨trivial, hr⟩
  | contents c =>
    simp only [wrapUCore, UCall.spec, canon_perm (hr.get c)]
    exact ⟨trivial, hr⟩
  | assignList c ys | constructRange c ys | constructList c ys =>
    obtain ⟨h1, h3⟩ := hInsertMany_rel ys (Perm.refl []) nodupKeys_nil
    exact ⟨rfl, hr.put c h1 h3⟩
  | reserve c n | rehash c n => exact ⟨rfl, hr⟩
  | maxLoadFactor c =>
    -- the rebuilt table is the old table: its keys are distinct
    simp only [wrapUCore, UCall.spec, rebuild_eq _ (hr.nodupW c), St.put_get]
    exact ⟨trivial, hr⟩

/-- the oracle that stands for the native hash table's bucket order: after call `n` it may permute a table, nothing else -/
def Rearranges (ρ : Nat → List Item → List Item) : Prop := ∀ n xs, (ρ n xs).Perm xs

theorem wrapU_refines (ρ : Nat → List Item → List Item) (hρ : Rearranges ρ) (isMap : Bool) (n : Nat) (w s : St)
    (hr : RelU w s) (c : UCall) (hl : c.legal isMap s = true) :
    (wrapU ρ n w c).2 = (c.spec s).2 ∧ RelU (wrapU ρ n w c).1 (c.spec s).1 := by
  obtain ⟨h1, h2⟩ := wrapUCore_refines isMap w s hr c hl
  exact ⟨h1, ⟨(hρ _ _).trans h2.a, (hρ _ _).trans h2.b, h2.node, h2.na, h2.nb⟩⟩

theorem runWrapU_eq (ρ : Nat → List Item → List Item) (hρ : Rearranges ρ) (isMap : Bool) (cs : List UCall) :
    ∀ (n : Nat) (w s : St), RelU w s → UCall.legalFrom isMap s cs = true →
    runWrapUFrom ρ n w cs = UCall.runSpecFrom s cs := by
  induction cs with
  | nil => intro n w s _ _; rfl
  | cons c t ih =>
    intro n w s hr hl
    simp only [UCall.legalFrom, Bool.and_eq_true] at hl
    obtain ⟨e, hr'⟩ := wrapU_refines ρ hρ isMap n w s hr c hl.1
    simp only [runWrapUFrom, UCall.runSpecFrom, e]
    rw [ih _ _ _ hr' hl.2]

theorem relU_init : RelU {} {} := ⟨Perm.refl _, Perm.refl _, rfl, nodupKeys_nil, nodupKeys_nil⟩

end Momo.StdW
