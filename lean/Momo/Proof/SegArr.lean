import Momo.Proof.SegIdeal
/-!
  The segment list of `SegmentedArray` under every operation history, for any lawful `Settings`:
  growth appends segments and nothing else, shrinking drops only segments beyond the live items, hence the
  place (allocation id, offset) of a live element never changes.
-/
namespace Momo.Seg
open Momo

/-- The segment list is what the allocation history of a `SegmentedArray` can produce: segment `s` was requested with
    `GetItemCount(s)` slots, and the ids (standing for block addresses) are distinct and below the allocation counter. It does
    not read `count`, which is why a state that differs in `count` only is re-packed field by field (`WF.withCount`). -/
structure SegsOK (S : Sizing) (a : Arr) : Prop where
  size_eq : ∀ s seg, a.segs[s]? = some seg → seg.size = S.itemCount s
  id_lt : ∀ seg, seg ∈ a.segs → seg.id < a.next
  nodup : a.segs.Pairwise (fun x y => x.id ≠ y.id)

/-- reachable states: `SegsOK` and `mCount ≤ GetCapacity()` -/
structure WF (S : Sizing) (a : Arr) : Prop extends SegsOK S a where
  count_le : a.count ≤ a.capacity S

theorem wf_init (S : Sizing) : WF S {} where
  size_eq := by intro s seg hs; simp at hs
  id_lt := by intro seg hs; simp at hs
  nodup := List.Pairwise.nil
  count_le := by show 0 ≤ S.getIndex 0 0; omega

theorem WF.withCount {S : Sizing} {a : Arr} (w : WF S a) {n : Nat} (hn : n ≤ a.capacity S) :
    WF S { a with count := n } :=
  ⟨⟨w.size_eq, w.id_lt, w.nodup⟩, hn⟩

theorem SegsOK.push {S : Sizing} {a : Arr} (ok : SegsOK S a) :
    SegsOK S { a with segs := a.segs ++ [⟨a.next, S.itemCount a.segs.length⟩], next := a.next + 1 } where
  size_eq s seg hs := by
    rcases Nat.lt_or_ge s a.segs.length with hlt | hge
    · exact ok.size_eq s seg (by rwa [List.getElem?_append_left hlt] at hs)
    · rw [List.getElem?_append_right hge, List.getElem?_singleton] at hs
      split at hs
      · obtain rfl : s = a.segs.length := by omega
        cases hs; rfl
      · cases hs
  id_lt seg hm := by
    rcases List.mem_append.mp hm with hm | hm
    · exact Nat.lt_succ_of_lt (ok.id_lt seg hm)
    · rw [List.mem_singleton.mp hm]; exact Nat.lt_succ_self _
  nodup := List.pairwise_append.mpr ⟨ok.nodup, List.pairwise_singleton _ _, fun x hx y hy => by
    rw [List.mem_singleton.mp hy]; exact Nat.ne_of_lt (ok.id_lt x hx)⟩

theorem allocSegs_spec (S : Sizing) (n : Nat) (a : Arr) (ok : SegsOK S a) :
    (∃ extra, (Arr.allocSegs S n a).segs = a.segs ++ extra ∧ extra.length = n) ∧
    (Arr.allocSegs S n a).count = a.count ∧ SegsOK S (Arr.allocSegs S n a) := by
  induction n generalizing a with
  | zero => exact ⟨⟨[], (List.append_nil _).symm, rfl⟩, rfl, ok⟩
  | succ n ih =>
    obtain ⟨⟨extra, he, hl⟩, hc, hok⟩ := ih _ ok.push
    exact ⟨⟨_ :: extra, by rw [Arr.allocSegs, he]; exact List.append_assoc _ _ _, congrArg (· + 1) hl⟩, hc, hok⟩

theorem SegsOK.take {S : Sizing} {a : Arr} (ok : SegsOK S a) (t : Nat) : SegsOK S { a with segs := a.segs.take t } where
  size_eq s seg hs := by
    rw [show ({ a with segs := a.segs.take t } : Arr).segs = a.segs.take t from rfl, List.getElem?_take] at hs
    split at hs
    · exact ok.size_eq s seg hs
    · cases hs
  id_lt seg hm := ok.id_lt seg (List.mem_of_mem_take hm)
  nodup := List.Pairwise.sublist (List.take_sublist _ _) ok.nodup

/-- How one operation may change the segment list. `keep` is what makes shrinking harmless: every element live before and
    after lies in a segment that is kept. `step_spec` produces a `SegChange` for every operation; `addr_of_change` is the
    only lemma that consumes one. -/
inductive SegChange (S : Sizing) (a b : Arr) : Prop where
  | append (extra : List Segment) (hs : b.segs = a.segs ++ extra)
  | drop (t : Nat) (hs : b.segs = a.segs.take t)
      (keep : ∀ i, i < a.count → i < b.count → (S.getSeg i).1 < t)

theorem SegChange.same {S : Sizing} {a b : Arr} (hs : b.segs = a.segs) : SegChange S a b :=
  .append [] (hs.trans (List.append_nil _).symm)

section steps
variable {S : Sizing} (h : S.Lawful)
include h

theorem incCapacity_spec (a : Arr) (c : Nat) (ok : SegsOK S a) :
    (∃ extra, (a.incCapacity S c).segs = a.segs ++ extra) ∧ (a.incCapacity S c).count = a.count ∧
    SegsOK S (a.incCapacity S c) ∧ c ≤ (a.incCapacity S c).capacity S := by
  obtain ⟨⟨extra, he, hl⟩, hc, hok⟩ := allocSegs_spec S (Arr.segsFor S c - a.segs.length) a ok
  refine ⟨⟨extra, he⟩, hc, hok, ?_⟩
  show c ≤ S.getIndex (Arr.allocSegs S _ a).segs.length 0
  rw [he, List.length_append, hl]
  exact (h.segsFor_le_iff c _).mp (by omega)

theorem reserve_spec (a : Arr) (c : Nat) (w : WF S a) :
    (∃ extra, (a.reserve S c).segs = a.segs ++ extra) ∧ (a.reserve S c).count = a.count ∧
    WF S (a.reserve S c) ∧ c ≤ (a.reserve S c).capacity S := by
  unfold Arr.reserve
  split
  · rename_i hgt
    obtain ⟨he, hc, hok, hcap⟩ := incCapacity_spec h a c w.toSegsOK
    exact ⟨he, hc, ⟨hok, hc ▸ Nat.le_trans w.count_le (Nat.le_trans (Nat.le_of_lt hgt) hcap)⟩, hcap⟩
  · exact ⟨⟨[], (List.append_nil _).symm⟩, rfl, w, Nat.le_of_not_lt ‹_›⟩

/-- the source's `MOMO_ASSERT(itemIndex == 0)` in `AddBackCrt` -/
theorem addBack_new_segment (a : Arr) (w : WF S a) (hn : ¬ (S.getSeg a.count).1 < a.segs.length) :
    S.getSeg a.count = (a.segs.length, 0) := by
  rw [h.seg_lt_iff] at hn
  rw [Nat.le_antisymm w.count_le (Nat.le_of_not_lt hn)]
  exact h.getSeg_cap _

theorem addBack_spec (a : Arr) (w : WF S a) :
    (∃ extra, (a.addBack S).segs = a.segs ++ extra) ∧ (a.addBack S).count = a.count + 1 ∧ WF S (a.addBack S) := by
  unfold Arr.addBack
  split
  · rename_i hlt
    exact ⟨⟨[], (List.append_nil _).symm⟩, rfl, w.withCount ((h.seg_lt_iff _ _).mp hlt)⟩
  · obtain ⟨⟨extra, he, hl⟩, _, hok⟩ := allocSegs_spec S 1 a w.toSegsOK
    refine ⟨⟨extra, he⟩, rfl, ⟨hok.size_eq, hok.id_lt, hok.nodup⟩, ?_⟩
    show a.count + 1 ≤ S.getIndex (Arr.allocSegs S 1 a).segs.length 0
    rw [he, List.length_append, hl, h.base_succ]
    exact Nat.add_le_add w.count_le (h.count_pos _)

theorem setCount_spec (a : Arr) (n : Nat) (w : WF S a) :
    (∃ extra, (a.setCount S n).segs = a.segs ++ extra) ∧ (a.setCount S n).count = n ∧ WF S (a.setCount S n) := by
  unfold Arr.setCount
  split
  · rename_i hlt
    exact ⟨⟨[], (List.append_nil _).symm⟩, rfl, w.withCount (Nat.le_trans (Nat.le_of_lt hlt) w.count_le)⟩
  · rename_i h1
    split
    · split
      · obtain ⟨he, _, hok, hcap⟩ := incCapacity_spec h a n w.toSegsOK
        exact ⟨he, rfl, ⟨hok.size_eq, hok.id_lt, hok.nodup⟩, hcap⟩
      · exact ⟨⟨[], (List.append_nil _).symm⟩, rfl, w.withCount (Nat.le_of_not_lt ‹_›)⟩
    · rename_i h2
      exact ⟨⟨[], (List.append_nil _).symm⟩, Nat.le_antisymm (Nat.le_of_not_lt h1) (Nat.le_of_not_lt h2), w⟩

theorem shrink_spec (a : Arr) (c : Nat) (w : WF S a) : WF S (a.shrink S c) ∧ SegChange S a (a.shrink S c) := by
  have hcap : a.count ≤ S.getIndex a.segs.length 0 := w.count_le
  unfold Arr.shrink
  split
  · exact ⟨w, .same rfl⟩
  · generalize hc' : (if c < a.count then a.count else c) = c'
    have hge : a.count ≤ S.getIndex (Arr.segsFor S c') 0 :=
      Nat.le_trans (by rw [← hc']; split <;> omega) (h.le_cap_segsFor c')
    refine ⟨⟨w.toSegsOK.take _, ?_⟩, .drop _ rfl fun i hi _ => (h.seg_lt_iff i _).mpr (Nat.lt_of_lt_of_le hi hge)⟩
    show a.count ≤ S.getIndex (a.segs.take (Arr.segsFor S c')).length 0
    rw [List.length_take]
    rcases Nat.le_total (Arr.segsFor S c') a.segs.length with hm | hm
    · rwa [Nat.min_eq_left hm]
    · rwa [Nat.min_eq_right hm]

theorem step_spec (a : Arr) (op : Op) (w : WF S a) : WF S (step S a op) ∧ SegChange S a (step S a op) := by
  cases op with
  | addBack => obtain ⟨⟨extra, he⟩, _, hw⟩ := addBack_spec h a w; exact ⟨hw, .append extra he⟩
  | reserve c => obtain ⟨⟨extra, he⟩, _, hw, _⟩ := reserve_spec h a c w; exact ⟨hw, .append extra he⟩
  | setCount n => obtain ⟨⟨extra, he⟩, _, hw⟩ := setCount_spec h a n w; exact ⟨hw, .append extra he⟩
  | shrink c => exact shrink_spec h a c w
  | shrinkFit => exact shrink_spec h a a.count w
  | clear b =>
    show WF S (a.clear S b) ∧ SegChange S a (a.clear S b)
    unfold Arr.clear
    split
    · exact ⟨⟨SegsOK.take (a := { a with count := 0 }) ⟨w.size_eq, w.id_lt, w.nodup⟩ _, Nat.zero_le _⟩,
        .drop _ rfl fun i _ hi => absurd hi (Nat.not_lt_zero _)⟩
    · exact ⟨w.withCount (Nat.zero_le _), .same rfl⟩
  | removeBack k =>
    show WF S (a.removeBack k) ∧ SegChange S a (a.removeBack k)
    unfold Arr.removeBack
    split
    · exact ⟨w.withCount (Nat.le_trans (Nat.sub_le _ _) w.count_le), .same rfl⟩
    · exact ⟨w, .same rfl⟩
  | insert =>
    obtain ⟨⟨extra, he⟩, _, hw, hcap⟩ := reserve_spec h a (a.count + 1) w
    exact ⟨hw.withCount hcap, .append extra he⟩

theorem grow_spec (a : Arr) (op : Op) (w : WF S a) (hg : op.isGrow a = true) :
    (∃ extra, (step S a op).segs = a.segs ++ extra) ∧ a.count ≤ (step S a op).count := by
  cases op with
  | addBack => obtain ⟨he, hc, _⟩ := addBack_spec h a w; exact ⟨he, Nat.le.intro hc.symm⟩
  | reserve c => obtain ⟨he, hc, _⟩ := reserve_spec h a c w; exact ⟨he, Nat.le_of_eq hc.symm⟩
  | setCount n =>
    obtain ⟨he, hc, _⟩ := setCount_spec h a n w
    exact ⟨he, Nat.le_trans (of_decide_eq_true hg) (Nat.le_of_eq hc.symm)⟩
  | insert => exact ⟨(reserve_spec h a (a.count + 1) w).1, Nat.le_succ _⟩
  | shrink c => cases hg
  | shrinkFit => cases hg
  | clear b => cases hg
  | removeBack k => cases hg

theorem seg_live (a : Arr) (w : WF S a) (i : Nat) (hi : i < a.count) : (S.getSeg i).1 < a.segs.length :=
  (h.seg_lt_iff i _).mpr (Nat.lt_of_lt_of_le hi w.count_le)

theorem addr_in_segment (a : Arr) (w : WF S a) (i : Nat) (hi : i < a.count) :
    ∃ seg, a.segs[(S.getSeg i).1]? = some seg ∧ (S.getSeg i).2 < seg.size := by
  have hs := List.getElem?_eq_getElem (seg_live h a w i hi)
  exact ⟨_, hs, by rw [w.size_eq _ _ hs]; exact h.item_lt i⟩

theorem addr_of_change (a b : Arr) (w : WF S a) (ch : SegChange S a b) (i : Nat) (h1 : i < a.count)
    (h2 : i < b.count) : b.addr S i = a.addr S i := by
  unfold Arr.addr
  cases ch with
  | append extra he => rw [he, List.getElem?_append_left (seg_live h a w i h1)]
  | drop t he keep => rw [he, List.getElem?_take, if_pos (keep i h1 h2)]

theorem addr_stable_step (a : Arr) (op : Op) (w : WF S a) (i : Nat) (h1 : i < a.count)
    (h2 : i < (step S a op).count) : (step S a op).addr S i = a.addr S i :=
  addr_of_change h a _ w (step_spec h a op w).2 i h1 h2

theorem run_wf (a : Arr) (ops : List Op) (w : WF S a) : WF S (run S a ops) := by
  induction ops generalizing a with
  | nil => exact w
  | cons op ops ih => exact ih _ (step_spec h a op w).1

theorem addr_stable_run (a : Arr) (ops : List Op) (w : WF S a) (i : Nat)
    (live : ∀ n, n ≤ ops.length → i < (run S a (ops.take n)).count) :
    (run S a ops).addr S i = a.addr S i := by
  induction ops generalizing a with
  | nil => rfl
  | cons op ops ih =>
    have h0 : i < a.count := by simpa [run] using live 0 (Nat.zero_le _)
    have h1 : i < (step S a op).count := by simpa [run] using live 1 (by simp)
    have := ih (step S a op) (step_spec h a op w).1 (by
      intro n hn
      have := live (n + 1) (by simp; omega)
      simpa [run] using this)
    show (run S (step S a op) ops).addr S i = _
    rw [this]
    exact addr_stable_step h a op w i h0 h1

theorem addr_injective (a : Arr) (w : WF S a) (i j : Nat) (hi : i < a.count) (hj : j < a.count)
    (he : a.addr S i = a.addr S j) : i = j := by
  have hi' := seg_live h a w i hi
  have hj' := seg_live h a w j hj
  unfold Arr.addr at he
  rw [List.getElem?_eq_getElem hi', List.getElem?_eq_getElem hj'] at he
  injection he with hid hoff
  have hid : a.segs[(S.getSeg i).1].id = a.segs[(S.getSeg j).1].id := Option.some.inj hid
  have hp := List.pairwise_iff_getElem.mp w.nodup
  refine h.injective (Prod.ext ?_ hoff)
  rcases Nat.lt_trichotomy (S.getSeg i).1 (S.getSeg j).1 with hlt | heq | hgt
  · exact absurd hid (hp _ _ hi' hj' hlt)
  · exact heq
  · exact absurd hid.symm (hp _ _ hj' hi' hgt)

theorem capacity_eq_slots (a : Arr) (ok : SegsOK S a) : a.capacity S = (a.segs.map Segment.size).sum := by
  rw [Arr.capacity, h.cap_eq_sum]
  congr 1
  refine List.ext_getElem (by rw [List.length_map, List.length_map, List.length_range]) fun i h1 h2 => ?_
  rw [List.getElem_map, List.getElem_map, List.getElem_range]
  exact (ok.size_eq i _ (List.getElem?_eq_getElem _)).symm

end steps

end Momo.Seg
