import Mathlib.Data.Nat.Prime.Basic
import Mathlib.Data.Fintype.Card
import Mathlib.Data.Fintype.EquivFin
import Mathlib.Data.Fintype.Fin
import Mathlib.Data.Nat.ModEq
import Mathlib.Tactic.Ring
import Mathlib.Tactic.Linarith
import Momo.Proof.Probe
/-! Quadratic (triangular) probing visits every bucket of a power-of-two table (C13, C11). -/
namespace Momo.Probe

def tri (i : Nat) : Nat := i * (i + 1) / 2

theorem two_tri (i : Nat) : 2 * tri i = i * (i + 1) :=
  Nat.mul_div_cancel' (Nat.even_mul_succ_self i).two_dvd

theorem tri_succ (q : Nat) : tri (q+1) = tri q + (q+1) := by
  unfold tri
  rw [show (q + 1) * (q + 1 + 1) = q * (q + 1) + 2 * (q + 1) by ring, Nat.add_mul_div_left _ _ (by decide)]

theorem tri_add (i d : Nat) : tri (i + d) = tri i + (d * i + tri d) := by
  induction d with
  | zero => simp [tri]
  | succ d ih => rw [← Nat.add_assoc, tri_succ, ih, tri_succ]; ring

/-- Two probes `i < j < 2^k` never hit the same bucket: `tri j - tri i = d·(2i + d + 1)/2` with `d = j - i`, one
    of the two factors is odd, so the other would have to be a multiple of `2^(k+1)`, and both are smaller. -/
theorem tri_inj_mod (k i j : Nat) (hj : j < 2 ^ k) (hij : i < j)
    (h : tri i % 2 ^ k = tri j % 2 ^ k) : False := by
  obtain ⟨d, rfl⟩ : ∃ d, j = i + d := ⟨j - i, by omega⟩
  have hdvd : 2 ^ k ∣ d * i + tri d := by
    have := Nat.sub_mod_eq_zero_of_mod_eq h.symm
    rw [tri_add, Nat.add_sub_cancel_left] at this
    exact Nat.dvd_of_mod_eq_zero this
  have h2 : 2 ^ (k + 1) ∣ d * (2 * i + d + 1) := by
    rw [show d * (2 * i + d + 1) = 2 * (d * i) + d * (d + 1) by ring, ← two_tri, ← Nat.mul_add, Nat.pow_succ']
    exact Nat.mul_dvd_mul_left 2 hdvd
  have hpow : 2 ^ (k + 1) = 2 * 2 ^ k := Nat.pow_succ'
  rcases Nat.even_or_odd d with he | ho
  · have hodd : Odd (2 * i + d + 1) := ((even_two_mul i).add he).add_one
    have := Nat.le_of_dvd (by omega)
      ((Nat.Coprime.pow_left _ (Nat.coprime_two_left.mpr hodd)).dvd_of_dvd_mul_right h2)
    omega
  · have := Nat.le_of_dvd (Nat.succ_pos _)
      ((Nat.Coprime.pow_left _ (Nat.coprime_two_left.mpr ho)).dvd_of_dvd_mul_left h2)
    omega

theorem seqQuad_closed (L home p : Nat) (hh : home < 2 ^ L) :
    seqQuad L home p = (home + tri p) % 2 ^ L := by
  induction p with
  | zero => simp [seqQuad, tri, Nat.mod_eq_of_lt hh]
  | succ q ih =>
    simp only [seqQuad, nextQuad, Nat.and_two_pow_sub_one_eq_mod, ih, tri_succ]
    rw [Nat.mod_add_mod]; congr 1; omega

theorem seqQuad_inj (L home p q : Nat) (hh : home < 2 ^ L) (hp : p < 2 ^ L) (hq : q < 2 ^ L)
    (h : seqQuad L home p = seqQuad L home q) : p = q := by
  rw [seqQuad_closed _ _ _ hh, seqQuad_closed _ _ _ hh] at h
  have ht : tri p % 2 ^ L = tri q % 2 ^ L := by
    have h1 : home + tri p ≡ home + tri q [MOD 2 ^ L] := h
    exact Nat.ModEq.add_left_cancel' home h1
  rcases Nat.lt_trichotomy p q with hlt | heq | hgt
  · exact (tri_inj_mod L p q hq hlt ht).elim
  · exact heq
  · exact (tri_inj_mod L q p hp hgt ht.symm).elim

theorem seqQuad_surj (L home b : Nat) (hh : home < 2 ^ L) (hb : b < 2 ^ L) :
    ∃ p, p < 2 ^ L ∧ seqQuad L home p = b := by
  have hn : 0 < 2 ^ L := Nat.two_pow_pos L
  let f : Fin (2 ^ L) → Fin (2 ^ L) := fun p => ⟨seqQuad L home p.1, by
    rw [seqQuad_closed _ _ _ hh]; exact Nat.mod_lt _ hn⟩
  have hinj : Function.Injective f := by
    intro x y hxy
    have hxy' : seqQuad L home x.1 = seqQuad L home y.1 := congrArg Fin.val hxy
    exact Fin.ext (seqQuad_inj L home x.1 y.1 hh x.2 y.2 hxy')
  have hsurj : Function.Surjective f := Finite.surjective_of_injective hinj
  obtain ⟨p, hp⟩ := hsurj ⟨b, hb⟩
  exact ⟨p.1, p.2, congrArg Fin.val hp⟩

end Momo.Probe
