import Mathlib.Data.List.Nodup
import Mathlib.Data.List.Perm.Subperm
import Mathlib.Data.List.Perm.Basic
import Momo.Proof.PoolState
/-!
  State machine of `MemPool` (C09), `blockCount > 1` (Mathlib's list permutation lemmas enter the pool files here): one buffer;
  stores of buffers with distinct pointers; the ledger of the memory manager (`Settles`, and `Frees` for the operations that only
  give memory back); the store/list invariant `CoreWF`;
  `pvNewBlock` and `pvDeleteBlock`.
-/
namespace Momo.Pool

theorem BufWF.ok {P : Params} {k : Int} (hM : Multi P k) {b : Buffer} (h : BufWF P b) :
    BufOK P b.buf ∧ -P.N < b.first ∧ b.first ≤ 0 := by
  obtain ⟨_, h1, h2, h3, _⟩ := hM.firstBlock_ok b.base
  rw [h.layout.1, h.layout.2.1]
  exact ⟨h3, h1, h2⟩

theorem BufWF.recover {P : Params} {k : Int} (hM : Multi P k) {b : Buffer} (h : BufWF P b) (i : Int)
    (hi : b.first ≤ i ∧ i < b.first + P.N) :
    blockIdx P (getBlock P b.buf i) = i ∧ blockBuf P (getBlock P b.buf i) = b.buf := by
  obtain ⟨ok, f1, f2⟩ := h.ok hM
  by_cases h0 : 0 ≤ i
  · exact hM.recover_nonneg b.buf i ok h0 (by omega)
  · exact hM.recover_neg b.buf i ok (by omega) (by omega)

theorem block_buffer_unique {P : Params} {k : Int} (hM : Multi P k) {b c : Buffer} (hb : BufWF P b) (hc : BufWF P c)
    (i j : Int) (hi : b.first ≤ i ∧ i < b.first + P.N) (hj : c.first ≤ j ∧ j < c.first + P.N)
    (he : getBlock P b.buf i = getBlock P c.buf j) : b.buf = c.buf ∧ i = j := by
  have rb := hb.recover hM i hi
  have rc := hc.recover hM j hj
  rw [he] at rb
  exact ⟨rb.2.symm.trans rc.2, rb.1.symm.trans rc.1⟩

theorem mem_taken {P : Params} {b : Buffer} (hN : 0 ≤ P.N) (x : Int) :
    x ∈ b.taken P ↔ ∃ i, (b.first ≤ i ∧ i < b.first + P.N) ∧ b.link i = none ∧ getBlock P b.buf i = x := by
  unfold Buffer.taken
  simp only [List.mem_map, List.mem_filter, mem_indexes P b _ hN, Option.isNone_iff_eq_none]
  constructor
  · rintro ⟨i, ⟨h1, h2⟩, h3⟩; exact ⟨i, h1, h2, h3⟩
  · rintro ⟨i, h1, h2, h3⟩; exact ⟨i, ⟨h1, h2⟩, h3⟩

theorem buffer_taken_nodup {P : Params} {k : Int} (hM : Multi P k) (b : Buffer) : (b.taken P).Nodup := by
  unfold Buffer.taken
  apply List.Nodup.map_on
  · intro x _ y _ hxy; exact getBlock_inj hM _ _ _ hxy
  · exact (indexes_nodup P b).filter _

theorem BufWF.freeCount_nonneg {P : Params} {b : Buffer} (h : BufWF P b) : 0 ≤ b.freeCount := by
  obtain ⟨ch, _, hlen, _⟩ := h.chain; omega

theorem BufWF.link_ne_none_of_full {P : Params} {b : Buffer} (h : BufWF P b) (hN : 0 ≤ P.N) (hfc : b.freeCount = P.N)
    (i : Int) (hr : b.first ≤ i ∧ i < b.first + P.N) : b.link i ≠ none := by
  obtain ⟨ch, _, hlen, hnd, hrange, hnone⟩ := h.chain
  have hsub : ch ⊆ b.indexes P := fun i hi => (mem_indexes P b i hN).mpr (hrange i hi)
  have hlenI : (b.indexes P).length = ch.length := by
    simp only [Buffer.indexes, List.length_map, List.length_range]; omega
  have hperm : ch.Perm (b.indexes P) :=
    (List.subperm_of_subset hnd hsub).perm_of_length_le (Nat.le_of_eq hlenI)
  exact fun e => (hnone i hr.1 hr.2).mp e (hperm.symm.subset ((mem_indexes P b i hN).mpr hr))

theorem BufWF.taken_nil_of_full {P : Params} {b : Buffer} (h : BufWF P b) (hN : 0 ≤ P.N) (hfc : b.freeCount = P.N) :
    b.taken P = [] :=
  List.eq_nil_iff_forall_not_mem.mpr fun x hx => by
    obtain ⟨i, hi, hl, _⟩ := (mem_taken hN x).mp hx
    exact h.link_ne_none_of_full hN hfc i hi hl

theorem BufWF.begin_eq {P : Params} {k : Int} (hM : Multi P k) (hA2 : P.A ≤ 1024) {b : Buffer} (h : BufWF P b) :
    getBlock P b.buf b.first - b.beginOffset = b.base := by
  have := (hM.newBuffer_inside b.base hA2 h.aligned).2.2.2.2
  rw [h.layout.1, h.layout.2.1, h.layout.2.2]; exact this

theorem BufWF.buf_inside {P : Params} {k : Int} (hM : Multi P k) (hA2 : P.A ≤ 1024) {b : Buffer} (h : BufWF P b) :
    b.base ≤ b.buf ∧ b.buf < b.base + P.bufferSize := by
  obtain ⟨h1, h2, _⟩ := hM.newBuffer_inside b.base hA2 h.aligned
  obtain ⟨_, f1, f2⟩ := h.ok hM
  rw [← h.layout.1, ← h.layout.2.1] at h1 h2
  have hS := hM.S_pos; have hA := hM.hA
  have hE := hM.blocksEnd_ge b.buf b.first f1
  have m : b.first * P.S ≤ 0 * P.S := Int.mul_le_mul_of_nonneg_right f2 (by omega)
  simp only [metaEnd, beginOffPos, nextPos, prevPos, sizeofPtr, sizeofU16, sizeofBufferBytes] at h2
  constructor
  · omega
  · split at h2 <;> omega

theorem BufWF.buf_ne {P : Params} {k : Int} (hM : Multi P k) (hA2 : P.A ≤ 1024) {b c : Buffer} (hb : BufWF P b)
    (hc : BufWF P c) (hd : Disj b.base P.bufferSize c.base P.bufferSize) : b.buf ≠ c.buf := by
  have h1 := hb.buf_inside hM hA2
  have h2 := hc.buf_inside hM hA2
  unfold Disj at hd; omega

/-- the keys by which `getBuf` / `setBuf` / `dropBuf` go (distinct in a well-formed pool, `CoreWF.nodup`) -/
def bufs (st : List Buffer) : List Int := st.map (·.buf)

theorem getBuf_some {st : List Buffer} {a : Int} {b : Buffer} (h : getBuf st a = some b) : b ∈ st ∧ b.buf = a := by
  unfold getBuf at h
  have h1 := List.mem_of_find?_eq_some h
  have h2 := List.find?_some h
  exact ⟨h1, by simpa using h2⟩

theorem store_split {st : List Buffer} {b : Buffer} (hb : b ∈ st) (hnd : (bufs st).Nodup) :
    ∃ s1 s2, st = s1 ++ b :: s2 ∧ (∀ x ∈ s1, x.buf ≠ b.buf) ∧ (∀ x ∈ s2, x.buf ≠ b.buf) := by
  obtain ⟨s1, s2, rfl⟩ := List.append_of_mem hb
  refine ⟨s1, s2, rfl, ?_, ?_⟩
  · intro x hx e
    simp only [bufs, List.map_append, List.map_cons] at hnd
    have := (List.nodup_append.mp hnd).2.2
    exact this x.buf (List.mem_map_of_mem hx) b.buf (by simp) e
  · intro x hx e
    simp only [bufs, List.map_append, List.map_cons] at hnd
    have := (List.nodup_cons.mp (List.nodup_append.mp hnd).2.1).1
    exact this (e ▸ List.mem_map_of_mem hx)

theorem getBuf_of_mem {st : List Buffer} {b : Buffer} (hb : b ∈ st) (hnd : (bufs st).Nodup) :
    getBuf st b.buf = some b := by
  obtain ⟨s1, s2, rfl, h1, _⟩ := store_split hb hnd
  unfold getBuf
  rw [List.find?_append, List.find?_eq_none.mpr fun x hx => by simpa using h1 x hx]
  simp

theorem getBuf_eq_none {st : List Buffer} {x : Int} : getBuf st x = none ↔ ∀ c ∈ st, c.buf ≠ x := by
  unfold getBuf
  rw [List.find?_eq_none]
  constructor
  · intro h c hc; simpa using h c hc
  · intro h c hc; simpa using h c hc

theorem getBuf_congr {st st' : List Buffer} (hnd' : (bufs st').Nodup) (x : Int)
    (h : ∀ c : Buffer, c.buf = x → (c ∈ st' ↔ c ∈ st)) : getBuf st' x = getBuf st x := by
  cases hg : getBuf st x with
  | none =>
    rw [getBuf_eq_none] at hg ⊢
    intro c hc e
    exact hg c ((h c e).mp hc) e
  | some c =>
    obtain ⟨hc, hce⟩ := getBuf_some hg
    have hc' : c ∈ st' := (h c hce).mpr hc
    rw [← hce]; exact getBuf_of_mem hc' hnd'

theorem setBuf_split {s1 s2 : List Buffer} {b b' : Buffer} (hb : b'.buf = b.buf)
    (h1 : ∀ x ∈ s1, x.buf ≠ b.buf) (h2 : ∀ x ∈ s2, x.buf ≠ b.buf) :
    setBuf (s1 ++ b :: s2) b' = s1 ++ b' :: s2 := by
  unfold setBuf
  rw [List.map_append, List.map_cons]
  have e1 : s1.map (fun x => if x.buf = b'.buf then b' else x) = s1 := by
    rw [List.map_congr_left (g := id)]; · simp
    intro x hx; simp [hb, h1 x hx]
  have e2 : s2.map (fun x => if x.buf = b'.buf then b' else x) = s2 := by
    rw [List.map_congr_left (g := id)]; · simp
    intro x hx; simp [hb, h2 x hx]
  rw [e1, e2]; simp [hb]

theorem dropBuf_split {s1 s2 : List Buffer} {b : Buffer}
    (h1 : ∀ x ∈ s1, x.buf ≠ b.buf) (h2 : ∀ x ∈ s2, x.buf ≠ b.buf) :
    dropBuf (s1 ++ b :: s2) b.buf = s1 ++ s2 := by
  unfold dropBuf
  rw [List.filter_append, List.filter_cons]
  have e1 : s1.filter (fun x => x.buf != b.buf) = s1 := by
    rw [List.filter_eq_self]; intro x hx; simpa using h1 x hx
  have e2 : s2.filter (fun x => x.buf != b.buf) = s2 := by
    rw [List.filter_eq_self]; intro x hx; simpa using h2 x hx
  rw [e1, e2]; simp

theorem bufs_setBuf {st : List Buffer} {b b' : Buffer} (hb : b ∈ st) (hnd : (bufs st).Nodup) (hbuf : b'.buf = b.buf) :
    bufs (setBuf st b') = bufs st := by
  obtain ⟨s1, s2, hs, h1, h2⟩ := store_split hb hnd
  rw [hs, setBuf_split hbuf h1 h2]
  simp only [bufs, List.map_append, List.map_cons, hbuf]

theorem bufs_dropBuf {st : List Buffer} {b : Buffer} (hb : b ∈ st) (hnd : (bufs st).Nodup) :
    (bufs st).Perm (b.buf :: bufs (dropBuf st b.buf)) := by
  obtain ⟨s1, s2, hs, h1, h2⟩ := store_split hb hnd
  rw [hs, dropBuf_split h1 h2]; simp only [bufs, List.map_append, List.map_cons]; exact List.perm_middle

theorem mem_setBuf {st : List Buffer} {b b' : Buffer} (hb : b ∈ st) (hnd : (bufs st).Nodup) (hbuf : b'.buf = b.buf) :
    b' ∈ setBuf st b' := by
  obtain ⟨s1, s2, hs, h1, h2⟩ := store_split hb hnd
  rw [hs, setBuf_split hbuf h1 h2]; simp

theorem mem_setBuf_cases {st : List Buffer} {b' x : Buffer} (hx : x ∈ setBuf st b') :
    x = b' ∨ (x ∈ st ∧ x.buf ≠ b'.buf) := by
  obtain ⟨y, hy, rfl⟩ := List.mem_map.mp hx
  by_cases hyb : y.buf = b'.buf
  · exact Or.inl (if_pos hyb)
  · rw [if_neg hyb]; exact Or.inr ⟨hy, hyb⟩

theorem mem_setBuf_other {st : List Buffer} {b' c : Buffer} (hc : c.buf ≠ b'.buf) :
    c ∈ setBuf st b' ↔ c ∈ st := by
  unfold setBuf
  simp only [List.mem_map]
  constructor
  · rintro ⟨x, hx, hxe⟩
    by_cases h : x.buf = b'.buf
    · rw [if_pos h] at hxe; exact absurd (hxe ▸ rfl) hc
    · rw [if_neg h] at hxe; exact hxe ▸ hx
  · intro hm
    exact ⟨c, hm, by rw [if_neg hc]⟩

theorem mem_dropBuf_other {st : List Buffer} {a : Int} {c : Buffer} (hc : c.buf ≠ a) :
    c ∈ dropBuf st a ↔ c ∈ st := by
  unfold dropBuf
  simp [List.mem_filter, hc]

theorem not_mem_bufs_dropBuf (st : List Buffer) (a : Int) : a ∉ bufs (dropBuf st a) := by
  unfold bufs dropBuf
  simp only [List.mem_map, List.mem_filter]
  rintro ⟨x, ⟨_, hx⟩, hxe⟩
  simp [hxe] at hx

/-- `Pool.taken` as a function of the store alone (`Pool.taken_eq`, by `rfl`): the form the lemmas about `setBuf` / `dropBuf` need -/
def takenOf (P : Params) (st : List Buffer) : List Int := st.flatMap (Buffer.taken P)

theorem Pool.taken_eq (P : Params) (p : Pool) : p.taken P = takenOf P p.store := rfl

theorem takenOf_split (P : Params) (s1 s2 : List Buffer) (b : Buffer) :
    (takenOf P (s1 ++ b :: s2)).Perm (b.taken P ++ takenOf P (s1 ++ s2)) := by
  simp only [takenOf, List.flatMap_append, List.flatMap_cons]
  rw [← List.append_assoc, ← List.append_assoc]
  exact List.Perm.append_right _ List.perm_append_comm

theorem mem_takenOf {P : Params} (st : List Buffer) (x : Int) :
    x ∈ takenOf P st ↔ ∃ b ∈ st, x ∈ b.taken P := by
  simp [takenOf, List.mem_flatMap]

theorem takenOf_nodup {P : Params} {k : Int} (hM : Multi P k) (st : List Buffer) (hwf : ∀ b ∈ st, BufWF P b)
    (hnd : (bufs st).Nodup) : (takenOf P st).Nodup := by
  have hN := hM.N_nonneg
  induction st with
  | nil => simp [takenOf]
  | cons b t ih =>
    simp only [takenOf, List.flatMap_cons]
    rw [List.nodup_append]
    simp only [bufs, List.map_cons, List.nodup_cons] at hnd
    refine ⟨buffer_taken_nodup hM b, ih (fun x hx => hwf x (by simp [hx])) hnd.2, ?_⟩
    intro x hx y hy e
    subst e
    obtain ⟨c, hc, hxc⟩ := (mem_takenOf t x).mp hy
    obtain ⟨i, hi, _, hie⟩ := (mem_taken hN x).mp hx
    obtain ⟨j, hj, _, hje⟩ := (mem_taken hN x).mp hxc
    have := (block_buffer_unique hM (hwf b (by simp)) (hwf c (by simp [hc])) i j hi hj (hie.trans hje.symm)).1
    exact hnd.1 (this ▸ List.mem_map_of_mem hc)

theorem not_mem_takenOf {P : Params} {k : Int} (hM : Multi P k) {st : List Buffer} (hwf : ∀ b ∈ st, BufWF P b)
    (hnd : (bufs st).Nodup) {b : Buffer} (hb : b ∈ st) (i : Int) (hi : b.first ≤ i ∧ i < b.first + P.N)
    (hnot : getBlock P b.buf i ∉ b.taken P) : getBlock P b.buf i ∉ takenOf P st := by
  have hN := hM.N_nonneg
  intro hm
  obtain ⟨c, hc, hxc⟩ := (mem_takenOf st _).mp hm
  obtain ⟨j, hj, _, hje⟩ := (mem_taken hN _).mp hxc
  have hbc := (block_buffer_unique hM (hwf b hb) (hwf c hc) i j hi hj hje.symm).1
  -- same pointer, so the same buffer
  obtain ⟨s1, s2, hs, h1, h2⟩ := store_split hb hnd
  rw [hs] at hc
  rcases List.mem_append.mp hc with hc | hc
  · exact h1 c hc hbc.symm
  · rcases List.mem_cons.mp hc with rfl | hc
    · exact hnot hxc
    · exact h2 c hc hbc.symm

theorem takenOf_dropBuf {P : Params} {st : List Buffer} {b : Buffer} (hb : b ∈ st) (hnd : (bufs st).Nodup) :
    (takenOf P st).Perm (b.taken P ++ takenOf P (dropBuf st b.buf)) := by
  obtain ⟨s1, s2, hs, h1, h2⟩ := store_split hb hnd
  rw [hs, dropBuf_split h1 h2]; exact takenOf_split P s1 s2 b

theorem takenOf_setBuf {P : Params} {st : List Buffer} {b b' : Buffer} (hb : b ∈ st) (hnd : (bufs st).Nodup)
    (hbuf : b'.buf = b.buf) : (takenOf P (setBuf st b')).Perm (b'.taken P ++ takenOf P (dropBuf st b.buf)) := by
  obtain ⟨s1, s2, hs, h1, h2⟩ := store_split hb hnd
  rw [hs, setBuf_split hbuf h1 h2, dropBuf_split h1 h2]; exact takenOf_split P s1 s2 b'

/-- memory the pool holds from the memory manager -/
def owned (P : Params) (st : List Buffer) : List (Int × Int) := st.map (fun b => (b.base, P.bufferSize))

theorem owned_setBuf {P : Params} {st : List Buffer} {b b' : Buffer} (hb : b ∈ st)
    (hnd : (bufs st).Nodup) (hbuf : b'.buf = b.buf) (hbase : b'.base = b.base) :
    owned P (setBuf st b') = owned P st := by
  obtain ⟨s1, s2, hs, h1, h2⟩ := store_split hb hnd
  rw [hs, setBuf_split hbuf h1 h2]
  simp [owned, hbase]

theorem owned_dropBuf {P : Params} {st : List Buffer} {b : Buffer} (hb : b ∈ st) (hnd : (bufs st).Nodup) :
    (owned P st).Perm ((b.base, P.bufferSize) :: owned P (dropBuf st b.buf)) := by
  obtain ⟨s1, s2, hs, h1, h2⟩ := store_split hb hnd
  rw [hs, dropBuf_split h1 h2]
  simp only [owned, List.map_append, List.map_cons]
  exact List.perm_middle

theorem ledger_append (L : List (Int × Int)) (e1 e2 : List Ev) :
    ledger L (e1 ++ e2) = (ledger L e1).bind (fun L1 => ledger L1 e2) := by
  induction e1 generalizing L with
  | nil => simp [ledger]
  | cons e es ih =>
    cases e with
    | malloc b s => simp [ledger, ih]
    | free a s =>
      simp only [List.cons_append, ledger]
      split
      · exact ih _
      · simp

theorem ledger_perm {L M : List (Int × Int)} (evs : List Ev) (hp : L.Perm M) :
    ∀ L', ledger L evs = some L' → ∃ M', ledger M evs = some M' ∧ L'.Perm M' := by
  induction evs generalizing L M with
  | nil => intro L' h; simp [ledger] at h ⊢; subst h; exact hp
  | cons e es ih =>
    intro L' h
    cases e with
    | malloc b s =>
      simp only [ledger] at h ⊢
      exact ih (List.Perm.cons _ hp) L' h
    | free a s =>
      simp only [ledger] at h ⊢
      by_cases hm : (a, s) ∈ L
      · rw [if_pos hm] at h
        rw [if_pos (hp.subset hm)]
        exact ih (hp.erase _) L' h
      · rw [if_neg hm] at h; simp at h

theorem ledger_frame (X : List (Int × Int)) (evs : List Ev) :
    ∀ (L L' : List (Int × Int)), ledger L evs = some L' → ledger (L ++ X) evs = some (L' ++ X) := by
  induction evs with
  | nil => intro L L' h; simp [ledger] at h ⊢; exact h
  | cons e es ih =>
    intro L L' h
    cases e with
    | malloc b s => simp only [ledger] at h ⊢; exact ih _ _ h
    | free a s =>
      simp only [ledger] at h ⊢
      by_cases hm : (a, s) ∈ L
      · rw [if_pos hm] at h
        rw [if_pos (List.mem_append_left _ hm), List.erase_append_left _ hm]
        exact ih _ _ h
      · rw [if_neg hm] at h; simp at h

/-- the events turn the outstanding allocations `L` into `M`, up to order. `LedgerOK`, `Ledger1OK`, `LedgerOKU` and the
    `LedgerIs` family unfold to this, for the memory the respective state holds. -/
def Settles (L : List (Int × Int)) (evs : List Ev) (M : List (Int × Int)) : Prop :=
  ∃ L', ledger L evs = some L' ∧ L'.Perm M

theorem Settles.nil {L M : List (Int × Int)} (h : L.Perm M) : Settles L [] M := ⟨L, rfl, h⟩

theorem Settles.of_perm {L L₀ M : List (Int × Int)} {evs : List Ev} (hp : L₀.Perm L) (h : Settles L₀ evs M) :
    Settles L evs M := by
  obtain ⟨L', hl, hpm⟩ := h
  obtain ⟨M', hm, hp'⟩ := ledger_perm evs hp L' hl
  exact ⟨M', hm, hp'.symm.trans hpm⟩

theorem Settles.trans {L M N : List (Int × Int)} {e1 e2 : List Ev} (h1 : Settles L e1 M) (h2 : Settles M e2 N) :
    Settles L (e1 ++ e2) N := by
  obtain ⟨L1, hl1, hp1⟩ := h1
  obtain ⟨M', hm, hpm⟩ := h2.of_perm hp1.symm
  exact ⟨M', by rw [ledger_append, hl1]; exact hm, hpm⟩

theorem Settles.frame {L M : List (Int × Int)} {evs : List Ev} (X : List (Int × Int)) (h : Settles L evs M) :
    Settles (X ++ L) evs (X ++ M) := by
  obtain ⟨L', hl, hp⟩ := h
  exact Settles.of_perm List.perm_append_comm
    ⟨_, ledger_frame X evs _ _ hl, List.perm_append_comm.trans (List.Perm.append_left _ hp)⟩

theorem Settles.free {L M : List (Int × Int)} {a s : Int} (hp : L.Perm ((a, s) :: M)) : Settles L [.free a s] M := by
  have hm : (a, s) ∈ L := hp.symm.subset List.mem_cons_self
  exact ⟨L.erase (a, s), by simp [ledger, hm], by simpa using hp.erase (a, s)⟩

theorem Settles.malloc (L : List (Int × Int)) (b s : Int) : Settles L [.malloc b s] ((b, s) :: L) :=
  ⟨_, rfl, List.Perm.refl _⟩

theorem Settles.both {A B : List (Int × Int)} {ea eb : List Ev} (ha : Settles [] ea A) (hb : Settles [] eb B) :
    Settles [] (ea ++ eb) (A ++ B) :=
  ha.trans (by simpa using hb.frame A)

theorem Settles.to_nil {L : List (Int × Int)} {evs : List Ev} (h : Settles L evs []) : ledger L evs = some [] := by
  obtain ⟨L', hl, hp⟩ := h
  rw [hl, List.perm_nil.mp hp]

/-- the events give back exactly `F`, a part of the outstanding allocations `L`, and `M` stays outstanding: what every
    operation that only returns memory does to the manager. The exact ledger (`Frees.settles`), the absence of `malloc`s
    (`Frees.noMalloc`, PoolWorld) and the size and number of the `free`s (`Frees.events`) are read off it. -/
def Frees (L : List (Int × Int)) (evs : List Ev) (M : List (Int × Int)) : Prop :=
  ∃ F : List (Int × Int), evs = F.map (fun r => Ev.free r.1 r.2) ∧ L.Perm (F ++ M)

theorem Frees.nil {L M : List (Int × Int)} (h : L.Perm M) : Frees L [] M := ⟨[], rfl, h⟩

theorem Frees.one {L M : List (Int × Int)} {a s : Int} (hp : L.Perm ((a, s) :: M)) : Frees L [.free a s] M :=
  ⟨[(a, s)], rfl, hp⟩

theorem Frees.trans {L M N : List (Int × Int)} {e1 e2 : List Ev} (h1 : Frees L e1 M) (h2 : Frees M e2 N) :
    Frees L (e1 ++ e2) N := by
  obtain ⟨F1, rfl, p1⟩ := h1
  obtain ⟨F2, rfl, p2⟩ := h2
  exact ⟨F1 ++ F2, List.map_append.symm, p1.trans (by rw [List.append_assoc]; exact p2.append_left F1)⟩

theorem Frees.frame {L M : List (Int × Int)} {evs : List Ev} (X : List (Int × Int)) (h : Frees L evs M) :
    Frees (X ++ L) evs (X ++ M) := by
  obtain ⟨F, rfl, p⟩ := h
  exact ⟨F, rfl, (p.append_left X).trans (List.perm_append_comm_assoc X F M)⟩

theorem Frees.settles {L M : List (Int × Int)} {evs : List Ev} (h : Frees L evs M) : Settles L evs M := by
  obtain ⟨F, rfl, p⟩ := h
  induction F generalizing L with
  | nil => exact Settles.nil p
  | cons r F ih => exact (Settles.free (a := r.1) (s := r.2) p).trans (ih (List.Perm.refl _))

theorem Frees.events {L M : List (Int × Int)} {evs : List Ev} (h : Frees L evs M) :
    (∀ e ∈ evs, ∃ r ∈ L, e = Ev.free r.1 r.2) ∧ evs.length + M.length = L.length := by
  obtain ⟨F, rfl, p⟩ := h
  refine ⟨fun e he => ?_, by rw [List.length_map, p.length_eq, List.length_append]⟩
  obtain ⟨r, hr, rfl⟩ := List.mem_map.mp he
  exact ⟨r, p.symm.subset (List.mem_append_left _ hr), rfl⟩

/-- `Settles` of the two `owned` lists, written out (`ledgerOK_iff_settles`); the `ledger` field of the per-operation records of
    `blockCount > 1` -/
def LedgerOK (P : Params) (st : List Buffer) (evs : List Ev) (st' : List Buffer) : Prop :=
  ∃ L', ledger (owned P st) evs = some L' ∧ L'.Perm (owned P st')

theorem ledgerOK_iff_settles {P : Params} {st st' : List Buffer} {evs : List Ev} :
    LedgerOK P st evs st' ↔ Settles (owned P st) evs (owned P st') := Iff.rfl

theorem LedgerOK.nil {P : Params} {st st' : List Buffer} (h : owned P st' = owned P st) : LedgerOK P st [] st' :=
  Settles.nil (h ▸ List.Perm.refl _)

theorem LedgerOK.trans {P : Params} {s1 s2 s3 : List Buffer} {e1 e2 : List Ev}
    (h1 : LedgerOK P s1 e1 s2) (h2 : LedgerOK P s2 e2 s3) : LedgerOK P s1 (e1 ++ e2) s3 :=
  Settles.trans h1 h2

/-- the store / list part of the pool invariant for `blockCount > 1`: the two lists hold exactly the buffers of the store - full
    buffers before `mFreeBufferHead` (`preFull`), the head and buffers with a free block from it on (`postFree`); a null head means
    no buffers at all (`headNull`). Changed only through `CoreWF.update` / `.remove` / `.add` / `.union` (PoolBulk). -/
structure CoreWF (P : Params) (p : Pool) : Prop where
  bufwf : ∀ b ∈ p.store, BufWF P b
  nodup : (bufs p.store).Nodup
  lists : (p.pre ++ p.post).Perm (bufs p.store)
  preFull : ∀ b ∈ p.store, b.buf ∈ p.pre → b.freeCount = 0
  postFree : ∀ b ∈ p.store, b.buf ∈ p.post → 1 ≤ b.freeCount
  headNull : p.post = [] → p.pre = []

theorem Pool.mem_taken (P : Params) (p : Pool) (x : Int) : x ∈ p.taken P ↔ ∃ b ∈ p.store, x ∈ b.taken P := by
  rw [Pool.taken_eq]; exact mem_takenOf p.store x

theorem CoreWF.taken_nodup {P : Params} {k : Int} (hM : Multi P k) {p : Pool} (h : CoreWF P p) : (p.taken P).Nodup := by
  rw [Pool.taken_eq]; exact takenOf_nodup hM p.store h.bufwf h.nodup

theorem CoreWF.lists_nodup {P : Params} {p : Pool} (h : CoreWF P p) : (p.pre ++ p.post).Nodup :=
  h.lists.nodup_iff.mpr h.nodup

theorem CoreWF.getBuf_of_mem_lists {P : Params} {p : Pool} (h : CoreWF P p) {a : Int} (ha : a ∈ p.pre ++ p.post) :
    ∃ b, getBuf p.store a = some b ∧ b ∈ p.store ∧ b.buf = a := by
  obtain ⟨b, hb, rfl⟩ := List.mem_map.mp (h.lists.subset ha)
  exact ⟨b, getBuf_of_mem hb h.nodup, hb, rfl⟩

theorem CoreWF.getBuf_of_mem {P : Params} {p : Pool} (h : CoreWF P p) {b : Buffer} (hb : b ∈ p.store) :
    getBuf p.store b.buf = some b :=
  Momo.Pool.getBuf_of_mem hb h.nodup

theorem CoreWF.update {P : Params} {p : Pool} (h : CoreWF P p) {b b' : Buffer} (hb : b ∈ p.store)
    (hbuf : b'.buf = b.buf) (hwf : BufWF P b') (pre' post' : List Int)
    (hperm : (pre' ++ post').Perm (p.pre ++ p.post))
    (hpre : b.buf ∈ pre' → b'.freeCount = 0) (hpost : b.buf ∈ post' → 1 ≤ b'.freeCount)
    (hother : ∀ a, a ≠ b.buf → (a ∈ pre' → a ∈ p.pre) ∧ (a ∈ post' → a ∈ p.post))
    (hnull : post' = [] → pre' = []) :
    CoreWF P { p with store := setBuf p.store b', pre := pre', post := post' } := by
  have hbufs := bufs_setBuf hb h.nodup hbuf
  refine ⟨fun x hx => ?_, ?_, ?_, fun x hx hxp => ?_, fun x hx hxp => ?_, hnull⟩
  · rcases mem_setBuf_cases hx with rfl | ⟨hx, _⟩
    exacts [hwf, h.bufwf x hx]
  · simp only [hbufs]; exact h.nodup
  · simp only [hbufs]; exact hperm.trans h.lists
  · rcases mem_setBuf_cases hx with rfl | ⟨hx, hne⟩
    · exact hpre (hbuf ▸ hxp)
    · exact h.preFull x hx ((hother x.buf (hbuf ▸ hne)).1 hxp)
  · rcases mem_setBuf_cases hx with rfl | ⟨hx, hne⟩
    · exact hpost (hbuf ▸ hxp)
    · exact h.postFree x hx ((hother x.buf (hbuf ▸ hne)).2 hxp)

theorem CoreWF.remove {P : Params} {p : Pool} (h : CoreWF P p) {b : Buffer} (hb : b ∈ p.store) (pre' post' : List Int)
    (hperm : (b.buf :: (pre' ++ post')).Perm (p.pre ++ p.post))
    (hother : ∀ a, (a ∈ pre' → a ∈ p.pre) ∧ (a ∈ post' → a ∈ p.post))
    (hnull : post' = [] → pre' = []) :
    CoreWF P { p with store := dropBuf p.store b.buf, pre := pre', post := post' } := by
  have hsub : ∀ x ∈ dropBuf p.store b.buf, x ∈ p.store := fun x hx => List.mem_of_mem_filter hx
  have hmid := bufs_dropBuf hb h.nodup
  exact ⟨fun x hx => h.bufwf x (hsub x hx), (List.nodup_cons.mp (hmid.nodup_iff.mp h.nodup)).2,
    (List.perm_cons _).mp ((hperm.trans h.lists).trans hmid),
    fun x hx hxp => h.preFull x (hsub x hx) ((hother x.buf).1 hxp),
    fun x hx hxp => h.postFree x (hsub x hx) ((hother x.buf).2 hxp), hnull⟩

theorem CoreWF.add {P : Params} {p : Pool} (h : CoreWF P p) {nb : Buffer} (hwf : BufWF P nb)
    (hnew : nb.buf ∉ bufs p.store) (hfree : 1 ≤ nb.freeCount) :
    CoreWF P { p with store := p.store ++ [nb], post := p.post ++ [nb.buf] } := by
  have hnl : nb.buf ∉ p.pre ++ p.post := fun hm => hnew (h.lists.subset hm)
  -- each clause about the store: the old buffers, and the new one
  refine ⟨List.forall_mem_append.mpr ⟨h.bufwf, List.forall_mem_singleton.mpr hwf⟩, ?_, ?_,
    List.forall_mem_append.mpr ⟨h.preFull, List.forall_mem_singleton.mpr fun hxp => absurd (List.mem_append_left _ hxp) hnl⟩,
    List.forall_mem_append.mpr ⟨fun x hx hxp => ?_, List.forall_mem_singleton.mpr fun _ => hfree⟩, fun e => by simp at e⟩
  · simp only [bufs, List.map_append, List.map_cons, List.map_nil]
    rw [List.nodup_append]
    refine ⟨h.nodup, by simp, ?_⟩
    intro a ha c hc e; simp at hc; subst hc; subst e; exact hnew ha
  · simp only [bufs, List.map_append, List.map_cons, List.map_nil, ← List.append_assoc]
    exact List.Perm.append h.lists (List.Perm.refl _)
  · rcases List.mem_append.mp hxp with hxp | hxp
    · exact h.postFree x hx hxp
    · simp at hxp; exact absurd (hxp ▸ List.mem_map_of_mem hx) hnew

theorem CoreWF.congr {P : Params} {p q : Pool} (h : CoreWF P p) (hs : q.store = p.store) (hpre : q.pre = p.pre)
    (hpost : q.post = p.post) : CoreWF P q := by
  refine ⟨?_, ?_, ?_, ?_, ?_, ?_⟩
  · rw [hs]; exact h.bufwf
  · rw [hs]; exact h.nodup
  · rw [hs, hpre, hpost]; exact h.lists
  · rw [hs, hpre]; exact h.preFull
  · rw [hs, hpost]; exact h.postFree
  · rw [hpre, hpost]; exact h.headNull

/-- what a successful `pvNewBlock` does -/
structure AllocSpec (P : Params) (p p' : Pool) (blk : Int) (evs : List Ev) : Prop where
  wf : CoreWF P p'
  perm : (p'.taken P).Perm (blk :: p.taken P)
  fresh : blk ∉ p.taken P
  same : p'.cache = p.cache ∧ p'.allocCount = p.allocCount ∧ p'.singles = p.singles
  block : ∃ b ∈ p'.store, ∃ i, (b.first ≤ i ∧ i < b.first + P.N) ∧ blk = getBlock P b.buf i
  events : (evs = [] ∧ owned P p'.store = owned P p.store) ∨
           (∃ base, evs = [.malloc base P.bufferSize] ∧ owned P p'.store = owned P p.store ++ [(base, P.bufferSize)])

theorem AllocSpec.ledgerOK {P : Params} {p p' : Pool} {blk : Int} {evs : List Ev} (h : AllocSpec P p p' blk evs) :
    LedgerOK P p.store evs p'.store := by
  rcases h.events with ⟨rfl, ho⟩ | ⟨base, rfl, ho⟩
  · exact LedgerOK.nil ho
  · exact ⟨_, rfl, ho ▸ (List.perm_append_singleton _ _).symm⟩

/-- `pvNewBlock` 531-537 -/
theorem takeFromHead_ok {P : Params} {k : Int} (hM : Multi P k) {p : Pool} (h : CoreWF P p)
    (hd : Int) (rest : List Int) (hpost : p.post = hd :: rest)
    (hrest : ∀ hb, getBuf p.store hd = some hb → hb.freeCount = 1 → rest ≠ []) (evs : List Ev) :
    ∃ blk p', takeFromHead P p evs = .ok blk p' evs ∧ AllocSpec P p p' blk [] := by
  obtain ⟨hb, hget, hmem, hbuf⟩ := h.getBuf_of_mem_lists (a := hd) (by rw [hpost]; simp)
  have hfc : 1 ≤ hb.freeCount := h.postFree hb hmem (by rw [hbuf, hpost]; simp)
  obtain ⟨hb', htake, hwf', hfc', hbuf', hbase', hfirst', _, hrange, hperm, hnot⟩ := (h.bufwf hb hmem).take_ok hM hfc
  have hlnd := h.lists_nodup
  rw [hpost] at hlnd
  have hnotrest : hd ∉ rest := by
    have := (List.nodup_append.mp hlnd).2.1; exact (List.nodup_cons.mp this).1
  have hnotpre : hd ∉ p.pre := by
    intro hm; exact (List.nodup_append.mp hlnd).2.2 hd hm hd (by simp) rfl
  have hfresh : getBlock P hb.buf hb.firstFree ∉ p.taken P := by
    rw [Pool.taken_eq]; exact not_mem_takenOf hM h.bufwf h.nodup hmem _ hrange hnot
  have hpermT : (Pool.taken P { p with store := setBuf p.store hb' }).Perm (getBlock P hb.buf hb.firstFree :: p.taken P) := by
    rw [Pool.taken_eq, Pool.taken_eq]
    exact (takenOf_setBuf hmem h.nodup hbuf').trans
      ((hperm.append_right _).trans ((takenOf_dropBuf hmem h.nodup).symm.cons _))
  have hblock : ∃ b ∈ setBuf p.store hb', ∃ i, (b.first ≤ i ∧ i < b.first + P.N) ∧
      getBlock P hb.buf hb.firstFree = getBlock P b.buf i :=
    ⟨hb', mem_setBuf hmem h.nodup hbuf', hb.firstFree, by rw [hfirst']; exact hrange, by rw [hbuf']⟩
  unfold takeFromHead
  rw [hpost]; simp only [hget, htake]
  by_cases h0 : hb'.freeCount = 0
  · rw [if_pos h0]
    refine ⟨_, _, rfl, ?_, hpermT, hfresh, ⟨rfl, rfl, rfl⟩, hblock, Or.inl ⟨rfl, owned_setBuf hmem h.nodup hbuf' hbase'⟩⟩
    have hr : rest ≠ [] := hrest hb hget (by omega)
    apply h.update hmem hbuf' hwf' (hd :: p.pre) rest
    · rw [hpost]; exact List.perm_middle.symm
    · intro _; exact h0
    · intro hm; rw [hbuf] at hm; exact absurd hm hnotrest
    · intro a ha
      refine ⟨fun hm => ?_, fun hm => by rw [hpost]; simp [hm]⟩
      rcases List.mem_cons.mp hm with e | hm
      · rw [hbuf] at ha; exact absurd e ha
      · exact hm
    · intro e; exact absurd e hr
  · rw [if_neg h0]
    refine ⟨_, _, rfl, ?_, hpermT, hfresh, ⟨rfl, rfl, rfl⟩, hblock, Or.inl ⟨rfl, owned_setBuf hmem h.nodup hbuf' hbase'⟩⟩
    have := h.update hmem hbuf' hwf' p.pre p.post (List.Perm.refl _)
      (fun hm => by rw [hbuf] at hm; exact absurd hm hnotpre) (fun _ => by omega)
      (fun a _ => ⟨id, id⟩) h.headNull
    rw [hpost] at this
    exact this

/-- contract of the memory manager for the answers of one operation: aligned as the pool assumes
    (`allocAlign`), and the new memory is not memory the pool already holds (stated on the buffer pointer
    that `pvNewBuffer` computes inside it; `orcOK_of_disjoint` derives this from disjoint ranges) -/
def OrcOK (P : Params) (p : Pool) (orc : Oracle) : Prop :=
  ∀ k base, orc k = some base → P.allocAlign ∣ base ∧ (Buffer.fresh P base).buf ∉ bufs p.store

/-- what one `Allocate` asks of the manager: nothing, or one `malloc` of `sz` bytes, answered by `orc 0` -/
def AllocEvents (orc : Oracle) (sz : Int) (evs : List Ev) : Prop :=
  evs = [] ∨ ∃ base, orc 0 = some base ∧ evs = [.malloc base sz]

/-- `pvNewBlock` with a `malloc`: a take from the pool `p1` = `p` extended by a fresh buffer is, seen from `p`, an allocation
    whose one event is that `malloc` -/
theorem AllocSpec.trans_add {P : Params} {p p1 p' : Pool} {blk : Int} {base : Int}
    (hs : AllocSpec P p1 p' blk [])
    (h1 : p1.store = p.store ++ [Buffer.fresh P base]) (ht : (Buffer.fresh P base).taken P = [])
    (hc : p1.cache = p.cache ∧ p1.allocCount = p.allocCount ∧ p1.singles = p.singles) :
    AllocSpec P p p' blk [.malloc base P.bufferSize] := by
  have e : p1.taken P = p.taken P := by
    simp only [Pool.taken, h1, List.flatMap_append, List.flatMap_cons, List.flatMap_nil, ht, List.append_nil]
  refine ⟨hs.wf, by rw [← e]; exact hs.perm, by rw [← e]; exact hs.fresh,
    ⟨hs.same.1.trans hc.1, hs.same.2.1.trans hc.2.1, hs.same.2.2.trans hc.2.2⟩, hs.block, Or.inr ⟨base, rfl, ?_⟩⟩
  rcases hs.events with ⟨_, ho⟩ | ⟨b2, hb2, _⟩
  · rw [ho, h1]; simp [owned, Buffer.fresh]
  · simp at hb2

/-- `pvNewBlock` (519-538) -/
theorem newBlock_ok {P : Params} {k : Int} (hM : Multi P k) (hN2 : 2 ≤ P.N) {p : Pool} (h : CoreWF P p)
    {orc : Oracle} (horc : OrcOK P p orc) :
    match newBlock P p orc with
    | .ok blk p' evs => AllocSpec P p p' blk evs ∧ AllocEvents orc P.bufferSize evs
    | .badAlloc p' evs => p' = p ∧ evs = [] ∧ orc 0 = none
    | .stuck _ => False := by
  unfold newBlock
  cases hpost : p.post with
  | nil =>
    simp only
    cases horc0 : orc 0 with
    | none => simp
    | some base =>
      simp only
      obtain ⟨hal, hnew⟩ := horc 0 base horc0
      obtain ⟨hwf, hfc, htk⟩ := fresh_wf hM base hal
      have hadd := h.add hwf hnew (by rw [hfc]; omega)
      rw [hpost] at hadd
      simp only [List.nil_append] at hadd
      unfold newBlockHead
      simp only
      have hg : getBuf (p.store ++ [Buffer.fresh P base]) (Buffer.fresh P base).buf = some (Buffer.fresh P base) := by
        exact hadd.getBuf_of_mem (b := Buffer.fresh P base) (by simp)
      rw [hg]; simp only
      have hne : ¬ ((Buffer.fresh P base).freeCount = 1 ∧ True) := by rw [hfc]; omega
      rw [if_neg hne]
      obtain ⟨blk, p', htf, hspec⟩ := takeFromHead_ok hM hadd (Buffer.fresh P base).buf [] rfl
        (by intro hb hgb h1; rw [hg] at hgb; cases hgb; rw [hfc] at h1; omega) [.malloc base P.bufferSize]
      rw [htf]
      exact ⟨AllocSpec.trans_add hspec rfl htk ⟨rfl, rfl, rfl⟩, Or.inr ⟨base, horc0, rfl⟩⟩
  | cons hd rest =>
    simp only
    unfold newBlockHead
    rw [hpost]; simp only
    obtain ⟨hb, hget, hmem, hbuf⟩ := h.getBuf_of_mem_lists (a := hd) (by rw [hpost]; simp)
    rw [hget]; simp only
    by_cases hc : hb.freeCount = 1 ∧ rest = []
    · rw [if_pos hc]
      cases horc0 : orc 0 with
      | none => simp
      | some base =>
        simp only
        obtain ⟨hal, hnew⟩ := horc 0 base horc0
        obtain ⟨hwf, hfc, htk⟩ := fresh_wf hM base hal
        have hadd := h.add hwf hnew (by rw [hfc]; omega)
        rw [hpost, hc.2] at hadd
        simp only [List.cons_append, List.nil_append] at hadd
        obtain ⟨blk, p', htf, hspec⟩ := takeFromHead_ok hM hadd hd [(Buffer.fresh P base).buf] rfl
          (by intro _ _ _; simp) ([] ++ [.malloc base P.bufferSize])
        rw [htf]
        exact ⟨AllocSpec.trans_add hspec rfl htk ⟨rfl, rfl, rfl⟩, Or.inr ⟨base, horc0, rfl⟩⟩
    · rw [if_neg hc]
      obtain ⟨blk, p', htf, hspec⟩ := takeFromHead_ok hM h hd rest hpost
        (by intro hb2 hg2 h1; rw [hget] at hg2; cases hg2; intro e; exact hc ⟨h1, e⟩) []
      rw [htf]
      exact ⟨hspec, Or.inl rfl⟩

/-- what a successful `pvDeleteBlock` does -/
structure FreeSpec (P : Params) (p p' : Pool) (blk : Int) (evs : List Ev) : Prop where
  wf : CoreWF P p'
  perm : (p.taken P).Perm (blk :: p'.taken P)
  same : p'.cache = p.cache ∧ p'.allocCount = p.allocCount ∧ p'.singles = p.singles
  events : (evs = [] ∧ owned P p'.store = owned P p.store) ∨
           (∃ base, evs = [.free base P.bufferSize] ∧
              (owned P p.store).Perm ((base, P.bufferSize) :: owned P p'.store))
  sub : ∀ x ∈ bufs p'.store, x ∈ bufs p.store

theorem FreeSpec.frees {P : Params} {p p' : Pool} {blk : Int} {evs : List Ev} (h : FreeSpec P p p' blk evs) :
    Frees (owned P p.store) evs (owned P p'.store) := by
  rcases h.events with ⟨rfl, ho⟩ | ⟨base, rfl, ho⟩
  · exact Frees.nil (ho ▸ List.Perm.refl _)
  · exact Frees.one ho

/-- how `pvDeleteBlock(block, buffer, index)` changes the lists and the store, apart from the buffer itself -/
structure FreeShape (P : Params) (p p' : Pool) (b : Buffer) (idx : Int) : Prop where
  lists : (p'.pre = p.pre ∧ p'.post = p.post) ∨
          (b.buf ∈ p.pre ∧ p'.pre = p.pre.erase b.buf ∧ p'.post = b.buf :: p.post) ∨
          (b.buf ∈ p.post ∧ p'.pre = p.pre ∧ p'.post = p.post.erase b.buf)
  after : getBuf p'.store b.buf = some (b.put idx) ∨ (b.buf ∉ bufs p'.store ∧ (b.put idx).freeCount = P.N)
  others : ∀ c : Buffer, c.buf ≠ b.buf → (c ∈ p'.store ↔ c ∈ p.store)
  postNE : p'.post ≠ []

/-- `pvDeleteBlock(block, buffer, index)` (547-570) on a handed-out block -/
theorem deleteBlockAt_ok {P : Params} {k : Int} (hM : Multi P k) (hN2 : 2 ≤ P.N) (hA2 : P.A ≤ 1024)
    {p : Pool} (h : CoreWF P p) {b : Buffer} (hb : b ∈ p.store) (idx : Int)
    (hr : b.first ≤ idx ∧ idx < b.first + P.N) (hl : b.link idx = none) :
    ∃ p' evs, deleteBlockAt P p b.buf idx = .ok () p' evs ∧ FreeSpec P p p' (getBlock P b.buf idx) evs ∧
      FreeShape P p p' b idx := by
  have hN : 0 ≤ P.N := by omega
  have hget := h.getBuf_of_mem hb
  obtain ⟨hwf', hperm, _⟩ := (h.bufwf b hb).put_ok hM idx hr hl
  have hfc0 := (h.bufwf b hb).freeCount_nonneg
  have hfc' : (b.put idx).freeCount = b.freeCount + 1 := rfl
  have hbuf' : (b.put idx).buf = b.buf := rfl
  have hbase' : (b.put idx).base = b.base := rfl
  have hlnd := h.lists_nodup
  have hmemL : b.buf ∈ p.pre ++ p.post := h.lists.symm.subset (List.mem_map_of_mem hb)
  have hpermT : (p.taken P).Perm (getBlock P b.buf idx :: Pool.taken P { p with store := setBuf p.store (b.put idx) }) := by
    rw [Pool.taken_eq, Pool.taken_eq]
    exact (takenOf_dropBuf hb h.nodup).trans ((hperm.append_right _).trans ((takenOf_setBuf hb h.nodup hbuf').symm.cons _))
  have hown := owned_setBuf (P := P) hb h.nodup hbuf' hbase'
  have hmem' : b.put idx ∈ setBuf p.store (b.put idx) := mem_setBuf hb h.nodup hbuf'
  have hgetS0 : getBuf (setBuf p.store (b.put idx)) b.buf = some (b.put idx) :=
    getBuf_of_mem hmem' (by rw [bufs_setBuf hb h.nodup hbuf']; exact h.nodup)
  have hoth : ∀ c : Buffer, c.buf ≠ b.buf → (c ∈ setBuf p.store (b.put idx) ↔ c ∈ p.store) :=
    fun c hc => mem_setBuf_other (b' := b.put idx) hc
  have hothD : ∀ c : Buffer, c.buf ≠ b.buf → (c ∈ dropBuf (setBuf p.store (b.put idx)) b.buf ↔ c ∈ p.store) :=
    fun c hc => (mem_dropBuf_other hc).trans (hoth c hc)
  have hgone := not_mem_bufs_dropBuf (setBuf p.store (b.put idx)) b.buf
  have hsubS : ∀ x ∈ bufs (setBuf p.store (b.put idx)), x ∈ bufs p.store := fun x hx =>
    bufs_setBuf hb h.nodup hbuf' ▸ hx
  have hsubD : ∀ x ∈ bufs (dropBuf (setBuf p.store (b.put idx)) b.buf), x ∈ bufs p.store := fun x hx =>
    hsubS x ((List.filter_sublist.map _).subset hx)
  unfold deleteBlockAt
  rw [hget]; simp only
  by_cases h1 : (b.put idx).freeCount = 1
  · -- the buffer was full: it stands before the head and moves to the head
    rw [if_pos h1]
    have hb0 : b.freeCount = 0 := by omega
    have hpre : b.buf ∈ p.pre := (List.mem_append.mp hmemL).resolve_right fun hm => by
      have := h.postFree b hb hm; omega
    have hndpre : p.pre.Nodup := (List.nodup_append.mp hlnd).1
    simp only [moveToHead, hpre, if_true]
    have hneN : ¬ (b.put idx).freeCount = P.N := by omega
    rw [if_neg hneN]
    refine ⟨_, _, rfl, ⟨?_, hpermT, ⟨rfl, rfl, rfl⟩, Or.inl ⟨rfl, hown⟩, hsubS⟩,
      ⟨Or.inr (Or.inl ⟨hpre, rfl, rfl⟩), Or.inl hgetS0, hoth, by simp⟩⟩
    apply h.update hb hbuf' hwf' (p.pre.erase b.buf) (b.buf :: p.post)
    · refine List.perm_middle.trans ?_
      rw [← List.cons_append]
      exact List.Perm.append_right _ (List.perm_cons_erase hpre).symm
    · intro hm; exact absurd ((List.Nodup.mem_erase_iff hndpre).mp hm).1 (by simp)
    · intro _; omega
    · intro a ha
      refine ⟨fun hm => List.mem_of_mem_erase hm, fun hm => ?_⟩
      rcases List.mem_cons.mp hm with e | hm
      · exact absurd e ha
      · exact hm
    · intro e; simp at e
  · rw [if_neg h1]; simp only
    have hb1 : 1 ≤ b.freeCount := by omega
    have hnpre : b.buf ∉ p.pre := fun hm => by have := h.preFull b hb hm; omega
    have hpost : b.buf ∈ p.post := (List.mem_append.mp hmemL).resolve_left hnpre
    have hwf1 : CoreWF P { p with store := setBuf p.store (b.put idx) } :=
      h.update hb hbuf' hwf' p.pre p.post (List.Perm.refl _) (fun hm => absurd hm hnpre)
        (fun _ => by omega) (fun a _ => ⟨id, id⟩) h.headNull
    by_cases hfull : (b.put idx).freeCount = P.N
    · rw [if_pos hfull]
      have hempty : (b.put idx).taken P = [] := hwf'.taken_nil_of_full hN hfull
      have hbegin := hwf'.begin_eq hM hA2
      have hpermD : (Pool.taken P { p with store := dropBuf (setBuf p.store (b.put idx)) b.buf }).Perm
          (Pool.taken P { p with store := setBuf p.store (b.put idx) }) := by
        rw [Pool.taken_eq, Pool.taken_eq]
        have := takenOf_dropBuf (P := P) hmem' hwf1.nodup
        rw [hempty] at this; exact this.symm
      have hownD := owned_dropBuf (P := P) (b := b.put idx) hmem' hwf1.nodup
      rw [hown] at hownD
      -- both calls of `pvDeleteBuffer` leave `pre` as it was and `post` without the buffer
      have hdel : p.post.erase b.buf ≠ [] → ∀ pre1 post1 : List Int, pre1.erase b.buf = p.pre →
          post1.erase b.buf = p.post.erase b.buf → post1.head? ≠ some b.buf →
          ∃ p' evs, deleteBuffer P { p with store := setBuf p.store (b.put idx), pre := pre1, post := post1 } b.buf =
              .ok () p' evs ∧ FreeSpec P p p' (getBlock P b.buf idx) evs ∧ FreeShape P p p' b idx := by
        intro hne pre1 post1 e1 e2 hhead
        refine ⟨{ p with store := dropBuf (setBuf p.store (b.put idx)) b.buf, pre := p.pre, post := p.post.erase b.buf },
          [.free b.base P.bufferSize], ?_,
          ⟨?_, hpermT.trans (List.Perm.cons _ hpermD.symm), ⟨rfl, rfl, rfl⟩, Or.inr ⟨b.base, rfl, hownD⟩, hsubD⟩,
          ⟨Or.inr (Or.inr ⟨hpost, rfl, rfl⟩), Or.inr ⟨hgone, hfull⟩, hothD, hne⟩⟩
        · unfold deleteBuffer
          simp only [hgetS0]
          rw [if_neg hhead, e1, e2, hbegin]; rfl
        · exact hwf1.remove hmem' p.pre (p.post.erase b.buf)
            (List.perm_middle.symm.trans (List.Perm.append_left _ (List.perm_cons_erase hpost).symm))
            (fun a => ⟨id, List.mem_of_mem_erase⟩) (fun e => absurd e hne)
      cases hpl : p.post with
      | nil => rw [hpl] at hpost; cases hpost
      | cons hd rest =>
        simp only
        have hndpost : (hd :: rest).Nodup := hpl ▸ (List.nodup_append.mp hlnd).2.1
        by_cases hhd : hd = b.buf
        · rw [if_pos hhd]
          cases hrest : rest with
          | nil =>
            simp only
            refine ⟨_, _, rfl, ⟨?_, hpermT, ⟨rfl, rfl, rfl⟩, Or.inl ⟨rfl, hown⟩, hsubS⟩,
              ⟨Or.inl ⟨rfl, by show _ = p.post; rw [hpl, hrest]⟩, Or.inl hgetS0, hoth, List.cons_ne_nil _ _⟩⟩
            have := hwf1; rw [hpl, hrest] at this; exact this
          | cons r rs =>
            simp only
            have hnr : b.buf ∉ r :: rs := hrest ▸ hhd ▸ (List.nodup_cons.mp hndpost).1
            have he : p.post.erase b.buf = r :: rs := by rw [hpl, hhd, hrest, List.erase_cons_head]
            exact hdel (he ▸ List.cons_ne_nil _ _) (b.buf :: p.pre) (r :: rs) (List.erase_cons_head ..)
              (by rw [he, List.erase_of_not_mem hnr]) (fun e => hnr (List.mem_of_head? e))
        · rw [if_neg hhd]
          have hne : p.post.erase b.buf ≠ [] := fun e =>
            List.not_mem_nil (e ▸ hpl ▸ (List.mem_erase_of_ne hhd).mpr List.mem_cons_self)
          exact hdel hne p.pre (hd :: rest) (List.erase_of_not_mem hnpre) (by rw [hpl])
            (fun e => hhd (Option.some.inj e))
    · rw [if_neg hfull]
      exact ⟨_, _, rfl, ⟨hwf1, hpermT, ⟨rfl, rfl, rfl⟩, Or.inl ⟨rfl, hown⟩, hsubS⟩,
        ⟨Or.inl ⟨rfl, rfl⟩, Or.inl hgetS0, hoth, by show p.post ≠ []; intro e; rw [e] at hpost; simp at hpost⟩⟩

end Momo.Pool
