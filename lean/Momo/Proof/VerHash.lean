import Momo.Proof.VerCore
/-!
  HashSet / HashMap (C15): effect of each entry point on the version cell of its object (`HEff`); for the world of two objects
  `step_outcome` (the one case analysis of the EFFECTS of the entry points; `step_facts`, `step_reject_unchanged`, `step_quiet` are
  read off it), on the rejection side the table `accepts_iff` and `vcheck_eq` (case analyses of their own) with stale / fresh handles,
  then the histories.
-/
namespace Momo.Ver

/-- what positions and iterators of a hash table depend on -/
def HSet.shapeOf (s : HSet) : List Nat × Nat := (s.keys, s.cap)

def HEff (q : Prop) (cs : Cells) (s : HSet) (cs' : Cells) (s' : HSet) : Prop := SEff HSet.cell HSet.shapeOf q cs s cs' s'

/-- the quiet effect in elementary terms (no `Bumped`, no `shapeOf`); it is `HEff True` (`HEffQ.toEff`).  Used only by
    `HWorld.shape_cs_of_effQ`: "no increment without a change" for one call with this effect -/
def HEffQ (cs : Cells) (s : HSet) (cs' : Cells) (s' : HSet) : Prop :=
  s'.cell = s.cell ∧ ∃ n, cs' = bumpN cs s.cell n ∧ ((s'.keys ≠ s.keys ∨ s'.cap ≠ s.cap) → 0 < n) ∧
    ((s'.keys = s.keys ∧ s'.cap = s.cap) → n = 0)

theorem HEffQ.toEff {cs s cs' s'} (h : HEffQ cs s cs' s') : HEff True cs s cs' s' := by
  obtain ⟨hc, n, hn, hp, hq⟩ := h
  refine ⟨hc, n, hn, fun h0 => Decidable.byContradiction fun hne => ?_,
    fun _ hs => hq ⟨congrArg Prod.fst hs, congrArg Prod.snd hs⟩⟩
  refine Nat.ne_of_gt (hp ?_) h0
  by_cases hk : s'.keys = s.keys
  · exact .inr fun hcap => hne (Prod.ext hk hcap)
  · exact .inl hk

namespace HSet

theorem addNew_eff {q : Prop} (s : HSet) (cs : Cells) (k nc : Nat) : HEff q cs s (s.addNew cs k nc).1 (s.addNew cs k nc).2.1 :=
  SEff.one rfl fun _ h => List.cons_ne_self _ _ (congrArg Prod.fst h)

theorem insert_eff {q : Prop} (s : HSet) (cs : Cells) (k nc : Nat) : HEff q cs s (s.insert cs k nc).1 (s.insert cs k nc).2.1 := by
  unfold insert
  split
  · exact SEff.refl cs s
  · exact addNew_eff s cs k nc

theorem removeKey_eff {q : Prop} (s : HSet) (cs : Cells) (k : Nat) : HEff q cs s (s.removeKey cs k).1 (s.removeKey cs k).2.1 := by
  unfold removeKey
  split
  · next hk => exact SEff.one rfl fun _ h => List.erase_eq_self_iff.mp (congrArg Prod.fst h) (List.contains_iff_mem.mp hk)
  · exact SEff.refl cs s

theorem removeIf_eff {q : Prop} (s : HSet) (cs : Cells) (m r : Nat) : HEff q cs s (s.removeIf cs m r).1 (s.removeIf cs m r).2.1 :=
  ⟨rfl, _, rfl, fun h0 => congrArg (·, s.cap) (ListFacts.filter_length_eq_zero_iff.mp h0),
    fun _ h => ListFacts.filter_length_eq_zero_iff.mpr (congrArg Prod.fst h)⟩

/-- `Clear(true)` is quiet: when it increments, the capacity drops to 0 -/
theorem clear_eff (s : HSet) (cs : Cells) (sh : Bool) : HEff (sh = true) cs s (s.clear cs sh).1 (s.clear cs sh).2 := by
  unfold clear
  split
  · exact SEff.refl cs s
  · next hcap =>
    refine SEff.one rfl fun hsh h => hcap ?_
    subst hsh
    exact beq_iff_eq.mpr (congrArg Prod.snd h).symm

/-- `Reserve` is quiet provided the new capacity really covers the request (`CalcCapacity`'s loop, HashSet.h:698-705) -/
theorem reserve_eff (s : HSet) (cs : Cells) (n nc : Nat) : HEff (n ≤ nc) cs s (s.reserve cs n nc).1 (s.reserve cs n nc).2 := by
  unfold reserve
  split
  · exact SEff.refl cs s
  · next hn => exact SEff.one rfl fun hle h => hn (Nat.le_trans hle (Nat.le_of_eq (congrArg Prod.snd h)))

theorem insertRange_eff {q : Prop} (ks : List Nat) (nc : Nat) (s : HSet) (cs : Cells) :
    HEff q cs s (s.insertRange cs ks nc).1 (s.insertRange cs ks nc).2 := by
  obtain ⟨n, hn, hc, hl, h0⟩ := foldl_counted HSet.cell (fun s => s.keys.length)
    (fun (acc : Cells × HSet) k => ((acc.2.insert acc.1 k nc).1, (acc.2.insert acc.1 k nc).2.1)) (fun cs s k => by
      show ∃ n, (s.insert cs k nc).1 = _ ∧ (s.insert cs k nc).2.1.cell = _ ∧ (s.insert cs k nc).2.1.keys.length = _ ∧
        (n = 0 → (s.insert cs k nc).2.1 = s)
      unfold insert
      split
      · exact ⟨0, (bumpN_zero _ _).symm, rfl, rfl, fun _ => rfl⟩
      · exact ⟨1, rfl, rfl, rfl, fun h => nomatch h⟩) ks cs s
  exact ⟨hc, n, hn, fun h => congrArg shapeOf (h0 h),
    fun _ h => Nat.add_left_cancel (n := s.keys.length) (hl.symm.trans (congrArg (fun p => p.1.length) h))⟩

theorem add_eff {q : Prop} {s : HSet} {cs : Cells} {h : HPos} {k nc : Nat} {r} (hr : s.add cs h k nc = some r) : HEff q cs s r.1 r.2.1 := by
  obtain ⟨-, hr⟩ := chk_bind hr
  obtain ⟨-, hr⟩ := chk_bind hr
  cases hr
  exact addNew_eff s cs k nc

theorem addExt_eff {q : Prop} {s : HSet} {cs : Cells} {h : HPos} {ef : Bool} {k nc : Nat} {r} (hr : s.addExt cs h ef k nc = some r) :
    HEff q cs s r.1 r.2.1 := by
  obtain ⟨-, hr⟩ := chk_bind hr
  obtain ⟨-, hr⟩ := chk_bind hr
  obtain ⟨-, hr⟩ := chk_bind hr
  cases hr
  exact addNew_eff s cs k nc

theorem insertExt_eff {q : Prop} {s : HSet} {cs : Cells} {ef : Bool} {k nc : Nat} {r} (hr : s.insertExt cs ef k nc = some r) :
    HEff q cs s r.1 r.2.1 := by
  obtain ⟨-, hr⟩ := chk_bind hr
  cases hr
  exact insert_eff s cs k nc

/-- not claimed quiet: see `HOp.Quiet` -/
theorem remove_eff {s : HSet} {cs : Cells} {h : HPos} {nx : Option Nat} {r} (hr : s.remove cs h nx = some r) :
    HEff False cs s r.1 r.2.1 := by
  obtain ⟨-, hr⟩ := chk_bind hr
  obtain ⟨-, hr⟩ := chk_bind hr
  obtain ⟨k, -, hr⟩ := Option.bind_eq_some_iff.mp hr
  cases hr
  exact SEff.one rfl fun hq => hq.elim

theorem removeExt_eff {s : HSet} {cs : Cells} {h : HPos} {ef : Bool} {nx : Option Nat} {r}
    (hr : s.removeExt cs h ef nx = some r) : HEff False cs s r.1 r.2.1 :=
  remove_eff (chk_bind hr).2

theorem resetKey_cell {s : HSet} {cs : Cells} {h : HPos} {k : Nat} {s'} (hr : s.resetKey cs h k = some s') : s'.cell = s.cell := by
  obtain ⟨-, hr⟩ := chk_bind hr
  obtain ⟨k, -, hr⟩ := Option.bind_eq_some_iff.mp hr
  cases hr
  rfl

theorem mergeTo_merged (cs : Cells) (src dst : HSet) (nc : Nat) :
    Merged HSet.cell HSet.keys cs src dst (HSet.mergeTo cs src dst nc) := by
  unfold HSet.mergeTo
  dsimp only
  split
  · exact Merged.none
  · next hne =>
    have hpos : (src.keys.filter fun k => !dst.keys.contains k).length ≠ 0 := fun h0 =>
      hne (List.isEmpty_iff.mpr (List.length_eq_zero_iff.mp h0))
    refine Merged.some rfl rfl hpos (fun h => hpos ?_) (fun h => hpos ?_)
    · have := ListFacts.length_filter_add_length_filter_not (fun k => dst.keys.contains k) src.keys
      rw [show src.keys.filter (fun k => dst.keys.contains k) = src.keys from h] at this
      exact Nat.add_left_cancel this
    · exact List.length_eq_zero_iff.mpr (List.reverse_eq_nil_iff.mp (List.append_left_eq_self.mp h))

end HSet

namespace HPos

theorem deref_none {h : HPos} {cs : Cells} (hf : h.kp.check cs = false ∨ h.elem = none) : h.deref cs = none := by
  unfold HPos.deref
  rcases hf with hf | hf <;> rw [hf]
  · rfl
  · cases chk (h.kp.check cs) <;> rfl

theorem inc_none {cs : Cells} {h : HPos} (hd : h.deref cs = none) (n : Option Nat) : h.inc cs n = none := by
  unfold HPos.inc; rw [hd]; rfl

theorem deref_snap (cs : Cells) (c k : Nat) (mv : Bool) : (⟨snap cs c, some k, mv⟩ : HPos).deref cs = some k := by
  unfold HPos.deref; rw [snap_check]; rfl

end HPos

/-- entry points for which "nothing changed" implies "no version increment".  Excluded: `Clear(false)` (increments although
    an empty table with buckets keeps keys and capacity), `Remove(iter)` (increments always, and the model does not show that the
    key list changed: the key of an accepted position is not known to be stored), `ResetKey` (changes a key in place without an
    increment; the facts about steps are not stated for it at all, `notReset`),
    `Reserve` only under the guarantee `requested capacity ≤ new capacity` of HashSet.h:698-705 -/
def HOp.Quiet : HOp → Prop
  | .clear _ sh => sh = true
  | .reserve _ n nc => n ≤ nc
  | .resetKey _ _ _ => False
  | .remove _ _ _ => False
  | .removeExt _ _ _ _ => False
  | _ => True

namespace HWorld

/-- the two objects have version cells (crews) of their own; every world-level theorem assumes it and `step_facts` keeps it -/
def WF (w : HWorld) : Prop := w.a.cell ≠ w.b.cell

/-- what the handles with version cell `c` watch: keys and capacity of the object that owns `c`.  It is
    `owner2 w.a.cell w.b.cell w.a.shapeOf w.b.shapeOf` (`shape_eq`), the form in which `step_facts` speaks; `step_moved` crosses -/
def shape (w : HWorld) (c : Nat) : Option (List Nat × Nat) :=
  if w.a.cell = c then some (w.a.keys, w.a.cap) else if w.b.cell = c then some (w.b.keys, w.b.cap) else none

theorem shape_eq (w : HWorld) : w.shape = owner2 w.a.cell w.b.cell w.a.shapeOf w.b.shapeOf := rfl

/-- the pair `x` returned by a call in `w` is one of the `SetOutcome`s, read on the components (counters, object a, object b, accepted) -/
def Out (q notReset : Prop) (w : HWorld) (x : HWorld × Option HRes) : Prop :=
  SetOutcome HSet.cell HSet.shapeOf q notReset w.cs w.a w.b x.1.cs x.1.a x.1.b x.2.isSome

theorem out_of_eff (w : HWorld) (o : Bool) {q notReset : Prop} {cs' : Cells} {s' : HSet} {r : HRes}
    (he : HEff q w.cs (w.obj o) cs' s') : Out q notReset w (w.setObj o cs' s', some r) := by
  cases o
  · exact .ofEff he
  · exact (SetOutcome.ofEff he).symm

/-- every entry point (complete list `HOp`) has one of the four `SetOutcome`s, quietly for `op.Quiet` -/
theorem step_outcome (w : HWorld) (op : HOp) : Out op.Quiet (∀ o h k, op ≠ .resetKey o h k) w (w.step op) := by
  -- one case per branch of `HWorld.step`, numbered in its order; every branch not listed returns the world
  fun_cases HWorld.step w op
  case case8 o k nc r => exact out_of_eff w o (HSet.insert_eff ..)
  case case9 o ef k nc r hr => exact out_of_eff w o (HSet.insertExt_eff hr)
  case case11 o h k nc r hr => exact out_of_eff w o (HSet.add_eff hr)
  case case13 o h ef k nc r hr => exact out_of_eff w o (HSet.addExt_eff hr)
  case case15 o h n r hr => exact out_of_eff w o (HSet.remove_eff hr)
  case case17 o h ef n r hr => exact out_of_eff w o (HSet.removeExt_eff hr)
  case case19 o k r => exact out_of_eff w o (HSet.removeKey_eff ..)
  case case20 o m r x => exact out_of_eff w o (HSet.removeIf_eff ..)
  case case21 o h k s hs =>
    cases o
    · exact .reset (HSet.resetKey_cell hs) rfl fun hnr => hnr _ _ _ rfl
    · exact .reset rfl (HSet.resetKey_cell hs) fun hnr => hnr _ _ _ rfl
  case case23 o sh r => exact out_of_eff w o (HSet.clear_eff ..)
  case case24 o n nc r => exact out_of_eff w o (HSet.reserve_eff ..)
  case case25 o ks nc r => exact out_of_eff w o (HSet.insertRange_eff ..)
  case case26 => exact .swap
  case case27 o nc r =>
    cases o
    · exact .ofMerged (fun _ _ h => congrArg Prod.fst h) (HSet.mergeTo_merged w.cs w.a w.b nc)
    · exact (SetOutcome.ofMerged (fun _ _ h => congrArg Prod.fst h) (HSet.mergeTo_merged w.cs w.b w.a nc)).symm
  all_goals exact .same _

theorem step_facts (w : HWorld) (hw : w.WF) (op : HOp) :
    StepFacts HSet.cell HSet.shapeOf op.Quiet (∀ o h k, op ≠ .resetKey o h k) w.cs w.a w.b (w.step op).1.cs (w.step op).1.a (w.step op).1.b :=
  (step_outcome w op).facts hw

theorem step_moved (w : HWorld) (hw : w.WF) (op : HOp) (hnr : ∀ o h k, op ≠ .resetKey o h k) :
    Moved op.Quiet w.cs (w.step op).1.cs w.shape (w.step op).1.shape := by
  rw [shape_eq, shape_eq]; exact (step_facts w hw op).moved hnr

theorem shape_cs_of_effQ (w : HWorld) (hw : w.WF) (o : Bool) {cs' : Cells} {s' : HSet} (he : HEffQ w.cs (w.obj o) cs' s')
    (c : Nat) (hs : (w.setObj o cs' s').shape c = w.shape c) : (w.setObj o cs' s').cs c = w.cs c :=
  (((out_of_eff (notReset := True) (r := .unit) w o he.toEff).facts hw).moved trivial).quiet trivial c hs

theorem step_reject_unchanged (w : HWorld) (op : HOp) (h : (w.step op).2 = none) : (w.step op).1 = w := by
  have ho := step_outcome w op
  generalize w.step op = x at h ho
  obtain ⟨⟨cs', a', b'⟩, r⟩ := x
  cases h
  obtain ⟨rfl, rfl, rfl⟩ := ho.rejected
  rfl

/-- **rejection table**: a call is accepted exactly when the version check `vcheck` and the argument checks `pre` listed for its
    entry point pass -/
theorem accepts_iff (w : HWorld) (op : HOp) : (w.step op).2.isSome = (op.vcheck w && op.pre w) := by
  cases op with
  | deref h =>
    dsimp only [step, HOp.vcheck, HOp.pre, HPos.deref]
    cases h.kp.check w.cs <;> cases h.elem <;> rfl
  | inc h n =>
    dsimp only [step, HOp.vcheck, HOp.pre, HPos.inc, HPos.deref]
    cases h.kp.check w.cs <;> cases h.elem <;> cases h.movable <;> cases n <;> rfl
  | checkIt o h ae =>
    dsimp only [step, HOp.vcheck, HOp.pre, HSet.checkIt]
    cases h.kp.checkAt w.cs (w.obj o).cell ae <;> rfl
  | insertExt o ef k nc =>
    dsimp only [step, HOp.vcheck, HOp.pre, HSet.insertExt]
    cases ef <;> rfl
  | add o h k nc =>
    dsimp only [step, HOp.vcheck, HOp.pre, HSet.add]
    cases h.kp.checkAt w.cs (w.obj o).cell false <;> cases h.elem <;> rfl
  | addExt o h ef k nc =>
    dsimp only [step, HOp.vcheck, HOp.pre, HSet.addExt]
    cases h.kp.checkAt w.cs (w.obj o).cell false <;> cases h.elem <;> cases ef <;> rfl
  | remove o h n =>
    dsimp only [step, HOp.vcheck, HOp.pre, HSet.remove]
    cases h.kp.checkAt w.cs (w.obj o).cell false <;> cases h.elem <;> cases ((w.obj o).cap != 0) <;> rfl
  | removeExt o h ef n =>
    dsimp only [step, HOp.vcheck, HOp.pre, HSet.removeExt, HSet.remove]
    cases h.kp.checkAt w.cs (w.obj o).cell false <;> cases h.elem <;> cases ef <;> cases ((w.obj o).cap != 0) <;> rfl
  | resetKey o h k =>
    dsimp only [step, HOp.vcheck, HOp.pre, HSet.resetKey]
    cases h.kp.checkAt w.cs (w.obj o).cell false <;> cases h.elem <;> rfl
  | bucketBounds o i bc =>
    dsimp only [step, HOp.vcheck, HOp.pre]
    cases decide (i < bc) <;> rfl
  | bucketIndex o =>
    dsimp only [step, HOp.vcheck, HOp.pre]
    cases ((w.obj o).cap != 0) <;> rfl
  | _ => rfl

theorem step_eq_of_reject (w : HWorld) (op : HOp) (h : (op.vcheck w && op.pre w) = false) : w.step op = (w, none) :=
  eq_of_reject (accepts_iff w op) (step_reject_unchanged w op) h

/-- which keeper check an entry point applies to its handle; only `CheckIterator` allows an empty one -/
theorem vcheck_eq (w : HWorld) (op : HOp) (h : HPos) (hh : op.handle = some h) :
    (op.target = none ∧ op.vcheck w = h.kp.check w.cs) ∨
    ∃ o ae, op.target = some o ∧ op.vcheck w = h.kp.checkAt w.cs (w.obj o).cell ae ∧ (ae = true → op = .checkIt o h true) := by
  cases op <;> cases hh
  case deref | inc => exact .inl ⟨rfl, rfl⟩
  case checkIt o ae => exact .inr ⟨o, ae, rfl, rfl, fun e => e ▸ rfl⟩
  all_goals exact .inr ⟨_, false, rfl, rfl, fun e => nomatch e⟩

/-- a handle that fails the version check of every entry point taking it makes the call throw, world unchanged (stale, foreign and
    empty handles are the instances).  `hd`: entry points of the handle itself; `hs`: entry points of an object, where only
    `CheckIterator(·, true)` allows an empty handle -/
theorem handle_rejected (w : HWorld) (op : HOp) (h : HPos) (hh : op.handle = some h)
    (hd : op.target = none → h.kp.check w.cs = false)
    (hs : ∀ o ae, op.target = some o → (ae = true → op = .checkIt o h true) → h.kp.checkAt w.cs (w.obj o).cell ae = false) :
    w.step op = (w, none) := by
  apply step_eq_of_reject
  rcases vcheck_eq w op h hh with ⟨ht, e⟩ | ⟨o, ae, ht, e, hae⟩
  · rw [e, hd ht]; rfl
  · rw [e, hs o ae ht hae]; rfl

theorem stale_rejected (w : HWorld) (op : HOp) (h : HPos) (hh : op.handle = some h) (hs : Stale h.kp w.cs) :
    w.step op = (w, none) :=
  handle_rejected w op h hh (fun _ => hs.check) fun _ _ _ _ => hs.checkAt ..

theorem fresh_accepted (w : HWorld) (op : HOp) (h : HPos) (hh : op.handle = some h)
    (hk : ∃ c, h.kp = snap w.cs c ∧ ∀ o, op.target = some o → c = (w.obj o).cell) :
    (w.step op).2.isSome = op.pre w := by
  rw [accepts_iff]
  obtain ⟨c, hk, hc⟩ := hk
  rcases vcheck_eq w op h hh with ⟨-, e⟩ | ⟨o, ae, ht, e, -⟩
  · rw [e, hk, snap_check]; rfl
  · rw [e, hk, hc o ht, snap_checkAt]; rfl

theorem step_quiet (w : HWorld) (hw : w.WF) (op : HOp) (hq : op.Quiet) (c : Nat)
    (hs : (w.step op).1.shape c = w.shape c) : (w.step op).1.cs c = w.cs c :=
  (step_moved w hw op fun _ _ _ e => by subst e; exact hq).quiet hq c hs

def run (w : HWorld) : List HOp → HWorld
  | [] => w
  | op :: ops => run (w.step op).1 ops

theorem run_inv (ops : List HOp) : ∀ (w : HWorld), w.WF → (w.run ops).WF ∧ ∀ c, w.cs c ≤ (w.run ops).cs c := by
  induction ops with
  | nil => intro w hw; exact ⟨hw, fun _ => Nat.le_refl _⟩
  | cons op ops ih =>
    intro w hw
    have h1 := step_facts w hw op
    have h2 := ih _ h1.wf
    exact ⟨h2.1, fun c => Nat.le_trans (h1.mono c) (h2.2 c)⟩

/-- every call of the history is rejected, or is a quiet entry point that left keys and capacity of crew `c` alone -/
def AllQuiet (c : Nat) : HWorld → List HOp → Prop
  | _, [] => True
  | w, op :: ops => ((w.step op).2 = none ∨ (op.Quiet ∧ (w.step op).1.shape c = w.shape c)) ∧ AllQuiet c (w.step op).1 ops

/-- some call of the history (other than ResetKey) changed keys or capacity of crew `c` -/
def SomeChange (c : Nat) : HWorld → List HOp → Prop
  | _, [] => False
  | w, op :: ops => ((∀ o h k, op ≠ .resetKey o h k) ∧ (w.step op).1.shape c ≠ w.shape c) ∨ SomeChange c (w.step op).1 ops

theorem run_quiet (c : Nat) (ops : List HOp) : ∀ (w : HWorld), w.WF → AllQuiet c w ops → (w.run ops).cs c = w.cs c := by
  induction ops with
  | nil => intro w _ _; rfl
  | cons op ops ih =>
    intro w hw hq
    refine (ih _ (step_facts w hw op).wf hq.2).trans ?_
    rcases hq.1 with hr | ⟨hq1, hs⟩
    · rw [step_reject_unchanged w op hr]
    · exact step_quiet w hw op hq1 c hs

theorem run_change (c : Nat) (ops : List HOp) : ∀ (w : HWorld), w.WF → SomeChange c w ops → w.cs c < (w.run ops).cs c := by
  induction ops with
  | nil => intro w _ h; exact h.elim
  | cons op ops ih =>
    intro w hw hc
    have h1 := step_facts w hw op
    rcases hc with ⟨hnr, hs⟩ | hc
    · exact Nat.lt_of_lt_of_le ((step_moved w hw op hnr).bump c hs) ((run_inv ops _ h1.wf).2 c)
    · exact Nat.lt_of_le_of_lt (h1.mono c) (ih _ h1.wf hc)

end HWorld
end Momo.Ver
