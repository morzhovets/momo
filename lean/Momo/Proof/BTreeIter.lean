import Momo.Proof.BTreeBasic
/-!
  C02, iterators through their in-order index: `operator++` raises `idxOf` of an element position by one, `operator--`
  lowers it by one, `GetBegin()` has index 0, `GetEnd()` has index `size`, and an iterator is determined by its index
  (`idxOf_inj`); hence forward traversal with the modelled iterator yields the in-order list (`traverse_eq`) and backward
  traversal its reverse (`traverseBack_go`). Later files rely on `offsetOf` (what precedes the node at a path) and
  `ValidPos` (element position or `GetEnd()`). Core Lean only.
-/
namespace Momo.BTree
open Node
variable {α : Type}

/-- number of elements that precede the subtree at `path`. `idxOf r p i` (model) is the in-order index of the one position
    `(p, i)`, which insertion and search speak of; `offsetOf r p` counts what lies in front of the whole node at `p`
    (`idxOf_eq_offset`: index = offset + index inside the node). Removal and rebalancing track it for the saved leaf: a merge
    lengthens that leaf to the right but keeps what is in front of it, so each of its slots keeps its index. -/
def offsetOf : Node α → List Nat → Nat
  | _, [] => 0
  | leaf _ _, _ :: _ => 0
  | inner _ cs, c :: p => ((cs.take c).map (fun ch => size ch)).sum + c +
      (match cs[c]? with
       | some ch => offsetOf ch p
       | none => 0)

@[simp] theorem offsetOf_nil (n : Node α) : offsetOf n [] = 0 := by cases n <;> simp [offsetOf]

@[simp] theorem offsetOf_inner_cons (is : List α) (cs : List (Node α)) (c : Nat) (p : List Nat) :
    offsetOf (inner is cs) (c :: p) = ((cs.take c).map (fun ch => size ch)).sum + c +
      (match cs[c]? with
       | some ch => offsetOf ch p
       | none => 0) := by cases h : cs[c]? <;> simp [offsetOf, h]

theorem offsetOf_inner_cons' {is : List α} {cs : List (Node α)} {c : Nat} {ch : Node α} (hc : cs[c]? = some ch)
    (p : List Nat) :
    offsetOf (inner is cs) (c :: p) = ((cs.take c).map (fun ch => size ch)).sum + c + offsetOf ch p := by
  simp [hc]

theorem idxOf_append {r m : Node α} {p : List Nat} (q : List Nat) (j : Nat) (h : nodeAt? r p = some m) :
    idxOf r (p ++ q) j = offsetOf r p + idxOf m q j := by
  induction p generalizing r with
  | nil => simp at h; subst h; simp
  | cons c p ih =>
    obtain ⟨is, cs, ch, rfl, hc, h⟩ := nodeAt?_cons_some h
    rw [List.cons_append, idxOf_inner_cons' hc, offsetOf_inner_cons' hc, ih h]
    omega

theorem idxOf_eq_offset {r m : Node α} {p : List Nat} (j : Nat) (h : nodeAt? r p = some m) :
    idxOf r p j = offsetOf r p + idxOf m [] j := by
  simpa using idxOf_append [] j h

theorem offsetOf_append {r m : Node α} {p : List Nat} (q : List Nat) (h : nodeAt? r p = some m) :
    offsetOf r (p ++ q) = offsetOf r p + offsetOf m q := by
  induction p generalizing r with
  | nil => simp at h; subst h; simp
  | cons c p ih =>
    obtain ⟨is, cs, ch, rfl, hc, h⟩ := nodeAt?_cons_some h
    rw [List.cons_append, offsetOf_inner_cons' hc, offsetOf_inner_cons' hc, ih h]
    omega

theorem idxOf_lt_size {d : Nat} {r : Node α} (hb : Bal d r) {path : List Nat} {i : Nat} (h : ValidElem r path i) :
    idxOf r path i < size r := by
  obtain ⟨m, hm, hi⟩ := h
  refine Bal.path_rec ?_ ?_ hb hm
  · intro d hb
    cases hb with
    | leaf cap items => simpa [Node.count, size] using hi
    | inner d items cs hlen hall =>
      simp only [Node.count] at hi
      rw [idxOf_inner_nil, size_inner items cs hlen]
      have := sum_take_le cs (i+1); omega
  · intro d is cs c ch p _ hlen hc _ _ ih
    have hcl := ListFacts.lt_of_getElem? hc
    rw [idxOf_inner_cons' hc, size_inner is cs hlen]
    have h1 := sum_take_succ cs c ch hc
    have h2 := sum_take_le cs (c+1)
    omega

/-- where the upward walk of `pvMove` stops, the in-order index is unchanged; if it leaves the tree, the index was `size` -/
theorem climb_spec {d : Nat} {r m : Node α} (hb : Bal d r) (path : List Nat) (hm : nodeAt? r path = some m) :
    (∀ q, climb r path = some q → ValidElem r q.path q.idx ∧ idxOf r q.path q.idx = idxOf r path m.count) ∧
    (climb r path = none → idxOf r path m.count = size r) := by
  refine Bal.path_rec ?_ ?_ hb hm
  · intro d hb
    constructor
    · intro q hq; cases m <;> simp [climb] at hq
    · intro _; exact idxOf_count hb
  · intro d is cs c ch p _ hlen hc _ hm ⟨ih1, ih2⟩
    have hcl := ListFacts.lt_of_getElem? hc
    simp only [climb, hc]
    cases hcl' : climb ch p with
    | some q =>
      obtain ⟨hv, hidx⟩ := ih1 q hcl'
      simp only
      constructor
      · intro q' hq'; cases hq'
        obtain ⟨m', hm1, hm2⟩ := hv
        exact ⟨⟨m', by simp [hc, hm1], hm2⟩, by simp [hc, hidx]⟩
      · intro h; cases h
    | none =>
      have hsz := ih2 hcl'
      simp only
      constructor
      · intro q' hq'
        split at hq'
        · rename_i hlt
          cases hq'
          refine ⟨⟨inner is cs, by simp, by simpa [Node.count] using hlt⟩, ?_⟩
          dsimp only
          rw [idxOf_inner_nil, idxOf_inner_cons' hc, hsz, sum_take_succ cs c ch hc]; omega
        · cases hq'
      · intro h
        split at h
        · cases h
        · rename_i hnlt
          have hce : c = is.length := by omega
          rw [idxOf_inner_cons' hc, hsz, size_inner is cs hlen]
          have h1 := sum_take_succ cs c ch hc
          have h2 : cs.take (c+1) = cs := List.take_of_length_le (by omega)
          rw [h2] at h1; omega

/-- an iterator of the tree: an element position or `GetEnd()` (`endPos`), what every operation returns -/
def ValidPos (r : Node α) (q : Pos) : Prop := ValidElem r q.path q.idx ∨ q = endPos r

theorem idxOf_endPos {d : Nat} {r : Node α} (hb : Bal d r) : idxOf r (endPos r).path (endPos r).idx = size r := by
  simpa [endPos] using idxOf_count hb

/-- `pvMakeIterator(node, index, true)` (the result of `++`, `GetBegin`, removal): a slot behind the last item of its node
    moves to the next element, which has the same in-order index -/
theorem moveIf_spec {d : Nat} {r m : Node α} (hb : Bal d r) (path : List Nat) (i : Nat)
    (hm : nodeAt? r path = some m) (hi : i ≤ m.count) :
    idxOf r (moveIf r ⟨path, i⟩).path (moveIf r ⟨path, i⟩).idx = idxOf r path i ∧ ValidPos r (moveIf r ⟨path, i⟩) := by
  unfold moveIf
  simp only [countAt, hm]
  split
  · rename_i he
    subst he
    obtain ⟨h1, h2⟩ := climb_spec hb path hm
    cases hc : climb r path with
    | some q =>
      obtain ⟨hv, hidx⟩ := h1 q hc
      exact ⟨by simpa using hidx, Or.inl (by simpa using hv)⟩
    | none =>
      have := h2 hc
      simp only [Option.getD_none]
      exact ⟨by rw [this]; exact idxOf_endPos hb, Or.inr rfl⟩
  · rename_i hne
    have hne' : i ≠ m.count := hne
    exact ⟨rfl, Or.inl ⟨m, hm, by dsimp only; omega⟩⟩

theorem leftPath_spec {d : Nat} {n : Node α} (hb : Bal d n) :
    (∃ cap items, nodeAt? n (leftPath n) = some (leaf cap items)) ∧ idxOf n (leftPath n) 0 = 0 := by
  induction hb with
  | leaf cap items => exact ⟨⟨cap, items, by simp [leftPath]⟩, by simp⟩
  | inner d items cs hlen hall ih =>
    cases cs with
    | nil => simp at hlen
    | cons c cs' =>
      obtain ⟨⟨cap, its, h1⟩, h2⟩ := ih c (by simp)
      simp only [leftPath, leftPathHead]
      exact ⟨⟨cap, its, by simp [h1]⟩, by simp [h2]⟩

theorem offsetOf_leftPath {d : Nat} {n : Node α} (hb : Bal d n) : offsetOf n (leftPath n) = 0 := by
  obtain ⟨⟨cap, its, h1⟩, h2⟩ := leftPath_spec hb
  rw [idxOf_eq_offset 0 h1, idxOf_leaf] at h2
  exact h2

theorem rightPath_spec {d : Nat} {n : Node α} (hb : Bal d n) :
    (∃ cap items, nodeAt? n (rightPath n).path = some (leaf cap items) ∧ (rightPath n).idx = items.length) ∧
    idxOf n (rightPath n).path (rightPath n).idx = size n := by
  induction hb with
  | leaf cap items => exact ⟨⟨cap, items, by simp [rightPath]⟩, by simp [rightPath, size]⟩
  | inner d items cs hlen hall ih =>
    obtain ⟨c, hc⟩ := exists_child hlen (Nat.le_refl _)
    obtain ⟨⟨cap, its, h1, h1'⟩, h2⟩ := ih c (List.mem_of_getElem? hc)
    simp only [rightPath, rightPathAt_eq, hc]
    refine ⟨⟨cap, its, by simp [hc, h1], h1'⟩, ?_⟩
    rw [idxOf_inner_cons' hc, h2, size_inner items cs hlen]
    have h3 := sum_take_succ cs items.length c hc
    have h4 : cs.take (items.length + 1) = cs := List.take_of_length_le (by omega)
    rw [h4] at h3; omega

theorem idxOf_leaf_succ {r : Node α} {path : List Nat} (i : Nat) {cap : Nat} {items : List α}
    (hm : nodeAt? r path = some (leaf cap items)) : idxOf r path (i + 1) = idxOf r path i + 1 := by
  rw [idxOf_eq_offset (i+1) hm, idxOf_eq_offset i hm]; simp; omega

/-- `operator++` is "+1" on in-order indexes: the step lemma of forward traversal and of every loop over iterators -/
theorem next_spec {d : Nat} {r : Node α} (hb : Bal d r) (path : List Nat) (i : Nat) (h : ValidElem r path i) :
    idxOf r (next r ⟨path, i⟩).path (next r ⟨path, i⟩).idx = idxOf r path i + 1 ∧ ValidPos r (next r ⟨path, i⟩) := by
  obtain ⟨m, hm, hi⟩ := h
  unfold next
  simp only [hm]
  cases m with
  | leaf cap items =>
    simp only
    obtain ⟨h1, h2⟩ := moveIf_spec hb path (i+1) hm (by simp only [Node.count] at hi ⊢; omega)
    exact ⟨by rw [h1, idxOf_leaf_succ i hm], h2⟩
  | inner items cs =>
    simp only
    have hbm := (hb.nodeAt hm).1
    obtain ⟨d', hd', hall⟩ := hbm.inner_depth
    have hlen := hbm.inner_len
    simp only [Node.count] at hi
    obtain ⟨ch, hc⟩ := exists_child hlen (i := i + 1) hi
    simp only [hc]
    obtain ⟨⟨cap, its, hl1⟩, hl2⟩ := leftPath_spec (hall ch (List.mem_of_getElem? hc))
    have hnode : nodeAt? r (path ++ (i + 1) :: leftPath ch) = some (leaf cap its) := by
      rw [nodeAt?_append, hm]; simp [hc, hl1]
    obtain ⟨h1, h2⟩ := moveIf_spec hb (path ++ (i + 1) :: leftPath ch) 0 hnode (Nat.zero_le _)
    refine ⟨?_, h2⟩
    rw [h1, idxOf_append _ 0 hm, idxOf_eq_offset i hm, idxOf_inner_cons' hc, hl2, idxOf_inner_nil]
    omega

theorem beginPos_spec {d : Nat} {r : Node α} (hb : Bal d r) :
    idxOf r (beginPos r).path (beginPos r).idx = 0 ∧ ValidPos r (beginPos r) := by
  obtain ⟨⟨cap, its, hl1⟩, hl2⟩ := leftPath_spec hb
  obtain ⟨h1, h2⟩ := moveIf_spec hb (leftPath r) 0 hl1 (Nat.zero_le _)
  exact ⟨by unfold beginPos; rw [h1, hl2], h2⟩

theorem normLeaf_spec {d : Nat} {r m : Node α} (hb : Bal d r) (path : List Nat) (i : Nat)
    (hm : nodeAt? r path = some m) (hi : i ≤ m.count) :
    idxOf r (normLeaf r ⟨path, i⟩).path (normLeaf r ⟨path, i⟩).idx = idxOf r path i ∧
    ∃ cap items, nodeAt? r (normLeaf r ⟨path, i⟩).path = some (leaf cap items) ∧
      (normLeaf r ⟨path, i⟩).idx ≤ items.length := by
  unfold normLeaf
  simp only [hm]
  cases m with
  | leaf cap items => exact ⟨rfl, cap, items, hm, by simpa [Node.count] using hi⟩
  | inner items cs =>
    simp only
    have hbm := (hb.nodeAt hm).1
    obtain ⟨d', hd', hall⟩ := hbm.inner_depth
    have hlen := hbm.inner_len
    simp only [Node.count] at hi
    obtain ⟨ch, hc⟩ := exists_child hlen hi
    simp only [hc]
    obtain ⟨⟨cap, its, hr1, hr1'⟩, hr2⟩ := rightPath_spec (hall ch (List.mem_of_getElem? hc))
    refine ⟨?_, cap, its, ?_, by omega⟩
    · rw [idxOf_append _ _ hm, idxOf_eq_offset i hm, idxOf_inner_cons' hc, hr2, idxOf_inner_nil,
        sum_take_succ cs i ch hc]
      omega
    · rw [nodeAt?_append, hm]; simp [hc, hr1]

theorem climbLeft_spec {d : Nat} {r m : Node α} (hb : Bal d r) (path : List Nat) (hm : nodeAt? r path = some m) :
    (∀ q, climbLeft r path = some q → q.idx > 0 ∧ ValidElem r q.path (q.idx - 1) ∧
        idxOf r q.path (q.idx - 1) + 1 = offsetOf r path) ∧
    (climbLeft r path = none → offsetOf r path = 0) := by
  refine Bal.path_rec ?_ ?_ hb hm
  · intro d _
    constructor
    · intro q hq; cases m <;> simp [climbLeft] at hq
    · intro _; simp
  · intro d is cs c ch p _ hlen hc _ hm ⟨ih1, ih2⟩
    have hcl := ListFacts.lt_of_getElem? hc
    simp only [climbLeft, hc, offsetOf_inner_cons]
    cases hcl' : climbLeft ch p with
    | some q =>
      obtain ⟨hpos, hv, hidx⟩ := ih1 q hcl'
      simp only
      constructor
      · intro q' hq'; cases hq'
        obtain ⟨m', hm1, hm2⟩ := hv
        refine ⟨hpos, ⟨m', by simp [hc, hm1], hm2⟩, ?_⟩
        simp only [idxOf_inner_cons, hc]; omega
      · intro h; cases h
    | none =>
      have hz := ih2 hcl'
      simp only
      constructor
      · intro q' hq'
        split at hq'
        · rename_i hgt
          cases hq'
          refine ⟨hgt, ⟨inner is cs, by simp, by simp only [Node.count]; omega⟩, ?_⟩
          have : c - 1 + 1 = c := by omega
          dsimp only
          rw [idxOf_inner_nil, this, hz]; omega
        · cases hq'
      · intro h
        split at h
        · cases h
        · rename_i hng
          have : c = 0 := by omega
          subst this; simp [hz]

/-- `operator--` is "-1" on in-order indexes, from any slot with positive index (also from `GetEnd()`) -/
theorem prev_spec {d : Nat} {r m : Node α} (hb : Bal d r) (path : List Nat) (i : Nat)
    (hm : nodeAt? r path = some m) (hi : i ≤ m.count) (hpos : 0 < idxOf r path i) :
    idxOf r (prev r ⟨path, i⟩).path (prev r ⟨path, i⟩).idx + 1 = idxOf r path i ∧
    ValidElem r (prev r ⟨path, i⟩).path (prev r ⟨path, i⟩).idx := by
  obtain ⟨hn1, cap, items, hn2, hn3⟩ := normLeaf_spec hb path i hm hi
  unfold prev
  split
  · rename_i hgt
    refine ⟨?_, ⟨leaf cap items, hn2, by simp only [Node.count]; omega⟩⟩
    have := idxOf_leaf_succ ((normLeaf r ⟨path, i⟩).idx - 1) hn2
    have h2 : (normLeaf r ⟨path, i⟩).idx - 1 + 1 = (normLeaf r ⟨path, i⟩).idx := by omega
    rw [h2] at this
    simp only
    omega
  · rename_i hng
    have hz : (normLeaf r ⟨path, i⟩).idx = 0 := by omega
    obtain ⟨h1, h2⟩ := climbLeft_spec hb (normLeaf r ⟨path, i⟩).path hn2
    have hoff : idxOf r path i = offsetOf r (normLeaf r ⟨path, i⟩).path := by
      rw [← hn1, idxOf_eq_offset _ hn2, hz]; simp
    cases hc : climbLeft r (normLeaf r ⟨path, i⟩).path with
    | some q =>
      obtain ⟨_, hv, hidx⟩ := h1 q hc
      exact ⟨by simp only; omega, hv⟩
    | none =>
      have := h2 hc
      omega

theorem idxOf_child_block {d : Nat} {is : List α} {cs : List (Node α)} (hb : Bal (d+1) (inner is cs)) {c : Nat}
    {q : List Nat} {j : Nat} (h : ValidElem (inner is cs) (c :: q) j) :
    ∃ ch, cs[c]? = some ch ∧ ValidElem ch q j ∧
      idxOf (inner is cs) (c :: q) j = ((cs.take c).map (fun c => size c)).sum + c + idxOf ch q j ∧
      ((cs.take c).map (fun c => size c)).sum + c + idxOf ch q j < ((cs.take (c+1)).map (fun c => size c)).sum + c := by
  obtain ⟨m, hm, hj⟩ := h
  obtain ⟨_, _, ch, he, hc, hm⟩ := nodeAt?_cons_some hm
  cases he
  have hv : ValidElem ch q j := ⟨m, hm, hj⟩
  have := idxOf_lt_size (hb.getElem hc) hv
  exact ⟨ch, hc, hv, idxOf_inner_cons' hc q j, by rw [sum_take_succ cs c ch hc]; omega⟩

/-! Blocks and items laid out one after the other do not overlap: `S k` stands for the size of the first `k` children,
    item `i` has index `S (i+1) + i`, the block of child `c` is `[S c + c, S (c+1) + c)`. -/

theorem item_item_sep (S : Nat → Nat) (mono : ∀ a b, a ≤ b → S a ≤ S b) {i i' : Nat}
    (he : S (i+1) + i = S (i'+1) + i') : i = i' := by
  rcases Nat.lt_trichotomy i i' with h | h | h
  · have := mono (i+1) (i'+1) (Nat.succ_le_succ (Nat.le_of_lt h)); omega
  · exact h
  · have := mono (i'+1) (i+1) (Nat.succ_le_succ (Nat.le_of_lt h)); omega

theorem item_block_sep (S : Nat → Nat) (mono : ∀ a b, a ≤ b → S a ≤ S b) {i c k : Nat}
    (hk : S c + c + k < S (c+1) + c) : S (i+1) + i ≠ S c + c + k := by
  by_cases h : c ≤ i
  · have := mono (c+1) (i+1) (Nat.succ_le_succ h); omega
  · have := mono (i+1) c (Nat.lt_of_not_le h); omega

theorem block_block_sep (S : Nat → Nat) (mono : ∀ a b, a ≤ b → S a ≤ S b) {c c' k k' : Nat}
    (hk : S c + c + k < S (c+1) + c) (hk' : S c' + c' + k' < S (c'+1) + c') (he : S c + c + k = S c' + c' + k') :
    c = c' := by
  rcases Nat.lt_trichotomy c c' with h | h | h
  · have := mono (c+1) c' h; omega
  · exact h
  · have := mono (c'+1) c h; omega

/-- lets tests on iterators (`iter != GetBegin()`, `iter == GetEnd()`) be read as tests on indexes -/
theorem idxOf_inj {d : Nat} {r : Node α} (hb : Bal d r) :
    ∀ (p : List Nat) (i : Nat) (p' : List Nat) (i' : Nat), ValidElem r p i → ValidElem r p' i' →
      idxOf r p i = idxOf r p' i' → p = p' ∧ i = i' := by
  induction hb with
  | leaf cap items =>
    intro p i p' i' ⟨m, hm, _⟩ ⟨m', hm', _⟩ he
    cases p with
    | cons _ _ => simp at hm
    | nil => cases p' with
      | cons _ _ => simp at hm'
      | nil => exact ⟨rfl, by simpa using he⟩
  | inner d items cs hlen hall ih =>
    have hb := Bal.inner d items cs hlen hall
    have mono : ∀ a b, a ≤ b → ((cs.take a).map (fun c => size c)).sum ≤ ((cs.take b).map (fun c => size c)).sum :=
      fun a b h => sum_take_mono cs h
    intro p i p' i' h h' he
    cases p with
    | nil =>
      cases p' with
      | nil => exact ⟨rfl, item_item_sep _ mono (by simpa only [idxOf_inner_nil] using he)⟩
      | cons c q =>
        obtain ⟨ch, _, _, hidx, hlt⟩ := idxOf_child_block hb h'
        rw [hidx, idxOf_inner_nil] at he
        exact absurd he (item_block_sep _ mono hlt)
    | cons c q =>
      obtain ⟨ch, hc, hv, hidx, hlt⟩ := idxOf_child_block hb h
      cases p' with
      | nil =>
        rw [hidx, idxOf_inner_nil] at he
        exact absurd he.symm (item_block_sep _ mono hlt)
      | cons c' q' =>
        obtain ⟨ch', hc', hv', hidx', hlt'⟩ := idxOf_child_block hb h'
        rw [hidx, hidx'] at he
        cases block_block_sep _ mono hlt hlt' he
        rw [hc] at hc'; cases hc'
        obtain ⟨rfl, rfl⟩ := ih ch (List.mem_of_getElem? hc) q i q' i' hv hv' (by omega)
        exact ⟨rfl, rfl⟩

/-- a slot, the pair `(hm) (hi)` that `moveIf_spec`, `normLeaf_spec`, `prev_spec` and `addRoot_spec` ask for: a node at the
    path and an index up to its count, so `GetEnd()` and the place behind a leaf's last item are slots -/
theorem validPos_slot {r : Node α} {pos : Pos} (h : ValidPos r pos) :
    ∃ m, nodeAt? r pos.path = some m ∧ pos.idx ≤ m.count := by
  rcases h with ⟨m, h1, h2⟩ | rfl
  · exact ⟨m, h1, Nat.le_of_lt h2⟩
  · exact ⟨r, by simp [endPos], by simp [endPos]⟩

theorem validPos_idx_le {d : Nat} {r : Node α} (hb : Bal d r) {pos : Pos} (h : ValidPos r pos) :
    idxOf r pos.path pos.idx ≤ size r := by
  rcases h with h | rfl
  · exact Nat.le_of_lt (idxOf_lt_size hb h)
  · exact Nat.le_of_eq (idxOf_endPos hb)

theorem leafSlot_le {d : Nat} {n : Node α} (hb : Bal d n) (path : List Nat) (i cap : Nat) (items : List α)
    (hm : nodeAt? n path = some (leaf cap items)) (hi : i ≤ items.length) : idxOf n path i ≤ size n :=
  (moveIf_spec hb path i hm hi).1 ▸ validPos_idx_le hb (moveIf_spec hb path i hm hi).2

theorem validPos_eq_of_idx {d : Nat} {r : Node α} (hb : Bal d r) {p q : Pos} (hp : ValidPos r p)
    (hq : ValidPos r q) (h : idxOf r p.path p.idx = idxOf r q.path q.idx) : p = q := by
  rcases hp with hp | rfl
  · rcases hq with hq | rfl
    · have := idxOf_inj hb _ _ _ _ hp hq h
      cases p; cases q; simp_all
    · have h1 := idxOf_lt_size hb hp
      rw [h, idxOf_endPos hb] at h1; omega
  · rcases hq with hq | rfl
    · have h1 := idxOf_lt_size hb hq
      rw [← h, idxOf_endPos hb] at h1; omega
    · rfl

theorem validElem_elemAt {r : Node α} {path : List Nat} {i : Nat} (h : ValidElem r path i) :
    ∃ x, elemAt? r ⟨path, i⟩ = some x := by
  obtain ⟨m, hm, hi⟩ := h
  simp only [elemAt?, hm]
  cases m with
  | leaf cap items => exact ListFacts.getElem?_of_lt (by simpa [Node.count, Node.items] using hi)
  | inner items cs => exact ListFacts.getElem?_of_lt (by simpa [Node.count, Node.items] using hi)

theorem validElem_ne_end {r : Node α} {q : Pos} (h : ValidElem r q.path q.idx) : q ≠ endPos r := by
  intro he
  obtain ⟨m, hm, hi⟩ := h
  rw [he] at hm hi
  simp [endPos] at hm hi
  subst hm; omega

theorem traverse_go {d : Nat} {r : Node α} (hb : Bal d r) (count : Nat) (fuel : Nat) (q : Pos)
    (hv : ValidPos r q) (hf : size r ≤ idxOf r q.path q.idx + fuel) :
    Tree.traverse.go ⟨some r, count⟩ fuel q = (toList r).drop (idxOf r q.path q.idx) := by
  induction fuel generalizing q with
  | zero =>
    rcases hv with hv | rfl
    · have := idxOf_lt_size hb hv; omega
    · simp [Tree.traverse.go, idxOf_endPos hb, size]
  | succ f ih =>
    rcases hv with hv | rfl
    · have hne := validElem_ne_end hv
      obtain ⟨x, hx⟩ := validElem_elemAt hv
      have hx' := elemAt_toList hb hx
      obtain ⟨hn1, hn2⟩ := next_spec hb q.path q.idx hv
      simp only [Tree.traverse.go, Tree.endPos, hne, if_false, Tree.elemAt?, hx, Tree.next]
      rw [ih (next r q) hn2 (by rw [hn1]; omega), hn1]
      exact (ListFacts.drop_of_getElem? hx').symm
    · simp [Tree.traverse.go, Tree.endPos, idxOf_endPos hb, size]

theorem traverse_eq {d : Nat} {r : Node α} (hb : Bal d r) (count : Nat) (hcount : count = size r) :
    Tree.traverse ⟨some r, count⟩ = toList r := by
  obtain ⟨h1, h2⟩ := beginPos_spec hb
  unfold Tree.traverse
  simp only [Tree.beginPos]
  rw [traverse_go hb count count (beginPos r) h2 (by omega), h1]; simp

theorem traverseBack_go {d : Nat} {r : Node α} (hb : Bal d r) (count : Nat) (fuel : Nat) (q : Pos)
    (hv : ValidPos r q) (hf : idxOf r q.path q.idx ≤ fuel) :
    Tree.traverseBack.go ⟨some r, count⟩ fuel q = ((toList r).take (idxOf r q.path q.idx)).reverse := by
  obtain ⟨m, hm, hi⟩ := validPos_slot hv
  obtain ⟨hb1, hb2⟩ := beginPos_spec hb
  induction fuel generalizing q m with
  | zero =>
    have : idxOf r q.path q.idx = 0 := by omega
    simp [Tree.traverseBack.go, this]
  | succ f ih =>
    by_cases hz : idxOf r q.path q.idx = 0
    · have hqb : q = beginPos r := validPos_eq_of_idx hb hv hb2 (hz.trans hb1.symm)
      simp [Tree.traverseBack.go, Tree.beginPos, hqb, hb1]
    · have hpos : 0 < idxOf r q.path q.idx := by omega
      obtain ⟨hp1, hp2⟩ := prev_spec hb q.path q.idx hm hi hpos
      have hne : q ≠ beginPos r := by intro he; rw [he, hb1] at hz; exact hz rfl
      obtain ⟨x, hx⟩ := validElem_elemAt hp2
      have hx' := elemAt_toList hb hx
      simp only [Tree.traverseBack.go, Tree.beginPos, hne, if_false, Tree.prev, Tree.elemAt?]
      rw [Pos.eta] at hx hp1 hp2
      simp only [hx]
      obtain ⟨m', hm', hi'⟩ := hp2
      rw [ih (prev r q) (Or.inl ⟨m', hm', hi'⟩) (by omega) m' hm' (Nat.le_of_lt hi')]
      have hlt : idxOf r (prev r q).path (prev r q).idx < (toList r).length := ListFacts.lt_of_getElem? hx'
      have : idxOf r q.path q.idx = idxOf r (prev r q).path (prev r q).idx + 1 := by omega
      rw [this, List.take_add_one, hx']
      simp

end Momo.BTree
