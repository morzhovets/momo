import Momo.Proof.BTreeSearch
import Momo.Proof.BTreeRemove
/-!
  C02, container level: the invariant of `Tree` (count, balance, capacities), the order axioms, and the refinement of
  `pvGetLowerBound / pvGetUpperBound / pvIsGreater`, the iterator steps and traversals, `pvAdd / Remove(iter) / ResetKey`
  to operations on the in-order list. Lemmas about the container are named `tree_…` from here on (`validElem_validPos`
  apart), the bare names (`validPos_idx_le`, …) are about a node; those by key take `… cfg t hw hs k`, where `hs` is
  `SortedBy lt cfg.multi t.toList` or, where that suffices, the weak order `SortedBy.weak` gives from it.
-/
namespace Momo.BTree
open Node
variable {α : Type}

/-- what the container needs from `IsLess` (a strict weak order gives both) -/
structure Order (lt : α → α → Bool) : Prop where
  asymm : ∀ a b, lt a b = true → lt b a = false
  /-- transitivity of "not greater": `a ≤ b → b ≤ c → a ≤ c` with `x ≤ y := ¬ y < x` -/
  le_trans : ∀ a b c, lt b a = false → lt c b = false → lt c a = false

/-- the order invariant of the container on its in-order list: non-decreasing for `multiKey`, strictly increasing otherwise
    (`SortedBy.weak` gives the first from either) -/
def SortedBy (lt : α → α → Bool) (multi : Bool) (l : List α) : Prop :=
  if multi then l.Pairwise (fun a b => lt b a = false) else l.Pairwise (fun a b => lt a b = true)

theorem sortedBy_nil (lt : α → α → Bool) (multi : Bool) : SortedBy lt multi [] := by
  cases multi <;> exact List.Pairwise.nil

theorem SortedBy.weak {lt : α → α → Bool} (ho : Order lt) {multi : Bool} {l : List α} (h : SortedBy lt multi l) :
    l.Pairwise (fun a b => lt b a = false) := by
  unfold SortedBy at h
  cases multi with
  | true => simpa using h
  | false => exact List.Pairwise.imp (fun hab => ho.asymm _ _ hab) (by simpa using h)

theorem Order.lt_trans {lt : α → α → Bool} (ho : Order lt) (a b c : α) (h1 : lt a b = true) (h2 : lt b c = true) :
    lt a c = true := by
  cases h : lt a c with
  | true => rfl
  | false =>
    have := ho.le_trans c a b h (ho.asymm _ _ h1)
    rw [this] at h2; cases h2

theorem Order.irrefl {lt : α → α → Bool} (ho : Order lt) (x : α) : lt x x = false := by
  cases h : lt x x with
  | false => rfl
  | true => exact h.symm.trans (ho.asymm x x h)

theorem mono_lower {lt : α → α → Bool} (ho : Order lt) (k : α) {l : List α}
    (h : l.Pairwise (fun a b => lt b a = false)) : Mono (fun x => !lt x k) l := by
  refine List.Pairwise.imp ?_ h
  intro a b hab ha
  simp only [Bool.not_eq_true'] at ha ⊢
  exact ho.le_trans k a b ha hab

theorem mono_upper {lt : α → α → Bool} (ho : Order lt) (k : α) {l : List α}
    (h : l.Pairwise (fun a b => lt b a = false)) : Mono (fun x => lt k x) l := by
  refine List.Pairwise.imp ?_ h
  intro a b hab ha
  show lt k b = true
  have ha' : lt k a = true := ha
  cases hb : lt k b with
  | true => rfl
  | false =>
    have := ho.le_trans a b k hab hb
    rw [this] at ha'; cases ha'

/-- index of the first element not less than `k` (`std::lower_bound`) -/
def lowerIdx (lt : α → α → Bool) (l : List α) (k : α) : Nat := (l.takeWhile (fun x => lt x k)).length

/-- index of the first element greater than `k` (`std::upper_bound`) -/
def upperIdx (lt : α → α → Bool) (l : List α) (k : α) : Nat := (l.takeWhile (fun x => !lt k x)).length

theorem firstTrue_lower (lt : α → α → Bool) (l : List α) (k : α) :
    firstTrue (fun x => !lt x k) l = lowerIdx lt l k := by
  rw [firstTrue_eq_takeWhile]; simp [lowerIdx]

theorem firstTrue_upper (lt : α → α → Bool) (l : List α) (k : α) :
    firstTrue (fun x => lt k x) l = upperIdx lt l k := by
  rw [firstTrue_eq_takeWhile]; simp [upperIdx]

/-- the invariant every operation of `Props/C02.lean` assumes and re-establishes; `C02_history` shows that all reachable
    states have it -/
structure Tree.WF (cfg : Cfg) (t : Tree α) : Prop where
  count : t.count = t.toList.length
  bal : ∀ r, t.root = some r → ∃ d, Bal d r
  caps : ∀ r, t.root = some r → Caps cfg.maxCap r

/-- an iterator of the container: an element position or `GetEnd()`; the null iterator of a container without root -/
def Tree.ValidPos (t : Tree α) (pos : Pos) : Prop :=
  match t.root with
  | some r => BTree.ValidPos r pos
  | none => pos = ⟨[], 0⟩

/-- an iterator of the container that can be dereferenced (none if there is no root) -/
def Tree.ValidElem (t : Tree α) (pos : Pos) : Prop :=
  match t.root with
  | some r => BTree.ValidElem r pos.path pos.idx
  | none => False

theorem Tree.wf_empty (cfg : Cfg) : Tree.WF cfg ({} : Tree α) :=
  ⟨by simp [Tree.toList], (by intro r h; cases h), (by intro r h; cases h)⟩

theorem Tree.wf_root (cfg : Cfg) {r : Node α} {c d : Nat} (hc : c = (Node.toList r).length) (hb : Bal d r)
    (hcaps : Caps cfg.maxCap r) : Tree.WF cfg ⟨some r, c⟩ :=
  ⟨hc, fun _ h => by cases h; exact ⟨d, hb⟩, fun _ h => by cases h; exact hcaps⟩

theorem toList_nil_of_count_zero (cfg : Cfg) (t : Tree α) (hw : t.WF cfg) (h : t.count = 0) : t.toList = [] := by
  have := hw.count; rw [h] at this; exact List.eq_nil_of_length_eq_zero this.symm

section search
variable (lt : α → α → Bool)

theorem tree_findPos_spec (cfg : Cfg) (t : Tree α) (hw : t.WF cfg) (p : α → Bool) (hm : Mono p t.toList) :
    t.idxOf (match t.root with
      | some r => findPos cfg.linear p r
      | none => ⟨[], 0⟩) = firstTrue p t.toList ∧
    t.ValidPos (match t.root with
      | some r => findPos cfg.linear p r
      | none => ⟨[], 0⟩) := by
  obtain ⟨_ | r, count⟩ := t
  · exact ⟨rfl, rfl⟩
  · obtain ⟨d, hb⟩ := hw.bal r rfl
    exact ⟨findPos_idx cfg.linear p hb hm, findPos_valid cfg.linear p hb hm⟩

theorem tree_lowerBound_spec (ho : Order lt) (cfg : Cfg) (t : Tree α) (hw : t.WF cfg)
    (hs : t.toList.Pairwise (fun a b => lt b a = false)) (k : α) :
    t.idxOf (Tree.lowerBound lt cfg t k) = lowerIdx lt t.toList k ∧ t.ValidPos (Tree.lowerBound lt cfg t k) := by
  have := tree_findPos_spec cfg t hw _ (mono_lower ho k hs)
  rwa [firstTrue_lower] at this

theorem tree_upperBound_spec (ho : Order lt) (cfg : Cfg) (t : Tree α) (hw : t.WF cfg)
    (hs : t.toList.Pairwise (fun a b => lt b a = false)) (k : α) :
    t.idxOf (Tree.upperBound lt cfg t k) = upperIdx lt t.toList k ∧ t.ValidPos (Tree.upperBound lt cfg t k) := by
  have := tree_findPos_spec cfg t hw _ (mono_upper ho k hs)
  rwa [firstTrue_upper] at this

theorem tree_isGreater_spec (cfg : Cfg) (t : Tree α) (hw : t.WF cfg) (pos : Pos) (hv : t.ValidPos pos) (k : α) :
    Tree.isGreater lt t pos k = (match t.toList[t.idxOf pos]? with
      | some x => lt k x
      | none => true) := by
  obtain ⟨_ | r, count⟩ := t
  · obtain rfl : pos = ⟨[], 0⟩ := hv
    rfl
  · obtain ⟨d, hb⟩ := hw.bal r rfl
    rcases hv with hv | rfl
    · obtain ⟨x, hx⟩ := validElem_elemAt hv
      have hx' := elemAt_toList hb hx
      have hne := validElem_ne_end (q := pos) hv
      simp [Tree.isGreater, Tree.endPos, Tree.elemAt?, Tree.idxOf, Tree.toList, hne, (hx : elemAt? r pos = some x), hx']
    · simp [Tree.isGreater, Tree.endPos, Tree.idxOf, Tree.toList, idxOf_endPos hb, size]

end search

theorem tree_traverse_spec (cfg : Cfg) (t : Tree α) (hw : t.WF cfg) : t.traverse = t.toList := by
  obtain ⟨_ | r, count⟩ := t
  · obtain rfl : count = 0 := hw.count
    rfl
  · obtain ⟨d, hb⟩ := hw.bal r rfl
    exact traverse_eq hb count hw.count

theorem tree_traverseBack_spec (cfg : Cfg) (t : Tree α) (hw : t.WF cfg) : t.traverseBack = t.toList.reverse := by
  obtain ⟨_ | r, count⟩ := t
  · obtain rfl : count = 0 := hw.count
    rfl
  · obtain ⟨d, hb⟩ := hw.bal r rfl
    have hc : count = size r := hw.count
    show Tree.traverseBack.go ⟨some r, count⟩ count (Node.endPos r) = (Node.toList r).reverse
    rw [traverseBack_go hb count count (Node.endPos r) (Or.inr rfl) (by rw [idxOf_endPos hb, hc]; exact Nat.le_refl _),
      idxOf_endPos hb, size, List.take_length]

theorem tree_next_spec (cfg : Cfg) (t : Tree α) (hw : t.WF cfg) (pos : Pos) (hv : t.ValidElem pos) :
    t.idxOf (t.next pos) = t.idxOf pos + 1 ∧ t.ValidPos (t.next pos) := by
  obtain ⟨_ | r, count⟩ := t
  · exact hv.elim
  · obtain ⟨d, hb⟩ := hw.bal r rfl
    exact BTree.next_spec hb pos.path pos.idx hv

theorem tree_prev_spec (cfg : Cfg) (t : Tree α) (hw : t.WF cfg) (pos : Pos) (hv : t.ValidPos pos)
    (hpos : 0 < t.idxOf pos) : t.idxOf (t.prev pos) + 1 = t.idxOf pos ∧ t.ValidElem (t.prev pos) := by
  obtain ⟨_ | r, count⟩ := t
  · exact absurd hpos (Nat.lt_irrefl 0)
  · obtain ⟨d, hb⟩ := hw.bal r rfl
    obtain ⟨m, hm, hi⟩ := validPos_slot hv
    exact BTree.prev_spec hb pos.path pos.idx hm hi hpos

theorem tree_begin_spec (cfg : Cfg) (t : Tree α) (hw : t.WF cfg) : t.idxOf t.beginPos = 0 ∧ t.ValidPos t.beginPos := by
  obtain ⟨_ | r, count⟩ := t
  · exact ⟨rfl, rfl⟩
  · obtain ⟨d, hb⟩ := hw.bal r rfl
    exact beginPos_spec hb

theorem tree_end_spec (cfg : Cfg) (t : Tree α) (hw : t.WF cfg) :
    t.idxOf t.endPos = t.toList.length ∧ t.ValidPos t.endPos := by
  obtain ⟨_ | r, count⟩ := t
  · exact ⟨rfl, rfl⟩
  · obtain ⟨d, hb⟩ := hw.bal r rfl
    exact ⟨idxOf_endPos hb, Or.inr rfl⟩

theorem tree_elemAt_spec (cfg : Cfg) (t : Tree α) (hw : t.WF cfg) (pos : Pos) (hv : t.ValidElem pos) :
    ∃ x, t.elemAt? pos = some x ∧ t.toList[t.idxOf pos]? = some x := by
  obtain ⟨_ | r, count⟩ := t
  · exact hv.elim
  · obtain ⟨d, hb⟩ := hw.bal r rfl
    obtain ⟨x, hx⟩ := validElem_elemAt hv
    exact ⟨x, hx, elemAt_toList hb hx⟩

theorem tree_add_spec (cfg : Cfg) (hmax : 0 < cfg.maxCap) (t : Tree α) (hw : t.WF cfg) (pos : Pos)
    (hv : t.ValidPos pos) (x : α) :
    (t.add cfg pos x).1.toList = t.toList.insertIdx (t.idxOf pos) x ∧ (t.add cfg pos x).1.WF cfg ∧
    (t.add cfg pos x).1.idxOf (t.add cfg pos x).2 = t.idxOf pos ∧ (t.add cfg pos x).1.ValidElem (t.add cfg pos x).2 := by
  obtain ⟨_ | r, count⟩ := t
  · have hc : count = 0 := hw.count
    subst hc
    have hl := leafCap_bounds cfg 0 0 (Nat.zero_le _)
    refine ⟨rfl, Tree.wf_root cfg rfl (Bal.leaf _ _) (Caps.leaf _ _ ?_ hl.2), rfl, _, nodeAt?_nil _, Nat.zero_lt_one⟩
    -- a fresh leaf has room for one item: `leafCap cfg 0 0 ≥ 1`
    unfold leafCap
    split
    · exact hmax
    · have : cfg.step * min ((cfg.maxCap - 0) / cfg.step) (lastLeafPool cfg) ≤ cfg.maxCap / 2 := by
        simp only [lastLeafPool, Extracted.treeLeafPoolDivisor, Nat.sub_zero]
        calc cfg.step * min (cfg.maxCap / cfg.step) (cfg.maxCap / (2 * cfg.step))
            ≤ cfg.step * (cfg.maxCap / (2 * cfg.step)) := Nat.mul_le_mul_left _ (Nat.min_le_right _ _)
          _ = cfg.step * (cfg.maxCap / 2 / cfg.step) := by rw [Nat.div_div_eq_div_mul]
          _ ≤ cfg.maxCap / 2 := Nat.mul_div_le _ _
      simp only [List.length_singleton]; omega
  · obtain ⟨d, hb⟩ := hw.bal r rfl
    obtain ⟨m, hm, hi⟩ := validPos_slot hv
    obtain ⟨a, b, c, v⟩ := addRoot_spec cfg x hmax hb pos hm hi
    have hc : count = (Node.toList r).length := hw.count
    have hcount : count + 1 = (Node.toList (addRoot cfg x r pos).1).length := by
      rw [a, List.length_insertIdx_of_le_length (validPos_idx_le hb hv), hc]
    have hcaps := addRoot_caps cfg x hmax hb (hw.caps r rfl) pos hm hi
    refine ⟨a, ?_, c, v⟩
    rcases b with b | b
    · exact Tree.wf_root cfg hcount b hcaps
    · exact Tree.wf_root cfg hcount b hcaps

theorem tree_remove_spec (cfg : Cfg) (t : Tree α) (hw : t.WF cfg) (pos : Pos) (hv : t.ValidElem pos) :
    (t.remove cfg pos).1.toList = t.toList.eraseIdx (t.idxOf pos) ∧ (t.remove cfg pos).1.WF cfg ∧
    (t.remove cfg pos).1.idxOf (t.remove cfg pos).2 = t.idxOf pos ∧ (t.remove cfg pos).1.ValidPos (t.remove cfg pos).2 := by
  obtain ⟨_ | r, count⟩ := t
  · exact hv.elim
  · obtain ⟨d, hb⟩ := hw.bal r rfl
    obtain ⟨a, ⟨d', b⟩, c, v, f⟩ := removeAt_spec cfg hb pos hv
    have hc : count = (Node.toList r).length := hw.count
    refine ⟨a, Tree.wf_root cfg ?_ b (f (hw.caps r rfl)), c, v⟩
    rw [a, List.length_eraseIdx_of_lt (idxOf_lt_size hb hv), hc]

theorem tree_resetKey_spec (cfg : Cfg) (t : Tree α) (hw : t.WF cfg) (pos : Pos) (hv : t.ValidElem pos) (x : α) :
    (t.resetKey pos x).toList = t.toList.set (t.idxOf pos) x ∧ (t.resetKey pos x).WF cfg := by
  obtain ⟨_ | r, count⟩ := t
  · exact hv.elim
  · obtain ⟨d, hb⟩ := hw.bal r rfl
    obtain ⟨m, hm, hi⟩ := hv
    have hbm := (hb.nodeAt hm).1
    have key : Bal (d - pos.path.length) (setItem pos.idx x m) ∧
        Node.toList (setItem pos.idx x m) = (Node.toList m).set (Node.idxOf m [] pos.idx) x ∧
        (∀ maxCap, Caps maxCap m → Caps maxCap (setItem pos.idx x m)) := by
      cases m with
      | leaf cap is =>
        refine ⟨?_, by simp [setItem], ?_⟩
        · have := hbm.leaf_depth; rw [this]; exact Bal.leaf _ _
        · intro maxCap hc; cases hc with
          | leaf _ _ h1 h2 => exact Caps.leaf _ _ (by simpa using h1) h2
      | inner is cs =>
        obtain ⟨dm, hdm, hall⟩ := hbm.inner_depth
        have hlen := hbm.inner_len
        simp only [Node.count] at hi
        refine ⟨?_, ?_, ?_⟩
        · rw [hdm]; exact Bal.inner dm _ _ (by simpa using hlen) hall
        · obtain ⟨c, hc⟩ := exists_child hlen (Nat.le_of_lt hi)
          obtain ⟨y, hy⟩ := ListFacts.getElem?_of_lt hi
          have hxs : (is.set pos.idx x)[pos.idx]? = some x := List.getElem?_set_self hi
          simp only [setItem]
          rw [toList_inner, toList_inner, inter_split cs is pos.idx c hc hlen,
            inter_split cs _ pos.idx c hc (by rw [List.length_set]; exact hlen),
            idxOf_inner_nil_length hc (Nat.le_of_lt hi) hlen, postOf_of_getElem? cs hy, postOf_of_getElem? cs hxs,
            List.set_append_right _ _ (Nat.le_refl _), Nat.sub_self, List.set_cons_zero,
            List.drop_set_of_lt (Nat.lt_succ_self _), preOf, preOf, List.take_set_of_le (Nat.le_refl _)]
        · exact fun maxCap hc => Caps.inner _ _ (by rw [List.length_set]; exact hc.inner_items) hc.inner_child
    obtain ⟨hbm', htl, hcaps⟩ := key
    obtain ⟨pre, post, e1, e2, e3, e4, _, _, e7⟩ := modifyAt_spec hb pos.path hm (setItem pos.idx x) hbm'
    have hc : count = (Node.toList r).length := hw.count
    have hcr := hw.caps r rfl
    refine ⟨?_, Tree.wf_root cfg ?_ e4 (e7 _ hcr (hcaps _ (hcr.nodeAt hm)))⟩
    · show Node.toList (modifyAt (setItem pos.idx x) r pos.path) = (Node.toList r).set (idxOf r pos.path pos.idx) x
      have hlt : Node.idxOf m [] pos.idx < (Node.toList m).length := idxOf_lt_size hbm ⟨m, nodeAt?_nil m, hi⟩
      rw [e3, htl, e1, idxOf_eq_offset pos.idx hm, ← e2, List.append_assoc pre (Node.toList m),
        List.set_append_right _ _ (Nat.le_add_right _ _), Nat.add_sub_cancel_left, List.set_append_left _ _ hlt,
        List.append_assoc]
    · rw [e3, htl, hc, e1]; simp

end Momo.BTree
