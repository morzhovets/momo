import Momo.Proof.StdWrapLookup
import Momo.Model.StdWrapOps
/-!
  C06 history theorem, ordered containers: the declarative notions of the specification (`lowerPos`, `upperPos`, `findPos`, `hasKey`, `countKey`: first
  element such that …, number of elements such that …) coincide on sorted sequences with the search results of the native tree (`lb`, `ub`) the wrapper
  model uses; `SortedK` is the order invariant. `St.put_get` and `hasKey_iff` also serve the unordered families.
  `Model/StdWrap.lean` and `Model/StdSpec.lean` each declare `Item := Nat × Nat`; the `StdW*` files open `StdSpec` hiding its `Item` and mean
  `StdWrap.Item`, the two being the same type.
-/
namespace Momo.StdW
open Momo.StdWrap List
open Momo.StdSpec hiding Item

theorem St.put_get (s : St) (c : Side) : s.put c (s.get c) = s := by
  cases c <;> rfl

theorem lowerPos_eq (k : Nat) (xs : List Item) : lowerPos k xs = lb k xs := by
  induction xs with
  | nil => simp [lowerPos, lb]
  | cons e t ih =>
    unfold lowerPos at ih ⊢
    simp only [findIdx_cons, lb]
    by_cases h : e.1 < k
    · simp [h, ih]
    · simp [h]

theorem upperPos_eq (k : Nat) (xs : List Item) : upperPos k xs = ub k xs := by
  induction xs with
  | nil => simp [upperPos, ub]
  | cons e t ih =>
    unfold upperPos at ih ⊢
    simp only [findIdx_cons, ub]
    by_cases h : k < e.1
    · simp [h]
    · simp [h, ih]

theorem putAt_eq (xs : List Item) (p : Nat) (x : Item) : putAt xs p x = insertAt xs p x := rfl

theorem hasKey_iff (k : Nat) (xs : List Item) : hasKey k xs = true ↔ ∃ e ∈ xs, e.1 = k := by
  simp only [hasKey, any_eq_true, beq_iff_eq]

theorem hasKey_eq (xs : List Item) (hs : Sorted xs) (k : Nat) : hasKey k xs = decide (lb k xs < ub k xs) := by
  rw [Bool.eq_iff_iff, hasKey_iff, decide_eq_true_iff, present_iff xs hs k]

theorem findPos_present (xs : List Item) (hs : Sorted xs) (k : Nat) (h : lb k xs < ub k xs) :
    findPos k xs = lb k xs := by
  have hl := ((lt_ub_iff hs).mp h).1
  rw [findPos, findIdx_eq hl]
  refine ⟨?_, fun j hj => ?_⟩
  · rw [← keyAt_eq xs _ hl, keyAt_lb_present xs hs k h]; exact beq_self_eq_true k
  · rw [← keyAt_eq xs j (Nat.lt_trans hj hl)]
    exact beq_false_of_ne (Nat.ne_of_lt ((lt_lb_iff hs).mp hj).2)

theorem findPos_absent (xs : List Item) (hs : Sorted xs) (k : Nat) (h : ¬ lb k xs < ub k xs) :
    findPos k xs = xs.length := by
  rw [findPos, findIdx_eq_length]
  exact fun e he => beq_false_of_ne fun hk => h ((present_iff xs hs k).mpr ⟨e, he, hk⟩)

theorem findPos_eq (xs : List Item) (hs : Sorted xs) (k : Nat) :
    findPos k xs = if lb k xs < ub k xs then lb k xs else xs.length := by
  by_cases h : lb k xs < ub k xs
  · rw [if_pos h]; exact findPos_present xs hs k h
  · rw [if_neg h]; exact findPos_absent xs hs k h

theorem lb_zero_of_ge (k : Nat) (t : List Item) (h : ∀ e ∈ t, k ≤ e.1) : lb k t = 0 := by
  cases t with
  | nil => rfl
  | cons e t => rw [lb, if_neg (Nat.not_lt.mpr (h e mem_cons_self))]

theorem ub_zero_of_gt (k : Nat) (t : List Item) (h : ∀ e ∈ t, k < e.1) : ub k t = 0 := by
  cases t with
  | nil => rfl
  | cons e t => rw [ub, if_pos (h e mem_cons_self)]

theorem countKey_eq (xs : List Item) (hs : Sorted xs) (k : Nat) : countKey k xs = ub k xs - lb k xs := by
  induction xs with
  | nil => rfl
  | cons e t ih =>
    obtain ⟨hhd, hs'⟩ := pairwise_cons.mp hs
    have ih : countP (fun e => e.1 == k) t = ub k t - lb k t := ih hs'
    rw [countKey, countP_cons, ih, lb, ub]
    by_cases h1 : e.1 < k
    · rw [if_pos h1, if_neg (Nat.lt_asymm h1), if_neg (by simpa using Nat.ne_of_lt h1), Nat.add_sub_add_right]; rfl
    · rw [if_neg h1, Nat.sub_zero]
      by_cases h2 : k < e.1
      · rw [if_pos h2, if_neg (by simpa using Nat.ne_of_gt h2),
          ub_zero_of_gt k t fun a ha => Nat.lt_of_lt_of_le h2 (hhd a ha), Nat.zero_sub]
      · have he : e.1 = k := Nat.le_antisymm (Nat.le_of_not_lt h2) (Nat.le_of_not_lt h1)
        rw [if_neg h2, if_pos (by simpa using he), lb_zero_of_ge k t fun a ha => he ▸ hhd a ha]; rfl

/-- the order of the native tree's in-order list: `Sorted` when equivalent keys are allowed (multiset, multimap), `StrictSorted` with distinct
    keys; the invariant of the ordered history (`InvO`), used through `SortedK.sorted` / `SortedK.strict` -/
def SortedK (multi : Bool) (xs : List Item) : Prop := if multi then Sorted xs else StrictSorted xs

theorem SortedK.sorted {multi : Bool} {xs : List Item} (h : SortedK multi xs) : Sorted xs := by
  unfold SortedK at h
  cases multi with
  | true => simpa using h
  | false => exact StrictSorted.sorted (by simpa using h)

theorem SortedK.strict {xs : List Item} (h : SortedK false xs) : StrictSorted xs := by simpa [SortedK] using h

theorem sortedK_nil (multi : Bool) : SortedK multi [] := by
  unfold SortedK; split <;> simp [Sorted, StrictSorted]

theorem sortedK_sublist {multi : Bool} {xs ys : List Item} (h : SortedK multi xs) (hsub : ys.Sublist xs) : SortedK multi ys := by
  unfold SortedK at h ⊢
  split
  · rename_i hm; rw [if_pos hm] at h; exact Pairwise.sublist hsub h
  · rename_i hm; rw [if_neg hm] at h; exact Pairwise.sublist hsub h

theorem sortedK_set {multi : Bool} {xs : List Item} (h : SortedK multi xs) (i : Nat) (y : Item)
    (hk : i < xs.length → y.1 = keyAt xs i) : SortedK multi (xs.set i y) := by
  by_cases hi : i < xs.length
  · have hmap : (xs.set i y).map Prod.fst = xs.map Prod.fst := by
      have := set_getElem_self (as := xs.map Prod.fst) (i := i) (by rwa [length_map])
      rwa [map_set, hk hi, keyAt_eq xs i hi, ← getElem_map Prod.fst]
    have e1 (l : List Item) : l.Pairwise (fun a b => a.1 ≤ b.1) ↔ (l.map Prod.fst).Pairwise (· ≤ ·) := pairwise_map.symm
    have e2 (l : List Item) : l.Pairwise (fun a b => a.1 < b.1) ↔ (l.map Prod.fst).Pairwise (· < ·) := pairwise_map.symm
    unfold SortedK Sorted StrictSorted at h ⊢
    rw [e1, e2] at h ⊢
    rwa [hmap]
  · rwa [set_eq_of_length_le (Nat.le_of_not_lt hi)]

end Momo.StdW
