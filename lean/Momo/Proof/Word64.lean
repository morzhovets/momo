import Momo.Model.Seg
/-!
  The 64-bit arithmetic every `TrEq*` file rewrites with: `w64` is reduction mod `2^64`; when the word operations of
  `Momo/Model/Seg.lean` (`add64`, `sub64`, `mul64`, `shl64`, the masks: all generated definitions use them, whatever container
  they are about), `UIntMath::Ceil` and a byte decrement through `int` do not wrap, and what they are when they do. The names
  stay in `Momo.Seg` beside the operations. An argument is implicit when a hypothesis of the lemma determines it.
-/
namespace Momo.Seg
open Momo

theorem two_pow_64 : (18446744073709551616 : Nat) = 2 ^ 64 := by decide
theorem two_pow_32 : (4294967296 : Nat) = 2 ^ 32 := by decide

theorem w64_eq (n : Nat) : w64 n = n % 2 ^ 64 := by
  unfold w64
  split
  · rename_i h; rw [two_pow_64] at h; exact (Nat.mod_eq_of_lt h).symm
  · rw [two_pow_64]

theorem w32_eq (n : Nat) : w32 n = n % 2 ^ 32 := by
  unfold w32
  split
  · rename_i h; rw [two_pow_32] at h; exact (Nat.mod_eq_of_lt h).symm
  · rw [two_pow_32]

theorem w64_of_lt {n : Nat} (h : n < 2 ^ 64) : w64 n = n := by
  rw [w64_eq]; exact Nat.mod_eq_of_lt h

theorem w32_of_lt {n : Nat} (h : n < 2 ^ 32) : w32 n = n := by
  rw [w32_eq]; exact Nat.mod_eq_of_lt h

theorem w64_lt (n : Nat) : w64 n < 2 ^ 64 := by
  rw [w64_eq]; exact Nat.mod_lt _ (Nat.two_pow_pos 64)

theorem add64_of_lt {a b : Nat} (h : a + b < 2 ^ 64) : add64 a b = a + b := w64_of_lt h

theorem sub64_of_le {a b : Nat} (h : b ≤ a) : sub64 a b = a - b := by
  unfold sub64; rw [if_pos h]

theorem shl64_of_lt {a s : Nat} (h : a * 2 ^ s < 2 ^ 64) : shl64 a s = a * 2 ^ s := by
  unfold shl64; rw [Nat.shiftLeft_eq]; exact w64_of_lt h

theorem mul64_of_lt {a b : Nat} (h : a * b < 2 ^ 64) : mul64 a b = a * b := w64_of_lt h

theorem shl64_one {s : Nat} (h : s < 64) : shl64 1 s = 2 ^ s := by
  rw [shl64_of_lt] <;> rw [Nat.one_mul]
  exact Nat.pow_lt_pow_right (by decide) h

theorem mask64_eq {n : Nat} (h : n < 64) : mask64 n = 2 ^ n - 1 := by
  unfold mask64
  rw [shl64_one h, sub64_of_le (Nat.two_pow_pos n)]

/-- `(size_t{1} << n) - 1` as the generated definitions contain it (`mask64 n` unfolded): the form the `TrEq*` files rewrite with -/
theorem mask_eq {n : Nat} (h : n < 64) : sub64 (shl64 1 n) 1 = 2 ^ n - 1 := mask64_eq h

theorem and_mask64 (x : Nat) {n : Nat} (h : n < 64) : x &&& mask64 n = x % 2 ^ n := by
  rw [mask64_eq h, Nat.and_two_pow_sub_one_eq_mod]

theorem add64_one {n : Nat} (h : n < 2 ^ 64 - 1) : add64 n 1 = n + 1 := add64_of_lt (Nat.add_lt_of_lt_sub h)

theorem add_lt_two_pow_64 {a b n : Nat} (ha : a < n) (hb : b ≤ n) (hn : n ≤ 2 ^ 63) : a + b < 2 ^ 64 :=
  Nat.lt_of_lt_of_le (Nat.add_lt_add_of_lt_of_le ha hb) (Nat.add_le_add hn hn)

theorem sub64_eq_mod {a : Nat} (b : Nat) (ha : a < 2 ^ 64) : sub64 a b = (a + 2 ^ 64 - b) % 2 ^ 64 := by
  unfold sub64; split
  · next h => rw [Nat.sub_add_comm h, Nat.add_mod_right, Nat.mod_eq_of_lt (Nat.lt_of_le_of_lt (Nat.sub_le _ _) ha)]
  · exact w64_eq _

theorem sub64_lt {a : Nat} (b : Nat) (ha : a < 2 ^ 64) : sub64 a b < 2 ^ 64 := by
  rw [sub64_eq_mod b ha]; exact Nat.mod_lt _ (Nat.two_pow_pos 64)

theorem sub64_sub64 {a b c : Nat} (h : b + c ≤ a) : sub64 (sub64 a b) c = a - b - c := by
  rw [sub64_of_le (Nat.le_trans (Nat.le_add_right b c) h), sub64_of_le (Nat.le_sub_of_add_le' h)]

/-- the body of `UIntMath::Ceil(value, mod)` -/
theorem ceil64 {v m : Nat} (hm : 0 < m) (hw : v + m < 2 ^ 64) :
    mul64 (sub64 (add64 v m) 1 / m) m = (v + m - 1) / m * m := by
  rw [add64_of_lt hw, sub64_of_le (Nat.le_trans hm (Nat.le_add_left m v))]
  exact mul64_of_lt (Nat.lt_of_le_of_lt (Nat.div_mul_le_self _ _) (Nat.lt_of_le_of_lt (Nat.sub_le _ _) hw))

/-- `--byte` on `uint8_t`, which the translator writes through `int` (`byte - 1` may be `-1`) -/
theorem dec_byte (x : Nat) : Int.toNat (((x : Int) - 1) % 256) = (x + 255) % 256 := by
  rw [show (x : Int) - 1 = ((x + 255 : Nat) : Int) - 256 from by omega, Int.sub_emod_right]; rfl

theorem dec_byte_pos (x : Nat) (h : 0 < x) : Int.toNat (((x : Int) - 1) % 256) = (x - 1) % 256 := by
  rw [dec_byte, ← Nat.add_mod_right (x - 1) 256]; congr 1; omega

theorem ite_lt_eq_max (a b : Nat) : (if a < b then b else a) = Nat.max a b := by
  by_cases h : a < b
  · rw [if_pos h]; exact (Nat.max_eq_right (Nat.le_of_lt h)).symm
  · rw [if_neg h]; exact (Nat.max_eq_left (Nat.le_of_not_lt h)).symm

end Momo.Seg
