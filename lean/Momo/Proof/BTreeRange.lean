import Momo.Proof.BTreeMore
/-!
  C02, removal of an iterator range: `Remove(begin, end)` with `pvRemoveRange` (common parent, predecessor moved into
  the separator, truncation of the two boundary subtrees, two non-fast rebalancing passes) refines
  `take i ++ drop j` on the in-order list; `Remove(key)` for unique and multi keys. The left boundary is the element in front
  of `begin`: the upward climb `climbZero` is that of `operator--` (`climbZero_climbLeft`), and `LeftEnd` says where the left
  side ends on the layout of the common parent. Removing a key's equivalents is `take lower ++ drop upper` (`filter_not_equiv`).
-/
namespace Momo.BTree
open Node
variable {α : Type}

theorem truncRight_spec {d : Nat} {n : Node α} (hb : Bal d n) (q : List Nat) (k : Nat) (hv : ValidElem n q k) :
    (truncRight n q k).2 = (toList n)[idxOf n q k]? ∧
    toList (truncRight n q k).1 = (toList n).take (idxOf n q k) ∧ Bal d (truncRight n q k).1 ∧
    (∀ maxCap, Caps maxCap n → Caps maxCap (truncRight n q k).1) := by
  obtain ⟨m, hm, hk⟩ := hv
  refine Bal.path_rec ?_ ?_ hb hm
  · intro d hb
    cases hb with
    | leaf cap items =>
      simp only [truncRight, toList_leaf, idxOf_leaf]
      refine ⟨trivial, trivial, Bal.leaf _ _, fun maxCap hc => ?_⟩
      cases hc with
      | leaf _ _ h1 h2 => exact Caps.leaf _ _ (Nat.le_trans (List.length_take_le' _ _) h1) h2
    | inner d' items cs hlen hall =>
      have hk : k < items.length := hk
      obtain ⟨c, hc⟩ := exists_child hlen (Nat.le_of_lt hk)
      obtain ⟨x, hx⟩ := ListFacts.getElem?_of_lt hk
      simp only [truncRight]
      rw [toList_inner, toList_inner, idxOf_inner_nil_length hc (Nat.le_of_lt hk) hlen,
        inter_split cs items k c hc hlen]
      refine ⟨?_, ?_, ?_, fun maxCap hcaps => ?_⟩
      · rw [hx, List.getElem?_append_right (Nat.le_refl _), Nat.sub_self, postOf_of_getElem? cs hx]; rfl
      · rw [ListFacts.take_succ_of_getElem? hc, inter_take_child cs items k c (ListFacts.lt_of_getElem? hc) hlen, List.take_left' rfl]
      · exact Bal.inner d' _ _ (by rw [List.length_take, List.length_take]; omega)
          (fun z hz => hall z (List.mem_of_mem_take hz))
      · exact Caps.inner _ _ (Nat.le_trans (List.length_take_le' _ _) hcaps.inner_items)
          (fun z hz => hcaps.inner_child z (List.mem_of_mem_take hz))
  · intro d' is cs c ch p hb hlen hc hbch hm ⟨i1, i2, i3, i4⟩
    have hcl := ListFacts.lt_of_getElem? hc
    have hall := hb.inner_child
    have hlt : idxOf ch p k < (toList ch).length := idxOf_lt_size hbch ⟨m, hm, hk⟩
    simp only [truncRight, hc]
    rw [idxOf_inner_cons_length hc hlen, toList_inner, inter_split cs is c ch hc hlen]
    refine ⟨?_, ?_, ?_, fun maxCap hcaps => ?_⟩
    · rw [i1, List.append_assoc, List.getElem?_append_right (Nat.le_add_right _ _), Nat.add_sub_cancel_left,
        List.getElem?_append_left hlt]
    · rw [toList_inner, inter_take_child cs is c _ hcl hlen, i2, ListFacts.take_middle _ _ _ _ (Nat.le_of_lt hlt)]
    · exact Bal.inner d' _ _ (by rw [List.length_append, List.length_take, List.length_take]; simp only [List.length_singleton]; omega)
        (List.forall_mem_append.mpr ⟨fun z hz => hall z (List.mem_of_mem_take hz), List.forall_mem_singleton.mpr i3⟩)
    · exact Caps.inner _ _ (Nat.le_trans (List.length_take_le' _ _) hcaps.inner_items)
        (List.forall_mem_append.mpr ⟨fun z hz => hcaps.inner_child z (List.mem_of_mem_take hz),
          List.forall_mem_singleton.mpr (i4 maxCap (hcaps.getElem hc))⟩)

theorem truncLeft_spec {d : Nat} {n : Node α} (hb : Bal d n) (q : List Nat) (k : Nat) (hv : ValidElem n q k) :
    toList (truncLeft n q k) = (toList n).drop (idxOf n q k + 1) ∧ Bal d (truncLeft n q k) ∧
    (∀ maxCap, Caps maxCap n → Caps maxCap (truncLeft n q k)) := by
  obtain ⟨m, hm, hk⟩ := hv
  refine Bal.path_rec ?_ ?_ hb hm
  · intro d hb
    cases hb with
    | leaf cap items =>
      simp only [truncLeft, toList_leaf, idxOf_leaf]
      refine ⟨trivial, Bal.leaf _ _, fun maxCap hc => ?_⟩
      cases hc with
      | leaf _ _ h1 h2 => exact Caps.leaf _ _ (by rw [List.length_drop]; exact Nat.le_trans (Nat.sub_le _ _) h1) h2
    | inner d' items cs hlen hall =>
      have hk : k < items.length := hk
      obtain ⟨c, hc⟩ := exists_child hlen (Nat.le_of_lt hk)
      obtain ⟨x, hx⟩ := ListFacts.getElem?_of_lt hk
      simp only [truncLeft]
      refine ⟨?_, ?_, fun maxCap hcaps => ?_⟩
      · rw [toList_inner, toList_inner, idxOf_inner_nil_length hc (Nat.le_of_lt hk) hlen,
          inter_split cs items k c hc hlen, postOf_of_getElem? cs hx, ListFacts.drop_length_succ]
      · exact Bal.inner d' _ _ (by rw [List.length_drop, List.length_drop]; omega)
          (fun z hz => hall z (List.mem_of_mem_drop hz))
      · exact Caps.inner _ _ (by rw [List.length_drop]; exact Nat.le_trans (Nat.sub_le _ _) hcaps.inner_items)
          (fun z hz => hcaps.inner_child z (List.mem_of_mem_drop hz))
  · intro d' is cs c ch p hb hlen hc hbch hm ⟨i2, i3, i4⟩
    have hall := hb.inner_child
    have hlt : idxOf ch p k + 1 ≤ (toList ch).length := idxOf_lt_size hbch ⟨m, hm, hk⟩
    simp only [truncLeft, hc]
    refine ⟨?_, ?_, fun maxCap hcaps => ?_⟩
    · rw [toList_inner, toList_inner, idxOf_inner_cons_length hc hlen, inter_split cs is c ch hc hlen,
        inter_drop_child cs is c ch _ hc hlen, i2, Nat.add_assoc, ListFacts.drop_middle _ _ _ _ hlt]
    · exact Bal.inner d' _ _ (by rw [List.length_cons, List.length_drop, List.length_drop]; omega) 
        (List.forall_mem_cons.mpr ⟨i3, fun z hz => hall z (List.mem_of_mem_drop hz)⟩)
    · exact Caps.inner _ _ (by rw [List.length_drop]; exact Nat.le_trans (Nat.sub_le _ _) hcaps.inner_items)
        (List.forall_mem_cons.mpr ⟨i4 maxCap (hcaps.getElem hc), fun z hz => hcaps.inner_child z (List.mem_of_mem_drop hz)⟩)

theorem climbZero_pos (rp : List Nat) {j : Nat} (hj : j ≠ 0) : climbZero rp j = (rp, j) := by
  cases rp <;> simp [climbZero, hj]

/-- one more ancestor at the top of the walk: it is looked at only if everything below was entered through child 0 -/
theorem climbZero_snoc (l : List Nat) (c j : Nat) :
    climbZero (l ++ [c]) j =
      if (climbZero l j).2 = 0 then ([], c) else ((climbZero l j).1 ++ [c], (climbZero l j).2) := by
  induction l generalizing j with
  | nil => by_cases hj : j = 0 <;> simp [climbZero, hj]
  | cons x l ih =>
    by_cases hj : j = 0
    · simp only [List.cons_append, climbZero, hj, if_true, ih]
    · simp [climbZero, hj]

/-- `climbZero` is `climbLeft` (the upward walk of `operator--`) read from the leaf's end of the path -/
theorem climbZero_climbLeft {n m : Node α} {p : List Nat} (hm : nodeAt? n p = some m) :
    climbZero p.reverse 0 = (match climbLeft n p with
      | some q => (q.path.reverse, q.idx)
      | none => ([], 0)) ∧ ∀ q, climbLeft n p = some q → q.idx ≠ 0 := by
  induction p generalizing n with
  | nil => cases n <;> simp [climbLeft, climbZero]
  | cons c p ih =>
    obtain ⟨is, cs, ch, rfl, hc, hm⟩ := nodeAt?_cons_some hm
    obtain ⟨e, hq⟩ := ih hm
    simp only [climbLeft, hc, List.reverse_cons, climbZero_snoc, e]
    cases hcl : climbLeft ch p with
    | some q => simp [hq q hcl]
    | none => by_cases hc0 : c > 0 <;> simp [hc0] <;> omega

/-- the slot `pvRemoveRange` climbs to from `begin` (`operator--` stopped at the common parent `n`): nothing of `n` precedes
    `begin`, or the slot names the element in front of `begin` -/
theorem climbZero_spec {d : Nat} {n : Node α} (hb : Bal d n) (p1 : List Nat) (i1 : Nat) (hv : ValidElem n p1 i1)
    {rq : List Nat} {k : Nat}
    (hcz : climbZero (normLeaf n ⟨p1, i1⟩).path.reverse (normLeaf n ⟨p1, i1⟩).idx = (rq, k)) :
    (k = 0 → rq = [] ∧ idxOf n p1 i1 = 0) ∧
    (0 < k → ValidElem n rq.reverse (k - 1) ∧ idxOf n rq.reverse (k - 1) + 1 = idxOf n p1 i1) := by
  obtain ⟨m, hm, hi⟩ := hv
  obtain ⟨hn1, lcap, lits, hn2, hn3⟩ := normLeaf_spec hb p1 i1 hm (Nat.le_of_lt hi)
  generalize normLeaf n ⟨p1, i1⟩ = nl at hn1 hn2 hn3 hcz
  have hidx : ∀ j, idxOf n nl.path j = offsetOf n nl.path + j := fun j => by
    rw [idxOf_eq_offset _ hn2, idxOf_leaf]
  rw [← hn1, hidx]
  by_cases h0 : nl.idx = 0
  · obtain ⟨cl1, cl2⟩ := climbLeft_spec hb nl.path hn2
    rw [h0, (climbZero_climbLeft hn2).1] at hcz
    cases hcl : climbLeft n nl.path with
    | none =>
      rw [hcl] at hcz; cases hcz
      exact ⟨fun _ => ⟨rfl, by rw [cl2 hcl, h0]⟩, fun h => absurd h (Nat.lt_irrefl 0)⟩
    | some q =>
      rw [hcl] at hcz; cases hcz
      obtain ⟨q1, q2, q3⟩ := cl1 q hcl
      rw [List.reverse_reverse, h0]
      exact ⟨fun h => absurd h (Nat.ne_of_gt q1), fun _ => ⟨q2, q3⟩⟩
  · rw [climbZero_pos _ h0] at hcz; cases hcz
    rw [List.reverse_reverse]
    refine ⟨fun h => absurd h h0, fun _ => ⟨⟨_, hn2, by simp only [Node.count]; omega⟩, ?_⟩⟩
    rw [hidx]; omega

/-- where the left side of `pvRemoveRange` ends, on the layout of the common parent (the first `k` children with their
    items hold `S k + k` elements, `S k` the sum of their sizes): `a'`, the first index of the parent that goes away, is the child
    in front of which `begin` (in-order index `x`) stands, or `begin` lies behind the start of child `a' - 1` and not behind its item.
    `rangeLeft_spec` ends with it, `rangeLeft_le_rangeRight` starts from it. -/
def LeftEnd (cs : List (Node α)) (x a' : Nat) : Prop :=
  x = ((cs.take a').map (fun c => size c)).sum + a' ∨
    ∃ a, a' = a + 1 ∧ ((cs.take a).map (fun c => size c)).sum + a < x ∧ x ≤ ((cs.take (a + 1)).map (fun c => size c)).sum + a

theorem rangeLeft_spec {dm : Nat} (items : List α) (cs : List (Node α)) (hb : Bal (dm+1) (inner items cs))
    (p1 : List Nat) (i1 : Nat) (hv : ValidElem (inner items cs) p1 i1) {items1 : List α} {cs1 : List (Node α)} {a' : Nat}
    {reb : Option (List Nat)} (h : rangeLeft items cs p1 i1 = (items1, cs1, a', reb)) :
    items1.length = items.length ∧ cs1.length = cs.length ∧ (∀ x ∈ cs1, Bal dm x) ∧
    (∀ maxCap, Caps maxCap (inner items cs) → ∀ x ∈ cs1, Caps maxCap x) ∧
    (a' ≤ items.length → preOf cs1 items1 a' = (inter cs items).take (idxOf (inner items cs) p1 i1)) ∧
    (∀ idx, a' ≤ idx → cs1[idx]? = cs[idx]?) ∧ items1.drop a' = items.drop a' ∧
    LeftEnd cs (idxOf (inner items cs) p1 i1) a' := by
  have hlen := hb.inner_len
  have hall := hb.inner_child
  unfold rangeLeft at h
  generalize hcz : climbZero (normLeaf (inner items cs) ⟨p1, i1⟩).path.reverse (normLeaf (inner items cs) ⟨p1, i1⟩).idx = cz
    at h
  obtain ⟨rq, k⟩ := cz
  obtain ⟨z0, zp⟩ := climbZero_spec hb p1 i1 hv hcz
  simp only at h
  cases hrq : rq.reverse with
  | nil =>
    rw [hrq] at zp h
    obtain ⟨rfl, rfl, rfl, rfl⟩ : items = items1 ∧ cs = cs1 ∧ k = a' ∧ none = reb := by simpa using h
    -- the slot is in the common parent: in front of child `k`
    have hi' : idxOf (inner items cs) p1 i1 = ((cs.take k).map (fun c => size c)).sum + k := by
      rcases Nat.eq_zero_or_pos k with rfl | hk
      · rw [(z0 rfl).2]; rfl
      · rw [← (zp hk).2, idxOf_inner_nil, Nat.sub_add_cancel hk]; omega
    exact ⟨rfl, rfl, hall, fun maxCap hc => hc.inner_child,
      fun hk => hi' ▸ preOf_eq_take cs items k hk hlen, fun _ _ => rfl, rfl, Or.inl hi'⟩
  | cons a q =>
    rw [hrq] at zp h
    have hkpos : 0 < k := Nat.pos_of_ne_zero fun hk => by rw [(z0 hk).1] at hrq; cases hrq
    -- the element in front of `begin` lies below child `a`
    obtain ⟨hve', hidx'⟩ := zp hkpos
    obtain ⟨ch, hc, hve, hblk, hlt⟩ := idxOf_child_block hb hve'
    simp only [hc] at h
    have hal := ListFacts.lt_of_getElem? hc
    have hbch := hall ch (List.mem_of_getElem? hc)
    obtain ⟨t1, t2, t3, t4⟩ := truncRight_spec hbch q (k - 1) hve
    have hu := idxOf_lt_size hbch hve
    have hidx : idxOf (inner items cs) p1 i1 = (preOf cs items a).length + (idxOf ch q (k - 1) + 1) := by
      rw [← hidx', idxOf_inner_cons_length hc hlen, Nat.add_assoc]
    obtain ⟨x, hx⟩ := ListFacts.getElem?_of_lt (l := toList ch) (i := idxOf ch q (k - 1)) (by simpa [size] using hu)
    rw [hx] at t1
    generalize htr : truncRight ch q (k - 1) = tr at t1 t2 t3 t4 h
    obtain ⟨ch', ox⟩ := tr
    simp only at t1 t2 t3 t4
    subst t1
    obtain ⟨rfl, rfl, rfl, rfl⟩ : items.set a x = items1 ∧ cs.set a ch' = cs1 ∧ a + 1 = a' ∧ some (a :: q) = reb := by
      simpa using h
    refine ⟨List.length_set, List.length_set, ListFacts.forall_mem_set hall a t3,
      fun maxCap hcaps => ListFacts.forall_mem_set hcaps.inner_child a (t4 maxCap (hcaps.getElem hc)), ?_, ?_, ?_,
      Or.inr ⟨a, rfl, by omega, by omega⟩⟩
    · intro ha
      have hp : preOf (cs.set a ch') (items.set a x) a = preOf cs items a := by
        simp only [preOf, List.take_set_of_le (Nat.le_refl _)]
      rw [preOf_succ _ _ a ch' x (List.getElem?_set_self hal) (List.getElem?_set_self ha), hp, t2, hidx,
        inter_split cs items a ch hc hlen, ListFacts.take_middle _ _ _ _ hu, ListFacts.take_succ_of_getElem? hx, List.append_assoc]
    · intro idx hidx'
      rw [List.getElem?_set_ne (by omega)]
    · rw [List.drop_set_of_lt (Nat.lt_succ_self a)]

theorem rangeRight_snd (cs1 : List (Node α)) (p2 : List Nat) (i2 : Nat) :
    (rangeRight cs1 p2 i2).2 = (match p2 with
      | [] => i2 + 1
      | b :: _ => b) := by
  cases p2 with
  | nil => rfl
  | cons b q => simp only [rangeRight]; split <;> rfl

/-! Layout arithmetic as for `item_block_sep`: `S k` stands for the size of the first `k` children. A slot that is
    either the start of child `a'` or lies behind the start of child `a' - 1`, and whose index is at most that of an
    item or of a position below a child, is in front of the next child. -/

theorem slot_le_of_le_item (S : Nat → Nat) (mono : ∀ a b, a ≤ b → S a ≤ S b) {a' x i : Nat}
    (h : x = S a' + a' ∨ ∃ a, a' = a + 1 ∧ S a + a < x) (hle : x ≤ S (i+1) + i) : a' ≤ i + 1 := by
  apply Decidable.byContradiction; intro hc
  rcases h with h | ⟨a, rfl, h⟩
  · have := mono (i+1) a' (by omega); omega
  · have := mono (i+1) a (by omega); omega

theorem slot_le_of_le_block (S : Nat → Nat) (mono : ∀ a b, a ≤ b → S a ≤ S b) {a' x b k : Nat}
    (hk : S b + b + k < S (b+1) + b) (h : x = S a' + a' ∨ ∃ a, a' = a + 1 ∧ S a + a < x ∧ a ≠ b)
    (hle : x ≤ S b + b + k) : a' ≤ b := by
  apply Decidable.byContradiction; intro hc
  rcases h with h | ⟨a, rfl, h, hne⟩
  · have := mono (b+1) a' (by omega); omega
  · have := mono (b+1) a (by omega); omega

/-- the left side ends before the right side begins: `a'` is what `rangeLeft` reports as the first index that goes
    away (`LeftEnd`, from `rangeLeft_spec`). The second component of `rangeRight` does not depend on the children it is given
    (`rangeRight_snd`), so `cs1` is arbitrary here; the caller has the children the left side left behind. -/
theorem rangeLeft_le_rangeRight {dm : Nat} (items : List α) (cs : List (Node α)) (hb : Bal (dm+1) (inner items cs))
    (p1 : List Nat) (i1 : Nat) (p2 : List Nat) (i2 : Nat) (hv1 : ValidElem (inner items cs) p1 i1)
    (hv2 : ValidElem (inner items cs) p2 i2) (hle : idxOf (inner items cs) p1 i1 ≤ idxOf (inner items cs) p2 i2)
    (hdiv : ∀ c1 q1 c2 q2, p1 = c1 :: q1 → p2 = c2 :: q2 → c1 ≠ c2) (a' : Nat)
    (hend : LeftEnd cs (idxOf (inner items cs) p1 i1) a') (cs1 : List (Node α)) :
    a' ≤ (rangeRight cs1 p2 i2).2 := by
  have mono : ∀ a b, a ≤ b → ((cs.take a).map (fun c => size c)).sum ≤ ((cs.take b).map (fun c => size c)).sum :=
    fun a b h => sum_take_mono cs h
  rw [rangeRight_snd]
  cases p2 with
  | nil =>
    rw [idxOf_inner_nil] at hle
    exact slot_le_of_le_item _ mono (Or.imp id (fun ⟨a, h1, h2, _⟩ => ⟨a, h1, h2⟩) hend) hle
  | cons b q =>
    obtain ⟨ch, _, _, hidx, hlt⟩ := idxOf_child_block hb hv2
    rw [hidx] at hle
    refine slot_le_of_le_block _ mono hlt ?_ hle
    rcases hend with h | ⟨a, h1, h2, h3⟩
    · exact Or.inl h
    · refine Or.inr ⟨a, h1, h2, ?_⟩
      rintro rfl
      -- `begin` would lie strictly inside the block of child `a`, where prev(end) is: then it is below child `a` too
      obtain ⟨k, hk⟩ := Nat.exists_eq_add_of_le (Nat.le_of_lt h2)
      rw [hk] at h3 hle
      cases p1 with
      | nil =>
        rw [idxOf_inner_nil] at hk
        exact item_block_sep _ mono (i := i1) (c := a) (k := k) (by omega) hk
      | cons c1 q1 =>
        obtain ⟨ch1, _, _, e1, l1⟩ := idxOf_child_block hb hv1
        rw [e1] at hk
        exact hdiv c1 q1 a q rfl rfl (block_block_sep _ mono l1 (k' := k) (by omega) hk)

theorem rangeRight_spec {dm : Nat} (items : List α) (cs cs1 : List (Node α)) (hb : Bal (dm+1) (inner items cs))
    (p2 : List Nat) (i2 : Nat) (hv2 : ValidElem (inner items cs) p2 i2) (a' : Nat) (hlen1 : cs1.length = cs.length)
    (hbal1 : ∀ x ∈ cs1, Bal dm x) (hagree : ∀ idx, a' ≤ idx → cs1[idx]? = cs[idx]?)
    (hab : a' ≤ (rangeRight cs1 p2 i2).2) :
    (rangeRight cs1 p2 i2).1.length = cs.length ∧ (rangeRight cs1 p2 i2).2 ≤ items.length ∧
    (∀ x ∈ (rangeRight cs1 p2 i2).1, Bal dm x) ∧
    (∀ maxCap, Caps maxCap (inner items cs) → (∀ x ∈ cs1, Caps maxCap x) →
      ∀ x ∈ (rangeRight cs1 p2 i2).1, Caps maxCap x) ∧
    (rangeRight cs1 p2 i2).1.take a' = cs1.take a' ∧
    inter ((rangeRight cs1 p2 i2).1.drop (rangeRight cs1 p2 i2).2) (items.drop (rangeRight cs1 p2 i2).2) =
      (inter cs items).drop (idxOf (inner items cs) p2 i2 + 1) := by
  have hlen := hb.inner_len
  have hdropcs : ∀ n, a' ≤ n → cs1.drop n = cs.drop n := fun n hn => List.ext_getElem? (fun k => by
    rw [List.getElem?_drop, List.getElem?_drop]; exact hagree _ (Nat.le_trans hn (Nat.le_add_right _ _)))
  obtain ⟨m2, hm2, hi2⟩ := hv2
  cases p2 with
  | nil =>
    simp at hm2; subst hm2
    have hi2 : i2 < items.length := hi2
    obtain ⟨c, hc⟩ := exists_child hlen (Nat.le_of_lt hi2)
    obtain ⟨x, hx⟩ := ListFacts.getElem?_of_lt hi2
    refine ⟨hlen1, hi2, hbal1, fun _ _ h => h, rfl, ?_⟩
    show inter (cs1.drop (i2 + 1)) (items.drop (i2 + 1)) = _
    rw [hdropcs (i2 + 1) hab, idxOf_inner_nil_length hc (Nat.le_of_lt hi2) hlen, inter_split cs items i2 c hc hlen,
      postOf_of_getElem? cs hx, ListFacts.drop_length_succ]
  | cons b q =>
    obtain ⟨_, _, ch, he, hc, hm2⟩ := nodeAt?_cons_some hm2
    cases he
    have hbl := ListFacts.lt_of_getElem? hc
    have hbch := hb.getElem hc
    have hve : ValidElem ch q i2 := ⟨m2, hm2, hi2⟩
    have hab : a' ≤ b := by rw [rangeRight_snd] at hab; exact hab
    have hR : rangeRight cs1 (b :: q) i2 = (cs1.set b (truncLeft ch q i2), b) := by
      simp only [rangeRight, (hagree b hab).trans hc]
    rw [hR]
    obtain ⟨t1, t2, t3⟩ := truncLeft_spec hbch q i2 hve
    have hv : idxOf ch q i2 + 1 ≤ (toList ch).length := idxOf_lt_size hbch hve
    refine ⟨by rw [List.length_set]; exact hlen1, by omega, ?_, ?_, List.take_set_of_le hab, ?_⟩
    · exact ListFacts.forall_mem_set hbal1 b t2
    · exact fun maxCap hcaps h4 => ListFacts.forall_mem_set h4 b (t3 maxCap (hcaps.getElem hc))
    · have hdrop : (cs1.set b (truncLeft ch q i2)).drop b = truncLeft ch q i2 :: cs.drop (b + 1) := by
        rw [List.drop_eq_getElem_cons (by rw [List.length_set, hlen1]; exact hbl), List.getElem_set_self,
          List.drop_set_of_lt (Nat.lt_succ_self b), hdropcs _ (Nat.le_succ_of_le hab)]
      show inter ((cs1.set b (truncLeft ch q i2)).drop b) (items.drop b) = _
      rw [hdrop, inter_drop_child cs items b ch _ hc hlen, t1, idxOf_inner_cons_length hc hlen,
        inter_split cs items b ch hc hlen, Nat.add_assoc, ListFacts.drop_middle _ _ _ _ hv]

theorem removeRangeCom_spec {dm : Nat} (items : List α) (cs : List (Node α)) (hb : Bal (dm+1) (inner items cs))
    (p1 : List Nat) (i1 : Nat) (p2 : List Nat) (i2 : Nat) (hv1 : ValidElem (inner items cs) p1 i1)
    (hv2 : ValidElem (inner items cs) p2 i2)
    (hle : idxOf (inner items cs) p1 i1 ≤ idxOf (inner items cs) p2 i2)
    (hdiv : ∀ c1 q1 c2 q2, p1 = c1 :: q1 → p2 = c2 :: q2 → c1 ≠ c2) :
    toList (removeRangeCom items cs p1 i1 p2 i2).1 = (toList (inner items cs)).take (idxOf (inner items cs) p1 i1) ++
        (toList (inner items cs)).drop (idxOf (inner items cs) p2 i2 + 1) ∧
    Bal (dm+1) (removeRangeCom items cs p1 i1 p2 i2).1 ∧
    (∃ cap its, nodeAt? (removeRangeCom items cs p1 i1 p2 i2).1 (removeRangeCom items cs p1 i1 p2 i2).2.2 =
        some (leaf cap its)) ∧
    offsetOf (removeRangeCom items cs p1 i1 p2 i2).1 (removeRangeCom items cs p1 i1 p2 i2).2.2 =
        idxOf (inner items cs) p1 i1 ∧
    (∀ maxCap, Caps maxCap (inner items cs) → Caps maxCap (removeRangeCom items cs p1 i1 p2 i2).1) := by
  have hlen := hb.inner_len
  rw [toList_inner]
  unfold removeRangeCom
  generalize hL : rangeLeft items cs p1 i1 = L
  obtain ⟨items1, cs1, a', reb⟩ := L
  -- used below: `l5` the kept prefix is `take idx1`, `l6` children from `a'` on untouched, `l7` items from `a'` on untouched;
  -- `r5` children before `a'` as the left side left them, `r6` the kept suffix is `drop (idx2 + 1)`; the rest are lengths, `Bal`, `Caps`
  obtain ⟨l1, l2, l3, l4, l5, l6, l7, lend⟩ := rangeLeft_spec items cs hb p1 i1 hv1 hL
  have hab := rangeLeft_le_rangeRight items cs hb p1 i1 p2 i2 hv1 hv2 hle hdiv a' lend cs1
  obtain ⟨r1, r2, r3, r4, r5, r6⟩ := rangeRight_spec items cs cs1 hb p2 i2 hv2 a' l2 l3 l6 hab
  generalize rangeRight cs1 p2 i2 = R at hab r1 r2 r3 r4 r5 r6 ⊢
  obtain ⟨cs2, b'⟩ := R
  clear lend l6
  simp only at l1 l2 l3 l4 l5 l7 hab r1 r2 r3 r4 r5 r6 ⊢
  have ha'len : a' ≤ items.length := Nat.le_trans hab r2
  have hpreEq : inter (cs2.take a') (items1.take a') = (inter cs items).take (idxOf (inner items cs) p1 i1) :=
    r5 ▸ l5 ha'len
  have hitems : items1.drop b' = items.drop b' := by
    rw [← Nat.add_sub_cancel' hab, ← List.drop_drop, ← List.drop_drop, l7]
  have ha'cs : a' ≤ cs.length := hlen ▸ Nat.le_succ_of_le ha'len
  have htk2 : (cs2.take a').length = a' := by rw [List.length_take, r1, Nat.min_eq_left ha'cs]
  have htk1 : (cs2.take a').length = (items1.take a').length := by
    rw [htk2, List.length_take, l1, Nat.min_eq_left ha'len]
  have hget : (cs2.take a' ++ cs2.drop b')[a']? = cs2[b']? := by
    rw [List.getElem?_append_right (Nat.le_of_eq htk2), htk2, Nat.sub_self, List.getElem?_drop]; rfl
  obtain ⟨cb, hcb⟩ := exists_child (r1.trans hlen) r2
  obtain ⟨⟨lcap, lits, hlp1⟩, _⟩ := leftPath_spec (r3 cb (List.mem_of_getElem? hcb))
  have hlp3 := offsetOf_leftPath (r3 cb (List.mem_of_getElem? hcb))
  rw [hcb]
  refine ⟨?_, ?_, ⟨lcap, lits, ?_⟩, ?_, ?_⟩
  · rw [toList_inner, inter_prefix _ _ _ _ htk1, hpreEq, hitems, r6]
  · refine Bal.inner dm _ _ ?_ ?_
    · rw [List.length_append, List.length_append, htk1, List.length_drop, List.length_drop, r1, l1]; omega
    · exact List.forall_mem_append.mpr
        ⟨fun y h => r3 y (List.mem_of_mem_take h), fun y h => r3 y (List.mem_of_mem_drop h)⟩
  · exact (nodeAt?_inner_cons' (hget.trans hcb) _).trans hlp1
  · show offsetOf (inner _ _) (a' :: leftPath cb) = _
    rw [offsetOf_inner_cons' (hget.trans hcb), hlp3, List.take_left' htk2]
    -- the number of elements in front of child `a'` is the length of the kept prefix
    have hil := idxOf_lt_size hb hv1
    rw [size, toList_inner] at hil
    have hpl := preOf_length cs2 items1 a' (l1 ▸ ha'len) (r1.trans (hlen.trans (congrArg (· + 1) l1.symm)))
    rw [preOf, hpreEq, List.length_take, Nat.min_eq_left (Nat.le_of_lt hil)] at hpl
    omega
  · intro maxCap hcaps
    have hc2 := r4 maxCap hcaps (l4 maxCap hcaps)
    refine Caps.inner _ _ ?_ ?_
    · have := hcaps.inner_items
      rw [List.length_append, List.length_take, List.length_drop, l1]; omega
    · exact List.forall_mem_append.mpr
        ⟨fun y h => hc2 y (List.mem_of_mem_take h), fun y h => hc2 y (List.mem_of_mem_drop h)⟩

theorem removeRangeAt_spec {d : Nat} {n : Node α} (hb : Bal d n) (p1 : List Nat) (i1 : Nat) (p2 : List Nat) (i2 : Nat)
    (hv1 : ValidElem n p1 i1) (hv2 : ValidElem n p2 i2) (hle : idxOf n p1 i1 ≤ idxOf n p2 i2)
    (hns : ¬ (p1 = p2 ∧ ∃ cap its, nodeAt? n p1 = some (leaf cap its))) :
    toList (removeRangeAt n p1 i1 p2 i2).1 = (toList n).take (idxOf n p1 i1) ++ (toList n).drop (idxOf n p2 i2 + 1) ∧
    Bal d (removeRangeAt n p1 i1 p2 i2).1 ∧
    (∃ cap its, nodeAt? (removeRangeAt n p1 i1 p2 i2).1 (removeRangeAt n p1 i1 p2 i2).2.2 = some (leaf cap its)) ∧
    offsetOf (removeRangeAt n p1 i1 p2 i2).1 (removeRangeAt n p1 i1 p2 i2).2.2 = idxOf n p1 i1 ∧
    (∀ maxCap, Caps maxCap n → Caps maxCap (removeRangeAt n p1 i1 p2 i2).1) := by
  -- the function's own cases: the paths go on through the same child; they part here (`pvGetCommonParent` has found its node)
  fun_induction removeRangeAt n p1 i1 p2 i2 generalizing d with
  | case1 items cs q1 i1 c q2 i2 ch ch' reb res hres hc ih =>
    obtain ⟨d', rfl, hall⟩ := hb.inner_depth
    have hlen := hb.inner_len
    have hbch := hall ch (List.mem_of_getElem? hc)
    obtain ⟨m1, hm1, hi1⟩ := hv1
    obtain ⟨m2, hm2, hi2⟩ := hv2
    rw [nodeAt?_inner_cons' hc] at hm1 hm2
    have hve1 : ValidElem ch q1 i1 := ⟨m1, hm1, hi1⟩
    have hve2 : ValidElem ch q2 i2 := ⟨m2, hm2, hi2⟩
    rw [idxOf_inner_cons_length hc hlen, idxOf_inner_cons_length hc hlen] at hle ⊢
    obtain ⟨a1, a2, ⟨lcap, lits, a3⟩, a4, a5⟩ := ih hbch hve1 hve2 (Nat.le_of_add_le_add_left hle)
      (fun ⟨he, cap, its, hn⟩ => hns ⟨by rw [he], cap, its, (nodeAt?_inner_cons' hc _).trans hn⟩)
    rw [hres] at a1 a2 a3 a4 a5
    have hu1 : idxOf ch q1 i1 ≤ (toList ch).length := Nat.le_of_lt (idxOf_lt_size hbch hve1)
    have hu2 : idxOf ch q2 i2 + 1 ≤ (toList ch).length := idxOf_lt_size hbch hve2
    have hset : (cs.set c ch')[c]? = some ch' := List.getElem?_set_self (ListFacts.lt_of_getElem? hc)
    refine ⟨?_, hb.set_child c a2, ⟨lcap, lits, (nodeAt?_inner_cons' hset _).trans a3⟩, ?_,
      fun maxCap hcaps => hcaps.set_child c (a5 maxCap (hcaps.getElem hc))⟩
    · show toList (inner items (cs.set c ch')) = _
      rw [toList_inner, toList_inner, inter_set cs items c ch _ hc hlen, inter_split cs items c ch hc hlen, a1,
        ListFacts.take_middle _ _ _ _ hu1, Nat.add_assoc, ListFacts.drop_middle _ _ _ _ hu2]
      simp only [List.append_assoc]
    · show offsetOf (inner _ _) (c :: _) = _
      rw [offsetOf_inner_cons' hset, a4, List.take_set_of_le (Nat.le_refl _),
        preOf_length cs items c (Nat.le_of_lt_succ (Nat.lt_of_lt_of_eq (ListFacts.lt_of_getElem? hc) hlen)) hlen]
  | case2 items cs q1 i1 c q2 i2 hc =>
    obtain ⟨m1, hm1, _⟩ := hv1
    simp [hc] at hm1
  | case3 items cs c1 q1 i1 c2 q2 i2 hne =>
    obtain ⟨d', rfl, _⟩ := hb.inner_depth
    exact removeRangeCom_spec items cs hb _ i1 _ i2 hv1 hv2 hle (fun _ _ _ _ h1 h2 => by cases h1; cases h2; exact hne)
  | case4 items cs p1 i1 p2 i2 hx =>
    obtain ⟨d', rfl, _⟩ := hb.inner_depth
    exact removeRangeCom_spec items cs hb p1 i1 p2 i2 hv1 hv2 hle (fun a q a' q' h1 h2 => (hx a q a' q' h1 h2).elim)
  | case5 p1 cap is i1 p2 i2 =>
    obtain ⟨_, hm1, _⟩ := hv1
    obtain ⟨_, hm2, _⟩ := hv2
    cases p1 <;> cases p2 <;> simp at hm1 hm2
    exact absurd ⟨rfl, cap, is, nodeAt?_nil _⟩ hns

/-- `Remove(begin, end)` below a non-null root for `0 < remCount < mCount`: `b` = begin, `e` = prev(end) -/
theorem removeRange_spec (cfg : Cfg) {d : Nat} {r : Node α} (hb : Bal d r) (b e : Pos)
    (hvb : ValidElem r b.path b.idx) (hve : ValidElem r e.path e.idx)
    (hle : idxOf r b.path b.idx ≤ idxOf r e.path e.idx) :
    toList (removeRange cfg r b e).1 =
        (toList r).take (idxOf r b.path b.idx) ++ (toList r).drop (idxOf r e.path e.idx + 1) ∧
    (∃ d', Bal d' (removeRange cfg r b e).1) ∧
    idxOf (removeRange cfg r b e).1 (removeRange cfg r b e).2.path (removeRange cfg r b e).2.idx = idxOf r b.path b.idx ∧
    ValidPos (removeRange cfg r b e).1 (removeRange cfg r b e).2 ∧
    (Caps cfg.maxCap r → Caps cfg.maxCap (removeRange cfg r b e).1) := by
  have hgen : (¬ (b.path = e.path ∧ ∃ cap its, nodeAt? r b.path = some (leaf cap its))) →
      toList (removeRangeGen cfg r b e).1 =
          (toList r).take (idxOf r b.path b.idx) ++ (toList r).drop (idxOf r e.path e.idx + 1) ∧
      (∃ d', Bal d' (removeRangeGen cfg r b e).1) ∧
      idxOf (removeRangeGen cfg r b e).1 (removeRangeGen cfg r b e).2.path (removeRangeGen cfg r b e).2.idx =
          idxOf r b.path b.idx ∧
      ValidPos (removeRangeGen cfg r b e).1 (removeRangeGen cfg r b e).2 ∧
      (Caps cfg.maxCap r → Caps cfg.maxCap (removeRangeGen cfg r b e).1) := by
    intro hns
    obtain ⟨a1, a2, ⟨lcap, lits, a3⟩, a4, a5⟩ := removeRangeAt_spec hb b.path b.idx e.path e.idx hvb hve hle hns
    unfold removeRangeGen
    generalize removeRangeAt r b.path b.idx e.path e.idx = R at a1 a2 a3 a4 a5
    obtain ⟨r1, reb, res⟩ := R
    simp only at a1 a2 a3 a4 a5 ⊢
    -- first pass (from rebNode1), if any
    have hfirst : ∃ d2 cap2 its2, toList (rebalanceFrom cfg r1 reb res).1 = toList r1 ∧
        Bal d2 (rebalanceFrom cfg r1 reb res).1 ∧
        nodeAt? (rebalanceFrom cfg r1 reb res).1 (rebalanceFrom cfg r1 reb res).2 = some (leaf cap2 its2) ∧
        offsetOf (rebalanceFrom cfg r1 reb res).1 (rebalanceFrom cfg r1 reb res).2 = offsetOf r1 res ∧
        (Caps cfg.maxCap r1 → Caps cfg.maxCap (rebalanceFrom cfg r1 reb res).1) := by
      cases reb with
      | none => exact ⟨d, lcap, lits, rfl, a2, a3, rfl, fun h => h⟩
      | some rp =>
        obtain ⟨x1, ⟨d2, x2⟩, x3, x4⟩ := rebOK_rebalance cfg false a2 rp res
        obtain ⟨cap2, its2, y1, _, y3⟩ := x3 lcap lits a3
        exact ⟨d2, cap2, its2, x1, x2, y1, y3, x4⟩
    obtain ⟨d2, cap2, its2, h2, h3, h4, h5, h6⟩ := hfirst
    generalize rebalanceFrom cfg r1 reb res = F at h2 h3 h4 h5 h6
    obtain ⟨r2, res2⟩ := F
    simp only at h2 h3 h4 h5 h6 ⊢
    obtain ⟨f1, f2, f3, f4, f5⟩ := remove_finishG cfg _ (rebOK_rebalance cfg false) h3 res2 res2 0 cap2 its2 h4 (Nat.zero_le _)
    refine ⟨by rw [f1, h2, a1], f2, by rw [f3, h5, a4]; simp, f4, fun hc => f5 (h6 (a5 _ hc))⟩
  unfold removeRange
  obtain ⟨mb, hmb, hib⟩ := hvb
  cases mb with
  | inner is cs =>
    simp only [hmb]
    exact hgen (by intro ⟨_, cap, its, h⟩; rw [hmb] at h; cases h)
  | leaf cap items =>
    simp only [hmb]
    by_cases hpe : b.path = e.path
    · rw [if_pos hpe]
      obtain ⟨me, hme, hie⟩ := hve
      rw [← hpe] at hme hle ⊢
      rw [hmb] at hme
      cases hme
      simp only [Node.count] at hib hie
      rw [idxOf_eq_offset b.idx hmb, idxOf_eq_offset e.idx hmb, idxOf_leaf, idxOf_leaf] at hle ⊢
      -- `e.idx = b.idx + c` keeps truncated subtraction out of the arithmetic
      obtain ⟨c, hc⟩ := Nat.exists_eq_add_of_le (Nat.le_of_add_le_add_left hle)
      rw [hc] at hie ⊢
      rw [← Nat.add_assoc, Nat.add_assoc _ c 1]
      exact cut_at_path cfg _ (rebOK_rebalance cfg true) hb b.path hmb (cutItems b.idx (b.idx + c))
        (by rw [(hb.nodeAt hmb).1.leaf_depth]; exact Bal.leaf _ _) b.idx (c + 1)
        (by rw [size, toList_leaf]; exact hie) (by rw [toList_leaf]; rfl) b.path [] b.idx cap _ rfl
        (by rw [List.length_append, List.length_take, Nat.min_eq_left (Nat.le_of_lt hib)]; exact Nat.le_add_right _ _)
        (Nat.zero_add _) (fun hcaps => by
          cases hcaps with
          | leaf _ _ c1 c2 =>
            refine Caps.leaf _ _ (Nat.le_trans ?_ c1) c2
            rw [List.length_append, List.length_take, List.length_drop]; omega)
        _ (by rw [List.append_nil])
    · rw [if_neg hpe]
      exact hgen (by intro ⟨h, _⟩; exact hpe h)

theorem Cur.removeRange {cfg : Cfg} {t : Tree α} {b e : Pos} {l : List α} {i j : Nat} (hcb : Cur cfg t b l i)
    (hce : Cur cfg t e l j) (hij : i ≤ j) :
    Cur cfg (Tree.removeRange cfg t b e (j - i)).1 (Tree.removeRange cfg t b e (j - i)).2 (l.take i ++ l.drop j) i := by
  have hjl := hce.le
  obtain ⟨_ | r, count⟩ := t
  · obtain rfl : [] = l := hcb.list
    obtain rfl : i = 0 := Nat.le_zero.mp (Nat.le_trans hij hjl)
    exact ⟨hcb.wf, rfl, by simp [Tree.removeRange, Tree.toList], rfl⟩
  · have hcount : count = l.length := hcb.wf.count.trans (congrArg List.length hcb.list)
    simp only [Tree.removeRange]
    by_cases h0 : j - i = 0
    · rw [if_pos h0]
      obtain rfl : j = i := Nat.le_antisymm (Nat.le_of_sub_eq_zero h0) hij
      rw [List.take_append_drop]
      exact hce
    · rw [if_neg h0]
      by_cases hall : j - i = count
      · rw [if_pos hall]
        obtain rfl : i = 0 := by omega
        obtain rfl : j = l.length := by omega
        exact ⟨Tree.wf_empty cfg, rfl, by simp [Tree.toList], rfl⟩
      · rw [if_neg hall]
        obtain ⟨d, hbal⟩ := hcb.wf.bal r rfl
        obtain ⟨p1, p2⟩ := tree_prev_spec cfg _ hce.wf e hce.valid (by rw [hce.idx]; omega)
        have hvb : ValidElem r b.path b.idx := hcb.validElem (by omega)
        obtain rfl : toList r = l := hcb.list
        obtain rfl : idxOf r b.path b.idx = i := hcb.idx
        obtain rfl : idxOf r (Node.prev r e).path (Node.prev r e).idx + 1 = j := p1.trans hce.idx
        obtain ⟨a1, ⟨d', a2⟩, a3, a4, a5⟩ := removeRange_spec cfg hbal b (Node.prev r e) hvb p2
          (Nat.le_of_lt_succ (Nat.lt_of_le_of_ne hij (fun h => h0 (by rw [h, Nat.sub_self]))))
        have hlen : count - (idxOf r (Node.prev r e).path (Node.prev r e).idx + 1 - idxOf r b.path b.idx) =
            (toList (BTree.removeRange cfg r b (Node.prev r e)).1).length := by
          rw [a1, List.length_append, List.length_take, List.length_drop]; omega
        exact ⟨Tree.wf_root cfg hlen a2 (a5 (hcb.wf.caps r rfl)), a4, a1, a3⟩

section removeKey
variable (lt : α → α → Bool)

theorem filter_not_equiv (ho : Order lt) (l : List α) (k : α) (hs : l.Pairwise (fun a b => lt b a = false)) :
    l.filter (fun y => !equiv lt y k) = l.take (lowerIdx lt l k) ++ l.drop (upperIdx lt l k) := by
  obtain ⟨_, l2, l3⟩ := lowerIdx_facts lt ho l k hs
  obtain ⟨_, u2, u3⟩ := upperIdx_facts lt ho l k hs
  apply ListFacts.filter_eq_take_drop _ l _ _ (lowerIdx_le_upperIdx lt ho l k hs)
  · intro j y hj hy
    simp [equiv, l2 j y hj hy]
  · intro j y hj1 hj2 hy
    simp [equiv, l3 j y hj1 hy, u2 j y hj2 hy]
  · intro j y hj hy
    simp [equiv, u3 j y hj hy]

/-- the run counted by `Remove(key)` is the run counted by `GetKeyCount` -/
theorem runLen_eq_keyRun (t : Tree α) (k : α) (fuel : Nat) (pos : Pos) :
    Tree.runLen lt t k fuel pos = Tree.keyRun lt t k fuel pos := by
  induction fuel generalizing pos with
  | zero => rfl
  | succ f ih => simp only [Tree.runLen, Tree.keyRun, ih]

/-- the loop `while (!pvIsGreater(iter2, key)) { ++iter2; ++remCount; }` ends at the upper bound -/
theorem posAfterRun_spec (ho : Order lt) {cfg : Cfg} {t : Tree α} {pos : Pos} {l : List α} {i : Nat}
    (h : Cur cfg t pos l i) (hs : l.Pairwise (fun a b => lt b a = false)) (k : α) (fuel : Nat)
    (hj : i ≤ upperIdx lt l k) (hf : upperIdx lt l k ≤ i + fuel) :
    Cur cfg t (Tree.posAfterRun lt t k fuel pos) l (upperIdx lt l k) ∧
    Tree.runLen lt t k fuel pos = upperIdx lt l k - i :=
  have ⟨a, b⟩ := keyRun_spec lt ho h hs k fuel hj hf
  ⟨a, (runLen_eq_keyRun lt t k fuel pos).trans b⟩

theorem tree_removeKey_spec (ho : Order lt) (cfg : Cfg) (t : Tree α) (hw : t.WF cfg)
    (hs : SortedBy lt cfg.multi t.toList) (k : α) :
    (Tree.removeKey lt cfg t k).1.toList = t.toList.filter (fun y => !equiv lt y k) ∧
    (Tree.removeKey lt cfg t k).1.WF cfg ∧
    (Tree.removeKey lt cfg t k).2 = upperIdx lt t.toList k - lowerIdx lt t.toList k := by
  have hsw := hs.weak ho
  obtain ⟨l1, l2⟩ := tree_lowerBound_spec lt ho cfg t hw hsw k
  have hl : Cur cfg t (Tree.lowerBound lt cfg t k) t.toList (lowerIdx lt t.toList k) := ⟨hw, l2, rfl, l1⟩
  obtain ⟨u1, _, _⟩ := upperIdx_facts lt ho t.toList k hsw
  have hle := lowerIdx_le_upperIdx lt ho t.toList k hsw
  have hc := tree_contains_iff_lt lt ho cfg t hw hsw k
  rw [filter_not_equiv lt ho t.toList k hsw]
  unfold Tree.removeKey
  by_cases hgr : Tree.isGreater lt t (Tree.lowerBound lt cfg t k) k = true
  · rw [if_pos hgr]
    -- nothing is equivalent: the bounds coincide
    have hub : upperIdx lt t.toList k = lowerIdx lt t.toList k :=
      Nat.le_antisymm (Nat.le_of_not_lt (mt hc.mpr (by simp [Tree.contains, hgr]))) hle
    exact ⟨by rw [hub]; simp, hw, by rw [hub]; simp⟩
  · rw [if_neg hgr]
    have hcont : Tree.contains lt cfg t k = true := by simpa [Tree.contains] using hgr
    have hlt := hc.mp hcont
    cases hm : cfg.multi with
    | false =>
      simp only [Bool.not_false, if_true]
      have hkc := tree_keyCount_spec lt ho cfg t hw hs k
      unfold Tree.keyCount at hkc
      simp only [hm, Bool.false_eq_true, if_false, hcont, if_true] at hkc
      have r := hl.remove (Nat.lt_of_lt_of_le hlt u1)
      refine ⟨?_, r.wf, hkc⟩
      rw [r.list, List.eraseIdx_eq_take_drop_succ]
      have : upperIdx lt t.toList k = lowerIdx lt t.toList k + 1 := by omega
      rw [this]
    | true =>
      simp only [Bool.not_true, Bool.false_eq_true, if_false]
      obtain ⟨q, q3⟩ := posAfterRun_spec lt ho (hl.next (Nat.lt_of_lt_of_le hlt u1)) hsw k t.count hlt
        (by rw [hw.count]; omega)
      have hrem : Tree.runLen lt t k t.count (t.next (Tree.lowerBound lt cfg t k)) + 1 =
          upperIdx lt t.toList k - lowerIdx lt t.toList k := by rw [q3]; omega
      rw [hrem]
      have a := hl.removeRange q hle
      exact ⟨a.list, a.wf, rfl⟩

end removeKey

end Momo.BTree
