import Momo.Proof.PoolAllocFaultCont
/-!
# C20 — Pool allocator is a transparent, leak-free std::allocator replacement

The property theorems of C20: nearly all are general lemmas of `Momo/Proof/PoolAlloc*.lean` at the states histories reach
(`C20_failed_allocate_changes_nothing` is proved here by computing the model); with the two witness histories `demo`, `demoFault`.
Model: `Momo/Model/PoolAlloc.lean`, `Momo/Model/PoolAllocFault.lean`.

Statement (properties.jsonl): std::list, std::forward_list, std::map/set and std::unordered_map/set
instantiated with momo's unsynchronized_pool_allocator behave exactly as with std::allocator for every
operation sequence; every node is freed into the pool or raw memory it came from, copies of a container
use independent pools, moved and swapped containers carry their pool along, and when the last container
sharing a pool is destroyed all memory has been returned to the base allocator.

What is a theorem here and what is not.  Layer A (`Op`, `run`) is the allocator as written
(allocate / deallocate decision rule, re-parameterisation, sharing of the pool through the shared_ptr).
Layer C (`COp`, `crun`) adds entities = allocator-aware containers and allocator objects, with the
propagation traits of pool_allocator.h.  The histories quantified over are *all* lists of operations,
with all value-type parameters, counts, addresses and all answers of the pool about its buffers; an
operation whose C++ precondition is violated (freeing a block twice, through another allocator, with
another type; using a destroyed container; splicing between unequal allocators) ends the history with
`Err.illegal`.  `MemPool` (C09) is the environment "parameters, count, buffers held; the destructor and
the re-parameterisation give every buffer back".  "Behave exactly as with std::allocator" (contents of
libstdc++'s containers) is differential evidence of the harness, not a theorem.
-/
namespace Momo.PoolAlloc

/-! ## every node is freed into the pool or raw memory it came from -/

/-- **C20 dealloc_provenance.**  Hypothesis, stated explicitly: *one single-object type per shared pool*
(`OneTypePerPool κ`: every `allocate(1)` / `deallocate(·,1)` through pool `p` is for a value type with
parameters `κ p`; arrays are unrestricted).  Then for every history the machine never records a
provenance error: each `deallocate` routes the block to the kind of memory it was allocated from —
`MemPool::Deallocate` for pool blocks, the memory manager for raw blocks — and the invariant holds
(in particular `GetAllocateCount()` = number of live pool blocks).  The only way such a history can end
early is a violated precondition of the call (`illegal`). -/
theorem C20_dealloc_provenance (κ : Nat → Cls) (ops : List Op) (h : OneTypePerPool κ ops) :
    ((run Sys.init ops).err = none ∧ Inv (run Sys.init ops)) ∨ (run Sys.init ops).err = some .illegal := by
  have := frun_err inv_init rfl (ops.map .ok)
  rw [frun_ok] at this
  exact this (frun_ok Sys.init ops ▸ (frun_oneType (busyParams_init κ) rfl _ (oneType_map h)).2)

/-- the weakest form of the hypothesis: no `allocate(1)` was ever served from the memory manager because
the pool was busy with another type (ghost flag `rawSingle`).  Pools may change their type while idle. -/
theorem C20_dealloc_provenance_no_raw_single (ops : List Op) (h : (run Sys.init ops).rawSingle = false) :
    ((run Sys.init ops).err = none ∧ Inv (run Sys.init ops)) ∨ (run Sys.init ops).err = some .illegal := by
  have := frun_err inv_init rfl (ops.map .ok)
  rw [frun_ok] at this
  exact this h

/-- **the unrestricted statement is false (finding F13).**  One allocator object shared by a list and
a set: `l.push_back(1); s.insert(1); l.clear(); s.insert(2); s.erase(1)` hands a block of the memory manager
to `MemPool::Deallocate`.  All five calls satisfy their preconditions. -/
theorem C20_dealloc_provenance_unrestricted_false :
    ¬ (∀ ops : List Op, (run Sys.init ops).err = none ∨ (run Sys.init ops).err = some .illegal) := by
  intro h
  have := h f13
  revert this
  decide +kernel

/-- the same witness at container level -/
theorem C20_dealloc_provenance_unrestricted_false_containers :
    ¬ (∀ ops : List COp, (crun CSys.init ops).sys.err = none ∨ (crun CSys.init ops).sys.err = some .illegal) := by
  intro h
  have := h f13c
  revert this
  decide +kernel

/-- container histories: unless a single object was served raw, no provenance error, and the container-level
invariant holds at the end: every live block is held by a live container whose allocator points to the pool
the block came from, `use_count()` = number of containers / allocator objects attached. -/
theorem C20_dealloc_provenance_containers (ops : List COp) (h : (crun CSys.init ops).sys.rawSingle = false) :
    ((crun CSys.init ops).sys.err = none ∧ CInv (crun CSys.init ops)) ∨
    (crun CSys.init ops).sys.err = some .illegal := by
  have := fcrun_err cinv_init rfl (ops.map .ok)
  rw [fcrun_ok] at this
  exact this h

/-- in every state reached by a container history (without a raw single), a container that frees a block it
holds succeeds: the block goes back, through the container's own allocator, to where it came from -/
theorem C20_owner_free_succeeds (ops : List COp) (hok : (crun CSys.init ops).sys.err = none)
    (hrs : (crun CSys.init ops).sys.rawSingle = false)
    {en : Ent} (hen : en ∈ (crun CSys.init ops).ents) {b : Block} (hb : b ∈ (crun CSys.init ops).sys.blocks)
    (ho : (crun CSys.init ops).own b.id = en.eid) (frees : List Nat) :
    (actStep en.eid en.pid (crun CSys.init ops) (.free b.id frees)).sys.err = none :=
  owner_free_succeeds (crun_cinv cinv_init ops hok) hok hrs hen hb ho frees

/-! ## copies of a container use independent pools -/

/-- **C20 copy_independent_pools (a).**  After any history, `Container d(c)` (which takes
`select_on_container_copy_construction()`): `d`'s allocator points to a pool that did not exist before;
every other container keeps its allocator (and it is a different pool); every pool that existed — `c`'s
included — has the same parameters, count and owners as before; no old block is touched, every new block
comes from the new pool; the ledger entries of all other pools are unchanged. -/
theorem C20_copy_independent_pools (ops : List COp) (hok0 : (crun CSys.init ops).sys.err = none)
    (d c : Nat) (cls : Cls) (cb : Nat) (acts : List Act)
    (hok : (cstep (crun CSys.init ops) (.copyConstruct d c cls cb acts)).sys.err = none) :
    let cs := crun CSys.init ops
    let cs' := cstep cs (.copyConstruct d c cls cb acts)
    (⟨d, cs.sys.pools.length⟩ : Ent) ∈ cs'.ents ∧
    (∀ e ∈ cs.ents, e.pid ≠ cs.sys.pools.length ∧ e.eid ≠ d ∧ e ∈ cs'.ents) ∧
    (∀ (j : Nat) (st : PoolSt), cs.sys.pools[j]? = some st → cs'.sys.pools[j]? = some st) ∧
    (∀ b ∈ cs.sys.blocks, b ∈ cs'.sys.blocks ∧ cs'.own b.id = cs.own b.id) ∧
    (∀ b ∈ cs'.sys.blocks, b ∈ cs.sys.blocks ∨ (b.pid = cs.sys.pools.length ∧ cs'.own b.id = d)) ∧
    (∀ x : Base, x.pid ≠ cs.sys.pools.length → (x ∈ cs'.sys.base ↔ x ∈ cs.sys.base)) :=
  copyConstruct_spec (crun_cinv cinv_init ops hok0) hok0 (cstep_outcome hok0 _) hok

/-- **C20 copy_independent_pools (b): a container touches only its own pool.**  Whatever a container `e`
(allocator -> pool `p`) allocates and frees (insert, erase, clear, rehash, copy assignment — POCCA is false,
so the target keeps its pool): every other pool keeps its state, every block held by another container stays
live with its holder, new blocks come from `p`, ledger entries of other pools are unchanged.  Together with
(a): operations on a copy never reach the original's pool and vice versa. -/
theorem C20_container_touches_only_own_pool (ops : List COp) (hok0 : (crun CSys.init ops).sys.err = none)
    (e : Nat) (acts : List Act) (hok : (cstep (crun CSys.init ops) (.mutate e acts)).sys.err = none) :
    ∃ en ∈ (crun CSys.init ops).ents, en.eid = e ∧
      Frame e en.pid (crun CSys.init ops) (cstep (crun CSys.init ops) (.mutate e acts)) ∧
      (cstep (crun CSys.init ops) (.mutate e acts)).ents = (crun CSys.init ops).ents :=
  mutate_spec (crun_cinv cinv_init ops hok0) hok0 (cstep_outcome hok0 _) hok

/-! ## moved and swapped containers carry their pool along -/

/-- **C20 move_swap_carry_pool (move construction).**  `Container d(std::move(c))`: `d`'s allocator points to
the pool `c`'s allocator points to, no block is allocated or freed, the ledger is unchanged, `c`'s blocks are
now `d`'s. -/
theorem C20_move_construct_carries_pool (ops : List COp) (hok0 : (crun CSys.init ops).sys.err = none) (d c : Nat)
    (hok : (cstep (crun CSys.init ops) (.moveConstruct d c)).sys.err = none) :
    let cs := crun CSys.init ops
    let cs' := cstep cs (.moveConstruct d c)
    ∃ ce, ce ∈ cs.ents ∧ ce.eid = c ∧ (⟨d, ce.pid⟩ : Ent) ∈ cs'.ents ∧ ce ∈ cs'.ents ∧
      cs'.sys.blocks = cs.sys.blocks ∧ cs'.sys.base = cs.sys.base ∧
      (∀ i, cs.own i = c → cs'.own i = d) ∧ (∀ i, cs.own i ≠ c → cs'.own i = cs.own i) :=
  moveConstruct_spec hok0 (cstep_outcome hok0 _) hok

/-- **C20 move_swap_carry_pool (move assignment, POCMA = true).**  `d = std::move(c)`: afterwards `d`'s
allocator points to `c`'s pool; every block `c` held is still live, is now held by `d`, and comes from exactly
that pool; `c` holds nothing; the blocks `d` held before are gone (freed through `d`'s old allocator —
`C20_owner_free_succeeds`); blocks of third containers are untouched. -/
theorem C20_move_assign_carries_pool (ops : List COp) (hok0 : (crun CSys.init ops).sys.err = none) (d c : Nat)
    (acts : List Act) (hok : (cstep (crun CSys.init ops) (.moveAssign d c acts)).sys.err = none) :
    let cs := crun CSys.init ops
    let cs' := cstep cs (.moveAssign d c acts)
    ∃ de ce, de ∈ cs.ents ∧ de.eid = d ∧ ce ∈ cs.ents ∧ ce.eid = c ∧ d ≠ c ∧
      (⟨d, ce.pid⟩ : Ent) ∈ cs'.ents ∧ ce ∈ cs'.ents ∧
      (∀ b ∈ cs.sys.blocks, cs.own b.id = c → b ∈ cs'.sys.blocks ∧ cs'.own b.id = d ∧ b.pid = ce.pid) ∧
      (∀ b ∈ cs'.sys.blocks, cs'.own b.id ≠ c) ∧
      (∀ b ∈ cs.sys.blocks, cs.own b.id = d → b ∉ cs'.sys.blocks) ∧
      (∀ b ∈ cs.sys.blocks, cs.own b.id ≠ d → cs.own b.id ≠ c → b ∈ cs'.sys.blocks ∧ cs'.own b.id = cs.own b.id) :=
  moveAssign_spec (crun_cinv cinv_init ops hok0) hok0 (cstep_outcome hok0 _) hok

/-- **C20 move_swap_carry_pool (swap, POCS = true).**  `d.swap(c)`: the allocators exchange their pools, the
containers exchange their blocks, the allocator-level state (pools, blocks, ledger) does not change at all. -/
theorem C20_swap_carries_pool (ops : List COp) (hok0 : (crun CSys.init ops).sys.err = none) (d c : Nat)
    (hok : (cstep (crun CSys.init ops) (.swap d c)).sys.err = none) :
    let cs := crun CSys.init ops
    let cs' := cstep cs (.swap d c)
    ∃ de ce, de ∈ cs.ents ∧ de.eid = d ∧ ce ∈ cs.ents ∧ ce.eid = c ∧
      (⟨d, ce.pid⟩ : Ent) ∈ cs'.ents ∧ (⟨c, de.pid⟩ : Ent) ∈ cs'.ents ∧ cs'.sys = cs.sys ∧
      (∀ i, cs.own i = c → cs'.own i = d) ∧ (∀ i, cs.own i = d → cs'.own i = c) ∧
      (∀ i, cs.own i ≠ c → cs.own i ≠ d → cs'.own i = cs.own i) :=
  swap_spec (cstep_outcome hok0 _) hok

/-- **C20 move_swap_carry_pool (invariant form).**  After every container history — copies, moves, swaps,
splices, assignments in any order — every live block is held by a live container whose allocator points to the
pool the block was allocated from, names of containers are unique, and the owner count of every pool equals the
number of containers / allocator objects attached to it.  (So a later `erase` or destructor returns each node to
the right pool.) -/
theorem C20_blocks_follow_their_pool (ops : List COp) (hok : (crun CSys.init ops).sys.err = none) :
    (∀ b ∈ (crun CSys.init ops).sys.blocks,
        ∃ e ∈ (crun CSys.init ops).ents, e.eid = (crun CSys.init ops).own b.id ∧ e.pid = b.pid) ∧
    ((crun CSys.init ops).ents.map (·.eid)).Nodup ∧
    (∀ (p : Nat) (st : PoolSt), (crun CSys.init ops).sys.pools[p]? = some st →
        st.refs = (crun CSys.init ops).ents.countP (fun e => e.pid == p)) :=
  let hc := crun_cinv cinv_init ops hok
  ⟨hc.owned, hc.nodupE, hc.refs⟩

/-! ## when the last container sharing a pool is destroyed all memory has been returned -/

/-- **C20 last_owner_returns_all.**  After every container history: a pool to which no live container or
allocator object is attached any more is dead (`~MemPool` has run, `use_count() == 0`) and the ledger of the base
allocator holds nothing that was requested for it — no control block, no buffer, no raw block. -/
theorem C20_last_owner_returns_all (ops : List COp) (hok : (crun CSys.init ops).sys.err = none) (p : Nat)
    (hlast : ∀ e ∈ (crun CSys.init ops).ents, e.pid ≠ p) :
    (∀ x ∈ (crun CSys.init ops).sys.base, x.pid ≠ p) ∧
    (∀ st, (crun CSys.init ops).sys.pools[p]? = some st → st.dead = true ∧ st.refs = 0) ∧
    (∀ b ∈ (crun CSys.init ops).sys.blocks, b.pid ≠ p) :=
  last_owner_returns_all (crun_cinv cinv_init ops hok) p hlast

/-- corollary: when every container and allocator object has been destroyed the ledger is empty -/
theorem C20_all_destroyed_ledger_empty (ops : List COp) (hok : (crun CSys.init ops).sys.err = none)
    (hnone : (crun CSys.init ops).ents = []) :
    (crun CSys.init ops).sys.base = [] ∧ (crun CSys.init ops).sys.blocks = [] :=
  all_destroyed_ledger_empty (crun_cinv cinv_init ops hok) hnone

/-- the destructor call that makes this happen never fails: in every reachable state, a container that has freed
all its blocks can drop its allocator (no error is recorded; in particular, if it was the last owner, `~MemPool`'s
`MOMO_EXTRA_CHECK(allocCount == 0)` holds: `countMismatch` is one of the errors excluded) -/
theorem C20_destructor_drop_succeeds (ops : List COp) (hok : (crun CSys.init ops).sys.err = none)
    {en : Ent} (hen : en ∈ (crun CSys.init ops).ents) (hnone : ownsNone (crun CSys.init ops) en.eid = true) :
    (step (crun CSys.init ops).sys (.adrop en.pid)).err = none :=
  drop_succeeds (crun_cinv cinv_init ops hok) hok hen hnone

/-! ## non-vacuity: concrete histories that meet the hypotheses and end without error -/

/-- list-like scenario: allocator object 0 (for `int`), list 1 built from it, three inserts, a copy 2, an erase,
a container 3 with a pool of its own, `3 = std::move(1)`, swap of 2 and 3, splice from 3 into 1, destruction of everything -/
def demo : List COp :=
  [.newAlloc 0 (8, 4) 900, .newFrom 1 0,
   .mutate 1 [.alloc (24, 8) 1 10 [500], .alloc (24, 8) 1 11 [], .alloc (24, 8) 1 12 [501]],
   .copyConstruct 2 1 (24, 8) 901 [.alloc (24, 8) 1 20 [600], .alloc (24, 8) 1 21 [], .alloc (24, 8) 1 22 []],
   .mutate 1 [.free 11 []],
   .newAlloc 3 (24, 8) 902, .mutate 3 [.alloc (24, 8) 1 30 [700]],
   .moveAssign 3 1 [.free 30 [700]],
   .swap 2 3,
   .newFrom 4 2, .splice 4 2 [10],
   .mutate 4 [.alloc (16, 8) 7 40 []],        -- an array (bucket table): raw
   .destroy 4 [.free 10 [], .free 40 []],
   .destroy 2 [.free 12 [500, 501]],
   .destroy 3 [.free 20 [], .free 21 [], .free 22 [600]],
   .destroy 1 [], .destroy 0 []]

example : (crun CSys.init demo).sys.err = none := by decide +kernel
example : (crun CSys.init demo).sys.rawSingle = false := by decide +kernel
example : (crun CSys.init demo).ents = [] := by decide +kernel
example : (crun CSys.init demo).sys.base = [] := by decide +kernel
example : ((crun CSys.init (demo.take 12)).sys.pools.map (·.dead)) = [false, false, true] := by decide +kernel
/-- before the destructors run: 6 ledger entries, 6 live blocks; the pool container 3 had of its own died at the move
    assignment (3 was its last owner) and took its control block and buffer along -/
example : ((crun CSys.init (demo.take 12)).sys.base.length, (crun CSys.init (demo.take 12)).sys.blocks.length) = (6, 6) := by decide +kernel
/-- a pool may change its type while idle without any error (weaker than one type per pool) -/
example : (run Sys.init [.anew (8, 4) 1, .alloc 0 (24, 8) 1 5 [9], .dealloc 0 (24, 8) 1 5 [],
    .alloc 0 (40, 8) 1 6 [10], .dealloc 0 (40, 8) 1 6 [], .adrop 0]) = ⟨[⟨(40, 8), 0, 0, true⟩], [], [], false, none⟩ := by decide +kernel
example : OneTypePerPool (fun _ => (24, 8)) [.anew (8, 4) 1, .alloc 0 (24, 8) 1 5 [9], .alloc 0 (8, 8) 3 6 [], .dealloc 0 (24, 8) 1 5 []] := by
  intro op hop
  simp only [List.mem_cons, List.not_mem_nil, or_false] at hop
  rcases hop with rfl | rfl | rfl | rfl <;> simp
/-- F13 is a legal history: the flag is what goes up, one step before the error -/
example : (run Sys.init (f13.take 5)).err = none ∧ (run Sys.init (f13.take 5)).rawSingle = true := by decide +kernel

/-! ## a failing base allocator (`bad_alloc` inside `allocate` / the constructor)

A fault is an explicit operation of the history (`FOp`, `frun`: allocator level; `FCOp`, `fcrun`: container level), so every
theorem below quantifies over every placement of faults. -/

/-- **C20 failed_allocate_changes_nothing (allocator level).**  `allocate(n)` through a live pool `p` that ends with
`bad_alloc`: no error is recorded; the live blocks, the ghost flag, every other pool, and of pool `p` the count, the
owner count and the liveness are what they were; nothing was obtained from the base allocator (every ledger entry left
was there before), control blocks, raw blocks and the entries of other pools are all still there.  The parameters of
`p` change in exactly one case — a single object of another type requested from an idle pool: line 119 ran before the
throw, the pool now has the parameters of that type (and the buffers of the replaced pool object went back).  In every
other case the state is *identical*. -/
theorem C20_failed_allocate_changes_nothing {s : Sys} (h0 : s.err = none) {p : Nat} {st : PoolSt}
    (hl : livePool s p = some st) (cls : Cls) {n : Nat} (hn : n ≠ 0) :
    let s' := fstep s (.allocFail p cls n)
    s'.err = none ∧ s'.blocks = s.blocks ∧ s'.rawSingle = s.rawSingle ∧
    (∀ j, j ≠ p → s'.pools[j]? = s.pools[j]?) ∧
    s'.pools[p]? = some { st with params := if n = 1 ∧ cls ≠ st.params ∧ st.allocCount = 0 then cls else st.params } ∧
    (∀ x ∈ s'.base, x ∈ s.base) ∧
    (∀ x ∈ s.base, x.pid ≠ p ∨ x.kind ≠ .buf → x ∈ s'.base) ∧
    (n ≠ 1 ∨ cls = st.params ∨ st.allocCount ≠ 0 → s' = s) := by
  have he : ¬ s.err.isSome = true := by simp [h0]
  obtain ⟨hst, _⟩ := livePool_eq_some.mp hl
  simp only [fstep, if_neg he, doAllocFail, hl, if_neg hn]
  by_cases hr : n = 1 ∧ cls ≠ st.params ∧ st.allocCount = 0
  · simp only [if_pos hr]
    refine ⟨h0, trivial, trivial, fun j hj => List.getElem?_set_ne (Ne.symm hj), ListFacts.getElem?_set_self hst,
      fun x hx => (List.mem_filter.mp hx).1, fun x hx h => List.mem_filter.mpr ⟨hx, ?_⟩, fun h => ?_⟩
    · rcases h with h | h <;> simp [h]
    · exact (h.elim (· hr.1) (·.elim (hr.2.1 ·) (· hr.2.2))).elim
  · simp only [if_neg hr]
    exact ⟨h0, trivial, trivial, fun _ _ => trivial, hst, fun _ h => h, fun _ h _ => h, fun _ => trivial⟩

/-- **C20 dealloc_provenance, every history with faults.**  With one single-object type per shared pool — only the
*successful* single-object requests are restricted, a request that throws may be for any type — no history, wherever
the base allocator throws, records a provenance error, and the invariant holds (`GetAllocateCount()` = live pool
blocks, every ledger entry accounted for, …). -/
theorem C20_fault_dealloc_provenance (κ : Nat → Cls) (ops : List FOp) (h : FOneTypePerPool κ ops) :
    ((frun Sys.init ops).err = none ∧ Inv (frun Sys.init ops)) ∨ (frun Sys.init ops).err = some .illegal :=
  frun_err inv_init rfl ops (frun_oneType (busyParams_init κ) rfl ops h).2

/-- the weakest form of the hypothesis (ghost flag), histories with faults -/
theorem C20_fault_dealloc_provenance_no_raw_single (ops : List FOp) (h : (frun Sys.init ops).rawSingle = false) :
    ((frun Sys.init ops).err = none ∧ Inv (frun Sys.init ops)) ∨ (frun Sys.init ops).err = some .illegal :=
  frun_err inv_init rfl ops h

/-- histories without faults are the histories of the fault-free machine (so the theorems above contain the ones of
the first section) -/
theorem C20_fault_free_histories (ops : List Op) : frun Sys.init (ops.map .ok) = run Sys.init ops := frun_ok _ _

/-- **C20 failed_allocate_changes_nothing (container level): no block is lost.**  In every state reached by a container
history with faults, an `allocate` of container `e` that throws: no error; the containers and allocator objects, who
holds which block, and the live blocks are what they were; only the pool of `e`'s allocator can have changed (and of
it only the parameters, see the allocator-level theorem); ledger entries of other pools are untouched. -/
theorem C20_fault_container_alloc_fail (ops : List FCOp) (hok0 : (fcrun CSys.init ops).sys.err = none)
    {en : Ent} (hen : en ∈ (fcrun CSys.init ops).ents) (cls : Cls) {n : Nat} (hn : n ≠ 0) :
    let cs := fcrun CSys.init ops
    let cs' := factStep en.eid en.pid cs (.allocFail cls n)
    cs'.sys.err = none ∧ cs'.ents = cs.ents ∧ cs'.own = cs.own ∧ cs'.sys.blocks = cs.sys.blocks ∧
    (∀ e, cs'.ownedBy e = cs.ownedBy e) ∧ Frame en.eid en.pid cs cs' ∧ CInv cs' :=
  factStep_allocFail_spec (fcrun_cinv cinv_init ops hok0) hok0 hen cls hn

/-- **container histories with faults**: unless a single object was served raw, no provenance error, and the
container-level invariant holds at the end -/
theorem C20_fault_dealloc_provenance_containers (ops : List FCOp) (h : (fcrun CSys.init ops).sys.rawSingle = false) :
    ((fcrun CSys.init ops).sys.err = none ∧ CInv (fcrun CSys.init ops)) ∨
    (fcrun CSys.init ops).sys.err = some .illegal :=
  fcrun_err cinv_init rfl ops h

/-- **C20 move_swap_carry_pool (invariant form), histories with faults.**  `C20_blocks_follow_their_pool` after every
container history in which calls threw `bad_alloc` half way or copy constructions threw. -/
theorem C20_fault_blocks_follow_their_pool (ops : List FCOp) (hok : (fcrun CSys.init ops).sys.err = none) :
    (∀ b ∈ (fcrun CSys.init ops).sys.blocks,
        ∃ e ∈ (fcrun CSys.init ops).ents, e.eid = (fcrun CSys.init ops).own b.id ∧ e.pid = b.pid) ∧
    ((fcrun CSys.init ops).ents.map (·.eid)).Nodup ∧
    (∀ (p : Nat) (st : PoolSt), (fcrun CSys.init ops).sys.pools[p]? = some st →
        st.refs = (fcrun CSys.init ops).ents.countP (fun e => e.pid == p)) :=
  let hc := fcrun_cinv cinv_init ops hok
  ⟨hc.owned, hc.nodupE, hc.refs⟩

/-- **C20 last_owner_returns_all, histories with faults (leak freedom).**  `C20_last_owner_returns_all` after every container
history with faults. -/
theorem C20_fault_last_owner_returns_all (ops : List FCOp) (hok : (fcrun CSys.init ops).sys.err = none) (p : Nat)
    (hlast : ∀ e ∈ (fcrun CSys.init ops).ents, e.pid ≠ p) :
    (∀ x ∈ (fcrun CSys.init ops).sys.base, x.pid ≠ p) ∧
    (∀ st, (fcrun CSys.init ops).sys.pools[p]? = some st → st.dead = true ∧ st.refs = 0) ∧
    (∀ b ∈ (fcrun CSys.init ops).sys.blocks, b.pid ≠ p) :=
  last_owner_returns_all (fcrun_cinv cinv_init ops hok) p hlast

/-- corollary: when every container and allocator object has been destroyed the ledger is empty, whatever threw on the way -/
theorem C20_fault_all_destroyed_ledger_empty (ops : List FCOp) (hok : (fcrun CSys.init ops).sys.err = none)
    (hnone : (fcrun CSys.init ops).ents = []) :
    (fcrun CSys.init ops).sys.base = [] ∧ (fcrun CSys.init ops).sys.blocks = [] :=
  all_destroyed_ledger_empty (fcrun_cinv cinv_init ops hok) hnone

/-- after any history with faults, freeing a block it holds (e.g. while unwinding from the exception) and the final
destructor call of a container that holds nothing succeed -/
theorem C20_fault_cleanup_succeeds (ops : List FCOp) (hok : (fcrun CSys.init ops).sys.err = none)
    {en : Ent} (hen : en ∈ (fcrun CSys.init ops).ents) :
    ((fcrun CSys.init ops).sys.rawSingle = false → ∀ b ∈ (fcrun CSys.init ops).sys.blocks,
        (fcrun CSys.init ops).own b.id = en.eid → ∀ frees,
        (actStep en.eid en.pid (fcrun CSys.init ops) (.free b.id frees)).sys.err = none) ∧
    (ownsNone (fcrun CSys.init ops) en.eid = true → (step (fcrun CSys.init ops).sys (.adrop en.pid)).err = none) :=
  let hc := fcrun_cinv cinv_init ops hok
  ⟨fun hrs _ hb ho frees => owner_free_succeeds hc hok hrs hen hb ho frees, fun hnone => drop_succeeds hc hok hen hnone⟩

/-- a container touches only its own pool and its own blocks also in calls in which allocations throw -/
theorem C20_fault_container_touches_only_own_pool (ops : List FCOp) (hok0 : (fcrun CSys.init ops).sys.err = none)
    (e : Nat) (acts : List FAct) (hok : (fcstep (fcrun CSys.init ops) (.mutateF e acts)).sys.err = none) :
    ∃ en ∈ (fcrun CSys.init ops).ents, en.eid = e ∧
      Frame e en.pid (fcrun CSys.init ops) (fcstep (fcrun CSys.init ops) (.mutateF e acts)) ∧
      (fcstep (fcrun CSys.init ops) (.mutateF e acts)).ents = (fcrun CSys.init ops).ents :=
  mutateF_spec (fcrun_cinv cinv_init ops hok0) hok0 (fcstep_outcome hok0 _) hok

/-- `Container d(c)` that throws inside `select_on_container_copy_construction` (the control block of the new allocator
object cannot be allocated; catchable: the function is not `noexcept`): after any history, nothing at all
changes — no pool, no container, no ledger entry. -/
theorem C20_fault_copy_construct_control_block_fail (ops : List FCOp) (hok0 : (fcrun CSys.init ops).sys.err = none)
    (d c : Nat) (cls : Cls) (hok : (fcstep (fcrun CSys.init ops) (.copyConstructNewFail d c cls)).sys.err = none) :
    fcstep (fcrun CSys.init ops) (.copyConstructNewFail d c cls) = fcrun CSys.init ops := by
  obtain ⟨cs', e', h⟩ := fcstep_view hok0 (.copyConstructNewFail d c cls)
  rw [e'] at hok ⊢
  cases h with
  | illegal => exact absurd hok (cfail_err _)
  | copyConstructNewFail => rfl

/-! ## the decision logic of `allocate` / `deallocate` for value types of every size and alignment -/

/-- **C20 allocate_route.**  For a value type of any size and alignment (`paramsOf N M size align` is
`pvGetMemPoolParams()`, `M = UIntConst::maxAlignment`, `N` blocks per buffer): a legal `allocate(n)` succeeds; the block
comes from the pool iff `n = 1` and (the pool has the parameters of the type, or `GetAllocateCount() == 0`), otherwise
from the memory manager; on the pool path the pool afterwards has the parameters of the type.  (The route depends on the value
type only through its parameters: `alloc_route` for any `cls`; the arithmetic of `paramsOf` is `C20_pool_params_closed_form`.) -/
theorem C20_allocate_route {s : Sys} {p : Nat} {st : PoolSt} (h0 : s.err = none) (hl : livePool s p = some st)
    (N M size align : Nat) {n : Nat} (hn : n ≠ 0) {id : Nat} (hfresh : ∀ b ∈ s.blocks, b.id ≠ id) (ms : List Nat) :
    let cls := paramsOf N M size align
    let s' := step s (.alloc p cls n id ms)
    s'.err = none ∧
    s'.blocks = ⟨id, p, cls, n, if n = 1 ∧ (cls = st.params ∨ st.allocCount = 0) then .pool cls else .raw⟩ :: s.blocks ∧
    (n = 1 ∧ (cls = st.params ∨ st.allocCount = 0) →
      s'.pools[p]? = some { st with params := cls, allocCount := st.allocCount + 1 }) ∧
    (¬ (n = 1 ∧ (cls = st.params ∨ st.allocCount = 0)) → s'.pools = s.pools) :=
  alloc_route h0 hl _ hn hfresh ms

/-- **C20 deallocate_route.**  In a state satisfying the invariant, a legal `deallocate(ptr, n)` (block live, allocated
through an allocator on the same pool, same value type, same count): the block is handed to `MemPool::Deallocate` iff
`n = 1` and the parameters of the value type equal the pool's *current* parameters, and to the memory manager otherwise.
The call is an error exactly when that is not where the block came from (`rawIntoPool` = F13 / `poolIntoRaw`); otherwise
the count drops by one resp. the raw ledger entry disappears, and nothing else changes. -/
theorem C20_deallocate_route {s : Sys} (hi : Inv s) {p : Nat} {st : PoolSt} (h0 : s.err = none) (hl : livePool s p = some st)
    {b : Block} (hb : b ∈ s.blocks) (hp : b.pid = p) (frees : List Nat) :
    (b.n = 1 ∧ b.cls = st.params →
      (b.prov = .raw → (step s (.dealloc p b.cls b.n b.id frees)).err = some (.rawIntoPool b.id)) ∧
      (b.prov ≠ .raw →
        (step s (.dealloc p b.cls b.n b.id frees)).err = none ∧
        (step s (.dealloc p b.cls b.n b.id frees)).pools[p]? = some { st with allocCount := st.allocCount - 1 } ∧
        (step s (.dealloc p b.cls b.n b.id frees)).blocks = s.blocks.filter (fun x => x.id != b.id) ∧
        (∀ x ∈ s.base, x.kind ≠ .buf → x ∈ (step s (.dealloc p b.cls b.n b.id frees)).base))) ∧
    (¬ (b.n = 1 ∧ b.cls = st.params) →
      (b.prov ≠ .raw → (step s (.dealloc p b.cls b.n b.id frees)).err = some (.poolIntoRaw b.id)) ∧
      (b.prov = .raw →
        (step s (.dealloc p b.cls b.n b.id frees)).err = none ∧
        (step s (.dealloc p b.cls b.n b.id frees)).pools = s.pools ∧
        (step s (.dealloc p b.cls b.n b.id frees)).blocks = s.blocks.filter (fun x => x.id != b.id) ∧
        (step s (.dealloc p b.cls b.n b.id frees)).base =
          s.base.filter (fun e => !(e.pid == p && e.kind == .raw && e.id == b.id)))) :=
  dealloc_route hi h0 hl hb hp frees

/-- **C20 pool_params_closed_form.**  `pvGetMemPoolParams()` of every C++ value type (size a positive multiple of the
alignment, alignments powers of two — `CppType`): block alignment `min(alignof(T), maxAlignment)`; block size
`sizeof(T)`, except that with more than one block per buffer a type whose size equals that alignment gets twice it. -/
theorem C20_pool_params_closed_form {N M s a : Nat} (hM : 0 < M) (h : CppType M s a) :
    paramsOf N M s a = (if N ≠ 1 ∧ s = min a M then Extracted.poolCorrectSmallMul * s else s, min a M) :=
  paramsOf_cpp hM h

/-- **C20 same_pool_parameters_iff (`pvIsEqual` between two value types).**  `N > 1`: two value types are interchangeable for
the pool (a single object of the one is served by / returned to a pool parameterised for the other) iff their clamped
alignments agree and their sizes are equal or one is the alignment and the other twice it.  `N = 1`: iff clamped
alignments and sizes agree. -/
theorem C20_same_pool_parameters_iff {N M s1 a1 s2 a2 : Nat} (hM : 0 < M) (h1 : CppType M s1 a1) (h2 : CppType M s2 a2) :
    (N ≠ 1 → (paramsOf N M s1 a1 = paramsOf N M s2 a2 ↔
      min a1 M = min a2 M ∧ (s1 = s2 ∨ (s1 = min a1 M ∧ s2 = 2 * s1) ∨ (s2 = min a2 M ∧ s1 = 2 * s2)))) ∧
    (paramsOf 1 M s1 a1 = paramsOf 1 M s2 a2 ↔ min a1 M = min a2 M ∧ s1 = s2) :=
  ⟨fun hN => same_class_iff hM hN h1 h2, same_class_iff_one hM h1 h2⟩

/-- **C20 overaligned_value_types.**  `alignof(T) > maxAlignment`: the pool is parameterised with
`(sizeof(T), maxAlignment)`.  The model covers such types like all others (every theorem of this file holds for them);
what it says about them is that the alignment the allocator works with is `maxAlignment`, strictly smaller than the
type's — the pool's blocks (and the raw path, whose memory manager is given no alignment) are only
`maxAlignment`-aligned (reported finding: `std::list<T, unsynchronized_pool_allocator<T>>` with `alignas(32) T`). -/
theorem C20_overaligned_value_types {N M s a : Nat} (hM : 0 < M) (h : CppType M s a) (ho : M < a) :
    paramsOf N M s a = (s, M) ∧ (paramsOf N M s a).2 < a := by
  rw [paramsOf_overaligned hM h ho]; exact ⟨rfl, ho⟩

/-- **C20 reparameterisation_params_valid.**  The pool object line 119 creates passes every `MOMO_CHECK` of
`MemPool::pvCheckParams` for value types of every size and alignment, for every legal `MemPoolParams<N, …>` and every
`maxAlignment ≤ 1024` (only `std::length_error` for `blockSize > maxSize / N` remains, not modelled). -/
theorem C20_reparameterisation_params_valid {N M : Nat} (hN : 0 < N) (hN2 : N < Extracted.poolBlockCountLimit) (hM : 0 < M)
    (hM2 : M ≤ Extracted.poolMaxBlockAlignment) (size : Nat) {align : Nat} (ha : 0 < align) :
    checkParams N (paramsOf N M size align) :=
  paramsOf_checks hN hN2 hM hM2 size ha

/-! ## the propagation traits of the class and what the standard prescribes under exactly these -/

/-- **C20 traits_as_extracted.**  T1 reads the four typedefs from pool_allocator.h on every run: POCCA = `false_type`,
POCMA = `true_type`, POCS = `true_type`, `is_always_equal` not declared and the class not empty, hence `false_type`; the
extractor also checks that there is no second declaration.  The container-level machine `cstep` branches on `pocca`,
`pocma`, `pocs` (`if pocca then cs.cfail`, `d = c ∨ !pocma`, `if !pocs then cs.cfail`); with these values those `cfail` branches are
dead code: no other combination can occur as long as this theorem builds. -/
theorem C20_traits_as_extracted : pocca = false ∧ pocma = true ∧ pocs = true ∧ alwaysEqual = false := by
  decide

/-- **C20 copy assignment, POCCA = false.**  `d = c` after any history: no container or allocator object changes its
pool (`d` keeps its own, `c` too), and whatever `d` frees, reuses and allocates touches only the pool `d`'s allocator
pointed to before and only `d`'s blocks; ledger entries of every other pool — `c`'s included, unless they share — are
untouched. -/
theorem C20_copy_assign_keeps_pools (ops : List COp) (hok0 : (crun CSys.init ops).sys.err = none) (d c : Nat) (acts : List Act)
    (hok : (cstep (crun CSys.init ops) (.copyAssign d c acts)).sys.err = none) :
    ∃ de ∈ (crun CSys.init ops).ents, de.eid = d ∧ (∃ ce ∈ (crun CSys.init ops).ents, ce.eid = c) ∧
      (cstep (crun CSys.init ops) (.copyAssign d c acts)).ents = (crun CSys.init ops).ents ∧
      Frame d de.pid (crun CSys.init ops) (cstep (crun CSys.init ops) (.copyAssign d c acts)) :=
  copyAssign_spec (crun_cinv cinv_init ops hok0) hok0 (cstep_outcome hok0 _) hok

/-- **C20 swap, POCS = true.**  After any history, `d.swap(c)` of any two live containers is defined — whether or not their
allocators are equal (with `is_always_equal = false` and POCS = false, unequal allocators would be undefined behaviour;
what the swap does is `C20_swap_carries_pool`). -/
theorem C20_swap_defined_for_unequal_allocators (ops : List COp) (hok0 : (crun CSys.init ops).sys.err = none)
    {de ce : Ent} (hde : de ∈ (crun CSys.init ops).ents) (hce : ce ∈ (crun CSys.init ops).ents) :
    (cstep (crun CSys.init ops) (.swap de.eid ce.eid)).sys.err = none :=
  swap_any_pools_succeeds (crun_cinv cinv_init ops hok0) hok0 hde hce

/-- **C20 move assignment, POCMA = true.**  After any history, `d = std::move(c)` of any two different live containers —
equal allocators or not — needs no allocation: once `d` has freed what it held, handing over `c`'s allocator succeeds (the
old pool dies if `d` was its last owner; what the assignment does is `C20_move_assign_carries_pool`). -/
theorem C20_move_assign_defined_for_unequal_allocators (ops : List COp) (hok0 : (crun CSys.init ops).sys.err = none)
    {de ce : Ent} (hde : de ∈ (crun CSys.init ops).ents) (hce : ce ∈ (crun CSys.init ops).ents) (hne : de.eid ≠ ce.eid)
    (hnone : ownsNone (crun CSys.init ops) de.eid = true) :
    (cstep (crun CSys.init ops) (.moveAssign de.eid ce.eid [])).sys.err = none :=
  moveAssign_any_pools_succeeds (crun_cinv cinv_init ops hok0) hok0 hde hce hne hnone

/-! ## allocator objects shared by containers of the same node type (the positive side of F13) -/

/-- **C20 same_node_type_sharing.**  Container histories — with faults — in which every successful single-object request
is for value types with one and the same pool parameters `κ0` (several `std::list<int>`, say, constructed from one
allocator object, from each other's `get_allocator()`, copied, moved, swapped, spliced, assigned in any order; arrays
of any type are unrestricted): no `allocate(1)` is ever served from the memory manager, no provenance error is ever
recorded, and the container-level invariant holds.  (F13 needs two node types on one pool.) -/
theorem C20_same_node_type_sharing (κ0 : Cls) (ops : List FCOp) (h : ∀ op ∈ ops, ∀ c ∈ op.singleCls, c = κ0) :
    (fcrun CSys.init ops).sys.rawSingle = false ∧
    (((fcrun CSys.init ops).sys.err = none ∧ CInv (fcrun CSys.init ops)) ∨
      (fcrun CSys.init ops).sys.err = some .illegal) :=
  have hrs := fcrun_oneNodeType (busyParams_init _) rfl ops h
  ⟨hrs, fcrun_err cinv_init rfl ops hrs⟩

/-- the same for histories without faults (`crun`) -/
theorem C20_same_node_type_sharing_no_faults (κ0 : Cls) (ops : List COp) (h : ∀ op ∈ ops, ∀ c ∈ op.singleCls, c = κ0) :
    (crun CSys.init ops).sys.rawSingle = false ∧
    (((crun CSys.init ops).sys.err = none ∧ CInv (crun CSys.init ops)) ∨
      (crun CSys.init ops).sys.err = some .illegal) := by
  have := C20_same_node_type_sharing κ0 (ops.map .ok) (by
    intro op hop c hc
    obtain ⟨o, ho, rfl⟩ := List.mem_map.mp hop
    exact h o ho c hc)
  rw [fcrun_ok] at this
  exact this

/-- **C20 shared_pool_splice_migrates.**  In every state such a history reaches: `d.splice(…, c, …)` / `merge` / node
hand-over between two containers that share a pool (equal allocators) is legal; the allocator-level state is unchanged;
the nodes named, held by `c`, are now held by `d`; every other block keeps its holder; and `d` can free each migrated
node through its own allocator — it goes back into the pool it came from. -/
theorem C20_shared_pool_splice_migrates (κ0 : Cls) (ops : List FCOp) (h : ∀ op ∈ ops, ∀ c ∈ op.singleCls, c = κ0)
    (hok : (fcrun CSys.init ops).sys.err = none) {de ce : Ent} (hde : de ∈ (fcrun CSys.init ops).ents)
    (hce : ce ∈ (fcrun CSys.init ops).ents) (hp : de.pid = ce.pid) (ids : List Nat) :
    let cs := fcrun CSys.init ops
    let cs' := cstep cs (.splice de.eid ce.eid ids)
    cs'.sys = cs.sys ∧ cs'.ents = cs.ents ∧
    (∀ b ∈ cs.sys.blocks, b.id ∈ ids → cs.own b.id = ce.eid →
      cs'.own b.id = de.eid ∧ ∀ frees, (actStep de.eid de.pid cs' (.free b.id frees)).sys.err = none) ∧
    (∀ i, ¬ (i ∈ ids ∧ cs.own i = ce.eid) → cs'.own i = cs.own i) :=
  splice_spec (fcrun_cinv cinv_init ops hok) hok (fcrun_oneNodeType (busyParams_init _) rfl ops h) hde hce hp ids

/-! ## non-vacuity of the sections on faults, routing and sharing -/

/-- list-like scenario with faults: allocator object 0, lists 1 and 2 sharing its pool, a `push_back` that throws on the
idle pool (re-parameterised, nothing else), inserts, an insert that throws while the pool is busy (nothing changes), a
splice from 1 to 2, a copy construction that throws after two nodes (pool 1 is born and dies), one that throws inside
select_on_container_copy_construction, destruction of everything -/
def demoFault : List FCOp :=
  [.ok (.newAlloc 0 (8, 4) 900), .ok (.newFrom 1 0), .ok (.newFrom 2 0),
   .mutateF 1 [.allocFail (24, 8) 1],
   .mutateF 1 [.ok (.alloc (24, 8) 1 10 [500]), .ok (.alloc (24, 8) 1 11 [])],
   .mutateF 2 [.ok (.alloc (24, 8) 1 12 []), .allocFail (24, 8) 1],
   .ok (.splice 2 1 [10]),
   .copyConstructF 3 2 (24, 8) 901 [.ok (.alloc (24, 8) 1 20 [600]), .ok (.alloc (24, 8) 1 21 []), .allocFail (24, 8) 1,
      .ok (.free 21 []), .ok (.free 20 [600])],
   .newAllocFail 4 (24, 8), .copyConstructNewFail 4 2 (24, 8),
   .ok (.destroy 2 [.free 10 [], .free 12 []]), .ok (.destroy 1 [.free 11 [500]]), .ok (.destroy 0 [])]

example : (fcrun CSys.init demoFault).sys.err = none := by decide +kernel
example : (fcrun CSys.init demoFault).ents = [] ∧ (fcrun CSys.init demoFault).sys.base = [] := by decide +kernel
example : ∀ op ∈ demoFault, ∀ c ∈ op.singleCls, c = (24, 8) := by decide +kernel
/-- after the failed `push_back` on the idle pool: parameters of the list node, count 0, three owners, only the control block -/
example : (fcrun CSys.init (demoFault.take 4)).sys = ⟨[⟨(24, 8), 0, 3, false⟩], [], [⟨900, 0, .cb⟩], false, none⟩ := by decide +kernel
/-- the failed copy construction leaves pool 1 dead and everything of pool 0 as it was -/
example : ((fcrun CSys.init (demoFault.take 8)).sys.pools.map (·.dead)) = [false, true] ∧
    (fcrun CSys.init (demoFault.take 8)).sys.base = (fcrun CSys.init (demoFault.take 7)).sys.base ∧
    (fcrun CSys.init (demoFault.take 8)).sys.blocks = (fcrun CSys.init (demoFault.take 7)).sys.blocks := by decide +kernel
/-- the F13 history with failing requests in front: same error, the faults change nothing -/
example : (frun Sys.init f13f).err = (run Sys.init f13).err := by decide +kernel
example : FOneTypePerPool (fun _ => (24, 8)) [.ok (.anew (8, 4) 1), .allocFail 0 (40, 8) 1, .ok (.alloc 0 (24, 8) 1 5 [9]),
    .allocFail 0 (40, 8) 1, .allocFail 0 (24, 8) 1, .ok (.dealloc 0 (24, 8) 1 5 [9])] := by
  intro op hop
  simp only [List.mem_cons, List.not_mem_nil, or_false] at hop
  rcases hop with rfl | rfl | rfl | rfl | rfl | rfl <;> simp
/-- value types: `int`-sized (4/4) and 8/4 share pool parameters for `N > 1`; an over-aligned 64/32 type is (64, 16) -/
example : paramsOf 32 16 4 4 = paramsOf 32 16 8 4 ∧ paramsOf 32 16 64 32 = (64, 16) ∧ paramsOf 1 16 4 4 ≠ paramsOf 1 16 8 4 := by decide +kernel
example : CppType 16 64 32 := ⟨by decide, ⟨2, rfl⟩, by decide, Or.inr ⟨2, rfl⟩⟩

end Momo.PoolAlloc
