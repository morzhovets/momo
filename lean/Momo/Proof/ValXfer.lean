import Momo.Proof.ValOps
/-!
  Value-semantics model (C14), composite facts used by the property theorems: independence of untouched objects over whole
  histories, the element-wise transfer between unequal managers (`pvCreate…(std::move(right), alloc)`), the destructor
  of one object seen from another, and `RebuildOk` for the copy layouts of the driven containers.
-/
namespace Momo.Val

/-- events that construct an element from another one -/
def isXfer : Ev → Bool
  | .move _ => true
  | .copy _ => true
  | _ => false

theorem filter_isXfer_xferEvs (k : Kind) (xs : List Elem) : (xferEvs k xs).filter isXfer = xferEvs k xs := by
  apply List.filter_eq_self.mpr
  intro ev hev
  obtain ⟨e, _, rfl⟩ := List.mem_map.mp hev
  split <;> rfl

theorem filter_isXfer_alloc (m : Mgr) (hs : List Nat) : (hs.map (Ev.alloc m)).filter isXfer = [] := by
  apply List.filter_eq_nil_iff.mpr; intro ev hev; obtain ⟨h, _, rfl⟩ := List.mem_map.mp hev; simp [isXfer]

theorem filter_isXfer_free (m : Mgr) (hs : List Nat) : (hs.map (Ev.free m)).filter isXfer = [] := by
  apply List.filter_eq_nil_iff.mpr; intro ev hev; obtain ⟨h, _, rfl⟩ := List.mem_map.mp hev; simp [isXfer]

theorem filter_isXfer_destroyEvs (k : Kind) (xs : List Elem) : (destroyEvs k xs).filter isXfer = [] := by
  apply List.filter_eq_nil_iff.mpr; intro ev hev; obtain ⟨e, rfl⟩ := mem_destroyEvs hev; simp [isXfer]

theorem allocOf_some {w : World} {i : Nat} {m : Mgr} (h : allocOf w i = some m) : ∃ s, w.objs i = some s ∧ s.mgr = some m := by
  unfold allocOf at h
  cases hs : w.objs i with
  | none => simp [hs] at h
  | some s => exact ⟨s, rfl, by simpa [hs] using h⟩

theorem untouched_runOps (cfg : Cfg) {w w' : World} (wf : WF w) (ops : List Op) (h : runOps cfg w ops = some w')
    (x : Nat) (c : Cont) (hx : ∀ op ∈ ops, x ∉ op.writes cfg) (hc : w.objs x = some c) :
    w'.objs x = some c ∧ contents w'.heap c = contents w.heap c ∧ layout w'.heap c = layout w.heap c := by
  obtain ⟨_, f⟩ := runOps_sound cfg wf ops h
  have hx' : x ∉ ops.flatMap (Op.writes cfg) := by
    intro hm
    obtain ⟨op, hop, hxo⟩ := List.mem_flatMap.mp hm
    exact hx op hop hxo
  obtain ⟨e, g⟩ := f x hx'
  exact ⟨e.trans hc, (contents_agree (g c hc)).1, (contents_agree (g c hc)).2⟩

theorem runOps_single {cfg : Cfg} {w w1 : World} {evs : List Ev} {op : Op} (h : step cfg w op = some (w1, evs)) :
    runOps cfg w [op] = some w1 := by
  simp [runOps, h]

theorem new_spec {k : Kind} {w wA : World} {j : Nat} {a : Mgr} {eA : List Ev} (h : (Prim.new j a).exec k w = some (wA, eA)) :
    w.objs j = none ∧ ∃ t0 : Cont, wA.objs = upd w.objs j (some t0) ∧ t0.mgr = some a ∧ t0.body = [] ∧ t0.inl = [] ∧
      t0.aux.length = k.auxCount ∧ (∀ h ∈ t0.aux, w.heap.next ≤ h) ∧ w.heap.next ≤ wA.heap.next ∧
      eA = t0.aux.map (Ev.alloc a) := by
  obtain ⟨hj, rfl, rfl⟩ := Exec.of_exec h
  refine ⟨hj, _, rfl, rfl, rfl, rfl, by simp [allocCells_fst], fun h hh => (mem_allocCells_fst.mp hh).1, ?_, rfl⟩
  show w.heap.next ≤ (allocCells a _ w.heap).2.next
  rw [allocCells_next]; exact Nat.le_add_right _ _

theorem setLayout_fresh_inv {k : Kind} {wA wB : World} {j : Nat} {inl : List Elem} {cells : List (List Elem)} {cap : Nat}
    {src : Option Nat} {eB : List Ev} {c : Cont} {m : Mgr} (hj : wA.objs j = some c) (hm : c.mgr = some m) (hb : c.body = [])
    (h : (Prim.setLayout j inl cells cap src).exec k wA = some (wB, eB)) :
    ∃ t : Cont, wB.objs = upd wA.objs j (some t) ∧ t.mgr = some m ∧ t.aux = c.aux ∧
      contents wB.heap t = inl ++ cells.flatten ∧ (∀ h ∈ t.body, wA.heap.next ≤ h) ∧
      eB = srcXfer k wA src ++ t.body.map (Ev.alloc m) := by
  obtain ⟨c', m', hc', hm', _, rfl, rfl⟩ := Exec.of_exec h
  rw [hj] at hc'; cases hc'
  rw [hm] at hm'; cases hm'
  refine ⟨_, rfl, hm, rfl, ?_, ?_, ?_⟩
  · exact contents_of_alloc _ _ _ _ _ _ _
  · intro h hh
    have := (mem_allocCells_fst.mp hh).1
    simpa [hb, freeCells_nil] using this
  · simp [hb]

/-- what `pvCreate…(std::move(right), alloc)` does when `alloc` differs from the allocator of `right` -/
theorem xferUnequal_spec (k : Kind) {w w1 : World} {evs : List Ev} (wf : WF w) (j i : Nat) (a ai : Mgr) (lay : Lay) (keep : Nat)
    (ci : Cont) (hi : w.objs i = some ci) (hm : ci.mgr = some ai)
    (h : run k w [.new j a, .setLayout j lay.inl lay.cells lay.cap (some i), .clear i keep] = some (w1, evs)) :
    WF w1 ∧ w.objs j = none ∧ i ≠ j ∧
    (∃ t, w1.objs j = some t ∧ t.mgr = some a ∧ usable k t = true ∧
        contents w1.heap t = lay.inl ++ lay.cells.flatten ∧ (∀ h ∈ t.owned, w.heap.next ≤ h)) ∧
    (∃ ci', w1.objs i = some ci' ∧ ci'.mgr = some ai ∧ ci'.aux = ci.aux ∧ ci'.body = ci.body.take keep ∧
        contents w1.heap ci' = []) ∧
    (∀ x, x ≠ i → x ≠ j → w1.objs x = w.objs x) ∧
    (∀ x c, x ≠ i → x ≠ j → w.objs x = some c → contents w1.heap c = contents w.heap c) ∧
    evs.filter isXfer = xferEvs k (contents w.heap ci) ∧
    Trace k (fun m h => m = a ∧ w.heap.next ≤ h) (fun m h => m = ai ∧ h ∈ ci.body) evs := by
  obtain ⟨wfF, fF, _, _⟩ := run_effect k wf _ h
  obtain ⟨wA, eA, e', hA, h', rfl⟩ := run_cons_inv h
  obtain ⟨wB, eB, eC, hB, hC, rfl⟩ := run_cons_inv h'
  rw [run_single] at hC
  obtain ⟨wfA, fA, _, _⟩ := prim_effect k wf _ hA
  obtain ⟨hj, t0, hoA, ht0m, ht0b, _, ht0a, ht0f, hnA, rfl⟩ := new_spec hA
  have hij := ne_of_live_dead hi hj
  have hji : j ≠ i := fun e => hij e.symm
  have hAj : wA.objs j = some t0 := by rw [hoA]; exact upd_same _ _ _
  have hAi : wA.objs i = some ci := by rw [hoA]; exact (upd_other _ _ hij).trans hi
  obtain ⟨t, hoB, htm, hta, htc, htf, rfl⟩ := setLayout_fresh_inv hAj ht0m ht0b hB
  have hBi : wB.objs i = some ci := by rw [hoB]; exact (upd_other _ _ hij).trans hAi
  have hBj : wB.objs j = some t := by rw [hoB]; exact upd_same _ _ _
  have fC := (prim_effect k (prim_effect k wfA _ hB).wf _ hC).frame
  obtain ⟨c', hc, hC⟩ := Exec.of_exec hC
  cases hBi.symm.trans hc
  obtain ⟨hn, _⟩ | ⟨m', hm', rfl, rfl⟩ := hC
  · cases hm.symm.trans hn
  cases hm.symm.trans hm'
  have hciA : contents wA.heap ci = contents w.heap ci :=
    (fA.contents (x := i) (by simpa [Prim.writes] using hij) hi).2
  have htfresh : ∀ h ∈ t.owned, w.heap.next ≤ h := by
    intro h hh
    rcases List.mem_append.mp hh with hh | hh
    · exact ht0f h (hta ▸ hh)
    · exact Nat.le_trans hnA (htf h hh)
  have hsx : srcXfer k wA (some i) = xferEvs k (contents w.heap ci) := by
    simp only [srcXfer, hAi]; rw [hciA]
  refine ⟨wfF, hj, hij, ?_, ?_, ?_, ?_, ?_, ?_⟩
  · refine ⟨t, (upd_other _ _ hji).trans hBj, htm, by simp [usable, htm, hta, ht0a], ?_, htfresh⟩
    rw [(fC.contents (x := j) (fun h => hji (List.mem_singleton.mp h)) hBj).2, htc]
  · refine ⟨{ ci with inl := [], body := ci.body.take keep, cap := if ci.body.take keep = [] then 0 else ci.cap },
      upd_same _ _ _, hm, rfl, rfl, ?_⟩
    exact contents_cleared (wf.body_nodup hi) keep _
  · intro x hxi hxj; simp [upd, hxi, hxj, hoB, hoA]
  · intro x c hxi hxj hc
    have hx : x ∉ writesAll [Prim.new j a, Prim.setLayout j lay.inl lay.cells lay.cap (some i), Prim.clear i keep] := by
      simp [writesAll, Prim.writes, hxi, hxj]
    exact (fF.contents hx hc).2
  · simp only [List.filter_append, filter_isXfer_alloc, filter_isXfer_free, filter_isXfer_destroyEvs, hsx,
      filter_isXfer_xferEvs, List.nil_append, List.append_nil]
  · exact (Trace.allocs fun x hx => ⟨rfl, ht0f x hx⟩).append
      (((Trace.xfers _ _).append (.allocs fun x hx => ⟨rfl, htfresh x (List.mem_append.mpr (.inr hx))⟩)).append
      ((Trace.destroys _).append (.frees fun x hx => ⟨rfl, List.mem_of_mem_drop hx⟩)))

theorem destroy_other (cfg : Cfg) {w : World} (wf : WF w) (x y : Nat) (hxy : x ≠ y) (c d : Cont) (m : Mgr)
    (hx : w.objs x = some c) (hm : c.mgr = some m) (hy : w.objs y = some d) :
    ∃ w2 e2, step cfg w (.destroy x) = some (w2, e2) ∧ w2.objs x = none ∧ w2.objs y = some d ∧
      contents w2.heap d = contents w.heap d ∧ WF w2 := by
  have hr : step cfg w (.destroy x) = some (⟨freeCells c.owned w.heap, upd w.objs x none⟩,
      destroyEvs cfg.k (contents w.heap c) ++ c.owned.map (Ev.free m)) := by
    simp only [step, expand, run_single]; exact Exec.exec ⟨c, hx, rfl, .inr ⟨m, hm, rfl⟩⟩
  obtain ⟨wf2, f2, _, _⟩ := step_effect cfg wf _ hr
  obtain ⟨e, c2⟩ := f2.contents (x := y) (fun h => hxy (List.mem_singleton.mp h).symm) hy
  exact ⟨_, _, hr, upd_same _ _ _, e, c2, wf2⟩

theorem chunk_flatten (sizes : Nat → Nat) : ∀ (fuel seg : Nat) (xs : List Elem), xs.length < fuel →
    (chunk sizes fuel seg xs).flatten = xs
  | 0, _, xs, h => absurd h (Nat.not_lt_zero _)
  | fuel + 1, seg, xs, h => by
    unfold chunk
    cases xs with
    | nil => simp
    | cons x r =>
      have hn : 1 ≤ max 1 (sizes seg) := Nat.le_max_left _ _
      simp only [List.isEmpty_cons, Bool.false_eq_true, if_false, List.flatten_cons]
      rw [chunk_flatten sizes fuel (seg + 1) _ (by
        simp only [List.length_drop, List.length_cons] at h ⊢; omega)]
      exact List.take_append_drop _ _

theorem rebuildOk_one (k : Kind) (h : k.rebuild = rebuildOne) : RebuildOk k := by
  intro ls; simp [h, rebuildOne]
theorem rebuildOk_same (k : Kind) (h : k.rebuild = rebuildSame) : RebuildOk k := by
  intro ls; simp [h, rebuildSame]
theorem rebuildOk_seg (k : Kind) (sizes : Nat → Nat) (h : k.rebuild = rebuildSeg sizes) : RebuildOk k := by
  intro ls
  simp only [h, rebuildSeg, List.flatten_cons, List.nil_append]
  exact chunk_flatten sizes _ 0 _ (Nat.lt_succ_self _)

end Momo.Val
