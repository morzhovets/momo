import Momo.Proof.OpenBytes
/-!
  `BucketOpen8::Find` (model `Momo.OpenB`). The 64-bit SWAR expression of HashBucketOpen8.h is evaluated lane by lane for every 8-byte
  word and every short-hash byte (`swar_lanes`, `swarMask_eq`): the borrow of `x - 0x01…01` runs through a matching lane, so a lane is
  flagged iff it matches, or it differs in bit 0 only and the lane below is flagged (`swarFlag`). The candidate loops (`ctz`,
  `mask &= mask - 1`) of both variants enumerate the flagged lanes in ascending order (`ctz_low`, `clear_low`: the lowest set bit is
  found, then cleared). So the SSE2 variant visits exactly the candidates of the scalar loop; the SWAR variant visits a superset whose
  extra members are occupied slots that every key predicate rejects (`find8swar_eq_findN1`).
-/
namespace Momo.OpenB

def ofLanes : List Nat → Nat
  | [] => 0
  | x :: xs => x + 256 * ofLanes xs

def AllBytes (xs : List Nat) : Prop := ∀ x ∈ xs, x < 256

theorem allBytes_cons {x : Nat} {xs : List Nat} : AllBytes (x :: xs) ↔ x < 256 ∧ AllBytes xs := List.forall_mem_cons

theorem allBytes_replicate (n : Nat) {x : Nat} (hx : x < 256) : AllBytes (List.replicate n x) :=
  fun _ hz => List.eq_of_mem_replicate hz ▸ hx

theorem ofLanes_lt : ∀ (xs : List Nat), AllBytes xs → ofLanes xs < 256 ^ xs.length
  | [], _ => Nat.one_pos
  | x :: xs, h => by
    have ih := ofLanes_lt xs (allBytes_cons.mp h).2
    have hx := (allBytes_cons.mp h).1
    rw [ofLanes, List.length_cons, Nat.pow_succ']
    omega

theorem bitop_split {f : Nat → Nat → Nat} {n : Nat} (hm : ∀ a b, f a b % 2 ^ n = f (a % 2 ^ n) (b % 2 ^ n))
    (hd : ∀ a b, f a b / 2 ^ n = f (a / 2 ^ n) (b / 2 ^ n)) {u v : Nat} (U V : Nat) (hu : u < 2 ^ n) (hv : v < 2 ^ n) :
    f (u + 2 ^ n * U) (v + 2 ^ n * V) = f u v + 2 ^ n * f U V := by
  have em : ∀ {x : Nat} (X : Nat), x < 2 ^ n → (x + 2 ^ n * X) % 2 ^ n = x := fun X hx => by
    rw [Nat.add_mul_mod_self_left, Nat.mod_eq_of_lt hx]
  have ed : ∀ {x : Nat} (X : Nat), x < 2 ^ n → (x + 2 ^ n * X) / 2 ^ n = X := fun X hx => by
    rw [Nat.add_mul_div_left _ _ (Nat.two_pow_pos n), Nat.div_eq_of_lt hx, Nat.zero_add]
  rw [← Nat.mod_add_div (f _ _) (2 ^ n), hm, hd, em U hu, em V hv, ed U hu, ed V hv]

theorem and_split (n : Nat) {u v : Nat} (U V : Nat) (hu : u < 2 ^ n) (hv : v < 2 ^ n) :
    (u + 2 ^ n * U) &&& (v + 2 ^ n * V) = (u &&& v) + 2 ^ n * (U &&& V) :=
  bitop_split (f := fun a b => a &&& b) (fun _ _ => Nat.and_mod_two_pow) (fun _ _ => Nat.and_div_two_pow) U V hu hv

theorem and_lane (u U v V : Nat) (hu : u < 256) (hv : v < 256) :
    (u + 256 * U) &&& (v + 256 * V) = (u &&& v) + 256 * (U &&& V) := and_split 8 U V hu hv

theorem xor_lane (u U v V : Nat) (hu : u < 256) (hv : v < 256) :
    (u + 256 * U) ^^^ (v + 256 * V) = (u ^^^ v) + 256 * (U ^^^ V) :=
  bitop_split (n := 8) (f := fun a b => a ^^^ b) (fun _ _ => Nat.xor_mod_two_pow) (fun _ _ => Nat.xor_div_two_pow) U V hu hv

theorem xor_ofLanes : ∀ (xs ys : List Nat), xs.length = ys.length → AllBytes xs → AllBytes ys →
    ofLanes xs ^^^ ofLanes ys = ofLanes (List.zipWith (· ^^^ ·) xs ys)
  | [], [], _, _, _ => rfl
  | [], _ :: _, h, _, _ => by simp at h
  | _ :: _, [], h, _, _ => by simp at h
  | x :: xs, y :: ys, h, hx, hy => by
    rw [allBytes_cons] at hx hy
    rw [List.zipWith_cons_cons, ofLanes, ofLanes, ofLanes, xor_lane _ _ _ _ hx.1 hy.1,
      xor_ofLanes xs ys (Nat.succ.inj h) hx.2 hy.2]

/-- value of one lane of `(x - 0x01…01) & ~x & m` with borrow `bi` coming in -/
def lv (x bi m : Nat) : Nat := ((x + 256 - 1 - bi) % 256) &&& (255 - x) &&& m
/-- borrow out of a lane of `x - 0x01…01` -/
def bo (x bi : Nat) : Nat := if x < 1 + bi then 1 else 0

/-- the lanes the zero-byte test yields -/
def swarLanes : List Nat → List Nat → Nat → List Nat
  | x :: xs, m :: ms, bi => lv x bi m :: swarLanes xs ms (bo x bi)
  | _, _, _ => []

theorem bo_le (x bi : Nat) : bo x bi ≤ 1 := by unfold bo; split <;> omega

/-- a lane either wraps around (quotient 0) and borrows, or does neither -/
theorem bo_add (x bi : Nat) (hx : x < 256) : (x + 256 - 1 - bi) / 256 + bo x bi = 1 := by
  unfold bo; split <;> omega

theorem sub_lane (x X K P bi : Nat) (hx : x < 256) (hK : K < P) (hb : bi ≤ 1) :
    (x + 256 * X + 256 * P - (1 + 256 * K) - bi) % (256 * P)
      = (x + 256 - 1 - bi) % 256 + 256 * ((X + P - K - bo x bi) % P) := by
  obtain ⟨G, rfl⟩ := Nat.exists_eq_add_of_lt hK
  have e : x + 256 * X + 256 * (K + G + 1) - (1 + 256 * K) - bi = (x + 256 - 1 - bi) + 256 * (X + G) := by omega
  have h := bo_add x bi hx
  have h' : (x + 256 - 1 - bi) / 256 + (X + G) = X + (K + G + 1) - K - bo x bi := by omega
  rw [Nat.mod_mul, e, Nat.add_mul_mod_self_left, Nat.add_mul_div_left _ _ (by decide), h']

theorem compl_lane (x X P : Nat) (hx : x < 256) (hX : X < P) :
    256 * P - 1 - (x + 256 * X) = (255 - x) + 256 * (P - 1 - X) := by omega

/-- **the subtraction / complement / mask expression, lane by lane** (n lanes, borrow `bi` into lane 0) -/
theorem swar_lanes : ∀ (xs ms : List Nat) (bi : Nat), xs.length = ms.length → AllBytes xs → AllBytes ms → bi ≤ 1 →
    ((ofLanes xs + 256 ^ xs.length - ofLanes (List.replicate xs.length 1) - bi) % 256 ^ xs.length)
      &&& (256 ^ xs.length - 1 - ofLanes xs) &&& ofLanes ms = ofLanes (swarLanes xs ms bi)
  | [], [], bi, _, _, _, _ => by simp [ofLanes, swarLanes, Nat.mod_one]
  | [], _ :: _, _, h, _, _, _ => by simp at h
  | _ :: _, [], _, h, _, _, _ => by simp at h
  | x :: xs, m :: ms, bi, h, hx, hm, hb => by
    rw [allBytes_cons] at hx hm
    have hX := ofLanes_lt xs hx.2
    have hK := ofLanes_lt _ (allBytes_replicate xs.length (show 1 < 256 by decide))
    rw [List.length_replicate] at hK
    have hl : (x + 256 - 1 - bi) % 256 &&& (255 - x) < 256 := Nat.lt_of_le_of_lt Nat.and_le_right (by omega)
    rw [List.length_cons, List.replicate_succ, ofLanes, ofLanes, ofLanes, swarLanes, ofLanes, Nat.pow_succ',
      sub_lane x _ _ _ bi hx.1 hK hb, compl_lane x _ _ hx.1 hX,
      and_lane _ _ _ _ (Nat.mod_lt _ (by decide)) (by omega), and_lane _ _ _ _ hl hm.1,
      swar_lanes xs ms (bo x bi) (Nat.succ.inj h) hx.2 hm.2 (bo_le x bi)]
    rfl

def b2n (f : Bool) : Nat := if f then 1 else 0

/-- a lane value above 255 has complement 0 and no borrow, so `x` needs no bound -/
theorem lv_128 (x : Nat) (f : Bool) : lv x (b2n f) 128 = 128 * bo x (b2n f) := by
  by_cases hx : x < 256
  · have sweep : ∀ x, x < 256 → ∀ f : Bool, lv x (b2n f) 128 = 128 * bo x (b2n f) := by
      unfold lv bo b2n; decide +kernel
    exact sweep x hx f
  · have hf : b2n f ≤ 1 := by cases f <;> decide
    have h0 : 255 - x = 0 := by omega
    rw [lv, h0, Nat.and_zero, Nat.zero_and, bo, if_neg (by omega)]

theorem lv_0 (x bi : Nat) : lv x bi 0 = 0 := by unfold lv; exact Nat.and_zero _

theorem xor_cancel (a b : Nat) : (a ^^^ b) ^^^ b = a := by
  rw [Nat.xor_assoc, Nat.xor_self, Nat.xor_zero]

theorem xor_beq (a b c : Nat) : (a ^^^ b == c) = (a == c ^^^ b) := by
  by_cases h : a = c ^^^ b
  · rw [h, xor_cancel, beq_self_eq_true, beq_self_eq_true]
  · have : a ^^^ b ≠ c := fun e => h (by rw [← e, xor_cancel])
    rw [beq_eq_false_iff_ne.mpr this, beq_eq_false_iff_ne.mpr h]

/-- borrow out of a lane of the xor word = "the lane is flagged" -/
theorem bo_flag (sh d : Nat) (f : Bool) :
    bo (sh ^^^ d) (b2n f) = b2n ((d == sh) || ((d == sh ^^^ 1) && f)) := by
  -- with `x = d ^^^ sh`: `d == sh` iff `x == 0`, `d == sh ^^^ 1` iff `x == 1`; and a lane `x` borrows iff `x < 1 + borrow-in`
  rw [Nat.xor_comm sh d, ← Nat.zero_xor sh, ← xor_beq, Nat.zero_xor, Nat.xor_comm sh 1, ← xor_beq]
  generalize d ^^^ sh = x
  unfold bo b2n
  cases f <;> simp <;> split <;> split <;> first | rfl | omega

/-- lane `j` of the SWAR mask is flagged iff its byte equals the short hash, or it equals `shortHash ^ 1` and lane `j - 1` is
    flagged (the borrow of the 64-bit subtraction runs through a matching lane into a lane that differs in bit 0 only) -/
def swarFlag (sh : Nat) (d : Nat → Nat) : Nat → Bool
  | 0 => d 0 == sh
  | j+1 => (d (j+1) == sh) || ((d (j+1) == sh ^^^ 1) && swarFlag sh d j)

theorem allBytes_xor : ∀ (xs ys : List Nat), AllBytes xs → AllBytes ys → AllBytes (List.zipWith (· ^^^ ·) xs ys)
  | x :: xs, y :: ys, hx, hy => by
    rw [allBytes_cons] at hx hy
    exact allBytes_cons.mpr ⟨Nat.xor_lt_two_pow (n := 8) hx.1 hy.1, allBytes_xor xs ys hx.2 hy.2⟩
  | [], _, _, _ => fun _ h => nomatch h
  | _ :: _, [], _, _ => fun _ h => nomatch h

theorem word8_eq (d : Nat → Nat) : word8 d = ofLanes ((List.range 8).map d) := rfl

theorem broadcast_eq (sh : Nat) (hsh : sh < 256) :
    (sh * Extracted.open8SwarOnes) % 2 ^ 64 = ofLanes (List.replicate 8 sh) := by
  simp only [Extracted.open8SwarOnes, List.replicate, ofLanes]
  omega

/-- **the 64-bit SWAR expression of `BucketOpen8::Find`, for every 8-byte word and every short hash byte**:
    its value is exactly bit `8j + 7` for every flagged lane `j < 7` (lane 7, the max-probe byte, is masked out) -/
theorem swarMask_eq (sh : Nat) (hsh : sh < 256) (d : Nat → Nat) (hd : ∀ j, j < 8 → d j < 256) :
    swarMask sh (word8 d) =
      ofLanes [128 * b2n (swarFlag sh d 0), 128 * b2n (swarFlag sh d 1), 128 * b2n (swarFlag sh d 2),
               128 * b2n (swarFlag sh d 3), 128 * b2n (swarFlag sh d 4), 128 * b2n (swarFlag sh d 5),
               128 * b2n (swarFlag sh d 6), 0] := by
  have hds : AllBytes ((List.range 8).map d) := fun x hx => by
    obtain ⟨j, hj, rfl⟩ := List.mem_map.mp hx
    exact hd j (List.mem_range.mp hj)
  have hss : AllBytes (List.replicate 8 sh) := allBytes_replicate 8 hsh
  have hm : AllBytes [128, 128, 128, 128, 128, 128, 128, 0] := by unfold AllBytes; decide
  have hl := swar_lanes (List.zipWith (· ^^^ ·) (List.replicate 8 sh) ((List.range 8).map d))
    [128, 128, 128, 128, 128, 128, 128, 0] 0 rfl (allBytes_xor _ _ hss hds) hm (by decide)
  have hlen : (List.zipWith (· ^^^ ·) (List.replicate 8 sh) ((List.range 8).map d)).length = 8 := rfl
  rw [hlen, Nat.sub_zero] at hl
  have e1 : Extracted.open8SwarOnesSub = ofLanes (List.replicate 8 1) := by decide
  have e2 : Extracted.open8SwarHigh = ofLanes [128, 128, 128, 128, 128, 128, 128, 0] := by decide
  have e3 : (2 : Nat) ^ 64 = 256 ^ 8 := by decide
  rw [swarMask, broadcast_eq sh hsh, word8_eq, xor_ofLanes (List.replicate 8 sh) ((List.range 8).map d) rfl hss hds,
    e1, e2, e3, hl]
  -- the borrow out of lane `j` is the flag of lane `j`
  have l0 : lv (sh ^^^ d 0) 0 128 = 128 * bo (sh ^^^ d 0) 0 := lv_128 _ false
  have f0 : bo (sh ^^^ d 0) 0 = b2n (swarFlag sh d 0) := by
    rw [← show b2n false = 0 from rfl, bo_flag, Bool.and_false, Bool.or_false]; rfl
  have fs : ∀ j, bo (sh ^^^ d (j+1)) (b2n (swarFlag sh d j)) = b2n (swarFlag sh d (j+1)) := fun j => bo_flag _ _ _
  show ofLanes [lv (sh ^^^ d 0) 0 128, _, _, _, _, _, _, _] = _
  simp only [l0, lv_128, f0, fs, lv_0]

theorem swarLoop_eq (pred : Nat → Bool) : ∀ fuel mask, swarLoop pred fuel mask = (swarPositions fuel mask).find? pred
  | 0, _ => rfl
  | n+1, mask => by
    rw [swarLoop, swarPositions]
    by_cases h0 : mask = 0
    · rw [if_pos h0, if_pos h0]; rfl
    · rw [if_neg h0, if_neg h0, List.find?_cons, swarLoop_eq pred n]
      cases pred (ctz 64 mask >>> Extracted.open8SwarIndexShift) <;> rfl

theorem sseLoop_eq (pred : Nat → Bool) : ∀ fuel mask, sseLoop pred fuel mask = (ssePositions fuel mask).find? pred
  | 0, _ => rfl
  | n+1, mask => by
    rw [sseLoop, ssePositions]
    by_cases h0 : mask = 0
    · rw [if_pos h0, if_pos h0]; rfl
    · rw [if_neg h0, if_neg h0, List.find?_cons, sseLoop_eq pred n]
      cases pred (ctz 32 mask) <;> rfl

theorem ctz_low : ∀ (fuel k r : Nat), k < fuel → ctz fuel (2 ^ k * (2 * r + 1)) = k
  | 0, _, _, h => absurd h (Nat.not_lt_zero _)
  | fuel+1, 0, r, _ => by rw [ctz, Nat.pow_zero, Nat.one_mul, if_pos (by omega)]
  | fuel+1, k+1, r, h => by
    rw [ctz, Nat.pow_succ, Nat.mul_right_comm, if_neg (by omega), Nat.mul_div_cancel _ (by decide),
      ctz_low fuel k r (by omega), Nat.add_comm]

/-- `mask & (mask - 1)` clears the lowest set bit -/
theorem clear_low (k r : Nat) : (2 ^ k * (2 * r + 1)) &&& (2 ^ k * (2 * r + 1) - 1) = 2 ^ (k + 1) * r := by
  have hp := Nat.two_pow_pos k
  have e : 2 ^ k * (2 * r + 1) - 1 = (2 ^ k - 1) + 2 ^ k * (2 * r) := by rw [Nat.mul_succ]; omega
  have h1 := and_split 1 (u := 1) (v := 0) r r (by decide) (by decide)
  rw [Nat.pow_one, Nat.and_zero, Nat.zero_add, Nat.zero_add, Nat.and_self, Nat.add_comm 1] at h1
  rw [e, ← Nat.zero_add (2 ^ k * (2 * r + 1)), and_split k _ _ hp (by omega), h1, Nat.zero_and, Nat.zero_add, Nat.pow_succ,
    Nat.mul_assoc]

theorem low_ne_zero (k r : Nat) : 2 ^ k * (2 * r + 1) ≠ 0 :=
  Nat.mul_ne_zero (Nat.ne_of_gt (Nat.two_pow_pos k)) (Nat.succ_ne_zero _)

/-- **the `ctz(mask) >> 3`, `mask &= mask - 1` loop enumerates the flagged lanes in ascending order**: lanes `k .. k+n-1`, flagged by `p`;
    the mask is an odd multiple of `2^(8k+7)` at the lowest flagged lane `k` -/
theorem swarPositions_lanes (p : Nat → Bool) : ∀ (n fuel k : Nat), n ≤ fuel → k + n ≤ 8 →
    swarPositions fuel (2 ^ (8 * k) * ofLanes ((List.range' k n).map (fun j => 128 * b2n (p j)))) = (List.range' k n).filter p
  | 0, fuel, _, _, _ => by cases fuel <;> rfl
  | n+1, fuel, k, hf, hk => by
    rw [List.range'_succ, List.map_cons, ofLanes, List.filter_cons]
    have e8 : ∀ R, 2 ^ (8 * k) * (256 * R) = 2 ^ (8 * (k + 1)) * R := fun R => by
      rw [Nat.mul_add, Nat.pow_add, Nat.mul_assoc]
    cases hp : p k with
    | false =>
      rw [if_neg Bool.false_ne_true, show 128 * b2n false = 0 from rfl, Nat.zero_add, e8]
      exact swarPositions_lanes p n fuel (k + 1) (by omega) (by omega)
    | true =>
      obtain ⟨fuel, rfl⟩ : ∃ f, fuel = f + 1 := ⟨fuel - 1, by omega⟩
      have e : ∀ R, 2 ^ (8 * k) * (128 * b2n true + 256 * R) = 2 ^ (8 * k + 7) * (2 * R + 1) := fun R => by
        rw [Nat.pow_add, Nat.mul_assoc]; congr 1; show 128 * 1 + _ = _; omega
      have e' : ∀ R, 2 ^ (8 * k + 7 + 1) * R = 2 ^ (8 * (k + 1)) * R := fun R => rfl
      rw [if_pos rfl, e, swarPositions, if_neg (low_ne_zero _ _), clear_low, ctz_low 64 _ _ (by omega), e',
        swarPositions_lanes p n fuel (k + 1) (by omega) (by omega)]
      congr 1
      show (8 * k + 7) >>> 3 = k
      rw [Nat.shiftRight_eq_div_pow]; omega

def bits : List Bool → Nat
  | [] => 0
  | b :: bs => b2n b + 2 * bits bs

/-- the same for the SSE2 variant: `ctz(mask)`, `mask &= mask - 1` on the movemask (bits `k .. k+n-1` given by `p`) -/
theorem ssePositions_bits (p : Nat → Bool) : ∀ (n fuel k : Nat), n ≤ fuel → k + n ≤ 32 →
    ssePositions fuel (2 ^ k * bits ((List.range' k n).map p)) = (List.range' k n).filter p
  | 0, fuel, _, _, _ => by cases fuel <;> rfl
  | n+1, fuel, k, hf, hk => by
    rw [List.range'_succ, List.map_cons, bits, List.filter_cons]
    cases hp : p k with
    | false =>
      rw [if_neg Bool.false_ne_true, show b2n false = 0 from rfl, Nat.zero_add, ← Nat.mul_assoc, ← Nat.pow_succ]
      exact ssePositions_bits p n fuel (k + 1) (by omega) (by omega)
    | true =>
      obtain ⟨fuel, rfl⟩ : ∃ f, fuel = f + 1 := ⟨fuel - 1, by omega⟩
      rw [if_pos rfl, show b2n true = 1 from rfl, Nat.add_comm 1, ssePositions, if_neg (low_ne_zero _ _), clear_low,
        ctz_low 32 k _ (by omega), ssePositions_bits p n fuel (k + 1) (by omega) (by omega)]

/-- the table of `pvCountTrailingZeros15` is count-trailing-zeros on its whole domain -/
theorem ctzTab15_eq : ∀ m, m < 128 → 0 < m → ctzTab15 m = ctz 32 m := by decide +kernel

theorem calcShortHash_lt256 (h : Nat) : calcShortHash h < 256 := by
  unfold calcShortHash u8; exact Nat.mod_lt _ (by decide)

theorem swarPositions_mask (b : Bucket) (h : Nat) (hd : ∀ j, j < 8 → b.data j < 256) :
    swarPositions 64 (swarMask (calcShortHash h) (word8 b.data)) = (List.range 7).filter (swarFlag (calcShortHash h) b.data) := by
  have hl := swarPositions_lanes (swarFlag (calcShortHash h) b.data) 7 64 0 (by decide) (by decide)
  rw [Nat.mul_zero, Nat.pow_zero, Nat.one_mul, ← List.range_eq_range'] at hl
  rw [swarMask_eq _ (calcShortHash_lt256 h) _ hd]
  -- lane 7 of the mask is 0: the same number as the seven lanes of `hl`
  exact hl

theorem find8swar_eq (b : Bucket) (h : Nat) (pred : Nat → Bool) (hd : ∀ j, j < 8 → b.data j < 256) :
    b.find8swar h pred = ((List.range 7).filter (swarFlag (calcShortHash h) b.data)).find? pred := by
  unfold Bucket.find8swar
  rw [swarLoop_eq, swarPositions_mask b h hd]

theorem sseMask_eq (sh : Nat) (d : Nat → Nat) : sseMask sh d = bits ((List.range 7).map (fun j => d j == sh)) := by
  have hb : ∀ (c : Bool) (k : Nat), (if c = true then k else 0) = k * b2n c := by
    intro c k; cases c <;> simp [b2n]
  have hle : ∀ c : Bool, b2n c ≤ 1 := by decide
  have h0 := hle (d 0 == sh); have h1 := hle (d 1 == sh); have h2 := hle (d 2 == sh); have h3 := hle (d 3 == sh)
  have h4 := hle (d 4 == sh); have h5 := hle (d 5 == sh); have h6 := hle (d 6 == sh)
  show _ = b2n (d 0 == sh) + 2 * (b2n (d 1 == sh) + 2 * (b2n (d 2 == sh) + 2 * (b2n (d 3 == sh) + 2 * (b2n (d 4 == sh)
    + 2 * (b2n (d 5 == sh) + 2 * (b2n (d 6 == sh) + 2 * 0))))))
  rw [sseMask, Nat.and_two_pow_sub_one_eq_mod]
  simp only [List.range, List.range.loop, List.foldr, hb, Extracted.open8MaxCount, Nat.reduceLT, if_true, if_false,
    Nat.reducePow]
  -- bits 7 .. 15 of the movemask are multiples of 128
  omega

theorem ssePositions_mask (b : Bucket) (h : Nat) :
    ssePositions 32 (sseMask (calcShortHash h) b.data) = candsN1 b.data (calcShortHash h) 7 := by
  have hl := ssePositions_bits (fun j => b.data j == calcShortHash h) 7 32 0 (by decide) (by decide)
  rw [Nat.pow_zero, Nat.one_mul, ← List.range_eq_range'] at hl
  rw [sseMask_eq]
  exact hl

theorem find8sse_eq (b : Bucket) (h : Nat) (pred : Nat → Bool) :
    b.find8sse h pred = (candsN1 b.data (calcShortHash h) 7).find? pred := by
  unfold Bucket.find8sse
  rw [sseLoop_eq, ssePositions_mask]

theorem exact_imp_flag (sh : Nat) (d : Nat → Nat) (j : Nat) (h : (d j == sh) = true) : swarFlag sh d j = true := by
  cases j with
  | zero => exact h
  | succ k => simp [swarFlag, h]

theorem flag_imp_eq_or_xor1 (sh : Nat) (d : Nat → Nat) (j : Nat) (h : swarFlag sh d j = true) : d j = sh ∨ d j = sh ^^^ 1 := by
  cases j with
  | zero => left; simpa [swarFlag] using h
  | succ k =>
    simp only [swarFlag, Bool.or_eq_true, Bool.and_eq_true, beq_iff_eq] at h
    rcases h with h | h
    · exact Or.inl h
    · exact Or.inr h.1

/-- a false candidate needs a flagged lane right below it: the lowest flagged lane always is an exact match -/
theorem flag_first_exact (sh : Nat) (d : Nat → Nat) (j : Nat) (h : swarFlag sh d j = true)
    (hlow : ∀ i, i < j → swarFlag sh d i = false) : d j = sh := by
  cases j with
  | zero => simpa [swarFlag] using h
  | succ k =>
    simp only [swarFlag, Bool.or_eq_true, Bool.and_eq_true, beq_iff_eq] at h
    rcases h with h | h
    · exact h
    · rw [hlow k (by omega)] at h; cases h.2

theorem flag_false_positive (sh : Nat) (d : Nat → Nat) (k : Nat) (hne : d (k+1) ≠ sh) :
    swarFlag sh d (k+1) = ((d (k+1) == sh ^^^ 1) && swarFlag sh d k) := by
  simp [swarFlag, hne]

theorem cands7_eq_filter (sh : Nat) (d : Nat → Nat) :
    candsN1 d sh 7 = ((List.range 7).filter (swarFlag sh d)).filter (fun j => d j == sh) := by
  unfold candsN1
  rw [List.filter_filter]
  apply List.filter_congr
  intro j _
  cases hj : (d j == sh) with
  | false => simp
  | true => simp [exact_imp_flag sh d j hj]

theorem xor1_lt : ∀ s, s < 248 → s ^^^ 1 < 248 := by decide +kernel

section open8
variable {b : Bucket} {hs : List Nat}

theorem inv_data_lt (hI : b.Inv hs) (j : Nat) (hj : j < b.maxCount) : b.data j < 256 := by
  have h8 := hI.maxCount_lt
  rw [hI.data j hj]
  unfold expByte
  simp only [Extracted.openN1MaxCountLimit, emptyShortHash, Extracted.openN1EmptyShortHash] at h8 ⊢
  split
  · exact calcShortHash_lt256 _
  · split <;> omega

/-- an unoccupied lane holds 248 .. 254; the short hash and its bit-0 neighbour are below 248 -/
theorem flag_occupied (hI : b.Inv hs) (h : Nat) (hh : h < 2 ^ 64) (j : Nat) (hj : j < b.maxCount)
    (hf : swarFlag (calcShortHash h) b.data j = true) : phys b.maxCount b.reverse j < hs.length := by
  have hlt := calcShortHash_lt h hh
  have hx := xor1_lt _ hlt
  have hd := hI.data j hj
  unfold expByte at hd
  rcases flag_imp_eq_or_xor1 _ _ _ hf with e | e <;>
  · rw [e] at hd
    simp only [emptyShortHash, Extracted.openN1EmptyShortHash] at hd hlt
    by_cases c : phys b.maxCount b.reverse j < hs.length
    · exact c
    · rw [if_neg c] at hd
      split at hd <;> omega

/-- any key predicate rejects the false candidates of the SWAR mask: equal keys have equal hash codes, so it holds only on
    slots whose short-hash byte matches (`hcons`) -/
theorem find8swar_eq_findN1 (hmc : b.maxCount = 7) (hbytes : ∀ j, j < 8 → b.data j < 256) (h : Nat) (pred : Nat → Bool)
    (hcons : ∀ j, j < 7 → pred j = true → (b.data j == calcShortHash h) = true) :
    b.find8swar h pred = b.findN1 h pred := by
  rw [find8swar_eq b h pred hbytes, findN1_eq, hmc, cands7_eq_filter]
  symm
  apply ListFacts.find?_filter_of_imp
  intro x hx hp
  rw [List.mem_filter, List.mem_range] at hx
  exact hcons x hx.1 hp

end open8

end Momo.OpenB
