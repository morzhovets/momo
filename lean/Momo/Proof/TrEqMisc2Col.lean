import Momo.Translated.Misc
import Momo.Proof.Word64
import Momo.Proof.ColumnsGraph
/-!
  C18: `DataColumnTraits::GetVertices`, `UIntMath::Ceil` and the offset arithmetic of `DataColumnList::pvAddEdges /
  pvFillAddends / pvAdd / pvGetOffset` as translated from DataColumn.h / Utility.h (area Misc,
  lean/Momo/Translated/Misc.lean) are the model functions of `Momo/Model/Columns.lean`
  (`getVertices`, `ceil`, the step of `newEdges`, `H`, `mutBytes`, `add64`, `Cfg.maxColumns`).
-/
namespace Momo.TrEq
open Momo Momo.Seg

/-- `UIntMath<>::Ceil(value, mod)`; `hw` holds for the offsets and alignments of a row -/
theorem tr_um_ceil (v m : Nat) (hm : 0 < m) (hw : v + m < 2 ^ 64) : Tr.um_Ceil v m = Col.ceil v m :=
  ceil64 hm hw

/-- `GetVertices(columnCode, codeParam)` for `logVertexCount = c.L < 64`, `sizeof(ColumnCode) = c.codeBytes`, any 64-bit code -/
theorem tr_getVertices (c : Col.Cfg) (code param : Nat) (hL : c.L < 64) (hcode : code < 2 ^ 64) :
    Tr.col_GetVertices c.L c.codeBytes code param = Col.getVertices c code param := by
  unfold Tr.col_GetVertices Col.getVertices Col.vertex1 Col.vertex2raw Col.shortCode
  simp only [mask_eq hL, add64, w64_eq, Col.W, Nat.mod_eq_of_lt hcode, Extracted.colWideCodeBytes, Extracted.colShortShiftHi,
    Extracted.colShortShiftMid, Extracted.colShortLogLim, Extracted.colShortShiftLo, Extracted.colParamShift, Extracted.colParamMask,
    decide_eq_true_eq, gt_iff_lt]

theorem tr_maxColumnCount (c : Col.Cfg) (h1 : 1 ≤ c.L) (hL : c.L ≤ 64) : Tr.col_maxColumnCount c.L = c.maxColumns := by
  unfold Tr.col_maxColumnCount Col.Cfg.maxColumns
  simp only [Extracted.colMaxColumnLogSub]
  rw [sub64_of_le h1, shl64_one (by omega)]

theorem tr_addEdges_align (al off : Nat) (hal : 0 < al) (hw : off + al < 2 ^ 64) :
    Tr.col_addEdges_align al off = Col.ceil off al := by
  unfold Tr.col_addEdges_align
  exact tr_um_ceil off al hal hw

theorem tr_addEdges_advance (size al off mal : Nat) (hw : off + size < 2 ^ 64) :
    Tr.col_addEdges_advance size al off mal = (off + size, max mal al) := by
  unfold Tr.col_addEdges_advance
  simp only [add64_of_lt hw, decide_eq_true_eq, ite_lt_eq_max]
  rw [Nat.max_comm]

theorem tr_rootAddend : Tr.col_rootAddend = Col.H := by decide

theorem tr_mutBytes (off : Nat) (hw : off + 7 < 2 ^ 64) : Tr.col_mutBytes off = Col.mutBytes off := by
  unfold Tr.col_mutBytes Col.mutBytes
  simp only [Extracted.colMutRound, Extracted.colMutDiv]
  rw [add64_of_lt hw]

/-- `return addend1 + addend2;` of `pvGetOffset`: `size_t` addition that wraps, exactly the model's `add64` -/
theorem tr_getOffset_sum (a1 a2 : Nat) : Tr.col_pvGetOffset_sum a1 a2 = Col.add64 a1 a2 := by
  unfold Tr.col_pvGetOffset_sum Col.add64 add64
  rw [w64_eq]

/-- one step of `pvAddEdges<void, Item, Items...>` (model `Col.newEdges`) written with the translated code: the edge value
    is the translated `offset = Ceil(offset, alignment)`, the vertices the translated `GetVertices`, the next offset and
    maximal alignment the translated `offset += size; maxAlignment = minmax(...).second`. -/
theorem newEdges_translated (c : Col.Cfg) (param : Nat) (it : Col.Item) (its : List Col.Item) (g : Col.Adj) (off al : Nat)
    (hL : c.L < 64) (hcode : it.code < 2 ^ 64) (hal : 0 < it.align) (hw : off + it.align + it.size < 2 ^ 64) :
    Col.newEdges c param (it :: its) g off al =
      Col.newEdges c param its
        (Col.addEdges g (Tr.col_GetVertices c.L c.codeBytes it.code param).1 (Tr.col_GetVertices c.L c.codeBytes it.code param).2
          (Tr.col_addEdges_align it.align off))
        (Tr.col_addEdges_advance it.size it.align (Tr.col_addEdges_align it.align off) al).1
        (Tr.col_addEdges_advance it.size it.align (Tr.col_addEdges_align it.align off) al).2 := by
  have h1 := Col.ceil_lt off it.align hal
  rw [tr_getVertices c it.code param hL hcode, tr_addEdges_align it.align off hal (Nat.lt_of_add_right_lt hw),
    tr_addEdges_advance it.size it.align _ al (Nat.lt_trans (Nat.add_lt_add_right h1 _) hw)]
  rfl

/-- `pvGetOffset(columnCode)` (model `Col.getOffsetWith`) written with the translated `GetVertices` and the translated sum -/
theorem getOffsetWith_translated (c : Col.Cfg) (param : Nat) (a : Array Nat) (code : Nat) (hL : c.L < 64) (hcode : code < 2 ^ 64) :
    Col.getOffsetWith c param a code =
      Tr.col_pvGetOffset_sum (a.getD (Tr.col_GetVertices c.L c.codeBytes code param).1 0)
        (a.getD (Tr.col_GetVertices c.L c.codeBytes code param).2 0) := by
  rw [tr_getVertices c code param hL hcode, tr_getOffset_sum]
  rfl

end Momo.TrEq
