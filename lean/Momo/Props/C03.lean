import Momo.Proof.LedgerOnce
import Momo.Proof.LedgerObj
import Momo.Proof.ObjMain
import Momo.Proof.LedgerPool
import Momo.Proof.LedgerVal
import Momo.Proof.PoolHist
import Momo.Proof.HTLedgerCons
import Momo.Proof.MMLedgerSys
/-!
# C03 — Every byte and every element is released exactly once, never touched after

The property speaks about what a container does to the memory manager and to its element objects — a list of
events (`Momo.Ledger.Ev`: alloc / dealloc with manager class and size, construct / destroy / relocate / use of an
element, touch of a block). This file states

1. what C03 demands of such a list, on the list itself (`Disciplined`, `NothingLeft` — Proof/Ledger.lean), and that the
   executable monitor `Ledger.run` (the judge of every harness history) accepts exactly the disciplined lists and ends
   clean exactly when nothing is left: the monitor is sound and complete;
2. what discipline means event by event, by positions and by counting: each block given back exactly once, with its
   size, through an equal manager, nothing touched outside live blocks, each element destroyed exactly once, never
   used afterwards;
3. that the event traces PRODUCED by the container-level models are disciplined for every history and fault schedule
   they quantify over (`C03_obj_…`, `C03_pool_…`, `C03_val_…`), and that the ledger layers over the hash-table and the multimap
   model keep the monitor on their books through every history (`C03_hash_…`, `C03_multimap_…`).

`C03_full` is the whole-library claim; it is not provable here (it quantifies over the C++ containers); the theorems of
item 3 are the parts of it that are proved. Memory safety proper — no read or write outside live blocks by
the container's own code — is visible to the ledger only through `touch` events of element objects; beyond that it is
run-time evidence (ASan/UBSan on every harness), never a theorem.
-/
namespace Momo.Ledger

variable {β : Type} [DecidableEq β]

/-- **C03 at full strength** for a family of observed histories: every event list a momo container can produce
(`Produces tr`: `tr` is the complete list of manager calls and element life-cycle events of some history of operations,
exceptions included, up to and including the destruction of the containers) is disciplined and leaves nothing behind.
The theorems below discharge this for the traces of the models; for the real containers the verified monitor checks it
history by history at run time. -/
def C03_full (Produces : List (Ev β) → Prop) : Prop :=
  ∀ tr, Produces tr → Disciplined tr ∧ NothingLeft tr

/-! ## 1. the monitor is the specification -/

/-- **Soundness of the monitor.** If the monitor accepts a history, every event in it is admissible where it stands:
no block is handed out while live, each `dealloc` names a block that is outstanding *with that manager class and that
size*, each construction happens where no object lives, each destruction / use / relocation concerns a living object,
each touch lies inside a live block. -/
theorem C03_monitor_sound (tr : List (Ev β)) (s : St β) (h : run St.init tr = some s) : Disciplined tr :=
  disciplined_of_run h

/-- **Completeness of the monitor.** A history with those properties is accepted: the monitor raises no false alarm. -/
theorem C03_monitor_complete (tr : List (Ev β)) (h : Disciplined tr) : ∃ s, run St.init tr = some s :=
  run_of_disciplined h

/-- the monitor's verdict "accepted and clean" is exactly "disciplined and nothing left" -/
theorem C03_balanced_iff (tr : List (Ev β)) : balanced tr = true ↔ Disciplined tr ∧ NothingLeft tr := by
  unfold balanced
  constructor
  · intro h
    cases hr : run St.init tr with
    | none => rw [hr] at h; cases h
    | some s => rw [hr] at h; exact ⟨disciplined_of_run hr, (clean_iff_nothingLeft hr).mp h⟩
  · rintro ⟨hd, hn⟩
    obtain ⟨s, hr⟩ := run_of_disciplined hd
    rw [hr]; exact (clean_iff_nothingLeft hr).mpr hn

/-- "Clearing with shrink and destruction leave zero outstanding blocks and zero live elements": the numbers the
monitor prints at the end of a history are zero iff no block is open and no element alive after the trace. -/
theorem C03_outstanding_zero_iff (tr : List (Ev β)) (s : St β) (h : run St.init tr = some s) :
    s.outstanding = (0, 0) ↔ NothingLeft tr := by
  rw [← clean_iff_nothingLeft h]
  unfold St.outstanding St.clean
  cases s.blocks <;> cases s.elems <;> simp

/-! ## 2. what an accepted, clean history looks like -/

/-- **Every block is given back exactly once, with the size it was requested with, through an equal manager.**
After any `alloc m b n` the next event that concerns the life of block `b` is `dealloc m b n` — same manager class,
same size; nothing in between allocates or frees `b`. -/
theorem C03_block_released_once (tr pre post : List (Ev β)) (s : St β) (b : β) (m n : Nat)
    (h : run St.init tr = some s) (hclean : s.clean = true) (htr : tr = pre ++ .alloc m b n :: post) :
    ∃ mid post', post = mid ++ .dealloc m b n :: post' ∧ ∀ ev ∈ mid, ev.lifeB b = false :=
  released_once (disciplined_of_run h) (((clean_iff_nothingLeft h).mp hclean).1 b) htr

/-- … and conversely every `dealloc m b n` answers an earlier `alloc m b n` of the same block that has not been
answered yet (no double free, no free of a foreign block, no wrong size, no unequal manager). -/
theorem C03_dealloc_matches_alloc (tr pre post : List (Ev β)) (s : St β) (b : β) (m n : Nat)
    (h : run St.init tr = some s) (htr : tr = pre ++ .dealloc m b n :: post) :
    ∃ p1 p2, pre = p1 ++ .alloc m b n :: p2 ∧ ∀ ev ∈ p2, ev.lifeB b = false :=
  dealloc_matches (disciplined_of_run h) htr

/-- counting form: as many `dealloc`s as `alloc`s of every block — with fresh block ids (each id allocated once, as the
harness numbers them) exactly one `dealloc` per block. -/
theorem C03_block_counts (tr : List (Ev β)) (s : St β) (b : β) (h : run St.init tr = some s) (hclean : s.clean = true) :
    deallocs b tr = allocs b tr := by
  have := count_blocks b tr St.init s h
  unfold St.clean at hclean
  simp only [Bool.and_eq_true, List.isEmpty_iff] at hclean
  simp [openCount, St.init, findB, hclean.1] at this
  omega

/-- **No memory is touched outside live blocks** (as far as events report it): every `touch b off len` falls between
the `alloc` of `b` and its `dealloc`, inside the requested size. -/
theorem C03_touch_inside_live (tr pre post : List (Ev β)) (s : St β) (b : β) (off len : Nat)
    (h : run St.init tr = some s) (htr : tr = pre ++ .touch b off len :: post) :
    ∃ m n p1 p2, pre = p1 ++ .alloc m b n :: p2 ∧ (∀ ev ∈ p2, ev.lifeB b = false) ∧ off + len ≤ n := by
  obtain ⟨m, n, ho, hle⟩ := disciplined_of_run h pre _ post htr
  obtain ⟨p1, p2, h1, h2⟩ := (openAs_iff_split b m n pre).mp ho
  exact ⟨m, n, p1, p2, h1, h2, hle⟩

/-- **Every element that is constructed is destroyed exactly once.** After any event that brings element `e` into
existence (a constructor, or a relocation to `e`) the next life-cycle event of `e` is its end: its destructor, or a
relocation away from it; no second construction, no second end in between. -/
theorem C03_element_ended_once (tr pre post : List (Ev β)) (s : St β) (e : Nat) (ev : Ev β)
    (h : run St.init tr = some s) (hclean : s.clean = true) (htr : tr = pre ++ ev :: post) (hb : ev.begins e = true) :
    ∃ mid x post', post = mid ++ x :: post' ∧ x.ends e = true ∧ x.begins e = false ∧ ∀ y ∈ mid, y.lifeE e = false :=
  ended_once (disciplined_of_run h) (((clean_iff_nothingLeft h).mp hclean).2 e) htr hb

/-- **… and is never used after destruction or relocation**: a `use e` that follows an end of `e` is separated from
it by a new beginning of `e`. -/
theorem C03_no_use_after_end (tr pre mid post : List (Ev β)) (s : St β) (e : Nat) (x : Ev β)
    (h : run St.init tr = some s) (htr : tr = pre ++ x :: (mid ++ .use e :: post)) (hx : x.ends e = true) :
    ∃ y ∈ mid, y.begins e = true :=
  no_use_after_end (disciplined_of_run h) htr hx

/-- every use, destruction and relocation concerns an element that is alive at that moment: the last life-cycle event
before it is a beginning -/
theorem C03_use_alive (tr pre post : List (Ev β)) (s : St β) (e : Nat)
    (h : run St.init tr = some s) (htr : tr = pre ++ .use e :: post) :
    ∃ p1 ev p2, pre = p1 ++ ev :: p2 ∧ ev.begins e = true ∧ ev.ends e = false ∧ ∀ x ∈ p2, x.lifeE e = false :=
  (alive_iff_split e pre).mp (disciplined_of_run h pre _ post htr)

/-- counting form: every element ends as often as it begins -/
theorem C03_element_counts (tr : List (Ev β)) (s : St β) (e : Nat) (h : run St.init tr = some s) (hclean : s.clean = true) :
    ended e tr = begun e tr := by
  have := count_elems e tr St.init s h
  unfold St.clean at hclean
  simp only [Bool.and_eq_true, List.isEmpty_iff] at hclean
  simp [aliveCount, St.init, memE, hclean.2] at this
  omega

/-! ## 3. the traces of the models are disciplined -/

/-- **Object life-cycle model, `RelocateCreate`** (growth of buckets, nodes, arrays), for every relocation category,
every element count and every fault schedule: the construction / destruction trace recorded by the model is accepted
by the ledger monitor, and the elements alive afterwards are exactly the objects of the resulting memory — all sources
gone and all destinations alive on success, everything as before on failure (`C04_relocateCreate_strong/ok`). -/
theorem C03_obj_relocateCreate {occ0 : Nat → Bool} (c : Obj.Cat) (st : Obj.St) (src dst count newAddr v : Nat)
    (ht : Obj.TraceOK occ0 st) (pre : Obj.Pre st src dst count newAddr) (s : St Nat) (hs : Represents s occ0) :
    ∃ s', run s ((Obj.relocateCreate c st src dst count newAddr v).1.evs.map ofObj) = some s' ∧
      Represents s' (Obj.occOf (Obj.relocateCreate c st src dst count newAddr v).1.mem) :=
  let ⟨s', h1, _, h3⟩ := traceOK_accepted (Obj.relocateCreate_spec c st src dst count newAddr v ht pre).1 hs
  ⟨s', h1, h3⟩

/-- **`CopyExec`** (creation of a key together with its value), every fault schedule: accepted, and the live elements
are those of the resulting memory. -/
theorem C03_obj_copyExec {occ0 : Nat → Bool} (st : Obj.St) (src dst newAddr v : Nat) (ht : Obj.TraceOK occ0 st)
    (h1 : st.mem src ≠ .raw) (h2 : st.mem dst = .raw) (h3 : st.mem newAddr = .raw) (hne : newAddr ≠ dst)
    (s : St Nat) (hs : Represents s occ0) :
    ∃ s', run s ((Obj.copyExec st src dst newAddr v).1.evs.map ofObj) = some s' ∧
      Represents s' (Obj.occOf (Obj.copyExec st src dst newAddr v).1.mem) :=
  let ⟨s', h1, _, h3⟩ := traceOK_accepted (Obj.copyExec_spec st src dst newAddr v ht h1 h2 h3 hne).1 hs
  ⟨s', h1, h3⟩

/-- `Obj.replay` (the trace check `TraceOK` inside C04's object-level theorems) is the element part of the C03 monitor: the two
agree on every trace from every occupancy, so each `TraceOK` proved anywhere in the library is a C03 statement. -/
theorem C03_obj_replay_is_monitor (evs : List Obj.Ev) (occ : Nat → Bool) (s : St Nat) (hs : Represents s occ) :
    (Obj.replay occ evs).isSome = (run s (evs.map ofObj)).isSome := by
  have := replay_agrees evs occ s hs
  cases hr : Obj.replay occ evs with
  | none => rw [hr] at this; simp [this]
  | some occ' => rw [hr] at this; obtain ⟨s', h1, _⟩ := this; simp [h1]

/-- **MemPool, every legal history** (`Pool.Reach`: any sequence of `Allocate` - succeeding or refused by the manager -,
`Deallocate` of live blocks, `DeallocateIf`, `DeallocateAll`, `MergeFrom`; Props/C09.lean), `blockCount > 1`: the calls
made to the memory manager up to any point are accepted by the C03 monitor, and once `DeallocateAll` has run - at any
time - the history is balanced: every buffer obtained from the manager has been given back exactly once with the size
it was requested with (`C03_block_released_once` applies to it). Hypothesis `FreshMallocs`: the manager never answers
with an address that is still outstanding (its contract; not implied by `Pool.Contract`, which speaks about one
answer at a time). -/
theorem C03_pool_history_all_returned (m : Nat) (P : Pool.Params) (hL : P.Legal) (hN2 : 2 ≤ P.N) (p : Pool.Pool)
    (es : List Pool.Ev) (h : Pool.Reach P p es) :
    ∃ evs, Pool.deallocateAll P p = .ok () Pool.Pool.empty evs ∧
      (FreshMallocs [] (es ++ evs) → balanced ((es ++ evs).map (ofPool m)) = true) := by
  obtain ⟨_, _, _, ⟨evs, h1, h2⟩, _⟩ := h.history hL hN2
  exact ⟨evs, h1, fun hf => poolLedger_balanced m _ h2 hf⟩

/-- … and the destructor of a pool without live blocks leaves nothing outstanding either. -/
theorem C03_pool_destroy_all_returned (m : Nat) (P : Pool.Params) (hL : P.Legal) (hN2 : 2 ≤ P.N) (p : Pool.Pool)
    (es : List Pool.Ev) (h : Pool.Reach P p es) (hlive : p.live P = []) :
    ∃ evs, Pool.destroy P p = .ok () Pool.Pool.empty evs ∧
      (FreshMallocs [] (es ++ evs) → balanced ((es ++ evs).map (ofPool m)) = true) := by
  obtain ⟨_, _, _, _, hd⟩ := h.history hL hN2
  obtain ⟨evs, h1, h2⟩ := hd hlive
  exact ⟨evs, h1, fun hf => poolLedger_balanced m _ h2 hf⟩

/-- the pool's own multiset ledger (the one C09's theorems speak about) and the C03 monitor agree on every event list
that respects the manager's contract: whatever C09 proves exact is accepted here -/
theorem C03_pool_ledger_is_monitor (m : Nat) (evs : List Pool.Ev) (L' : List (Int × Int))
    (h : Pool.ledger [] evs = some L') (hf : FreshMallocs [] evs) :
    ∃ st, run St.init (evs.map (ofPool m)) = some st ∧ Holds m st L' := by
  obtain ⟨st, h1, h2, _, _⟩ := poolLedger_accepted m evs [] L' St.init h (by simp [NodupKeys]) hf
    (by intro a; simp [St.init, findB, lk])
  exact ⟨st, h1, h2⟩

/-- **Value-semantics model, every history** (`Momo.Val`, C14: constructors, copy / move construction and assignment,
Swap, Clear, destructors, mutations with any reported layout, the allocator-aware operations of the stdish wrappers, over
any number of objects and manager identities): the manager calls the model makes are accepted by the C03 monitor -
in particular every block goes back to the manager class that allocated it, whatever moves, swaps and assignments
happened in between - and the blocks outstanding in the monitor are exactly the cells of the model's heap. -/
theorem C03_val_history_accepted (cfg : Val.Cfg) (ops : List Val.Op) (w : Val.World) (evs : List Val.Ev)
    (h : runOpsEv cfg Val.World.init ops = some (w, evs)) :
    ∃ st, run St.init (blockEvs evs) = some st ∧ Sync st w.heap := by
  have hs0 : Sync (St.init : St Nat) Val.World.init.heap := by
    intro x; simp [St.init, findB, Val.World.init, Val.Heap.empty, Val.Heap.get, Val.lookupH]
  obtain ⟨st, h1, _, h3, _⟩ := runOps_sync cfg ops Val.WF.init h hs0
  exact ⟨st, h1, h3⟩

/-- **… and destruction leaves zero outstanding blocks**: any history of value operations after which every object has
been destroyed is balanced - each block the managers handed out was given back exactly once through an equal manager
(`C03_block_released_once`, `C03_block_counts` apply). -/
theorem C03_val_history_all_destroyed (cfg : Val.Cfg) (ops : List Val.Op) (w : Val.World) (evs : List Val.Ev)
    (h : runOpsEv cfg Val.World.init ops = some (w, evs)) (hdead : ∀ i, w.objs i = none) :
    balanced (blockEvs evs) = true :=
  runOps_all_destroyed_balanced cfg ops h hdead

/-! ## non-vacuity -/

/-- a history with two managers, a growth step with relocation, a copy, and complete release -/
def exTrace : List (Ev Nat) :=
  [.alloc 1 10 64, .construct 1, .touch 10 0 8, .construct 2, .touch 10 8 8,
   .alloc 1 11 128, .relocate 1 3, .relocate 2 4, .dealloc 1 10 64,
   .alloc 2 12 32, .use 3, .construct 5, .destroy 5, .dealloc 2 12 32,
   .destroy 3, .destroy 4, .dealloc 1 11 128]

example : balanced exTrace = true := by decide +kernel
example : Disciplined exTrace ∧ NothingLeft exTrace := (C03_balanced_iff exTrace).mp (by decide)
example : firstReject St.init [Ev.alloc 1 10 64, .dealloc 1 10 64, .dealloc 1 10 64] 0 = some (2, .deallocNotLive) := by decide +kernel
example : firstReject St.init [Ev.alloc 1 10 64, .dealloc 1 10 32] 0 = some (1, .deallocWrongSize) := by decide +kernel
example : firstReject St.init [Ev.alloc 1 10 64, .dealloc 2 10 64] 0 = some (1, .deallocWrongManager) := by decide +kernel
example : firstReject (β := Nat) St.init [.construct 1, .relocate 1 2, .use 1] 0 = some (2, .useNotLive) := by decide +kernel
example : firstReject (β := Nat) St.init [.construct 1, .destroy 1, .destroy 1] 0 = some (2, .destroyNotLive) := by decide +kernel
example : firstReject St.init [Ev.alloc 1 10 64, .dealloc 1 10 64, .touch 10 0 1] 0 = some (2, .touchDeadBlock) := by decide +kernel
example : firstReject St.init [Ev.alloc 1 10 64, .touch 10 60 8] 0 = some (1, .touchOutOfBounds) := by decide +kernel
-- a leak is accepted event by event but not clean
example : balanced [Ev.alloc 1 10 64, .construct 1, .destroy 1] = false := by decide +kernel
-- the object-model instance: `Obj.exMem` (the start memory of Props/C04.lean) is represented by a three-element state
example : Represents ({ elems := [100, 101, 102] } : St Nat) (Obj.occOf (fun a => if 100 ≤ a ∧ a < 103 then .live (1000 + (a - 100)) else .raw)) := by
  intro a
  simp only [memE, Obj.occOf]
  by_cases h0 : a = 100
  · subst h0; decide
  · by_cases h1 : a = 101
    · subst h1; decide
    · by_cases h2 : a = 102
      · subst h2; decide
      · have : ¬ (100 ≤ a ∧ a < 103) := by omega
        have e0 : ¬ 100 = a := fun h => h0 h.symm
        have e1 : ¬ 101 = a := fun h => h1 h.symm
        have e2 : ¬ 102 = a := fun h => h2 h.symm
        simp [this, e0, e1, e2]

-- a value-model history: two hash-set-like objects (crew block + one body block each) with managers 1 and 2, a move
-- assignment, a swap, destruction of both: accepted and balanced
def exValOps : List Val.Op :=
  [.new 0 1, .new 1 2, .mutate 0 [] [[1, 2, 3]] 0, .mutate 1 [] [[7]] 0, .copyCtor 2 0, .moveAssign 1 0,
   .swap 1 2, .destroy 0, .destroy 1, .destroy 2]
def exValCfg : Val.Cfg := { k := { crewPtr := true } }
example : ((runOpsEv exValCfg Val.World.init exValOps).map (fun r => balanced (blockEvs r.2))) = some true := by decide +kernel
example : balanced ([Pool.Ev.malloc 4096 264, .malloc 8192 264, .free 4096 264, .free 8192 264].map (ofPool 1)) = true := by decide +kernel
example : FreshMallocs [] [Pool.Ev.malloc 4096 264, .malloc 8192 264, .free 4096 264, .free 8192 264] := by
  simp [FreshMallocs]

end Momo.Ledger

/-!
# C03 for the hash family: `momo::HashSet` / `momo::HashMap` (model `Momo/Model/HTLedger.lean`)

The ledger layer over the hash-table model of C01 / C11: every operation of HashSet.h emits, in program order, the calls it
makes to the memory manager (bucket array of every generation, `BucketParams` block, crew block, pool buffers of the chained
bucket kinds) and the life-cycle events of its element objects (construction by the item creator, `ObjectRelocator::Relocate`
by category, `ObjectManager::Replace` / `ReplaceRelocate`, copies and their roll-back, destruction), under an explicit fault
record per operation (`Flt`: throwing hash / equality functor, refused bucket array / `BucketParams` / crew block, throwing
creator or copy, throwing assignment, the migration `pvRelocateItems` interrupted after ANY number of items with any number of
generations alive, a copy construction failing after any number of items) and arbitrary pool traffic (`PoolT`). The system
`Sys` is what the correspondence harness drives: two containers A and B and a node handle.

Quantifiers of this section: EVERY configuration `cfg` - every bucket description `cfg.sp` (no `SpecOK` needed for the ledger
theorems), relocation category, sizes, manager class -, every hash function `hf`, every history `ops : List OpT`, every fault
record and pool traffic inside it.
-/
namespace Momo.HTL
open Momo Momo.HT Momo.Ledger

/-- **C03, hash containers, every history under every fault schedule: the event list is disciplined and the ledger is exactly
what the containers own.** "Across any history of operations …, including operations that exit with an exception, every block
obtained from the … memory manager is given back exactly once, with the size it was requested with, through the same or an equal
manager … Every element object that is constructed is destroyed exactly once and is never used after destruction or
relocation." The verified monitor `Ledger.run` accepts the complete event list of the history (so by `C03_monitor_sound` it is
`Disciplined`: each `dealloc` answers an outstanding `alloc` of that block with the same size and manager class, nothing is
constructed over a live object, destroyed / used / relocated when not alive), and AT EVERY MOMENT what the monitor holds
(`Momo.HTL.Holds`, not the pool's `Momo.Ledger.Holds` above) is exactly what the books of A, B and the handle list - bucket arrays,
`BucketParams`, crew blocks, pool buffers; one element object per stored or extracted item: no leak while alive. -/
theorem C03_hash_history_ledger (cfg : Cfg) (hf : Nat → Nat) (ops : List OpT) :
    ∃ s, Ledger.run Ledger.St.init (run cfg hf (Sys.init cfg) ops).w.evs = some s ∧
      Holds s ((run cfg hf (Sys.init cfg) ops).blocks cfg) (run cfg hf (Sys.init cfg) ops).elems ∧
      Disciplined (run cfg hf (Sys.init cfg) ops).w.evs :=
  let ⟨s, h1, h2⟩ := (run_ok cfg hf ops _ (SysOK.init cfg)).led.acc
  ⟨s, h1, h2, disciplined_of_run h1⟩

/-- **… and destruction leaves nothing.** "… no later than the container's destruction … destruction leave[s] zero outstanding
blocks and zero live elements": after any history, once the handle, B and A are destroyed (`finish`: `~SetExtractedItem`,
`~HashSet` = `pvDestroy` + `~SetCrew`), the monitor's verdict on the whole event list is "accepted and clean" - by
`C03_balanced_iff` the list is disciplined and nothing is left; by `C03_block_released_once` / `C03_element_ended_once` every block
was given back exactly once with its size through its manager class and every element object ended exactly once. -/
theorem C03_hash_history_balanced (cfg : Cfg) (hf : Nat → Nat) (ops : List OpT) :
    Ledger.balanced (finish cfg (run cfg hf (Sys.init cfg) ops)).evs = true :=
  led_nil_balanced (finish_clean cfg _ (run_ok cfg hf ops _ (SysOK.init cfg)))

/-- **Clear with shrink leaves zero outstanding blocks and zero live elements** (of that container, besides the crew block that a
live container keeps until its destruction): after `Clear(true)` in any reachable state the books of A list no bucket array, no
`BucketParams`, no pool buffer and no element object - and the monitor holds exactly the books (`C03_hash_history_ledger`), so
everything else of A has been given back / destroyed. -/
theorem C03_hash_clear_shrink (cfg : Cfg) (hf : Nat → Nat) (ops : List OpT) :
    let s := run cfg hf (Sys.init cfg) (ops ++ [{ op := .clear true }])
    s.a.blocks cfg = (optL s.a.crew).map (fun b => (b, cfg.mgr, cfg.csz)) ∧ s.a.elems = [] ∧ s.a.t.gens = [] := by
  obtain ⟨t, ht, e⟩ := clearL_shrink cfg _ (run cfg hf (Sys.init cfg) ops).w (run_ok cfg hf ops _ (SysOK.init cfg)).a
  -- the books hold no `BucketParams` block any more, so the pool traffic that `stepT` books after the operation is empty
  simp only [run_append, run, stepT, step, e, poolTraffic, Option.isSome_none, Bool.and_false, Bool.false_eq_true, if_false]
  exact ⟨by simp [St.blocks_eq, optL], rfl, ht⟩

/-- **The books are the table** (`Consistent`, for both containers, in every reachable state): the table of the ledger layer is
the C01 / C11 table and satisfies their invariant `TableInv` (so every theorem of Props/C01.lean, Props/C11.lean applies: each key
found, traversed once, removable in every generation); the books hold exactly one element object per stored item - the same
keys -, exactly one bucket-array block of `pvGetBufferSize(logCount)` bytes per generation in the same order, and the
`BucketParams` block iff a table exists; hence the number of live element objects is the container's count. Together with
`C03_hash_history_ledger`: at every moment the monitor holds exactly what the TABLE STATE owns. Hypotheses: `SpecOK` (every bucket
kind of the library, `mkSpec_ok`) and `RunFits` - the side condition of the hash-table model's copy constructor that C01's own
history theorem carries (`C01_copy_fits`: it holds whenever the count does not exceed the capacity of `2^(logStart+63)` buckets). -/
theorem C03_hash_books_are_table (cfg : Cfg) (hf : Nat → Nat) (ok : SpecOK cfg.sp) (ops : List OpT)
    (hfit : RunFits cfg hf (Sys.init cfg) ops) :
    Consistent cfg hf (run cfg hf (Sys.init cfg) ops).a ∧ Consistent cfg hf (run cfg hf (Sys.init cfg) ops).b ∧
    (run cfg hf (Sys.init cfg) ops).a.elems.length = (run cfg hf (Sys.init cfg) ops).a.t.count ∧
    (run cfg hf (Sys.init cfg) ops).b.elems.length = (run cfg hf (Sys.init cfg) ops).b.t.count :=
  let ⟨ha, hb⟩ := run_cons cfg hf ok ops _ (SysCons.init cfg hf) hfit
  ⟨ha, hb, ha.count, hb.count⟩

/-! Non-vacuity: a LimP4-like table of copy-only items (the migration can be interrupted) whose history leaves THREE
generations alive (the migrations of two insertions and of a `Reserve` stopped after 0, 0 and 1 items), with a refused
bucket array, a throwing creator and a throwing hash functor on the way; a copy assignment failing after two items; an
extraction; then destruction. -/
def exCfg : Cfg :=
  { sp := { maxCount := 4, quad := false, fullFrom := 4, unlimited := false, bound := .none, cap := .base, baseShift := true,
            logStart := 1, nothrowReloc := false },
    cat := .copyOnly, assign := false,
    hdr := 24, bsz := 16, psz := 384, csz := 16, chained := true }
def exOps : List OpT :=
  [{ op := .ins false 1 10 {} }, { op := .ins false 2 20 {} }, { op := .ins false 3 30 { grow := true } },
   { op := .ins false 4 40 { create := true } }, { op := .ins false 4 40 {}, pa := { gets := [414] } },
   { op := .ins false 5 50 { mig := some 0 } }, { op := .ins false 6 60 { hashThrows := true } },
   { op := .ins false 6 60 { mig := some 0 } }, { op := .reserve 100 { mig := some 1 } },
   { op := .copyTo { copyStop := some 2 } }, { op := .ext 2 {} }, { op := .rem 5 { assignThrows := true } }]

/-- three generations: 64, 8 and 2 buckets, holding 1, 2 and 2 items (one was extracted into the handle) -/
example : (run exCfg id (Sys.init exCfg) exOps).a.t.gens.map (fun g => (g.L, genCount g)) = [(6, 1), (3, 2), (1, 2)] := by decide +kernel
/-- the books of A: crew, `BucketParams`, three bucket arrays of 24 + 16·2^L bytes, one pool buffer -/
example : ((run exCfg id (Sys.init exCfg) exOps).a.blocks exCfg).map (·.2.2) = [16, 384, 1048, 152, 56, 414] := by decide +kernel
/-- five element objects in A, none in B (the copy failed), one in the handle -/
example : ((run exCfg id (Sys.init exCfg) exOps).a.elems.length, (run exCfg id (Sys.init exCfg) exOps).b.elems.length,
    (run exCfg id (Sys.init exCfg) exOps).h.isSome) = (5, 0, true) := by decide +kernel
/-- the monitor has accepted all events of this history and holds the 7 blocks and 6 element objects of the books … -/
example : (Ledger.run Ledger.St.init (run exCfg id (Sys.init exCfg) exOps).w.evs).map (fun s => s.outstanding) = some (7, 6) := by
  decide +kernel
/-- … and after destruction nothing (`C03_hash_history_balanced`, here by evaluation) -/
example : Ledger.balanced (finish exCfg (run exCfg id (Sys.init exCfg) exOps)).evs = true := by decide +kernel
/-- the monitor is not vacuous on such traces: dropping the last event (the crew block of A is not given back) is a leak -/
example : Ledger.balanced (finish exCfg (run exCfg id (Sys.init exCfg) exOps)).evs.dropLast = false := by decide +kernel
example : RunFits exCfg id (Sys.init exCfg) exOps := by
  simp only [exOps, RunFits, OpFits, and_true, true_and]
  decide +kernel

theorem exCfg_ok : SpecOK exCfg.sp where
  maxPos := by decide
  fullLe := fun _ => by decide
  zeroUnl := fun h => by cases h
  capLe := fun _ L => by
    show 2 ^ L * 2 ≤ 2 ^ L * 4
    exact Nat.mul_le_mul_left _ (by decide)
  capMono := capacityOf_mono _ (fun _ _ h => by cases h)
/-- … so the three-generation state satisfies the invariant of C01 / C11 and its books are its table -/
example : Consistent exCfg id (run exCfg id (Sys.init exCfg) exOps).a :=
  (C03_hash_books_are_table exCfg id exCfg_ok exOps (by
    simp only [exOps, RunFits, OpFits, and_true, true_and]
    decide +kernel)).1

end Momo.HTL


/-!
## C03 for `momo::HashMultiMap`: the ledger of whole histories under every fault schedule

`Momo/Model/MMLedger.lean` is a ledger layer over the C08 model of the multimap: the key table is the ledger layer of the hash
family (`Momo.HTL`, above) used unchanged; next to every key the value array (`VArr` of the C08 model: none | fast pool k | heap
array of capacity c) carries its books - the value objects in storage order and the storage block of the heap `momo::Array`
(`capacity * sizeof(Value)` bytes); the container also holds the `ValueCrew::Data` block and the buffers of the value-array
pools (observed traffic, as in `HTL`; `Clear` / destruction / a failed copy return all of them).  Every operation - `Add(key,
value)`, `Add(keyIter, value)`, `InsertKey`, `Remove(keyIter, index)`, `Remove(pairFilter)`, `RemoveValues`, `RemoveKey`,
`ResetKey`, `Clear`, copy assignment, move assignment, `Swap`, the destructor - emits its manager calls and its key / value
object events in program order (order of allocation and release inside `ArrayBucket::AddBackCrt` / `RemoveBack` as listed in
the model's header), for an explicit fault record: functors, bucket array, `BucketParams`, crews, key copy (key table), refused
pool block, refused heap storage, throwing value creator / copy, refused `Array::Shrink`, throwing value assignment, a copy
stopping after any number of values / keys.  Universally quantified: configuration `cfg` (any key table description, relocation
categories of key and value, `maxFastCount`, sizes), hash function, history, fault records, pool traffic.
-/
namespace Momo.MML
open Momo Momo.HT Momo.Ledger Momo.HTL

/-- **C03, hash multimap, every history under every fault schedule: the event list is disciplined and the ledger is exactly what
the two containers own.** "Across any history of operations …, including operations that exit with an exception, every block
obtained from the … memory manager is given back exactly once, with the size it was requested with … Every element object that is
constructed is destroyed exactly once and is never used after destruction or relocation."  The verified monitor `Ledger.run`
accepts the complete event list (hence `Disciplined`), and AT EVERY MOMENT it holds (`Momo.HTL.Holds`) exactly the books of A and B:
bucket arrays, `BucketParams`, both crews, the heap array of every big value array with its byte size, pool buffers; one object per
stored key and per stored value. -/
theorem C03_multimap_history_ledger (cfg : Cfg) (hf : Nat → Nat) (ops : List OpT) :
    ∃ s, Ledger.run Ledger.St.init (run cfg hf (Sys.init cfg) ops).w.evs = some s ∧
      Holds s ((run cfg hf (Sys.init cfg) ops).blocks cfg) (run cfg hf (Sys.init cfg) ops).elems ∧
      Disciplined (run cfg hf (Sys.init cfg) ops).w.evs :=
  let ⟨s, h1, h2⟩ := (run_ok cfg hf ops _ (SysOK.init cfg)).led.acc
  ⟨s, h1, h2, disciplined_of_run h1⟩

/-- **… and destruction leaves nothing**: after any history, once B and A are destroyed (`~HashMultiMap`: `pvClearValueArrays`,
`ValueCrew::Destroy`, `~HashMap`), the monitor's verdict on the whole event list is "accepted and clean". -/
theorem C03_multimap_history_balanced (cfg : Cfg) (hf : Nat → Nat) (ops : List OpT) :
    Ledger.balanced (finish cfg (run cfg hf (Sys.init cfg) ops)).evs = true :=
  led_nil_balanced (finish_clean cfg _ (run_ok cfg hf ops _ (SysOK.init cfg)))

/-- **`Clear` leaves zero outstanding blocks and zero live elements** (of that container, besides the two crew blocks a live
container keeps until its destruction; `HashMultiMap::Clear` always shrinks the key table): in every reachable state the books of A
after `Clear()` list the key table's crew and the value crew and nothing else - no bucket array, no `BucketParams`, no heap array,
no pool buffer, no key and no value object - and the monitor holds exactly the books (`C03_multimap_history_ledger`). -/
theorem C03_multimap_clear (cfg : Cfg) (hf : Nat → Nat) (ops : List OpT) :
    (step cfg hf (run cfg hf (Sys.init cfg) ops) .clear).1.a.blocks cfg =
      (optL (run cfg hf (Sys.init cfg) ops).a.kt.crew).map (fun b => (b, cfg.h.mgr, cfg.h.csz)) ++
      (optL (run cfg hf (Sys.init cfg) ops).a.vcrew).map (fun b => (b, cfg.h.mgr, cfg.vsz)) ∧
    (step cfg hf (run cfg hf (Sys.init cfg) ops) .clear).1.a.elems = [] :=
  clearL_crews cfg _ _ (run_ok cfg hf ops _ (SysOK.init cfg)).a

/-- **one value array through every transition of `ArrayBucket::AddBackCrt`** (none -> fast -> bigger fast -> heap -> grown heap),
under every fault: a failure leaves the monitor holding exactly what it held (a heap storage obtained before a throwing creator
has been given back); a success leaves it holding the array's new heap block (if any) and new value objects, plus the frame. -/
theorem C03_multimap_array_add (cfg : Cfg) (b : VB) (v : Nat) (f : VFlt) (w : W) (FB : List Blk) (FE : List Nat)
    (h : Led w (hbk cfg b ++ FB) (b.objs ++ FE)) : VPost cfg b FB FE (vbAdd cfg b v f w) :=
  vbAdd_led cfg b v f w FB FE h

/-- **… and of `RemoveBack` / `Remove(iter)`** (fast: the last object is destroyed; heap: destroyed, then `Array::Shrink` allocates
the smaller storage, relocates, frees the old one - a refused allocation is swallowed; last value: `pvRemoveAll` destroys the
values and frees the heap storage). -/
theorem C03_multimap_array_remove (cfg : Cfg) (b : VB) (i : Nat) (f : VFlt) (w : W) (FB : List Blk) (FE : List Nat)
    (h : Led w (hbk cfg b ++ FB) (b.objs ++ FE)) : VPost cfg b FB FE (vbRemoveAt cfg b i f w) :=
  vbRemoveAt_led cfg b i f w FB FE h

/-! Non-vacuity: Open8-like key table, nothrow-move keys and values, `maxFastCount = 2`: key 1 gains five values (fast 1 -> fast
2 -> heap of capacity 4 -> grown heap), with a refused heap storage and a throwing creator on the way; a second key; a copy
assignment that fails at the second key; removals that shrink and finally release the heap array; destruction. -/
def exCfg : Cfg :=
  { h := { sp := { maxCount := 7, quad := true, fullFrom := 7, unlimited := false, bound := .none, cap := .base, baseShift := true,
                   logStart := 1, nothrowReloc := true },
           cat := .nmove, hdr := 24, bsz := 120, psz := 8, csz := 16 },
    mf := 2, vcat := .nmove, isz := 8, vsz := 200 }
def exOps : List OpT :=
  [{ op := .add false 1 0 10 {}, pa := { gets := [414] } }, { op := .add false 1 0 11 {} },
   { op := .add false 1 0 12 { v := { heap := true } } }, { op := .add false 1 0 12 { v := { create := true } } },
   { op := .add false 1 0 12 {} }, { op := .add false 1 0 13 {} }, { op := .add false 1 0 14 {} },
   { op := .add false 2 0 20 { k := { create := true } } }, { op := .add false 2 0 20 {} },
   { op := .copyTo {} (fun n => if n = 1 then { v := { create := true } } else {}) }, { op := .copyTo {} (fun _ => {}) },
   { op := .removeValue 1 0 {} }]

/-- key 1 holds four values in a heap array of capacity 8 (64 bytes); B is a copy made while key 1 held five values (heap storage of 5 · 8 = 40 bytes) -/
example : ((getV (run exCfg id (Sys.init exCfg) exOps).a.vbs 1).arr.rep, (getV (run exCfg id (Sys.init exCfg) exOps).a.vbs 1).heap.map (·.2),
    (getV (run exCfg id (Sys.init exCfg) exOps).b.vbs 1).heap.map (·.2)) = (.heap 8, some 64, some 40) := by decide +kernel
/-- the monitor has accepted all events of this history and holds exactly the blocks and objects of the books … -/
example : (Ledger.run Ledger.St.init (run exCfg id (Sys.init exCfg) exOps).w.evs).map (fun s => s.outstanding) =
    some (((run exCfg id (Sys.init exCfg) exOps).blocks exCfg).length, (run exCfg id (Sys.init exCfg) exOps).elems.length) := by
  decide +kernel
example : (((run exCfg id (Sys.init exCfg) exOps).blocks exCfg).length, (run exCfg id (Sys.init exCfg) exOps).elems.length) = (11, 15) := by
  decide +kernel
/-- … and after destruction nothing -/
example : Ledger.balanced (finish exCfg (run exCfg id (Sys.init exCfg) exOps)).evs = true := by decide +kernel
/-- the monitor is not vacuous on such traces: dropping the last event (a crew block is not given back) is a leak -/
example : Ledger.balanced (finish exCfg (run exCfg id (Sys.init exCfg) exOps)).evs.dropLast = false := by decide +kernel

end Momo.MML
