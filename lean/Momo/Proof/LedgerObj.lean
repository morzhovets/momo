import Momo.Proof.Ledger
import Momo.Proof.Obj
/-!
  The construction / destruction traces of the object life-cycle model (`Momo.Obj`, ObjectManager.h) read as ledger
  events: `Obj.replay` (the well-formedness check used by C04's theorems) and the C03 monitor agree on every trace,
  so every trace proved `TraceOK` is accepted by the ledger and leaves exactly the objects of the final memory alive.
-/
namespace Momo.Ledger

/-- element identity = cell address -/
def ofObj : Obj.Ev → Ev Nat
  | .ctor a => .construct a
  | .dtor a => .destroy a
  | .reloc s d => .relocate s d
  | .use a => .use a

/-- the monitor's live elements are exactly the occupied cells of `occ` -/
def Represents (s : St Nat) (occ : Nat → Bool) : Prop := ∀ a, memE a s.elems = occ a

theorem Represents.cons {s : St Nat} {occ : Nat → Bool} (h : Represents s occ) (a : Nat) :
    Represents { s with elems := a :: s.elems } (fun x => if x = a then true else occ x) := by
  intro x
  show (if a = x then true else memE x s.elems) = if x = a then true else occ x
  by_cases hx : x = a
  · subst hx; rw [if_pos rfl, if_pos rfl]
  · rw [if_neg hx, if_neg (Ne.symm hx)]; exact h x

theorem Represents.erase {s : St Nat} {occ : Nat → Bool} (h : Represents s occ) (a : Nat) :
    Represents { s with elems := eraseE a s.elems } (fun x => if x = a then false else occ x) := by
  intro x
  show memE x (eraseE a s.elems) = if x = a then false else occ x
  rw [memE_eraseE]
  by_cases hx : x = a
  · subst hx; rw [if_pos rfl, if_pos rfl]
  · rw [if_neg hx, if_neg (Ne.symm hx)]; exact h x

theorem replay_agrees (evs : List Obj.Ev) : ∀ (occ : Nat → Bool) (s : St Nat), Represents s occ →
    match Obj.replay occ evs with
    | some occ' => ∃ s', run s (evs.map ofObj) = some s' ∧ s'.blocks = s.blocks ∧ Represents s' occ'
    | none => run s (evs.map ofObj) = none := by
  -- the guard of `replay` is `StepOK` read through `Represents`, the new occupancy is that of the next state
  have no : ∀ {occ : Nat → Bool} {s : St Nat} {a : Nat} (v : Bool), Represents s occ → occ a = v → ¬ memE a s.elems = !v :=
    fun {occ s a} v h ha hc => by rw [h, ha] at hc; cases v <;> cases hc
  intro occ
  -- arms: 1 end of the trace; 2 / 3 ctor (cell occupied: rejected / free); 4 / 5 dtor (occupied / free: rejected);
  -- 6 / 7 reloc (admissible / not); 8 / 9 use (occupied / free: rejected)
  fun_induction Obj.replay occ evs with
  | case1 => exact fun s h => ⟨s, rfl, rfl, h⟩
  | case2 occ a es ha => exact fun s h => run_cons_reject (ev := .construct a) (no true h ha) _
  | case3 occ a es ha ih =>
    intro s h
    rw [List.map_cons, run_cons_ok (ev := ofObj (.ctor a)) ((h a).trans (by simpa using ha))]
    exact ih _ (h.cons a)
  | case4 occ a es ha ih =>
    intro s h
    rw [List.map_cons, run_cons_ok (ev := ofObj (.dtor a)) ((h a).trans ha)]
    exact ih _ (h.erase a)
  | case5 occ a es ha => exact fun s h => run_cons_reject (ev := .destroy a) (no false h (by simpa using ha)) _
  | case6 occ a d es hg ih =>
    intro s h
    simp only [Bool.and_eq_true, Bool.not_eq_true', bne_iff_ne] at hg
    rw [List.map_cons, run_cons_ok (ev := ofObj (.reloc a d)) (show StepOK s (.relocate a d) from ⟨hg.2, (h a).trans hg.1.1, (h d).trans hg.1.2⟩)]
    exact ih _ ((h.erase a).cons d)
  | case7 occ a d es hg =>
    refine fun s h => run_cons_reject (ev := .relocate a d) (fun hc => ?_) _
    obtain ⟨hne, ha, hd⟩ : a ≠ d ∧ memE a s.elems = true ∧ memE d s.elems = false := hc
    rw [h a] at ha; rw [h d] at hd
    simp [ha, hd, hne] at hg
  | case8 occ a es ha ih =>
    intro s h
    rw [List.map_cons, run_cons_ok (ev := ofObj (.use a)) ((h a).trans ha)]
    exact ih _ h
  | case9 occ a es ha => exact fun s h => run_cons_reject (ev := .use a) (no false h (by simpa using ha)) _

theorem traceOK_accepted {occ0 : Nat → Bool} {st : Obj.St} (ht : Obj.TraceOK occ0 st) {s : St Nat}
    (hs : Represents s occ0) :
    ∃ s', run s (st.evs.map ofObj) = some s' ∧ s'.blocks = s.blocks ∧ Represents s' (Obj.occOf st.mem) := by
  have := replay_agrees st.evs occ0 s hs
  unfold Obj.TraceOK at ht
  rw [ht] at this
  exact this

end Momo.Ledger
