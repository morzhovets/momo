import Momo.Proof.PoolGeometry
/-!
  State machine of `MemPool` (C09): the invariant of one buffer (its free chain), the effect of `pvNewBlock` /
  `pvDeleteBlock` on the set of handed-out blocks of a buffer, and the buffer that `pvNewBuffer` leaves.
-/
namespace Momo.Pool

/-- following the link bytes from `s` visits the blocks `ch` in this order. The end is not pinned (`[] ↦ True`, unlike `PoolU32.Chain`):
    `MemPool` never tests the terminator, it knows the length of the chain from `freeBlockCount` (`BufWF.chain`). -/
def Chain (link : Int → Option Int) : Int → List Int → Prop
  | _, [] => True
  | s, x :: xs => s = x ∧ ∃ v, link x = some v ∧ Chain link v xs

theorem Chain_congr {l l' : Int → Option Int} {ch : List Int} (h : ∀ x ∈ ch, l' x = l x) (s : Int) :
    Chain l s ch → Chain l' s ch := by
  induction ch generalizing s with
  | nil => intro _; trivial
  | cons x xs ih =>
    intro ⟨h1, v, h2, h3⟩
    exact ⟨h1, v, by rw [h x (by simp)]; exact h2, ih (fun y hy => h y (by simp [hy])) v h3⟩

theorem freeChain_of_Chain (b : Buffer) : ∀ (ch : List Int) (s : Int), Chain b.link s ch →
    freeChain b ch.length s = some ch := by
  intro ch
  induction ch with
  | nil => intro s _; rfl
  | cons x xs ih =>
    intro s ⟨h1, v, h2, h3⟩
    subst h1
    simp [freeChain, h2, ih v h3]

/-- one buffer in a legal state: it lies where `pvNewBuffer` puts it for its (ghost) base address, that address is aligned as
    the pool assumes, and the free chain from `firstFreeBlockIndex` visits `freeBlockCount` different blocks of the buffer - exactly
    those whose link byte the pool owns (`link i ≠ none`); the others are handed out (`Buffer.taken`). -/
structure BufWF (P : Params) (b : Buffer) : Prop where
  layout : b.buf = (newBuffer P b.base).buf ∧ b.first = (newBuffer P b.base).first ∧
           b.beginOffset = (newBuffer P b.base).beginOffset
  aligned : P.allocAlign ∣ b.base
  chain : ∃ ch : List Int, Chain b.link b.firstFree ch ∧ (ch.length : Int) = b.freeCount ∧ ch.Nodup ∧
            (∀ i ∈ ch, b.first ≤ i ∧ i < b.first + P.N) ∧
            (∀ i, b.first ≤ i → i < b.first + P.N → (b.link i = none ↔ i ∉ ch))

theorem indexes_nodup (P : Params) (b : Buffer) : (b.indexes P).Nodup := by
  unfold Buffer.indexes
  exact List.Pairwise.map _ (fun x y (hxy : x ≠ y) => by omega) List.nodup_range

theorem mem_indexes (P : Params) (b : Buffer) (i : Int) (hN : 0 ≤ P.N) :
    i ∈ b.indexes P ↔ b.first ≤ i ∧ i < b.first + P.N := by
  unfold Buffer.indexes
  simp only [List.mem_map, List.mem_range]
  constructor
  · rintro ⟨j, hj, rfl⟩; omega
  · intro ⟨h1, h2⟩
    exact ⟨(i - b.first).toNat, by omega, by omega⟩

/-- what taking or returning one block does to `Buffer.taken`, and one block entering the cache to the live blocks -/
theorem filter_flip {α : Type} [DecidableEq α] (l : List α) (a : α) (p q : α → Bool) (hnd : l.Nodup) (ha : a ∈ l)
    (hp : p a = false) (hq : q a = true) (hpq : ∀ x, x ≠ a → q x = p x) :
    (l.filter q).Perm (a :: l.filter p) := by
  induction l with
  | nil => simp at ha
  | cons x xs ih =>
    have hx : x ∉ xs := (List.nodup_cons.mp hnd).1
    have hnd' := (List.nodup_cons.mp hnd).2
    by_cases hxa : x = a
    · subst hxa
      have : xs.filter q = xs.filter p := by
        apply List.filter_congr
        intro y hy; exact hpq y (fun e => hx (e ▸ hy))
      simp [hp, hq, this]
    · have ha' : a ∈ xs := by simpa [Ne.symm hxa] using ha
      have := ih hnd' ha'
      simp only [List.filter_cons, hpq x hxa]
      split
      · exact (List.Perm.cons x this).trans (List.Perm.swap a x _)
      · exact this

theorem taken_perm_of_flip (P : Params) (b b' : Buffer) (x : Int) (hN : 0 ≤ P.N)
    (hbuf : b'.buf = b.buf) (hfirst : b'.first = b.first)
    (hx : b.first ≤ x ∧ x < b.first + P.N)
    (hp : (b.link x).isNone = false) (hq : (b'.link x).isNone = true)
    (hpq : ∀ i, i ≠ x → b'.link i = b.link i) :
    (b'.taken P).Perm (getBlock P b.buf x :: b.taken P) := by
  unfold Buffer.taken
  have hidx : b'.indexes P = b.indexes P := by unfold Buffer.indexes; rw [hfirst]
  rw [hidx, hbuf]
  have := filter_flip (b.indexes P) x (fun i => (b.link i).isNone) (fun i => (b'.link i).isNone)
    (indexes_nodup P b) ((mem_indexes P b x hN).mpr hx) hp hq (fun i hi => by simp only [hpq i hi])
  exact (this.map _).trans (by simp)

theorem getBlock_inj {P : Params} {k : Int} (hM : Multi P k) (buf i j : Int)
    (h : getBlock P buf i = getBlock P buf j) : i = j := by
  have hS := hM.S_pos
  rcases Int.lt_trichotomy i j with hlt | heq | hgt
  · have := hM.block_order buf i j hlt; omega
  · exact heq
  · have := hM.block_order buf j i hgt; omega

theorem getBlock_not_mem_taken {P : Params} {k : Int} (hM : Multi P k) (b : Buffer) (i : Int)
    (hl : (b.link i).isNone = false) : getBlock P b.buf i ∉ b.taken P := by
  unfold Buffer.taken
  intro hm
  obtain ⟨j, hj, hje⟩ := List.mem_map.mp hm
  rw [getBlock_inj hM _ _ _ hje] at hj
  simp [hl] at hj

def Buffer.afterTake (b : Buffer) (v : Int) : Buffer :=
  { b with firstFree := v, freeCount := b.freeCount - 1,
           link := fun i => if i = b.firstFree then none else b.link i }

theorem Buffer.take_eq (b : Buffer) (v : Int) (h : b.link b.firstFree = some v) :
    b.take = some (b.firstFree, b.afterTake v) := by
  unfold Buffer.take Buffer.afterTake; rw [h]

theorem BufWF.take_ok {P : Params} {k : Int} (hM : Multi P k) {b : Buffer} (h : BufWF P b) (hfc : 1 ≤ b.freeCount) :
    ∃ b', b.take = some (b.firstFree, b') ∧ BufWF P b' ∧ b'.freeCount = b.freeCount - 1 ∧
      b'.buf = b.buf ∧ b'.base = b.base ∧ b'.first = b.first ∧ b'.beginOffset = b.beginOffset ∧
      (b.first ≤ b.firstFree ∧ b.firstFree < b.first + P.N) ∧
      (b'.taken P).Perm (getBlock P b.buf b.firstFree :: b.taken P) ∧
      getBlock P b.buf b.firstFree ∉ b.taken P := by
  obtain ⟨ch, hch, hlen, hnd, hrange, hnone⟩ := h.chain
  cases ch with
  | nil => simp at hlen; omega
  | cons x xs =>
    obtain ⟨hx, v, hv, hrest⟩ := hch
    subst hx
    have hxr := hrange b.firstFree (by simp)
    have hxn : b.firstFree ∉ xs := (List.nodup_cons.mp hnd).1
    have hN := hM.N_nonneg
    refine ⟨b.afterTake v, b.take_eq v hv, ?_, rfl, rfl, rfl, rfl, rfl, hxr, ?_, ?_⟩
    · refine ⟨h.layout, h.aligned, xs, ?_, ?_, (List.nodup_cons.mp hnd).2, ?_, ?_⟩
      · apply Chain_congr _ v hrest
        intro y hy
        have : y ≠ b.firstFree := by intro e; exact hxn (e ▸ hy)
        simp [Buffer.afterTake, this]
      · simp only [List.length_cons] at hlen; simp only [Buffer.afterTake]; omega
      · intro i hi; exact hrange i (by simp [hi])
      · intro i h1 h2
        simp only [Buffer.afterTake]
        by_cases hi : i = b.firstFree
        · simp only [hi, if_true, true_iff]; exact hxn
        · simp only [hi, if_false]
          rw [hnone i h1 h2]
          simp [hi]
    · apply taken_perm_of_flip P b (b.afterTake v) b.firstFree hN rfl rfl hxr
      · rw [hv]; rfl
      · simp [Buffer.afterTake]
      · intro i hi; simp [Buffer.afterTake, hi]
    · exact getBlock_not_mem_taken hM b _ (by rw [hv]; rfl)

theorem BufWF.put_ok {P : Params} {k : Int} (hM : Multi P k) {b : Buffer} (h : BufWF P b) (idx : Int)
    (hr : b.first ≤ idx ∧ idx < b.first + P.N) (hl : b.link idx = none) :
    BufWF P (b.put idx) ∧ (b.taken P).Perm (getBlock P b.buf idx :: (b.put idx).taken P) ∧
    getBlock P b.buf idx ∉ (b.put idx).taken P := by
  obtain ⟨ch, hch, hlen, hnd, hrange, hnone⟩ := h.chain
  have hN := hM.N_nonneg
  have hidx : idx ∉ ch := (hnone idx hr.1 hr.2).mp hl
  refine ⟨⟨h.layout, h.aligned, idx :: ch, ?_, ?_, List.nodup_cons.mpr ⟨hidx, hnd⟩, ?_, ?_⟩, ?_, ?_⟩
  · refine ⟨rfl, b.firstFree, by simp [Buffer.put], ?_⟩
    apply Chain_congr _ _ hch
    intro y hy
    have : y ≠ idx := fun e => hidx (e ▸ hy)
    simp [Buffer.put, this]
  · simp only [List.length_cons, Buffer.put]; omega
  · intro i hi
    rcases List.mem_cons.mp hi with rfl | hi
    · exact hr
    · exact hrange i hi
  · intro i h1 h2
    simp only [Buffer.put]
    by_cases hi : i = idx
    · simp [hi]
    · simp only [hi, if_false, List.mem_cons, false_or]
      exact hnone i h1 h2
  · apply taken_perm_of_flip P (b.put idx) b idx hN rfl rfl hr
    · simp [Buffer.put]
    · rw [hl]; rfl
    · intro i hi; simp [Buffer.put, hi]
  · exact getBlock_not_mem_taken hM (b.put idx) idx (by simp [Buffer.put])

theorem fresh_chain (P : Params) (base : Int) :
    ∀ (n : Nat) (s : Int), (newBuffer P base).first ≤ s → s + n = (newBuffer P base).first + P.N →
      Chain (Buffer.fresh P base).link s ((List.range n).map (fun (j : Nat) => s + (j : Int))) := by
  intro n
  induction n with
  | zero => intro s _ _; trivial
  | succ n ih =>
    intro s h1 h2
    have e : (List.range (n + 1)).map (fun (j : Nat) => s + (j : Int)) =
        s :: (List.range n).map (fun (j : Nat) => s + 1 + (j : Int)) := by
      rw [List.range_succ_eq_map, List.map_cons, List.map_map]
      congr 1
      · simp
      · exact List.map_congr_left (fun j _ => by simp only [Function.comp]; omega)
    rw [e]
    refine ⟨rfl, ?_⟩
    by_cases hl : s < (newBuffer P base).first + P.N - 1
    · exact ⟨s + 1, by simp [Buffer.fresh, h1, hl], ih (s + 1) (by omega) (by omega)⟩
    · have hn : n = 0 := by omega
      subst hn
      refine ⟨-(Extracted.poolFreeTerminator : Int), ?_, trivial⟩
      have : s = (newBuffer P base).first + P.N - 1 := by omega
      simp [Buffer.fresh, this]

theorem fresh_link_ne_none (P : Params) (base i : Int) (h1 : (newBuffer P base).first ≤ i)
    (h2 : i < (newBuffer P base).first + P.N) : (Buffer.fresh P base).link i ≠ none := by
  simp only [Buffer.fresh]
  split
  · simp
  · split
    · simp
    · omega

theorem fresh_wf {P : Params} {k : Int} (hM : Multi P k) (base : Int) (hbase : P.allocAlign ∣ base) :
    BufWF P (Buffer.fresh P base) ∧ (Buffer.fresh P base).freeCount = P.N ∧
    (Buffer.fresh P base).taken P = [] := by
  have hN := hM.N_nonneg
  have hn : ((P.N.toNat : Nat) : Int) = P.N := Int.toNat_of_nonneg hN
  have hmem := fun i => mem_indexes P (Buffer.fresh P base) i hN
  refine ⟨⟨⟨rfl, rfl, rfl⟩, hbase, (Buffer.fresh P base).indexes P,
    fresh_chain P base _ _ (Int.le_refl _) (by rw [hn]; rfl),
    by simp only [Buffer.indexes, List.length_map, List.length_range]; exact hn,
    indexes_nodup P _, fun i hi => (hmem i).mp hi,
    fun i h1 h2 => iff_of_false (fresh_link_ne_none P base i h1 h2) (fun hc => hc ((hmem i).mpr ⟨h1, h2⟩))⟩, rfl, ?_⟩
  unfold Buffer.taken
  rw [List.map_eq_nil_iff, List.filter_eq_nil_iff]
  intro i hi
  obtain ⟨h1, h2⟩ := (hmem i).mp hi
  cases hl : (Buffer.fresh P base).link i with
  | none => exact absurd hl (fresh_link_ne_none P base i h1 h2)
  | some v => simp

end Momo.Pool
