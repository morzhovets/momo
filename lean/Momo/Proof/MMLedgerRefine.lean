import Momo.Proof.MMLedgerSys
import Momo.Proof.MMapArr
/-!
  C08 / C04 for the ledger layer of `momo::HashMultiMap` (`Momo.MML`): REFINEMENT of the books to the abstract multimap
  `Key → List Value`.

  `St.abs st k` = the values `GetBounds()` shows for key `k` in the C08 state `st.mm` this container stands for (a key without array shows
  nothing).  Every fault-free value operation of `Model/MMLedger.lean` commutes with the abstract operation on `St.abs` (`++ [v]`, `swapRemove`,
  `[]`, everything `[]`); an operation that does not answer `done ok` leaves `St.abs` as it was.  Where `MM.Inv` holds of `st.mm`, `St.abs st k`
  is `MM.vals K st.mm k` (`MM.vals_eq_bounds`): an absent key and a key without values both show `[]`.

  Hypotheses: `St.Good` (the keys of the books are distinct, every value array is `VArr.WF`), which holds initially and is kept by every plain
  operation from a `Tied` state, and, for `Add(key, …)` / `RemoveValues`, `St.Tied` (a key that is not in the key table has no array on the
  books: the ledger-side form of `MM.Inv.absent` for `st.mm`).  `Tied` is ASSUMED of the states passed through, not proved (`Props/C08.lean`
  keeps the full statements as `def … : Prop`).  What a proof would rest on: the key table's side is there, `HTL.Consistent` of `HTLedgerCons`
  (the C01 invariant of `st.kt.t`; kept by `HTL.insertL_cons`, `removeKeyL_cons`, `clearL_cons`, `reserveL_cons`, `step_cons`, with
  `HTL.addL_table` / `reserveL_table`), but no MMLedger file imports it; and no lemma states that every `MML` operation acts on `st.mm` as the
  `MM` operation of C08 does (`MM.step_spec` with `htLawful` would then give `MM.Inv.absent`, i.e. `Tied`).
-/
namespace Momo.MML
open Momo Momo.HT Momo.MMap

abbrev Spec := Nat → List Nat

def Spec.set (f : Spec) (k : Nat) (l : List Nat) : Spec := fun k' => if k' = k then l else f k'

def St.abs (st : St) : Spec := fun k => (getArr st.mm.arrs k).bounds

def keysOf (l : VBs) : List Nat := l.map (·.1)

structure St.Good (cfg : Cfg) (st : St) : Prop where
  nodup : (keysOf st.vbs).Nodup
  wf : ∀ p ∈ st.vbs, p.2.arr.WF cfg.mf

def St.Tied (cfg : Cfg) (hf : Nat → Nat) (st : St) (k : Nat) : Prop :=
  findTable cfg.h.sp hf st.kt.t k = none → lookV st.vbs k = none

theorem getArr_map (l : VBs) (k : Nat) : getArr (l.map (fun p => (p.1, p.2.arr))) k = (getV l k).arr := by
  induction l with
  | nil => simp [getArr, getV, lookV]
  | cons p r ih =>
    obtain ⟨k', b⟩ := p
    by_cases h : k' = k
    · subst h; simp [getArr, getV, lookV]
    · have h' : (k == k') = false := by simp; exact fun e => h e.symm
      simp only [getArr, getV, lookV, List.map_cons, List.lookup, h', if_neg h] at ih ⊢
      exact ih

theorem abs_eq (st : St) (k : Nat) : st.abs k = (getV st.vbs k).arr.bounds := by
  simp only [St.abs, St.mm, getArr_map]

theorem abs_of_vbs {st st' : St} (h : st'.vbs = st.vbs) : st'.abs = st.abs := by
  funext k; rw [abs_eq, abs_eq, h]

theorem lookV_drop_ne (l : VBs) {k k' : Nat} (h : k' ≠ k) : lookV (dropV l k) k' = lookV l k' := by
  induction l with
  | nil => rfl
  | cons p r ih =>
    obtain ⟨k1, b⟩ := p
    by_cases h1 : k1 = k
    · subst h1
      have : ¬ k1 = k' := fun e => h e.symm
      simp [dropV, lookV, this]
    · by_cases h2 : k1 = k'
      · subst h2; simp [dropV, lookV, h1]
      · simp [dropV, lookV, h1, h2, ih]

theorem lookV_none_of_not_mem (l : VBs) (k : Nat) (h : k ∉ keysOf l) : lookV l k = none := by
  induction l with
  | nil => rfl
  | cons p r ih =>
    obtain ⟨k1, b⟩ := p
    simp only [keysOf, List.map_cons, List.mem_cons, not_or] at h
    have h1 : ¬ k1 = k := fun e => h.1 e.symm
    simp only [lookV, if_neg h1]
    exact ih h.2

theorem not_mem_drop_self {l : VBs} (k : Nat) (h : (keysOf l).Nodup) : k ∉ keysOf (dropV l k) := by
  induction l with
  | nil => simp [dropV, keysOf]
  | cons q r ih =>
    obtain ⟨k1, b⟩ := q
    simp only [keysOf, List.map_cons, List.nodup_cons] at h
    by_cases h1 : k1 = k
    · subst h1; simp only [dropV]; exact h.1
    · simp only [dropV, if_neg h1, keysOf, List.map_cons, List.mem_cons, not_or]
      exact ⟨fun e => h1 e.symm, ih h.2⟩

theorem lookV_drop_self (l : VBs) (k : Nat) (h : (keysOf l).Nodup) : lookV (dropV l k) k = none :=
  lookV_none_of_not_mem _ _ (not_mem_drop_self k h)

theorem getV_set (l : VBs) (k : Nat) (b : VB) (k' : Nat) : getV (setV l k b) k' = if k' = k then b else getV l k' := by
  by_cases h : k' = k
  · subst h; simp [getV, setV, lookV]
  · have h' : ¬ k = k' := fun e => h e.symm
    simp only [getV, setV, lookV, if_neg h', if_neg h, lookV_drop_ne l h]

theorem getV_cons (l : VBs) (k : Nat) (b : VB) (k' : Nat) : getV ((k, b) :: l) k' = if k' = k then b else getV l k' := by
  by_cases h : k' = k
  · subst h; simp [getV, lookV]
  · have h' : ¬ k = k' := fun e => h e.symm
    simp only [getV, lookV, if_neg h', if_neg h]

theorem getV_wf {cfg : Cfg} {st : St} (g : st.Good cfg) (k : Nat) : (getV st.vbs k).arr.WF cfg.mf := by
  rw [getV]
  cases hl : lookV st.vbs k with
  | none => exact VArr.empty_wf cfg.mf
  | some b =>
    obtain ⟨l1, l2, h1, _⟩ := lookV_split hl
    exact g.wf (k, b) (h1 ▸ List.mem_append_right _ (List.mem_cons_self ..))

theorem abs_set_vbs {st st' : St} (k : Nat) (b : VB) (h : st'.vbs = setV st.vbs k b) :
    st'.abs = st.abs.set k b.arr.bounds := by
  funext k'
  rw [abs_eq, h, getV_set]
  by_cases e : k' = k
  · simp [Spec.set, e]
  · simp only [Spec.set, if_neg e, abs_eq]

theorem abs_drop_vbs {st st' : St} (k : Nat) (hn : (keysOf st.vbs).Nodup) (h : st'.vbs = dropV st.vbs k) :
    st'.abs = st.abs.set k [] := by
  funext k'
  rw [abs_eq, h]
  by_cases e : k' = k
  · subst e
    simp [Spec.set, getV, lookV_drop_self st.vbs k' hn, VArr.bounds, VArr.empty]
  · simp only [Spec.set, if_neg e, abs_eq, getV, lookV_drop_ne st.vbs e]

theorem vbAdd_arr {cfg : Cfg} {b b1 : VB} {v : Nat} {f : VFlt} {w w1 : W} (h : vbAdd cfg b v f w = (some b1, w1)) :
    b1.arr = b.arr.addBack cfg.mf v := by
  have o := vbAdd_out cfg b v f w
  rw [h] at o
  cases o <;> rfl

theorem vbRemoveBack_arr (cfg : Cfg) (b : VB) (a' : VArr) (f : VFlt) (w : W) : (vbRemoveBack cfg b a' f w).1.arr = a' := by
  unfold vbRemoveBack
  refine iteInduction (motive := fun r : VB × W => r.1.arr = a') (fun _ => rfl) (fun _ => ?_)
  cases b.objs.getLast? with
  | none => rfl
  | some l => cases shrinks b.arr f.shrink <;> rfl

theorem vbRemoveAt_arr {cfg : Cfg} {b b1 : VB} {i : Nat} {f : VFlt} {w w1 : W} (h : vbRemoveAt cfg b i f w = (some b1, w1)) :
    b1.arr = b.arr.removeAt i f.shrink := by
  revert h
  unfold vbRemoveAt
  refine iteInduction (motive := fun r : Option VB × W => r = (some b1, w1) → _) (fun _ h => by cases h) (fun _ => ?_)
  cases b.objs.getLast? with
  | none => exact fun h => by cases h; rfl
  | some l =>
    cases b.objs[i]? with
    | none => exact fun h => by cases h; rfl
    | some d => exact fun h => by cases h; exact vbRemoveBack_arr ..

theorem dropV_sublist (l : VBs) (k : Nat) : (dropV l k).Sublist l := by
  induction l with
  | nil => exact .slnil
  | cons q r ih =>
    obtain ⟨k1, b⟩ := q
    by_cases h1 : k1 = k
    · rw [dropV, if_pos h1]; exact List.sublist_cons_self ..
    · rw [dropV, if_neg h1]; exact ih.cons_cons _

theorem nodup_drop {l : VBs} (k : Nat) (h : (keysOf l).Nodup) : (keysOf (dropV l k)).Nodup :=
  List.Nodup.sublist ((dropV_sublist l k).map _) h

theorem good_of_vbs {cfg : Cfg} {st st' : St} (h : st'.vbs = st.vbs) (g : st.Good cfg) : st'.Good cfg :=
  ⟨by rw [h]; exact g.nodup, by rw [h]; exact g.wf⟩

theorem good_set {cfg : Cfg} {st st' : St} (k : Nat) (b : VB) (h : st'.vbs = setV st.vbs k b) (g : st.Good cfg)
    (hb : b.arr.WF cfg.mf) : st'.Good cfg := by
  refine ⟨?_, ?_⟩
  · rw [h]; simp only [setV, keysOf, List.map_cons, List.nodup_cons]
    exact ⟨not_mem_drop_self k g.nodup, nodup_drop k g.nodup⟩
  · rw [h]; intro p hp
    simp only [setV, List.mem_cons] at hp
    rcases hp with hp | hp
    · rw [hp]; exact hb
    · exact g.wf p ((dropV_sublist ..).subset hp)

theorem good_drop {cfg : Cfg} {st st' : St} (k : Nat) (h : st'.vbs = dropV st.vbs k) (g : st.Good cfg) : st'.Good cfg :=
  ⟨by rw [h]; exact nodup_drop k g.nodup, by rw [h]; exact fun p hp => g.wf p ((dropV_sublist ..).subset hp)⟩

theorem good_nil {cfg : Cfg} {st : St} (h : st.vbs = []) : st.Good cfg :=
  ⟨by rw [h]; simp [keysOf], by rw [h]; simp⟩

structure Eff (cfg : Cfg) (st : St) (k : Nat) (l : List Nat) (st' : St) (r : HTL.Res) : Prop where
  good : st'.Good cfg
  abs : r = .done .ok → st'.abs = st.abs.set k l

/-- `T`: what the `ok` case needs of the state (`True`, or `Tied` for the `Add` that may bring a new key) -/
structure Sets (T : Prop) (st : St) (k : Nat) (a' : VArr) (st' : St) (r : HTL.Res) : Prop where
  fault : r ≠ .done .ok → st'.vbs = st.vbs
  ok : T → r = .done .ok → ∃ b : VB, b.arr = a' ∧ st'.vbs = setV st.vbs k b

/-- stated about the projections of a tuple so that it unifies with what the model returns in its no-op branches -/
theorem Sets.same {T : Prop} {st : St} {k : Nat} {a' : VArr} {w : W} {r : HTL.Res} (h : r ≠ .done .ok) :
    Sets T st k a' (st, w, r).1 (st, w, r).2.2 :=
  ⟨fun _ => rfl, fun _ hok => absurd hok h⟩

theorem Sets.eff {T : Prop} {cfg : Cfg} {st st' : St} {k : Nat} {a' : VArr} {r : HTL.Res} (h : Sets T st k a' st' r) (ht : T)
    (g : st.Good cfg) (hw : a'.WF cfg.mf) : Eff cfg st k a'.bounds st' r := by
  by_cases hr : r = .done .ok
  · obtain ⟨b, rfl, hb⟩ := h.ok ht hr
    exact ⟨good_set k b hb g hw, fun _ => abs_set_vbs k b hb⟩
  · exact ⟨good_of_vbs (h.fault hr) g, fun hok => absurd hok hr⟩

theorem setKey_sets {T : Prop} {st : St} {k c : Nat} {a' : VArr} : ∀ r : Option VB × W, (∀ b w1, r = (some b, w1) → b.arr = a') →
    Sets T st k a' (setKey st k c r).1 (setKey st k c r).2.2
  | (none, _), _ => .same nofun
  | (some b, _), h => ⟨fun hn => absurd rfl hn, fun _ _ => ⟨b, h b _ rfl, rfl⟩⟩

variable (cfg : Cfg) (hf : Nat → Nat)

theorem addAtL_sets (st : St) (k v : Nat) (f : Flt) (w : W) :
    Sets True st k ((getV st.vbs k).arr.addBack cfg.mf v) (addAtL cfg hf st k v f w).1 (addAtL cfg hf st k v f w).2.2 := by
  unfold addAtL
  cases findTable cfg.h.sp hf st.kt.t k with
  | none => exact .same nofun
  | some _ => exact setKey_sets _ (fun _ _ h => vbAdd_arr h)

theorem addAtL_eff (st : St) (k v : Nat) (f : Flt) (w : W) (h1 : 1 ≤ cfg.mf) (hmf : cfg.mf < Extracted.abMaxFastLimit)
    (g : st.Good cfg) : Eff cfg st k (st.abs k ++ [v]) (addAtL cfg hf st k v f w).1 (addAtL cfg hf st k v f w).2.2 := by
  obtain ⟨hw, hbd⟩ := VArr.addBack_spec h1 hmf (getV_wf g k) v
  rw [abs_eq, ← hbd]
  exact (addAtL_sets cfg hf st k v f w).eff trivial g hw

theorem addL_sets (st : St) (k tg v : Nat) (f : Flt) (w : W) :
    Sets (st.Tied cfg hf k) st k ((getV st.vbs k).arr.addBack cfg.mf v) (addL cfg hf st k tg v f w).1
      (addL cfg hf st k tg v f w).2.2 := by
  unfold addL
  refine iteInduction (motive := fun r : St × W × HTL.Res => Sets _ st k _ r.1 r.2.2) (fun _ => .same nofun) (fun _ => ?_)
  cases hfind : findTable cfg.h.sp hf st.kt.t k with
  | some _ => exact setKey_sets _ (fun _ _ h => vbAdd_arr h)
  | none =>
    cases HTL.addL cfg.h hf st.kt ⟨k, tg⟩ .fresh { f.k with create := f.k.create || f.v.pool || f.v.create } w with
    | mk kt1 q =>
      obtain ⟨w1, o⟩ := q
      cases o with
      | ok =>
        -- a key outside the key table has no array on the books: the new pair is `setV` on them, its array `addBack` of the empty one
        refine ⟨fun h => absurd rfl h, fun ht _ => ?_⟩
        have hk : lookV st.vbs k = none := ht hfind
        exact ⟨⟨VArr.empty.addBack cfg.mf v, _, none⟩, by rw [getV, hk]; rfl, by rw [setV, lookV_none_drop hk]⟩
      | _ => exact ⟨fun _ => rfl, fun _ h => nomatch h⟩

theorem addL_eff (st : St) (k tg v : Nat) (f : Flt) (w : W) (h1 : 1 ≤ cfg.mf) (hmf : cfg.mf < Extracted.abMaxFastLimit)
    (g : st.Good cfg) (ht : st.Tied cfg hf k) :
    Eff cfg st k (st.abs k ++ [v]) (addL cfg hf st k tg v f w).1 (addL cfg hf st k tg v f w).2.2 := by
  obtain ⟨hw, hbd⟩ := VArr.addBack_spec h1 hmf (getV_wf g k) v
  rw [abs_eq, ← hbd]
  exact (addL_sets cfg hf st k tg v f w).eff ht g hw

theorem removeValueL_sets (st : St) (k i : Nat) (f : Flt) (w : W) :
    Sets True st k ((getV st.vbs k).arr.removeAt i f.v.shrink) (removeValueL cfg hf st k i f w).1
      (removeValueL cfg hf st k i f w).2.2 := by
  unfold removeValueL
  cases findTable cfg.h.sp hf st.kt.t k with
  | none => exact .same nofun
  | some _ =>
    exact iteInduction (motive := fun r : St × W × HTL.Res => Sets _ st k _ r.1 r.2.2)
      (fun _ => setKey_sets _ (fun _ _ h => vbRemoveAt_arr h)) (fun _ => .same nofun)

theorem removeValueL_eff (st : St) (k i : Nat) (f : Flt) (w : W) (hmf : cfg.mf < Extracted.abMaxFastLimit) (g : st.Good cfg) :
    Eff cfg st k (swapRemove (st.abs k) i) (removeValueL cfg hf st k i f w).1 (removeValueL cfg hf st k i f w).2.2 := by
  rw [abs_eq, ← (VArr.removeAt_spec hmf (getV_wf g k) i f.v.shrink).2]
  exact (removeValueL_sets cfg hf st k i f w).eff trivial g (VArr.removeAt_spec hmf (getV_wf g k) i f.v.shrink).1

theorem removeValuesL_abs (st : St) (k : Nat) (w : W) (g : st.Good cfg) (ht : st.Tied cfg hf k) :
    (removeValuesL cfg hf st k w).1.abs = st.abs.set k [] := by
  unfold removeValuesL
  cases hfind : findTable cfg.h.sp hf st.kt.t k with
  | none =>
    funext k'
    by_cases e : k' = k
    · rw [Spec.set, if_pos e, e, abs_eq, getV, ht hfind]; rfl
    · rw [Spec.set, if_neg e]
  | some _ => exact abs_drop_vbs k g.nodup rfl

theorem removeKeyL_vbs (st : St) (k : Nat) (f : Flt) (w : W) :
    ((removeKeyL cfg hf st k f w).2.2.1 = .done .ok ∧ (removeKeyL cfg hf st k f w).1.vbs = dropV st.vbs k) ∨
    ((removeKeyL cfg hf st k f w).2.2.1 ≠ .done .ok ∧ (removeKeyL cfg hf st k f w).1.vbs = st.vbs) := by
  unfold removeKeyL
  cases HTL.removeKeyL cfg.h hf st.kt k f.k w with
  | mk kt1 q =>
    obtain ⟨w1, o⟩ := q
    cases o with
    | done oc =>
      cases oc with
      | ok => exact .inl ⟨rfl, rfl⟩
      | _ => exact .inr ⟨nofun, rfl⟩
    | _ => exact .inr ⟨nofun, rfl⟩

theorem removeKeyL_eff (st : St) (k : Nat) (f : Flt) (w : W) (g : st.Good cfg) :
    Eff cfg st k [] (removeKeyL cfg hf st k f w).1 (removeKeyL cfg hf st k f w).2.2.1 := by
  rcases removeKeyL_vbs cfg hf st k f w with ⟨_, h⟩ | ⟨hn, h⟩
  · exact ⟨good_drop k h g, fun _ => abs_drop_vbs k g.nodup h⟩
  · exact ⟨good_of_vbs h g, fun hok => absurd hok hn⟩

theorem clearL_abs (st : St) (w : W) : (clearL cfg st w).1.abs = fun _ => [] := by
  funext k; rw [abs_eq]; rfl

theorem insertKeyL_abs (st : St) (k tg : Nat) (f : Flt) (w : W) : (insertKeyL cfg hf st k tg f w).1.abs = st.abs :=
  abs_of_vbs rfl

theorem resetKeyL_vbs (st : St) (k tg : Nat) (w : W) : (resetKeyL cfg hf st k tg w).1.vbs = st.vbs := by
  unfold resetKeyL
  cases findTable cfg.h.sp hf st.kt.t k with
  | none => rfl
  | some _ => cases HTL.lookE st.kt.els k <;> rfl

theorem resetKeyL_abs (st : St) (k tg : Nat) (w : W) : (resetKeyL cfg hf st k tg w).1.abs = st.abs :=
  abs_of_vbs (resetKeyL_vbs cfg hf st k tg w)

theorem step_fault_abs (s : Sys) (op : Op) (h : SysOK cfg s) (hs : op.strong = true)
    (hfail : (step cfg hf s op).2.failed = true) :
    (step cfg hf s op).1.a.abs = s.a.abs ∧ (step cfg hf s op).1.b.abs = s.b.abs := by
  obtain ⟨ha, hb⟩ := step_strong cfg hf s op h hs hfail
  rw [ha, hb]; exact ⟨rfl, rfl⟩


def Sys.abs (s : Sys) : Spec × Spec := (s.a.abs, s.b.abs)

/-- the operation answered "done" -/
def Out.ok : Out → Bool
  | .res (.done .ok) => true
  | .num _ false => true
  | .unit => true
  | _ => false

/-- the operations whose abstract counterpart is stated here (`copyTo` and `Remove(pairFilter)` are left out) -/
def Op.plain : Op → Bool
  | .copyTo _ _ => false
  | .removeIf _ _ _ => false
  | _ => true

/-- `ok`: whether the operation answered "done" -/
def absStep (ok : Bool) (p : Spec × Spec) : Op → Spec × Spec
  | .add toB k _ v _ =>
    if ok then (if toB then (p.1, p.2.set k (p.2 k ++ [v])) else (p.1.set k (p.1 k ++ [v]), p.2)) else p
  | .addAt k v _ => if ok then (p.1.set k (p.1 k ++ [v]), p.2) else p
  | .removeValue k i _ => if ok then (p.1.set k (swapRemove (p.1 k) i), p.2) else p
  | .removeValues k => (p.1.set k [], p.2)
  | .removeKey k _ => if ok then (p.1.set k [], p.2) else p
  | .clear => (fun _ => [], p.2)
  | .moveTo _ => (fun _ => [], p.1)
  | .swap => (p.2, p.1)
  | _ => p

theorem abs_empty_vbs (st : St) (h : st.vbs = []) : st.abs = fun _ => [] := by
  funext k; rw [abs_eq, h]; simp [getV, lookV, VArr.bounds, VArr.empty]

theorem newL_vbs (cfg : Cfg) (f : Flt) (w : W) (st : St) (w1 : W) (h : newL cfg f w = (some st, w1)) : st.vbs = [] := by
  unfold newL at h
  split at h
  · simp at h
  · split at h
    · simp at h
    · simp only [Prod.mk.injEq, Option.some.injEq] at h; rw [← h.1]

theorem ok_res_false {r : HTL.Res} (h : r ≠ .done .ok) : Out.ok (.res r) = false := by
  cases r with
  | done o => cases o <;> first | exact absurd rfl h | rfl
  | _ => rfl

theorem abs_res {r : HTL.Res} {x y z : Spec × Spec} (hok : r = .done .ok → z = x) (hno : r ≠ .done .ok → z = y) :
    z = if Out.ok (.res r) = true then x else y := by
  by_cases h : r = .done .ok
  · rw [hok h, h]; rfl
  · rw [hno h, ok_res_false h]; rfl

structure SysGood (cfg : Cfg) (hf : Nat → Nat) (s : Sys) : Prop where
  ga : s.a.Good cfg
  gb : s.b.Good cfg
  ta : ∀ k, s.a.Tied cfg hf k
  tb : ∀ k, s.b.Tied cfg hf k

theorem step_abs (cfg : Cfg) (hf : Nat → Nat) (s : Sys) (op : Op) (h1 : 1 ≤ cfg.mf) (hmf : cfg.mf < Extracted.abMaxFastLimit)
    (g : SysGood cfg hf s) (hp : op.plain = true) :
    (step cfg hf s op).1.abs = absStep (step cfg hf s op).2.ok s.abs op := by
  obtain ⟨ga, gb, ta, tb⟩ := g
  cases op with
  | add toB k tg v f =>
    cases toB with
    | true =>
      exact abs_res (fun h => congrArg (Prod.mk s.a.abs) ((addL_eff cfg hf s.b k tg v f s.w h1 hmf gb (tb k)).abs h))
        (fun h => congrArg (Prod.mk s.a.abs) (abs_of_vbs ((addL_sets cfg hf s.b k tg v f s.w).fault h)))
    | false =>
      exact abs_res (fun h => congrArg (·, s.b.abs) ((addL_eff cfg hf s.a k tg v f s.w h1 hmf ga (ta k)).abs h))
        (fun h => congrArg (·, s.b.abs) (abs_of_vbs ((addL_sets cfg hf s.a k tg v f s.w).fault h)))
  | addAt k v f =>
    exact abs_res (fun h => congrArg (·, s.b.abs) ((addAtL_eff cfg hf s.a k v f s.w h1 hmf ga).abs h))
      (fun h => congrArg (·, s.b.abs) (abs_of_vbs ((addAtL_sets cfg hf s.a k v f s.w).fault h)))
  | insertKey k tg f => rfl
  | removeValue k i f =>
    exact abs_res (fun h => congrArg (·, s.b.abs) ((removeValueL_eff cfg hf s.a k i f s.w hmf ga).abs h))
      (fun h => congrArg (·, s.b.abs) (abs_of_vbs ((removeValueL_sets cfg hf s.a k i f s.w).fault h)))
  | removeIf m r fl => cases hp
  | removeValues k => exact congrArg (·, s.b.abs) (removeValuesL_abs cfg hf s.a k s.w ga (ta k))
  | removeKey k f =>
    by_cases hok : (removeKeyL cfg hf s.a k f s.w).2.2.1 = .done .ok
    · simp only [step, hok, absStep, Out.ok, if_true, Sys.abs, (removeKeyL_eff cfg hf s.a k f s.w ga).abs hok]
    · have e : (step cfg hf s (.removeKey k f)).2 = .res (removeKeyL cfg hf s.a k f s.w).2.2.1 := by
        simp only [step]
      rw [e, absStep, ok_res_false hok]
      exact congrArg (·, s.b.abs) (abs_of_vbs ((removeKeyL_vbs cfg hf s.a k f s.w).resolve_left (fun h => hok h.1)).2)
  | resetKey k tg => exact congrArg (·, s.b.abs) (resetKeyL_abs cfg hf s.a k tg s.w)
  | clear => exact congrArg (·, s.b.abs) (clearL_abs cfg s.a s.w)
  | copyTo f0 f => cases hp
  | moveTo f =>
    simp only [step, absStep, Sys.abs]
    cases hn : newL cfg f (destroyL cfg s.b s.w) with
    | mk o w2 =>
      cases o with
      | none => exact congrArg (·, s.a.abs) (abs_empty_vbs _ rfl)
      | some st => exact congrArg (·, s.a.abs) (abs_empty_vbs _ (newL_vbs cfg f _ st w2 hn))
  | swap => rfl

theorem poolTraffic_vbs (cfg : Cfg) (st : St) (p : HTL.PoolT) (w : W) : (poolTraffic cfg st p w).1.vbs = st.vbs := by
  unfold poolTraffic; split <;> rfl

theorem stepT_abs_eq (cfg : Cfg) (hf : Nat → Nat) (s : Sys) (o : OpT) :
    (stepT cfg hf s o).1.abs = (step cfg hf s o.op).1.abs ∧ (stepT cfg hf s o).2 = (step cfg hf s o.op).2 := by
  refine ⟨?_, rfl⟩
  simp only [stepT, Sys.abs, ktTraffic]
  congr 1 <;> exact (abs_of_vbs (st' := _) (by simp only [poolTraffic_vbs]))

theorem stepT_abs (cfg : Cfg) (hf : Nat → Nat) (s : Sys) (o : OpT) (h1 : 1 ≤ cfg.mf) (hmf : cfg.mf < Extracted.abMaxFastLimit)
    (g : SysGood cfg hf s) (hp : o.op.plain = true) :
    (stepT cfg hf s o).1.abs = absStep (stepT cfg hf s o).2.ok s.abs o.op := by
  rw [(stepT_abs_eq cfg hf s o).1, (stepT_abs_eq cfg hf s o).2]
  exact step_abs cfg hf s o.op h1 hmf g hp

/-- the abstract history: the abstract steps, told by the concrete run only which operations answered "done" -/
def absRun (cfg : Cfg) (hf : Nat → Nat) : Sys → Spec × Spec → List OpT → Spec × Spec
  | _, p, [] => p
  | s, p, o :: ops => absRun cfg hf (stepT cfg hf s o).1 (absStep (stepT cfg hf s o).2.ok p o.op) ops

theorem removeValuesL_good (st : St) (k : Nat) (w : W) (g : st.Good cfg) : (removeValuesL cfg hf st k w).1.Good cfg := by
  unfold removeValuesL
  cases findTable cfg.h.sp hf st.kt.t k with
  | none => exact g
  | some _ => exact good_drop k rfl g

theorem resetKeyL_good (st : St) (k tg : Nat) (w : W) (g : st.Good cfg) : (resetKeyL cfg hf st k tg w).1.Good cfg :=
  good_of_vbs (resetKeyL_vbs cfg hf st k tg w) g

theorem step_good (s : Sys) (op : Op) (h1 : 1 ≤ cfg.mf) (hmf : cfg.mf < Extracted.abMaxFastLimit)
    (g : SysGood cfg hf s) (hp : op.plain = true) :
    (step cfg hf s op).1.a.Good cfg ∧ (step cfg hf s op).1.b.Good cfg := by
  obtain ⟨ga, gb, ta, tb⟩ := g
  cases op with
  | add toB k tg v f =>
    cases toB with
    | true => exact ⟨ga, (addL_eff cfg hf s.b k tg v f s.w h1 hmf gb (tb k)).good⟩
    | false => exact ⟨(addL_eff cfg hf s.a k tg v f s.w h1 hmf ga (ta k)).good, gb⟩
  | addAt k v f => exact ⟨(addAtL_eff cfg hf s.a k v f s.w h1 hmf ga).good, gb⟩
  | insertKey k tg f => exact ⟨good_of_vbs (st := s.a) rfl ga, gb⟩
  | removeValue k i f => exact ⟨(removeValueL_eff cfg hf s.a k i f s.w hmf ga).good, gb⟩
  | removeIf m r fl => simp [Op.plain] at hp
  | removeValues k => exact ⟨removeValuesL_good cfg hf s.a k s.w ga, gb⟩
  | removeKey k f => exact ⟨(removeKeyL_eff cfg hf s.a k f s.w ga).good, gb⟩
  | resetKey k tg => exact ⟨resetKeyL_good cfg hf s.a k tg s.w ga, gb⟩
  | clear => exact ⟨good_nil rfl, gb⟩
  | copyTo f0 f => simp [Op.plain] at hp
  | moveTo f =>
    simp only [step]
    split
    · exact ⟨good_nil rfl, ga⟩
    · rename_i st w2 hn; exact ⟨good_nil (newL_vbs cfg f _ st w2 hn), ga⟩
  | swap => exact ⟨gb, ga⟩

theorem stepT_good (s : Sys) (o : OpT) (h1 : 1 ≤ cfg.mf) (hmf : cfg.mf < Extracted.abMaxFastLimit)
    (g : SysGood cfg hf s) (hp : o.op.plain = true) :
    (stepT cfg hf s o).1.a.Good cfg ∧ (stepT cfg hf s o).1.b.Good cfg := by
  obtain ⟨h_a, h_b⟩ := step_good cfg hf s o.op h1 hmf g hp
  simp only [stepT, ktTraffic]
  exact ⟨good_of_vbs (by simp only [poolTraffic_vbs]) h_a, good_of_vbs (by simp only [poolTraffic_vbs]) h_b⟩

theorem init_good : (Sys.init cfg).a.Good cfg ∧ (Sys.init cfg).b.Good cfg := by
  have : ∀ (f : Flt) (w : W), ((newL cfg f w).1.getD {}).vbs = [] := by
    intro f w
    cases h : newL cfg f w with
    | mk o w1 =>
      cases o with
      | none => rfl
      | some st => exact newL_vbs cfg f w st w1 h
  exact ⟨good_nil (this _ _), good_nil (this _ _)⟩

/-- the fields `ta`, `tb` of `SysGood` on their own -/
def SysTied (cfg : Cfg) (hf : Nat → Nat) (s : Sys) : Prop := (∀ k, s.a.Tied cfg hf k) ∧ (∀ k, s.b.Tied cfg hf k)

variable {cfg hf} in
theorem SysGood.tied {s : Sys} (g : SysGood cfg hf s) : SysTied cfg hf s := ⟨g.ta, g.tb⟩

variable {cfg hf} in
theorem SysTied.good {s : Sys} (t : SysTied cfg hf s) (ga : s.a.Good cfg) (gb : s.b.Good cfg) : SysGood cfg hf s := ⟨ga, gb, t.1, t.2⟩

theorem run_abs_tied (h1 : 1 ≤ cfg.mf) (hmf : cfg.mf < Extracted.abMaxFastLimit) :
    ∀ (ops : List OpT) (s : Sys), s.a.Good cfg → s.b.Good cfg → (∀ pre, pre <+: ops → SysTied cfg hf (run cfg hf s pre)) →
      (∀ o ∈ ops, o.op.plain = true) → (run cfg hf s ops).abs = absRun cfg hf s s.abs ops := by
  intro ops
  induction ops with
  | nil => intro s _ _ _ _; rfl
  | cons o ops ih =>
    intro s ga gb ht hp
    have g := (ht [] List.nil_prefix).good ga gb
    have hpo := hp o (List.mem_cons_self ..)
    obtain ⟨ga', gb'⟩ := stepT_good cfg hf s o h1 hmf g hpo
    simp only [run, absRun]
    rw [← stepT_abs cfg hf s o h1 hmf g hpo]
    exact ih (stepT cfg hf s o).1 ga' gb' (fun pre hpre => ht (o :: pre) (List.cons_prefix_cons.2 ⟨rfl, hpre⟩))
      (fun o' ho' => hp o' (List.mem_cons_of_mem _ ho'))

theorem run_abs (h1 : 1 ≤ cfg.mf) (hmf : cfg.mf < Extracted.abMaxFastLimit) (ops : List OpT) (s : Sys)
    (hg : ∀ pre, pre <+: ops → SysGood cfg hf (run cfg hf s pre)) (hp : ∀ o ∈ ops, o.op.plain = true) :
    (run cfg hf s ops).abs = absRun cfg hf s s.abs ops :=
  run_abs_tied cfg hf h1 hmf ops s (hg [] List.nil_prefix).ga (hg [] List.nil_prefix).gb
    (fun pre h => (hg pre h).tied) hp

end Momo.MML
