import Momo.Proof.ColumnsGraph
/-!
# The invariant of `DataColumnList` under `Add` — lemmas for C18

`Inv`: the column records lie one after another (`Lay`: aligned, positive size, no overlap) between the row-number slot
and `mTotalSize`, every column can be looked up (`Looks`), the code set is the codes of the columns, and the function
records tile the columns (`Tiles`). `add_spec` is the complete case analysis of `pvAdd` on a state with `Inv`, as the result view `AddCase`;
histories are folded over it (`add_step`, `runFrom_spec`); `WellTyped` and `Small` are the two hypotheses of the C18 statements.
-/
namespace Momo.Col

/-- `Lay s rs e`: the records lie in list order in the bytes `[s, e)`; gaps (padding) are allowed, overlap is not -/
def Lay : Nat → List ColRec → Nat → Prop
  | s, [], e => s ≤ e
  | s, r :: rs, e => s ≤ r.offset ∧ r.offset % r.align = 0 ∧ 0 < r.size ∧ 0 < r.align ∧ Lay (r.offset + r.size) rs e

/-- holds of every C++ item type: `sizeof ≥ 1`; `ObjectAlignmenter::Check` -/
def ItemsOK (items : List Item) : Prop := ∀ it ∈ items, 0 < it.size ∧ 0 < it.align

theorem ItemsOK.tail {it : Item} {its : List Item} (h : ItemsOK (it :: its)) : ItemsOK its :=
  fun x hx => h x (List.mem_cons_of_mem _ hx)

theorem Lay.start_le {s s' e : Nat} {rs : List ColRec} (h : Lay s rs e) (hs : s' ≤ s) : Lay s' rs e := by
  cases rs with
  | nil => exact Nat.le_trans hs h
  | cons r rs => exact ⟨Nat.le_trans hs h.1, h.2⟩

theorem Lay.le {s e : Nat} {rs : List ColRec} (h : Lay s rs e) : s ≤ e := by
  induction rs generalizing s with
  | nil => exact h
  | cons r rs ih => have := ih h.2.2.2.2; have := h.1; omega

theorem Lay.append {s e e' : Nat} {rs ss : List ColRec} (h1 : Lay s rs e) (h2 : Lay e ss e') : Lay s (rs ++ ss) e' := by
  induction rs generalizing s with
  | nil => exact h2.start_le h1
  | cons r rs ih => exact ⟨h1.1, h1.2.1, h1.2.2.1, h1.2.2.2.1, ih h1.2.2.2.2⟩

theorem Lay.mem {s e : Nat} {rs : List ColRec} (h : Lay s rs e) {r : ColRec} (hr : r ∈ rs) :
    s ≤ r.offset ∧ r.offset % r.align = 0 ∧ r.offset + r.size ≤ e ∧ 0 < r.size ∧ 0 < r.align := by
  induction rs generalizing s with
  | nil => cases hr
  | cons r' rs ih =>
    rcases List.mem_cons.mp hr with rfl | hr
    · exact ⟨h.1, h.2.1, h.2.2.2.2.le, h.2.2.1, h.2.2.2.1⟩
    · have h3 := ih h.2.2.2.2 hr
      have h4 := h.1
      exact ⟨by omega, h3.2.1, h3.2.2.1, h3.2.2.2⟩

theorem Lay.pairwise {s e : Nat} {rs : List ColRec} (h : Lay s rs e) :
    rs.Pairwise (fun r1 r2 => r1.offset + r1.size ≤ r2.offset) := by
  induction rs generalizing s with
  | nil => exact List.Pairwise.nil
  | cons r rs ih =>
    refine List.Pairwise.cons ?_ (ih h.2.2.2.2)
    intro r2 hr2
    exact (h.2.2.2.2.mem hr2).1

theorem Lay.pairwise_lt {s e : Nat} {rs : List ColRec} (h : Lay s rs e) :
    rs.Pairwise (fun r1 r2 => r1.offset < r2.offset) :=
  h.pairwise.imp_of_mem fun h1 _ hle => Nat.lt_of_lt_of_le (Nat.lt_add_of_pos_right (h.mem h1).2.2.2.1) hle

theorem lay_place (items : List Item) (off : Nat) (h : ItemsOK items) :
    Lay off (place items off) (endOf items off) := by
  induction items generalizing off with
  | nil => exact Nat.le_refl _
  | cons it its ih =>
    have hi := h it List.mem_cons_self
    exact ⟨le_ceil off it.align hi.2, ceil_mod _ _, hi.1, hi.2, ih _ h.tail⟩

/-- bytes requested by an `Add` call, padding included -/
def weight (items : List Item) : Nat := (items.map (fun it => it.size + it.align)).sum

theorem endOf_le (items : List Item) (off : Nat) (h : ItemsOK items) : endOf items off ≤ off + weight items := by
  induction items generalizing off with
  | nil => simp [endOf, weight]
  | cons it its ih =>
    have hi := h it List.mem_cons_self
    have := ih (ceil off it.align + it.size) h.tail
    have := ceil_lt off it.align hi.2
    simp only [endOf, weight, List.map_cons, List.sum_cons] at *
    omega

/-- the record `r` can be looked up in the addends `a` under code parameter `param`: both vertices of its code are visited (non-zero, what
`Contains` tests) and `pvGetOffset` answers its offset. `Sat` (ColumnsDfs) for the record's edge, read back at column level. -/
def Looks (c : Cfg) (param : Nat) (a : Array Nat) (r : ColRec) : Prop :=
  a.getD (getVertices c r.code param).1 0 ≠ 0 ∧ a.getD (getVertices c r.code param).2 0 ≠ 0 ∧
  getOffsetWith c param a r.code = r.offset

/-- `Looks` with `getOffsetWith`, `add64` and `W` unfolded, as the C18 statements write it -/
theorem Looks.spelled {c : Cfg} {param : Nat} {a : Array Nat} {r : ColRec} (h : Looks c param a r) :
    a.getD (getVertices c r.code param).1 0 ≠ 0 ∧ a.getD (getVertices c r.code param).2 0 ≠ 0 ∧
    (a.getD (getVertices c r.code param).1 0 + a.getD (getVertices c r.code param).2 0) % 2 ^ 64 = r.offset := h

/-- `Tiles s frs e`: the function records `frs` cut the column indices `[s, e)` into consecutive groups, in order, without gap;
`groupsOf_all` (ColumnsRows) turns it into "the groups are the columns". -/
def Tiles : Nat → List FuncRec → Nat → Prop
  | s, [], e => s = e
  | s, fr :: frs, e => fr.columnIndex = s ∧ Tiles (s + fr.count) frs e

theorem Tiles.snoc {s e k : Nat} {frs : List FuncRec} (h : Tiles s frs e) : Tiles s (frs ++ [⟨e, k⟩]) (e + k) := by
  induction frs generalizing s with
  | nil => cases h; exact ⟨rfl, rfl⟩
  | cons fr frs ih => exact ⟨h.1, ih h.2⟩

theorem Tiles.le {s e : Nat} {frs : List FuncRec} (h : Tiles s frs e) : s ≤ e := by
  induction frs generalizing s with
  | nil => cases h; exact Nat.le_refl _
  | cons fr frs ih => have := ih h.2; omega

/-- The invariant of a `DataColumnList` between `Add` calls. `param_le`: the committed code parameter is one the retry loop may use;
`align`: `mAlignment` is the running maximum that `pvAddEdges` computes (`alignOf`, a function of `Item`s, so the records are read back
as items: `alignOf_place`), started at 1; `count_le`: `maxColumnCount`. -/
structure Inv (c : Cfg) (st : State) : Prop where
  param_le : st.codeParam ≤ Extracted.colMaxCodeParam
  size : st.addends.size = c.N
  lay : Lay c.rowSlot st.columns st.totalSize
  looks : ∀ r ∈ st.columns, Looks c st.codeParam st.addends r
  codes : st.codeSet = st.columns.map (·.code)
  align : st.alignment = alignOf (st.columns.map (fun r => (⟨r.code, r.size, r.align, false⟩ : Item))) 1
  funcs : Tiles 0 st.funcRecs st.columns.length
  count_le : st.columns.length ≤ c.maxColumns

theorem init_inv (c : Cfg) : Inv c (init c) :=
  { param_le := Nat.zero_le _
    size := by simp [init]
    lay := Nat.le_refl _
    looks := by intro r hr; cases hr
    codes := rfl
    align := rfl
    funcs := rfl
    count_le := Nat.zero_le _ }

theorem fillAddends_spec (c : Cfg) (st : State) (items : List Item) (param : Nat)
    (hinv : Inv c st) (hitems : ItemsOK items) (hL : Extracted.colLogVertexMin ≤ c.L)
    (hp : param ≤ Extracted.colMaxCodeParam) (hB : (c.N + 1) * endOf items st.totalSize < H) :
    (fillAddends c st items param).1 ≠ .fuel ∧
    ∀ a off al, fillAddends c st items param = (.ok a, off, al) →
      off = endOf items st.totalSize ∧ al = alignOf items st.alignment ∧ a.size = c.N ∧
      ∀ r ∈ st.columns ++ place items st.totalSize, Looks c param a r := by
  have hlay : Lay c.rowSlot (st.columns ++ place items st.totalSize) (endOf items st.totalSize) :=
    hinv.lay.append (lay_place items _ hitems)
  have hg := graph_ok c param hL hp (st.columns ++ place items st.totalSize) (endOf items st.totalSize)
    (fun r hr => by have := (hlay.mem hr).2.2.1; omega)
  have hf := fill_spec _ c.N (endOf items st.totalSize) hB hg
  unfold fillAddends
  rw [buildGraph_eq]
  refine ⟨hf.1, ?_⟩
  intro a off al h
  simp only [Prod.mk.injEq] at h
  obtain ⟨h1, h2, h3⟩ := h
  obtain ⟨hsz, hsat⟩ := hf.2 a h1
  refine ⟨h2.symm, h3.symm, hsz, ?_⟩
  intro r hr
  have hmem : (⟨(getVertices c r.code param).2, r.offset⟩ : Edge) ∈
      (oldEdges c param (st.columns ++ place items st.totalSize) (Array.replicate c.N [])).getD
        (getVertices c r.code param).1 [] := by
    rw [oldEdges_mem c param hL hp _ _ (by simp)]
    exact Or.inr ⟨r, hr, Or.inl ⟨rfl, rfl⟩⟩
  exact hsat _ _ hmem

theorem tryParams_spec (c : Cfg) (st : State) (items : List Item)
    (hinv : Inv c st) (hitems : ItemsOK items) (hL : Extracted.colLogVertexMin ≤ c.L)
    (hB : (c.N + 1) * endOf items st.totalSize < H) :
    ∀ n p, p + n ≤ Extracted.colMaxCodeParam + 1 →
      tryParams c st items n p ≠ .fuel ∧
      (∀ param a off al, tryParams c st items n p = .found param a off al →
        p ≤ param ∧ param ≤ Extracted.colMaxCodeParam ∧ fillAddends c st items param = (.ok a, off, al)) ∧
      (tryParams c st items n p = .none →
        ∀ param, p ≤ param → param < p + n → (fillAddends c st items param).1 = .bad) := by
  intro n
  induction n with
  | zero => exact fun p _ => ⟨nofun, nofun, fun _ param h1 h2 => absurd h1 (Nat.not_le_of_lt h2)⟩
  | succ n ih =>
    intro p hp
    have hp' : p ≤ Extracted.colMaxCodeParam := Nat.le_trans (Nat.le_add_right p n) (Nat.le_of_succ_le_succ hp)
    have hs := fillAddends_spec c st items p hinv hitems hL hp' hB
    unfold tryParams
    rcases hfa : fillAddends c st items p with ⟨r, off, al⟩
    rw [hfa] at hs
    cases r with
    | ok a =>
      refine ⟨nofun, ?_, nofun⟩
      intro param a' off' al' h
      cases h
      exact ⟨Nat.le_refl _, hp', hfa⟩
    | fuel => exact absurd rfl hs.1
    | bad =>
      -- the explicit test for the last parameter only fires when no attempt is left anyway
      have e : (if p + 1 > Extracted.colMaxCodeParam then Try.none else tryParams c st items n (p + 1)) =
          tryParams c st items n (p + 1) := by
        by_cases hc : p + 1 > Extracted.colMaxCodeParam
        · have : n = 0 := by omega
          subst this; exact if_pos hc
        · exact if_neg hc
      simp only
      rw [e]
      have := ih (p + 1) (Nat.le_trans (Nat.le_of_eq (Nat.add_right_comm p 1 n)) hp)
      refine ⟨this.1, fun param a off al h => ⟨Nat.le_of_succ_le (this.2.1 param a off al h).1, (this.2.1 param a off al h).2⟩, ?_⟩
      intro hn param h1 h2
      rcases Nat.eq_or_lt_of_le h1 with rfl | h1
      · rw [hfa]
      · exact this.2.2 hn param h1 (Nat.lt_of_lt_of_eq h2 (Nat.add_right_comm p n 1))

theorem addColumns_eq_place (c : Cfg) (param : Nat) (a : Array Nat) (items : List Item) (off : Nat)
    (h : ∀ r ∈ place items off, Looks c param a r) : addColumns c param a items = place items off := by
  induction items generalizing off with
  | nil => rfl
  | cons it its ih =>
    simp only [addColumns, place]
    have h0 := h ⟨it.code, ceil off it.align, it.size, it.align⟩ (by simp [place])
    rw [h0.2.2, ih (ceil off it.align + it.size) (fun r hr => h r (by simp [place, hr]))]

/-- a second record with the same code would be looked up at the first one's offset -/
theorem codes_nodup {c : Cfg} {param : Nat} {a : Array Nat} {s e : Nat} {rs : List ColRec}
    (hlay : Lay s rs e) (hl : ∀ r ∈ rs, Looks c param a r) : (rs.map (·.code)).Nodup := by
  rw [List.nodup_iff_pairwise_ne, List.pairwise_map]
  refine List.Pairwise.imp_of_mem ?_ hlay.pairwise_lt
  intro r1 r2 h1 h2 hlt heq
  have e1 := (hl r1 h1).2.2
  have e2 := (hl r2 h2).2.2
  rw [heq, e2] at e1
  omega

def added (c : Cfg) (st : State) (items : List Item) (param : Nat) (a : Array Nat) : State :=
  { codeParam := param, addends := a, totalSize := endOf items st.totalSize,
    alignment := alignOf items st.alignment,
    codeSet := st.codeSet ++ items.map (·.code),
    columns := st.columns ++ place items st.totalSize,
    funcRecs := st.funcRecs ++ [⟨st.columns.length, items.length⟩],
    mutCount := mutBytes (endOf items st.totalSize),
    mutBits := st.mutBits ++ ((items.filter (·.mutable)).map (fun it => getOffsetWith c param a it.code)) }

/-- the retry loop of `pvAdd` may stop at `param` with addends `a` -/
def FoundAt (c : Cfg) (st : State) (items : List Item) (param : Nat) (a : Array Nat) : Prop :=
  st.codeParam ≤ param ∧ param ≤ Extracted.colMaxCodeParam ∧ (fillAddends c st items param).1 = .ok a

/-- The four ways `pvAdd` returns on a state with `Inv`: the complete case analysis (`add_spec`), with what each case knows; the model's
fifth outcome `unmodelled` does not occur. A refused call changes at most `mutCount`: the `insert` fault strikes after
`mMutableOffsets.SetCount`. -/
inductive AddCase (c : Cfg) (st : State) (items : List Item) (fault : Fault) : Prop
  /-- committed: only without a fault and when the count fits, at a parameter whose fill succeeds -/
  | ok (param : Nat) (a : Array Nat) (eq : add c st items fault = (added c st items param a, .ok)) (nofault : fault = .none)
      (fits : items.length + st.columns.length ≤ c.maxColumns)
      (inv : Inv c (added c st items param a)) (found : FoundAt c st items param a)
  /-- `std::logic_error("Too many columns")` -/
  | tooMany (eq : add c st items fault = (st, .tooMany)) (many : items.length + st.columns.length > c.maxColumns)
  /-- `std::runtime_error("Cannot add columns")`: the fill fails for every parameter left -/
  | cannot (eq : add c st items fault = (st, .cannot)) (fits : items.length + st.columns.length ≤ c.maxColumns)
      (bad : ∀ param, st.codeParam ≤ param → param ≤ Extracted.colMaxCodeParam → (fillAddends c st items param).1 = .bad)
  /-- an allocation fails after the retry loop has found its parameter (so the new codes are distinct from the old and from each other) -/
  | badAlloc (m : Nat) (eq : add c st items fault = ({ st with mutCount := m }, .badAlloc)) (faulty : fault ≠ .none)
      (fits : items.length + st.columns.length ≤ c.maxColumns)
      (nodup : ((st.columns ++ place items st.totalSize).map (·.code)).Nodup)
      (param : Nat) (a : Array Nat) (found : FoundAt c st items param a)

theorem add_spec (c : Cfg) (st : State) (items : List Item) (fault : Fault)
    (hinv : Inv c st) (hitems : ItemsOK items) (hL : Extracted.colLogVertexMin ≤ c.L)
    (hB : (c.N + 1) * endOf items st.totalSize < H) : AddCase c st items fault := by
  by_cases hmany : items.length + st.columns.length > c.maxColumns
  · exact .tooMany (by rw [add, if_pos hmany]) hmany
  · have hfit := Nat.le_of_not_lt hmany
    have hn := Nat.add_sub_of_le (Nat.le_succ_of_le hinv.param_le)
    have hts := tryParams_spec c st items hinv hitems hL hB
      (Extracted.colMaxCodeParam + 1 - st.codeParam) st.codeParam (Nat.le_of_eq hn)
    cases htr : tryParams c st items (Extracted.colMaxCodeParam + 1 - st.codeParam) st.codeParam with
    | none =>
      refine .cannot (by rw [add, if_neg hmany, htr]) hfit ?_
      intro param h1 h2
      exact hts.2.2 htr param h1 (hn ▸ Nat.lt_succ_of_le h2)
    | fuel => exact absurd htr hts.1
    | found param a off al =>
      obtain ⟨hge, hle, hfa⟩ := hts.2.1 param a off al htr
      have hfound : FoundAt c st items param a := ⟨hge, hle, by rw [hfa]⟩
      obtain ⟨rfl, rfl, hsz, hlooks⟩ := (fillAddends_spec c st items param hinv hitems hL hle hB).2 a off al hfa
      have hlay := hinv.lay.append (lay_place items _ hitems)
      have hnd := codes_nodup hlay hlooks
      cases fault with
      | reserve => exact .badAlloc st.mutCount (by rw [add, if_neg hmany, htr]) (by decide) hfit hnd param a hfound
      | insert => exact .badAlloc _ (by rw [add, if_neg hmany, htr]) (by decide) hfit hnd param a hfound
      | none =>
        refine .ok param a ?_ rfl hfit ?_ hfound
        · rw [add, if_neg hmany, htr, added]
          simp only
          rw [addColumns_eq_place c param a items st.totalSize (fun r hr => hlooks r (by simp [hr]))]
        · exact
            { param_le := hle
              size := hsz
              lay := hlay
              looks := hlooks
              codes := by simp only [added]; rw [hinv.codes, List.map_append, place_codes]
              align := by
                simp only [added]
                rw [List.map_append, alignOf_append, ← hinv.align, alignOf_place]
              funcs := by
                simp only [added, List.length_append, place_length]
                exact hinv.funcs.snoc
              count_le := by
                simp only [added, List.length_append, place_length]; exact Nat.add_comm _ _ ▸ hfit }

theorem Inv.codes_nodup {c : Cfg} {st : State} (h : Inv c st) : (st.columns.map (·.code)).Nodup :=
  Momo.Col.codes_nodup h.lay h.looks

theorem Inv.offsets_nodup {c : Cfg} {st : State} (h : Inv c st) : (st.columns.map (·.offset)).Nodup := by
  rw [List.nodup_iff_pairwise_ne, List.pairwise_map]
  exact h.lay.pairwise_lt.imp (fun hlt => Nat.ne_of_lt hlt)

theorem Inv.mutCount {c : Cfg} {st : State} (h : Inv c st) (x : Nat) : Inv c { st with mutCount := x } :=
  ⟨h.param_le, h.size, h.lay, h.looks, h.codes, h.align, h.funcs, h.count_le⟩

theorem Inv.alignment_cases {c : Cfg} {st : State} (h : Inv c st) :
    st.alignment = 1 ∨ ∃ r ∈ st.columns, st.alignment = r.align := by
  rw [h.align]
  rcases alignOf_cases (st.columns.map (fun r => (⟨r.code, r.size, r.align, false⟩ : Item))) 1 with h1 | ⟨it, hit, h1⟩
  · exact Or.inl h1
  · obtain ⟨r, hr, rfl⟩ := List.mem_map.mp hit
    exact Or.inr ⟨r, hr, h1⟩

theorem Inv.align_le {c : Cfg} {st : State} (h : Inv c st) {r : ColRec} (hr : r ∈ st.columns) : r.align ≤ st.alignment := by
  rw [h.align]
  exact mem_le_alignOf _ 1 (it := ⟨r.code, r.size, r.align, false⟩) (List.mem_map.mpr ⟨r, hr, rfl⟩)

theorem Inv.align_dvd {c : Cfg} {st : State} (h : Inv c st) (hpow : ∀ r ∈ st.columns, ∃ k, r.align = 2 ^ k) {r : ColRec}
    (hr : r ∈ st.columns) : r.align ∣ st.alignment := by
  obtain ⟨k, hk⟩ := hpow r hr
  obtain ⟨j, hj⟩ : ∃ j, st.alignment = 2 ^ j := by
    rcases h.alignment_cases with h1 | ⟨r', hr', h1⟩
    · exact ⟨0, h1⟩
    · obtain ⟨j, hj⟩ := hpow r' hr'; exact ⟨j, h1.trans hj⟩
  have hle := h.align_le hr
  rw [hk, hj] at hle ⊢
  exact Nat.pow_dvd_pow 2 ((Nat.pow_le_pow_iff_right (by decide)).mp hle)

theorem add_duplicate_refused (c : Cfg) (st : State) (items : List Item) (fault : Fault)
    (hinv : Inv c st) (hitems : ItemsOK items) (hL : Extracted.colLogVertexMin ≤ c.L)
    (hB : (c.N + 1) * endOf items st.totalSize < H)
    (hdup : ¬ (st.codeSet ++ items.map (·.code)).Nodup) :
    add c st items fault = (st, .tooMany) ∨ add c st items fault = (st, .cannot) := by
  have hnd : ¬ ((st.columns ++ place items st.totalSize).map (·.code)).Nodup := by
    rw [List.map_append, place_codes, ← hinv.codes]; exact hdup
  cases add_spec c st items fault hinv hitems hL hB with
  | ok _ _ _ _ _ inv _ => exact absurd inv.codes_nodup hnd
  | tooMany eq _ => exact Or.inl eq
  | cannot eq _ _ => exact Or.inr eq
  | badAlloc _ _ _ _ nodup _ _ _ => exact absurd nodup hnd

/-- bytes requested by a whole history, refused calls included (`Small` bounds it) -/
def histWeight (ops : List (List Item × Fault)) : Nat := (ops.map (fun op => weight op.1)).sum

/-- every call of the history names well-formed item types (`WellTyped` in the C18 statements) -/
def OpsOK (ops : List (List Item × Fault)) : Prop := ∀ op ∈ ops, ItemsOK op.1

/-- `run` from an arbitrary state (`run_eq`), so that histories can be split (`runFrom_append`) -/
def runFrom (c : Cfg) (st : State) (ops : List (List Item × Fault)) : State :=
  ops.foldl (fun st op => (add c st op.1 op.2).1) st

theorem run_eq (c : Cfg) (ops : List (List Item × Fault)) : run c ops = runFrom c (init c) ops := rfl

/-- the items of the calls of `ops` that answer `.ok` when run from `st`, in order: what the columns must be (`runFrom_spec`, compared
through `sigR` / `sigI`) -/
def addedItems (c : Cfg) : List (List Item × Fault) → State → List Item
  | [], _ => []
  | op :: ops, st =>
    (if (add c st op.1 op.2).2 = .ok then op.1 else []) ++ addedItems c ops (add c st op.1 op.2).1

/-- what a column record and the item it was made from have in common: code, size, alignment (`place_sig`) -/
def sigR (r : ColRec) : Nat × Nat × Nat := (r.code, r.size, r.align)
def sigI (it : Item) : Nat × Nat × Nat := (it.code, it.size, it.align)

theorem place_sig (items : List Item) (off : Nat) : (place items off).map sigR = items.map sigI :=
  place_map _ _ (fun _ _ => rfl) items off

theorem add_step (c : Cfg) (st : State) (items : List Item) (fault : Fault)
    (hinv : Inv c st) (hitems : ItemsOK items) (hL : Extracted.colLogVertexMin ≤ c.L)
    (hB : (c.N + 1) * endOf items st.totalSize < H) :
    Inv c (add c st items fault).1 ∧
    (add c st items fault).1.columns =
      st.columns ++ (if (add c st items fault).2 = .ok then place items st.totalSize else []) ∧
    (add c st items fault).1.totalSize ≤ st.totalSize + weight items := by
  cases add_spec c st items fault hinv hitems hL hB with
  | ok _ _ eq _ _ inv _ => rw [eq]; exact ⟨inv, by rw [if_pos rfl]; rfl, endOf_le items st.totalSize hitems⟩
  | tooMany eq _ => rw [eq]; exact ⟨hinv, by rw [if_neg nofun, List.append_nil], Nat.le_add_right _ _⟩
  | cannot eq _ _ => rw [eq]; exact ⟨hinv, by rw [if_neg nofun, List.append_nil], Nat.le_add_right _ _⟩
  | badAlloc m eq _ _ _ _ _ _ =>
    rw [eq]; exact ⟨hinv.mutCount m, by rw [if_neg nofun, List.append_nil], Nat.le_add_right _ _⟩

theorem runFrom_spec (c : Cfg) (hL : Extracted.colLogVertexMin ≤ c.L) :
    ∀ (ops : List (List Item × Fault)) (st : State), Inv c st → OpsOK ops →
      (c.N + 1) * (st.totalSize + histWeight ops) < H →
      Inv c (runFrom c st ops) ∧
      (∃ more, (runFrom c st ops).columns = st.columns ++ more ∧ more.map sigR = (addedItems c ops st).map sigI) ∧
      (runFrom c st ops).totalSize ≤ st.totalSize + histWeight ops := by
  intro ops
  induction ops with
  | nil => exact fun st h _ _ => ⟨h, ⟨[], (List.append_nil _).symm, rfl⟩, Nat.le_refl _⟩
  | cons op ops ih =>
    intro st hinv hok hB
    have hitems : ItemsOK op.1 := hok op List.mem_cons_self
    have hw : histWeight (op :: ops) = weight op.1 + histWeight ops := List.sum_cons
    rw [hw] at hB ⊢
    have hend := endOf_le op.1 st.totalSize hitems
    obtain ⟨hi, hcols, hts⟩ := add_step c st op.1 op.2 hinv hitems hL
      (Nat.lt_of_le_of_lt (Nat.mul_le_mul_left _ (by omega)) hB)
    obtain ⟨h1, ⟨more, h2, h3⟩, h4⟩ := ih _ hi (fun o ho => hok o (List.mem_cons_of_mem _ ho))
      (Nat.lt_of_le_of_lt (Nat.mul_le_mul_left _ (by omega)) hB)
    refine ⟨h1, ⟨_, by rw [← List.append_assoc, ← hcols]; exact h2, ?_⟩,
      Nat.le_trans h4 (Nat.le_trans (Nat.add_le_add_right hts _) (Nat.le_of_eq (Nat.add_assoc _ _ _)))⟩
    rw [addedItems, List.map_append, List.map_append, h3]
    by_cases hout : (add c st op.1 op.2).2 = .ok
    · rw [if_pos hout, if_pos hout, place_sig]
    · rw [if_neg hout, if_neg hout]; rfl

theorem runFrom_append (c : Cfg) (st : State) (ops more : List (List Item × Fault)) :
    runFrom c st (ops ++ more) = runFrom c (runFrom c st ops) more := by
  simp [runFrom, List.foldl_append]

theorem histWeight_append (ops more : List (List Item × Fault)) :
    histWeight (ops ++ more) = histWeight ops + histWeight more := by
  simp [histWeight]

/-- `OpsOK` under the name the C18 statements use -/
abbrev WellTyped (ops : List (List Item × Fault)) : Prop := OpsOK ops

theorem wellTyped_iff {ops : List (List Item × Fault)} : WellTyped ops ↔ OpsOK ops := Iff.rfl

/-- the one size hypothesis of C18: all bytes ever requested (padding included, refused calls included) plus the row-number slot, times
`2^L + 1`, stay below `2^63`. It keeps the 64-bit offsets from wrapping and is the `(n + 1) * B < H` that the fill needs (ColumnsDfs). -/
def Small (c : Cfg) (ops : List (List Item × Fault)) : Prop :=
  (c.N + 1) * (c.rowSlot + histWeight ops) < H

theorem run_inv (c : Cfg) (hL : Extracted.colLogVertexMin ≤ c.L) (ops : List (List Item × Fault))
    (hok : WellTyped ops) (hs : Small c ops) : Inv c (run c ops) :=
  (runFrom_spec c hL ops (init c) (init_inv c) (wellTyped_iff.mp hok) hs).1

theorem run_split (c : Cfg) (hL : Extracted.colLogVertexMin ≤ c.L) (ops more : List (List Item × Fault))
    (hok : WellTyped (ops ++ more)) (hs : Small c (ops ++ more)) :
    Inv c (run c ops) ∧ WellTyped more ∧ (c.N + 1) * ((run c ops).totalSize + histWeight more) < H ∧
    run c (ops ++ more) = runFrom c (run c ops) more := by
  unfold Small at hs
  rw [histWeight_append] at hs
  have hs1 : Small c ops := Nat.lt_of_le_of_lt (Nat.mul_le_mul_left _ (by omega)) hs
  have hr := runFrom_spec c hL ops (init c) (init_inv c) (fun o ho => hok o (by simp [ho])) hs1
  have hts : (run c ops).totalSize ≤ c.rowSlot + histWeight ops := hr.2.2
  exact ⟨hr.1, fun o ho => hok o (by simp [ho]), Nat.lt_of_le_of_lt (Nat.mul_le_mul_left _ (by omega)) hs,
    by rw [run_eq, runFrom_append]; rfl⟩

theorem run_next (c : Cfg) (hL : Extracted.colLogVertexMin ≤ c.L) (ops : List (List Item × Fault))
    (items : List Item) (fault : Fault) (hok : WellTyped (ops ++ [(items, fault)])) (hs : Small c (ops ++ [(items, fault)])) :
    Inv c (run c ops) ∧ ItemsOK items ∧ (c.N + 1) * endOf items (run c ops).totalSize < H := by
  obtain ⟨hinv, hok2, hB, _⟩ := run_split c hL ops [(items, fault)] hok hs
  have hitems : ItemsOK items := hok2 (items, fault) (List.mem_singleton.mpr rfl)
  have hw : histWeight [(items, fault)] = weight items := Nat.add_zero _
  rw [hw] at hB
  exact ⟨hinv, hitems, Nat.lt_of_le_of_lt (Nat.mul_le_mul_left _ (endOf_le items _ hitems)) hB⟩

theorem lookup_spec {c : Cfg} {st : State} (h : Inv c st) {r : ColRec} (hr : r ∈ st.columns) :
    getOffset c st r.code = r.offset := (h.looks r hr).2.2

theorem contains_added {c : Cfg} {st : State} (h : Inv c st) {r : ColRec} (hr : r ∈ st.columns) :
    contains c st r.code = some r.offset := by
  have hl := h.looks r hr
  unfold contains
  have h1 : ¬ (st.addends.getD (getVertices c r.code st.codeParam).1 0 = 0
      ∨ st.addends.getD (getVertices c r.code st.codeParam).2 0 = 0) := by
    intro hh; rcases hh with hh | hh
    · exact hl.1 hh
    · exact hl.2.1 hh
  rw [if_neg h1]
  have h2 : st.codeSet.contains r.code = true := by
    rw [List.contains_iff_mem, h.codes]; exact List.mem_map_of_mem hr
  rw [if_pos h2, lookup_spec h hr]

theorem runFrom_stable (c : Cfg) (hL : Extracted.colLogVertexMin ≤ c.L) (more : List (List Item × Fault)) (st : State)
    (hinv : Inv c st) (hok : OpsOK more) (hB : (c.N + 1) * (st.totalSize + histWeight more) < H) :
    (∃ newer, (runFrom c st more).columns = st.columns ++ newer) ∧
    ∀ r ∈ st.columns, getOffset c (runFrom c st more) r.code = r.offset ∧ contains c (runFrom c st more) r.code = some r.offset := by
  obtain ⟨hi, ⟨newer, h1, _⟩, _⟩ := runFrom_spec c hL more st hinv hok hB
  refine ⟨⟨newer, h1⟩, fun r hmem => ?_⟩
  have hmem2 : r ∈ (runFrom c st more).columns := by rw [h1]; exact List.mem_append_left _ hmem
  exact ⟨lookup_spec hi hmem2, contains_added hi hmem2⟩

theorem contains_not_added {c : Cfg} {st : State} (h : Inv c st) {code : Nat}
    (hc : code ∉ st.columns.map (·.code)) : contains c st code = none := by
  unfold contains
  split
  · rfl
  · have : ¬ st.codeSet.contains code = true := by
      rw [List.contains_iff_mem, h.codes]; exact hc
    rw [if_neg this]

end Momo.Col
