import Momo.Proof.ArrFaultStrong
/-!
  C04 / C10: the loops of `ArrayShifter` as programs of primitive statements.
  * a program run without a fault is the corresponding loop of `Momo.Arr` (`runPrims_progN`, `runPrims_progR`, ...)
  * under any fault schedule a program stops after a prefix of its statements; every statement keeps
    "number of constructed objects = number of cells" (`execPrims_spec`).
-/
namespace Momo.ArrF
open Momo Momo.Arr
open FM (throw tryCatch)
variable {α β γ : Type}

-- `Post` is used through its lemmas only (the reason is given in `ArrFault.lean`)
attribute [local irreducible] Post

def adds : List (Prim α) → Nat
  | [] => 0
  | p :: ps => (if p.adds then 1 else 0) + adds ps

theorem adds_append : ∀ (ps qs : List (Prim α)), adds (ps ++ qs) = adds ps + adds qs
  | [], _ => (Nat.zero_add _).symm
  | _ :: ps, qs => (congrArg (_ + ·) (adds_append ps qs)).trans (Nat.add_assoc ..).symm

theorem runPrims_append (keeps : Bool) : ∀ (ps qs : List (Prim α)) (a : Cells α),
    runPrims keeps a (ps ++ qs) = runPrims keeps (runPrims keeps a ps) qs
  | [], _, _ => rfl
  | _ :: ps, qs, _ => runPrims_append keeps ps qs _

theorem Prim.apply_length (keeps : Bool) (a : Cells α) (p : Prim α) :
    (p.apply keeps a).length = a.length + (if p.adds then 1 else 0) := by
  cases p <;> simp [Prim.apply, Prim.adds, addBackMove_length, assignMove_length, addBackFrom_length, assignFrom_length]

theorem runPrims_length (keeps : Bool) : ∀ (ps : List (Prim α)) (a : Cells α),
    (runPrims keeps a ps).length = a.length + adds ps
  | [], _ => rfl
  | p :: ps, a => by rw [runPrims, runPrims_length keeps ps, Prim.apply_length, adds, Nat.add_assoc]

/-! Program and loop unfold in step, so each successor case below is the induction hypothesis. -/

theorem runPrims_prog1 (keeps : Bool) : ∀ (c : Nat) (a : Cells α) (i : Nat),
    runPrims keeps a (prog1 i c) = loop1 keeps a i c
  | 0, _, _ => rfl
  | c+1, _, _ => runPrims_prog1 keeps c _ _

theorem runPrims_prog2 (keeps : Bool) (count : Nat) : ∀ (f : Nat) (a : Cells α) (i : Nat),
    runPrims keeps a (prog2 count i f) = loop2 keeps a count i f
  | 0, _, _ => rfl
  | f+1, _, _ => runPrims_prog2 keeps count f _ _

theorem runPrims_prog3 (keeps : Bool) (item : Ref α) : ∀ (c : Nat) (a : Cells α) (i : Nat),
    runPrims keeps a (prog3 item i c) = loop3 a item i c
  | 0, _, _ => rfl
  | c+1, _, _ => runPrims_prog3 keeps item c _ _

theorem runPrims_progA (keeps : Bool) (item : Ref α) : ∀ (c : Nat) (a : Cells α),
    runPrims keeps a (progA item c) = loopA a item c
  | 0, _ => rfl
  | c+1, _ => runPrims_progA keeps item c _

theorem runPrims_progB (keeps : Bool) (item : Ref α) : ∀ (c : Nat) (a : Cells α) (i : Nat),
    runPrims keeps a (progB item i c) = loopB keeps a item i c
  | 0, _, _ => rfl
  | c+1, _, _ => runPrims_progB keeps item c _ _

theorem runPrims_progN (keeps : Bool) (a : Cells α) (index count : Nat) (item : Ref α) :
    runPrims keeps a (progN a.length index count item) = insertNogrowN keeps a index count item := by
  unfold progN insertNogrowN
  by_cases h0 : count = 0
  · rw [if_pos h0, if_pos h0]; rfl
  · rw [if_neg h0, if_neg h0]
    by_cases h : index + count < a.length
    · rw [if_pos h, if_pos h, runPrims_append, runPrims_append, runPrims_prog1, runPrims_prog2, runPrims_prog3]
    · rw [if_neg h, if_neg h, runPrims_append, runPrims_progA, runPrims_progB]

theorem runPrims_prog3R (keeps mv : Bool) : ∀ (rs : List (Ref α)) (a : Cells α) (i : Nat),
    runPrims keeps a (prog3R mv rs i) = loop3R keeps mv rs a i
  | [], _, _ => rfl
  | _ :: rs, _, _ => runPrims_prog3R keeps mv rs _ _

theorem runPrims_progAR (keeps mv : Bool) : ∀ (rs : List (Ref α)) (a : Cells α),
    runPrims keeps a (progAR mv rs) = loopAR keeps mv rs a
  | [], _ => rfl
  | _ :: rs, _ => runPrims_progAR keeps mv rs _

theorem runPrims_progBR (keeps mv : Bool) : ∀ (c : Nat) (rs : List (Ref α)) (a : Cells α) (i : Nat),
    runPrims keeps a (progBR mv c rs i) = loopBR keeps mv c rs a i
  | 0, _, _, _ => rfl
  | _+1, [], _, _ => rfl
  | c+1, _ :: rs, _, _ => runPrims_progBR keeps mv c rs _ _

theorem runPrims_progR (keeps mv : Bool) (a : Cells α) (index : Nat) (rs : List (Ref α)) :
    runPrims keeps a (progR mv a.length index rs) = insertNogrowR keeps mv a index rs := by
  unfold progR insertNogrowR progR.progBRA
  by_cases h0 : rs.length = 0
  · rw [if_pos h0, if_pos h0]; rfl
  · rw [if_neg h0, if_neg h0]
    by_cases h : index + rs.length < a.length
    · rw [if_pos h, if_pos h, runPrims_append, runPrims_append, runPrims_prog1, runPrims_prog2, runPrims_prog3R]
    · rw [if_neg h, if_neg h, runPrims_append, runPrims_progAR, runPrims_progBR]

theorem runPrims_progRem (keeps : Bool) (count : Nat) : ∀ (f : Nat) (a : Cells α) (i : Nat),
    runPrims keeps a (progRem count i f) = loopRem keeps a count i f
  | 0, _, _ => rfl
  | f+1, _, _ => runPrims_progRem keeps count f _ _

theorem adds_prog1 : ∀ (c i : Nat), adds (prog1 i c : List (Prim α)) = c
  | 0, _ => rfl
  | c+1, _ => (congrArg (1 + ·) (adds_prog1 c _)).trans (Nat.add_comm ..)

theorem adds_prog2 (count : Nat) : ∀ (f i : Nat), adds (prog2 count i f : List (Prim α)) = 0
  | 0, _ => rfl
  | f+1, _ => (Nat.zero_add _).trans (adds_prog2 count f _)

theorem adds_prog3 (item : Ref α) : ∀ (c i : Nat), adds (prog3 item i c) = 0
  | 0, _ => rfl
  | c+1, _ => (Nat.zero_add _).trans (adds_prog3 item c _)

theorem adds_progA (item : Ref α) : ∀ (c : Nat), adds (progA item c) = c
  | 0 => rfl
  | c+1 => (congrArg (1 + ·) (adds_progA item c)).trans (Nat.add_comm ..)

theorem adds_progB (item : Ref α) : ∀ (c i : Nat), adds (progB item i c) = c
  | 0, _ => rfl
  | c+1, _ => (congrArg (1 + ·) ((Nat.zero_add _).trans (adds_progB item c _))).trans (Nat.add_comm ..)

theorem adds_progN (n index count : Nat) (item : Ref α) (hi : index ≤ n) : adds (progN n index count item) = count := by
  unfold progN
  by_cases h0 : count = 0
  · rw [if_pos h0, h0]; rfl
  · rw [if_neg h0]
    by_cases h : index + count < n
    · rw [if_pos h, adds_append, adds_append, adds_prog1, adds_prog2, adds_prog3]; rfl
    · rw [if_neg h, adds_append, adds_progA, adds_progB]; omega

theorem adds_prog3R (mv : Bool) : ∀ (rs : List (Ref α)) (i : Nat), adds (prog3R mv rs i) = 0
  | [], _ => rfl
  | _ :: rs, _ => (Nat.zero_add _).trans (adds_prog3R mv rs _)

theorem adds_progAR (mv : Bool) : ∀ (rs : List (Ref α)), adds (progAR mv rs) = rs.length
  | [] => rfl
  | _ :: rs => (congrArg (1 + ·) (adds_progAR mv rs)).trans (Nat.add_comm ..)

theorem adds_progBR (mv : Bool) : ∀ (c : Nat) (rs : List (Ref α)) (i : Nat), adds (progBR mv c rs i) = min c rs.length
  | 0, _, _ => (Nat.zero_min _).symm
  | _+1, [], _ => rfl
  | c+1, _ :: rs, _ =>
    (congrArg (1 + ·) ((Nat.zero_add _).trans (adds_progBR mv c rs _))).trans
      ((Nat.add_comm ..).trans (Nat.succ_min_succ ..).symm)

theorem adds_progR (mv : Bool) (n index : Nat) (rs : List (Ref α)) (hi : index ≤ n) : adds (progR mv n index rs) = rs.length := by
  unfold progR progR.progBRA
  by_cases h0 : rs.length = 0
  · rw [if_pos h0, h0]; rfl
  · rw [if_neg h0]
    by_cases h : index + rs.length < n
    · rw [if_pos h, adds_append, adds_append, adds_prog1, adds_prog2, adds_prog3R]; rfl
    · rw [if_neg h, adds_append, adds_progAR, adds_progBR, List.length_drop]; omega

theorem adds_progRem (count : Nat) : ∀ (f i : Nat), adds (progRem count i f : List (Prim α)) = 0
  | 0, _ => rfl
  | f+1, _ => (Nat.zero_add _).trans (adds_progRem count f _)

theorem execPrim_spec (cfg : Cfg) (thr : Thr) (p : Prim α) (x : Sys α) :
    PostF (execPrim cfg thr p) x
      (fun _ y => y.arr = { x.arr with cells := p.apply cfg.keeps x.arr.cells } ∧ y.blocks = x.blocks ∧
        y.objs = x.objs + (if p.adds then 1 else 0) ∧ y.bad = x.bad)
      (fun y => y.core = x.core) := by
  unfold execPrim
  apply PostF.bind _ (tick_spec _ x)
  intro _ y hy
  obtain ⟨ya, yb, yo, ybad⟩ := (core_eq_iff ..).mp hy
  refine PostF.ite (fun h => ?_) fun h => ?_
  · rw [postF_step_bind (post_born _), postF_step (post_modifyCells _ _), if_pos h, ya]
    exact ⟨rfl, yb, congrArg (· + 1) yo, ybad⟩
  · rw [postF_step (post_modifyCells _ _), if_neg h, ya]
    exact ⟨rfl, yb, yo, ybad⟩

theorem execPrims_spec (cfg : Cfg) (thr : Thr) : ∀ (ps : List (Prim α)) (x : Sys α),
    PostF (execPrims cfg thr ps) x
      (fun _ y => y.arr = { x.arr with cells := runPrims cfg.keeps x.arr.cells ps } ∧ y.blocks = x.blocks ∧
        y.objs = x.objs + adds ps ∧ y.bad = x.bad)
      (fun y => ∃ n, n < ps.length ∧ y.arr = { x.arr with cells := runPrims cfg.keeps x.arr.cells (ps.take n) } ∧
        y.blocks = x.blocks ∧ y.objs = x.objs + adds (ps.take n) ∧ y.bad = x.bad)
  | [], x => .pure ⟨rfl, rfl, rfl, rfl⟩
  | p :: ps, x => by
    unfold execPrims
    apply PostF.bind' _ _ (execPrim_spec cfg thr p x)
    · intro y hy
      obtain ⟨ya, yb, yo, ybad⟩ := (core_eq_iff ..).mp hy
      exact ⟨0, Nat.zero_lt_succ _, ya, yb, yo, ybad⟩
    · rintro _ y ⟨ya, yb, yo, ybad⟩
      apply PostF.mono (execPrims_spec cfg thr ps y)
      · rintro _ z ⟨za, zb, zo, zbad⟩
        exact ⟨by rw [za, ya]; rfl, zb.trans yb, by rw [zo, yo, Nat.add_assoc]; rfl, zbad.trans ybad⟩
      · rintro z ⟨n, hn, za, zb, zo, zbad⟩
        exact ⟨n + 1, Nat.succ_lt_succ hn, by rw [za, ya]; rfl, zb.trans yb, by rw [zo, yo, Nat.add_assoc]; rfl,
          zbad.trans ybad⟩

theorem adds_take_le : ∀ (ps : List (Prim α)) (n : Nat), adds (ps.take n) ≤ adds ps
  | [], _ => by rw [List.take_nil]; exact Nat.le_refl _
  | _ :: _, 0 => Nat.zero_le _
  | _ :: ps, n+1 => Nat.add_le_add_left (adds_take_le ps n) _

end Momo.ArrF
