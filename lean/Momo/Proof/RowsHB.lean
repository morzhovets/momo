import Momo.Model.RowsHB
import Momo.Proof.RowsXfer
/-!
  Lemmas for the row hand-off model (C19), the vector-clock race detector: its clock operations (acquire, read-modify-write, user
  synchronisation, access: `acquire_spec` …); what one step does to the clocks (`hbStep_mono`: clocks only grow; `hbStep_last`: a block's
  last-access epoch changes only when it is accessed); the happens-before invariant `VInv` is preserved by every step, hence the detector
  follows every schedule without raising its flag (`runHB_no_race`).
-/
namespace Momo.Rows

/-- the access recorded in the epoch `e` happens-before whoever has the clock `v`: `HB.ordered` as a proposition (`ordered_iff`) -/
def epochLe (e : Option (Tid × Nat)) (v : VC) : Prop :=
  match e with
  | none => True
  | some (u, c) => c ≤ v u

theorem epochLe_mono {e : Option (Tid × Nat)} {v v' : VC} (h : epochLe e v) (hm : ∀ u, v u ≤ v' u) : epochLe e v' := by
  cases e with
  | none => trivial
  | some p => obtain ⟨u, c⟩ := p; exact Nat.le_trans h (hm u)

theorem ordered_iff {hb : HB} {t : Tid} {r : Row} : hb.ordered t r = true ↔ epochLe (hb.last r) (hb.vc t) := by
  unfold HB.ordered epochLe
  cases hb.last r with
  | none => simp
  | some p => obtain ⟨u, c⟩ := p; simp

theorem join_left (a b : VC) (u : Tid) : a u ≤ (a.join b) u := Nat.le_max_left _ _
theorem join_right (a b : VC) (u : Tid) : b u ≤ (a.join b) u := Nat.le_max_right _ _
theorem tick_le (a : VC) (t u : Tid) : a u ≤ (a.tick t) u := by
  unfold VC.tick; split <;> omega

theorem setVC_self (hb : HB) (t : Tid) (v : VC) : hb.setVC t v t = v := by simp [HB.setVC]
theorem setVC_ne (hb : HB) {t u : Tid} (v : VC) (h : u ≠ t) : hb.setVC t v u = hb.vc u := by simp [HB.setVC, h]

theorem setVC_mono (hb : HB) (t : Tid) (v : VC) (hv : ∀ u, hb.vc t u ≤ v u) (t' u : Tid) : hb.vc t' u ≤ hb.setVC t v t' u := by
  by_cases h : t' = t
  · subst h; rw [setVC_self]; exact hv u
  · rw [setVC_ne hb v h]; exact Nat.le_refl _

/-! What an operation leaves alone holds by `rfl` and is not stated. -/

theorem acquire_spec (hb : HB) (t : Tid) :
    (∀ t' u, hb.vc t' u ≤ (hb.acquire t).vc t' u) ∧ (∀ u, hb.headVC u ≤ (hb.acquire t).vc t u) := by
  refine ⟨fun t' u => setVC_mono hb t _ (fun u => join_left _ _ u) t' u, fun u => ?_⟩
  show hb.headVC u ≤ hb.setVC t _ t u
  rw [setVC_self]; exact join_right _ _ u

theorem rmw_spec (hb : HB) (t : Tid) :
    (∀ t' u, hb.vc t' u ≤ (hb.rmw t).vc t' u) ∧ (∀ u, hb.headVC u ≤ (hb.rmw t).headVC u) ∧
    (∀ u, hb.headVC u ≤ (hb.rmw t).vc t u) ∧ (∀ u, hb.vc t u ≤ (hb.rmw t).headVC u) := by
  refine ⟨fun t' u => setVC_mono hb t _ (fun u => Nat.le_trans (join_left _ _ u) (tick_le _ _ _)) t' u,
    fun u => join_right _ _ u, fun u => ?_, fun u => join_left _ _ u⟩
  show hb.headVC u ≤ hb.setVC t _ t u
  rw [setVC_self]; exact Nat.le_trans (join_right _ _ u) (tick_le _ _ _)

theorem sync_spec (hb : HB) (t u : Tid) :
    (∀ t' x, hb.vc t' x ≤ (hb.sync t u).vc t' x) ∧ (∀ x, hb.vc t x ≤ (hb.sync t u).vc u x) := by
  have h1 : ∀ t' x, hb.vc t' x ≤ hb.setVC t ((hb.vc t).tick t) t' x :=
    fun t' x => setVC_mono hb t _ (fun x => tick_le _ _ _) t' x
  refine ⟨fun t' x => ?_, fun x => ?_⟩
  · refine Nat.le_trans (h1 t' x) ?_
    exact setVC_mono { hb with vc := hb.setVC t ((hb.vc t).tick t) } u _ (fun x => join_left _ _ x) t' x
  · show hb.vc t x ≤ HB.setVC { hb with vc := hb.setVC t ((hb.vc t).tick t) } u _ u x
    rw [setVC_self]; exact join_right _ _ x

theorem touch_spec (hb : HB) (t : Tid) (r : Row) :
    (hb.touch t r).last r = some (t, hb.vc t t) ∧ (∀ x, x ≠ r → (hb.touch t r).last x = hb.last x) :=
  ⟨by simp [HB.touch], fun x hx => by simp [HB.touch, hx]⟩

theorem touchAll_spec (hb : HB) (l : List (Tid × Row)) :
    (hb.touchAll l).vc = hb.vc ∧ (hb.touchAll l).headVC = hb.headVC ∧
    (∀ x, (hb.touchAll l).last x = hb.last x ∨ ∃ t, (t, x) ∈ l ∧ (hb.touchAll l).last x = some (t, hb.vc t t)) := by
  match l with
  | [] => exact ⟨rfl, rfl, fun x => Or.inl rfl⟩
  | [(t, r)] =>
    refine ⟨rfl, rfl, fun x => ?_⟩
    by_cases hx : x = r
    · subst hx; exact Or.inr ⟨t, by simp, (touch_spec hb t x).1⟩
    · exact Or.inl ((touch_spec hb t r).2 x hx)
  | _ :: _ :: _ => exact ⟨rfl, rfl, fun x => Or.inl rfl⟩

theorem hbStep_cases (s : St) (hb : HB) (a : Act) :
    (∃ t, hbStep s hb a = hb.acquire t) ∨ (∃ t, hbStep s hb a = hb.rmw t) ∨ (∃ t u, hbStep s hb a = hb.sync t u) ∨
    (∃ r g, a = .grow r g ∧ hbStep s hb a = hb.touch 0 r) ∨ hbStep s hb a = hb.touchAll (accesses s a) := by
  cases a with
  | newBegin => exact Or.inl ⟨0, rfl⟩
  | exchange => exact Or.inr (Or.inl ⟨0, rfl⟩)
  | dLoad t => exact Or.inl ⟨t, rfl⟩
  | dCas t sp =>
    simp only [hbStep]
    split
    · split
      · exact Or.inr (Or.inl ⟨t, rfl⟩)
      · exact Or.inl ⟨t, rfl⟩
    · exact Or.inr (Or.inr (Or.inr (Or.inr rfl)))
  | handoff r t u => exact Or.inr (Or.inr (Or.inl ⟨t, u, rfl⟩))
  | grow r g => exact Or.inr (Or.inr (Or.inr (Or.inl ⟨r, g, rfl, rfl⟩)))
  | _ => exact Or.inr (Or.inr (Or.inr (Or.inr rfl)))

theorem hbStep_mono (s : St) (hb : HB) (a : Act) :
    (∀ t u, hb.vc t u ≤ (hbStep s hb a).vc t u) ∧ (∀ u, hb.headVC u ≤ (hbStep s hb a).headVC u) := by
  rcases hbStep_cases s hb a with ⟨t, e⟩ | ⟨t, e⟩ | ⟨t, u, e⟩ | ⟨r, g, _, e⟩ | e <;> rw [e]
  · exact ⟨(acquire_spec hb t).1, fun _ => Nat.le_refl _⟩
  · exact ⟨(rmw_spec hb t).1, (rmw_spec hb t).2.1⟩
  · exact ⟨(sync_spec hb t u).1, fun _ => Nat.le_refl _⟩
  · exact ⟨fun _ _ => Nat.le_refl _, fun _ => Nat.le_refl _⟩
  · rw [(touchAll_spec hb _).1, (touchAll_spec hb _).2.1]
    exact ⟨fun _ _ => Nat.le_refl _, fun _ => Nat.le_refl _⟩

theorem hbStep_last (s : St) (hb : HB) (a : Act) (x : Row) :
    (hbStep s hb a).last x = hb.last x ∨
    ∃ t, (hbStep s hb a).last x = some (t, hb.vc t t) ∧ (hbStep s hb a).vc = hb.vc ∧ (hbStep s hb a).headVC = hb.headVC ∧
      ((t, x) ∈ accesses s a ∨ (t = 0 ∧ ∃ g, a = .grow x g)) := by
  rcases hbStep_cases s hb a with ⟨t, e⟩ | ⟨t, e⟩ | ⟨t, u, e⟩ | ⟨r, g, ha, e⟩ | e <;> rw [e]
  · exact Or.inl rfl
  · exact Or.inl rfl
  · exact Or.inl rfl
  · by_cases hx : x = r
    · subst hx
      exact Or.inr ⟨0, (touch_spec hb 0 x).1, rfl, rfl, Or.inr ⟨rfl, g, ha⟩⟩
    · exact Or.inl ((touch_spec hb 0 r).2 x hx)
  · rcases (touchAll_spec hb (accesses s a)).2.2 x with h | ⟨t, ht, hl⟩
    · exact Or.inl h
    · exact Or.inr ⟨t, hl, (touchAll_spec hb _).1, (touchAll_spec hb _).2.1, Or.inl ht⟩

/-- the happens-before invariant: whoever may touch a block has the block's last access in its past; the last
access of a published block is in the past of what was released into the list head -/
structure VInv (s : St) (hb : HB) : Prop where
  held : ∀ t r, Holds s t r → epochLe (hb.last r) (hb.vc t)
  pub  : ∀ r, r ∈ s.L → epochLe (hb.last r) hb.headVC

theorem VInv_init (n : Nat) : VInv (init n) HB.init :=
  ⟨fun _ _ _ => trivial, fun _ _ => trivial⟩

theorem raceFree_of_VInv {s s' : St} {hb : HB} {a : Act} (hs : Step s a s') (hI : RInv s) (hV : VInv s hb) :
    raceFree s hb a = true := by
  unfold raceFree
  rw [List.all_eq_true]
  intro p hp
  obtain ⟨t, r⟩ := p
  exact ordered_iff.mpr (hV.held t r (access_holds hs hI hp))

theorem VInv_step {s s' : St} {hb : HB} {a : Act} (hS : Step s a s') (hI : RInv s) (hV : VInv s hb) :
    VInv s' (hbStep s hb a) := by
  have hmono := hbStep_mono s hb a
  constructor
  · intro u x hu
    -- a block touched in this step is touched by its holder
    have touched : ∀ t, ((t, x) ∈ accesses s a ∨ (t = 0 ∧ ∃ g, a = .grow x g)) → Holds s u x → t = u := by
      intro t ht hux
      rcases ht with ht | ⟨_, g, hg⟩
      · exact Holds_exclusive hI (access_holds hS hI ht) hux
      · -- fresh memory is held by nobody before
        subst hg
        cases hS with
        | grow r g' hm hr => exact absurd (Holds_mem_places hux) hr
    rcases (Holds_step hS hI u x).1 hu with hb0 | ⟨ha, hu0, hL⟩ | ⟨t, ha, hd⟩ | ⟨g, ha, hu0, hf⟩
    · -- the same thread held it before
      rcases hbStep_last s hb a x with hl | ⟨t, hl, hvc, _, ht⟩
      · rw [hl]; exact epochLe_mono (hV.held u x hb0) (hmono.1 u)
      · have : t = u := touched t ht hb0
        subst this
        rw [hl, hvc]; exact Nat.le_refl _
    · -- taken from the list by the owner's exchange
      subst ha; subst hu0
      exact epochLe_mono (hV.pub x hL) (rmw_spec hb 0).2.2.1
    · -- the row object was handed over
      subst ha
      exact epochLe_mono (hV.held t x (Or.inr (Or.inl hd))) (sync_spec hb t u).2
    · -- fresh memory
      subst ha; subst hu0
      show epochLe ((hb.touch 0 x).last x) (hb.vc 0)
      rw [(touch_spec hb 0 x).1]; exact Nat.le_refl _
  · intro r hr
    -- a block that stays on the list is not touched
    have untouched : r ∈ s.L → (hbStep s hb a).last r = hb.last r := by
      intro hrL
      rcases hbStep_last s hb a r with hl | ⟨t, _, _, _, ht⟩
      · exact hl
      · exfalso
        rcases ht with ht | ⟨_, g, hg⟩
        · exact Holds_not_published hI (access_holds hS hI ht) hrL
        · subst hg
          cases hS with
          | grow r' g' hm hf => exact hf (mem_places_iff.mpr (Or.inr (Or.inr (Or.inr (Or.inr (Or.inl hrL))))))
    have keep : r ∈ s.L → epochLe ((hbStep s hb a).last r) (hbStep s hb a).headVC := fun hrL => by
      rw [untouched hrL]; exact epochLe_mono (hV.pub r hrL) hmono.2
    cases hS with
    | exchange b hm => cases hr
    | dCasOk t r0 h hpc hh =>
      rcases List.mem_cons.mp hr with rfl | hr
      · have hstep : hbStep s hb (.dCas t false) = hb.rmw t := by
          simp only [hbStep, hpc, hh, and_self, if_true]
        rw [hstep]
        exact epochLe_mono (hV.held t r (Or.inr (Or.inr ⟨_, hpc, rfl⟩))) (rmw_spec hb t).2.2.2
      · exact keep hr
    | _ => exact keep hr

theorem runHB_no_race : ∀ (acts : List Act) (s s' : St) (hb : HB) (racy : Bool), RInv s → VInv s hb →
    run s acts = some s' → ∃ hb', runHB s hb racy acts = some (s', hb', racy)
  | [], s, s', hb, racy, _, _, h => by cases h; exact ⟨hb, rfl⟩
  | a :: as, s, s', hb, racy, hI, hV, h => by
    rw [run_cons] at h
    obtain ⟨s1, hs, h⟩ := Option.bind_eq_some_iff.mp h
    obtain ⟨hb', h'⟩ := runHB_no_race as s1 s' (hbStep s hb a) racy (RInv_step (step_sound hs) hI) (VInv_step (step_sound hs) hI hV) h
    refine ⟨hb', ?_⟩
    simp only [runHB, hs, raceFree_of_VInv (step_sound hs) hI hV, Bool.not_true, Bool.or_false]
    exact h'

end Momo.Rows
