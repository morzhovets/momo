import Momo.Model.Columns
/-!
# Soundness and termination of the depth-first fill of the addends (`Graph::FillAddends`,
`pvFillAddends`, DataColumn.h l.834-854 and l.1174-1187) — lemmas for C18

The invariant that makes the 64-bit arithmetic exact (`Bd`): every non-zero addend lies within `(number of non-zero addends) * B`
of the root value `2^63`, where `B` bounds the edge values (offsets). With `(n + 1) * B < 2^63` no assignment can produce `0` (which
the C++ reads as "unvisited"), so every assignment turns a zero into a non-zero and the recursion depth is bounded by the number of
zero addends (`zeros`). Soundness: each part of the fill (an edge loop, a recursive call, the root loop) stands in the preorder `Grow`
to the addends it started from, so the parts compose by transitivity.
-/
namespace Momo.Col

/-- the measure of the recursion -/
def zeros (a : Array Nat) : Nat := a.toList.count 0

theorem getD_set {α : Type} (a : Array α) (i j : Nat) (x d : α) :
    (a.setIfInBounds i x).getD j d = if i = j ∧ i < a.size then x else a.getD j d := by
  simp only [Array.getD_eq_getD_getElem?, Array.getElem?_setIfInBounds]
  by_cases h : i = j
  · subst h
    by_cases h2 : i < a.size
    · simp [h2]
    · simp [h2]
  · simp [h]

theorem getD_replicate {α : Type} (n w : Nat) (d : α) : (Array.replicate n d).getD w d = d := by
  simp only [Array.getD_eq_getD_getElem?, Array.getElem?_replicate]
  split <;> rfl

theorem lt_size_of_getD_ne (a : Array Nat) (i : Nat) (h : a.getD i 0 ≠ 0) : i < a.size := by
  apply Decidable.byContradiction
  intro hn
  apply h
  simp [Array.getD_eq_getD_getElem?, Nat.not_lt.mp hn]

theorem zeros_le (a : Array Nat) : zeros a ≤ a.size := by
  unfold zeros
  simpa using List.count_le_length (a := 0) (l := a.toList)

theorem getElem_of_getD {a : Array Nat} {i : Nat} (hi : i < a.size) (h0 : a.getD i 0 = 0) : a.toList[i]'(by simpa using hi) = 0 := by
  simpa [Array.getD_eq_getD_getElem?, hi] using h0

theorem zeros_pos {a : Array Nat} {i : Nat} (hi : i < a.size) (h0 : a.getD i 0 = 0) : 0 < zeros a :=
  List.count_pos_iff.mpr (getElem_of_getD hi h0 ▸ List.getElem_mem _)

theorem zeros_set (a : Array Nat) (i x : Nat) (hi : i < a.size) (h0 : a.getD i 0 = 0) (hx : x ≠ 0) :
    zeros (a.setIfInBounds i x) + 1 = zeros a := by
  have hpos := zeros_pos hi h0
  unfold zeros at hpos ⊢
  rw [Array.toList_setIfInBounds, List.count_set (by simpa using hi), getElem_of_getD hi h0]
  have : (x == 0) = false := by simpa using hx
  simp only [beq_self_eq_true, if_true, this, Bool.false_eq_true, if_false]
  omega

/-- what the fill needs of the graph of one attempt; `graph_ok` (ColumnsGraph) provides it -/
def GOK (g : Adj) (n B : Nat) : Prop := g.size = n ∧ ∀ w e, e ∈ g.getD w [] → e.vertex < n ∧ e.value ≤ B

/-- the window of the file header, with `n - zeros a` the number of non-zero addends -/
def Bd (n B : Nat) (a : Array Nat) : Prop :=
  ∀ w, a.getD w 0 ≠ 0 → H ≤ a.getD w 0 + (n - zeros a) * B ∧ a.getD w 0 ≤ H + (n - zeros a) * B

/-- the goal of the fill for one directed edge; `fill_spec` gives it for every edge, `Looks` (ColumnsInv) reads it back -/
def Sat (a : Array Nat) (w : Nat) (e : Edge) : Prop :=
  a.getD w 0 ≠ 0 ∧ a.getD e.vertex 0 ≠ 0 ∧ add64 (a.getD w 0) (a.getD e.vertex 0) = e.value

/-- the only way the fill changes the addends: a zero gets a value, once; this is what carries `Sat` along (`Sat.mono`) -/
def Ext (a a' : Array Nat) : Prop :=
  a'.size = a.size ∧ zeros a' ≤ zeros a ∧ ∀ w, a.getD w 0 ≠ 0 → a'.getD w 0 = a.getD w 0

theorem Ext.refl (a : Array Nat) : Ext a a := ⟨rfl, Nat.le_refl _, fun _ _ => rfl⟩

theorem Ext.trans {a b c : Array Nat} (h1 : Ext a b) (h2 : Ext b c) : Ext a c := by
  refine ⟨h2.1.trans h1.1, Nat.le_trans h2.2.1 h1.2.1, ?_⟩
  intro w hw
  have hb : b.getD w 0 = a.getD w 0 := h1.2.2 w hw
  rw [h2.2.2 w (by rw [hb]; exact hw), hb]

theorem Ext.ne_zero {a a' : Array Nat} (hx : Ext a a') {w : Nat} (h : a.getD w 0 ≠ 0) : a'.getD w 0 ≠ 0 := by
  rw [hx.2.2 w h]; exact h

theorem Sat.mono {a a' : Array Nat} {w : Nat} {e : Edge} (h : Sat a w e) (hx : Ext a a') : Sat a' w e := by
  obtain ⟨h1, h2, h3⟩ := h
  exact ⟨hx.ne_zero h1, hx.ne_zero h2, by rw [hx.2.2 w h1, hx.2.2 _ h2]; exact h3⟩

/-- what a finished visit of `w` leaves behind (`RecOK`) -/
def Closed (g : Adj) (a : Array Nat) (w : Nat) : Prop := ∀ e ∈ g.getD w [], Sat a w e

section
variable {g : Adj} {n B : Nat} {a a' : Array Nat}

theorem Closed.mono {w : Nat} (h : Closed g a w) (hx : Ext a a') : Closed g a' w :=
  fun e he => (h e he).mono hx

/-- All that a part of the fill does to the addends: zeros get values inside the window, and a vertex that got its value has
all its edges satisfied when the part returns. A preorder (`Grow.refl`, `Grow.trans`), so loops and recursion compose. -/
structure Grow (g : Adj) (n B : Nat) (a a' : Array Nat) : Prop where
  ext : Ext a a'
  bd : Bd n B a'
  closed : ∀ w, a.getD w 0 = 0 → a'.getD w 0 ≠ 0 → Closed g a' w

theorem Grow.refl (hbd : Bd n B a) : Grow g n B a a :=
  ⟨Ext.refl _, hbd, fun _ h0 h1 => absurd h0 h1⟩

theorem Grow.trans {b c : Array Nat} (h1 : Grow g n B a b) (h2 : Grow g n B b c) : Grow g n B a c :=
  ⟨h1.ext.trans h2.ext, h2.bd, fun w h0 hc => by
    by_cases hb : b.getD w 0 = 0
    · exact h2.closed w hb hc
    · exact (h1.closed w h0 hb).mono h2.ext⟩

/-- a visit: slot `i` gets its value (`honly`: nothing else changes, `set_fresh`) and the fill started there closes `i` -/
theorem Grow.of_set {a2 : Array Nat} {i x : Nat} (hx : Ext a (a.setIfInBounds i x))
    (honly : ∀ w, (a.setIfInBounds i x).getD w 0 ≠ 0 → a.getD w 0 ≠ 0 ∨ i = w)
    (hg : Grow g n B (a.setIfInBounds i x) a2) (hc : Closed g a2 i) : Grow g n B a a2 :=
  ⟨hx.trans hg.ext, hg.bd, fun w h0 h2 => by
    by_cases h1 : (a.setIfInBounds i x).getD w 0 = 0
    · exact hg.closed w h1 h2
    · rcases honly w h1 with h | rfl
      · exact absurd h0 h
      · exact hc⟩
end

/-- the induction hypothesis on the fuel of `fillVertex`. `zeros a < m` here against `zeros a ≤ m` in `fillEdges_spec`: the caller assigns one zero
slot before it recurses, which is the unit of fuel the call spends -/
def RecOK (g : Adj) (n B : Nat) (R : Nat → Array Nat → Res) (m : Nat) : Prop :=
  ∀ v a, a.size = n → Bd n B a → a.getD v 0 ≠ 0 → zeros a < m →
    R v a ≠ .fuel ∧ ∀ a', R v a = .ok a' → Grow g n B a a' ∧ Closed g a' v

theorem W_eq_H_add_H : W = H + H := by decide

/-- arithmetic of one assignment `addend2 = edge->value - addend`: with `addend` within `k * B` of `H = W / 2` and
`val ≤ B` small, nothing wraps but the final sum -/
theorem assign_arith (n B k x val : Nat) (hB : (n + 1) * B < H) (hk : k < n) (hval : val ≤ B)
    (hlo : H ≤ x + k * B) (hhi : x ≤ H + k * B) :
    sub64 val x ≠ 0 ∧ add64 x (sub64 val x) = val ∧
    H ≤ sub64 val x + (k + 1) * B ∧ sub64 val x ≤ H + (k + 1) * B := by
  have h1 : (k + 1) * B ≤ n * B := Nat.mul_le_mul_right B hk
  rw [Nat.succ_mul] at hB h1 ⊢
  obtain ⟨y, hy⟩ : ∃ y, x + y = val + (H + H) := Nat.le.dest (by omega)
  have key : x < H + H ∧ val < H + H ∧ y < H + H ∧ y ≠ 0 ∧ H ≤ y + (k * B + B) ∧ y ≤ H + (k * B + B) := by omega
  have hs : sub64 val x = y := by
    unfold sub64
    rw [W_eq_H_add_H, Nat.mod_eq_of_lt key.1, Nat.mod_eq_of_lt key.2.1, ← hy, Nat.add_sub_cancel_left,
      Nat.mod_eq_of_lt key.2.2.1]
  rw [hs]
  refine ⟨key.2.2.2.1, ?_, key.2.2.2.2⟩
  unfold add64
  rw [hy, W_eq_H_add_H, Nat.add_mod_right, Nat.mod_eq_of_lt key.2.1]

theorem set_fresh {n B : Nat} {a : Array Nat} {i x : Nat} (hsz : a.size = n) (hi : i < n) (h0 : a.getD i 0 = 0)
    (hx : x ≠ 0) (hbd : Bd n B a) (hlo : H ≤ x + (n - zeros a + 1) * B) (hhi : x ≤ H + (n - zeros a + 1) * B) :
    (a.setIfInBounds i x).size = n ∧ zeros (a.setIfInBounds i x) + 1 = zeros a ∧
    (a.setIfInBounds i x).getD i 0 = x ∧ Ext a (a.setIfInBounds i x) ∧ Bd n B (a.setIfInBounds i x) ∧
    ∀ w, (a.setIfInBounds i x).getD w 0 ≠ 0 → a.getD w 0 ≠ 0 ∨ i = w := by
  have hi' : i < a.size := hsz ▸ hi
  have hz1 := zeros_set a i x hi' h0 hx
  have hzn : zeros a ≤ n := hsz ▸ zeros_le a
  refine ⟨by simpa using hsz, hz1, by rw [getD_set, if_pos ⟨rfl, hi'⟩], ⟨by simp, by omega, ?_⟩, ?_, ?_⟩
  · intro w hw
    rw [getD_set, if_neg (fun h : i = w ∧ i < a.size => hw (h.1 ▸ h0))]
  · intro w hw
    rw [show n - zeros (a.setIfInBounds i x) = n - zeros a + 1 by omega]
    rw [getD_set] at hw ⊢
    by_cases hc : i = w ∧ i < a.size
    · rw [if_pos hc]; exact ⟨hlo, hhi⟩
    · rw [if_neg hc] at hw ⊢
      have := hbd w hw
      have hle : (n - zeros a) * B ≤ (n - zeros a + 1) * B := Nat.mul_le_mul_right B (Nat.le_succ _)
      omega
  · intro w hw
    rw [getD_set] at hw
    by_cases hc : i = w ∧ i < a.size
    · exact Or.inr hc.1
    · rw [if_neg hc] at hw; exact Or.inl hw

theorem fillEdges_spec (g : Adj) (n B : Nat) (hB : (n + 1) * B < H)
    (R : Nat → Array Nat → Res) (m : Nat) (hR : RecOK g n B R m) (v : Nat) :
    ∀ (es : List Edge) (a : Array Nat), (∀ e ∈ es, e.vertex < n ∧ e.value ≤ B) →
      a.size = n → Bd n B a → a.getD v 0 ≠ 0 → zeros a ≤ m →
      fillEdges R es (a.getD v 0) a ≠ .fuel ∧
      ∀ a', fillEdges R es (a.getD v 0) a = .ok a' → Grow g n B a a' ∧ ∀ e ∈ es, Sat a' v e := by
  intro es
  induction es with
  | nil =>
    intro a _ _ hbd _ _
    exact ⟨nofun, fun a' h => by cases h; exact ⟨.refl hbd, nofun⟩⟩
  | cons e es ih =>
    intro a hes hsz hbd hv hz
    obtain ⟨he, hes'⟩ := List.forall_mem_cons.mp hes
    unfold fillEdges
    by_cases h0 : a.getD e.vertex 0 = 0
    · rw [if_pos h0]
      have hvb := hbd v hv
      have hk : n - zeros a < n := by
        have := zeros_pos (hsz ▸ he.1) h0; have : zeros a ≤ n := hsz ▸ zeros_le a; omega
      obtain ⟨hx0, hsum, hxlo, hxhi⟩ := assign_arith n B (n - zeros a) (a.getD v 0) e.value hB hk he.2 hvb.1 hvb.2
      obtain ⟨hsz1, hz1, hself, hext1, hbd1, honly⟩ := set_fresh hsz he.1 h0 hx0 hbd hxlo hxhi
      have hu1 : (a.setIfInBounds e.vertex (sub64 e.value (a.getD v 0))).getD e.vertex 0 ≠ 0 := by rw [hself]; exact hx0
      have hr := hR e.vertex _ hsz1 hbd1 hu1 (by omega)
      cases hrr : R e.vertex (a.setIfInBounds e.vertex (sub64 e.value (a.getD v 0))) with
      | fuel => exact absurd hrr hr.1
      | bad => exact ⟨nofun, nofun⟩
      | ok a2 =>
        obtain ⟨hg1, hc1⟩ := hr.2 a2 hrr
        have hg2 : Grow g n B a a2 := .of_set hext1 honly hg1 hc1
        have hv2 : a2.getD v 0 = a.getD v 0 := hg2.ext.2.2 v hv
        have hu2 : a2.getD e.vertex 0 = sub64 e.value (a.getD v 0) := (hg1.ext.2.2 _ hu1).trans hself
        have hs2 : Sat a2 v e := ⟨hv2 ▸ hv, hu2 ▸ hx0, by rw [hv2, hu2]; exact hsum⟩
        have hrec := ih a2 hes' (hg2.ext.1.trans hsz) hg2.bd (hv2 ▸ hv) (Nat.le_trans hg2.ext.2.1 hz)
        rw [hv2] at hrec
        refine ⟨hrec.1, fun a' ha' => ?_⟩
        obtain ⟨hg', hq⟩ := hrec.2 a' ha'
        exact ⟨hg2.trans hg', List.forall_mem_cons.mpr ⟨hs2.mono hg'.ext, hq⟩⟩
    · rw [if_neg h0]
      by_cases hc : add64 (a.getD v 0) (a.getD e.vertex 0) ≠ e.value
      · rw [if_pos hc]; exact ⟨nofun, nofun⟩
      · rw [if_neg hc]
        have hrec := ih a hes' hsz hbd hv hz
        refine ⟨hrec.1, fun a' ha' => ?_⟩
        obtain ⟨hg', hq⟩ := hrec.2 a' ha'
        have hs : Sat a v e := ⟨hv, h0, Decidable.not_not.mp hc⟩
        exact ⟨hg', List.forall_mem_cons.mpr ⟨hs.mono hg'.ext, hq⟩⟩

theorem fillVertex_spec (g : Adj) (n B : Nat) (hB : (n + 1) * B < H) (hg : GOK g n B) :
    ∀ fuel, RecOK g n B (fillVertex fuel g) fuel := by
  intro fuel
  induction fuel with
  | zero => intro v a _ _ _ hz; omega
  | succ f ih =>
    intro v a hsz hbd hv hz
    unfold fillVertex
    exact fillEdges_spec g n B hB (fillVertex f g) f ih v (g.getD v []) a (fun e he => hg.2 v e he) hsz hbd hv (by omega)

theorem fillRoots_spec (g : Adj) (n B : Nat) (hB : (n + 1) * B < H) (hg : GOK g n B) (fuel : Nat) (hf : n ≤ fuel) :
    ∀ (vs : List Nat) (a : Array Nat), (∀ v ∈ vs, v < n) → a.size = n → Bd n B a →
      fillRoots fuel g vs a ≠ .fuel ∧
      ∀ a', fillRoots fuel g vs a = .ok a' → Grow g n B a a' ∧ ∀ v ∈ vs, g.getD v [] ≠ [] → a'.getD v 0 ≠ 0 := by
  intro vs
  induction vs with
  | nil =>
    intro a _ _ hbd
    exact ⟨nofun, fun a' h => by cases h; exact ⟨.refl hbd, nofun⟩⟩
  | cons v vs ih =>
    intro a hvs hsz hbd
    obtain ⟨hvn, hvs'⟩ := List.forall_mem_cons.mp hvs
    unfold fillRoots
    by_cases hc : ((g.getD v []).isEmpty || a.getD v 0 ≠ 0) = true
    · rw [if_pos hc]
      have hrec := ih a hvs' hsz hbd
      refine ⟨hrec.1, fun a' ha' => ?_⟩
      obtain ⟨hg', hr⟩ := hrec.2 a' ha'
      refine ⟨hg', List.forall_mem_cons.mpr ⟨fun hne => hg'.ext.ne_zero ?_, hr⟩⟩
      simp only [Bool.or_eq_true, List.isEmpty_iff, decide_eq_true_eq] at hc
      exact hc.resolve_left hne
    · rw [if_neg hc]
      have h0 : a.getD v 0 = 0 := by
        simp only [Bool.or_eq_true, List.isEmpty_iff, decide_eq_true_eq, not_or] at hc
        exact Decidable.not_not.mp hc.2
      have hH : H ≠ 0 := by decide
      obtain ⟨hsz1, hz1, hself, hext1, hbd1, honly⟩ :=
        set_fresh hsz hvn h0 hH hbd (Nat.le_add_right _ _) (Nat.le_add_right _ _)
      have hzn : zeros a ≤ n := hsz ▸ zeros_le a
      have hr := fillVertex_spec g n B hB hg fuel v _ hsz1 hbd1 (by rw [hself]; exact hH) (by omega)
      cases hrr : fillVertex fuel g v (a.setIfInBounds v H) with
      | fuel => exact absurd hrr hr.1
      | bad => exact ⟨nofun, nofun⟩
      | ok a2 =>
        obtain ⟨hg1, hc1⟩ := hr.2 a2 hrr
        have hg2 : Grow g n B a a2 := .of_set hext1 honly hg1 hc1
        have hrec := ih a2 hvs' (hg2.ext.1.trans hsz) hg2.bd
        refine ⟨hrec.1, fun a' ha' => ?_⟩
        obtain ⟨hg', hrs⟩ := hrec.2 a' ha'
        exact ⟨hg2.trans hg', List.forall_mem_cons.mpr
          ⟨fun _ => (hg1.ext.trans hg'.ext).ne_zero (by rw [hself]; exact hH), hrs⟩⟩

theorem zeros_replicate (n : Nat) : zeros (Array.replicate n 0) = n := by
  simp [zeros]

/-- the `pvFillAddends` loop on a fresh addend array -/
theorem fill_spec (g : Adj) (n B : Nat) (hB : (n + 1) * B < H) (hg : GOK g n B) :
    fillRoots n g (List.range n) (Array.replicate n 0) ≠ .fuel ∧
    ∀ a', fillRoots n g (List.range n) (Array.replicate n 0) = .ok a' →
      a'.size = n ∧ ∀ w e, e ∈ g.getD w [] → Sat a' w e := by
  have h := fillRoots_spec g n B hB hg n (Nat.le_refl n) (List.range n) (Array.replicate n 0)
    (fun v hv => List.mem_range.mp hv) (by simp) (fun w hw => absurd (getD_replicate n w 0) hw)
  refine ⟨h.1, fun a' ha' => ?_⟩
  obtain ⟨hg', hr⟩ := h.2 a' ha'
  refine ⟨by rw [hg'.ext.1]; simp, fun w e he => ?_⟩
  have hw : w < n := by
    apply Decidable.byContradiction
    intro hn
    have : g.getD w [] = [] := by
      simp [Array.getD_eq_getD_getElem?, hg.1, Nat.not_lt.mp hn]
    rw [this] at he; cases he
  -- every vertex with an edge is a root the loop has visited, and it started from zero
  exact hg'.closed w (getD_replicate n w 0) (hr w (List.mem_range.mpr hw) (List.ne_nil_of_mem he)) e he

end Momo.Col
