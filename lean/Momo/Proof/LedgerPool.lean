import Momo.Proof.Ledger
import Momo.Model.Pool
/-!
  The calls a `MemPool` makes to its memory manager (`Momo.Pool.Ev`: malloc / free of whole buffers), read as ledger
  events. `Pool.ledger` (the multiset ledger of C09's theorems) and the C03 monitor agree on every event list in which
  the manager never hands out an address that is still outstanding (`FreshMallocs` - the manager's contract, see
  DESIGN.md section 3): `poolLedger_accepted`, and `poolLedger_balanced` for a ledger that ends empty.
-/
namespace Momo.Ledger

open Momo.Pool (ledger)

/-- a pool event as a ledger event of manager class `m`; block identity = address -/
def ofPool (m : Nat) : Pool.Ev → Ev Int
  | .malloc b s => .alloc m b s.toNat
  | .free a s => .dealloc m a s.toNat

/-- the manager's contract along an event list: no `malloc` returns an address that is outstanding at that moment -/
def FreshMallocs : List (Int × Int) → List Pool.Ev → Prop
  | _, [] => True
  | l, .malloc b s :: es => (∀ s', (b, s') ∉ l) ∧ FreshMallocs ((b, s) :: l) es
  | l, .free a s :: es => FreshMallocs (l.erase (a, s)) es

def lk (a : Int) : List (Int × Int) → Option Int
  | [] => none
  | p :: r => if p.1 = a then some p.2 else lk a r

/-- no address is outstanding twice: under `FreshMallocs` the multiset ledger is a finite map from addresses to sizes, which is
    what the monitor keeps -/
def NodupKeys (L : List (Int × Int)) : Prop := (L.map Prod.fst).Nodup

theorem lk_none_of_not_mem {a : Int} {L : List (Int × Int)} (h : ∀ s, (a, s) ∉ L) : lk a L = none := by
  induction L with
  | nil => rfl
  | cons p r ih =>
    have hp : p.1 ≠ a := by
      intro e; apply h p.2; rw [← e]; exact List.mem_cons_self
    simp only [lk, hp, if_false]
    exact ih (fun s hs => h s (List.mem_cons_of_mem _ hs))

theorem lk_of_mem {a s : Int} {L : List (Int × Int)} (hn : NodupKeys L) (h : (a, s) ∈ L) : lk a L = some s := by
  induction L with
  | nil => cases h
  | cons p r ih =>
    unfold NodupKeys at hn
    simp only [List.map_cons, List.nodup_cons] at hn
    rcases List.mem_cons.mp h with h | h
    · subst h; simp [lk]
    · have hp : p.1 ≠ a := by
        intro e; apply hn.1; rw [e]; exact List.mem_map.mpr ⟨(a, s), h, rfl⟩
      simp only [lk, hp, if_false]
      exact ih hn.2 h

theorem lk_erase {a s : Int} {L : List (Int × Int)} (hn : NodupKeys L) (h : (a, s) ∈ L) (a' : Int) :
    lk a' (L.erase (a, s)) = if a = a' then none else lk a' L := by
  induction L with
  | nil => cases h
  | cons p r ih =>
    unfold NodupKeys at hn
    simp only [List.map_cons, List.nodup_cons] at hn
    by_cases hp : p = (a, s)
    · subst hp
      rw [List.erase_cons_head]
      by_cases ha : a = a'
      · subst ha; simp only [if_true]; exact lk_none_of_not_mem fun s hs => hn.1 (List.mem_map.mpr ⟨(a, s), hs, rfl⟩)
      · simp [lk, ha]
    · have hr : (a, s) ∈ r := by
        rcases List.mem_cons.mp h with h | h
        · exact absurd h.symm hp
        · exact h
      have hpa : p.1 ≠ a := by
        intro e; apply hn.1; rw [e]; exact List.mem_map.mpr ⟨(a, s), hr, rfl⟩
      rw [List.erase_cons_tail (by simpa using hp)]
      simp only [lk]
      rw [ih hn.2 hr]
      by_cases ha : a = a'
      · subst ha; simp [hpa]
      · simp [ha]

/-- the ledger state holds exactly the blocks of the multiset ledger `L` -/
def Holds (m : Nat) (st : St Int) (L : List (Int × Int)) : Prop :=
  ∀ a, findB a st.blocks = (lk a L).map (fun s => (m, s.toNat))

theorem poolLedger_accepted (m : Nat) (evs : List Pool.Ev) : ∀ (L L' : List (Int × Int)) (st : St Int),
    ledger L evs = some L' → NodupKeys L → FreshMallocs L evs → Holds m st L →
    ∃ st', run st (evs.map (ofPool m)) = some st' ∧ Holds m st' L' ∧ NodupKeys L' ∧ st'.elems = st.elems := by
  induction evs with
  | nil =>
    intro L L' st h hn _ hh
    simp only [ledger, Option.some.injEq] at h; subst h
    exact ⟨st, rfl, hh, hn, rfl⟩
  | cons ev r ih =>
    intro L L' st h hn hf hh
    cases ev with
    | malloc b s =>
      simp only [ledger] at h
      obtain ⟨hfresh, hf'⟩ := hf
      have hnone : findB b st.blocks = none := by rw [hh b, lk_none_of_not_mem hfresh]; rfl
      have hn' : NodupKeys ((b, s) :: L) := by
        unfold NodupKeys at hn ⊢
        simp only [List.map_cons, List.nodup_cons]
        refine ⟨?_, hn⟩
        intro hm
        obtain ⟨p, hp, he⟩ := List.mem_map.mp hm
        apply hfresh p.2
        have : p = (b, p.2) := by cases p; simp at he; simp [he]
        rw [← this]; exact hp
      have hh' : Holds m { st with blocks := (b, m, s.toNat) :: st.blocks } ((b, s) :: L) := by
        intro a
        by_cases ha : b = a
        · subst ha; simp [findB, lk]
        · simp [findB, lk, ha, hh a]
      obtain ⟨st', h1, h2, h3, h4⟩ := ih _ _ _ h hn' hf' hh'
      refine ⟨st', ?_, h2, h3, h4⟩
      simp only [List.map_cons, ofPool, run, step, hnone]
      exact h1
    | free a s =>
      simp only [ledger] at h
      split at h
      · rename_i hmem
        have hfound : findB a st.blocks = some (m, s.toNat) := by rw [hh a, lk_of_mem hn hmem]; rfl
        have hh' : Holds m { st with blocks := eraseB a st.blocks } (L.erase (a, s)) := by
          intro a'
          show findB a' (eraseB a st.blocks) = _
          rw [findB_eraseB, lk_erase hn hmem a']
          by_cases ha : a = a'
          · simp [ha]
          · simp [ha, hh a']
        obtain ⟨st', h1, h2, h3, h4⟩ := ih _ _ _ h (List.Nodup.sublist (List.erase_sublist.map _) hn) hf hh'
        refine ⟨st', ?_, h2, h3, h4⟩
        simp only [List.map_cons, ofPool, run, step, hfound, ne_eq, not_true_eq_false, if_false]
        exact h1
      · cases h

theorem poolLedger_balanced (m : Nat) (evs : List Pool.Ev) (h : ledger [] evs = some []) (hf : FreshMallocs [] evs) :
    balanced (evs.map (ofPool m)) = true := by
  obtain ⟨st', h1, h2, _, h4⟩ := poolLedger_accepted m evs [] [] St.init h (by simp [NodupKeys]) hf
    (by intro a; simp [St.init, findB, lk])
  unfold balanced
  rw [h1]
  have hb : st'.blocks = [] := eq_nil_of_findB_none (fun a => by rw [h2 a]; rfl)
  have he : st'.elems = [] := by rw [h4]; rfl
  simp [St.clean, hb, he]

end Momo.Ledger
