import Momo.Proof.BTreeFaultReloc
import Momo.Proof.BTreeOps
/-!
  C04 for the B-tree family: `pvAdd` on a non-null root under every fault schedule. The Relocator plan of an insertion creates
  and retires exactly the nodes by which the fault-free result differs from the old tree (`addRoot_counts`). Hence `addNode`
  (`addNode_spec`), when it throws, leaves tree and ledger as they were; when it returns, tree and iterator are those of the
  fault-free model and the ledger moved by exactly the node difference (`nodeDelta`) plus what the creator did.
-/
namespace Momo.BTreeF
open Momo Momo.BTree Momo.BTree.Node
variable {α : Type}

theorem leafCountL_eq (cs : List (Node α)) : leafCountL cs = (cs.map leafCount).sum := by
  induction cs with
  | nil => simp [leafCountL]
  | cons c cs ih => simp [leafCountL, ih]

@[simp] theorem leafCount_leaf (cap : Nat) (items : List α) : leafCount (leaf cap items) = 1 := by simp [leafCount]
@[simp] theorem leafCount_inner (items : List α) (cs : List (Node α)) : leafCount (inner items cs) = (cs.map leafCount).sum := by
  simp [leafCount, leafCountL_eq]
/-- the bookkeeping step of `addAt_counts`: the child's account `x' + o = x + n` (result + retired = old + created) carries
    over to the parent, whose children moved from `a` to `a'`, with what the parent's own level adds on either side: `k` nodes to
    the result, `j` to the retired ones, `k'` to the old tree, `j'` to the created ones (the parent kept: `1 0 1 0` internal nodes;
    the parent split: `2 1 1 2`; leaves: all `0`) -/
theorem count_step {x' o x n a' a : Nat} (k j k' j' : Nat) (h : x' + o = x + n) (e : a' + x = a + x') (hk : k + j = k' + j') :
    a' + k + (o + j) = a + k' + (n + j') := by omega

/-- leaf nodes / internal nodes of what `addAt` hands to the parent (one node, or the two halves of a split), and whether it is a
    split: the three quantities the Relocator plan of the parent's level depends on -/
def _root_.Momo.BTree.AddRes.leaves : AddRes α → Nat
  | .ok n _ => leafCount n
  | .split l _ r _ _ => leafCount l + leafCount r

def _root_.Momo.BTree.AddRes.inners : AddRes α → Nat
  | .ok n _ => innerCount n
  | .split l _ r _ _ => innerCount l + innerCount r

def _root_.Momo.BTree.AddRes.isSplit : AddRes α → Bool
  | .ok _ _ => false
  | .split _ _ _ _ _ => true

theorem splitSteps_counts (lf : Bool) (n i : Nat) :
    planNew lf (splitSteps lf n i) = 2 ∧ planOld lf (splitSteps lf n i) = 1 ∧
    planNew (!lf) (splitSteps lf n i) = 0 ∧ planOld (!lf) (splitSteps lf n i) = 0 := by
  unfold splitSteps
  split <;> cases lf <;> simp [planNew, planOld]

theorem addLeaf_counts (cfg : Cfg) (hmax : 0 < cfg.maxCap) (ia cap : Nat) (items : List α) (i : Nat) (x : α)
    (hi : i ≤ items.length) :
    (addLeaf cfg ia cap items i x).leaves + planOld true (addPlan cfg (leaf cap items) [] i).1 =
        1 + planNew true (addPlan cfg (leaf cap items) [] i).1 ∧
    (addLeaf cfg ia cap items i x).inners + planOld false (addPlan cfg (leaf cap items) [] i).1 =
        planNew false (addPlan cfg (leaf cap items) [] i).1 ∧
    (addLeaf cfg ia cap items i x).isSplit = (addPlan cfg (leaf cap items) [] i).2 := by
  simp only [addPlan]
  rcases addLeaf_cases cfg ia cap items i x hi hmax with ⟨hroom, e⟩ | ⟨hroom, hgrow, e⟩ | ⟨hroom, hgrow, m, sep, right, j, -, -, -, e⟩
  · simp [e, hroom, AddRes.leaves, AddRes.inners, AddRes.isSplit, planNew, planOld]
  · simp [e, hroom, hgrow, AddRes.leaves, AddRes.inners, AddRes.isSplit, planNew, planOld]
  · obtain ⟨s1, s2, s3, s4⟩ := splitSteps_counts true items.length i
    simp only [Bool.not_true] at s3 s4
    simp [e, cutLeaf, hroom, hgrow, AddRes.leaves, AddRes.inners, AddRes.isSplit, s1, s2, s3, s4]

theorem split_counts (a b : List α) (L : List (Node α)) (k : Nat) (s : α) (rt : Bool) (q : Pos) :
    (AddRes.split (inner a (L.take k)) s (inner b (L.drop k)) rt q).leaves = (L.map leafCount).sum ∧
    (AddRes.split (inner a (L.take k)) s (inner b (L.drop k)) rt q).inners = (L.map innerCount).sum + 2 := by
  have t1 := ListFacts.sum_map_take_drop leafCount L k
  have t2 := ListFacts.sum_map_take_drop innerCount L k
  simp only [AddRes.leaves, AddRes.inners, leafCount_inner, innerCount_inner]
  omega

theorem addInner_counts (cfg : Cfg) (hmax : 0 < cfg.maxCap) (items : List α) (cs : List (Node α)) (c : Nat) (l : Node α)
    (sep : α) (r : Node α) (right : Bool) (pos : Pos) (hc : c ≤ items.length) :
    (addInner cfg items cs c l sep r right pos).leaves = ((cs.take c ++ l :: r :: cs.drop (c + 1)).map leafCount).sum ∧
    (addInner cfg items cs c l sep r right pos).inners =
      ((cs.take c ++ l :: r :: cs.drop (c + 1)).map innerCount).sum + (if items.length < cfg.maxCap then 1 else 2) ∧
    (addInner cfg items cs c l sep r right pos).isSplit = !decide (items.length < cfg.maxCap) := by
  rcases addInner_cases cfg items cs c l sep r right pos hc hmax with ⟨h, e⟩ | ⟨h, m, sep', right', -, -, -, e⟩
  · simp [e, h, splitChildren, AddRes.leaves, AddRes.inners, AddRes.isSplit]
  · simp only [e, cutInner, h, if_false, decide_false, Bool.not_false]
    exact ⟨(split_counts ..).1, (split_counts ..).2, rfl⟩

theorem addAt_counts (cfg : Cfg) (ia : Nat) (x : α) (hmax : 0 < cfg.maxCap) {d : Nat} {n : Node α} (hb : Bal d n)
    (path : List Nat) (i cap : Nat) (items : List α) (hm : nodeAt? n path = some (leaf cap items))
    (hi : i ≤ items.length) :
    (addAt cfg ia x n path i).leaves + planOld true (addPlan cfg n path i).1 = leafCount n + planNew true (addPlan cfg n path i).1 ∧
    (addAt cfg ia x n path i).inners + planOld false (addPlan cfg n path i).1 =
      innerCount n + planNew false (addPlan cfg n path i).1 ∧
    (addAt cfg ia x n path i).isSplit = (addPlan cfg n path i).2 := by
  refine Bal.path_rec ?_ ?_ hb hm
  · intro d _
    simpa [addAt] using addLeaf_counts cfg hmax ia cap items i x hi
  · intro d' is cs c ch p hb hlen hc _ _ ⟨h1, h2, h3⟩
    have hcl := ListFacts.lt_of_getElem? hc
    simp only [addAt, addPlan, hc]
    generalize addAt cfg ia x ch p i = res1 at h1 h2 h3
    generalize addPlan cfg ch p i = pl at h1 h2 h3
    obtain ⟨st1, up1⟩ := pl
    cases res1 with
    | ok ch' q =>
      obtain rfl : false = up1 := h3
      have e1 := ListFacts.sum_map_set leafCount ch' hc
      have e2 := ListFacts.sum_map_set innerCount ch' hc
      simp only [AddRes.leaves, AddRes.inners] at h1 h2
      simp only [liftRes, AddRes.leaves, AddRes.inners, AddRes.isSplit, leafCount_inner, innerCount_inner]
      exact ⟨count_step 0 0 0 0 h1 e1 rfl, count_step 1 0 1 0 h2 e2 rfl, trivial⟩
    | split l sep r right q =>
      obtain rfl : true = up1 := h3
      obtain ⟨a1, a2, a3⟩ := addInner_counts cfg hmax is cs c l sep r right q
        (Nat.le_of_lt_succ (hlen ▸ hcl : c < is.length + 1))
      have e1 := ListFacts.sum_map_split2 leafCount l r hc
      have e2 := ListFacts.sum_map_split2 innerCount l r hc
      simp only [AddRes.leaves, AddRes.inners] at h1 h2
      simp only [liftRes, a1, a2, a3, leafCount_inner, innerCount_inner]
      by_cases hroom : is.length < cfg.maxCap
      · simp only [planNew_append, planOld_append, planNew, planOld, hroom, if_true, decide_true, Bool.not_true]
        exact ⟨count_step 0 0 0 0 h1 e1 rfl, count_step 1 0 1 0 h2 e2 rfl, trivial⟩
      · obtain ⟨s1, s2, s3, s4⟩ := splitSteps_counts false is.length c
        simp only [Bool.not_false] at s3 s4
        simp only [planNew_append, planOld_append, planNew, planOld, s1, s2, s3, s4, hroom, if_false, decide_false, Bool.not_false]
        exact ⟨count_step 0 0 0 0 h1 e1 rfl, count_step 2 1 1 2 h2 e2 rfl, trivial⟩

theorem addRoot_counts (cfg : Cfg) (x : α) (hmax : 0 < cfg.maxCap) {d : Nat} {r m : Node α} (hb : Bal d r)
    (pos : Pos) (hm : nodeAt? r pos.path = some m) (hi : pos.idx ≤ m.count) :
    leafCount (addRoot cfg x r pos).1 + planOld true (addPlanRoot cfg r (normLeaf r pos).path (normLeaf r pos).idx) =
      leafCount r + planNew true (addPlanRoot cfg r (normLeaf r pos).path (normLeaf r pos).idx) ∧
    innerCount (addRoot cfg x r pos).1 + planOld false (addPlanRoot cfg r (normLeaf r pos).path (normLeaf r pos).idx) =
      innerCount r + planNew false (addPlanRoot cfg r (normLeaf r pos).path (normLeaf r pos).idx) := by
  obtain ⟨_, cap, items, hn2, hn3⟩ := normLeaf_spec hb pos.path pos.idx hm hi
  have hpp : (⟨pos.path, pos.idx⟩ : Pos) = pos := rfl
  rw [hpp] at hn2 hn3
  obtain ⟨h1, h2, h3⟩ := addAt_counts cfg (innerCount r) x hmax hb (normLeaf r pos).path (normLeaf r pos).idx cap items hn2 hn3
  unfold addRoot addPlanRoot
  generalize addAt cfg (innerCount r) x r (normLeaf r pos).path (normLeaf r pos).idx = res at h1 h2 h3 ⊢
  generalize addPlan cfg r (normLeaf r pos).path (normLeaf r pos).idx = pl at h1 h2 h3 ⊢
  obtain ⟨st, up⟩ := pl
  cases res with
  | ok n q =>
    obtain rfl : false = up := h3
    exact ⟨h1, h2⟩
  | split l sep rr right q =>
    obtain rfl : true = up := h3
    simp only [AddRes.leaves, AddRes.inners] at h1 h2
    simp only [leafCount_inner, innerCount_inner, planNew_append, planOld_append, planNew, planOld]
    simp
    omega

theorem addPlan_of_room (cfg : Cfg) (n : Node α) (path : List Nat) (i cap : Nat) (items : List α)
    (hm : nodeAt? n path = some (leaf cap items)) (hroom : items.length < cap) : addPlan cfg n path i = ([], false) := by
  induction path generalizing n with
  | nil => simp at hm; subst hm; simp [addPlan, hroom]
  | cons c p ih =>
    obtain ⟨is, cs, ch, rfl, hc, hm⟩ := nodeAt?_cons_some hm
    simp [addPlan, hc, ih ch hm]

/-- nodes of `r'` minus nodes of `r`, by kind: what a successful tree surgery from `r` to `r'` books (for a container:
    `nodeLed_sub_of_root`) -/
def nodeDelta (r r' : Node α) : Ledger :=
  { leaves := (leafCount r' : Int) - leafCount r, inners := (innerCount r' : Int) - innerCount r }

theorem commit_nodeDelta (l : Ledger) (r r' : Node α) (nl ni ol oi : Nat) (h1 : leafCount r' + ol = leafCount r + nl)
    (h2 : innerCount r' + oi = innerCount r + ni) :
    ({ l with leaves := l.leaves + nl - ol, inners := l.inners + ni - oi } : Ledger) = l + nodeDelta r r' := by
  apply Ledger.ext' <;> simp [nodeDelta] <;> omega

theorem addNode_spec {σ : Type} (S : Sched) (ic : ICfg α) (cfg : Cfg) (hmax : 0 < cfg.maxCap) {d : Nat} {r m : Node α}
    (hb : Bal d r) (pos : Pos) (hm : nodeAt? r pos.path = some m) (hi : pos.idx ≤ m.count) (x : α)
    (creator : W → Bool × σ × W) (s0 : σ) {f : σ → Ledger} {P Q : σ → Prop} (hc : CreatorSpec creator f P Q) (w : W)
    {t : Bool} {s : σ} {r' : Node α} {p : Pos} {w' : W} (h : addNode S ic cfg r pos x creator s0 w = (t, s, r', p, w')) :
    (t = true → r' = r ∧ w'.led = w.led ∧ (s = s0 ∨ P s)) ∧
    (t = false → r' = (addRoot cfg x r pos).1 ∧ p = (addRoot cfg x r pos).2 ∧
        w'.led = w.led + f s + nodeDelta r (addRoot cfg x r pos).1 ∧ Q s) ∧
    (S.NoAlloc → S.NoCtor → CreatorNoThrow creator → t = false) := by
  obtain ⟨k1, k2⟩ := addRoot_counts cfg x hmax hb pos hm hi
  unfold addNode at h
  split at h
  · obtain ⟨a, b, ok1⟩ := Reloc.run_spec S (addPlanRoot cfg r (normLeaf r pos).path (normLeaf r pos).idx) {} w w.led (RInv.fresh _)
    generalize Reloc.run S (addPlanRoot cfg r (normLeaf r pos).path (normLeaf r pos).idx) {} w = g at a b ok1 h
    obtain ⟨t1, rl, w1⟩ := g
    cases t1
    · simp only at h
      obtain ⟨b1, b2, b3, b4, -⟩ := b rfl
      rcases hrc : rl.relocateCreate S ic creator s0 w1 with ⟨t2, s2, rl', w2⟩
      rw [hrc] at h
      obtain ⟨c1, c2, c3, c4, c5, c6, ok2⟩ := Reloc.relocateCreate_spec S ic rl creator s0 w1 w.led hc a hrc
      cases t2
      · cases h
        refine ⟨nofun, fun _ => ⟨rfl, rfl, ?_, (c2 rfl).2⟩, fun _ _ _ => rfl⟩
        simp only [Nat.zero_add] at b1 b2 b3 b4
        exact (c2 rfl).1.commit_destroy.trans
          (commit_nodeDelta _ r _ _ _ _ _ (by rw [c3, c5, b1, b3]; exact k1) (by rw [c4, c6, b2, b4]; exact k2))
      · cases h
        exact ⟨fun _ => ⟨rfl, (c1 rfl).1.destroy, (c1 rfl).2⟩, nofun, ok2⟩
    · cases h
      exact ⟨fun _ => ⟨rfl, a.destroy, Or.inl rfl⟩, nofun, fun hn _ _ => ok1 hn⟩
  · rename_i hnr
    -- the leaf has room: no node is created or retired
    obtain ⟨_, cap, items, hn2, hn3⟩ := normLeaf_spec hb pos.path pos.idx hm hi
    have hplan : addPlanRoot cfg r (normLeaf r pos).path (normLeaf r pos).idx = [] := by
      unfold addPlanRoot
      rw [addPlan_of_room cfg r _ _ cap items hn2 (by simpa [needsReloc, hn2] using hnr)]
    rw [hplan] at k1 k2
    obtain ⟨c1, c2⟩ := hc w
    have ok : CreatorNoThrow creator → (creator w).1 = false := fun hok => hok w
    generalize creator w = g at c1 c2 ok h
    obtain ⟨t1, s1, w1⟩ := g
    cases t1
    · cases h
      refine ⟨nofun, fun _ => ⟨rfl, rfl, ?_, (c2 rfl).2⟩, fun _ _ _ => rfl⟩
      have : nodeDelta r (addRoot cfg x r pos).1 = {} := by
        have e1 : leafCount (addRoot cfg x r pos).1 = leafCount r := k1
        have e2 : innerCount (addRoot cfg x r pos).1 = innerCount r := k2
        simp [nodeDelta, e1, e2]
      exact (c2 rfl).1.trans (by rw [this, Ledger.add_zero'])
    · cases h
      exact ⟨fun _ => ⟨rfl, (c1 rfl).1, Or.inr (c1 rfl).2⟩, nofun, fun _ _ => ok⟩

end Momo.BTreeF
