import Momo.Proof.SortSearch
/-!
  C17: `pvFind` and `pvGetBounds` (HashSorter.h:267-314) on a sequence whose codes are
  non-decreasing and whose equal items are contiguous return what a linear scan returns.  Both walk away from the
  cell `p` the hash search returned, backwards through `std::reverse_iterator`s based at `p + 1` and forwards
  through iterators based at `p`; the four walks (`findOther_rev`, `findOther_fwd`, `findNext_rev`, `findNext_fwd`: `findOther_spec` /
  `findNext_spec` of SortSearch through a reverse resp. forward view) are stated in indices of the sequence itself.
-/
namespace Momo.Sort
variable {σ α : Type}

def FindPost (eq : α → α → Bool) (A : Nat → α × Nat) (n : Nat) (item : α) (res : Nat × Bool) : Prop :=
  (res.2 = true → res.1 < n ∧ eq (A res.1).1 item = true) ∧
  (res.2 = false → res.1 ≤ n ∧ ∀ k, k < n → eq (A k).1 item = false)

theorem absent_of_hashPost {eq : α → α → Bool} {A : Nat → α × Nat} {n : Nat} {item : α} {itemHash : Nat} {res : Nat × Bool}
    (hresp : ∀ i, i < n → eq (A i).1 item = true → (A i).2 = itemHash)
    (hp : HashPost A n itemHash res) (hnf : res.2 = false) : ∀ k, k < n → eq (A k).1 item = false := by
  intro k hk
  obtain ⟨_, h1, h2⟩ := hp.2 hnf
  refine Bool.eq_false_iff.2 fun he => ?_
  have := hresp k hk he
  by_cases hkp : k < res.1
  · have := h1 k hkp; omega
  · have := h2 k (by omega) hk; omega

def BoundsPost (eq : α → α → Bool) (A : Nat → α × Nat) (n : Nat) (item : α) (res : Nat × Nat) : Prop :=
  res.1 ≤ res.2 ∧ res.2 ≤ n ∧ ∀ k, k < n → (eq (A k).1 item = true ↔ res.1 ≤ k ∧ k < res.2)

theorem boundsPost_of {eq : α → α → Bool} {A : Nat → α × Nat} {n : Nat} {item : α} {b e : Nat} (hbe : b ≤ e) (hen : e ≤ n)
    (hin : ∀ k, b ≤ k → k < e → eq (A k).1 item = true) (hout : ∀ k, k < n → k < b ∨ e ≤ k → eq (A k).1 item = false) :
    BoundsPost eq A n item (b, e) := by
  refine ⟨hbe, hen, fun k hk => ?_⟩
  show eq (A k).1 item = true ↔ b ≤ k ∧ k < e
  by_cases h : b ≤ k ∧ k < e
  · exact iff_of_true (hin k h.1 h.2) h
  · exact iff_of_false (Bool.eq_false_iff.1 (hout k hk (by omega))) h

section
variable {M : Mem σ α} {eq : α → α → Bool} {s : σ} {A : Nat → α × Nat} {n : Nat}
  (hr : MRepr M s A n) (he : IsEqv eq) (hs : SortedF A n) (hc : ContigF eq A n)
  (item : α) (itemHash : Nat) (hh : itemHash < 2 ^ 64)
  (hresp : ∀ i, i < n → eq (A i).1 item = true → (A i).2 = itemHash)

section
include hr he hc

/-- `pvFindOther` from position `p` of the reverse view based at `r`, i.e. from the cell `a` with `a + p + 1 = r`, backwards over the
`a + 1` cells `a, …, 0`; the result `q` is again a view position, `b` the cell behind it (`b + q = r`): the group of `item` starts at `b` -/
theorem findOther_rev (r p a : Nat) (hrn : r ≤ n) (ha : a + p + 1 = r) (hai : eq (A a).1 item = true) :
    ∃ q b, findOther eq (M.rev s r) p (a + 1) = some q ∧ b + q = r ∧ b ≤ a ∧
      (∀ k, b ≤ k → k ≤ a → eq (A k).1 item = true) ∧ (∀ k, k < b → eq (A k).1 item = false) := by
  have hlo : 0 + (p + (a + 1)) = r := by omega
  have hpc : p + (a + 1) ≤ r := hlo ▸ Nat.le_add_left _ _
  obtain ⟨q, hq, h1, h2, h3, h4⟩ := findOther_spec (hr.rev r hrn) (hc.rev he r hrn) p (a + 1) (Nat.succ_pos a) hpc
  rw [show r - 1 - p = a by omega] at h3 h4
  obtain ⟨b, hb⟩ : ∃ b, b + q = r := ⟨r - q, Nat.sub_add_cancel (Nat.le_trans h2 hpc)⟩
  refine ⟨q, b, hq, hb, by omega, fun k hk1 hk2 => ?_, fun k hk => ?_⟩
  · rcases Nat.eq_or_lt_of_le hk2 with rfl | hlt
    · exact hai
    · exact (he.eq_right_iff hai).2 (forall_rev (P := fun x => eq (A a).1 (A x).1 = true) hb h3 k hk1 (by omega))
  · exact he.eq_right_false hai (forall_rev (P := fun x => eq (A a).1 (A x).1 = false) hlo h4 k (Nat.zero_le k) (by omega))

/-- `pvFindOther` from position `p` of the forward view based at `b`, i.e. from the cell `a = b + p`, over the cells up to `e`:
the group of `item` ends at the cell `b + q` -/
theorem findOther_fwd (b p a e : Nat) (ha : b + p = a) (hae : a < e) (hen : e ≤ n) (hai : eq (A a).1 item = true) :
    ∃ q, findOther eq (M.fwd s b) p (e - a) = some q ∧ a < b + q ∧ b + q ≤ e ∧
      (∀ k, a ≤ k → k < b + q → eq (A k).1 item = true) ∧ (∀ k, b + q ≤ k → k < e → eq (A k).1 item = false) := by
  subst ha
  obtain ⟨q, hq, h1, h2, h3, h4⟩ := findOther_spec (hr.fwd b) (hc.shift b) p (e - (b + p)) (Nat.sub_pos_of_lt hae) (by omega)
  refine ⟨q, hq, Nat.add_lt_add_left h1 b, by omega, fun k hk1 hk2 => ?_, fun k hk1 hk2 => ?_⟩
  · rcases Nat.eq_or_lt_of_le hk1 with rfl | hlt
    · exact hai
    · exact (he.eq_right_iff hai).2 (forall_shift (P := fun x => eq (A (b + p)).1 (A x).1 = true) h3 k hlt hk2)
  · exact he.eq_right_false hai (forall_shift (P := fun x => eq (A (b + p)).1 (A x).1 = false) h4 k hk1 (by omega))

end

include hr he hs hc hresp

/-- `pvFindNext` backwards from the cell `p` (code `itemHash`, another item) through the reverse view based at `p + 1`: `res.1` is a view position,
the cell it means is `a` with `a + res.1 = p`; a found `a` is the last cell of the group of `item` -/
theorem findNext_rev (p : Nat) (hp : p < n) (hcode : (A p).2 = itemHash) (hne : eq (A p).1 item = false) :
    ∃ res, findNext eq (M.rev s (p + 1)) (p + 1) item itemHash = some res ∧
      (res.2 = true → ∃ a, a + res.1 = p ∧ a < p ∧ eq (A a).1 item = true ∧ ∀ k, a < k → k < n → eq (A k).1 item = false) ∧
      (res.2 = false → ∀ k, k ≤ p → eq (A k).1 item = false) := by
  obtain ⟨res, hres, h0, hle, hlow, hf, hnf⟩ := findNext_spec he (hr.rev (p + 1) hp) (hc.rev he (p + 1) hp)
    (hs.convex.rev (p + 1) hp) item itemHash (fun i hi h => hresp _ (Nat.lt_of_le_of_lt (Nat.sub_le _ _) hp) h) (Nat.succ_pos p) hcode hne
  have back : ∀ m, m ≤ p + 1 → (∀ i, i < m → eq (A (p + 1 - 1 - i)).1 item = false) →
      ∀ k, p + 1 - m ≤ k → k ≤ p → eq (A k).1 item = false := fun m hm h k hk1 hk2 =>
    forall_rev (P := fun x => eq (A x).1 item = false) (a := 0) (Nat.sub_add_cancel hm) (fun i _ => h i) k hk1 (Nat.lt_succ_of_le hk2)
  refine ⟨res, hres, fun h => ?_, fun h k => back (p + 1) (Nat.le_refl _) (hnf h).1 k (Nat.sub_self _ ▸ Nat.zero_le k)⟩
  obtain ⟨h1, h2⟩ := hf h
  have h2 : eq (A (p - res.1)).1 item = true := by rwa [Nat.add_sub_cancel] at h2
  refine ⟨p - res.1, by omega, by omega, h2, fun k hk1 hk => ?_⟩
  by_cases hkp : k ≤ p
  · exact back res.1 hle hlow k (by omega) hkp
  · -- behind `p` nothing can be equal: the cell `p` in between is not
    exact Bool.eq_false_iff.2 fun hke => Bool.eq_false_iff.1 hne ((he.eq_right_iff h2).2
      (hc (p - res.1) p k (by omega) (Nat.lt_of_not_le hkp) hk ((he.eq_right_iff h2).1 hke)))

/-- `pvFindNext` forwards from the cell `p` through the view based at `p`, run when nothing up to `p` is equal to `item`: `res.1` is an offset from `p`,
the cell it means is `p + res.1`, the first of the group of `item` if found -/
theorem findNext_fwd (p : Nat) (hp : p < n) (hcode : (A p).2 = itemHash) (hleft : ∀ k, k ≤ p → eq (A k).1 item = false) :
    ∃ res, findNext eq (M.fwd s p) (n - p) item itemHash = some res ∧ p + res.1 ≤ n ∧
      (∀ k, k < p + res.1 → eq (A k).1 item = false) ∧
      (res.2 = true → p + res.1 < n ∧ eq (A (p + res.1)).1 item = true) ∧
      (res.2 = false → ∀ k, k < n → eq (A k).1 item = false) := by
  obtain ⟨res, hres, h0, hle, hlow, hf, hnf⟩ := findNext_spec he (hr.fwd p) (hc.shift p) (hs.convex.shift p)
    item itemHash (fun i hi h => hresp _ (Nat.add_lt_of_lt_sub' hi) h) (Nat.sub_pos_of_lt hp) hcode (hleft p (Nat.le_refl p))
  have back : ∀ m, (∀ i, i < m → eq (A (p + i)).1 item = false) → ∀ k, k < p + m → eq (A k).1 item = false := fun m h k hk => by
    by_cases hkp : k ≤ p
    · exact hleft k hkp
    · exact forall_shift (P := fun x => eq (A x).1 item = false) (lo := 0) (fun i _ => h i) k (Nat.le_of_not_le hkp) hk
  refine ⟨res, hres, by omega, back res.1 hlow, fun h => ?_, fun h k hk => back (n - p) (hnf h).1 k (by omega)⟩
  obtain ⟨h1, h2⟩ := hf h
  exact ⟨by omega, h2⟩

include hh in
theorem find_spec : ∃ res, find M eq s n item itemHash = some res ∧ FindPost eq A n item res := by
  obtain ⟨⟨p, found⟩, hres, hpost⟩ := findHash_spec hr hs itemHash hh
  rw [find, hres]
  simp only [Option.bind_some]
  cases found with
  | false => exact ⟨_, rfl, ⟨(fun h => nomatch h), fun _ => ⟨(hpost.2 rfl).1, absent_of_hashPost hresp hpost rfl⟩⟩⟩
  | true =>
    obtain ⟨hp, hcode⟩ : p < n ∧ (A p).2 = itemHash := hpost.1 rfl
    simp only [Bool.not_true, Bool.false_eq_true, if_false, (hr p hp).1, Option.bind_some]
    by_cases hitem : eq (A p).1 item = true
    · rw [if_pos hitem]
      exact ⟨_, rfl, ⟨fun _ => ⟨hp, hitem⟩, fun h => nomatch h⟩⟩
    · have hne := Bool.eq_false_iff.2 hitem
      obtain ⟨⟨j, rf⟩, hrv, hrf, hrnf⟩ := findNext_rev hr he hs hc item itemHash hresp p hp hcode hne
      rw [if_neg hitem, hrv]
      simp only [Option.bind_some]
      cases rf with
      | true =>
        obtain ⟨a, h1, _, h2, _⟩ := hrf rfl
        rw [if_pos rfl, csub_eq (c := a) (by omega)]
        exact ⟨_, rfl, ⟨fun _ => ⟨Nat.lt_of_le_of_lt (h1 ▸ Nat.le_add_right a j) hp, h2⟩, fun h => nomatch h⟩⟩
      | false =>
        obtain ⟨⟨i, ff⟩, hfw, hle, _, hff, hfnf⟩ := findNext_fwd hr he hs hc item itemHash hresp p hp hcode (hrnf rfl)
        rw [if_neg Bool.false_ne_true, csub_of_le (Nat.le_of_lt hp), Option.bind_some, hfw]
        exact ⟨_, rfl, ⟨fun hf => hff hf, fun hf => ⟨hle, hfnf hf⟩⟩⟩

include hh in
theorem getBounds_spec : ∃ res, getBounds M eq s n item itemHash = some res ∧ BoundsPost eq A n item res := by
  obtain ⟨⟨p, found⟩, hres, hpost⟩ := findHash_spec hr hs itemHash hh
  rw [getBounds, hres]
  simp only [Option.bind_some]
  cases found with
  | false =>
    exact ⟨_, rfl, boundsPost_of (Nat.le_refl _) (hpost.2 rfl).1 (fun k h1 h2 => absurd h2 (Nat.not_lt.2 h1))
      fun k hk _ => absent_of_hashPost hresp hpost rfl k hk⟩
  | true =>
    obtain ⟨hp, hcode⟩ : p < n ∧ (A p).2 = itemHash := hpost.1 rfl
    simp only [Bool.not_true, Bool.false_eq_true, if_false, (hr p hp).1, Option.bind_some]
    by_cases hitem : eq (A p).1 item = true
    · -- the hash search hit an equal item: widen to both sides with pvFindOther
      obtain ⟨q, b, hq, hbq, hb, hq3, hq4⟩ := findOther_rev hr he hc item (p + 1) 0 p hp rfl hitem
      obtain ⟨e, he1, he0, he2, he3, he4⟩ := findOther_fwd hr he hc item p 0 p n rfl hp (Nat.le_refl _) hitem
      have hbe : b ≤ p + e := by omega
      rw [if_pos hitem, hq, Option.bind_some, csub_eq hbq, Option.bind_some, csub_of_le (Nat.le_of_lt hp),
        Option.bind_some, he1, Option.bind_some, csub_of_le hbe]
      refine ⟨_, rfl, boundsPost_of hbe he2 (fun k h1 h2 => ?_) fun k hk h => ?_⟩
      · by_cases hkp : k ≤ p
        · exact hq3 k h1 hkp
        · exact he3 k (Nat.le_of_not_le hkp) h2
      · rcases h with h | h
        · exact hq4 k h
        · exact he4 k h hk
    · have hne := Bool.eq_false_iff.2 hitem
      obtain ⟨⟨j, rf⟩, hrv, hrf, hrnf⟩ := findNext_rev hr he hs hc item itemHash hresp p hp hcode hne
      rw [if_neg hitem, hrv]
      simp only [Option.bind_some]
      cases rf with
      | true =>
        -- an equal item lies before, at `a`: it is the last one of its group
        obtain ⟨a, h1, hap, h2, h3⟩ := hrf rfl
        obtain ⟨q, b, hq, hbq, hb, hq3, hq4⟩ := findOther_rev hr he hc item (p + 1) j a hp (by omega) h2
        have hj : a + 1 + j = p + 1 := by omega
        rw [if_pos rfl, csub_eq hj, Option.bind_some, hq, Option.bind_some, csub_eq hbq,
          Option.bind_some, csub_of_le (Nat.le_succ_of_le hb)]
        refine ⟨_, rfl, boundsPost_of (Nat.le_succ_of_le hb) (by omega) (fun k h1 h2 => hq3 k h1 (Nat.le_of_lt_succ h2))
          fun k hk h => ?_⟩
        rcases h with h | h
        · exact hq4 k h
        · exact h3 k h hk
      | false =>
        obtain ⟨⟨i, ff⟩, hfw, hle, hilow, hff, hfnf⟩ := findNext_fwd hr he hs hc item itemHash hresp p hp hcode (hrnf rfl)
        rw [if_neg Bool.false_ne_true, csub_of_le (Nat.le_of_lt hp), Option.bind_some, hfw]
        simp only [Option.bind_some]
        cases ff with
        | false =>
          exact ⟨_, rfl, boundsPost_of (Nat.le_refl _) hle (fun k h1 h2 => absurd h2 (Nat.not_lt.2 h1)) fun k hk _ => hfnf rfl k hk⟩
        | true =>
          obtain ⟨h1, h2⟩ : p + i < n ∧ eq (A (p + i)).1 item = true := hff rfl
          obtain ⟨e, he1, he0, he2, he3, he4⟩ := findOther_fwd hr he hc item p i (p + i) n rfl h1 (Nat.le_refl _) h2
          simp only [Bool.not_true, Bool.false_eq_true, if_false, csub_of_le (Nat.le_of_lt h1), Option.bind_some, he1, Option.map_some]
          refine ⟨_, rfl, boundsPost_of (Nat.le_of_lt he0) he2 he3 fun k hk h => ?_⟩
          rcases h with h | h
          · exact hilow k h
          · exact he4 k h hk

end

end Momo.Sort
