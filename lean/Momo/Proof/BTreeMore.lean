import Momo.Proof.BTreeOps
/-!
  C02, further operations: copy construction (`pvCopy`), the fast merge of two ordered trees (`pvMergeFast`), removal by
  predicate, range insertion with its shortcut, `MergeTo` by every path (`pvMergeTo`, `pvMergeToLinear`). Notions later files
  rely on: `IsOrdered` (`pvIsOrdered` as a proposition) with `insert1_at` (when `Spec.insert1` is an insertion at a given
  index), `igStep` (one round of `Insert(begin, end)`), `LinInv` (the order argument of the linear merge on lists) with
  `Cur.skip` (its skip loop).
-/
namespace Momo.BTree
open Node
variable {α : Type}

theorem copyList_length (cfg : Cfg) (cs : List (Node α)) (ia : Nat) : (copyList cfg cs ia).1.length = cs.length := by
  induction cs generalizing ia with
  | nil => simp [copyList]
  | cons c cs ih => simp [copyList, ih]

theorem copyList_inter (cfg : Cfg) (cs : List (Node α))
    (h : ∀ c ∈ cs, ∀ ia, toList (copyNode cfg c ia).1 = toList c) (is : List α) (ia : Nat) :
    inter (copyList cfg cs ia).1 is = inter cs is := by
  induction cs generalizing is ia with
  | nil => simp [copyList]
  | cons c cs ih =>
    have hc := h c (by simp) ia
    have hcs := fun is' ia' => ih (fun c' hc' => h c' (by simp [hc'])) is' ia'
    cases is with
    | nil => simp [copyList, hc, hcs]
    | cons s is' => simp [copyList, hc, hcs]

theorem copyList_forall (cfg : Cfg) (P : Node α → Prop) (cs : List (Node α))
    (h : ∀ c ∈ cs, ∀ ia, P (copyNode cfg c ia).1) (ia : Nat) : ∀ x ∈ (copyList cfg cs ia).1, P x := by
  induction cs generalizing ia with
  | nil => simp [copyList]
  | cons c cs ih =>
    intro x hx
    simp only [copyList, List.mem_cons] at hx
    rcases hx with rfl | hx
    · exact h c (by simp) ia
    · exact ih (fun c' hc' => h c' (by simp [hc'])) _ x hx

theorem copyNode_spec (cfg : Cfg) {d : Nat} {n : Node α} (hb : Bal d n) (ia : Nat) :
    toList (copyNode cfg n ia).1 = toList n ∧ Bal d (copyNode cfg n ia).1 ∧
    (Caps cfg.maxCap n → Caps cfg.maxCap (copyNode cfg n ia).1) := by
  induction hb generalizing ia with
  | leaf cap items =>
    simp only [copyNode]
    refine ⟨by simp, Bal.leaf _ _, ?_⟩
    intro hc
    cases hc with
    | leaf _ _ h1 h2 =>
      have := leafCap_bounds cfg ia items.length (by omega)
      exact Caps.leaf _ _ this.1 this.2
  | inner d items cs hlen hall ih =>
    simp only [copyNode]
    refine ⟨?_, ?_, ?_⟩
    · rw [toList_inner, toList_inner]
      exact copyList_inter cfg cs (fun c hc ia' => (ih c hc ia').1) items (ia + 1)
    · exact Bal.inner d _ _ (by rw [copyList_length]; exact hlen)
        (copyList_forall cfg (Bal d) cs (fun c hc ia' => (ih c hc ia').2.1) (ia + 1))
    · intro hc
      cases hc with
      | inner _ _ h1 h2 =>
        exact Caps.inner _ _ h1
          (copyList_forall cfg (Caps cfg.maxCap) cs (fun c hc ia' => (ih c hc ia').2.2 (h2 c hc)) (ia + 1))

theorem tree_copy_spec (cfg : Cfg) (t : Tree α) (hw : t.WF cfg) :
    (Tree.copy cfg t).toList = t.toList ∧ (Tree.copy cfg t).WF cfg := by
  unfold Tree.copy
  by_cases h0 : t.count = 0
  · rw [if_pos h0]
    exact ⟨(List.eq_nil_of_length_eq_zero (hw.count.symm.trans h0)).symm, Tree.wf_empty cfg⟩
  · rw [if_neg h0]
    obtain ⟨_ | r, count⟩ := t
    · exact ⟨rfl, Tree.wf_empty cfg⟩
    · obtain ⟨d, hb⟩ := hw.bal r rfl
      obtain ⟨a, b, c⟩ := copyNode_spec cfg hb 0
      exact ⟨a, Tree.wf_root cfg (hw.count.trans (congrArg List.length a).symm) b (c (hw.caps r rfl))⟩

theorem height_of_bal {d : Nat} {n : Node α} (hb : Bal d n) : height n = d + 1 := by
  induction hb with
  | leaf cap items => simp [height]
  | inner d items cs hlen hall ih =>
    cases cs with
    | nil => simp at hlen
    | cons c cs' => simp [height, heightHead, ih c (by simp)]

theorem wrapN_spec (k : Nat) {d D : Nat} {n : Node α} (hb : Bal d n) (hD : d + k = D) :
    toList (wrapN k n) = toList n ∧ Bal D (wrapN k n) ∧ (∀ maxCap, Caps maxCap n → Caps maxCap (wrapN k n)) := by
  induction k generalizing n d with
  | zero => exact ⟨rfl, hD ▸ hb, fun _ h => h⟩
  | succ j ih =>
    have hb1 : Bal (d+1) (inner [] [n]) :=
      Bal.inner d _ _ rfl (fun c hc => (List.mem_singleton.mp hc) ▸ hb)
    obtain ⟨a, b, c⟩ := ih hb1 (by omega)
    simp only [wrapN]
    refine ⟨by rw [a]; simp, b, fun maxCap hc => c maxCap (Caps.inner _ _ (Nat.zero_le _) ?_)⟩
    exact fun x hx => (List.mem_singleton.mp hx) ▸ hc

/-- `attach` descends `dd` levels along the first / last spine of the taller tree `n2` (depth `D`) and hangs the shorter tree
    `t1` (depth `D - dd`) with the separator into the deepest node that has room: `.inl` is the new tree. `.inr w` means every
    node it passed was full; `w` counts them, so `w = dd` and the caller wraps `t1` that often. -/
theorem attach_spec (cfg : Cfg) (right : Bool) (sep : α) (t1 : Node α) (dd : Nat) {D : Nat} {n2 : Node α}
    (hb2 : Bal D n2) (hdd : dd ≤ D) (hb1 : Bal (D - dd) t1) :
    (∀ n', attach cfg right sep t1 n2 dd = .inl n' →
        toList n' = (if right then toList n2 ++ sep :: toList t1 else toList t1 ++ sep :: toList n2) ∧ Bal D n' ∧
        (Caps cfg.maxCap n2 → Caps cfg.maxCap t1 → Caps cfg.maxCap n')) ∧
    (∀ w, attach cfg right sep t1 n2 dd = .inr w → w = dd) := by
  induction dd generalizing n2 D with
  | zero => simp [attach]
  | succ k ih =>
    cases hb2 with
    | leaf cap items => omega
    | inner D' items cs hlen hall =>
      have hside : (if right then items.length else 0) < cs.length := by split <;> omega
      obtain ⟨ch, hch⟩ := ListFacts.getElem?_of_lt hside
      have hbch := hall ch (List.mem_of_getElem? hch)
      have hb1' : Bal (D' - k) t1 := by
        have : D' + 1 - (k + 1) = D' - k := by omega
        rw [this] at hb1; exact hb1
      obtain ⟨ih1, ih2⟩ := ih hbch (by omega) hb1'
      simp only [attach, hch]
      cases hres : attach cfg right sep t1 ch k with
      | inl ch' =>
        obtain ⟨a, b, c⟩ := ih1 ch' hres
        simp only
        constructor
        · intro n' hn'
          cases hn'
          refine ⟨?_, ?_, ?_⟩
          · rw [toList_inner, toList_inner, inter_set cs items _ ch ch' hch hlen, inter_split cs items _ ch hch hlen, a]
            cases right with
            | true => simp [postOf]
            | false => simp [preOf]
          · exact (Bal.inner D' _ _ hlen hall).set_child _ b
          · exact fun hc2 hc1 => hc2.set_child _ (c (hc2.getElem hch) hc1)
        · intro w hw; cases hw
      | inr w =>
        have hw := ih2 w hres
        subst hw
        obtain ⟨wa, hwb, wc⟩ := wrapN_spec w hb1' (Nat.sub_add_cancel (Nat.le_of_succ_le_succ hdd))
        simp only
        split
        · rename_i hroom
          constructor
          · intro n' hn'
            cases hn'
            cases right with
            | true =>
              simp only [if_true]
              refine ⟨?_, Bal.inner D' _ _ (by simp [hlen])
                (List.forall_mem_append.mpr ⟨hall, List.forall_mem_singleton.mpr hwb⟩), fun hc2 hc1 => ?_⟩
              · have := inter_append cs [wrapN w t1] items [] sep hlen
                rw [toList_inner, toList_inner, this]; simp [wa]
              · exact Caps.inner _ _ (by rw [List.length_append]; exact hroom)
                  (List.forall_mem_append.mpr ⟨hc2.inner_child, List.forall_mem_singleton.mpr (wc _ hc1)⟩)
            | false =>
              simp only [Bool.false_eq_true, if_false]
              exact ⟨by simp [wa], Bal.inner D' _ _ (by simp [hlen]) (List.forall_mem_cons.mpr ⟨hwb, hall⟩),
                fun hc2 hc1 => Caps.inner _ _ hroom (List.forall_mem_cons.mpr ⟨wc _ hc1, hc2.inner_child⟩)⟩
          · intro w' hw'; cases hw'
        · constructor
          · intro n' hn'; cases hn'
          · intro w' hw'; cases hw'; rfl

theorem mergeFast_spec (cfg : Cfg) (hmax : 0 < cfg.maxCap) {d1 d2 : Nat} {r1 r2 : Node α} (hb1 : Bal d1 r1)
    (hb2 : Bal d2 r2) (hne1 : toList r1 ≠ []) (hne2 : toList r2 ≠ []) :
    toList (mergeFast cfg r1 r2) = toList r1 ++ toList r2 ∧ (∃ d, Bal d (mergeFast cfg r1 r2)) ∧
    (Caps cfg.maxCap r1 → Caps cfg.maxCap r2 → Caps cfg.maxCap (mergeFast cfg r1 r2)) := by
  unfold mergeFast
  rw [height_of_bal hb1, height_of_bal hb2]
  split
  · rename_i hgt
    have hd : d2 < d1 := by omega
    cases hp : popFirst r2 with
    | none => exact absurd ((popFirst_spec hb2).2 hp) hne2
    | some res =>
      obtain ⟨t, sep⟩ := res
      obtain ⟨p1, p2, p3⟩ := (popFirst_spec hb2).1 t sep hp
      simp only
      rw [Nat.add_sub_add_right]
      obtain ⟨a1, a2⟩ := attach_spec cfg true sep t (d1 - d2) hb1 (Nat.sub_le _ _)
        ((Nat.sub_sub_self (Nat.le_of_lt hd)).symm ▸ p2)
      cases hres : attach cfg true sep t r1 (d1 - d2) with
      | inl n =>
        obtain ⟨x, y, z⟩ := a1 n hres
        exact ⟨by rw [x, p1]; simp, ⟨d1, y⟩, fun c1 c2 => z c1 (p3 _ c2)⟩
      | inr w =>
        have := a2 w hres; subst this
        obtain ⟨wa, hwb, wc⟩ := wrapN_spec (d1 - d2) p2 (Nat.add_sub_cancel' (Nat.le_of_lt hd))
        exact ⟨by simp [wa, p1], ⟨d1 + 1, Bal.pair sep hb1 hwb⟩,
          fun c1 c2 => Caps.pair sep hmax c1 (wc _ (p3 _ c2))⟩
  · rename_i hngt
    have hd : d1 ≤ d2 := by omega
    cases hp : popLast r1 with
    | none => exact absurd ((popLast_spec hb1).2 hp) hne1
    | some res =>
      obtain ⟨t, sep, cp⟩ := res
      obtain ⟨p1, p2, p3⟩ := (popLast_spec hb1).1 t sep cp hp
      simp only
      rw [Nat.add_sub_add_right]
      obtain ⟨a1, a2⟩ := attach_spec cfg false sep t (d2 - d1) hb2 (Nat.sub_le _ _)
        ((Nat.sub_sub_self hd).symm ▸ p2)
      cases hres : attach cfg false sep t r2 (d2 - d1) with
      | inl n =>
        obtain ⟨x, y, z⟩ := a1 n hres
        exact ⟨by rw [x, p1]; simp, ⟨d2, y⟩, fun c1 c2 => z c2 (p3 _ c1)⟩
      | inr w =>
        have := a2 w hres; subst this
        obtain ⟨wa, hwb, wc⟩ := wrapN_spec (d2 - d1) p2 (Nat.add_sub_cancel' hd)
        exact ⟨by simp [wa, p1], ⟨d2 + 1, Bal.pair sep hwb hb2⟩,
          fun c1 c2 => Caps.pair sep hmax (wc _ (p3 _ c1)) c2⟩

theorem removeIf_go_spec (cfg : Cfg) (f : α → Bool) (fuel : Nat) {t : Tree α} {pos : Pos} {l : List α} {i : Nat}
    (h : Cur cfg t pos l i) (hf : l.length ≤ i + fuel) :
    (Tree.removeIf.go cfg f fuel t pos).toList = l.take i ++ (l.drop i).filter (fun y => !f y) ∧
    (Tree.removeIf.go cfg f fuel t pos).WF cfg := by
  induction fuel generalizing t pos l i with
  | zero =>
    obtain rfl : i = l.length := Nat.le_antisymm h.le hf
    exact ⟨by simp [Tree.removeIf.go, h.list], h.wf⟩
  | succ n ih =>
    simp only [Tree.removeIf.go]
    rcases h.cases with ⟨hend, rfl⟩ | ⟨hend, x, hx1, hx2⟩
    · rw [if_pos hend]
      exact ⟨by simp [h.list], h.wf⟩
    · rw [if_neg hend]
      simp only [hx1]
      have hlt := ListFacts.lt_of_getElem? hx2
      by_cases hfx : f x = true
      · rw [if_pos hfx]
        obtain ⟨i1, i2⟩ := ih (h.remove hlt) (by rw [List.length_eraseIdx_of_lt hlt]; omega)
        refine ⟨?_, i2⟩
        rw [i1, ListFacts.take_eraseIdx_self, ListFacts.drop_eraseIdx_self, ListFacts.drop_of_getElem? hx2]
        simp [hfx]
      · rw [if_neg hfx]
        obtain ⟨i1, i2⟩ := ih (h.next hlt) (by omega)
        refine ⟨?_, i2⟩
        rw [i1, ListFacts.drop_of_getElem? hx2, List.take_add_one, hx2]
        simp [hfx]

theorem tree_removeIf_spec (cfg : Cfg) (f : α → Bool) (t : Tree α) (hw : t.WF cfg) :
    (Tree.removeIf cfg f t).toList = t.toList.filter (fun y => !f y) ∧ (Tree.removeIf cfg f t).WF cfg := by
  have := removeIf_go_spec cfg f t.count (Cur.begin hw) (by rw [hw.count]; omega)
  simpa [Tree.removeIf] using this

section ins1
variable (lt : α → α → Bool)

theorem foldl_insert1_sorted (multi : Bool) (xs l : List α) (hs : SortedBy lt multi l)
    (step : ∀ l x, SortedBy lt multi l → SortedBy lt multi (Spec.insert1 lt multi l x)) :
    SortedBy lt multi (xs.foldl (Spec.insert1 lt multi) l) := by
  induction xs generalizing l with
  | nil => exact hs
  | cons x xs ih => exact ih _ (step l x hs)

theorem insert1_facts (multi : Bool) (l : List α) (x : α) :
    l.Sublist (Spec.insert1 lt multi l x) ∧ (∀ z ∈ Spec.insert1 lt multi l x, z ∈ l ∨ z = x) := by
  unfold Spec.insert1
  split
  · exact ⟨List.Sublist.refl _, fun z hz => Or.inl hz⟩
  · refine ⟨ListFacts.sublist_insertIdx x (upperIdx_le lt l x), fun z hz => ?_⟩
    have := (List.perm_insertIdx x l (upperIdx_le lt l x)).mem_iff.mp hz
    simpa [or_comm] using this

theorem foldl_insert1_facts (multi : Bool) (ys l : List α) :
    l.Sublist (ys.foldl (Spec.insert1 lt multi) l) ∧ (∀ z ∈ ys.foldl (Spec.insert1 lt multi) l, z ∈ l ∨ z ∈ ys) := by
  induction ys generalizing l with
  | nil => exact ⟨List.Sublist.refl _, fun z hz => Or.inl hz⟩
  | cons y ys ih =>
    obtain ⟨a, b⟩ := insert1_facts lt multi l y
    obtain ⟨c, d⟩ := ih (Spec.insert1 lt multi l y)
    refine ⟨a.trans c, fun z hz => ?_⟩
    rcases d z hz with h | h
    · rcases b z h with h' | h'
      · exact Or.inl h'
      · exact Or.inr (by simp [h'])
    · exact Or.inr (by simp [h])

end ins1

theorem mergeGeneric_go_spec (lt : α → α → Bool) (ho : Order lt) (cfg : Cfg) (hmax : 0 < cfg.maxCap) (fuel : Nat)
    {src dst : Tree α} {pos : Pos} {l : List α} {i : Nat} (h : Cur cfg src pos l i) (hwd : dst.WF cfg)
    (hsd : SortedBy lt cfg.multi dst.toList) (hf : l.length ≤ i + fuel) :
    (Tree.mergeGeneric.go lt cfg fuel src dst pos).2.toList = (l.drop i).foldl (Spec.insert1 lt cfg.multi) dst.toList ∧
    (Tree.mergeGeneric.go lt cfg fuel src dst pos).2.WF cfg ∧
    SortedBy lt cfg.multi (Tree.mergeGeneric.go lt cfg fuel src dst pos).2.toList ∧
    (Tree.mergeGeneric.go lt cfg fuel src dst pos).1.WF cfg ∧
    (Tree.mergeGeneric.go lt cfg fuel src dst pos).1.toList.Sublist l := by
  induction fuel generalizing src dst pos l i with
  | zero =>
    obtain rfl : i = l.length := Nat.le_antisymm h.le hf
    exact ⟨by simp [Tree.mergeGeneric.go], hwd, hsd, h.wf, by simp [Tree.mergeGeneric.go, h.list]⟩
  | succ n ih =>
    simp only [Tree.mergeGeneric.go]
    rcases h.cases with ⟨hend, rfl⟩ | ⟨hend, x, hx1, hx2⟩
    · rw [if_pos hend]
      exact ⟨by simp, hwd, hsd, h.wf, by simp [h.list]⟩
    · rw [if_neg hend]
      simp only [hx1]
      have hlt := ListFacts.lt_of_getElem? hx2
      obtain ⟨j1, j2, j3, j4, _, _⟩ := tree_insert_insert1 lt ho cfg hmax dst hwd hsd x
      rw [ListFacts.drop_of_getElem? hx2, List.foldl_cons, ← j1]
      cases hins : (Tree.insert lt cfg dst x).2.2 with
      | true =>
        rw [if_pos rfl]
        obtain ⟨i1, i2, i3, i4, i5⟩ := ih (h.remove hlt) j3 j4 (by rw [List.length_eraseIdx_of_lt hlt]; omega)
        exact ⟨by rw [i1, ListFacts.drop_eraseIdx_self], i2, i3, i4, i5.trans (List.eraseIdx_sublist _ _)⟩
      | false =>
        rw [if_neg Bool.false_ne_true, j2 hins]
        exact ih (h.next hlt) hwd hsd (by omega)

theorem tree_mergeGeneric_spec (lt : α → α → Bool) (ho : Order lt) (cfg : Cfg) (hmax : 0 < cfg.maxCap)
    (src dst : Tree α) (hws : src.WF cfg) (hwd : dst.WF cfg) (hsd : SortedBy lt cfg.multi dst.toList) :
    (Tree.mergeGeneric lt cfg src dst).2.toList = src.toList.foldl (Spec.insert1 lt cfg.multi) dst.toList ∧
    (Tree.mergeGeneric lt cfg src dst).2.WF cfg ∧ SortedBy lt cfg.multi (Tree.mergeGeneric lt cfg src dst).2.toList ∧
    (Tree.mergeGeneric lt cfg src dst).1.WF cfg ∧ (Tree.mergeGeneric lt cfg src dst).1.toList.Sublist src.toList := by
  have := mergeGeneric_go_spec lt ho cfg hmax src.count (Cur.begin hws) hwd hsd (by rw [hws.count]; omega)
  simpa [Tree.mergeGeneric] using this

section insrange
variable (lt : α → α → Bool)

theorem insert1_sorted (ho : Order lt) (multi : Bool) (l : List α) (x : α) (hs : SortedBy lt multi l) :
    SortedBy lt multi (Spec.insert1 lt multi l x) := by
  unfold Spec.insert1
  by_cases hc : multi = false ∧ l.any (fun y => equiv lt y x) = true
  · rw [if_pos hc]; exact hs
  · rw [if_neg hc]
    exact sortedBy_insertIdx_upper lt ho multi l x hs (fun h => hc ⟨h.1, (any_equiv_iff lt _ _).mpr h.2⟩)

/-- `pvIsOrdered` as a proposition on two elements. The model has it as `Tree.isOrderedItems lt cfg` (Bool), the reference
    semantics as `Spec.ordered lt multi` (Bool, `Spec.ordered_eq_isOrderedItems`); `isOrderedItems_iff` and `sortedBy_iff_isOrdered`
    bring both and `SortedBy` to this form, in which `insert1_at` and the `LinInv` lemmas are stated. -/
def IsOrdered (multi : Bool) (a b : α) : Prop := if multi then lt b a = false else lt a b = true

theorem insert1_at (ho : Order lt) (multi : Bool) (l : List α) (q : Nat) (x : α) (hs : SortedBy lt multi l)
    (hq : q ≤ l.length) (h1 : ∀ j y, j < q → l[j]? = some y → IsOrdered lt multi y x)
    (h2 : ∀ y, l[q]? = some y → lt x y = true) :
    Spec.insert1 lt multi l x = l.insertIdx q x := by
  have hbefore : ∀ j y, j < q → l[j]? = some y → lt x y = false := by
    intro j y hj hy
    have := h1 j y hj hy
    unfold IsOrdered at this
    cases multi with
    | true => simpa using this
    | false => exact ho.asymm _ _ (by simpa using this)
  have hub : upperIdx lt l x = q := by
    rw [← firstTrue_upper]; exact firstTrue_eq_of _ l q hbefore hq h2
  unfold Spec.insert1
  rw [hub, if_neg]
  rintro ⟨hm, hany⟩
  obtain ⟨y, hy, he⟩ := (any_equiv_iff lt _ _).mp hany
  rw [equiv_iff] at he
  obtain ⟨j, hj⟩ := List.getElem?_of_mem hy
  by_cases hjq : j < q
  · have := h1 j y hjq hj
    rw [IsOrdered, hm, if_neg Bool.false_ne_true, he.1] at this; cases this
  · have := (upperIdx_facts lt ho l x (hs.weak ho)).2.2 j y (hub ▸ Nat.le_of_not_lt hjq) hj
    rw [he.2] at this; cases this

theorem insert1_after_prev (ho : Order lt) (multi : Bool) (l : List α) (p : Nat) (prevKey x : α)
    (hs : SortedBy lt multi l) (hp : l[p]? = some prevKey) (h1 : lt x prevKey = false)
    (h2 : ∀ y, l[p + 1]? = some y → lt x y = true) (h3 : multi = true ∨ lt prevKey x = true) :
    Spec.insert1 lt multi l x = l.insertIdx (p + 1) x := by
  refine insert1_at lt ho multi l (p + 1) x hs (ListFacts.lt_of_getElem? hp) (fun j y hj hy => ?_) h2
  -- everything up to `p` is not greater than `prevKey`
  have hyp : lt prevKey y = false := by
    by_cases hjp : j = p
    · subst hjp; rw [hp] at hy; cases hy; exact ho.irrefl _
    · exact ListFacts.pairwise_getElem? (hs.weak ho) (by omega) hy hp
  unfold IsOrdered
  cases multi with
  | true => rw [if_pos rfl]; exact ho.le_trans y prevKey x hyp h1
  | false =>
    rw [if_neg Bool.false_ne_true]
    have hpx : lt prevKey x = true := h3.resolve_left Bool.false_ne_true
    cases hyx : lt y x with
    | true => rfl
    | false => rw [ho.le_trans x y prevKey hyx hyp] at hpx; cases hpx

/-- one round of the loop `insertRange.go` of `Insert(begin, end)` (`ig` = `insertRange.go`) -/
def igStep (cfg : Cfg) (t : Tree α) (pos : Pos) (prevKey x : α) : Tree α × Pos :=
  if lt x prevKey || !Tree.isGreater lt t (t.next pos) x then ((Tree.insert lt cfg t x).1, (Tree.insert lt cfg t x).2.1)
  else if cfg.multi || lt prevKey x then ((t.add cfg (t.next pos) x).1, (t.add cfg (t.next pos) x).2)
  else (t, pos)

theorem insertRange_go_cons (cfg : Cfg) (t : Tree α) (pos : Pos) (prevKey x : α) (xs : List α) (hk : t.elemAt? pos = some prevKey) :
    Tree.insertRange.go lt cfg (x :: xs) t pos =
      Tree.insertRange.go lt cfg xs (igStep lt cfg t pos prevKey x).1 (igStep lt cfg t pos prevKey x).2 := by
  simp only [Tree.insertRange.go, hk, igStep]
  split
  · rfl
  · split <;> rfl

theorem igStep_spec (ho : Order lt) (cfg : Cfg) (hmax : 0 < cfg.maxCap) (t : Tree α) (hw : t.WF cfg)
    (hs : SortedBy lt cfg.multi t.toList) (pos : Pos) (hv : t.ValidElem pos) (prevKey x : α)
    (hk1 : t.elemAt? pos = some prevKey) :
    (igStep lt cfg t pos prevKey x).1.toList = Spec.insert1 lt cfg.multi t.toList x ∧
    (igStep lt cfg t pos prevKey x).1.WF cfg ∧ SortedBy lt cfg.multi (igStep lt cfg t pos prevKey x).1.toList ∧
    (igStep lt cfg t pos prevKey x).1.ValidElem (igStep lt cfg t pos prevKey x).2 := by
  obtain ⟨pk, hk1', hk2⟩ := tree_elemAt_spec cfg t hw pos hv
  rw [hk1] at hk1'; cases hk1'
  obtain ⟨n1, n2⟩ := tree_next_spec cfg t hw pos hv
  have hg := tree_isGreater_spec lt cfg t hw (t.next pos) n2 x
  rw [n1] at hg
  unfold igStep
  by_cases hA : (lt x prevKey || !Tree.isGreater lt t (t.next pos) x) = true
  · rw [if_pos hA]
    obtain ⟨j1, _, j3, j4, j5, _⟩ := tree_insert_insert1 lt ho cfg hmax t hw hs x
    exact ⟨j1, j3, j4, j5⟩
  · rw [if_neg hA]
    simp only [Bool.or_eq_true, Bool.not_eq_true', not_or, Bool.not_eq_true, Bool.not_eq_false] at hA
    obtain ⟨hx1, hx2⟩ := hA
    by_cases hB : (cfg.multi || lt prevKey x) = true
    · rw [if_pos hB]
      have hnext : ∀ y, t.toList[t.idxOf pos + 1]? = some y → lt x y = true := by
        intro y hy; rw [hy] at hg; simp only at hg; rw [← hg]; exact hx2
      have hins := insert1_after_prev lt ho cfg.multi t.toList (t.idxOf pos) prevKey x hs hk2 hx1 hnext
        (by simpa [Bool.or_eq_true] using hB)
      obtain ⟨a1, a2, a3, a4⟩ := tree_add_spec cfg hmax t hw (t.next pos) n2 x
      rw [n1, ← hins] at a1
      exact ⟨a1, a2, a1 ▸ insert1_sorted lt ho cfg.multi _ x hs, a4⟩
    · rw [if_neg hB]
      simp only [Bool.or_eq_true, not_or, Bool.not_eq_true] at hB
      refine ⟨?_, hw, hs, hv⟩
      unfold Spec.insert1
      rw [if_pos ⟨hB.1, (any_equiv_iff lt _ _).mpr ⟨prevKey, List.mem_of_getElem? hk2, equiv_iff.mpr ⟨hB.2, hx1⟩⟩⟩]

theorem insertRange_go_spec (ho : Order lt) (cfg : Cfg) (hmax : 0 < cfg.maxCap) (xs : List α) (t : Tree α)
    (hw : t.WF cfg) (hs : SortedBy lt cfg.multi t.toList) (pos : Pos) (hv : t.ValidElem pos) :
    (Tree.insertRange.go lt cfg xs t pos).toList = xs.foldl (Spec.insert1 lt cfg.multi) t.toList ∧
    (Tree.insertRange.go lt cfg xs t pos).WF cfg ∧ SortedBy lt cfg.multi (Tree.insertRange.go lt cfg xs t pos).toList := by
  induction xs generalizing t pos with
  | nil => exact ⟨rfl, hw, hs⟩
  | cons x xs ih =>
    obtain ⟨prevKey, hk1, -⟩ := tree_elemAt_spec cfg t hw pos hv
    obtain ⟨s0, s1, s2, s3⟩ := igStep_spec lt ho cfg hmax t hw hs pos hv prevKey x hk1
    rw [insertRange_go_cons lt cfg t pos prevKey x xs hk1, List.foldl_cons, ← s0]
    exact ih _ s1 s2 _ s3

theorem tree_insertRange_spec (ho : Order lt) (cfg : Cfg) (hmax : 0 < cfg.maxCap) (t : Tree α) (hw : t.WF cfg)
    (hs : SortedBy lt cfg.multi t.toList) (xs : List α) :
    (Tree.insertRange lt cfg t xs).toList = xs.foldl (Spec.insert1 lt cfg.multi) t.toList ∧
    (Tree.insertRange lt cfg t xs).WF cfg ∧ SortedBy lt cfg.multi (Tree.insertRange lt cfg t xs).toList := by
  cases xs with
  | nil => simp only [Tree.insertRange]; exact ⟨rfl, hw, hs⟩
  | cons x xs =>
    simp only [Tree.insertRange, List.foldl_cons]
    obtain ⟨j1, _, j3, j4, j5, _⟩ := tree_insert_insert1 lt ho cfg hmax t hw hs x
    obtain ⟨i1, i2, i3⟩ := insertRange_go_spec lt ho cfg hmax xs _ j3 j4 _ j5
    exact ⟨by rw [i1, j1], i2, i3⟩

end insrange

section linear
variable (lt : α → α → Bool)

theorem Spec.ordered_eq_isOrderedItems (cfg : Cfg) (a b : α) :
    Spec.ordered lt cfg.multi a b = Tree.isOrderedItems lt cfg a b := rfl

theorem isOrderedItems_iff (cfg : Cfg) (a b : α) : Tree.isOrderedItems lt cfg a b = true ↔ IsOrdered lt cfg.multi a b := by
  unfold Tree.isOrderedItems IsOrdered
  cases cfg.multi <;> simp

theorem sortedBy_iff_isOrdered (multi : Bool) (l : List α) : SortedBy lt multi l ↔ l.Pairwise (IsOrdered lt multi) := by
  unfold SortedBy IsOrdered
  cases multi <;> simp

theorem isOrdered_trans (ho : Order lt) (multi : Bool) (e x s : α) (h1 : IsOrdered lt multi e x) (h2 : IsOrdered lt multi x s) :
    IsOrdered lt multi e s := by
  unfold IsOrdered at *
  cases multi with
  | true => simp only [if_true] at *; exact ho.le_trans e x s h1 h2
  | false => simp only [Bool.false_eq_true, if_false] at *; exact ho.lt_trans e x s h1 h2

/-- the invariant of `pvMergeToLinear` on the two in-order lists: everything of the destination before `q` is ordered before
    everything of the source from `i` on -/
def LinInv (multi : Bool) (S D : List α) (i q : Nat) : Prop :=
  ∀ j e k s, j < q → D[j]? = some e → i ≤ k → S[k]? = some s → IsOrdered lt multi e s

variable {lt} {multi : Bool} {S D : List α} {i q q' : Nat} {x : α}

theorem LinInv.before (h : LinInv lt multi S D i q) (hx : S[i]? = some x)
    (hskip : ∀ j y, q ≤ j → j < q' → D[j]? = some y → IsOrdered lt multi y x) :
    ∀ j y, j < q' → D[j]? = some y → IsOrdered lt multi y x := fun j y hj hy =>
  if hjq : j < q then h j y i x hjq hy (Nat.le_refl _) hx else hskip j y (Nat.le_of_not_lt hjq) hj hy

/-- what the test `multiKey || pvIsGreater(dstIter, key)` decides at the stopping point of the skip loop -/
theorem isGreater_stop (cfg : Cfg) {dst : Tree α} (hw : dst.WF cfg) {dp : Pos} (hv : dst.ValidPos dp)
    (hno : ∀ y, dst.toList[dst.idxOf dp]? = some y → ¬ IsOrdered lt cfg.multi y x) :
    ((cfg.multi || Tree.isGreater lt dst dp x) = true → ∀ y, dst.toList[dst.idxOf dp]? = some y → lt x y = true) ∧
    ((cfg.multi || Tree.isGreater lt dst dp x) = false →
      cfg.multi = false ∧ ∃ y, dst.toList[dst.idxOf dp]? = some y ∧ lt y x = false ∧ lt x y = false) := by
  rw [tree_isGreater_spec lt cfg dst hw dp hv x]
  cases hy : dst.toList[dst.idxOf dp]? with
  | none => exact ⟨fun _ _ h => (nomatch h), fun h => by rw [Bool.or_true] at h; cases h⟩
  | some y =>
    have hno := hno y hy
    unfold IsOrdered at hno
    revert hno
    cases cfg.multi with
    | true => intro hno; exact ⟨fun _ _ h => by cases h; exact eq_true_of_ne_false hno, fun h => (nomatch h)⟩
    | false =>
      intro hno
      exact ⟨fun h _ h' => by cases h'; exact h, fun h => ⟨rfl, y, rfl, eq_false_of_ne_true hno, h⟩⟩

/-- the element went over to the destination at `q'` -/
theorem LinInv.insert (ho : Order lt) (hS : SortedBy lt multi S) (hx : S[i]? = some x) (hq' : q' ≤ D.length)
    (hbefore : ∀ j y, j < q' → D[j]? = some y → IsOrdered lt multi y x) :
    LinInv lt multi (S.eraseIdx i) (D.insertIdx q' x) i (q' + 1) := by
  intro j e k s hj he hk hs
  rw [List.getElem?_eraseIdx_of_ge hk] at hs
  have hxs : IsOrdered lt multi x s := ListFacts.pairwise_getElem? ((sortedBy_iff_isOrdered lt multi _).mp hS) (Nat.lt_succ_of_le hk) hx hs
  by_cases hjq : j < q'
  · rw [List.getElem?_insertIdx_of_lt hjq] at he
    exact isOrdered_trans lt ho multi e x s (hbefore j e hjq he) hxs
  · obtain rfl : j = q' := Nat.le_antisymm (Nat.le_of_lt_succ hj) (Nat.le_of_not_lt hjq)
    rw [List.getElem?_insertIdx_self, if_pos hq'] at he
    cases he; exact hxs

/-- unique keys and an equivalent element `y` at the stopping point: the source element is refused, both iterators advance -/
theorem LinInv.skip (ho : Order lt) {y : α} (hS : SortedBy lt false S) (hx : S[i]? = some x) (hy : D[q']? = some y)
    (hyx : lt y x = false) (hxy : lt x y = false) (hbefore : ∀ j y, j < q' → D[j]? = some y → IsOrdered lt false y x) :
    Spec.insert1 lt false D x = D ∧ LinInv lt false S D (i + 1) (q' + 1) := by
  refine ⟨?_, fun j e k s hj he hk hs => ?_⟩
  · unfold Spec.insert1
    rw [if_pos ⟨rfl, (any_equiv_iff lt _ _).mpr ⟨y, List.mem_of_getElem? hy, equiv_iff.mpr ⟨hyx, hxy⟩⟩⟩]
  · have hxs : IsOrdered lt false x s := ListFacts.pairwise_getElem? ((sortedBy_iff_isOrdered lt false _).mp hS) hk hx hs
    by_cases hjq : j < q'
    · exact isOrdered_trans lt ho false e x s (hbefore j e hjq he) hxs
    · obtain rfl : j = q' := Nat.le_antisymm (Nat.le_of_lt_succ hj) (Nat.le_of_not_lt hjq)
      rw [hy] at he; cases he
      -- y ≤ x < s
      show lt y s = true
      cases h : lt y s with
      | true => rfl
      | false => exact nomatch (ho.le_trans s y x h hxy).symm.trans hxs

variable (lt)

/-- the loop `while (dstIter != end && pvIsOrdered(*dstIter, key)) ++dstIter` stops at some `j'`: what it passed is ordered
    before `x`, what it stands at is not -/
theorem Cur.skip (cfg : Cfg) (x : α) (fuel : Nat) {dst : Tree α} {dpos : Pos} {ld : List α} {j : Nat}
    (h : Cur cfg dst dpos ld j) (hf : ld.length ≤ j + fuel) :
    ∃ j', Cur cfg dst (Tree.mergeLinear.skip lt cfg dst x fuel dpos) ld j' ∧ j ≤ j' ∧
      (∀ a y, j ≤ a → a < j' → ld[a]? = some y → IsOrdered lt cfg.multi y x) ∧
      (∀ y, ld[j']? = some y → ¬ IsOrdered lt cfg.multi y x) := by
  have stop : ∀ {dpos j}, (∀ y, ld[j]? = some y → ¬ IsOrdered lt cfg.multi y x) → Cur cfg dst dpos ld j →
      ∃ j', Cur cfg dst dpos ld j' ∧ j ≤ j' ∧ (∀ a y, j ≤ a → a < j' → ld[a]? = some y → IsOrdered lt cfg.multi y x) ∧
        (∀ y, ld[j']? = some y → ¬ IsOrdered lt cfg.multi y x) :=
    fun h4 h => ⟨_, h, Nat.le_refl _, fun a y h1 h2 => absurd h2 (Nat.not_lt_of_le h1), h4⟩
  have atEnd : ∀ y, ld[ld.length]? = some y → ¬ IsOrdered lt cfg.multi y x :=
    fun y hy => absurd (ListFacts.lt_of_getElem? hy) (Nat.lt_irrefl _)
  induction fuel generalizing dpos j with
  | zero =>
    obtain rfl : j = ld.length := Nat.le_antisymm h.le hf
    exact stop atEnd h
  | succ n ih =>
    simp only [Tree.mergeLinear.skip]
    rcases h.cases with ⟨hend, rfl⟩ | ⟨hend, y0, hy1, hy2⟩
    · rw [if_pos hend]
      exact stop atEnd h
    · rw [if_neg hend]
      simp only [hy1]
      by_cases ho' : Tree.isOrderedItems lt cfg y0 x = true
      · rw [if_pos ho']
        obtain ⟨j', c, i2, i3, i4⟩ := ih (h.next (ListFacts.lt_of_getElem? hy2)) (by omega)
        refine ⟨j', c, by omega, fun a y h1 h2 hy => ?_, i4⟩
        by_cases hj : a = j
        · subst hj; rw [hy2] at hy; cases hy; exact (isOrderedItems_iff lt cfg _ _).mp ho'
        · exact i3 a y (by omega) h2 hy
      · rw [if_neg ho']
        refine stop (fun y hy => ?_) h
        rw [hy2] at hy; cases hy
        exact fun h => ho' ((isOrderedItems_iff lt cfg _ _).mpr h)

theorem mergeLinear_go_spec (ho : Order lt) (cfg : Cfg) (hmax : 0 < cfg.maxCap) (fuel : Nat) {src dst : Tree α}
    {pos dpos : Pos} {ls ld : List α} {i j : Nat} (hs : Cur cfg src pos ls i) (hd : Cur cfg dst dpos ld j)
    (hss : SortedBy lt cfg.multi ls) (hsd : SortedBy lt cfg.multi ld) (hf : ls.length ≤ i + fuel)
    (hinv : LinInv lt cfg.multi ls ld i j) :
    (Tree.mergeLinear.go lt cfg fuel src dst pos dpos).2.toList = (ls.drop i).foldl (Spec.insert1 lt cfg.multi) ld ∧
    (Tree.mergeLinear.go lt cfg fuel src dst pos dpos).2.WF cfg ∧
    SortedBy lt cfg.multi (Tree.mergeLinear.go lt cfg fuel src dst pos dpos).2.toList ∧
    (Tree.mergeLinear.go lt cfg fuel src dst pos dpos).1.WF cfg ∧
    (Tree.mergeLinear.go lt cfg fuel src dst pos dpos).1.toList.Sublist ls := by
  induction fuel generalizing src dst pos dpos ls i ld j with
  | zero =>
    obtain rfl : i = ls.length := Nat.le_antisymm hs.le hf
    simp only [Tree.mergeLinear.go]
    exact ⟨by rw [List.drop_length, hd.list]; rfl, hd.wf, hd.list ▸ hsd, hs.wf, hs.list ▸ List.Sublist.refl _⟩
  | succ n ih =>
    simp only [Tree.mergeLinear.go]
    rcases hs.cases with ⟨hend, rfl⟩ | ⟨hend, x, hx1, hx2⟩
    · rw [if_pos hend]
      exact ⟨by rw [List.drop_length, hd.list]; rfl, hd.wf, hd.list ▸ hsd, hs.wf, hs.list ▸ List.Sublist.refl _⟩
    · rw [if_neg hend]
      simp only [hx1]
      have hlt := ListFacts.lt_of_getElem? hx2
      obtain ⟨j', hd', k2, k3, k4⟩ := hd.skip lt cfg x (dst.count + 1) (by rw [hd.wf.count, hd.list]; omega)
      generalize Tree.mergeLinear.skip lt cfg dst x (dst.count + 1) dpos = dp at hd'
      have hbefore := hinv.before hx2 k3
      obtain ⟨st1, st2⟩ := isGreater_stop cfg hd'.wf hd'.valid (x := x) (by rw [hd'.list, hd'.idx]; exact k4)
      rw [hd'.list, hd'.idx] at st1 st2
      rw [ListFacts.drop_of_getElem? hx2, List.foldl_cons]
      by_cases hcond : (cfg.multi || Tree.isGreater lt dst dp x) = true
      · rw [if_pos hcond]
        have hins := insert1_at lt ho cfg.multi ld j' x hsd hd'.le hbefore (st1 hcond)
        obtain ⟨i1, i2, i3, i4, i5⟩ := ih (hs.remove hlt)
          ((hd'.add hmax x).next (by rw [List.length_insertIdx_of_le_length hd'.le]; exact Nat.lt_succ_of_le hd'.le))
          (sortedBy_eraseIdx lt _ _ _ hss) (hins ▸ insert1_sorted lt ho _ _ x hsd)
          (by rw [List.length_eraseIdx_of_lt hlt]; omega) (LinInv.insert ho hss hx2 hd'.le hbefore)
        exact ⟨by rw [i1, ListFacts.drop_eraseIdx_self, hins], i2, i3, i4, i5.trans (List.eraseIdx_sublist _ _)⟩
      · rw [if_neg hcond]
        obtain ⟨hm, y, hy, hyx, hxy⟩ := st2 (Bool.eq_false_iff.mpr hcond)
        rw [hm] at hss hsd hbefore ih ⊢
        obtain ⟨hskip, hnext⟩ := LinInv.skip ho hss hx2 hy hyx hxy hbefore
        rw [hskip]
        exact ih (hs.next hlt) (hd'.next (ListFacts.lt_of_getElem? hy)) hss hsd (by omega) hnext

theorem tree_mergeLinear_spec (ho : Order lt) (cfg : Cfg) (hmax : 0 < cfg.maxCap) (src dst : Tree α)
    (hws : src.WF cfg) (hss : SortedBy lt cfg.multi src.toList) (hwd : dst.WF cfg)
    (hsd : SortedBy lt cfg.multi dst.toList) :
    (Tree.mergeLinear lt cfg src dst).2.toList = src.toList.foldl (Spec.insert1 lt cfg.multi) dst.toList ∧
    (Tree.mergeLinear lt cfg src dst).2.WF cfg ∧ SortedBy lt cfg.multi (Tree.mergeLinear lt cfg src dst).2.toList ∧
    (Tree.mergeLinear lt cfg src dst).1.WF cfg ∧ (Tree.mergeLinear lt cfg src dst).1.toList.Sublist src.toList :=
  mergeLinear_go_spec lt ho cfg hmax (src.count + dst.count + 1) (Cur.begin hws) (Cur.begin hwd) hss hsd
    (by rw [hws.count]; omega) (fun _ _ _ _ hj => absurd hj (Nat.not_lt_zero _))

end linear

section mergeTo
variable (lt : α → α → Bool)

theorem node_last_elem {d : Nat} {r : Node α} (hb : Bal d r) (hne : toList r ≠ []) :
    elemAt? r (Node.prev r (Node.endPos r)) = (toList r).getLast? := by
  have hpos : 0 < idxOf r (Node.endPos r).path (Node.endPos r).idx := by
    rw [idxOf_endPos hb]; simp only [size]; exact List.length_pos_iff.mpr hne
  obtain ⟨p1, p2⟩ := BTree.prev_spec hb (Node.endPos r).path (Node.endPos r).idx (m := r) (by simp [Node.endPos])
    (by simp [Node.endPos]) hpos
  rw [Pos.eta] at p1 p2
  obtain ⟨x, hx⟩ := validElem_elemAt p2
  have hx' := elemAt_toList hb hx
  rw [Pos.eta] at hx
  rw [hx, List.getLast?_eq_getElem?, ← hx']
  congr 1
  rw [idxOf_endPos hb] at p1; simp only [size] at p1; omega

theorem node_first_elem {d : Nat} {r : Node α} (hb : Bal d r) (hne : toList r ≠ []) :
    elemAt? r (Node.beginPos r) = (toList r).head? := by
  obtain ⟨b1, b2⟩ := beginPos_spec hb
  have hv : ValidElem r (Node.beginPos r).path (Node.beginPos r).idx := by
    rcases b2 with h | h
    · exact h
    · rw [h, idxOf_endPos hb] at b1
      simp only [size] at b1
      exact absurd (List.eq_nil_of_length_eq_zero b1) hne
  obtain ⟨x, hx⟩ := validElem_elemAt hv
  have hx' := elemAt_toList hb hx
  rw [Pos.eta] at hx
  rw [hx, List.head?_eq_getElem?, ← hx', b1]

theorem sortedBy_append (ho : Order lt) (multi : Bool) (a b : List α) (x y : α) (ha : SortedBy lt multi a)
    (hb : SortedBy lt multi b) (hx : a.getLast? = some x) (hy : b.head? = some y) (hxy : IsOrdered lt multi x y) :
    SortedBy lt multi (a ++ b) := by
  rw [sortedBy_iff_isOrdered] at ha hb ⊢
  refine List.pairwise_append.mpr ⟨ha, hb, ?_⟩
  intro u hu v hv
  have hux : u = x ∨ IsOrdered lt multi u x := by
    obtain ⟨init, rfl⟩ := List.getLast?_eq_some_iff.mp hx
    rcases List.mem_append.mp hu with h | h
    · exact Or.inr ((List.pairwise_append.mp ha).2.2 u h x (by simp))
    · simp at h; exact Or.inl h
  have hyv : y = v ∨ IsOrdered lt multi y v := by
    cases b with
    | nil => simp at hy
    | cons b0 bs =>
      simp at hy; subst hy
      rcases List.mem_cons.mp hv with h | h
      · exact Or.inl h.symm
      · exact Or.inr ((List.pairwise_cons.mp hb).1 v h)
  rcases hux with rfl | hux
  · rcases hyv with rfl | hyv
    · exact hxy
    · exact isOrdered_trans lt ho multi _ _ _ hxy hyv
  · rcases hyv with rfl | hyv
    · exact isOrdered_trans lt ho multi _ _ _ hux hxy
    · exact isOrdered_trans lt ho multi _ _ _ hux (isOrdered_trans lt ho multi _ _ _ hxy hyv)

theorem toList_mk (r : Node α) (c : Nat) : (({ root := some r, count := c } : Tree α)).toList = Node.toList r := rfl

theorem toList_ne_nil_root (t : Tree α) (h : t.toList ≠ []) : ∃ r, t.root = some r ∧ toList r = t.toList := by
  unfold Tree.toList at h ⊢
  cases hr : t.root with
  | none => simp [hr] at h
  | some r => exact ⟨r, rfl, rfl⟩

theorem tree_ends (cfg : Cfg) (t : Tree α) (hw : t.WF cfg) (h0 : t.count ≠ 0) :
    ∃ r a z, t.root = some r ∧ t.toList ≠ [] ∧ elemAt? r (Node.beginPos r) = some a ∧ t.toList.head? = some a ∧
      elemAt? r (Node.prev r (Node.endPos r)) = some z ∧ t.toList.getLast? = some z := by
  have hne : t.toList ≠ [] := fun hh => h0 (by rw [hw.count, hh]; rfl)
  obtain ⟨r, hr, hrl⟩ := toList_ne_nil_root t hne
  obtain ⟨d, hb⟩ := hw.bal r hr
  cases hl : t.toList with
  | nil => exact absurd hl hne
  | cons x xs =>
    obtain ⟨z, hz⟩ : ∃ z, (x :: xs).getLast? = some z := Option.isSome_iff_exists.mp (by simp)
    exact ⟨r, x, z, hr, nofun, by rw [node_first_elem hb (hrl ▸ hne), hrl, hl]; rfl, rfl,
      by rw [node_last_elem hb (hrl ▸ hne), hrl, hl, hz], hz⟩

theorem tree_mergeTo_spec (ho : Order lt) (cfg : Cfg) (hmax : 0 < cfg.maxCap) (src dst : Tree α)
    (hws : src.WF cfg) (hss : SortedBy lt cfg.multi src.toList) (hwd : dst.WF cfg)
    (hsd : SortedBy lt cfg.multi dst.toList) :
    (Tree.mergeTo lt cfg src dst).2.toList = Spec.merge lt cfg.multi src.toList dst.toList ∧
    (Tree.mergeTo lt cfg src dst).2.WF cfg ∧ SortedBy lt cfg.multi (Tree.mergeTo lt cfg src dst).2.toList ∧
    (Tree.mergeTo lt cfg src dst).1.WF cfg := by
  unfold Tree.mergeTo
  by_cases hs0 : src.count = 0
  · rw [if_pos hs0]
    have : src.toList = [] := by
      have := hws.count; rw [hs0] at this; exact List.eq_nil_of_length_eq_zero this.symm
    exact ⟨by simp [Spec.merge, this], hwd, hsd, hws⟩
  · rw [if_neg hs0]
    obtain ⟨rs, sFirst, sLast, hrs, hsne, e4, hsFirst, e1, hsLast⟩ := tree_ends cfg src hws hs0
    by_cases hd0 : dst.count = 0
    · rw [if_pos hd0]
      have : dst.toList = [] := by
        have := hwd.count; rw [hd0] at this; exact List.eq_nil_of_length_eq_zero this.symm
      exact ⟨by simp [Spec.merge, this, hsLast], hws, hss, Tree.wf_empty cfg⟩
    · rw [if_neg hd0]
      obtain ⟨rd, dFirst, dLast, hrd, hdne, e2, hdFirst, e3, hdLast⟩ := tree_ends cfg dst hwd hd0
      obtain ⟨ds, hbs⟩ := hws.bal rs hrs
      obtain ⟨dd, hbd⟩ := hwd.bal rd hrd
      have hrsl : Node.toList rs = src.toList := by simp [Tree.toList, hrs]
      have hrdl : Node.toList rd = dst.toList := by simp [Tree.toList, hrd]
      simp only [hrs, hrd, e1, e2, e3, e4]
      have hspec : Spec.merge lt cfg.multi src.toList dst.toList =
          (if Spec.ordered lt cfg.multi sLast dFirst then src.toList ++ dst.toList
           else if Spec.ordered lt cfg.multi dLast sFirst then dst.toList ++ src.toList
           else src.toList.foldl (Spec.insert1 lt cfg.multi) dst.toList) := by
        simp only [Spec.merge, hsLast, hdFirst, hdLast, hsFirst]
      rw [hspec, Spec.ordered_eq_isOrderedItems, Spec.ordered_eq_isOrderedItems]
      have hcs := hws.count
      have hcd := hwd.count
      by_cases h1 : Tree.isOrderedItems lt cfg sLast dFirst = true
      · rw [if_pos h1, if_pos h1]
        obtain ⟨m1, ⟨dm, m2⟩, m3⟩ := mergeFast_spec cfg hmax hbs hbd (by rw [hrsl]; exact hsne) (by rw [hrdl]; exact hdne)
        rw [hrsl, hrdl] at m1
        refine ⟨by rw [toList_mk, m1],
          Tree.wf_root cfg (by rw [m1, List.length_append]; omega) m2 (m3 (hws.caps rs hrs) (hwd.caps rd hrd)), ?_,
          Tree.wf_empty cfg⟩
        · rw [toList_mk, m1]
          exact sortedBy_append lt ho cfg.multi _ _ sLast dFirst hss hsd hsLast hdFirst ((isOrderedItems_iff lt cfg sLast dFirst).mp h1)
      · rw [if_neg h1, if_neg h1]
        by_cases h2 : Tree.isOrderedItems lt cfg dLast sFirst = true
        · rw [if_pos h2, if_pos h2]
          obtain ⟨m1, ⟨dm, m2⟩, m3⟩ := mergeFast_spec cfg hmax hbd hbs (by rw [hrdl]; exact hdne) (by rw [hrsl]; exact hsne)
          rw [hrsl, hrdl] at m1
          refine ⟨by rw [toList_mk, m1],
            Tree.wf_root cfg (by rw [m1, List.length_append]; omega) m2 (m3 (hwd.caps rd hrd) (hws.caps rs hrs)), ?_,
            Tree.wf_empty cfg⟩
          · rw [toList_mk, m1]
            exact sortedBy_append lt ho cfg.multi _ _ dLast sFirst hsd hss hdLast hsFirst ((isOrderedItems_iff lt cfg dLast sFirst).mp h2)
        · rw [if_neg h2, if_neg h2]
          split
          · obtain ⟨g1, g2, g3, g4, _⟩ := tree_mergeGeneric_spec lt ho cfg hmax src dst hws hwd hsd
            exact ⟨g1, g2, g3, g4⟩
          · obtain ⟨g1, g2, g3, g4, _⟩ := tree_mergeLinear_spec lt ho cfg hmax src dst hws hss hwd hsd
            exact ⟨g1, g2, g3, g4⟩

end mergeTo

end Momo.BTree
