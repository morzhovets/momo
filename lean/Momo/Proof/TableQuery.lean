import Momo.Proof.TableAdd
/-!
  C07, queries: `FindRaws` through a unique / multi index, `pvSelect` for every index choice it may make (`ValidPath`),
  `FindByUniqueHash`, `FindByMultiHash` return what a brute-force scan of the rows (`scan`) returns; through a multi index up to the
  order only, which there is the storage order of the group.
-/
namespace Momo.Table
open List

/-- the specification of every query: the brute-force scan, the ids of the rows, in table order, that satisfy all equalities and
    the filter -/
def scan (t : Table) (eqs : List (Nat × Nat)) (filt : Row → Bool) : List Nat :=
  (t.rows.filter (fun r => tupleEq eqs r.vals && filt r)).map (·.id)

/-- an index choice `pvSelect` may make -/
def ValidPath (t : Table) (eqCols : List Nat) : Path → Prop
  | .scan => True
  | .unique i => ∃ u, t.uidx[i]? = some u ∧ ∀ c ∈ u.cols, c ∈ eqCols
  | .multi i => ∃ m, t.midx[i]? = some m ∧ ∀ c ∈ m.cols, c ∈ eqCols

/-- the part of the query on the columns of an index is a key tuple for it -/
theorem part_cols (eqs : List (Nat × Nat)) (cols : List Nat) (hnd : (eqs.map (·.1)).Nodup) (hcn : cols.Nodup)
    (hsub : ∀ c ∈ cols, c ∈ eqs.map (·.1)) : ((eqs.filter (fun p => cols.contains p.1)).map (·.1)).Perm cols := by
  have e : (eqs.filter (fun p => cols.contains p.1)).map (·.1) = (eqs.map (·.1)).filter (fun c => cols.contains c) := by
    rw [filter_map]; rfl
  rw [e]
  apply (perm_ext_iff_of_nodup (hnd.filter _) hcn).mpr
  intro c
  rw [mem_filter]
  constructor
  · intro h; simpa using h.2
  · intro h; exact ⟨hsub c h, by simpa using h⟩

theorem tupleEq_split (eqs : List (Nat × Nat)) (P : Nat × Nat → Bool) (v : List Nat) :
    tupleEq eqs v = (tupleEq (eqs.filter P) v && tupleEq (eqs.filter (fun p => !P p)) v) := by
  unfold tupleEq
  induction eqs with
  | nil => rfl
  | cons p ps ih =>
    by_cases hp : P p = true
    · rw [filter_cons_of_pos hp, filter_cons_of_neg (by simp [hp])]
      simp only [all_cons]; rw [ih, Bool.and_assoc]
    · have hp' : P p = false := by simpa using hp
      rw [filter_cons_of_neg (by simp [hp']), filter_cons_of_pos (by simp [hp'])]
      simp only [all_cons]; rw [ih]
      cases (item v p.1 == p.2) <;> cases (filter P ps).all (fun p => item v p.1 == p.2) <;> simp

/-- filtering a list of ids by a predicate on the rows they name (as `pvMakeSelection` does) = the ids of the filtered rows -/
theorem filter_ids {st : Store} (hnd : (ids st).Nodup) (P : Row → Bool) : ∀ (rs : List Row), (∀ r ∈ rs, r ∈ st) →
    (rs.map (·.id)).filter (fun id => match rowOf st id with | some r => P r | none => false) = (rs.filter P).map (·.id)
  | [], _ => rfl
  | r :: rs, h => by
    have hr := h r mem_cons_self
    have ih := filter_ids hnd P rs (fun x hx => h x (mem_cons_of_mem _ hx))
    rw [map_cons, filter_cons, rowOf_mem hnd hr]
    simp only
    by_cases hP : P r = true
    · rw [if_pos hP, filter_cons_of_pos hP, map_cons, ih]
    · rw [if_neg hP, filter_cons_of_neg hP, ih]

theorem findRawsU_length_le (vis : Vis) (acc : Acc) (t : Table) (i : Nat) (tuple : List (Nat × Nat)) :
    (findRawsU vis acc t i tuple).length ≤ 1 := by
  unfold findRawsU
  split
  · simp
  · split <;> simp

theorem findByUnique_length_le (vis : Vis) (acc : Acc) (t : Table) (idx : Option Nat) (eqs : List (Nat × Nat)) (L : List Nat)
    (h : findByUnique vis acc t idx eqs = some L) : L.length ≤ 1 := by
  unfold findByUnique at h
  split at h
  · cases h
  · cases h; exact findRawsU_length_le vis acc t _ eqs

theorem fitUnique_valid (us : List UIdx) (eqCols : List Nat) (i : Nat) (h : fitUnique us eqCols = some i) :
    ∃ u, us[i]? = some u ∧ ∀ c ∈ u.cols, c ∈ eqCols := by
  unfold fitUnique at h
  simp only at h
  split at h
  · rename_i hlt
    simp only [Option.some.injEq] at h
    subst h
    refine ⟨us[findIdx _ us], getElem?_eq_getElem hlt, ?_⟩
    have := findIdx_getElem (w := hlt)
    intro c hc
    simpa using (all_eq_true.mp this) c hc
  · simp at h

theorem fitMultiLoop_valid (eqCols : List Nat) (full : List MIdx) : ∀ (ms : List MIdx) (j : Nat) (best : Option Nat) (maxKeys i : Nat),
    (∀ k m, ms[k]? = some m → full[j + k]? = some m) →
    (∀ b, best = some b → ∃ m, full[b]? = some m ∧ ∀ c ∈ m.cols, c ∈ eqCols) →
    fitMultiLoop eqCols ms j best maxKeys = some i → ∃ m, full[i]? = some m ∧ ∀ c ∈ m.cols, c ∈ eqCols
  | [], _, best, _, i, _, hb, h => by
    unfold fitMultiLoop at h; exact hb i h
  | m :: ms, j, best, maxKeys, i, hfull, hb, h => by
    unfold fitMultiLoop at h
    have hfull' : ∀ k m', ms[k]? = some m' → full[j + 1 + k]? = some m' := by
      intro k m' hk
      have := hfull (k + 1) m' (by simpa using hk)
      rw [← this]; congr 1; omega
    split at h
    · rename_i hcond
      refine fitMultiLoop_valid eqCols full ms (j + 1) (some j) m.groups.length i hfull' ?_ h
      intro b hbj
      simp only [Option.some.injEq] at hbj
      subst hbj
      refine ⟨m, by simpa using hfull 0 m (by simp), ?_⟩
      intro c hcm
      simpa using (all_eq_true.mp hcond.1) c hcm
    · exact fitMultiLoop_valid eqCols full ms (j + 1) best maxKeys i hfull' hb h

theorem choosePath_valid (t : Table) (eqs : List (Nat × Nat)) : ValidPath t (eqs.map (·.1)) (choosePath t eqs) := by
  unfold choosePath
  split
  · trivial
  · cases hu : fitUnique t.uidx (eqs.map (·.1)) with
    | some i => exact fitUnique_valid _ _ _ hu
    | none =>
      simp only
      cases hm : fitMulti t.midx (eqs.map (·.1)) with
      | some i =>
        unfold fitMulti at hm
        exact fitMultiLoop_valid _ t.midx t.midx 0 none 0 i (fun k m h => by simpa using h) (fun b h => by simp at h) hm
      | none => trivial

theorem sameCols_perm (a b : List Nat) (ha : a.Nodup) (h : sameCols a b = true) : a.Perm b := by
  unfold sameCols at h
  simp only [Bool.and_eq_true, beq_iff_eq, all_eq_true] at h
  have hsub : a ⊆ b := fun c hc => by simpa using h.2 c hc
  exact (subperm_of_subset ha hsub).perm_of_length_le (by omega)

theorem indexOfCols_spec {α : Type} (l : List α) (f : α → List Nat) (cols : List Nat) (i : Nat)
    (h : indexOfCols (l.map f) cols = some i) : ∃ a, l[i]? = some a ∧ sameCols (f a) cols = true := by
  unfold indexOfCols at h
  simp only at h
  split at h
  · rename_i hlt
    simp only [Option.some.injEq] at h
    subst h
    have hlt' : findIdx (fun c => sameCols c cols) (l.map f) < l.length := by rwa [length_map] at hlt
    refine ⟨l[findIdx (fun c => sameCols c cols) (l.map f)], getElem?_eq_getElem hlt', ?_⟩
    have := findIdx_getElem (w := hlt)
    rwa [getElem_map] at this
  · simp at h

theorem trueIndex_spec {α : Type} (l : List α) (f : α → List Nat) (idx : Option Nat) (cols : List Nat)
    (hidx : ∀ i, idx = some i → ∃ a, l[i]? = some a ∧ sameCols (f a) cols = true) (i : Nat)
    (h : trueIndex (l.map f) idx cols = some i) : ∃ a, l[i]? = some a ∧ sameCols (f a) cols = true := by
  cases idx with
  | some j => exact hidx i (by rw [← h]; rfl)
  | none => exact indexOfCols_spec l f cols i h

section queries
variable {vis : Vis} (hc : Complete vis) (acc : Acc) (hacc : AccComm acc) (keep : Bool)
include hc hacc

theorem MIdx.findTuple_perm_scan {st : Store} (hnd : (ids st).Nodup) (m : MIdx) (hminv : MInv acc st m)
    (tuple : List (Nat × Nat)) (hcols : (tuple.map (·.1)).Perm m.cols) :
    (match m.findTuple vis acc st tuple with
      | some p => (m.groups.getD p default).members
      | none => []).Perm ((st.filter (fun r : Row => tupleEq tuple r.vals)).map (fun r : Row => r.id)) := by
  unfold MIdx.findTuple
  have hhash : ∀ g ∈ m.groups, tupleEq tuple (valsOf st g.key) = true → g.h0 = hashTuple acc tuple := by
    intro g hg hk
    rw [hminv.hash g hg, hashTuple_eq acc tuple _ hk]
    exact hashVals_perm acc hacc _ hcols.symm
  have hscan_nd : ((st.filter (fun r => tupleEq tuple r.vals)).map (·.id)).Nodup :=
    (filter_sublist.map _).nodup hnd
  cases hf : m.find vis (hashTuple acc tuple) (fun id => tupleEq tuple (valsOf st id)) with
  | some p =>
    obtain ⟨hp, hk⟩ := m.find_some_pred _ _ hf
    simp only
    rw [ListFacts.getD_eq_getElem hp]
    have hgm : m.groups[p] ∈ m.groups := getElem_mem hp
    rw [m.keyAt_lt hp] at hk
    apply (perm_ext_iff_of_nodup (hminv.members_nodup hnd hgm) hscan_nd).mpr
    intro x
    constructor
    · intro hx
      have hxin := hminv.members_sub hgm x hx
      obtain ⟨row, hrow, rfl⟩ := mem_ids_iff.mp hxin
      apply mem_map.mpr ⟨row, mem_filter.mpr ⟨hrow, ?_⟩, rfl⟩
      have h1 := hminv.member_key hgm hx
      rw [valsOf_mem hnd hrow] at h1
      rw [← tupleEq_keyEq tuple m.cols _ row.vals hcols hk]; exact h1
    · intro hx
      obtain ⟨row, hrow, rfl⟩ := mem_map.mp hx
      obtain ⟨hrow, hP⟩ := mem_filter.mp hrow
      refine hminv.group_at (mem_ids_iff.mpr ⟨row, hrow, rfl⟩) hp ?_
      rw [valsOf_mem hnd hrow, m.keyAt_lt hp, tupleEq_keyEq tuple m.cols row.vals _ hcols hP]; exact hk
  | none =>
    simp only
    have hn := MIdx.find_none_pred hc m _ _ hhash hf
    have : (st.filter (fun r => tupleEq tuple r.vals)).map (·.id) = [] := by
      rw [map_eq_nil_iff, filter_eq_nil_iff]
      intro x hx hPx
      obtain ⟨g', hg', hxg'⟩ := hminv.group_of (mem_ids_iff.mpr ⟨x, hx, rfl⟩)
      have h1 := hminv.member_key hg' hxg'
      rw [valsOf_mem hnd hx] at h1
      have : tupleEq tuple (valsOf st g'.key) = true := by
        rw [← tupleEq_keyEq tuple m.cols x.vals _ hcols hPx, keyEq_symm]; exact h1
      rw [hn g' hg'] at this; exact absurd this (by simp)
    rw [this]

/-- `FindRaws(multiHashIndex, tuple)`; an arrangement of the scan only: the order is the storage order of the group -/
theorem findRawsM_perm_scan (t : Table) (hinv : Inv acc keep t) (i : Nat) (m : MIdx) (hm : t.midx[i]? = some m)
    (tuple : List (Nat × Nat)) (hcols : (tuple.map (·.1)).Perm m.cols) :
    (findRawsM vis acc t i tuple).Perm (scan t tuple (fun _ => true)) := by
  unfold findRawsM scan
  rw [hm]
  simp only [Bool.and_true]
  exact MIdx.findTuple_perm_scan hc acc hacc hinv.idsNodup m (hinv.minv m (mem_of_getElem? hm)) tuple hcols

/-- `FindRaws(uniqueHashIndex, tuple)`: the group found is single, and an arrangement of one element is that element -/
theorem findRawsU_eq_scan (t : Table) (hinv : Inv acc keep t) (i : Nat) (u : UIdx) (hu : t.uidx[i]? = some u)
    (tuple : List (Nat × Nat)) (hcols : (tuple.map (·.1)).Perm u.cols) :
    findRawsU vis acc t i tuple = scan t tuple (fun _ => true) := by
  have h := MIdx.findTuple_perm_scan hc acc hacc hinv.idsNodup u.toM ((hinv.uinv u (mem_of_getElem? hu)).toM hinv.idsNodup)
    tuple hcols
  unfold MIdx.findTuple at h
  rw [u.toM_find] at h
  unfold findRawsU scan UIdx.findTuple
  rw [hu]
  simp only [Bool.and_true]
  cases hf : u.find vis (hashTuple acc tuple) (fun id => tupleEq tuple (valsOf t.rows id)) with
  | none => rw [hf] at h; exact (perm_nil.mp h.symm).symm
  | some p =>
    rw [hf] at h
    have hp : p < u.toM.groups.length := (u.toM.find_some_pred _ _ ((u.toM_find vis _ _).trans hf)).1
    dsimp only at h ⊢
    rw [ListFacts.getD_eq_getElem hp, u.toM_getElem hp] at h
    rw [u.idAt_lt (u.toM_length ▸ hp)]
    exact singleton_perm.mp h

/-- `pvSelect` through any admissible index -/
theorem selectVia_perm_scan (t : Table) (hinv : Inv acc keep t) (eqs : List (Nat × Nat)) (hnd : (eqs.map (·.1)).Nodup)
    (filt : Row → Bool) (path : Path) (hv : ValidPath t (eqs.map (·.1)) path) :
    (selectVia vis acc t eqs filt path).Perm (scan t eqs filt) ∧
    ((∀ i, path ≠ .multi i) → selectVia vis acc t eqs filt path = scan t eqs filt) := by
  have hidn := hinv.idsNodup
  have key : ∀ (cols : List Nat) (L : List Nat),
      L.Perm (scan t (eqs.filter (fun p => cols.contains p.1)) (fun _ => true)) →
      (L.filter (fun id => match rowOf t.rows id with
        | some r => tupleEq (eqs.filter (fun p => !cols.contains p.1)) r.vals && filt r | none => false)).Perm (scan t eqs filt) ∧
      (L = scan t (eqs.filter (fun p => cols.contains p.1)) (fun _ => true) →
        L.filter (fun id => match rowOf t.rows id with
          | some r => tupleEq (eqs.filter (fun p => !cols.contains p.1)) r.vals && filt r | none => false) = scan t eqs filt) := by
    intro cols L hL
    have hfin : (scan t (eqs.filter (fun p => cols.contains p.1)) (fun _ => true)).filter (fun id => match rowOf t.rows id with
        | some r => tupleEq (eqs.filter (fun p => !cols.contains p.1)) r.vals && filt r | none => false) = scan t eqs filt := by
      unfold scan
      rw [filter_ids hidn _ _ (fun r hr => (mem_filter.mp hr).1), filter_filter]
      congr 1
      apply filter_congr
      intro r _
      rw [tupleEq_split eqs (fun p => cols.contains p.1) r.vals]
      simp only [Bool.and_true]
      cases tupleEq (eqs.filter (fun p => cols.contains p.1)) r.vals <;>
        cases tupleEq (eqs.filter (fun p => !cols.contains p.1)) r.vals <;> cases filt r <;> rfl
    exact ⟨(hL.filter _).trans (Perm.of_eq hfin), fun e => by rw [e]; exact hfin⟩
  cases path with
  | scan =>
    have : selectVia vis acc t eqs filt .scan = scan t eqs filt := by
      unfold selectVia pathRaws scan
      simp only
      exact filter_ids hidn _ t.rows (fun r hr => hr)
    exact ⟨Perm.of_eq this, fun _ => this⟩
  | unique i =>
    obtain ⟨u, hu, hsub⟩ := hv
    have huinv := hinv.uinv u (mem_of_getElem? hu)
    have hpc := part_cols eqs u.cols hnd huinv.colsNodup hsub
    have hfr := findRawsU_eq_scan hc acc hacc keep t hinv i u hu _ hpc
    have := key u.cols _ (Perm.of_eq hfr)
    have hp : pathRaws vis acc t eqs (.unique i) = (findRawsU vis acc t i (eqs.filter (fun p => u.cols.contains p.1)),
        eqs.filter (fun p => !u.cols.contains p.1)) := by simp only [pathRaws, hu]
    unfold selectVia
    rw [hp]
    exact ⟨this.1, fun _ => this.2 hfr⟩
  | multi i =>
    obtain ⟨m, hm, hsub⟩ := hv
    have hminv := hinv.minv m (mem_of_getElem? hm)
    have hpc := part_cols eqs m.cols hnd hminv.colsNodup hsub
    have hfr := findRawsM_perm_scan hc acc hacc keep t hinv i m hm _ hpc
    have := key m.cols _ hfr
    have hp : pathRaws vis acc t eqs (.multi i) = (findRawsM vis acc t i (eqs.filter (fun p => m.cols.contains p.1)),
        eqs.filter (fun p => !m.cols.contains p.1)) := by simp only [pathRaws, hm]
    unfold selectVia
    rw [hp]
    exact ⟨this.1, fun h => absurd rfl (h i)⟩

theorem select_perm_scan (maxEq : Nat) (t : Table) (hinv : Inv acc keep t) :
    ∀ (eqs : List (Nat × Nat)) (filt : Row → Bool), (eqs.map (·.1)).Nodup →
      (select vis acc maxEq t eqs filt).Perm (scan t eqs filt)
  | [], filt, hnd => by
    unfold select
    exact (selectVia_perm_scan hc acc hacc keep t hinv [] hnd filt .scan trivial).1
  | e :: es, filt, hnd => by
    unfold select
    split
    · have hnd' : (es.map (·.1)).Nodup := by rw [map_cons, nodup_cons] at hnd; exact hnd.2
      refine (select_perm_scan maxEq t hinv es (fun r => item r.vals e.1 == e.2 && filt r) hnd').trans (Perm.of_eq ?_)
      unfold scan
      congr 1
      apply filter_congr
      intro r _
      unfold tupleEq
      simp only [all_cons]
      cases (item r.vals e.1 == e.2) <;> cases (es.all fun p => item r.vals p.1 == p.2) <;> cases filt r <;> rfl
    · exact (selectVia_perm_scan hc acc hacc keep t hinv (e :: es) hnd filt _ (choosePath_valid t (e :: es))).1

theorem selectCount_eq_scan (maxEq : Nat) (t : Table) (hinv : Inv acc keep t) (eqs : List (Nat × Nat)) (filt : Row → Bool)
    (hnd : (eqs.map (·.1)).Nodup) : selectCount vis acc maxEq t eqs filt = (scan t eqs filt).length := by
  unfold selectCount
  exact (select_perm_scan hc acc hacc keep maxEq t hinv eqs filt hnd).length_eq

theorem findByUnique_eq_scan (t : Table) (hinv : Inv acc keep t) (idx : Option Nat) (eqs : List (Nat × Nat))
    (hidx : ∀ i, idx = some i → ∃ u, t.uidx[i]? = some u ∧ sameCols u.cols (eqs.map (·.1)) = true)
    (L : List Nat) (h : findByUnique vis acc t idx eqs = some L) : L = scan t eqs (fun _ => true) := by
  unfold findByUnique at h
  cases hti : trueIndex (t.uidx.map (·.cols)) idx (eqs.map (·.1)) with
  | none => rw [hti] at h; simp at h
  | some i =>
    rw [hti] at h
    simp only [Option.some.injEq] at h
    obtain ⟨u, hu, hsame⟩ := trueIndex_spec t.uidx (·.cols) idx _ hidx i hti
    have hp := (sameCols_perm _ _ (hinv.uinv u (mem_of_getElem? hu)).colsNodup hsame).symm
    rw [← h]
    exact findRawsU_eq_scan hc acc hacc keep t hinv i u hu eqs hp

theorem findByMulti_perm_scan (t : Table) (hinv : Inv acc keep t) (idx : Option Nat) (eqs : List (Nat × Nat))
    (hidx : ∀ i, idx = some i → ∃ m, t.midx[i]? = some m ∧ sameCols m.cols (eqs.map (·.1)) = true)
    (L : List Nat) (h : findByMulti vis acc t idx eqs = some L) : L.Perm (scan t eqs (fun _ => true)) := by
  unfold findByMulti at h
  cases hti : trueIndex (t.midx.map (·.cols)) idx (eqs.map (·.1)) with
  | none => rw [hti] at h; simp at h
  | some i =>
    rw [hti] at h
    simp only [Option.some.injEq] at h
    obtain ⟨m, hm, hsame⟩ := trueIndex_spec t.midx (·.cols) idx _ hidx i hti
    have hp := (sameCols_perm _ _ (hinv.minv m (mem_of_getElem? hm)).colsNodup hsame).symm
    rw [← h]
    exact findRawsM_perm_scan hc acc hacc keep t hinv i m hm eqs hp

end queries

end Momo.Table
