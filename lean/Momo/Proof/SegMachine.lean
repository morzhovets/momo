import Momo.Proof.SegIdeal
/-!
  The segment sizings: the machine-level functions (64-bit wrap-around, de Bruijn `Log2`, shifts and masks — the C++ as
  written) compute the ideal functions whenever `index1 = (index >> L0) + 1` does not wrap.
-/
namespace Momo.Seg
open Momo

/-- the 64-bit hypothesis: the index is a `size_t` and `(index >> L0) + 1` does not wrap -/
def Fits (L0 index : Nat) : Prop := index < 2 ^ 64 ∧ index / 2 ^ L0 + 1 < 2 ^ 64

/-- the one excluded point of the `size_t` range is finding F14 -/
theorem fits_iff (L0 index : Nat) :
    Fits L0 index ↔ index < 2 ^ 64 ∧ ¬ (L0 = 0 ∧ index = 2 ^ 64 - 1) := by
  refine and_congr_right fun h1 => ?_
  cases L0 with
  | zero => rw [Nat.pow_zero, Nat.div_one]; omega
  | succ L =>
    have : index / 2 ^ (L + 1) ≤ index / 2 ^ 1 :=
      Nat.div_le_div_left (Nat.pow_le_pow_right (by decide) (Nat.le_add_left 1 L)) (by decide)
    omega

theorem sqrtIndexToLog64_eq (i1 : Nat) (h0 : 1 ≤ i1) (h : i1 < 2 ^ 64) : sqrtIndexToLog64 i1 = logItem i1 := by
  unfold sqrtIndexToLog64 logItem
  rw [log2db64_eq i1 (by omega) h]

theorem logItem_le (i1 : Nat) (h0 : 1 ≤ i1) (h : i1 < 2 ^ 64) : logItem i1 ≤ 32 := by
  rw [logItem_def]
  have : Nat.log2 i1 < 64 := (Nat.log2_lt (by omega)).mpr h
  omega

theorem sqrtSegToLog64_eq (s : Nat) (h : s * 2 + 4 < 2 ^ 64) : sqrtSegToLog64 s = segLog s := by
  unfold sqrtSegToLog64
  show log2db64 (add64 (mul64 s 2) 4 / 3) = segLog s
  rw [mul64_of_lt (Nat.lt_of_le_of_lt (Nat.le_add_right _ _) h), add64_of_lt h, segLog_def]
  exact log2db64_eq _ (by omega) (Nat.lt_of_le_of_lt (Nat.div_le_self _ _) h)

theorem segLog_lt (s : Nat) (h : s * 2 + 4 < 2 ^ 64) : segLog s < 64 := by
  rw [segLog_def]
  exact (Nat.log2_lt (by omega)).mpr (by omega)

/-- what keeps `GetSegItemIndexes` of the sqrt sizing from wrapping: the segment index is small (so `segIndex * 2 + 4` of
    `GetIndex` fits), the final `- 2` does not go below zero, and the sum before it fits -/
theorem sqrt_seg_small (L0 index : Nat) (hw : index / 2 ^ L0 + 1 < 2 ^ 64) :
    (getSeg .sqrt L0 index).1 < 2 ^ 34 ∧
    1 ≤ (index / 2 ^ L0 + 1) / 2 ^ logItem (index / 2 ^ L0 + 1) ∧
    (index / 2 ^ L0 + 1) / 2 ^ logItem (index / 2 ^ L0 + 1) + 2 ^ logItem (index / 2 ^ L0 + 1) < 2 ^ 35 := by
  have hs := seg_quot (getSeg .sqrt L0 index).1
  rw [segLog_getSeg] at hs
  simp only [getSeg_sqrt] at hs ⊢
  have h1 : 1 ≤ index / 2 ^ L0 + 1 := Nat.le_add_left 1 _
  generalize index / 2 ^ L0 + 1 = i1 at *
  have hq : 1 ≤ i1 / 2 ^ logItem i1 :=
    (Nat.le_div_iff_mul_le (Nat.two_pow_pos _)).mpr (by rw [Nat.one_mul]; exact two_pow_logItem_le (by omega))
  have hP : 2 ^ logItem i1 ≤ 2 ^ 32 := Nat.pow_le_pow_right (by decide) (logItem_le i1 h1 hw)
  generalize i1 / 2 ^ logItem i1 = q at *
  generalize 2 ^ logItem i1 = P at *
  omega

theorem segItem64_sqrt_eq (L0 index : Nat) (hL : L0 < 64) (hf : Fits L0 index) :
    segItem64 .sqrt L0 index = getSeg .sqrt L0 index := by
  obtain ⟨hi, hw⟩ := hf
  have hoff : ((index / 2 ^ L0 + 1) % 2 ^ logItem (index / 2 ^ L0 + 1)) * 2 ^ L0 + index % 2 ^ L0 ≤ index :=
    sqrt_offset_le L0 index
  obtain ⟨_, hq1, hq2⟩ := sqrt_seg_small L0 index hw
  have hk : logItem (index / 2 ^ L0 + 1) < 64 :=
    Nat.lt_of_le_of_lt (logItem_le _ (Nat.le_add_left 1 _) hw) (by decide)
  unfold segItem64
  simp only [Nat.shiftRight_eq_div_pow]
  rw [add64_of_lt hw, sqrtIndexToLog64_eq _ (Nat.le_add_left 1 _) hw, and_mask64 _ hL, and_mask64 _ hk, shl64_one hk,
    shl64_of_lt (Nat.lt_of_le_of_lt (Nat.le_trans (Nat.le_add_right _ _) hoff) hi), add64_of_lt (Nat.lt_trans hq2 (by decide)),
    sub64_of_le (Nat.add_le_add hq1 (Nat.two_pow_pos _)), add64_of_lt (Nat.lt_of_le_of_lt hoff hi)]
  rfl

theorem getIndex64_sqrt_eq (L0 s o : Nat) (hL : L0 < 64) (hs : s * 2 + 4 < 2 ^ 64)
    (hf : Fits L0 (getIndex .sqrt L0 s o)) : getIndex64 .sqrt L0 s o = getIndex .sqrt L0 s o := by
  obtain ⟨hi, hw⟩ := hf
  rw [sqrt_index1] at hw
  have hk := segLog_lt s hs
  obtain ⟨_, _, q3⟩ := seg_quot s
  have hB := segBase_pos s
  rw [getIndex_sqrt] at hi ⊢
  show add64 (shl64 (sub64 (add64 (shl64 (sub64 (add64 s 2) (shl64 1 (sqrtSegToLog64 s))) (sqrtSegToLog64 s))
    (o >>> L0)) 1) L0) (o &&& mask64 L0) = (segBase s + o / 2 ^ L0 - 1) * 2 ^ L0 + o % 2 ^ L0
  change (segBase s + o / 2 ^ L0 - 1) * 2 ^ L0 + o % 2 ^ L0 < 2 ^ 64 at hi
  rw [sqrtSegToLog64_eq s hs, shl64_one hk, and_mask64 _ hL, Nat.shiftRight_eq_div_pow,
    add64_of_lt (a := s) (b := 2) (by omega), sub64_of_le (Nat.le_trans q3 (Nat.sub_le _ _)),
    shl64_of_lt (Nat.lt_of_le_of_lt (Nat.le_add_right _ _) hw), ← segBase, add64_of_lt hw,
    sub64_of_le (Nat.le_trans hB (Nat.le_add_right _ _)), shl64_of_lt (Nat.lt_of_le_of_lt (Nat.le_add_right _ _) hi),
    add64_of_lt hi]

theorem itemCount64_sqrt_eq (L0 s : Nat) (hs : s * 2 + 4 < 2 ^ 64) (hk : segLog s + L0 < 64) :
    itemCount64 .sqrt L0 s = itemCount .sqrt L0 s := by
  unfold itemCount64
  simp only []
  rw [sqrtSegToLog64_eq s hs, shl64_one hk, itemCount_sqrt]

theorem segItem64_cnst_eq (L0 index : Nat) (hL : L0 < 64) :
    segItem64 .cnst L0 index = getSeg .cnst L0 index := by
  unfold segItem64 getSeg
  simp only []
  rw [Nat.shiftRight_eq_div_pow, and_mask64 _ hL]

theorem getIndex64_cnst_eq (L0 s o : Nat) (hf : getIndex .cnst L0 s o < 2 ^ 64) :
    getIndex64 .cnst L0 s o = getIndex .cnst L0 s o := by
  have hf' : s * 2 ^ L0 + o < 2 ^ 64 := hf
  unfold getIndex64 getIndex
  simp only []
  rw [shl64_of_lt (by omega), add64_of_lt hf']

theorem itemCount64_cnst_eq (L0 s : Nat) (hL : L0 < 64) : itemCount64 .cnst L0 s = itemCount .cnst L0 s := by
  unfold itemCount64 itemCount
  simp only []
  exact shl64_one hL

theorem segItem64_eq (f : Func) (L0 index : Nat) (hL : L0 < 64) (hf : Fits L0 index) :
    segItem64 f L0 index = getSeg f L0 index := by
  cases f
  · exact segItem64_sqrt_eq L0 index hL hf
  · exact segItem64_cnst_eq L0 index hL

/-- `s * 2 + 4`: the sqrt sizing evaluates it -/
theorem getIndex64_eq (f : Func) (L0 s o : Nat) (hL : L0 < 64) (hs : f = .sqrt → s * 2 + 4 < 2 ^ 64)
    (hf : Fits L0 (getIndex f L0 s o)) : getIndex64 f L0 s o = getIndex f L0 s o := by
  cases f
  · exact getIndex64_sqrt_eq L0 s o hL (hs rfl) hf
  · exact getIndex64_cnst_eq L0 s o hf.1

theorem roundtrip64 (f : Func) (L0 index : Nat) (hL : L0 < 64) (hf : Fits L0 index) :
    getIndex64 f L0 (segItem64 f L0 index).1 (segItem64 f L0 index).2 = index := by
  rw [segItem64_eq f L0 index hL hf, getIndex64_eq f L0 _ _ hL
    (fun e => by subst e; have := (sqrt_seg_small L0 index hf.2).1; omega) ((getIndex_getSeg f L0 index).symm ▸ hf)]
  exact getIndex_getSeg f L0 index

/-- the constant sizing has no excluded point -/
theorem roundtrip64_cnst (L0 index : Nat) (hL : L0 < 64) (hi : index < 2 ^ 64) :
    getIndex64 .cnst L0 (segItem64 .cnst L0 index).1 (segItem64 .cnst L0 index).2 = index := by
  rw [segItem64_cnst_eq L0 index hL, getIndex64_cnst_eq L0 _ _ ((getIndex_getSeg .cnst L0 index).symm ▸ hi)]
  exact getIndex_getSeg .cnst L0 index

/-- `L0 ≤ 31`: the class of a fitting index is at most 32 (`logItem_le`), so `logItemCount + L0 < 64` and the shift does not wrap -/
theorem itemCount64_getSeg (f : Func) (L0 index : Nat) (hL : L0 ≤ 31) (hf : Fits L0 index) :
    itemCount64 f L0 (getSeg f L0 index).1 = itemCount f L0 (getSeg f L0 index).1 := by
  cases f
  · have hs := (sqrt_seg_small L0 index hf.2).1
    apply itemCount64_sqrt_eq _ _ (by omega)
    rw [segLog_getSeg]
    have := logItem_le (index / 2 ^ L0 + 1) (Nat.le_add_left 1 _) hf.2
    omega
  · exact itemCount64_cnst_eq L0 _ (by omega)

theorem inverse64 (f : Func) (L0 s o : Nat) (hL : L0 < 64) (ho : o < itemCount f L0 s)
    (hs : f = .sqrt → s * 2 + 4 < 2 ^ 64) (hf : Fits L0 (getIndex f L0 s o)) :
    segItem64 f L0 (getIndex64 f L0 s o) = (s, o) := by
  rw [getIndex64_eq f L0 s o hL hs hf, segItem64_eq f L0 _ hL hf]
  exact getSeg_getIndex f L0 s o ho

/-- **F14**: at the one excluded point the machine functions do not round-trip -/
theorem f14_point :
    segItem64 .sqrt 0 (2 ^ 64 - 1) = (2 ^ 32 - 2, 0) ∧ getIndex64 .sqrt 0 (2 ^ 32 - 2) 0 = 2 ^ 62 - 1 := by
  decide +kernel

end Momo.Seg
