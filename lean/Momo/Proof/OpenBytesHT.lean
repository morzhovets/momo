import Momo.Proof.OpenBytesSwar
import Momo.Proof.HashTableInv
/-!
  The byte-level buckets against the C01 model: the abstract bucket of `HT` (items in storage order) is the abstraction of
  the byte-level bucket (`bytesOf`, `Bucket.Inv`), `AddCrt` / `Remove` / `IsFull` commute with the abstraction, and `HT`'s
  in-bucket lookup `keyIdx` agrees with the byte-level `Find` of every variant (scalar forward / reverse, SSE2 mask, SWAR
  mask); hence the table lookup built on the byte-level `Find` is `HT.findTable` and `C01_find_iff` transfers.
-/
namespace Momo.OpenB
open Momo

inductive Variant | n1 | sse | swar
deriving DecidableEq, Repr

def findV (v : Variant) (b : Bucket) (h : Nat) (pred : Nat → Bool) : Option Nat :=
  match v with
  | .n1 => b.findN1 h pred
  | .sse => b.find8sse h pred
  | .swar => b.find8swar h pred

/-- bucket geometries a variant exists for: `BucketOpenN1<., 1..7, reverse>`; `BucketOpen8` = 7 forward slots -/
def Variant.fits (v : Variant) (mc : Nat) (rev : Bool) : Prop :=
  0 < mc ∧ mc < Extracted.openN1MaxCountLimit ∧ (v ≠ .n1 → mc = Extracted.open8MaxCount ∧ rev = false)

def hashes (hf : Nat → Nat) (items : List HT.Item) : List Nat := items.map (fun it => hf it.key)

/-- **abstraction**: the bytes of the C01 model's bucket (`bst.1` is the max-probe byte) -/
def bytesOf (mc : Nat) (rev : Bool) (hf : Nat → Nat) (bk : HT.Bucket) : Bucket :=
  encode mc rev (hashes hf bk.items) (bk.bst.1 % 256)

/-- the item predicate of a key lookup, on physical slots: `key(mItems[p]) == k` (false on a slot without item — it is never
    evaluated there, `lookupB_eq_keyIdx` holds for any value) -/
def keyPred (mc : Nat) (rev : Bool) (items : List HT.Item) (k : Nat) : Nat → Bool :=
  fun p => match items[phys mc rev p]? with
    | some it => it.key == k
    | none => false

/-- byte-level in-bucket lookup; the result is the LOGICAL index (position in `GetBounds`) -/
def lookupB (v : Variant) (mc : Nat) (rev : Bool) (hf : Nat → Nat) (bk : HT.Bucket) (k : Nat) : Option Nat :=
  (findV v (bytesOf mc rev hf bk) (hf k) (keyPred mc rev bk.items k)).map (phys mc rev)

theorem encode_inv (mc : Nat) (rev : Bool) (hs : List Nat) (e : Nat) (h0 : 0 < mc) (h8 : mc < Extracted.openN1MaxCountLimit)
    (hl : hs.length ≤ mc) (hh : ∀ h ∈ hs, h < 2 ^ 64) : (encode mc rev hs e).Inv hs := by
  refine ⟨h0, h8, hl, hh, fun j hj => ?_⟩
  show (if j < mc then expByte mc rev hs j else e) = expByte mc rev hs j
  rw [if_pos (show j < mc from hj)]

theorem inv_eq_encode {b : Bucket} {hs : List Nat} (hI : b.Inv hs) (j : Nat) (hj : j < b.maxCount) :
    b.data j = (encode b.maxCount b.reverse hs b.maxProbeExp).data j := by
  show b.data j = if j < b.maxCount then expByte b.maxCount b.reverse hs j else b.maxProbeExp
  rw [if_pos hj]; exact hI.data j hj

section lookup
variable (v : Variant) (mc : Nat) (rev : Bool) (hf : Nat → Nat) (bk : HT.Bucket) (k : Nat)

theorem keyPred_true (p : Nat) (hp : keyPred mc rev bk.items k p = true) :
    ∃ it, bk.items[phys mc rev p]? = some it ∧ it.key = k := by
  unfold keyPred at hp
  split at hp
  · rename_i it hit; exact ⟨it, hit, by simpa using hp⟩
  · cases hp

theorem bytesOf_inv (hfit : v.fits mc rev) (hlen : bk.items.length ≤ mc) (hhf : ∀ x, hf x < 2 ^ 64) :
    (bytesOf mc rev hf bk).Inv (hashes hf bk.items) := by
  apply encode_inv mc rev _ _ hfit.1 hfit.2.1
  · simpa [hashes] using hlen
  · intro h hh
    simp only [hashes, List.mem_map] at hh
    obtain ⟨it, _, rfl⟩ := hh
    exact hhf _

theorem hashes_getD (items : List HT.Item) (j : Nat) (it : HT.Item) (hj : items[j]? = some it) :
    (hashes hf items).getD j 0 = hf it.key := by
  simp [hashes, List.getD_eq_getElem?_getD, List.getElem?_map, hj]

theorem keyPred_hit (p : Nat) (hp : keyPred mc rev bk.items k p = true) :
    phys mc rev p < (hashes hf bk.items).length ∧
      calcShortHash ((hashes hf bk.items).getD (phys mc rev p) 0) = calcShortHash (hf k) := by
  obtain ⟨it, hit, hk⟩ := keyPred_true mc rev bk k p hp
  rw [hashes_getD hf _ _ it hit, hk, hashes, List.length_map]
  exact ⟨(List.getElem?_eq_some_iff.mp hit).1, rfl⟩

/-- the SWAR case is where the key predicate must hold only on slots whose byte matches (`keyPred_hit`, `cand_iff`) -/
theorem findV_eq_scan (hfit : v.fits mc rev) (hlen : bk.items.length ≤ mc) (hhf : ∀ x, hf x < 2 ^ 64) :
    findV v (bytesOf mc rev hf bk) (hf k) (keyPred mc rev bk.items k)
      = scan (List.range mc) (bytesOf mc rev hf bk).data (calcShortHash (hf k)) (keyPred mc rev bk.items k) := by
  have hI := bytesOf_inv v mc rev hf bk hfit hlen hhf
  cases v with
  | n1 => exact findN1_eq _ _ _
  | sse =>
    obtain ⟨_, _, h7⟩ := hfit
    obtain ⟨h7, _⟩ := h7 (by decide)
    show (bytesOf mc rev hf bk).find8sse _ _ = _
    rw [find8sse_eq, h7]; rfl
  | swar =>
    obtain ⟨_, _, h7⟩ := hfit
    obtain ⟨h7, hr⟩ := h7 (by decide)
    have hmc : (bytesOf mc rev hf bk).maxCount = 7 := h7
    show (bytesOf mc rev hf bk).find8swar _ _ = _
    rw [find8swar_eq_findN1 hmc ?_ _ _ ?_]
    · exact findN1_eq _ _ _
    · intro j hj
      by_cases c : j < 7
      · exact inv_data_lt hI j (by rw [hmc]; exact c)
      · have : j = 7 := by omega
        subst this
        show (if 7 < mc then _ else bk.bst.1 % 256) < 256
        rw [if_neg (by rw [h7]; decide)]
        exact Nat.mod_lt _ (by decide)
    · intro j hj hp
      exact (cand_iff hI (hf k) (hhf k) j (by rw [hmc]; exact hj)).mpr (keyPred_hit mc rev hf bk k j hp)

theorem lookupB_eq_keyIdx (hfit : v.fits mc rev) (hlen : bk.items.length ≤ mc) (hhf : ∀ x, hf x < 2 ^ 64)
    (hnd : (bk.items.map (·.key)).Nodup) :
    lookupB v mc rev hf bk k = HT.keyIdx bk.items k := by
  have hI := bytesOf_inv v mc rev hf bk hfit hlen hhf
  unfold lookupB
  rw [findV_eq_scan v mc rev hf bk k hfit hlen hhf]
  have ho : ∀ p ∈ List.range mc, p < (bytesOf mc rev hf bk).maxCount := fun p hp => List.mem_range.mp hp
  cases hq : HT.keyIdx bk.items k with
  | none =>
    rw [scan_none hI (hf k) (hhf k) _ _ ho]
    · rfl
    · intro q hit
      obtain ⟨it, hit', hk⟩ := keyPred_true mc rev bk k q hit.2.2.2
      exact HT.keyIdx_none bk.items k hq it (List.mem_of_getElem? hit') hk
  | some j =>
    obtain ⟨it, hj, hk⟩ := HT.keyIdx_some bk.items k j hq
    have hjl : j < bk.items.length := (List.getElem?_eq_some_iff.mp hj).1
    have hjm : j < mc := by omega
    have hpp : phys mc rev (phys mc rev j) = j := phys_phys mc rev j hjm
    have hp : keyPred mc rev bk.items k (phys mc rev j) = true := by
      rw [keyPred, hpp, hj]; exact beq_iff_eq.mpr hk
    have hit : Hit (bytesOf mc rev hf bk) (hashes hf bk.items) (hf k) (keyPred mc rev bk.items k) (phys mc rev j) :=
      ⟨phys_lt mc rev j hjm, (keyPred_hit mc rev hf bk k _ hp).1, (keyPred_hit mc rev hf bk k _ hp).2, hp⟩
    rw [scan_unique hI (hf k) (hhf k) _ _ ho (phys mc rev j) (List.mem_range.mpr (phys_lt mc rev j hjm)) hit]
    · show some (phys mc rev (phys mc rev j)) = some j
      rw [hpp]
    · intro q hq'
      obtain ⟨it', hit', hk'⟩ := keyPred_true mc rev bk k q hq'.2.2.2
      have e := (HT.keyIdx_eq_some_iff bk.items k (phys mc rev q) hnd).mpr ⟨it', hit', hk'⟩
      rw [hq] at e
      have : j = phys mc rev q := by simpa using e
      rw [this, phys_phys mc rev q hq'.1]

end lookup

theorem hashes_pushItem (hf : Nat → Nat) (sp : HT.Spec) (it : HT.Item) (bk : HT.Bucket) :
    hashes hf (HT.pushItem sp it bk).items = absStep (hashes hf bk.items) (.add (hf it.key)) := by
  simp [hashes, absStep]

theorem hashes_removeAt (hf : Nat → Nat) (j : Nat) (bk : HT.Bucket) :
    hashes hf (HT.removeAt j bk).items = absStep (hashes hf bk.items) (.rem j) := by
  unfold HT.removeAt hashes absStep
  simp only [List.getLast?_map]
  cases bk.items.getLast? with
  | none => rfl
  | some l => simp [List.map_dropLast, List.map_set]

theorem bytesOf_step (v : Variant) (mc : Nat) (rev : Bool) (hf : Nat → Nat) (sp : HT.Spec) (bk : HT.Bucket)
    (hfit : v.fits mc rev) (hmc : sp.maxCount = mc) (hunl : sp.unlimited = false) (hlen : bk.items.length ≤ mc)
    (hhf : ∀ x, hf x < 2 ^ 64) :
    ((bytesOf mc rev hf bk).isFull = HT.isFull sp bk) ∧
    ((bytesOf mc rev hf bk).count = bk.items.length) ∧
    (∀ it, bk.items.length < mc → ∀ j, j < mc →
        ((bytesOf mc rev hf bk).addCrt (hf it.key)).data j = (bytesOf mc rev hf (HT.pushItem sp it bk)).data j) ∧
    (∀ index, index < bk.items.length → ∀ j, j < mc →
        ((bytesOf mc rev hf bk).remove index).data j = (bytesOf mc rev hf (HT.removeAt index bk)).data j) := by
  have hI := bytesOf_inv v mc rev hf bk hfit hlen hhf
  have hl : (hashes hf bk.items).length = bk.items.length := by simp [hashes]
  refine ⟨?_, ?_, ?_, ?_⟩
  · rw [isFull_decode hI, hl]
    unfold HT.isFull
    rw [hunl, hmc]
    show decide (bk.items.length = mc) = (true && decide (bk.items.length ≥ mc))
    rw [Bool.true_and]
    exact decide_eq_decide.mpr ⟨fun h => by omega, fun h => by omega⟩
  · rw [count_decode hI, hl]
  · intro it hlt j hj
    have h1 := step_inv hI (.add (hf it.key)) ⟨by rw [hl]; exact hlt, hhf _⟩
    rw [← hashes_pushItem hf sp] at h1
    exact (h1.data j hj).trans (if_pos hj).symm
  · intro index hidx j hj
    have h1 := step_inv hI (.rem index) (by show index < (hashes hf bk.items).length; rw [hl]; exact hidx)
    rw [← hashes_removeAt hf] at h1
    exact (h1.data j hj).trans (if_pos hj).symm

/-- `HT.findLoop` with an arbitrary in-bucket lookup -/
def findLoopB (look : HT.Bucket → Option Nat) (sp : HT.Spec) (g : HT.Gen) (maxP : Nat) : Nat → Nat → Nat → Option (Nat × Nat)
  | 0, _, _ => none
  | fuel+1, probe, idx =>
    if (HT.bkt sp g.bs idx).wasFull && decide (probe ≤ maxP) then
      match look (HT.bkt sp g.bs (HT.nextIdx sp g.L idx probe)) with
      | some j => some (HT.nextIdx sp g.L idx probe, j)
      | none => findLoopB look sp g maxP fuel (probe + 1) (HT.nextIdx sp g.L idx probe)
    else none

/-- `HT.findGen`, likewise -/
def findGenB (look : HT.Bucket → Option Nat) (sp : HT.Spec) (g : HT.Gen) (h : Nat) : Option (Nat × Nat) :=
  match look (HT.bkt sp g.bs (Probe.start g.L h)) with
  | some j => some (Probe.start g.L h, j)
  | none =>
    findLoopB look sp g (HT.maxProbe sp g.L (HT.bkt sp g.bs (Probe.start g.L h)))
      (HT.maxProbe sp g.L (HT.bkt sp g.bs (Probe.start g.L h)) + 1) 1 (Probe.start g.L h)

/-- `HT.findTable.go` (the walk over the generations), likewise -/
def findGoB (look : HT.Bucket → Option Nat) (sp : HT.Spec) (h : Nat) : Nat → List HT.Gen → Option (Nat × Nat × Nat)
  | _, [] => none
  | gi, g :: rest =>
    match findGenB look sp g h with
    | some (b, j) => some (gi, b, j)
    | none => if sp.nothrowReloc then none else findGoB look sp h (gi + 1) rest

/-- `HT.findTable` (`pvFind`), likewise -/
def findTableB (look : HT.Bucket → Option Nat) (sp : HT.Spec) (hf : Nat → Nat) (t : HT.Table) (k : Nat) :
    Option (Nat × Nat × Nat) :=
  if t.count == 0 then none else findGoB look sp (hf k) 0 t.gens

theorem findLoopB_eq (look : HT.Bucket → Option Nat) (sp : HT.Spec) (g : HT.Gen) (k maxP : Nat)
    (hl : ∀ i, look (HT.bkt sp g.bs i) = HT.keyIdx (HT.bkt sp g.bs i).items k) :
    ∀ fuel probe idx, findLoopB look sp g maxP fuel probe idx = HT.findLoop sp g k maxP fuel probe idx := by
  intro fuel
  induction fuel with
  | zero => intro probe idx; rfl
  | succ n ih =>
    intro probe idx
    unfold findLoopB HT.findLoop
    simp only [hl, ih]
    rfl

theorem findGenB_eq (look : HT.Bucket → Option Nat) (sp : HT.Spec) (g : HT.Gen) (h k : Nat)
    (hl : ∀ i, look (HT.bkt sp g.bs i) = HT.keyIdx (HT.bkt sp g.bs i).items k) :
    findGenB look sp g h = HT.findGen sp g h k := by
  unfold findGenB HT.findGen
  simp only [hl, findLoopB_eq look sp g k _ hl]
  rfl

theorem findGoB_eq (look : HT.Bucket → Option Nat) (sp : HT.Spec) (hf : Nat → Nat) (k : Nat) :
    ∀ (gens : List HT.Gen) (gi : Nat),
      (∀ g ∈ gens, ∀ i, look (HT.bkt sp g.bs i) = HT.keyIdx (HT.bkt sp g.bs i).items k) →
      findGoB look sp (hf k) gi gens = HT.findTable.go sp hf k gi gens := by
  intro gens
  induction gens with
  | nil => intro gi _; rfl
  | cons g rest ih =>
    intro gi hl
    unfold findGoB HT.findTable.go
    rw [findGenB_eq look sp g (hf k) k (hl g (by simp)), ih (gi + 1) (fun g' hg' => hl g' (by simp [hg']))]
    rfl

theorem findTableB_eq (v : Variant) (mc : Nat) (rev : Bool) (sp : HT.Spec) (hf : Nat → Nat) (t : HT.Table)
    (hI : HT.TableInv sp hf t) (hfit : v.fits mc rev) (hmc : sp.maxCount = mc) (hunl : sp.unlimited = false)
    (hhf : ∀ x, hf x < 2 ^ 64) (k : Nat) :
    findTableB (fun bk => lookupB v mc rev hf bk k) sp hf t k = HT.findTable sp hf t k := by
  unfold findTableB HT.findTable
  split
  · rfl
  · apply findGoB_eq
    intro g hg i
    apply lookupB_eq_keyIdx v mc rev hf _ k hfit ?_ hhf (HT.bucket_keys_nodup sp t hI.core.nodup g hg i)
    rw [← hmc]
    exact (hI.core.gens g hg).size hunl i

end Momo.OpenB
