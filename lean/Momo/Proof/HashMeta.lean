import Mathlib.Data.Nat.ModEq
import Momo.Model.HashMeta
import Momo.Proof.ProbeTri
/-!
  Arithmetic of the hash-probe bytes (C12): the stored byte in arithmetic form (`encByte_arith`), the exact value `partOf B h` that
  `GetHashCodePart` assembles from it (`decode_enc`), and what a code `c` with `Agree B c h` is worth: same start bucket, short hash and
  hash-probe byte as the true hash `h` (`agree_all`). The lemmas are stated in `gbits L`, the number of low bits all sizes of the group of
  `L` share (its doc explains groups); the property theorems use the model's `knownBits`, which is `gbits` for LimP4 and for Open2N2 when
  `0 < probeShift` (`knownBits_eq`). `P4` (BucketLimP4) and `O2` (BucketOpen2N2) carry the same lemma names; Open2N2's take
  `0 < probeShift` as hypothesis or give it as extra conclusion. `One` (BucketOne): the 8-byte state is the hash code without its top bit.
-/
namespace Momo.HashMeta

/-- `GetHashCodePart` recovers the start bucket as `(bucketIndex + K - t) & (bucketCount - 1)` in 64-bit arithmetic, `t` the
    displacement, `K = bucketCount` for LimP4 and `K = 0` for Open2N2 -/
theorem unprobe (a t K L : Nat) (hL : L ≤ 64) (ht : t ≤ 2 ^ 64) (hK : 2 ^ L ∣ K) :
    w64 ((a % 2 ^ L + t) % 2 ^ L + K + (2 ^ 64 - t)) &&& (2 ^ L - 1) = a % 2 ^ L := by
  have hd : 2 ^ L ∣ 2 ^ 64 := Nat.pow_dvd_pow 2 hL
  rw [Nat.and_two_pow_sub_one_eq_mod, w64, Nat.mod_mod_of_dvd _ hd]
  have h1 : (a % 2 ^ L + t) % 2 ^ L ≡ a + t [MOD 2 ^ L] :=
    (Nat.mod_modEq _ _).trans (Nat.ModEq.add_right _ (Nat.mod_modEq _ _))
  have h2 := (h1.add_right K).add_right (2 ^ 64 - t)
  have e : a + t + K + (2 ^ 64 - t) = a + (K + 2 ^ 64) := by omega
  rw [e] at h2
  obtain ⟨c, hc⟩ := Nat.dvd_add hK hd
  rw [hc] at h2
  have h3 : (a + 2 ^ L * c) % 2 ^ L = a % 2 ^ L := Nat.add_mul_mod_self_left _ _ _
  exact h2.trans h3

theorem field_mod (m p s : Nat) (hp : p < 2 ^ s) : (m * 2 ^ s + p) % 2 ^ s = p := by
  rw [Nat.add_comm, Nat.add_mul_mod_self_right, Nat.mod_eq_of_lt hp]

theorem field_div (m p s : Nat) (hp : p < 2 ^ s) : (m * 2 ^ s + p) / 2 ^ s = m := by
  rw [Nat.add_comm, Nat.add_mul_div_right _ _ (Nat.two_pow_pos s), Nat.div_eq_of_lt hp, Nat.zero_add]

theorem field_bound {m t : Nat} (s : Nat) (hm : m < 2 ^ t) : m * 2 ^ s + 2 ^ s ≤ 2 ^ (t + s) := by
  rw [Nat.pow_add, ← Nat.succ_mul]; exact Nat.mul_le_mul_right _ hm

theorem field_and (m p s : Nat) (hp : p < 2 ^ s) : (m * 2 ^ s + p) &&& (2 ^ s - 1) = p := by
  rw [Nat.and_two_pow_sub_one_eq_mod, field_mod _ _ _ hp]

theorem field_shift (m p s : Nat) (hp : p < 2 ^ s) : (m * 2 ^ s + p) >>> s = m := by
  rw [Nat.shiftRight_eq_div_pow, field_div _ _ _ hp]

theorem mod_split (h L t : Nat) : h % 2 ^ L + ((h / 2 ^ L) % 2 ^ t) * 2 ^ L = h % 2 ^ (L + t) := by
  rw [Nat.pow_add, Nat.mod_mul, Nat.mul_comm (2 ^ L)]

theorem or_field (a m L : Nat) (ha : a < 2 ^ L) : a ||| (m <<< L) = a + m * 2 ^ L := by
  rw [Nat.or_comm, ← Nat.shiftLeft_add_eq_or_of_lt ha, Nat.shiftLeft_eq, Nat.add_comm]

theorem top7_lt (h : Nat) (hh : h < 2 ^ 64) : h >>> 57 < 128 := by
  rw [Nat.shiftRight_eq_div_pow]; omega

theorem top7_shift_lt (h : Nat) (hh : h < 2 ^ 64) : (h >>> 57) <<< 57 < 2 ^ 64 := by
  rw [Nat.shiftRight_eq_div_pow, Nat.shiftLeft_eq]
  have := Nat.div_mul_le_self h (2 ^ 57)
  omega

theorem u8_top7 (h : Nat) (hh : h < 2 ^ 64) : u8 (h >>> 57) = h >>> 57 :=
  Nat.mod_eq_of_lt (Nat.lt_trans (top7_lt h hh) (by decide))

/-- `c` has the low `B` bits and the top seven bits of `h`: all that `GetHashCodePart` can give back. The top seven are the short hash of
    both bucket kinds (`hashCodeShift = 57`: `P4.shortHash_eq`, `O2.shortHash_eq`). -/
def Agree (B c h : Nat) : Prop := c % 2 ^ B = h % 2 ^ B ∧ c >>> 57 = h >>> 57

theorem Agree.refl (B h : Nat) : Agree B h h := ⟨rfl, rfl⟩

theorem Agree.trans {B a b c : Nat} (h1 : Agree B a b) (h2 : Agree B b c) : Agree B a c :=
  ⟨h1.1.trans h2.1, h1.2.trans h2.2⟩

theorem Agree.low {B c h : Nat} (ha : Agree B c h) (L : Nat) (hL : L ≤ B) : c % 2 ^ L = h % 2 ^ L := by
  have d : 2 ^ L ∣ 2 ^ B := Nat.pow_dvd_pow 2 hL
  rw [← Nat.mod_mod_of_dvd c d, ← Nat.mod_mod_of_dvd h d, ha.1]

theorem Agree.mono {B B' c h : Nat} (ha : Agree B c h) (hB : B' ≤ B) : Agree B' c h :=
  ⟨ha.low B' hB, ha.2⟩

theorem Agree.field {B c h : Nat} (ha : Agree B c h) (L t : Nat) (hB : L + t ≤ B) :
    (c / 2 ^ L) % 2 ^ t = (h / 2 ^ L) % 2 ^ t := by
  rw [← Nat.mod_mul_right_div_self, ← Nat.mod_mul_right_div_self, ← Nat.pow_add, ha.low (L + t) hB]

/-- the value `GetHashCodePart` assembles -/
def partOf (B h : Nat) : Nat := h % 2 ^ B ||| (h >>> 57) <<< 57

theorem partOf_agree (B h : Nat) (hB : B ≤ 57) : Agree B (partOf B h) h := by
  have ha : h % 2 ^ B < 2 ^ 57 :=
    Nat.lt_of_lt_of_le (Nat.mod_lt _ (Nat.two_pow_pos B)) (Nat.pow_le_pow_right (by decide) hB)
  rw [Agree, partOf, or_field _ _ _ ha, Nat.add_comm, Nat.shiftRight_eq_div_pow _ 57, Nat.shiftRight_eq_div_pow _ 57,
    field_div _ _ _ ha, Nat.add_mod, Nat.mod_eq_zero_of_dvd (Nat.dvd_mul_left_of_dvd (Nat.pow_dvd_pow 2 hB) _), Nat.zero_add,
    Nat.mod_mod, Nat.mod_mod]
  exact ⟨rfl, rfl⟩

theorem partOf_lt (B h : Nat) (hB : B ≤ 57) (hh : h < 2 ^ 64) : partOf B h < 2 ^ 64 := by
  unfold partOf
  apply Nat.or_lt_two_pow
  · have : h % 2 ^ B < 2 ^ B := Nat.mod_lt _ (Nat.two_pow_pos B)
    have : 2 ^ B ≤ 2 ^ 64 := Nat.pow_le_pow_right (by decide) (by omega)
    omega
  · exact top7_shift_lt h hh

theorem assemble (h L t : Nat) (hh : h < 2 ^ 64) (hLt : L + t ≤ 57) :
    h % 2 ^ L ||| w64 (((h / 2 ^ L) % 2 ^ t) <<< L) ||| w64 ((h >>> 57) <<< 57) = partOf (L + t) h := by
  have hm : (h / 2 ^ L) % 2 ^ t * 2 ^ L < 2 ^ 64 :=
    Nat.lt_of_lt_of_le (Nat.lt_add_of_pos_right (Nat.two_pow_pos L))
      (Nat.le_trans (field_bound L (Nat.mod_lt _ (Nat.two_pow_pos t))) (Nat.pow_le_pow_right (by decide) (by omega)))
  rw [w64, w64, Nat.mod_eq_of_lt (top7_shift_lt h hh), Nat.shiftLeft_eq, Nat.mod_eq_of_lt hm,
    ← Nat.shiftLeft_eq, or_field _ _ _ (Nat.mod_lt _ (Nat.two_pow_pos L)), mod_split]
  rfl

/-- Table sizes `2^L` with the same `(L + 6) / 8` form a *group* (`P4.group`, `O2.group`: `logBucketCountStep = 8`, addend 6);
    `GetHashCodePart` reuses the stored bits only for a new size of the same group. Inside a group the payload of the hash-probe
    byte loses one bit per size while the bucket index gains one, so index, payload and probe together always give the same
    `gbits L = 8 * group + 1` low bits of the hash code (`P4.knownBits_eq`, `O2.knownBits_eq`), and the largest size of the group
    is `2 ^ gbits L` (`le_gbits`): the bits suffice for every size of the group. Open2N2 starts its probe-shift cycle one size
    earlier (`(L + 7) % 8` against LimP4's `(L + 6) % 8`), i.e. with `probeShift = 0` at the last size of a group, where no later
    size of the group is left and the byte is never read (`O2.probeShift_pos`). `L ≤ 57` throughout: the low `gbits L` bits must end below bit 57, where the
    seven bits of the short hash start (`gbits_le`, `partOf_agree`). -/
def gbits (L : Nat) : Nat := 8 * ((L + 6) / 8) + 1

theorem le_gbits (L : Nat) : L ≤ gbits L := by unfold gbits; omega

theorem gbits_le (L : Nat) (hL : L ≤ 57) : gbits L ≤ 57 := by unfold gbits; omega

/-- `hv`: the two branches of `GetHashCodePart` for an element stored with the code `c`, the second as `part_of_not_full` of each layout
    delivers it -/
theorem agree_of_part {c h v L L' : Nat} (hc : c < 2 ^ 64) (hh : h < 2 ^ 64) (hL : L ≤ 57) (ha : Agree (gbits L) c h)
    (hv : v = h ∨ v = partOf (gbits L) c ∧ gbits L = gbits L') : Agree (gbits L') v h ∧ v < 2 ^ 64 := by
  rcases hv with rfl | ⟨rfl, hg⟩
  · exact ⟨Agree.refl _ _, hh⟩
  · rw [← hg]; exact ⟨(partOf_agree _ c (gbits_le L hL)).trans ha, partOf_lt _ _ (gbits_le L hL) hc⟩

namespace P4

theorem probeShift_eq (L : Nat) : probeShift L = (L + 6) % 8 := rfl
theorem group_eq (L : Nat) : group L = (L + 6) / 8 := rfl
theorem probeShift_lt (L : Nat) : probeShift L < 8 := by rw [probeShift_eq]; omega
theorem knownBits_eq (L : Nat) : knownBits L = gbits L := by
  unfold knownBits gbits; rw [probeShift_eq]; simp only [Extracted.limp4ShortHashBits]; omega
theorem gbits_of_group {L L' : Nat} (hg : group L = group L') : gbits L = gbits L' := by
  unfold gbits; rw [group_eq, group_eq] at hg; rw [hg]

/-- arithmetic form of the stored byte: marker + payload field + probe -/
def encA (h L p : Nat) : Nat := 128 + ((h / 2 ^ L) % 2 ^ (7 - probeShift L)) * 2 ^ probeShift L + p

/-- the byte in or-form with the payload cut to its `7 - s` bits (`s = probeShift L`): bit 7 the marker, bits `s .. 6` the payload,
    the bits below `s` the probe. `encB_eq_encO`: the model's byte with `u8` unfolded (its left side) is this, since `% 256` only drops
    payload bits from `7 - s` up, which the marker covers. -/
private def encO (h L p : Nat) : Nat :=
  2 ^ 7 ||| ((((h >>> L) % 2 ^ (7 - probeShift L)) <<< probeShift L) ||| p)

private theorem encB_eq_encO (h L p : Nat) (hp : p < 2 ^ probeShift L) :
    128 ||| (((h >>> L) <<< probeShift L) % 256) ||| (p % 256) = encO h L p := by
  have hs := probeShift_lt L
  unfold encO
  generalize probeShift L = s at *
  have hp256 : p < 256 := by
    have : 2 ^ s ≤ 2 ^ 7 := Nat.pow_le_pow_right (by decide) (by omega)
    omega
  rw [Nat.mod_eq_of_lt hp256]
  -- bit by bit: `i = 7` the marker, `s ≤ i < 7` payload bit `i - s`, `i < s` the probe, `8 ≤ i` nothing
  apply Nat.eq_of_testBit_eq
  intro i
  have h256 : (256:Nat) = 2 ^ 8 := by decide
  have h128 : (128:Nat) = 2 ^ 7 := by decide
  simp only [Nat.testBit_or, h256, h128, Nat.testBit_mod_two_pow, Nat.testBit_shiftLeft,
    Nat.testBit_shiftRight, Nat.testBit_two_pow]
  have hpi : s ≤ i → p.testBit i = false := fun hsi =>
    Nat.testBit_lt_two_pow (Nat.lt_of_lt_of_le hp (Nat.pow_le_pow_right (by decide) hsi))
  by_cases h7 : 7 = i
  · subst h7; simp
  · by_cases hi8 : i < 8
    · by_cases hsi : s ≤ i
      · have : i - s < 7 - s := by omega
        simp [hi8, hsi, this, h7]
      · simp [hsi]
    · have hsi : s ≤ i := by omega
      have : ¬ (i - s < 7 - s) := by omega
      simp [hi8, hpi hsi, this, h7]

theorem payload_le (h L : Nat) : ((h / 2 ^ L) % 2 ^ (7 - probeShift L)) * 2 ^ probeShift L + 2 ^ probeShift L ≤ 128 := by
  have := field_bound (probeShift L) (Nat.mod_lt (h / 2 ^ L) (Nat.two_pow_pos (7 - probeShift L)))
  rwa [Nat.sub_add_cancel (Nat.le_of_lt_succ (probeShift_lt L))] at this

private theorem encO_eq_encA (h L p : Nat) (hp : p < 2 ^ probeShift L) : encO h L p = encA h L p := by
  have hf := payload_le h L
  have hlt : (h / 2 ^ L) % 2 ^ (7 - probeShift L) * 2 ^ probeShift L + p < 2 ^ 7 := by omega
  have e := Nat.two_pow_add_eq_or_of_lt hlt 1
  rw [Nat.mul_one] at e
  rw [encO, encA, ← Nat.shiftLeft_add_eq_or_of_lt hp, Nat.shiftLeft_eq, Nat.shiftRight_eq_div_pow, ← e, Nat.add_assoc]

theorem encByte_arith (h L p : Nat) (hp : p < 2 ^ probeShift L) : encByte h L p = encA h L p := by
  rw [← encO_eq_encA h L p hp, ← encB_eq_encO h L p hp]
  unfold encByte u8
  simp only [hp, if_true]

theorem encByte_far (h L p : Nat) (hp : ¬ p < 2 ^ probeShift L) : encByte h L p = 255 := by
  unfold encByte; simp only [hp, if_false]

/-- every stored byte carries the marker bit, so it is never mistaken for a short hash -/
theorem encByte_ge (h L p : Nat) : 128 ≤ encByte h L p ∧ encByte h L p ≤ 255 := by
  by_cases hp : p < 2 ^ probeShift L
  · rw [encByte_arith h L p hp]; unfold encA
    have := payload_le h L
    omega
  · rw [encByte_far h L p hp]; omega

theorem shortHash_eq (h : Nat) (hh : h < 2 ^ 64) : shortHash h = h >>> 57 := u8_top7 h hh

theorem shortHash_lt (h : Nat) (hh : h < 2 ^ 64) : shortHash h < 128 := by
  rw [shortHash_eq h hh]; exact top7_lt h hh

/-- the index argument is the bucket linear probing reaches after `p` steps from the start bucket of `h` -/
theorem decode_enc (h L p : Nat) (hh : h < 2 ^ 64) (hL : L ≤ 57) (hp : p < 2 ^ probeShift L) :
    decode (encByte h L p) (shortHash h) ((h % 2 ^ L + p) % 2 ^ L) L = partOf (knownBits L) h := by
  have hs := probeShift_lt L
  have hkb : knownBits L = L + (7 - probeShift L) := by
    unfold knownBits; simp only [Extracted.limp4ShortHashBits]; omega
  have hk57 : L + (7 - probeShift L) ≤ 57 := by rw [← hkb, knownBits_eq]; exact gbits_le L hL
  -- the byte is `(2^(7-s) + m) * 2^s + p`: marker and payload above the probe field
  have e128 : 128 = 2 ^ (7 - probeShift L) * 2 ^ probeShift L := by
    rw [← Nat.pow_add, Nat.sub_add_cancel (Nat.le_of_lt_succ hs)]
  have hprobe : encA h L p &&& (2 ^ probeShift L - 1) = p := by
    rw [encA, e128, ← Nat.add_mul, field_and _ _ _ hp]
  have hpay : (encA h L p - maskEmpty) >>> probeShift L = (h / 2 ^ L) % 2 ^ (7 - probeShift L) := by
    rw [encA, Nat.add_assoc, Nat.add_sub_cancel_left, field_shift _ _ _ hp]
  have h2s : 2 ^ probeShift L ≤ 2 ^ 7 := Nat.pow_le_pow_right (by decide) (Nat.le_of_lt_succ hs)
  have hstart := unprobe h p (2 ^ L) L (by omega) (by omega) (Nat.dvd_refl _)
  rw [decode, encByte_arith h L p hp, shortHash_eq h hh, hkb, hprobe, hpay, hstart]
  exact assemble h L _ hh hk57

/-- the usability test of `GetHashCodePart`: `!(uint8_t(hashProbe + 1) <= maskEmpty)` -/
def usable (x : Nat) : Prop := ¬ (u8 (x + 1) ≤ maskEmpty)

theorem usable_inrange (h L p : Nat) (hu : usable (encByte h L p)) : p < 2 ^ probeShift L := by
  apply Decidable.byContradiction
  intro hp
  rw [encByte_far h L p hp] at hu
  simp [usable, u8] at hu

theorem agree_enc {c h : Nat} (L p : Nat) (ha : Agree (gbits L) c h) : encByte c L p = encByte h L p := by
  by_cases hp : p < 2 ^ probeShift L
  · rw [encByte_arith _ _ _ hp, encByte_arith _ _ _ hp]
    unfold encA
    have hs := probeShift_lt L
    have : L + (7 - probeShift L) ≤ gbits L := by unfold gbits; rw [probeShift_eq]; omega
    rw [ha.field L (7 - probeShift L) this]
  · rw [encByte_far _ _ _ hp, encByte_far _ _ _ hp]

theorem agree_short {B c h : Nat} (ha : Agree B c h) : shortHash c = shortHash h := by
  unfold shortHash hashCodeShift; simp only [Extracted.limp4ShortHashBits]
  have : (64 - 7 : Nat) = 57 := by decide
  rw [this, ha.2]

theorem useFull_false {byte L L' : Nat} :
    useFull byte L L' = false ↔ usable byte ∧ group L = group L' := by
  simp only [usable, useFull, Bool.or_eq_false_iff, decide_eq_false_iff_not, bne_eq_false_iff_eq]

theorem part_of_not_full (c L L' p full : Nat) (hc : c < 2 ^ 64) (hL : L ≤ 57) (hu : useFull (encByte c L p) L L' = false) :
    getHashCodePart (encByte c L p) (shortHash c) ((c % 2 ^ L + p) % 2 ^ L) L L' full = partOf (gbits L) c ∧
      gbits L = gbits L' := by
  obtain ⟨hu1, hgrp⟩ := useFull_false.mp hu
  rw [getHashCodePart, hu, if_neg Bool.false_ne_true, decode_enc c L p hc hL (usable_inrange c L p hu1), knownBits_eq]
  exact ⟨rfl, gbits_of_group hgrp⟩

theorem part_agree (c h L L' p : Nat) (hc : c < 2 ^ 64) (hh : h < 2 ^ 64) (hL : L ≤ 57) (ha : Agree (gbits L) c h) :
    Agree (gbits L') (getHashCodePart (encByte c L p) (shortHash c) ((c % 2 ^ L + p) % 2 ^ L) L L' h) h ∧
      getHashCodePart (encByte c L p) (shortHash c) ((c % 2 ^ L + p) % 2 ^ L) L L' h < 2 ^ 64 := by
  refine agree_of_part hc hh hL ha ?_
  cases hu : useFull (encByte c L p) L L' with
  | true => left; rw [getHashCodePart, hu, if_pos rfl]
  | false => exact .inr (part_of_not_full c L L' p h hc hL hu)

/-- all a later insertion takes from a code: start bucket, short hash, hash-probe bytes -/
theorem agree_all {c h L : Nat} (ha : Agree (gbits L) c h) :
    c % 2 ^ L = h % 2 ^ L ∧ shortHash c = shortHash h ∧ ∀ p, encByte c L p = encByte h L p :=
  ⟨ha.low L (le_gbits L), agree_short ha, fun p => agree_enc L p ha⟩

end P4

namespace O2

theorem probeShift_eq (L : Nat) : probeShift L = (L + 7) % 8 := rfl
theorem group_eq (L : Nat) : group L = (L + 6) / 8 := rfl
theorem probeShift_lt (L : Nat) : probeShift L < 8 := by rw [probeShift_eq]; omega
/-- away from the last size of a group (`probeShift = 0`, `L ≡ 1 mod 8`) the payload ends exactly at the group's bit count -/
theorem knownBits_eq (L : Nat) (hs : 0 < probeShift L) : knownBits L = gbits L := by
  unfold knownBits gbits; rw [probeShift_eq] at *; omega
theorem gbits_of_group {L L' : Nat} (hg : group L = group L') : gbits L = gbits L' := by
  unfold gbits; rw [group_eq, group_eq] at hg; rw [hg]
/-- the sufficiency test is offset by one from the payload boundary: a later size of the same group exists only
    when the probe shift is positive (this is the `MOMO_ASSERT(probeShift > 0)` of the source) -/
theorem probeShift_pos {L L' : Nat} (hlt : L < L') (hg : group L = group L') : 0 < probeShift L := by
  rw [group_eq, group_eq] at hg; rw [probeShift_eq]; omega

def encA (h L p : Nat) : Nat := ((h / 2 ^ L) % 2 ^ (8 - probeShift L)) * 2 ^ probeShift L + p

theorem encByte_arith (h L p : Nat) (hp : p < 2 ^ probeShift L) : encByte h L p = encA h L p := by
  have hs := probeShift_lt L
  unfold encByte encA u8
  simp only [hp, if_true]
  generalize probeShift L = s at *
  rw [← Nat.shiftLeft_add_eq_or_of_lt hp, Nat.shiftLeft_eq, Nat.shiftRight_eq_div_pow]
  have e : 256 = 2 ^ s * 2 ^ (8 - s) := by
    rw [← Nat.pow_add]; have : s + (8 - s) = 8 := by omega
    rw [this]
  rw [e, Nat.mod_mul, field_mod _ _ _ hp, field_div _ _ _ hp, Nat.mul_comm (2 ^ s), Nat.add_comm]

theorem encByte_far (h L p : Nat) (hp : ¬ p < 2 ^ probeShift L) : encByte h L p = 255 := by
  unfold encByte; simp only [hp, if_false]

theorem shortHash_eq (h : Nat) (hh : h < 2 ^ 64) : shortHash h = h >>> 57 := u8_top7 h hh

theorem shortHash_lt (h : Nat) (hh : h < 2 ^ 64) : shortHash h < 128 := by
  rw [shortHash_eq h hh]; exact top7_lt h hh

theorem probe2_eq_tri (p : Nat) : probe2 p = Probe.tri p := by
  unfold probe2 Probe.tri
  split
  · exact Nat.div_mul_right_comm (Nat.dvd_of_mod_eq_zero ‹_›) _
  · exact (Nat.mul_div_assoc p (Nat.dvd_of_mod_eq_zero (by omega))).symm

theorem tri_lt (p : Nat) (hp : p < 256) : Probe.tri p < 2 ^ 64 := by
  unfold Probe.tri
  have h1 : p * (p + 1) ≤ 255 * 256 := Nat.mul_le_mul (by omega) (by omega)
  have : p * (p + 1) / 2 ≤ p * (p + 1) := Nat.div_le_self _ _
  omega

theorem decode_enc (h L p : Nat) (hh : h < 2 ^ 64) (hL : L ≤ 57) (hs0 : 0 < probeShift L) (hp : p < 2 ^ probeShift L) :
    decode (encByte h L p) (shortHash h) ((h % 2 ^ L + Probe.tri p) % 2 ^ L) L = partOf (knownBits L) h := by
  have hs := probeShift_lt L
  have hkb : knownBits L = L + (8 - probeShift L) := by unfold knownBits; omega
  have hk57 : L + (8 - probeShift L) ≤ 57 := by rw [← hkb, knownBits_eq L hs0]; exact gbits_le L hL
  have h2s : 2 ^ probeShift L ≤ 2 ^ 7 := Nat.pow_le_pow_right (by decide) (Nat.le_of_lt_succ hs)
  have hstart : w64 ((h % 2 ^ L + Probe.tri p) % 2 ^ L + (2 ^ 64 - Probe.tri p)) &&& (2 ^ L - 1) = h % 2 ^ L :=
    unprobe h (Probe.tri p) 0 L (by omega) (Nat.le_of_lt (tri_lt p (by omega))) (Nat.dvd_zero _)
  rw [decode, encByte_arith h L p hp, shortHash_eq h hh, hkb, encA, field_and _ _ _ hp, field_shift _ _ _ hp, probe2_eq_tri,
    hstart]
  exact assemble h L _ hh hk57

theorem usable_inrange (h L p : Nat) (hu : ¬ (encByte h L p = emptyHashProbe)) : p < 2 ^ probeShift L := by
  apply Decidable.byContradiction
  intro hp
  exact hu (by rw [encByte_far h L p hp])

theorem agree_enc {c h : Nat} (L p : Nat) (hs0 : 0 < probeShift L) (ha : Agree (gbits L) c h) :
    encByte c L p = encByte h L p := by
  by_cases hp : p < 2 ^ probeShift L
  · rw [encByte_arith _ _ _ hp, encByte_arith _ _ _ hp]
    unfold encA
    have hs := probeShift_lt L
    have : L + (8 - probeShift L) ≤ gbits L := by unfold gbits; rw [probeShift_eq] at *; omega
    rw [ha.field L (8 - probeShift L) this]
  · rw [encByte_far _ _ _ hp, encByte_far _ _ _ hp]

theorem agree_short {B c h : Nat} (ha : Agree B c h) : shortHash c = shortHash h := by
  unfold shortHash hashCodeShift; simp only [Extracted.open2n2HashShiftAddend]
  have : (64 - 8 + 1 : Nat) = 57 := by decide
  rw [this, ha.2]

theorem useFull_false {byte L L' : Nat} :
    useFull byte L L' = false ↔ byte ≠ emptyHashProbe ∧ group L = group L' := by
  simp only [useFull, Bool.or_eq_false_iff, beq_eq_false_iff_ne, ne_eq, bne_eq_false_iff_eq]

theorem part_of_not_full (c L L' p full : Nat) (hc : c < 2 ^ 64) (hL : L ≤ 57) (hlt : L < L')
    (hu : useFull (encByte c L p) L L' = false) :
    getHashCodePart (encByte c L p) (shortHash c) ((c % 2 ^ L + Probe.tri p) % 2 ^ L) L L' full = partOf (gbits L) c ∧
      gbits L = gbits L' ∧ 0 < probeShift L := by
  obtain ⟨hu1, hgrp⟩ := useFull_false.mp hu
  have hs0 := probeShift_pos hlt hgrp
  rw [getHashCodePart, hu, if_neg Bool.false_ne_true, decode_enc c L p hc hL hs0 (usable_inrange c L p hu1), knownBits_eq L hs0]
  exact ⟨rfl, gbits_of_group hgrp, hs0⟩

theorem part_agree (c h L L' p : Nat) (hc : c < 2 ^ 64) (hh : h < 2 ^ 64) (hL : L ≤ 57) (hlt : L < L')
    (ha : Agree (gbits L) c h) :
    Agree (gbits L') (getHashCodePart (encByte c L p) (shortHash c) ((c % 2 ^ L + Probe.tri p) % 2 ^ L) L L' h) h ∧
      getHashCodePart (encByte c L p) (shortHash c) ((c % 2 ^ L + Probe.tri p) % 2 ^ L) L L' h < 2 ^ 64 := by
  refine agree_of_part hc hh hL ha ?_
  cases hu : useFull (encByte c L p) L L' with
  | true => left; rw [getHashCodePart, hu, if_pos rfl]
  | false =>
    obtain ⟨e, hg, _⟩ := part_of_not_full c L L' p h hc hL hlt hu
    exact .inr ⟨e, hg⟩

theorem agree_all {c h L : Nat} (ha : Agree (gbits L) c h) :
    c % 2 ^ L = h % 2 ^ L ∧ shortHash c = shortHash h ∧ (0 < probeShift L → ∀ p, encByte c L p = encByte h L p) :=
  ⟨ha.low L (le_gbits L), agree_short ha, fun hs0 p => agree_enc L p hs0 ha⟩

end O2

namespace One

theorem state8 (h : Nat) : hashState 8 h = 2 * (h % 2 ^ 63) + 1 := by
  unfold hashState w64
  simp only [show ¬ (8 < 8) by decide, if_false, Nat.shiftLeft_eq]
  have e : h * 2 ^ 1 % 2 ^ 64 = 2 * (h % 2 ^ 63) := by
    rw [Nat.mul_comm, show (2:Nat) ^ 64 = 2 ^ 1 * 2 ^ 63 by decide, Nat.mul_mod_mul_left, Nat.pow_one]
  rw [e]
  have := Nat.shiftLeft_add_eq_or_of_lt (a := h % 2 ^ 63) (b := 1) (i := 1) (by decide)
  rw [Nat.shiftLeft_eq, Nat.pow_one] at this
  rw [Nat.mul_comm 2, ← this]

theorem part8 (h full : Nat) : getHashCodePart 8 (hashState 8 h) full = h % 2 ^ 63 := by
  unfold getHashCodePart
  simp only [show ¬ (8 < 8) by decide, if_false]
  rw [state8, Nat.shiftRight_eq_div_pow]
  omega

theorem state8_congr {c h : Nat} (hc : c % 2 ^ 63 = h % 2 ^ 63) : hashState 8 c = hashState 8 h := by
  rw [state8, state8, hc]

end One

end Momo.HashMeta
