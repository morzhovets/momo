import Momo.Proof.TableCreate
/-!
  C07: `pvProject<distinct>`: the projection of the rows that pass the filter; with `distinct` the first occurrence of
  every tuple (the temporary unique index over all result columns refuses the later ones).
-/
namespace Momo.Table
open List

def dedupFirst : List (List Nat) → List (List Nat) → List (List Nat)
  | out, [] => out
  | out, x :: xs => if out.contains x then dedupFirst out xs else dedupFirst (out ++ [x]) xs

theorem project_all (vis : Vis) (acc : Acc) (t : Table) (cols : List Nat) (filt : Row → Bool) :
    project vis acc t cols false filt = (t.rows.filter filt).map (fun r => cols.map (item r.vals)) := by
  unfold project
  simp only [Bool.false_eq_true, if_false]
  suffices h : ∀ (l : List Row) (rt : Table),
      (l.foldl (projectStep vis acc cols false) rt).rows.map (·.vals) = rt.rows.map (·.vals) ++ l.map (fun r => cols.map (item r.vals)) by
    rw [h]; rfl
  intro l
  induction l with
  | nil => intro rt; simp
  | cons r rs ih =>
    intro rt
    rw [foldl_cons, ih]
    simp [projectStep]

theorem keyEq_range_iff (n : Nat) (v1 v2 : List Nat) (h1 : v1.length = n) (h2 : v2.length = n) :
    keyEq (List.range n) v1 v2 = true ↔ v1 = v2 := by
  rw [keyEq_iff]
  constructor
  · intro h
    apply List.ext_getElem (by rw [h1, h2])
    intro i hi1 hi2
    have := h i (by rw [mem_range]; omega)
    unfold item at this
    rw [getD_eq_getElem?_getD, getD_eq_getElem?_getD, getElem?_eq_getElem hi1, getElem?_eq_getElem hi2] at this
    simpa using this
  · intro h c _; rw [h]

section projectD
variable {vis : Vis} (hc : Complete vis) (acc : Acc)
include hc

/-- the state of the result table of `pvProject<true>` -/
structure ProjInv (n : Nat) (rt : Table) : Prop where
  idsEq : ids rt.rows = List.range rt.rows.length
  uidx : ∃ u, rt.uidx = [u] ∧ UInv acc rt.rows u ∧ u.cols = List.range n
  midx : rt.midx = []
  lens : ∀ x ∈ rt.rows, x.vals.length = n

theorem projectStep_distinct (cols : List Nat) (rt : Table) (hp : ProjInv acc cols.length rt) (r : Row) :
    ProjInv acc cols.length (projectStep vis acc cols true rt r) ∧
    (projectStep vis acc cols true rt r).rows.map (·.vals) =
      if (rt.rows.map (·.vals)).contains (cols.map (item r.vals)) then rt.rows.map (·.vals)
      else rt.rows.map (·.vals) ++ [cols.map (item r.vals)] := by
  obtain ⟨hids, ⟨u, hu1, hu2, hu3⟩, hmid, hlens⟩ := hp
  have hnd : (ids rt.rows).Nodup := by rw [hids]; exact nodup_range
  have hr : (Row.mk rt.rows.length 0 0 (cols.map (item r.vals))).id ∉ ids rt.rows := by
    rw [hids]; simp
  have hkey : ∀ x ∈ rt.rows, (keyEq u.cols (cols.map (item r.vals)) x.vals = true ↔ cols.map (item r.vals) = x.vals) := by
    intro x hx
    rw [hu3]; exact keyEq_range_iff _ _ _ (by simp) (hlens x hx)
  unfold projectStep
  simp only [if_true]
  unfold addRaw
  rw [hu1, hmid]
  rcases uAddAll_step hc acc hnd hr .none u hu2 0 [] with ⟨_, _, _, hF⟩ | ⟨u', x, he, hrej, row, hrow, _, hk⟩ | ⟨u', he, _, hacc, hno⟩
  · exact absurd rfl hF
  · -- the tuple is there already: refused
    rw [he]
    have hyes : (rt.rows.map (·.vals)).contains (cols.map (item r.vals)) = true := by
      simp only [contains_iff_mem, mem_map]
      exact ⟨row, hrow, ((hkey row hrow).mp hk).symm⟩
    rw [hyes]
    simp only [if_true, map_cons, map_nil, ← hrej]
    exact ⟨⟨hids, ⟨u, rfl, hu2, hu3⟩, rfl, hlens⟩, trivial⟩
  · rw [he]
    have hnot : (rt.rows.map (·.vals)).contains (cols.map (item r.vals)) = false := by
      rw [Bool.eq_false_iff]
      intro hcon
      simp only [contains_iff_mem, mem_map] at hcon
      obtain ⟨x, hx, hxv⟩ := hcon
      have := hno x hx
      rw [(hkey x hx).mpr hxv.symm] at this
      exact absurd this (by simp)
    rw [hnot]
    simp only [uAddAll, mAddAll, Prod.map, id, map_nil, map_cons, Bool.false_eq_true, if_false, map_append]
    refine ⟨⟨?_, ⟨u'.acceptAdd, rfl, hacc, ?_⟩, rfl, ?_⟩, trivial⟩
    · show ids (rt.rows ++ [_]) = _
      rw [ids_append, hids, length_append, length_singleton, range_succ]
    · have hcs := uAddAll_cols vis acc (rt.rows ++ [Row.mk rt.rows.length 0 0 (cols.map (item r.vals))]) rt.rows.length .none [u] 0
      rw [he] at hcs
      simp only [uAddAll, Prod.map, map_cons, map_nil, cons.injEq, and_true] at hcs
      exact hcs.trans hu3
    · intro x hx
      have hx' : x ∈ rt.rows ++ [Row.mk rt.rows.length 0 0 (cols.map (item r.vals))] := hx
      rcases mem_append.mp hx' with h | h
      · exact hlens x h
      · simp at h; rw [h]; simp

theorem project_distinct (t : Table) (cols : List Nat) (filt : Row → Bool) :
    project vis acc t cols true filt = dedupFirst [] ((t.rows.filter filt).map (fun r => cols.map (item r.vals))) := by
  unfold project
  simp only [if_true]
  suffices h : ∀ (l : List Row) (rt : Table), ProjInv acc cols.length rt →
      (l.foldl (projectStep vis acc cols true) rt).rows.map (·.vals) =
        dedupFirst (rt.rows.map (·.vals)) (l.map (fun r => cols.map (item r.vals))) by
    rw [h]
    · rfl
    · exact ⟨rfl, ⟨_, rfl, ⟨nodup_range, ⟨rfl, rfl⟩, by simp [ids], by simp, by simp [ids]⟩, rfl⟩, rfl, by simp⟩
  intro l
  induction l with
  | nil => intro rt _; rfl
  | cons r rs ih =>
    intro rt hp
    obtain ⟨h1, h2⟩ := projectStep_distinct hc acc cols rt hp r
    rw [foldl_cons, ih _ h1, h2, map_cons]
    by_cases hcn : (rt.rows.map (·.vals)).contains (cols.map (item r.vals)) = true
    · rw [if_pos hcn]
      conv_rhs => rw [dedupFirst]
      rw [if_pos hcn]
    · rw [if_neg hcn]
      conv_rhs => rw [dedupFirst]
      rw [if_neg hcn]

end projectD
end Momo.Table
