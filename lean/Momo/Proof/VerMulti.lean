import Momo.Proof.VerTree
/-!
  HashMultiMap (C15): two version cells per object.  Every entry point increments the key version whenever the
  key set (or the capacity of the nested map) changes, and one of the two versions whenever anything changes;
  key iterators check the key version, value iterators both.  `MWorld.step_outcome` is the one case analysis of the EFFECTS of the
  entry points (`step_facts`, `step_eff`, `step_quiet`, `step_reject_unchanged` are read off it); the rejection side has its own,
  `key_rejected` / `value_rejected`.
-/
namespace Momo.Ver

def MMap.keysOf (m : MMap) : List Nat := m.kv.map (·.1)

/-- effect of one call on one multimap: the two cells stay; the key cell gets `nk` increments - at least one if what key
    iterators watch (key list, nested capacity) changed - and the value cell `nv`, with `nk + nv > 0` if anything changed -/
def MEff (cs : Cells) (m : MMap) (cs' : Cells) (m' : MMap) : Prop :=
  m'.kcell = m.kcell ∧ m'.vcell = m.vcell ∧ ∃ nk nv, cs' = bumpN (bumpN cs m.kcell nk) m.vcell nv ∧
    ((m'.keysOf ≠ m.keysOf ∨ m'.cap ≠ m.cap) → 0 < nk) ∧ (m'.kv ≠ m.kv → 0 < nk + nv)

theorem MEff.refl (cs : Cells) (m : MMap) : MEff cs m cs m :=
  ⟨rfl, rfl, 0, 0, by rw [bumpN_zero, bumpN_zero], fun h => h.elim (absurd rfl) (absurd rfl), fun h => absurd rfl h⟩

theorem MEff.values {cs : Cells} {m m' : MMap} {n : Nat} (hn : 0 < n) (hk : m'.kcell = m.kcell) (hv : m'.vcell = m.vcell)
    (hkeys : m'.keysOf = m.keysOf) (hcap : m'.cap = m.cap) : MEff cs m (bumpN cs m.vcell n) m' :=
  ⟨hk, hv, 0, n, by rw [bumpN_zero], fun h => h.elim (absurd hkeys) (absurd hcap), fun _ => (Nat.zero_add n).symm ▸ hn⟩

theorem MEff.both {cs cs' : Cells} {m m' : MMap} (hcs : cs' = bump (bump cs m.kcell) m.vcell)
    (hk : m'.kcell = m.kcell) (hv : m'.vcell = m.vcell) : MEff cs m cs' m' :=
  ⟨hk, hv, 1, 1, hcs, fun _ => Nat.one_pos, fun _ => Nat.succ_pos 1⟩

theorem MEff.keyOnly {cs cs' : Cells} {m m' : MMap} (hcs : cs' = bump cs m.kcell)
    (hk : m'.kcell = m.kcell) (hv : m'.vcell = m.vcell) : MEff cs m cs' m' :=
  ⟨hk, hv, 1, 0, by rw [hcs, bumpN_zero]; rfl, fun _ => Nat.one_pos, fun _ => Nat.one_pos⟩

theorem MEff.facts {cs cs' : Cells} {m m' : MMap} (he : MEff cs m cs' m') (hne : m.kcell ≠ m.vcell) :
    (∀ c, cs c ≤ cs' c) ∧ ((m'.keysOf ≠ m.keysOf ∨ m'.cap ≠ m.cap) → cs m.kcell < cs' m.kcell) ∧
    (m'.kv ≠ m.kv → cs m.kcell < cs' m.kcell ∨ cs m.vcell < cs' m.vcell) := by
  obtain ⟨-, -, nk, nv, rfl, hk, hv⟩ := he
  rw [bump2_fst hne, bump2_snd hne]
  exact ⟨le_bump2 _ _ _ _ _, fun h => Nat.lt_add_of_pos_right (hk h), fun h => by have := hv h; omega⟩

/-- `cap = 0` (the nested map has no buckets) only while there is no key -/
def MMap.CapI (m : MMap) : Prop := m.cap = 0 → m.kv = []

/-- the capacity an insertion reports afterwards is positive -/
def MOp.CapOK : MOp → Prop
  | .add _ _ _ nc => nc ≠ 0
  | .insertKey _ _ nc => nc ≠ 0
  | .addKey _ _ _ nc => nc ≠ 0
  | _ => True

/-- mutating entry points of HashMultiMap for which "nothing changed" implies "no version increment" (`InsertKey` of a stored
    key and `RemoveKey` of an absent key are no-ops).  `RemoveValues` and `Clear` increment unconditionally; `Remove(pairFilter)`
    increments once per removed value - so only on a change - but is not listed. -/
def MOp.QuietMut : MOp → Prop
  | .insertKey _ _ _ => True
  | .removeKeyByKey _ _ => True
  | _ => False

/-- `MEff` for a map that satisfies the capacity invariant `CapI`, together with the invariant afterwards (given `ok`: `MOp.CapOK`) -/
def MEffI (ok : Prop) (cs : Cells) (m : MMap) (cs' : Cells) (m' : MMap) : Prop :=
  m.CapI → MEff cs m cs' m' ∧ (ok → m'.CapI)

theorem MEffI.refl {ok : Prop} (cs : Cells) (m : MMap) : MEffI ok cs m cs m := fun hi => ⟨MEff.refl cs m, fun _ => hi⟩

theorem bind3_none {α β γ : Type} {a : Bool} {x : Option α} {y : Option β} {f : α → β → Option γ}
    (h : a = false ∨ x = none ∨ y = none) : (do chk a; let i ← x; let k ← y; f i k) = none := by
  rcases h with h | h | h <;> subst h
  · rfl
  · cases chk a <;> rfl
  · cases chk a
    · rfl
    · cases x <;> rfl

namespace MMap

theorem keysOf_setVals (m : MMap) (k : Nat) (vs : List Nat) : (m.setVals k vs).keysOf = m.keysOf := by
  unfold setVals keysOf
  rw [List.map_map]
  refine List.map_congr_left fun p _ => ?_
  show (if (p.1 == k) = true then (k, vs) else p).1 = p.1
  split
  · next h => exact (beq_iff_eq.mp h).symm
  · rfl

/-- `pvAddValue`, removal of a value, `RemoveValues` -/
theorem setVals_eff {ok : Prop} (m : MMap) (cs : Cells) (k : Nat) (vs : List Nat) : MEffI ok cs m (bump cs m.vcell) (m.setVals k vs) :=
  fun hi => ⟨MEff.values (n := 1) Nat.one_pos rfl rfl (keysOf_setVals ..) rfl, fun _ hc => by rw [setVals, hi hc]; rfl⟩

theorem dropKey_eff {ok : Prop} (m : MMap) (cs : Cells) (k : Nat) :
    MEffI ok cs m (bump (bump cs m.kcell) m.vcell) { m with kv := m.kv.filter (fun p => !(p.1 == k)) } :=
  fun hi => ⟨MEff.both rfl rfl rfl, fun _ hc => by rw [hi hc]; rfl⟩

theorem add_eff (m : MMap) (cs : Cells) (k v nc : Nat) : MEffI (nc ≠ 0) cs m (m.add cs k v nc).1 (m.add cs k v nc).2.1 := by
  unfold add
  split
  · exact setVals_eff _ _ _ _
  · exact fun _ => ⟨MEff.both rfl rfl rfl, fun hn hc => absurd hc hn⟩

theorem addAt_eff {ok : Prop} {m : MMap} {cs : Cells} {h : HPos} {v : Nat} {r} (hr : m.addAt cs h v = some r) :
    MEffI ok cs m r.1 r.2.1 := by
  obtain ⟨k, -, hr⟩ := Option.bind_eq_some_iff.mp hr
  cases hr
  exact setVals_eff _ _ _ _

theorem insertKey_eff (m : MMap) (cs : Cells) (k nc : Nat) : MEffI (nc ≠ 0) cs m (m.insertKey cs k nc).1 (m.insertKey cs k nc).2.1 := by
  unfold insertKey
  split
  · exact MEffI.refl cs m
  · exact fun _ => ⟨MEff.keyOnly rfl rfl rfl, fun hn hc => absurd hc hn⟩

theorem insertKey_quiet (m : MMap) (cs : Cells) (k nc : Nat) (h : (m.insertKey cs k nc).2.1.kv = m.kv) :
    (m.insertKey cs k nc).1 = cs := by
  unfold insertKey at h ⊢
  split
  · rfl
  · next hk => rw [if_neg hk] at h; exact absurd h (List.cons_ne_self _ _)

theorem addKey_eff {m : MMap} {cs : Cells} {h : HPos} {k nc : Nat} {r} (hr : m.addKey cs h k nc = some r) :
    MEffI (nc ≠ 0) cs m r.1 r.2.1 := by
  obtain ⟨-, hr⟩ := chk_bind hr
  obtain ⟨-, hr⟩ := chk_bind hr
  cases hr
  exact fun _ => ⟨MEff.keyOnly rfl rfl rfl, fun hn hc => absurd hc hn⟩

theorem removeAt_eff {ok : Prop} {m : MMap} {cs : Cells} {h : HPos} {i : Nat} {to} {r} (hr : m.removeAt cs h i to = some r) :
    MEffI ok cs m r.1 r.2.1 := by
  obtain ⟨kc, -, hr⟩ := Option.bind_eq_some_iff.mp hr
  obtain ⟨-, hr⟩ := chk_bind hr
  obtain ⟨k, -, hr⟩ := Option.bind_eq_some_iff.mp hr
  cases hr
  exact setVals_eff _ _ _ _

theorem remove_eff {ok : Prop} {m : MMap} {cs : Cells} {it : VIt} {to} {r} (hr : m.remove cs it to = some r) :
    MEffI ok cs m r.1 r.2.1 := by
  obtain ⟨-, hr⟩ := chk_bind hr
  obtain ⟨i, -, hr⟩ := Option.bind_eq_some_iff.mp hr
  obtain ⟨k, -, hr⟩ := Option.bind_eq_some_iff.mp hr
  cases hr
  exact setVals_eff _ _ _ _

theorem removeValues_eff {ok : Prop} {m : MMap} {cs : Cells} {h : HPos} {to} {r} (hr : m.removeValues cs h to = some r) :
    MEffI ok cs m r.1 r.2.1 := by
  obtain ⟨k, -, hr⟩ := Option.bind_eq_some_iff.mp hr
  cases hr
  exact setVals_eff _ _ _ _

theorem removeKey_eff {ok : Prop} {m : MMap} {cs : Cells} {h : HPos} {nx} {r} (hr : m.removeKey cs h nx = some r) :
    MEffI ok cs m r.1 r.2.1 := by
  obtain ⟨k, -, hr⟩ := Option.bind_eq_some_iff.mp hr
  obtain ⟨-, hr⟩ := chk_bind hr
  cases hr
  exact dropKey_eff _ _ _

theorem removeKeyByKey_eff {ok : Prop} (m : MMap) (cs : Cells) (k : Nat) :
    MEffI ok cs m (m.removeKeyByKey cs k).1 (m.removeKeyByKey cs k).2.1 := by
  unfold removeKeyByKey
  split
  · exact dropKey_eff _ _ _
  · exact MEffI.refl cs m

theorem removeKeyByKey_quiet (m : MMap) (cs : Cells) (k : Nat) (h : (m.removeKeyByKey cs k).2.1.kv = m.kv) :
    (m.removeKeyByKey cs k).1 = cs := by
  unfold removeKeyByKey at h ⊢
  split
  · next vs hvs => rw [hvs] at h; exact absurd h (ListFacts.filter_ne_of_lookup_eq_some hvs)
  · rfl

theorem swapFilter_id (p : Nat → Bool) : ∀ (fuel i : Nat) (l : List Nat), (∀ x ∈ l, p x = false) → swapFilter p fuel i l = l := by
  intro fuel
  induction fuel with
  | zero => intro i l _; rfl
  | succ n ih =>
    intro i l h
    unfold swapFilter
    cases hx : l[i]? with
    | none => rfl
    | some x =>
      show (if p x = true then _ else _) = l
      rw [if_neg (by rw [h x (List.mem_of_getElem? hx)]; exact Bool.false_ne_true)]
      exact ih (i + 1) l h

theorem removeIf_eff {ok : Prop} (m : MMap) (cs : Cells) (mo r : Nat) : MEffI ok cs m (m.removeIf cs mo r).1 (m.removeIf cs mo r).2.1 := by
  refine fun hi => ⟨⟨rfl, rfl, 0, (m.kv.map (fun p => (p.2.filter (fun v => v % mo == r)).length)).sum, ?_, ?_, ?_⟩,
    fun _ hc => by rw [removeIf, hi hc]; rfl⟩
  · rw [bumpN_zero]; rfl
  · refine fun h => h.elim (fun h => absurd ?_ h) (fun h => absurd rfl h)
    show List.map _ (List.map _ m.kv) = _
    rw [List.map_map]; rfl
  · intro h
    refine Nat.pos_of_ne_zero fun hz => h ?_
    rw [Nat.zero_add] at hz
    have hall := List.sum_eq_zero_iff_forall_eq_nat.mp hz
    show m.kv.map (fun p => (p.1, swapFilter (fun v => v % mo == r) (2 * p.2.length) 0 p.2)) = m.kv
    refine (List.map_congr_left fun p hp => ?_).trans (List.map_id _)
    have h0 := hall _ (List.mem_map_of_mem (f := fun p : Nat × List Nat => (p.2.filter (fun v => v % mo == r)).length) hp)
    rw [swapFilter_id _ _ _ _ fun v hv => Bool.eq_false_iff.mpr (List.filter_eq_nil_iff.mp (List.length_eq_zero_iff.mp h0) v hv)]
    rfl

theorem clear_eff {ok : Prop} (m : MMap) (cs : Cells) : MEffI ok cs m (m.clear cs).1 (m.clear cs).2 := by
  refine fun hi => ⟨?_, fun _ _ => rfl⟩
  unfold clear
  split
  · next hc =>
    have hc' : m.cap = 0 := beq_iff_eq.mp hc
    refine ⟨rfl, rfl, 0, 1, by rw [bumpN_zero]; rfl, fun h => ?_, fun _ => Nat.one_pos⟩
    refine h.elim (fun h => absurd ?_ h) (fun h => absurd hc'.symm h)
    show List.map _ [] = List.map _ m.kv
    rw [hi hc']
  · exact MEff.both rfl rfl rfl

theorem resetKey_facts {m : MMap} (h : m.CapI) {cs : Cells} {hp : HPos} {k : Nat} {m'} (hr : m.resetKey cs hp k = some m') :
    m'.CapI ∧ m'.kcell = m.kcell ∧ m'.vcell = m.vcell := by
  obtain ⟨-, hr⟩ := chk_bind hr
  obtain ⟨k', -, hr⟩ := Option.bind_eq_some_iff.mp hr
  cases hr
  exact ⟨fun hc => by rw [h hc]; rfl, rfl, rfl⟩

/-! ### the first failing check of each entry point that takes an iterator -/

theorem mutKey_none {m : MMap} {cs : Cells} {h : HPos} (hf : h.kp.checkAt cs m.kcell true = false ∨ h.deref cs = none) :
    m.mutKey cs h = none := by
  unfold mutKey
  rcases hf with hf | hf <;> rw [hf]
  · rfl
  · cases chk (h.kp.checkAt cs m.kcell true) <;> rfl

theorem kderef_none {m : MMap} {cs : Cells} {h : HPos} (hd : h.deref cs = none) : m.kderef cs h = none := by
  unfold kderef; rw [hd]; rfl

theorem addAt_none {m : MMap} {cs : Cells} {h : HPos} (hm : m.mutKey cs h = none) (v : Nat) : m.addAt cs h v = none := by
  unfold addAt; rw [hm]; rfl

theorem removeValues_none {m : MMap} {cs : Cells} {h : HPos} (hm : m.mutKey cs h = none) (to) : m.removeValues cs h to = none := by
  unfold removeValues; rw [hm]; rfl

theorem removeKey_none {m : MMap} {cs : Cells} {h : HPos} (hm : m.mutKey cs h = none) (nx) : m.removeKey cs h nx = none := by
  unfold removeKey; rw [hm]; rfl

theorem removeAt_none {m : MMap} {cs : Cells} {h : HPos} (hm : m.mutKey cs h = none) (i : Nat) (to) : m.removeAt cs h i to = none := by
  unfold removeAt; rw [hm]
  cases m.kderef cs h with
  | none => rfl
  | some kc =>
    dsimp only [Option.bind_eq_bind, Option.bind_some]
    cases chk (decide (i < kc.2)) <;> rfl

theorem addKey_none {m : MMap} {cs : Cells} {h : HPos} (hs : h.kp.checkAt cs m.kcell false = false) (k nc : Nat) :
    m.addKey cs h k nc = none := by
  unfold addKey; rw [hs]; rfl

theorem resetKey_none {m : MMap} {cs : Cells} {h : HPos} (hf : h.kp.checkAt cs m.kcell false = false ∨ h.elem = none) (k : Nat) :
    m.resetKey cs h k = none := by
  unfold resetKey
  rcases hf with hf | hf <;> rw [hf]
  · rfl
  · cases chk (h.kp.checkAt cs m.kcell false) <;> rfl

theorem checkKey_none {m : MMap} {cs : Cells} {h : HPos} {ae : Bool} (hs : h.kp.checkAt cs m.kcell ae = false) :
    m.checkKey cs h ae = none := by
  unfold checkKey; rw [hs]; rfl

theorem makeIt_none {m : MMap} {cs : Cells} {h : HPos} {i : Nat} (hb : (h.elem.isNone && i == 0) = false)
    (hm : m.mutKey cs h = none) (to) : m.makeIt cs h i to = none := by
  unfold makeIt; rw [hb]
  unfold mutKey at hm
  cases hx : h.kp.checkAt cs m.kcell true
  · rfl
  · rw [hx] at hm
    rw [kderef_none (hm : h.deref cs = none)]; rfl

theorem makeIt_cond {e : Option Nat} {i : Nat} (hc : (e.isSome || i != 0) = true) : (e.isNone && i == 0) = false := by
  cases e <;> cases i <;> first | rfl | cases hc

theorem vderef_none {m : MMap} {cs : Cells} {it : VIt} (hf : it.vp.check cs = false ∨ it.vidx = none ∨ it.kit.deref cs = none) :
    m.vderef cs it = none := bind3_none hf

theorem vinc_none {cs : Cells} {it : VIt} (hf : it.vp.check cs = false ∨ it.vidx = none ∨ it.kit.deref cs = none) (to) :
    MMap.vinc cs it to = none := bind3_none hf

theorem remove_none {m : MMap} {cs : Cells} {it : VIt}
    (hf : it.vp.checkAt cs m.vcell false = false ∨ it.vidx = none ∨ m.mutKey cs it.kit = none) (to) : m.remove cs it to = none :=
  bind3_none hf

theorem makeMutable_none {m : MMap} {cs : Cells} {it : VIt} (hv : it.vidx.isSome = true)
    (hf : it.vp.checkAt cs m.vcell false = false ∨ m.mutKey cs it.kit = none) : m.makeMutable cs it = none := by
  unfold makeMutable; rw [Option.isNone_eq_false_iff.mpr hv]
  rcases hf with hf | hf <;> rw [hf]
  · rfl
  · cases chk (it.vp.checkAt cs m.vcell false) <;> rfl

theorem checkIt_none {m : MMap} {cs : Cells} {it : VIt} {ae : Bool}
    (hf : it.kit.kp.checkAt cs m.kcell ae = false ∨ (it.vidx.isSome = true ∧ it.vp.checkAt cs m.vcell false = false)) :
    m.checkIt cs it ae = none := by
  unfold checkIt
  rcases hf with hf | ⟨h1, h2⟩
  · rw [hf]; rfl
  · rw [h1, h2]
    cases chk (it.kit.kp.checkAt cs m.kcell ae) <;> rfl

theorem mutKey_snap (m : MMap) (cs : Cells) (k : Nat) (mv : Bool) : m.mutKey cs ⟨snap cs m.kcell, some k, mv⟩ = some k := by
  unfold mutKey; rw [snap_checkAt, HPos.deref_snap]; rfl

theorem value_fresh_accepted (m : MMap) (cs : Cells) (k i : Nat) (mv : Bool) (vs : List Nat) (hk : m.vals k = some vs) (hi : i < vs.length) :
    let it : VIt := ⟨⟨snap cs m.kcell, some k, mv⟩, snap cs m.vcell, some i⟩
    (m.vderef cs it).isSome = true ∧ (∀ to, (MMap.vinc cs it to).isSome = true) ∧ (∀ to, (m.remove cs it to).isSome = true) ∧
    (m.makeMutable cs it).isSome = true ∧ (∀ ae, (m.checkIt cs it ae).isSome = true) := by
  refine ⟨?_, fun to => ?_, fun to => ?_, ?_, fun ae => ?_⟩
  · dsimp only [vderef]
    rw [snap_check, HPos.deref_snap]
    dsimp only [chk_true, Option.bind_eq_bind, Option.bind_some]
    rw [hk]
    show (vs[i]? >>= _).isSome = true
    rw [List.getElem?_eq_getElem hi]; rfl
  · dsimp only [vinc]; rw [snap_check, HPos.deref_snap]; rfl
  · dsimp only [remove]; rw [snap_checkAt, mutKey_snap]; rfl
  · dsimp only [makeMutable]; rw [snap_checkAt, mutKey_snap]; rfl
  · dsimp only [checkIt]; rw [snap_checkAt, snap_checkAt]; rfl

theorem key_fresh_accepted (m : MMap) (cs : Cells) (k : Nat) (mv : Bool) (vs : List Nat) (hk : m.vals k = some vs) (hcap : m.cap ≠ 0) :
    let h : HPos := ⟨snap cs m.kcell, some k, mv⟩
    (m.kderef cs h).isSome = true ∧ (∀ v, (m.addAt cs h v).isSome = true) ∧ (∀ to, (m.removeValues cs h to).isSome = true) ∧
    (∀ nx, (m.removeKey cs h nx).isSome = true) ∧ (∀ k', (m.resetKey cs h k').isSome = true) ∧
    (∀ i to, i < vs.length → (m.removeAt cs h i to).isSome = true) ∧ (∀ i to, i ≤ vs.length → (m.makeIt cs h i to).isSome = true) := by
  have hkd : m.kderef cs ⟨snap cs m.kcell, some k, mv⟩ = some (k, vs.length) := by
    unfold kderef; rw [HPos.deref_snap]
    dsimp only [Option.bind_eq_bind, Option.bind_some]
    rw [hk]; rfl
  refine ⟨by rw [hkd]; rfl, fun v => ?_, fun to => ?_, fun nx => ?_, fun k' => ?_, fun i to hi => ?_, fun i to hi => ?_⟩
  · unfold addAt; rw [mutKey_snap]; rfl
  · unfold removeValues; rw [mutKey_snap]; rfl
  · unfold removeKey; rw [mutKey_snap, bne_iff_ne.mpr hcap]; rfl
  · dsimp only [resetKey]; rw [snap_checkAt]; rfl
  · unfold removeAt; rw [hkd, mutKey_snap]
    show (chk (decide (i < vs.length)) >>= _).isSome = true
    rw [decide_eq_true hi]; rfl
  · dsimp only [makeIt]
    rw [snap_checkAt, hkd]
    show (chk (decide (i ≤ vs.length)) >>= _).isSome = true
    rw [decide_eq_true hi]; rfl

end MMap

/-- the object a MUTATING entry point of HashMultiMap is called on (as `BOp.target` of the table).  What `HOp.target` / `TOp.target` mean
    for the set kinds - the object an entry point that takes a handle is called on - is `MOp.on` / `BOp.on` here -/
def MOp.target : MOp → Option Bool
  | .add o _ _ _ => some o
  | .addAt o _ _ => some o
  | .insertKey o _ _ => some o
  | .addKey o _ _ _ => some o
  | .removeAt o _ _ _ => some o
  | .remove o _ _ => some o
  | .removeValues o _ _ => some o
  | .removeKey o _ _ => some o
  | .removeKeyByKey o _ => some o
  | .removeIf o _ _ => some o
  | .clear o => some o
  | _ => none

/-- the key iterator an entry point requires to be valid (`MakeIterator(keyIter, 0)` with an empty key iterator returns the
    end iterator without looking at it, HashMultiMap.h:1220-1221) -/
def MOp.khandle : MOp → Option HPos
  | .kderef h => some h
  | .kinc h _ => some h
  | .addAt _ h _ => some h
  | .addKey _ h _ _ => some h
  | .removeAt _ h _ _ => some h
  | .removeValues _ h _ => some h
  | .removeKey _ h _ => some h
  | .resetKey _ h _ => some h
  | .makeIt _ h i _ => if h.elem.isSome || i != 0 then some h else none
  | .checkKey _ h _ => some h
  | _ => none

def MOp.vhandle : MOp → Option VIt
  | .vderef it => some it
  | .vinc it _ => some it
  | .remove _ it _ => some it
  | .makeMutable _ it => some it
  | .checkIt _ it _ => some it
  | _ => none

/-- the object an entry point that takes a handle is called on (none: called on the iterator itself); the set kinds' `target` -/
def MOp.on : MOp → Option Bool
  | .addAt o _ _ => some o
  | .addKey o _ _ _ => some o
  | .removeAt o _ _ _ => some o
  | .remove o _ _ => some o
  | .removeValues o _ _ => some o
  | .removeKey o _ _ => some o
  | .resetKey o _ _ => some o
  | .makeIt o _ _ _ => some o
  | .makeMutable o _ => some o
  | .checkIt o _ _ => some o
  | .checkKey o _ _ => some o
  | _ => none

namespace MWorld

/-- the four version cells of the two objects are distinct (each object has a key crew and a value crew) -/
def WF (w : MWorld) : Prop :=
  w.a.kcell ≠ w.a.vcell ∧ w.a.kcell ≠ w.b.kcell ∧ w.a.kcell ≠ w.b.vcell ∧
  w.a.vcell ≠ w.b.kcell ∧ w.a.vcell ≠ w.b.vcell ∧ w.b.kcell ≠ w.b.vcell

/-- both objects satisfy `MMap.CapI` (a nested map without buckets holds no key): `Clear` of such a map moves only the value version,
    which is right only because no key goes -/
def CapInv (w : MWorld) : Prop := w.a.CapI ∧ w.b.CapI

/-- lookups by key cell `kc` (they follow an object through Swap): what key iterators of the object with key cell `kc` watch (`kshape`),
    what its value iterators watch (`content`), and its value cell (`vcellOf`) -/
def kshape (w : MWorld) (kc : Nat) : Option (List Nat × Nat) := (w.byKeyCell kc).map (fun m => (m.keysOf, m.cap))
def content (w : MWorld) (kc : Nat) : Option (List (Nat × List Nat)) := (w.byKeyCell kc).map (·.kv)
def vcellOf (w : MWorld) (kc : Nat) : Option Nat := (w.byKeyCell kc).map (·.vcell)

theorem setObj_cs (w : MWorld) (o : Bool) (cs' : Cells) (m' : MMap) : (w.setObj o cs' m').cs = cs' := by
  cases o <;> rfl
theorem setObj_obj_same (w : MWorld) (o : Bool) (cs' : Cells) (m' : MMap) : (w.setObj o cs' m').obj o = m' := by
  cases o <;> rfl

/-- `same`: queries, uses of iterators, calls that throw; `upd`: the object the entry point is called on is replaced;
    `reset`: `ResetKey` replaces a key in place without touching a version; `swap`: `Swap` exchanges the two objects -/
inductive Outcome (w : MWorld) (op : MOp) : MWorld × Option MRes → Prop
  | same (r : Option MRes) : Outcome w op (w, r)
  | upd (o : Bool) (cs' : Cells) (m' : MMap) (r : MRes) (ht : op.target = some o)
      (he : MEffI op.CapOK w.cs (w.obj o) cs' m') (hq : op.QuietMut → m'.kv = (w.obj o).kv → cs' = w.cs) :
      Outcome w op (w.setObj o cs' m', some r)
  | reset (o : Bool) (h : HPos) (k : Nat) (m' : MMap) (e : op = .resetKey o h k)
      (hm : (w.obj o).CapI → m'.CapI ∧ m'.kcell = (w.obj o).kcell ∧ m'.vcell = (w.obj o).vcell) :
      Outcome w op (w.setObj o w.cs m', some .unit)
  | swap (e : op = .swap) : Outcome w op ({ w with a := w.b, b := w.a }, some .unit)

/-- every entry point (complete list `MOp`) has one of the four `Outcome`s -/
theorem step_outcome (w : MWorld) (op : MOp) : Outcome w op (w.step op) := by
  -- one case per branch of `MWorld.step`, numbered in its order; every branch not listed returns the world
  fun_cases MWorld.step w op
  case case9 o k v nc r => exact .upd o _ _ _ rfl (MMap.add_eff _ _ _ _ _) False.elim
  case case10 o h v r hr => exact .upd o _ _ _ rfl (MMap.addAt_eff hr) False.elim
  case case12 o k nc r => exact .upd o _ _ _ rfl (MMap.insertKey_eff _ _ _ _) fun _ => MMap.insertKey_quiet _ _ _ _
  case case13 o h k nc r hr => exact .upd o _ _ _ rfl (MMap.addKey_eff hr) False.elim
  case case15 o h i to r hr => exact .upd o _ _ _ rfl (MMap.removeAt_eff hr) False.elim
  case case17 o it to r hr => exact .upd o _ _ _ rfl (MMap.remove_eff hr) False.elim
  case case19 o h to r hr => exact .upd o _ _ _ rfl (MMap.removeValues_eff hr) False.elim
  case case21 o h nx r hr => exact .upd o _ _ _ rfl (MMap.removeKey_eff hr) False.elim
  case case23 o k r => exact .upd o _ _ _ rfl (MMap.removeKeyByKey_eff _ _ _) fun _ => MMap.removeKeyByKey_quiet _ _ _
  case case24 o mo r x => exact .upd o _ _ _ rfl (MMap.removeIf_eff _ _ _ _) False.elim
  case case25 o h k m' hm => exact .reset o h k m' rfl fun hi => MMap.resetKey_facts hi hm
  case case31 o r => exact .upd o _ _ _ rfl (MMap.clear_eff _ _) False.elim
  case case32 => exact .swap rfl
  all_goals exact .same _

theorem step_reject_unchanged (w : MWorld) (op : MOp) (h : (w.step op).2 = none) : (w.step op).1 = w := by
  have ho := step_outcome w op
  generalize w.step op = x at h ho
  cases ho <;> first | rfl | cases h

/-- **version table of HashMultiMap** (ResetKey and Swap aside) -/
theorem step_eff (w : MWorld) (op : MOp) (o : Bool) (ht : op.target = some o)
    (hinv : (w.obj o).CapI) :
    MEff w.cs (w.obj o) (w.step op).1.cs ((w.step op).1.obj o) := by
  have ho := step_outcome w op
  generalize w.step op = x at ho ⊢
  cases ho with
  | same => exact MEff.refl ..
  | upd o' cs' m' r ht' he =>
    cases ht.symm.trans ht'
    rw [setObj_cs, setObj_obj_same]; exact (he hinv).1
  | reset o' h k m' e => subst e; cases ht
  | swap e => subst e; cases ht

/-- a key iterator that fails the first check of every entry point requiring it makes the call throw, world unchanged (stale and
    foreign iterators are the instances, Props/C15).  `hd`: entry points of the iterator itself; `hs`: entry points of an object,
    which apply its `CheckKeyIterator` -/
theorem key_rejected (w : MWorld) (op : MOp) (h : HPos) (hh : op.khandle = some h)
    (hd : op.on = none → h.deref w.cs = none)
    (hs : ∀ o, op.on = some o → ∀ ae, h.kp.checkAt w.cs (w.obj o).kcell ae = false) : w.step op = (w, none) := by
  have hm : ∀ o, op.on = some o → (w.obj o).mutKey w.cs h = none := fun o ho => MMap.mutKey_none (.inl (hs o ho true))
  cases op <;> dsimp only [MOp.khandle] at hh <;> dsimp only [step]
  case makeIt o h' i to =>
    split at hh
    · next hc => cases hh; rw [MMap.makeIt_none (MMap.makeIt_cond hc) (hm o rfl)]; rfl
    · cases hh
  all_goals cases hh
  case kderef => rw [MMap.kderef_none (hd rfl)]; rfl
  case kinc n => rw [HPos.inc_none (hd rfl)]; rfl
  case addAt o v => rw [MMap.addAt_none (hm o rfl)]
  case addKey o k nc => rw [MMap.addKey_none (hs o rfl false)]
  case removeAt o i to => rw [MMap.removeAt_none (hm o rfl)]
  case removeValues o to => rw [MMap.removeValues_none (hm o rfl)]
  case removeKey o nx => rw [MMap.removeKey_none (hm o rfl)]
  case resetKey o k => rw [MMap.resetKey_none (.inl (hs o rfl false))]
  case checkKey o ae => rw [MMap.checkKey_none (hs o rfl ae)]; rfl

/-- the same for a value iterator with an index.  `hd`: entry points of the iterator itself; `hs`: entry points of an object (value
    keeper or key iterator fails its check) -/
theorem value_rejected (w : MWorld) (op : MOp) (it : VIt) (hh : op.vhandle = some it) (hv : it.vidx.isSome = true)
    (hd : op.on = none → it.vp.check w.cs = false ∨ it.kit.deref w.cs = none)
    (hs : ∀ o, op.on = some o → it.vp.checkAt w.cs (w.obj o).vcell false = false ∨
      ∀ ae, it.kit.kp.checkAt w.cs (w.obj o).kcell ae = false) : w.step op = (w, none) := by
  have hd' : op.on = none → it.vp.check w.cs = false ∨ it.vidx = none ∨ it.kit.deref w.cs = none :=
    fun ho => (hd ho).imp_right .inr
  have hm : ∀ o, op.on = some o → it.vp.checkAt w.cs (w.obj o).vcell false = false ∨ (w.obj o).mutKey w.cs it.kit = none :=
    fun o ho => (hs o ho).imp_right fun h => MMap.mutKey_none (.inl (h true))
  cases op <;> cases hh <;> dsimp only [step]
  case vderef => rw [MMap.vderef_none (hd' rfl)]; rfl
  case vinc to => rw [MMap.vinc_none (hd' rfl)]; rfl
  case remove o to => rw [MMap.remove_none ((hm o rfl).imp_right .inr)]
  case makeMutable o => rw [MMap.makeMutable_none hv (hm o rfl)]; rfl
  case checkIt o ae => rw [MMap.checkIt_none ((hs o rfl).symm.imp (· ae) (⟨hv, ·⟩))]; rfl

/-- what one call does to a multimap world (the multimap's form of the set kinds' `StepFacts`, VerCore; lookups by key cell
    because Swap moves the objects).  `notReset`: the call is not `ResetKey`, which replaces a key in place without moving a version -/
structure MStepFacts (notReset : Prop) (w w' : MWorld) : Prop where
  wf : w'.WF
  inv : w'.CapInv
  mono : ∀ c, w.cs c ≤ w'.cs c
  vcell : ∀ kc, w'.vcellOf kc = w.vcellOf kc
  kbump : notReset → ∀ kc, w'.kshape kc ≠ w.kshape kc → w.cs kc < w'.cs kc
  vbump : notReset → ∀ kc vc, w.vcellOf kc = some vc → w'.content kc ≠ w.content kc → w.cs kc < w'.cs kc ∨ w.cs vc < w'.cs vc

theorem MStepFacts.refl (notReset : Prop) (w : MWorld) (hw : w.WF) (hi : w.CapInv) : MStepFacts notReset w w :=
  ⟨hw, hi, fun _ => Nat.le_refl _, fun _ => rfl, fun _ _ h => absurd rfl h, fun _ _ _ _ h => absurd rfl h⟩

theorem obj_capI (w : MWorld) (hi : w.CapInv) (o : Bool) : (w.obj o).CapI := by
  cases o
  · exact hi.1
  · exact hi.2

theorem obj_cells_ne (w : MWorld) (hw : w.WF) (o : Bool) : (w.obj o).kcell ≠ (w.obj o).vcell := by
  cases o
  · exact hw.1
  · exact hw.2.2.2.2.2

theorem byKeyCell_kcell {w : MWorld} {kc : Nat} {m : MMap} (h : w.byKeyCell kc = some m) : m.kcell = kc := by
  unfold byKeyCell at h
  split at h
  · next h1 => cases h; exact beq_iff_eq.mp h1
  · split at h
    · next h2 => cases h; exact beq_iff_eq.mp h2
    · cases h

theorem byKeyCell_cases {w : MWorld} {kc : Nat} {m : MMap} (h : w.byKeyCell kc = some m) : ∃ o, m = w.obj o := by
  unfold byKeyCell at h
  split at h
  · cases h; exact ⟨false, rfl⟩
  · split at h
    · cases h; exact ⟨true, rfl⟩
    · cases h

theorem byKeyCell_setObj (w : MWorld) (hw : w.WF) (o : Bool) (cs' : Cells) {m' : MMap} (hk : m'.kcell = (w.obj o).kcell) (kc : Nat) :
    (w.setObj o cs' m').byKeyCell kc = if (w.obj o).kcell = kc then some m' else w.byKeyCell kc := by
  cases o
  · have hk' : m'.kcell = w.a.kcell := hk
    by_cases h : w.a.kcell = kc <;> simp [byKeyCell, setObj, obj, hk', h]
  · have hk' : m'.kcell = w.b.kcell := hk
    by_cases h : w.b.kcell = kc
    · have hne : ¬ w.a.kcell = kc := fun e => hw.2.1 (e.trans h.symm)
      simp [byKeyCell, setObj, obj, hk', h, hne]
    · simp [byKeyCell, setObj, obj, hk', h]

theorem byKeyCell_obj (w : MWorld) (hw : w.WF) (o : Bool) : w.byKeyCell (w.obj o).kcell = some (w.obj o) := by
  cases o
  · exact if_pos (beq_self_eq_true _)
  · exact (if_neg (fun h => hw.2.1 (beq_iff_eq.mp h))).trans (if_pos (beq_self_eq_true _))

/-- a lookup by key cell changes under `setObj o` only at the key cell of `o`, and only if the object there changed -/
theorem lookup_setObj_ne (w : MWorld) (hw : w.WF) (o : Bool) (cs' : Cells) {m' : MMap} (hk : m'.kcell = (w.obj o).kcell)
    {β : Type} (f : MMap → β) {kc : Nat} (h : ((w.setObj o cs' m').byKeyCell kc).map f ≠ (w.byKeyCell kc).map f) :
    (w.obj o).kcell = kc ∧ f m' ≠ f (w.obj o) := by
  rw [byKeyCell_setObj w hw o cs' hk] at h
  by_cases hc : (w.obj o).kcell = kc
  · rw [if_pos hc, ← hc, byKeyCell_obj w hw o] at h
    exact ⟨hc, fun e => h (congrArg some e)⟩
  · rw [if_neg hc] at h; exact absurd rfl h

theorem setObj_inv (w : MWorld) (hw : w.WF) (hi : w.CapInv) (o : Bool) (cs' : Cells) {m' : MMap}
    (hk : m'.kcell = (w.obj o).kcell) (hv : m'.vcell = (w.obj o).vcell) (hc : m'.CapI) :
    (w.setObj o cs' m').WF ∧ (w.setObj o cs' m').CapInv ∧ ∀ kc, (w.setObj o cs' m').vcellOf kc = w.vcellOf kc := by
  refine ⟨?_, ?_, fun kc => Classical.byContradiction fun h => (lookup_setObj_ne w hw o cs' hk (·.vcell) h).2 hv⟩
  · cases o
    · have hk' : m'.kcell = w.a.kcell := hk
      have hv' : m'.vcell = w.a.vcell := hv
      simp only [setObj, Bool.false_eq_true, ↓reduceIte, WF, hk', hv']; exact hw
    · have hk' : m'.kcell = w.b.kcell := hk
      have hv' : m'.vcell = w.b.vcell := hv
      simp only [setObj, ↓reduceIte, WF, hk', hv']; exact hw
  · cases o
    · exact ⟨hc, hi.2⟩
    · exact ⟨hi.1, hc⟩

theorem facts_of_eff (w : MWorld) (hw : w.WF) (hi : w.CapInv) (o : Bool) {notReset : Prop} {cs' : Cells} {m' : MMap}
    (he : MEff w.cs (w.obj o) cs' m') (hc : m'.CapI) : MStepFacts notReset w (w.setObj o cs' m') := by
  obtain ⟨h1, h2, h3⟩ := setObj_inv w hw hi o cs' he.1 he.2.1 hc
  obtain ⟨hmono, hkb, hvb⟩ := he.facts (obj_cells_ne w hw o)
  refine ⟨h1, h2, by rw [setObj_cs]; exact hmono, h3, fun _ kc hch => ?_, fun _ kc vc hvc hch => ?_⟩
  · obtain ⟨rfl, hne⟩ := lookup_setObj_ne w hw o cs' he.1 (fun m => (m.keysOf, m.cap)) hch
    rw [setObj_cs]
    refine hkb ?_
    by_cases hkk : m'.keysOf = (w.obj o).keysOf
    · exact .inr fun hcap => hne (Prod.ext hkk hcap)
    · exact .inl hkk
  · obtain ⟨rfl, hne⟩ := lookup_setObj_ne w hw o cs' he.1 (·.kv) hch
    rw [vcellOf, byKeyCell_obj w hw o] at hvc
    cases hvc
    rw [setObj_cs]; exact hvb hne

theorem byKeyCell_swap (w : MWorld) (hw : w.WF) (kc : Nat) :
    ({ w with a := w.b, b := w.a } : MWorld).byKeyCell kc = w.byKeyCell kc := by
  simp only [byKeyCell]
  by_cases h1 : w.a.kcell = kc <;> by_cases h2 : w.b.kcell = kc <;> simp [h1, h2]
  exact absurd (h1.trans h2.symm) hw.2.1

theorem step_facts (w : MWorld) (hw : w.WF) (hi : w.CapInv) (op : MOp) (hcap : op.CapOK) :
    MStepFacts (∀ o h k, op ≠ .resetKey o h k) w (w.step op).1 := by
  have ho := step_outcome w op
  generalize w.step op = x at ho ⊢
  cases ho with
  | same => exact MStepFacts.refl _ w hw hi
  | upd o cs' m' r ht he =>
    obtain ⟨h1, h2⟩ := he (obj_capI w hi o)
    exact facts_of_eff w hw hi o h1 (h2 hcap)
  | reset o h k m' e hm =>
    obtain ⟨hc, hk, hv⟩ := hm (obj_capI w hi o)
    obtain ⟨h1, h2, h3⟩ := setObj_inv w hw hi o w.cs hk hv hc
    exact ⟨h1, h2, fun c => Nat.le_of_eq (congrFun (setObj_cs ..).symm c), h3, fun hnr => absurd e (hnr o h k),
      fun hnr => absurd e (hnr o h k)⟩
  | swap =>
    obtain ⟨w1, w2, w3, w4, w5, w6⟩ := hw
    have hs := byKeyCell_swap w ⟨w1, w2, w3, w4, w5, w6⟩
    refine ⟨⟨w6, Ne.symm w2, Ne.symm w4, Ne.symm w3, Ne.symm w5, w1⟩, ⟨hi.2, hi.1⟩, fun _ => Nat.le_refl _,
      fun kc => ?_, fun _ kc h => absurd ?_ h, fun _ kc _ _ h => absurd ?_ h⟩
    · unfold vcellOf; rw [hs]
    · unfold kshape; rw [hs]
    · unfold content; rw [hs]

def run (w : MWorld) : List MOp → MWorld
  | [] => w
  | op :: ops => run (w.step op).1 ops

theorem run_inv (ops : List MOp) : ∀ (w : MWorld), w.WF → w.CapInv → (∀ op ∈ ops, op.CapOK) →
    (w.run ops).WF ∧ (w.run ops).CapInv ∧ (∀ c, w.cs c ≤ (w.run ops).cs c) ∧ ∀ kc, (w.run ops).vcellOf kc = w.vcellOf kc := by
  induction ops with
  | nil => intro w hw hi _; exact ⟨hw, hi, fun _ => Nat.le_refl _, fun _ => rfl⟩
  | cons op ops ih =>
    intro w hw hi hc
    have h1 := step_facts w hw hi op (hc op (List.mem_cons_self ..))
    have h2 := ih _ h1.wf h1.inv (fun x hx => hc x (List.mem_cons_of_mem _ hx))
    exact ⟨h2.1, h2.2.1, fun c => Nat.le_trans (h1.mono c) (h2.2.2.1 c), fun kc => (h2.2.2.2 kc).trans (h1.vcell kc)⟩

/-- some call of the history (other than ResetKey) changed the key list or the nested capacity of the object with key cell `kc` -/
def SomeKeyChange (kc : Nat) : MWorld → List MOp → Prop
  | _, [] => False
  | w, op :: ops => ((∀ o h k, op ≠ .resetKey o h k) ∧ (w.step op).1.kshape kc ≠ w.kshape kc) ∨ SomeKeyChange kc (w.step op).1 ops

/-- some call of the history (other than ResetKey) changed anything in the object with key cell `kc` -/
def SomeChange (kc : Nat) : MWorld → List MOp → Prop
  | _, [] => False
  | w, op :: ops => ((∀ o h k, op ≠ .resetKey o h k) ∧ (w.step op).1.content kc ≠ w.content kc) ∨ SomeChange kc (w.step op).1 ops

theorem run_key_change (kc : Nat) (ops : List MOp) : ∀ (w : MWorld), w.WF → w.CapInv → (∀ op ∈ ops, op.CapOK) →
    SomeKeyChange kc w ops → w.cs kc < (w.run ops).cs kc := by
  induction ops with
  | nil => intro w _ _ _ h; exact h.elim
  | cons op ops ih =>
    intro w hw hi hc hch
    have hc' : ∀ x ∈ ops, x.CapOK := fun x hx => hc x (List.mem_cons_of_mem _ hx)
    have h1 := step_facts w hw hi op (hc op (List.mem_cons_self ..))
    rcases hch with ⟨hnr, hs⟩ | hch
    · exact Nat.lt_of_lt_of_le (h1.kbump hnr kc hs) ((run_inv ops _ h1.wf h1.inv hc').2.2.1 kc)
    · exact Nat.lt_of_le_of_lt (h1.mono kc) (ih _ h1.wf h1.inv hc' hch)

theorem run_change (kc vc : Nat) (ops : List MOp) : ∀ (w : MWorld), w.WF → w.CapInv → (∀ op ∈ ops, op.CapOK) →
    w.vcellOf kc = some vc → SomeChange kc w ops → w.cs kc < (w.run ops).cs kc ∨ w.cs vc < (w.run ops).cs vc := by
  induction ops with
  | nil => intro w _ _ _ _ h; exact h.elim
  | cons op ops ih =>
    intro w hw hi hc hvc hch
    have hc' : ∀ x ∈ ops, x.CapOK := fun x hx => hc x (List.mem_cons_of_mem _ hx)
    have h1 := step_facts w hw hi op (hc op (List.mem_cons_self ..))
    rcases hch with ⟨hnr, hs⟩ | hch
    · have h2 := (run_inv ops _ h1.wf h1.inv hc').2.2.1
      exact (h1.vbump hnr kc vc hvc hs).imp (Nat.lt_of_lt_of_le · (h2 kc)) (Nat.lt_of_lt_of_le · (h2 vc))
    · exact (ih _ h1.wf h1.inv hc' ((h1.vcell kc).trans hvc) hch).imp (Nat.lt_of_le_of_lt (h1.mono kc))
        (Nat.lt_of_le_of_lt (h1.mono vc))

theorem other_cells_ne (w : MWorld) (hw : w.WF) (o : Bool) (kc vc : Nat) (hvc : w.vcellOf kc = some vc) (hne : (w.obj o).kcell ≠ kc) :
    kc ≠ (w.obj o).kcell ∧ kc ≠ (w.obj o).vcell ∧ vc ≠ (w.obj o).kcell ∧ vc ≠ (w.obj o).vcell := by
  obtain ⟨w1, w2, w3, w4, w5, w6⟩ := hw
  obtain ⟨m, hm, hv⟩ := Option.map_eq_some_iff.mp hvc
  have hkc := byKeyCell_kcell hm
  obtain ⟨o', rfl⟩ := byKeyCell_cases hm
  subst hkc; subst hv
  cases o <;> cases o'
  · exact absurd rfl hne
  · exact ⟨Ne.symm w2, Ne.symm w4, Ne.symm w3, Ne.symm w5⟩
  · exact ⟨w2, w3, w4, w5⟩
  · exact absurd rfl hne

/-- one call that cannot invalidate handles of the object with key cell `kc`: it throws, or it is not a mutating entry point,
    or it mutates the other object, or it is a no-op `InsertKey` / `RemoveKey(key)` -/
def QuietStep (kc : Nat) (w : MWorld) (op : MOp) : Prop :=
  (w.step op).2 = none ∨ op.target = none ∨ (∃ o, op.target = some o ∧ (w.obj o).kcell ≠ kc) ∨
  (op.QuietMut ∧ (w.step op).1.content kc = w.content kc)

theorem step_quiet (w : MWorld) (hw : w.WF) (hi : w.CapInv) (op : MOp) (kc vc : Nat) (hvc : w.vcellOf kc = some vc)
    (hq : QuietStep kc w op) : (w.step op).1.cs kc = w.cs kc ∧ (w.step op).1.cs vc = w.cs vc := by
  unfold QuietStep at hq
  have ho := step_outcome w op
  generalize w.step op = x at hq ho ⊢
  cases ho with
  | same => exact ⟨rfl, rfl⟩
  | reset => rw [setObj_cs]; exact ⟨rfl, rfl⟩
  | swap => exact ⟨rfl, rfl⟩
  | upd o cs' m' r ht he hqm =>
    have hE := (he (obj_capI w hi o)).1
    rw [setObj_cs]
    by_cases hk : (w.obj o).kcell = kc
    · have hcs : cs' = w.cs := by
        rcases hq with h | h | ⟨o', ht', hne⟩ | ⟨hq1, hcont⟩
        · cases h
        · cases ht.symm.trans h
        · cases ht.symm.trans ht'; exact absurd hk hne
        · refine hqm hq1 ?_
          subst hk
          unfold content at hcont
          rw [byKeyCell_setObj w hw o cs' hE.1, if_pos rfl, byKeyCell_obj w hw o] at hcont
          exact Option.some.inj hcont
      rw [hcs]; exact ⟨rfl, rfl⟩
    · obtain ⟨-, -, nk, nv, rfl, -, -⟩ := hE
      obtain ⟨h1, h2, h3, h4⟩ := other_cells_ne w hw o kc vc hvc hk
      exact ⟨bump2_other h1 h2, bump2_other h3 h4⟩

def AllQuiet (kc : Nat) : MWorld → List MOp → Prop
  | _, [] => True
  | w, op :: ops => QuietStep kc w op ∧ AllQuiet kc (w.step op).1 ops

theorem run_quiet (kc vc : Nat) (ops : List MOp) : ∀ (w : MWorld), w.WF → w.CapInv → (∀ op ∈ ops, op.CapOK) →
    w.vcellOf kc = some vc → AllQuiet kc w ops → (w.run ops).cs kc = w.cs kc ∧ (w.run ops).cs vc = w.cs vc := by
  induction ops with
  | nil => intro w _ _ _ _ _; exact ⟨rfl, rfl⟩
  | cons op ops ih =>
    intro w hw hi hc hvc hq
    have h1 := step_facts w hw hi op (hc op (List.mem_cons_self ..))
    have h2 := ih _ h1.wf h1.inv (fun x hx => hc x (List.mem_cons_of_mem _ hx)) ((h1.vcell kc).trans hvc) hq.2
    have h3 := step_quiet w hw hi op kc vc hvc hq.1
    exact ⟨h2.1.trans h3.1, h2.2.trans h3.2⟩

end MWorld
end Momo.Ver
