import Momo.Proof.SortMem
import Mathlib.Tactic.Tauto
/-!
  C17: the contracts of the sorting side (`GoodP`, `GroupSpec`, `SortPost`), then the small cases of `RadixSorter::pvSort` and `pvSelectionSort`
  (RadixSorter.h:81-129): the range becomes a sorted permutation of itself, `groupFunc` has been applied to
  every maximal run of equal codes, nothing outside the range is touched, no access leaves the range.  A callback that sorts each of
  consecutive blocks with increasing codes sorts the range (`bucketLoop_sorts`); the run loop of `pvSelectionSort` is such a loop
  (`groupRuns_eq`), the loop over the radix buckets (SortRadix) the other.
  `Mathlib.Tactic.Tauto` is imported for the same reason as the imports of SortArith (how `2 ^ R` elaborates in `PartSpec` and the statements
  after it); `tauto` is not used.
-/
namespace Momo.Sort
variable {σ α : Type}

/-- list form of `SortedF` (SortSearch) -/
def SortedL (l : List (α × Nat)) : Prop := l.Pairwise (fun x y => x.2 ≤ y.2)

/-- a property `P` of ranges that `groupFunc` establishes on runs of equal codes and that survives
concatenation of ranges with strictly increasing codes; `Q` is a property of single cells that the
concatenation may rely on. (`P = equal items contiguous` for HashSorter, `P = True` for plain radix sort.) -/
structure GoodP (Q : α × Nat → Prop) (P : List (α × Nat) → Prop) : Prop where
  small : ∀ l, l.length ≤ 2 → P l
  append : ∀ l1 l2, (∀ x ∈ l1, Q x) → (∀ x ∈ l2, Q x) → P l1 → P l2 →
    (∀ x ∈ l1, ∀ y ∈ l2, x.2 < y.2) → P (l1 ++ l2)

/-- contract of the `groupFunc` callback of `RadixSorter` (`pvGroup` for HashSorter, nothing for plain radix sort): called on a range `seg` whose cells
all carry one code (and satisfy `Q`), it returns a permutation of the range satisfying `P` and leaves the frame `pre`, `post` alone -/
def GroupSpec (abs : σ → List (α × Nat)) (ok : σ → Prop) (Q : α × Nat → Prop)
    (P : List (α × Nat) → Prop) (G : GroupFn σ) : Prop :=
  ∀ s pre seg post, Holds abs ok s (pre ++ seg ++ post) → (∀ x ∈ seg, Q x) → (∀ x ∈ seg, ∀ y ∈ seg, x.2 = y.2) →
    ∃ s' seg', G s pre.length seg.length = some s' ∧ Holds abs ok s' (pre ++ seg' ++ post) ∧ seg'.Perm seg ∧ P seg'

/-- what every sorting routine of `RadixSorter` (`pvSort`, `pvSelectionSort`, `pvRadixSort`, on the whole range or a bucket) establishes on its range
`seg`, `P` being the work of `groupFunc`; ranges with increasing codes concatenate (`SortPost.append`) -/
def SortPost (P : List (α × Nat) → Prop) (seg seg' : List (α × Nat)) : Prop :=
  seg'.Perm seg ∧ SortedL seg' ∧ P seg'

/-- code of cell `k` (0 outside): what the local array `codes` of `pvSelectionSort` holds at `k` (`Mirror.get`) -/
def cd (l : List (α × Nat)) (k : Nat) : Nat := ky Prod.snd l k

theorem cd_eq {l : List (α × Nat)} {k : Nat} (hk : k < l.length) : cd l k = (l[k]'hk).2 := ky_eq Prod.snd hk

theorem cd_swapL (l : List (α × Nat)) (i j k : Nat) (hi : i < l.length) (hj : j < l.length) :
    cd (swapL l i j) k = cd l (transp i j k) := ky_swapL Prod.snd l i j k hi hj

theorem sortedL_iff_cd {l : List (α × Nat)} : SortedL l ↔ ∀ a b, a < b → b < l.length → cd l a ≤ cd l b := by
  unfold SortedL
  rw [List.pairwise_iff_getElem]
  constructor
  · intro h a b hab hb
    rw [cd_eq (by omega), cd_eq hb]
    exact h a b (by omega) hb hab
  · intro h a b ha hb hab
    have := h a b hab hb
    rwa [cd_eq ha, cd_eq hb] at this

def Mirror (codes : Array Nat) (l : List (α × Nat)) : Prop := codes.toList = l.map Prod.snd

theorem Mirror.getElem? {codes : Array Nat} {l : List (α × Nat)} (h : Mirror codes l) (k : Nat) :
    codes[k]? = (l.map Prod.snd)[k]? := by
  rw [← Array.getElem?_toList, h]

theorem Mirror.get {codes : Array Nat} {l : List (α × Nat)} (h : Mirror codes l) {k : Nat} (hk : k < l.length) :
    codes[k]? = some (cd l k) := by
  rw [h.getElem?, cd_eq hk, List.getElem?_map, List.getElem?_eq_getElem hk]; rfl

theorem Mirror.swap {codes : Array Nat} {l : List (α × Nat)} (h : Mirror codes l) {i m : Nat} (hi : i < l.length) (hm : m < l.length) :
    Mirror ((codes.setIfInBounds i (cd l m)).setIfInBounds m (cd l i)) (swapL l i m) := by
  have hi' : i < (l.map Prod.snd).length := by rwa [List.length_map]
  have hm' : m < (l.map Prod.snd).length := by rwa [List.length_map]
  rw [Mirror, swapL_map _ hi hm, swapL_eq_set hi' hm', Array.toList_setIfInBounds, Array.toList_setIfInBounds, h,
    cd_eq hi, cd_eq hm, List.getElem_map, List.getElem_map]

section
variable {M : Mem σ α} {abs : σ → List (α × Nat)} {ok : σ → Prop} (L : Lawful M abs ok)
  (pre post : List (α × Nat))
include L

theorem readCodes_spec (s : σ) (seg : List (α × Nat)) (hh : Holds abs ok s (pre ++ seg ++ post)) :
    ∀ (n i : Nat) (acc : Array Nat), i + n = seg.length → acc.toList = (seg.take i).map Prod.snd →
      ∃ codes, readCodes M s pre.length n i acc = some codes ∧ Mirror codes seg := by
  intro n
  induction n with
  | zero =>
    intro i acc hin hacc
    refine ⟨acc, rfl, ?_⟩
    unfold Mirror
    rw [hacc, List.take_of_length_le (by omega)]
  | succ n ih =>
    intro i acc hin hacc
    unfold readCodes
    have hi : i < seg.length := by omega
    rw [L.code_at hh i hi]
    simp only [Option.bind_some]
    apply ih (i + 1) _ (by omega)
    rw [Array.toList_push, hacc, List.take_add_one, List.map_append, List.getElem?_eq_getElem hi]
    simp

end

theorem minElem_spec (codes : Array Nat) (l : List (α × Nat)) (hm : Mirror codes l) (lo hi : Nat) (hhi : hi ≤ l.length) :
    ∀ (fuel j best : Nat), hi < fuel + j → lo ≤ best → best < j → j ≤ hi →
      (∀ k, lo ≤ k → k < j → cd l best ≤ cd l k) →
      ∃ m, minElem codes hi fuel j best = some m ∧ lo ≤ m ∧ m < hi ∧ ∀ k, lo ≤ k → k < hi → cd l m ≤ cd l k := by
  intro fuel
  induction fuel with
  | zero => intro j best h _ _ hj; omega
  | succ f ih =>
    intro j best hf hlb hbj hjh hmin
    rw [minElem]
    by_cases hj : j < hi
    · rw [if_pos hj, hm.get (Nat.lt_of_lt_of_le hj hhi), hm.get (Nat.lt_of_lt_of_le (Nat.lt_trans hbj hj) hhi)]
      simp only [Option.bind_some]
      by_cases hlt : cd l j < cd l best
      · rw [if_pos hlt]
        refine ih (j + 1) j (by omega) (Nat.le_trans hlb (Nat.le_of_lt hbj)) (Nat.lt_succ_self j) hj fun k hk1 hk2 => ?_
        rcases Nat.eq_or_lt_of_le (Nat.le_of_lt_succ hk2) with rfl | hkj
        · exact Nat.le_refl _
        · exact Nat.le_trans (Nat.le_of_lt hlt) (hmin k hk1 hkj)
      · rw [if_neg hlt]
        refine ih (j + 1) best (by omega) hlb (Nat.lt_succ_of_lt hbj) hj fun k hk1 hk2 => ?_
        rcases Nat.eq_or_lt_of_le (Nat.le_of_lt_succ hk2) with rfl | hkj
        · exact Nat.le_of_not_lt hlt
        · exact hmin k hk1 hkj
    · rw [if_neg hj]
      exact ⟨best, rfl, hlb, Nat.lt_of_lt_of_le hbj hjh, fun k hk1 hk2 => hmin k hk1 (Nat.lt_of_lt_of_le hk2 (Nat.le_of_not_lt hj))⟩

/-- invariant of the selection loop: cells before `i` are in their final order -/
def SortedUpTo (l : List (α × Nat)) (i : Nat) : Prop := ∀ a b, a < b → a < i → b < l.length → cd l a ≤ cd l b

theorem sortedUpTo_swap {l : List (α × Nat)} {i m : Nat} (hi : i < l.length) (him : i < m) (hm : m < l.length)
    (h : SortedUpTo l i) (hmin : ∀ k, i + 1 ≤ k → k < l.length → cd l m ≤ cd l k) (hlt : cd l m < cd l i) :
    SortedUpTo (swapL l i m) (i + 1) := by
  intro a b hab hai hb
  rw [swapL_length] at hb
  rw [cd_swapL l i m a hi hm, cd_swapL l i m b hi hm]
  rcases Nat.eq_or_lt_of_le (Nat.le_of_lt_succ hai) with rfl | hai'
  · -- after the exchange cell `a = i` holds the minimum of what follows it
    rw [transp_left]
    by_cases hbm : b = m
    · rw [hbm, transp_right]; exact Nat.le_of_lt hlt
    · rw [transp_of_ne hbm (Nat.ne_of_gt hab)]; exact hmin b hab hb
  · -- before `i` nothing moved, and what `b` reads is still a later cell
    rw [transp_of_ne (by omega) (Nat.ne_of_lt hai')]
    exact h a _ (lt_transp hai' (Nat.lt_trans hai' him) hab) hai' (transp_lt hi hm hb)

theorem sortedUpTo_keep {l : List (α × Nat)} {i m : Nat} (hi : i < l.length)
    (h : SortedUpTo l i) (hmin : ∀ k, i + 1 ≤ k → k < l.length → cd l m ≤ cd l k) (hge : ¬ cd l m < cd l i) :
    SortedUpTo l (i + 1) := by
  intro a b hab hai hb
  by_cases hae : a = i
  · subst hae
    have := hmin b (by omega) hb
    omega
  · exact h a b hab (by omega) hb

section
variable {M : Mem σ α} {abs : σ → List (α × Nat)} {ok : σ → Prop} (L : Lawful M abs ok)
  (pre post : List (α × Nat))
include L

theorem selLoop_spec :
    ∀ (fuel : Nat) (s : σ) (seg : List (α × Nat)) (codes : Array Nat) (i : Nat), 0 < fuel → seg.length < fuel + i →
      Holds abs ok s (pre ++ seg ++ post) → Mirror codes seg → SortedUpTo seg i →
      ∃ s' seg' codes', selLoop M pre.length seg.length fuel s codes i = some (s', codes') ∧
        Holds abs ok s' (pre ++ seg' ++ post) ∧ Mirror codes' seg' ∧ seg'.Perm seg ∧ SortedL seg' := by
  intro fuel
  induction fuel with
  | zero => intro s seg codes i h; omega
  | succ f ih =>
    intro s seg codes i _ hf hh hmir hsu
    rw [selLoop]
    by_cases hi : i + 1 < seg.length
    · have hi0 : i < seg.length := Nat.lt_of_succ_lt hi
      obtain ⟨m, hm, hm1, hm2, hm3⟩ := minElem_spec codes seg hmir (i + 1) seg.length (Nat.le_refl _) (seg.length + 1) (i + 2) (i + 1)
        (by omega) (Nat.le_refl _) (Nat.lt_succ_self _) hi
        (fun k hk1 hk2 => by rw [Nat.le_antisymm (Nat.le_of_lt_succ hk2) hk1]; exact Nat.le_refl _)
      rw [if_pos hi, hm]
      simp only [Option.bind_some, hmir.get hm2, hmir.get hi0]
      by_cases hlt : cd seg m < cd seg i
      · obtain ⟨s', hs', hh'⟩ := L.swap_at hh i m hi0 hm2
        rw [if_pos hlt, hs']
        simp only [Option.bind_some]
        have hlen : (swapL seg i m).length = seg.length := swapL_length
        obtain ⟨s'', seg'', codes'', h1, h2, h3, h4, h5⟩ := ih s' (swapL seg i m) _ (i + 1) (by omega) (by rw [hlen]; omega) hh'
          (hmir.swap hi0 hm2) (sortedUpTo_swap hi0 hm1 hm2 hsu hm3 hlt)
        rw [hlen] at h1
        exact ⟨s'', seg'', codes'', h1, h2, h3, h4.trans swapL_perm, h5⟩
      · rw [if_neg hlt]
        exact ih s seg codes (i + 1) (by omega) (by omega) hh hmir (sortedUpTo_keep hi0 hsu hm3 hlt)
    · rw [if_neg hi]
      exact ⟨s, seg, codes, rfl, hh, hmir, List.Perm.refl _, sortedL_iff_cd.2 fun a b hab hb => hsu a b hab (by omega) hb⟩

end

theorem sortedL_of_length_le_one (l : List (α × Nat)) (h : l.length ≤ 1) : SortedL l := by
  unfold SortedL
  match l, h with
  | [], _ => exact List.Pairwise.nil
  | [a], _ => exact List.pairwise_singleton _ _

theorem sortedL_of_const {l : List (α × Nat)} (h : ∀ x ∈ l, ∀ y ∈ l, x.2 = y.2) : SortedL l :=
  List.pairwise_of_forall_mem_list fun x hx y hy => Nat.le_of_eq (h x hx y hy)

theorem GroupSpec.sortPost {abs : σ → List (α × Nat)} {ok : σ → Prop} {Q : α × Nat → Prop} {P : List (α × Nat) → Prop}
    {G : GroupFn σ} (hG : GroupSpec abs ok Q P G) {s : σ} {pre seg post : List (α × Nat)}
    (hh : Holds abs ok s (pre ++ seg ++ post)) (hQ : ∀ x ∈ seg, Q x) (hconst : ∀ x ∈ seg, ∀ y ∈ seg, x.2 = y.2) :
    ∃ s' seg', G s pre.length seg.length = some s' ∧ Holds abs ok s' (pre ++ seg' ++ post) ∧ SortPost P seg seg' := by
  obtain ⟨s', seg', g1, g2, g3, g4⟩ := hG s pre seg post hh hQ hconst
  exact ⟨s', seg', g1, g2, g3, sortedL_of_const fun x hx y hy => hconst x (g3.mem_iff.1 hx) y (g3.mem_iff.1 hy), g4⟩

/-- the `endIndexes` array as a list: the running end offsets of the consecutive blocks `bs`, the first block starting at offset `bi`; what
`bucketLoop` walks -/
def ends (bi : Nat) : List (List (α × Nat)) → List Nat
  | [] => []
  | b :: bs => (bi + b.length) :: ends (bi + b.length) bs

theorem SortPost.append {Q : α × Nat → Prop} {P : List (α × Nat) → Prop} (hP : GoodP Q P) {a a' b b' : List (α × Nat)}
    (ha : SortPost P a a') (hb : SortPost P b b') (hQa : ∀ x ∈ a, Q x) (hQb : ∀ x ∈ b, Q x)
    (hlt : ∀ x ∈ a, ∀ y ∈ b, x.2 < y.2) : SortPost P (a ++ b) (a' ++ b') := by
  obtain ⟨p1, p2, p3⟩ := ha
  obtain ⟨q1, q2, q3⟩ := hb
  have hcross : ∀ x ∈ a', ∀ y ∈ b', x.2 < y.2 := fun x hx y hy => hlt x (p1.mem_iff.1 hx) y (q1.mem_iff.1 hy)
  exact ⟨p1.append q1, List.pairwise_append.2 ⟨p2, q2, fun x hx y hy => Nat.le_of_lt (hcross x hx y hy)⟩,
    hP.append a' b' (fun x hx => hQa x (p1.mem_iff.1 hx)) (fun x hx => hQb x (q1.mem_iff.1 hx)) p3 q3 hcross⟩

section
variable {abs : σ → List (α × Nat)} {ok : σ → Prop} (pre post : List (α × Nat))
  {Q : α × Nat → Prop} {P : List (α × Nat) → Prop} (hP : GoodP Q P)
include hP

theorem bucketLoop_sorts (fn : σ → Nat → Nat → Option σ) :
    ∀ (bs : List (List (α × Nat))) (s : σ) (done : List (α × Nat)),
      Holds abs ok s (pre ++ (done ++ bs.flatten) ++ post) →
      (∀ b ∈ bs, ∀ (s : σ) (pre' post' : List (α × Nat)), Holds abs ok s (pre' ++ b ++ post') →
        ∃ s' b', fn s pre'.length b.length = some s' ∧ Holds abs ok s' (pre' ++ b' ++ post') ∧ SortPost P b b') →
      bs.Pairwise (fun b1 b2 => ∀ x ∈ b1, ∀ y ∈ b2, x.2 < y.2) → (∀ b ∈ bs, ∀ x ∈ b, Q x) →
      ∃ s' tail, bucketLoop fn pre.length (ends done.length bs) s done.length = some s' ∧
        Holds abs ok s' (pre ++ (done ++ tail) ++ post) ∧ SortPost P bs.flatten tail := by
  intro bs
  induction bs with
  | nil =>
    intro s done hh _ _ _
    exact ⟨s, [], rfl, hh, List.Perm.refl _, List.Pairwise.nil, hP.small [] (Nat.zero_le _)⟩
  | cons b bs ih =>
    intro s done hh hfn hpw hQ
    obtain ⟨hb, hpw'⟩ := List.pairwise_cons.1 hpw
    obtain ⟨s', b', h1, h2, h3⟩ := hfn b List.mem_cons_self s (pre ++ done) (bs.flatten ++ post)
      (by simpa only [List.flatten_cons, List.append_assoc] using hh)
    rw [List.length_append] at h1
    rw [ends, bucketLoop, csub, if_pos (Nat.le_add_right _ _), Option.bind_some, Nat.add_sub_cancel_left, h1, Option.bind_some]
    obtain ⟨s'', tail, g1, g2, g3⟩ := ih s' (done ++ b') (by simpa only [List.append_assoc] using h2)
      (fun c hc => hfn c (List.mem_cons_of_mem _ hc)) hpw' (fun c hc => hQ c (List.mem_cons_of_mem _ hc))
    rw [List.length_append, h3.1.length_eq] at g1
    refine ⟨s'', b' ++ tail, g1, by simpa only [List.append_assoc] using g2, ?_⟩
    exact SortPost.append hP h3 g3 (hQ b List.mem_cons_self)
      (fun x hx => by obtain ⟨c, hc, hxc⟩ := List.mem_flatten.1 hx; exact hQ c (List.mem_cons_of_mem _ hc) x hxc)
      fun x hx y hy => by obtain ⟨c, hc, hyc⟩ := List.mem_flatten.1 hy; exact hb c hc x hx y hyc

end

/-- The run loop of `pvSelectionSort` is the bucket loop over the maximal runs of equal codes: for codes in non-decreasing
order the cells `run ++ rest` (`run` = the current run of code `c`, cells `prev … i-1`) split into blocks of one code each,
codes increasing, and `groupRuns` hands exactly these blocks to `G`.  The codes are read from `codes` only, so the
equation holds for every state. -/
theorem groupRuns_eq (G : GroupFn σ) (codes : Array Nat) (b count : Nat) :
    ∀ (rest run : List (α × Nat)) (c prev i fuel : Nat), rest.length < fuel → i = prev + run.length → count = i + rest.length →
      codes[prev]? = some c → (∀ k, codes[i + k]? = (rest.map Prod.snd)[k]?) →
      (∀ x ∈ run, x.2 = c) → (c :: rest.map Prod.snd).Pairwise (· ≤ ·) →
      ∃ bs : List (List (α × Nat)), bs.flatten = run ++ rest ∧ (∀ b ∈ bs, ∀ x ∈ b, ∀ y ∈ b, x.2 = y.2) ∧
        bs.Pairwise (fun b1 b2 => ∀ x ∈ b1, ∀ y ∈ b2, x.2 < y.2) ∧ (∀ b ∈ bs, ∀ x ∈ b, c ≤ x.2) ∧
        ∀ s, groupRuns G codes b count fuel s i prev = bucketLoop G b (ends prev bs) s prev := by
  intro rest
  induction rest with
  | nil =>
    intro run c prev i fuel hf hi hcount _ _ hr _
    cases fuel with
    | zero => exact absurd hf (Nat.not_lt_zero _)
    | succ f =>
      refine ⟨[run], by rw [List.flatten_singleton, List.append_nil], fun b hb x hx y hy => ?_, List.pairwise_singleton _ _,
        fun b hb x hx => ?_, fun s => ?_⟩
      · rw [List.mem_singleton.1 hb] at hx hy; rw [hr x hx, hr y hy]
      · rw [List.mem_singleton.1 hb] at hx; exact Nat.le_of_eq (hr x hx).symm
      · subst hcount hi
        rw [groupRuns, if_neg (Nat.lt_irrefl _), ends, ends, bucketLoop]
        simp only [bucketLoop, Option.bind_fun_some]
  | cons y rest ih =>
    intro run c prev i fuel hf hi hcount hc hcodes hr hs
    cases fuel with
    | zero => exact absurd hf (Nat.not_lt_zero _)
    | succ f =>
      rw [List.length_cons] at hcount
      rw [List.map_cons] at hs hcodes
      obtain ⟨hle, hs'⟩ := List.pairwise_cons.1 hs
      have hcy : c ≤ y.2 := hle y.2 List.mem_cons_self
      have hci : codes[i]? = some y.2 := hcodes 0
      have hcodes' : ∀ k, codes[i + 1 + k]? = (rest.map Prod.snd)[k]? := fun k => by
        rw [Nat.add_right_comm, Nat.add_assoc]; exact hcodes (k + 1)
      have hstep : ∀ s, groupRuns G codes b count (f + 1) s i prev =
          if y.2 ≠ c then (csub i prev).bind fun n => (G s (b + prev) n).bind fun s' => groupRuns G codes b count f s' (i + 1) i
          else groupRuns G codes b count f s (i + 1) prev := fun s => by
        rw [groupRuns, if_pos (by omega), hci, hc]; rfl
      by_cases hyc : y.2 = c
      · obtain ⟨bs, h1, h2, h3, h4, h5⟩ := ih (run ++ [y]) c prev (i + 1) f (Nat.lt_of_succ_lt_succ hf)
          (by rw [List.length_append, hi]; rfl) (by omega) hc hcodes'
          (fun x hx => (List.mem_append.1 hx).elim (hr x) fun h => by rw [List.mem_singleton.1 h, hyc]) (hyc ▸ hs')
        exact ⟨bs, by rw [h1, List.append_assoc, List.singleton_append], h2, h3, h4, fun s => by
          rw [hstep, if_neg (fun h => h hyc), h5]⟩
      · -- `y` starts a new run: the old one is a block of its own, below everything that follows
        have hlt : c < y.2 := Nat.lt_of_le_of_ne hcy (Ne.symm hyc)
        obtain ⟨bs, h1, h2, h3, h4, h5⟩ := ih [y] y.2 i (i + 1) f (Nat.lt_of_succ_lt_succ hf) rfl (by omega) hci hcodes'
          (fun x hx => by rw [List.mem_singleton.1 hx]) hs'
        refine ⟨run :: bs, by rw [List.flatten_cons, h1, List.singleton_append], ?_, List.pairwise_cons.2 ⟨?_, h3⟩, ?_, fun s => ?_⟩
        · intro b hb
          rcases List.mem_cons.1 hb with rfl | hb
          · intro x hx z hz; rw [hr x hx, hr z hz]
          · exact h2 b hb
        · intro b' hb' x hx z hz
          rw [hr x hx]; exact Nat.lt_of_lt_of_le hlt (h4 b' hb' z hz)
        · intro b hb x hx
          rcases List.mem_cons.1 hb with rfl | hb
          · exact Nat.le_of_eq (hr x hx).symm
          · exact Nat.le_trans hcy (h4 b hb x hx)
        · subst hi
          rw [hstep, if_pos hyc, ends, bucketLoop]
          simp only [h5]

section
variable {M : Mem σ α} {abs : σ → List (α × Nat)} {ok : σ → Prop} (L : Lawful M abs ok)
  {Q : α × Nat → Prop} {P : List (α × Nat) → Prop} {G : GroupFn σ}
  (hG : GroupSpec abs ok Q P G) (hP : GoodP Q P) (pre post : List (α × Nat))
include L hG hP

theorem selectionSort_spec (R : Nat) (s : σ) (seg : List (α × Nat)) (hh : Holds abs ok s (pre ++ seg ++ post))
    (hQ : ∀ x ∈ seg, Q x) (hn : 0 < seg.length) (hmax : seg.length ≤ selectionSortMaxCount R) :
    ∃ s' seg', selectionSort M R G s pre.length seg.length = some s' ∧
      Holds abs ok s' (pre ++ seg' ++ post) ∧ SortPost P seg seg' := by
  obtain ⟨codes, hc, hmir⟩ := readCodes_spec L pre post s seg hh seg.length 0 (Array.mkEmpty seg.length) (by omega) (by simp)
  obtain ⟨s1, seg1, codes1, hs1, hh1, hmir1, hperm1, hsorted1⟩ := selLoop_spec L pre post (seg.length + 1) s seg codes 0
    (by omega) (by omega) hh hmir (fun a b _ h => by omega)
  rw [selectionSort, if_neg (Nat.ne_of_gt hn), if_neg (Nat.not_lt.2 hmax), hc, Option.bind_some, hs1, Option.bind_some]
  have hlen1 : seg1.length = seg.length := hperm1.length_eq
  cases seg1 with
  | nil => exact absurd hlen1 (Nat.ne_of_lt hn)
  | cons c0 t =>
    rw [List.length_cons] at hlen1
    obtain ⟨bs, hflat, hconst, hstrict, _, heq⟩ := groupRuns_eq G codes1 pre.length seg.length t [c0] c0.2 0 1 (seg.length + 1)
      (by omega) rfl (by omega) (hmir1.getElem? 0) (fun k => by rw [Nat.add_comm]; exact hmir1.getElem? (k + 1))
      (fun x hx => by rw [List.mem_singleton.1 hx]) (List.pairwise_map.2 hsorted1)
    rw [List.singleton_append] at hflat
    have hQ1 : ∀ b ∈ bs, ∀ x ∈ b, Q x := fun b hb x hx =>
      hQ x (hperm1.mem_iff.1 (hflat ▸ List.mem_flatten.2 ⟨b, hb, hx⟩))
    obtain ⟨s', tail, g1, g2, g3⟩ := bucketLoop_sorts pre post hP G bs s1 [] (hflat ▸ hh1)
      (fun b hb s pre' post' hhb => hG.sortPost hhb (hQ1 b hb) (hconst b hb)) hstrict hQ1
    rw [hflat] at g3
    exact ⟨s', tail, (heq s1).trans g1, g2, g3.1.trans hperm1, g3.2⟩

theorem pvSortWith_spec (R : Nat) (rs : σ → Nat → Nat → Option σ) (s : σ) (seg : List (α × Nat))
    (hh : Holds abs ok s (pre ++ seg ++ post)) (hQ : ∀ x ∈ seg, Q x)
    (hrs : 2 < seg.length → selectionSortMaxCount R < seg.length →
      ∃ s' seg', rs s pre.length seg.length = some s' ∧ Holds abs ok s' (pre ++ seg' ++ post) ∧ SortPost P seg seg') :
    ∃ s' seg', pvSortWith M R G rs s pre.length seg.length = some s' ∧
      Holds abs ok s' (pre ++ seg' ++ post) ∧ SortPost P seg seg' := by
  rw [pvSortWith]
  by_cases h2 : seg.length < 2
  · rw [if_pos h2]
    exact ⟨s, seg, rfl, hh, List.Perm.refl _, sortedL_of_length_le_one seg (Nat.le_of_lt_succ h2), hP.small seg (Nat.le_of_lt h2)⟩
  · rw [if_neg h2]
    by_cases he : seg.length = 2
    · obtain ⟨x, y, rfl⟩ : ∃ x y, seg = [x, y] := match seg, he with | [x, y], _ => ⟨x, y, rfl⟩
      have c0 : M.code s pre.length = some x.2 := L.code_at hh 0 Nat.zero_lt_two
      have c1 : M.code s (pre.length + 1) = some y.2 := L.code_at hh 1 Nat.one_lt_two
      rw [if_pos he, c0, c1]
      simp only [Option.bind_some]
      by_cases hgt : x.2 > y.2
      · obtain ⟨s', hs', hh'⟩ := L.swap_at hh 0 1 Nat.zero_lt_two Nat.one_lt_two
        rw [if_pos hgt]
        exact ⟨s', [y, x], hs', hh', swapL_perm (l := [x, y]) (i := 0) (j := 1), List.pairwise_pair.2 (Nat.le_of_lt hgt), hP.small _ (Nat.le_refl 2)⟩
      · rw [if_neg hgt]
        exact ⟨s, [x, y], rfl, hh, List.Perm.refl _, List.pairwise_pair.2 (Nat.le_of_not_lt hgt), hP.small _ (Nat.le_refl 2)⟩
    · rw [if_neg he]
      by_cases hsel : seg.length ≤ selectionSortMaxCount R
      · rw [if_pos hsel]
        exact selectionSort_spec L hG hP pre post R s seg hh hQ (by omega) hsel
      · rw [if_neg hsel]
        exact hrs (by omega) (Nat.lt_of_not_le hsel)

end

end Momo.Sort
