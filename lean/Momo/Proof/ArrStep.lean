import Momo.Proof.ArrOps
import Momo.Proof.ArrShift
/-!
  C05: what the history theorems ask of one operation of a sequence container (`Box.Sized`: cells, invariant, no manager
  call while there is room) and the history theorem over it (`Box.hist`), both shared with `SegmentedArray`; every operation of
  `momo::Array` is `Sized` at the reference sequence (`step_sized`); rvalue arguments that are elements of the same array;
  copy, move, swap.
-/
namespace Momo.Arr

section
variable {α σ ε : Type}
/-- a sequence container as the history theorems see it: its items, `GetCapacity()`, its invariant -/
structure Box (σ α : Type) where
  cells : σ → Cells α
  cap : σ → Nat
  inv : σ → Prop

namespace Box
variable (B : Box σ α)

/-- `r` is the result of an operation on `s` that leaves the cells `cs`: the cells; the invariant; and, if `ok`, no
    memory-manager call and the same capacity whenever `cs` had room in `s` already. `ok` is where the caller says that the
    operation is one of those that call the manager only for lack of room (`Op.sizeOp` in `step_sized`; `Reserve`, `Shrink`,
    `Clear(true)` and the assignments are not). -/
def Sized (s : σ) (r : σ × List ε) (cs : Cells α) (ok : Prop) : Prop :=
  B.cells r.1 = cs ∧ (B.inv s → B.inv r.1) ∧ (ok → cs.length ≤ B.cap s → r.2 = [] ∧ B.cap r.1 = B.cap s)

variable {B}

theorem Sized.refl {s : σ} {cs : Cells α} {ok : Prop} (e : B.cells s = cs) : B.Sized s ((s, []) : σ × List ε) cs ok :=
  ⟨e, id, fun _ _ => ⟨rfl, rfl⟩⟩

/-- one operation after another (`ArrayShifter::Insert` for input iterators, range constructors) -/
theorem Sized.seq {s : σ} {r1 r2 : σ × List ε} {cs1 cs2 : Cells α} {ok : Prop} (h1 : B.Sized s r1 cs1 ok)
    (h2 : B.Sized r1.1 r2 cs2 ok) (hl : cs1.length ≤ cs2.length) : B.Sized s (r2.1, r1.2 ++ r2.2) cs2 ok :=
  ⟨h2.1, fun w => h2.2.1 (h1.2.1 w), fun o hc => by
    obtain ⟨e1, k1⟩ := h1.2.2 o (Nat.le_trans hl hc)
    obtain ⟨e2, k2⟩ := h2.2.2 o (k1 ▸ hc)
    exact ⟨by rw [e1, e2]; rfl, k2.trans k1⟩⟩

end Box
end


variable {α : Type}

theorem Spec.insertList_length (xs ys : List α) (index : Nat) (hi : index ≤ xs.length) :
    (Spec.insertList xs index ys).length = xs.length + ys.length := by
  simp only [Spec.insertList, List.length_append, List.length_take, List.length_drop, Nat.min_eq_left hi]
  omega

theorem Spec.insertN_length (xs : List α) (index count : Nat) (x : α) (hi : index ≤ xs.length) :
    (Spec.insertN xs index count x).length = xs.length + count := by
  rw [show Spec.insertN xs index count x = Spec.insertList xs index (List.replicate count x) from rfl,
    Spec.insertList_length _ _ _ hi, List.length_replicate]

theorem Spec.setCount_length (xs : List α) (count : Nat) (x : α) : (Spec.setCount xs count x).length = count := by
  unfold Spec.setCount
  split
  · next h => exact List.length_take_of_le h
  · rw [List.length_append, List.length_replicate]; omega

theorem Spec.remove_length_le (xs : List α) (index count : Nat) : (Spec.remove xs index count).length ≤ xs.length := by
  simp only [Spec.remove, List.length_append, List.length_take, List.length_drop]
  omega

theorem Spec.insertList_cons (xs : List α) (index : Nat) (y : α) (ys : List α) (hi : index ≤ xs.length) :
    Spec.insertList (Spec.insertN xs index 1 y) (index + 1) ys = Spec.insertList xs index (y :: ys) := by
  simp only [Spec.insertList, Spec.insertN, List.replicate_one]
  have hA : (xs.take index ++ [y]).length = index + 1 := by simp [Nat.min_eq_left hi]
  have h1 : (xs.take index ++ [y] ++ xs.drop index).take (index + 1) = xs.take index ++ [y] := List.take_left' hA
  have h2 : (xs.take index ++ [y] ++ xs.drop index).drop (index + 1) = xs.drop index := List.drop_left' hA
  rw [h1, h2]; simp

section
variable [Inhabited α]
set_option linter.unusedSectionVars false

theorem insertN_eq_insertList (xs : List α) (index count : Nat) (x : α) :
    Spec.insertN xs index count x = Spec.insertList xs index (List.replicate count x) := rfl

theorem read_live (xs : List α) (item : Ref α) (h : Spec.refOk xs item) :
    item.read (xs.map Cell.live) = .live (Spec.refVal xs item) := by
  match item, h with
  | .ext (.live x), _ => rfl
  | .elem j, h =>
    have hj : j < xs.length := h
    simp only [Ref.read, Spec.refVal]
    rw [cellAt_map_live xs j hj]
    simp [List.getD_eq_getElem?_getD, hj]

/-! What each growing operation does to all-live cells `cs = xs.map Cell.live`, and how many cells that leaves: the parts of
the `*_sized` lemmas that `Array` and `SegmentedArray` share. -/

theorem addBack_live (cs : Cells α) (xs : List α) (item : Ref α) (hs : cs = xs.map Cell.live)
    (hr : Spec.refOk xs item) : cs ++ [item.read cs] = (xs ++ [Spec.refVal xs item]).map Cell.live := by
  rw [hs, read_live xs item hr, List.map_append]; rfl

omit [Inhabited α] in
theorem addBack_live_length (cs : Cells α) (xs : List α) (x : α) (hs : cs = xs.map Cell.live) :
    ((xs ++ [x]).map Cell.live).length = cs.length + 1 := by
  rw [hs, List.length_map, List.length_map, List.length_append, List.length_singleton]

/-- `InsertCrt`: the item was created in an `ArrayItemHandler` first, so `InsertNogrow` gets an external value -/
theorem insertCrt_live (keeps : Bool) (cs : Cells α) (xs : List α) (index : Nat) (item : Ref α)
    (hs : cs = xs.map Cell.live) (hi : index ≤ xs.length) (hr : Spec.refOk xs item) :
    insertNogrowR keeps true cs index [.ext (item.read cs)] =
      (Spec.insertN xs index 1 (Spec.refVal xs item)).map Cell.live := by
  rw [hs, read_live xs item hr, insertNogrowR_one keeps true _ index _ _ (by rwa [List.length_map]) (good_ext true index _ _),
    insCells_live]; rfl

theorem insertN_live (keeps : Bool) (cs : Cells α) (xs : List α) (index count : Nat) (item : Ref α)
    (hs : cs = xs.map Cell.live) (hi : index ≤ xs.length) (hr : Spec.refOk xs item) :
    insertNogrowN keeps cs index count (.ext (item.read cs)) =
      (Spec.insertN xs index count (Spec.refVal xs item)).map Cell.live := by
  rw [hs, read_live xs item hr]; exact insertNogrowN_spec keeps xs index count _ _ hi (good_ext false index _ _)

theorem insertRange_live (keeps : Bool) (cs : Cells α) (xs ys : List α) (index : Nat)
    (hs : cs = xs.map Cell.live) (hi : index ≤ xs.length) :
    insertNogrowR keeps false cs index ((ys.map Cell.live).map .ext) = (Spec.insertList xs index ys).map Cell.live := by
  rw [hs]; exact insertNogrowR_spec keeps false xs index _ ys hi (goodAll_ext false index _ _)

omit [Inhabited α] in
theorem insertN_live_length (cs : Cells α) (xs : List α) (index count : Nat) (x : α)
    (hs : cs = xs.map Cell.live) (hi : index ≤ xs.length) :
    ((Spec.insertN xs index count x).map Cell.live).length = cs.length + count := by
  rw [List.length_map, Spec.insertN_length _ _ _ _ hi, hs, List.length_map]

omit [Inhabited α] in
theorem insertList_live_length (cs : Cells α) (xs ys : List α) (index : Nat)
    (hs : cs = xs.map Cell.live) (hi : index ≤ xs.length) :
    ((Spec.insertList xs index ys).map Cell.live).length = cs.length + (ys.map Cell.live).length := by
  rw [List.length_map, Spec.insertList_length _ _ _ hi, hs, List.length_map, List.length_map]

theorem good_of_not_alias (s : State α) (xs : List α) (index : Nat) (item : Ref α)
    (hs : s.cells = xs.map Cell.live) (hr : Spec.refOk xs item)
    (h : aliasAtOrAfter s index item = false) :
    Good false index (xs.map Cell.live) item (.live (Spec.refVal xs item)) := by
  match item, hr with
  | .ext (.live y), _ => exact good_ext false index _ (.live y)
  | .elem j, hr =>
    have hj : j < xs.length := hr
    have hlt : j < index := by
      simp [aliasAtOrAfter, indexOf, hs, hj] at h
      exact h
    have := good_elem index (xs.map Cell.live) j hlt
    rw [cellAt_map_live xs j hj] at this
    simpa [Spec.refVal, List.getD_eq_getElem?_getD, hj] using this

def box (cfg : Cfg) : Box (State α) α := ⟨State.cells, capacity cfg, WF cfg⟩

/-- an `abbrev`, so that `.refl` and `.seq` of `Box.Sized` apply to it by dot notation -/
abbrev Sized (cfg : Cfg) (s : State α) (r : State α × List Ev) (cs : Cells α) (ok : Prop) : Prop :=
  (box cfg).Sized s r cs ok

theorem Sized.same {cfg : Cfg} {s : State α} {cs cs' : Cells α} {m : Nat} {ok : Prop} (e : cs' = cs)
    (hl : cs.length = m) (h : WF cfg s → m ≤ capacity cfg s) : Sized cfg s ({ s with cells := cs' }, []) cs ok :=
  ⟨e, fun w => wf_with_cells w cs' (e ▸ hl ▸ h w), fun _ _ => ⟨rfl, rfl⟩⟩

theorem Sized.grow {cfg : Cfg} {s : State α} {cs : Cells α} {m : Nat} {ok : Prop} (f : Cells α → Cells α)
    (e : f s.cells = cs) (hl : cs.length = m) (hm : s.cells.length ≤ m) (h : ¬ m ≤ capacity cfg s) :
    Sized cfg s (withCells (grow cfg s m false) f) cs ok :=
  have ec := (congrArg f (grow_cells cfg s m false (Nat.lt_of_le_of_lt (Nat.zero_le _) (Nat.lt_of_not_le h)))).trans e
  ⟨ec, fun _ => wf_with_cells (grow_wf cfg s m false hm).1 _ (ec ▸ hl ▸ (grow_wf cfg s m false hm).2),
   fun _ h' => absurd (hl ▸ h') h⟩

theorem Sized.reset {cfg : Cfg} {s : State α} {cs cs' : Cells α} {m : Nat} {ok : Prop} (g : Bool) (c : Nat) (r l : Bool)
    (e : cs' = cs) (hl : cs.length = m) (h : ¬ m ≤ capacity cfg s) :
    Sized cfg s (reset cfg s (growCapacity g c m r l) cs') cs ok :=
  ⟨(reset_cells_grow cfg s g c m r l cs' (Nat.lt_of_le_of_lt (Nat.zero_le _) (Nat.lt_of_not_le h))).trans e,
   fun _ => (reset_wf cfg s _ cs' (e ▸ hl ▸ growCapacity_ge g c m r l)).1, fun _ h' => absurd (hl ▸ h') h⟩

theorem addBackGrowCrt_sized (cfg : Cfg) (s : State α) (xs : List α) (item : Ref α) (ok : Prop)
    (hs : s.cells = xs.map Cell.live) (hr : Spec.refOk xs item) (h : ¬ s.cells.length + 1 ≤ capacity cfg s) :
    Sized cfg s (addBackGrowCrt cfg s false item) ((xs ++ [Spec.refVal xs item]).map Cell.live) ok :=
  .reset _ _ _ _ (by rw [← addBack_live s.cells xs item hs hr]; split <;> rfl) (addBack_live_length s.cells xs _ hs) h

theorem addBackCopy_sized (cfg : Cfg) (s : State α) (xs : List α) (item : Ref α) (ok : Prop)
    (hs : s.cells = xs.map Cell.live) (hr : Spec.refOk xs item) :
    Sized cfg s (addBackCopy cfg s item) ((xs ++ [Spec.refVal xs item]).map Cell.live) ok := by
  have e := addBack_live s.cells xs item hs hr
  have hl := addBack_live_length s.cells xs (Spec.refVal xs item) hs
  unfold addBackCopy
  by_cases h : s.cells.length < capacity cfg s
  · rw [if_pos h]; exact .same e hl (fun _ => h)
  · rw [if_neg h]
    by_cases h2 : cfg.nothrowReloc = true
    · rw [if_pos h2]; exact .grow _ e hl (Nat.le_succ _) h
    · rw [if_neg h2]; exact addBackGrowCrt_sized cfg s xs item ok hs hr h

theorem addBackCrt_sized (cfg : Cfg) (s : State α) (xs : List α) (item : Ref α) (ok : Prop)
    (hs : s.cells = xs.map Cell.live) (hr : Spec.refOk xs item) :
    Sized cfg s (addBackCrt cfg s false item) ((xs ++ [Spec.refVal xs item]).map Cell.live) ok := by
  unfold addBackCrt
  by_cases h : s.cells.length < capacity cfg s
  · rw [if_pos h]; exact .same (addBack_live s.cells xs item hs hr) (addBack_live_length s.cells xs _ hs) (fun _ => h)
  · rw [if_neg h]; exact addBackGrowCrt_sized cfg s xs item ok hs hr h

theorem insertCrt_sized (cfg : Cfg) (s : State α) (xs : List α) (index : Nat) (item : Ref α) (ok : Prop)
    (hs : s.cells = xs.map Cell.live) (hi : index ≤ xs.length) (hr : Spec.refOk xs item) :
    Sized cfg s (insertCrt cfg s index false item) ((Spec.insertN xs index 1 (Spec.refVal xs item)).map Cell.live)
      ok := by
  have e := insertCrt_live cfg.keeps s.cells xs index item hs hi hr
  have hl := insertN_live_length s.cells xs index 1 (Spec.refVal xs item) hs hi
  unfold insertCrt
  by_cases h : s.cells.length + 1 > capacity cfg s
  · rw [if_pos h]; exact .grow (s := s) _ e hl (Nat.le_succ _) (Nat.not_le_of_gt h)
  · rw [if_neg h]; exact .same e hl (fun _ => Nat.le_of_not_gt h)

theorem insertInput_sized (cfg : Cfg) (ok : Prop) : ∀ (ys : List α) (s : State α) (xs : List α) (index : Nat),
    s.cells = xs.map Cell.live → index ≤ xs.length →
    Sized cfg s (insertInput cfg s index (ys.map Cell.live)) ((Spec.insertList xs index ys).map Cell.live) ok
  | [], s, xs, index, hs, hi => by
    rw [show Spec.insertList xs index [] = xs by simp [Spec.insertList]]; exact .refl hs
  | y :: ys, s, xs, index, hs, hi => by
    have h1 := insertCrt_sized cfg s xs index (.ext (.live y)) ok hs hi trivial
    have h2 := insertInput_sized cfg ok ys _ (Spec.insertN xs index 1 y) (index + 1) h1.1
      (by rw [Spec.insertN_length xs index 1 y hi]; exact Nat.succ_le_succ hi)
    rw [Spec.insertList_cons xs index y ys hi] at h2
    exact h1.seq h2 (by
      rw [List.length_map, List.length_map, Spec.insertN_length _ _ _ _ hi, Spec.insertList_length _ _ _ hi]
      exact Nat.add_le_add_left (Nat.succ_pos _) _)

theorem insertN_sized (cfg : Cfg) (s : State α) (xs : List α) (index count : Nat) (item : Ref α) (ok : Prop)
    (hs : s.cells = xs.map Cell.live) (hi : index ≤ xs.length) (hr : Spec.refOk xs item) :
    Sized cfg s (insertN cfg s index count item)
      ((Spec.insertN xs index count (Spec.refVal xs item)).map Cell.live) ok := by
  have e := insertN_live cfg.keeps s.cells xs index count item hs hi hr
  have hl := insertN_live_length s.cells xs index count (Spec.refVal xs item) hs hi
  unfold insertN
  by_cases h : s.cells.length + count > capacity cfg s
  · rw [if_pos h]; exact .grow _ e hl (Nat.le_add_right _ _) (Nat.not_le_of_gt h)
  · rw [if_neg h]
    by_cases ha : aliasAtOrAfter s index item = true
    · rw [if_pos ha]; exact .same e hl (fun _ => Nat.le_of_not_gt h)
    · rw [if_neg ha]
      refine .same ?_ hl (fun _ => Nat.le_of_not_gt h)
      rw [hs]
      exact insertNogrowN_spec cfg.keeps xs index count item _ hi
        (good_of_not_alias s xs index item hs hr (Bool.eq_false_iff.2 ha))

theorem insertRange_sized (cfg : Cfg) (s : State α) (xs ys : List α) (index : Nat) (ok : Prop)
    (hs : s.cells = xs.map Cell.live) (hi : index ≤ xs.length) :
    Sized cfg s (insertRange cfg s index (ys.map Cell.live)) ((Spec.insertList xs index ys).map Cell.live) ok := by
  have e := insertRange_live cfg.keeps s.cells xs ys index hs hi
  have hl := insertList_live_length s.cells xs ys index hs hi
  unfold insertRange
  by_cases h : s.cells.length + (ys.map Cell.live).length > capacity cfg s
  · rw [if_pos h]; exact .grow _ e hl (Nat.le_add_right _ _) (Nat.not_le_of_gt h)
  · rw [if_neg h]; exact .same e hl (fun _ => Nat.le_of_not_gt h)

theorem setCount_sized (cfg : Cfg) (s : State α) (xs : List α) (count : Nat) (item : Ref α) (ok : Prop)
    (hs : s.cells = xs.map Cell.live) (hr : Spec.refOk xs item) :
    Sized cfg s (setCount cfg s count item) ((Spec.setCount xs count (Spec.refVal xs item)).map Cell.live) ok := by
  have hn : s.cells.length = xs.length := by rw [hs, List.length_map]
  have hl : ((Spec.setCount xs count (Spec.refVal xs item)).map Cell.live).length = count := by
    rw [List.length_map, Spec.setCount_length]
  unfold setCount
  rw [hn]
  by_cases h : count ≤ xs.length
  · rw [if_pos h, removeBack, hn, Nat.sub_sub_self h]
    refine .same ?_ hl (fun w => Nat.le_trans h (hn ▸ w.count_le))
    rw [hs, ← List.map_take, Spec.setCount, if_pos h]
  · have e : s.cells ++ List.replicate (count - xs.length) (item.read s.cells) =
        (Spec.setCount xs count (Spec.refVal xs item)).map Cell.live := by
      rw [hs, read_live xs item hr, Spec.setCount, if_neg h, List.map_append, List.map_replicate]
    rw [if_neg h]
    by_cases h2 : count ≤ capacity cfg s
    · rw [if_pos h2]; exact .same e hl (fun _ => h2)
    · rw [if_neg h2]; exact .reset _ _ _ _ e hl h2

/-- the operations that call the memory manager only for lack of room -/
def Op.sizeOp : Op α → Prop
  | .reserve _ => False
  | .shrink _ => False
  | .clear f => f = false
  | .assignFill _ _ => False
  | .assignRange _ => False
  | _ => True

/-- every operation, for every value argument (external or any element of the same array). That the invariant is kept says
    that the capacity obtained by `pvGrow`/`Reset` suffices for what `InsertNogrow`/`AddBackNogrow` then add -/
theorem step_sized (cfg : Cfg) (s : State α) (xs : List α) (op : Op α)
    (hs : s.cells = xs.map Cell.live) (hv : Spec.valid xs op) :
    Sized cfg s (step cfg s op) ((Spec.step xs op).map Cell.live) op.sizeOp := by
  have hn : s.cells.length = xs.length := by rw [hs, List.length_map]
  have fs : ∀ {k}, k ≤ xs.length → WF cfg s → k ≤ capacity cfg s := fun h w => Nat.le_trans h (hn ▸ w.count_le)
  cases op with
  | addBackCopy item => exact addBackCopy_sized cfg s xs item _ hs hv
  | addBackCrt item => exact addBackCrt_sized cfg s xs item _ hs hv
  | insertCrt index item => exact insertCrt_sized cfg s xs index item _ hs hv.1 hv.2
  | insertN index count item => exact insertN_sized cfg s xs index count item _ hs hv.1 hv.2
  | insertRange index ys => exact insertRange_sized cfg s xs ys index _ hs hv
  | insertInput index ys => exact insertInput_sized cfg _ ys s xs index hs hv
  | setCount count item => exact setCount_sized cfg s xs count item _ hs hv
  | removeBack count =>
    exact .same (by rw [hs, List.length_map, ← List.map_take]; rfl) (List.length_map _) (fs (List.length_take_le' _ _))
  | remove index count =>
    exact .same (by rw [hs]; exact remove_spec cfg.keeps xs index count hv) (List.length_map _)
      (fs (Spec.remove_length_le xs index count))
  | removeIf p =>
    exact .same (by rw [hs, removeIf_spec, filter_map_live]; rfl) (List.length_map _) (fs (List.length_filter_le _ _))
  | setItem j x =>
    exact .same (by rw [hs, ← List.map_set]; rfl) (List.length_map _) (fs (Nat.le_of_eq List.length_set))
  | oracle b => exact ⟨hs, fun w => w.oracle b, fun _ _ => ⟨rfl, rfl⟩⟩
  | clear f =>
    cases f with
    | false => exact .same (by rw [Nat.sub_self]; rfl) rfl (fun _ => Nat.zero_le _)
    | true => exact ⟨rfl, fun _ => (wf_init cfg).oracle s.oracle, fun h => Bool.noConfusion h⟩
  | reserve n => exact ⟨(reserve_cells cfg s n).trans hs, fun w => (reserve_spec cfg s n w).2.2, False.elim⟩
  | shrink n => exact ⟨(shrink_cells cfg s n).trans hs, shrink_wf cfg s n, False.elim⟩
  | assignFill count item =>
    refine ⟨?_, fun _ => (newCap_wf cfg count _ (Nat.le_of_eq List.length_replicate)).oracle s.oracle, False.elim⟩
    show List.replicate count (item.read s.cells) = _
    rw [hs, read_live xs item hv, Spec.step, List.map_replicate]
  | assignRange ys => exact ⟨rfl, fun _ => (newCap_wf cfg _ _ (Nat.le_refl _)).oracle s.oracle, False.elim⟩

theorem step_cells (cfg : Cfg) (s : State α) (xs : List α) (op : Op α)
    (hs : s.cells = xs.map Cell.live) (hv : Spec.valid xs op) :
    (step cfg s op).1.cells = (Spec.step xs op).map Cell.live :=
  (step_sized cfg s xs op hs hv).1

theorem step_wf (cfg : Cfg) (s : State α) (xs : List α) (op : Op α) (w : WF cfg s)
    (hs : s.cells = xs.map Cell.live) (hv : Spec.valid xs op) : WF cfg (step cfg s op).1 :=
  (step_sized cfg s xs op hs hv).2.1 w

/-- every reference sequence reached along `ops` from `xs` has at most `n` items: the hypothesis of the reserve clause
    (`hist`, `C05_*_reserve_no_alloc`) -/
def sizesLe : List α → List (Op α) → Nat → Prop
  | _, [], _ => True
  | xs, op :: ops, n => (Spec.step xs op).length ≤ n ∧ sizesLe (Spec.step xs op) ops n

namespace Box
variable {σ ε : Type}

/-- `run` is given through its two defining equations, which hold by `rfl` for both models (`Arr.hist`, `Seg.hist`) -/
theorem hist (B : Box σ α) (step : σ → Op α → σ × List ε) (run : σ → List (Op α) → σ × List ε)
    (run_nil : ∀ s, run s [] = (s, []))
    (run_cons : ∀ s op ops, run s (op :: ops) = ((run (step s op).1 ops).1, (step s op).2 ++ (run (step s op).1 ops).2))
    (hstep : ∀ s xs op, B.cells s = xs.map Cell.live → Spec.valid xs op →
      B.Sized s (step s op) ((Spec.step xs op).map Cell.live) op.sizeOp) :
    ∀ (ops : List (Op α)) (s : σ) (xs : List α), B.cells s = xs.map Cell.live → Spec.validAll xs ops →
      B.cells (run s ops).1 = (Spec.run xs ops).map Cell.live ∧ (B.inv s → B.inv (run s ops).1) ∧
      ∀ n, n ≤ B.cap s → (∀ op ∈ ops, op.sizeOp) → sizesLe xs ops n → (run s ops).2 = []
  | [], s, xs, hs, _ => by rw [run_nil]; exact ⟨hs, id, fun _ _ _ _ => rfl⟩
  | op :: ops, s, xs, hs, hv => by
    obtain ⟨c1, i1, n1⟩ := hstep s xs op hs hv.1
    obtain ⟨c2, i2, n2⟩ := hist B step run run_nil run_cons hstep ops _ _ c1 hv.2
    rw [run_cons]
    refine ⟨c2, fun w => i2 (i1 w), fun n hc hop hsz => ?_⟩
    obtain ⟨e, k⟩ := n1 (hop op List.mem_cons_self)
      (Nat.le_trans (Nat.le_of_eq (List.length_map _)) (Nat.le_trans hsz.1 hc))
    show (step s op).2 ++ (run (step s op).1 ops).2 = []
    rw [e, n2 n (k ▸ hc) (fun o ho => hop o (List.mem_cons_of_mem _ ho)) hsz.2]; rfl

end Box

theorem hist (cfg : Cfg) (ops : List (Op α)) (s : State α) (xs : List α) (hs : s.cells = xs.map Cell.live)
    (hv : Spec.validAll xs ops) :
    (run cfg s ops).1.cells = (Spec.run xs ops).map Cell.live ∧ (WF cfg s → WF cfg (run cfg s ops).1) ∧
    ∀ n, n ≤ capacity cfg s → (∀ op ∈ ops, op.sizeOp) → sizesLe xs ops n → (run cfg s ops).2 = [] :=
  Box.hist (box cfg) (step cfg) (run cfg) (fun _ => rfl) (fun _ _ _ => rfl) (step_sized cfg) ops s xs hs hv

/-- what a move out of element `j` may leave there: the value (copy-like move, or the copy path of
    `RelocateCreate`) or a moved-from object -/
def LeftBehind (cfg : Cfg) (x : α) (c : Cell α) : Prop := c = .live x ∨ (cfg.keeps = false ∧ c = .moved)

omit [Inhabited α] in
theorem afterMove_left (cfg : Cfg) (x : α) : LeftBehind cfg x (afterMove cfg.keeps (.live x)) := by
  unfold afterMove LeftBehind
  cases cfg.keeps <;> simp

omit [Inhabited α] in
theorem set_live_self (xs : List α) (j : Nat) (hj : j < xs.length) :
    (xs.map Cell.live).set j (.live xs[j]) = xs.map Cell.live := by
  rw [← List.getElem_map Cell.live (h := by simpa using hj), List.set_getElem_self]

/-- `InsertCrt(index, Creator<Item&&>(array[j]))` = `emplace(pos, std::move(v[j]))` -/
theorem insertCrt_move_elem (cfg : Cfg) (s : State α) (xs : List α) (index j : Nat)
    (hs : s.cells = xs.map Cell.live) (hi : index ≤ xs.length) (hj : j < xs.length) :
    (insertCrt cfg s index true (.elem j)).1.cells =
      ((Spec.insertN xs index 1 xs[j]).map Cell.live).set (if j < index then j else j + 1)
        (afterMove cfg.keeps (.live xs[j])) := by
  have hcell : cellAt (xs.map Cell.live) j = .live xs[j] := cellAt_map_live xs j hj
  have hi' : index ≤ (xs.map Cell.live).length := by rwa [List.length_map]
  have key : insertNogrowR cfg.keeps true ((xs.map Cell.live).set j (afterMove cfg.keeps (.live xs[j]))) index
      [.ext (.live xs[j])] = ((Spec.insertN xs index 1 xs[j]).map Cell.live).set (if j < index then j else j + 1)
        (afterMove cfg.keeps (.live xs[j])) := by
    rw [insertNogrowR_one _ _ _ index _ xs[j] (by rwa [List.length_set]) (good_ext true index _ _),
      insCells_set _ _ index j _ hi', insCells_live]; rfl
  unfold insertCrt
  simp only [Ref.taken, if_true, Ref.moveFrom, Ref.read, hs, hcell]
  split
  · simp only [withCells]
    rw [grow_cells _ _ _ false (Nat.succ_pos _)]
    exact key
  · exact key

/-- `Insert(index, std::move(array[j]))` including the aliasing analysis of `Array::Insert(size_t, Item&&)` -/
theorem insertMove_elem (cfg : Cfg) (s : State α) (xs : List α) (index j : Nat)
    (hs : s.cells = xs.map Cell.live) (hi : index ≤ xs.length) (hj : j < xs.length) :
    (insertMove cfg s index (.elem j)).1.cells =
      ((Spec.insertN xs index 1 xs[j]).map Cell.live).set (if j < index then j else j + 1)
        (afterMove cfg.keeps (.live xs[j])) := by
  unfold insertMove
  split
  · exact insertCrt_move_elem cfg s xs index j hs hi hj
  · rename_i h
    simp only [Bool.or_eq_true, decide_eq_true_eq, not_or] at h
    have hlt : j < index := by
      have := h.2
      simp [aliasAtOrAfter, indexOf, hs, hj] at this
      exact this
    have hcell : cellAt (xs.map Cell.live) j = .live xs[j] := cellAt_map_live xs j hj
    have hi' : index ≤ (xs.map Cell.live).length := by rwa [List.length_map]
    simp only [hs, hlt, if_true]
    rw [insertNogrowR_move_elem cfg.keeps _ index j hi' hlt, hcell,
      insertNogrowR_one cfg.keeps false _ index _ xs[j] hi' (hcell ▸ good_elem index _ j hlt), insCells_live]; rfl

omit [Inhabited α] in
theorem moveFrom_append (keeps : Bool) (xs : List α) (j : Nat) (hj : j < xs.length) :
    (Ref.elem j).moveFrom keeps (xs.map Cell.live) ++ [(Ref.elem j).read (xs.map Cell.live)] =
      ((xs ++ [xs[j]]).map Cell.live).set j (afterMove keeps (.live xs[j])) := by
  simp only [Ref.moveFrom, Ref.read, cellAt_map_live xs j hj]
  rw [List.map_append, List.set_append_left _ _ (by simpa using hj)]; rfl

/-- `RelocateCreate` with `Creator<Item&&>(array[j])`: creating first moves from the old storage, copying first
    leaves the source as it was -/
theorem addBackGrowCrt_move_elem (cfg : Cfg) (s : State α) (xs : List α) (j : Nat)
    (hs : s.cells = xs.map Cell.live) (hj : j < xs.length) :
    ∃ c, LeftBehind cfg xs[j] c ∧
      (addBackGrowCrt cfg s true (.elem j)).1.cells = ((xs ++ [xs[j]]).map Cell.live).set j c := by
  unfold addBackGrowCrt
  rw [reset_cells_grow _ _ _ _ _ _ _ _ (Nat.succ_pos _), hs]
  split
  · exact ⟨_, afterMove_left cfg _, moveFrom_append cfg.keeps xs j hj⟩
  · refine ⟨.live xs[j], Or.inl rfl, ?_⟩
    have h := set_live_self (xs ++ [xs[j]]) j (by rw [List.length_append]; omega)
    rw [List.getElem_append_left hj] at h
    rw [h, List.map_append, Ref.read, cellAt_map_live xs j hj]; rfl

/-- `AddBack(std::move(array[j]))` = `push_back(std::move(v[j]))`, all four code paths -/
theorem addBackMove_elem (cfg : Cfg) (s : State α) (xs : List α) (j : Nat)
    (hs : s.cells = xs.map Cell.live) (hj : j < xs.length) :
    ∃ c, LeftBehind cfg xs[j] c ∧
      (addBackMoveOp cfg s (.elem j)).1.cells = ((xs ++ [xs[j]]).map Cell.live).set j c := by
  unfold addBackMoveOp
  split
  · exact ⟨_, afterMove_left cfg _, hs ▸ moveFrom_append cfg.keeps xs j hj⟩
  · split
    · refine ⟨_, afterMove_left cfg _, ?_⟩
      simp only [withCells]
      rw [grow_cells _ _ _ false (Nat.succ_pos _), hs]
      exact moveFrom_append cfg.keeps xs j hj
    · exact addBackGrowCrt_move_elem cfg s xs j hs hj

/-- `AddBackVar(std::move(array[j]))` = `emplace_back(std::move(v[j]))` -/
theorem addBackCrt_move_elem (cfg : Cfg) (s : State α) (xs : List α) (j : Nat)
    (hs : s.cells = xs.map Cell.live) (hj : j < xs.length) :
    ∃ c, LeftBehind cfg xs[j] c ∧
      (addBackCrt cfg s true (.elem j)).1.cells = ((xs ++ [xs[j]]).map Cell.live).set j c := by
  unfold addBackCrt
  split
  · exact ⟨_, afterMove_left cfg _, hs ▸ moveFrom_append cfg.keeps xs j hj⟩
  · exact addBackGrowCrt_move_elem cfg s xs j hs hj

/-- storage with room for `m` items: `WF` with `m` in place of the count -/
def Fits (cfg : Cfg) (s : State α) (m : Nat) : Prop :=
  m ≤ capacity cfg s ∧ (s.internal = false → s.cap ≠ 0 → s.cap > cfg.intCap) ∧
  (s.internal = true → cfg.intCap > 0) ∧ (s.internal = false → s.cap = 0 → cfg.intCap = 0)

theorem fits_with_cells (cfg : Cfg) (s : State α) (cs : Cells α) (m : Nat) :
    Fits cfg { s with cells := cs } m ↔ Fits cfg s m := Iff.rfl

theorem fits_with_oracle (cfg : Cfg) (s : State α) (b : Bool) (m : Nat) :
    Fits cfg { s with oracle := b } m ↔ Fits cfg s m := Iff.rfl

end

theorem copyCtor_spec (cfg : Cfg) (src : State α) (f : Bool) (w : WF cfg src) :
    (copyCtor cfg src f).1.cells = src.cells ∧ WF cfg (copyCtor cfg src f).1 := by
  refine ⟨rfl, newCap_wf cfg _ src.cells ?_⟩
  by_cases h : f = true
  · rw [if_pos h]; exact Nat.le_refl _
  · rw [if_neg h]; exact w.count_le

theorem moveCtor_spec (cfg : Cfg) (src : State α) (w : WF cfg src) :
    (moveCtor cfg src).1.cells = src.cells ∧ (moveCtor cfg src).2.cells = [] ∧
    WF cfg (moveCtor cfg src).1 ∧ WF cfg (moveCtor cfg src).2 :=
  -- the new object of `moveCtor` has `oracle` at its default `false`
  ⟨rfl, rfl, w.oracle false, (wf_init cfg).oracle src.oracle⟩

theorem moveAssign_spec (cfg : Cfg) (dst src : State α) (w : WF cfg src) :
    (moveAssign cfg dst src).1.cells = src.cells ∧ (moveAssign cfg dst src).2.1.cells = [] ∧
    WF cfg (moveAssign cfg dst src).1 ∧ WF cfg (moveAssign cfg dst src).2.1 := by
  obtain ⟨_, _, w1, w2⟩ := moveCtor_spec cfg src w
  exact ⟨rfl, rfl, w1.oracle dst.oracle, w2⟩

theorem copyAssign_spec (cfg : Cfg) (dst src : State α) :
    (copyAssign cfg dst src).1.cells = src.cells ∧ WF cfg (copyAssign cfg dst src).1 :=
  ⟨rfl, copyAssign_wf cfg dst src⟩

theorem swap_spec (cfg : Cfg) (a b : State α) (wa : WF cfg a) (wb : WF cfg b) :
    (swap a b).1.cells = b.cells ∧ (swap a b).2.cells = a.cells ∧ WF cfg (swap a b).1 ∧ WF cfg (swap a b).2 :=
  ⟨rfl, rfl, wb.oracle a.oracle, wa.oracle b.oracle⟩

theorem wf_iff_fits (cfg : Cfg) (s : State α) : WF cfg s ↔ Fits cfg s s.cells.length :=
  ⟨fun w => ⟨w.count_le, w.ext_gt, w.int_pos, w.null_only⟩, fun f => ⟨f.1, f.2.1, f.2.2.1, f.2.2.2⟩⟩

end Momo.Arr
