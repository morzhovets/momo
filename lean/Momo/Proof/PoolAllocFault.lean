import Momo.Proof.PoolAllocFrame
import Momo.Model.PoolAllocFault
/-!
  C20, layer A with a failing base allocator (model: Model/PoolAllocFault): what an `allocate` that throws changes
  (`FOutcome`, `allocFail_effect`), preservation of the invariant (`fstep_inv`), and the provenance theorem for histories with
  faults: `frun_err` (no provenance error while `rawSingle` is false) with `frun_oneType` (one value-type class per pool keeps
  it false).  Histories without faults are the histories of `FOp.ok`s: `fstep_ok`, `frun_ok` (the suffix is the constructor's name).
-/
namespace Momo.PoolAlloc

theorem fstep_of_err {s : Sys} {e : Err} (h : s.err = some e) (op : FOp) : fstep s op = s := by
  simp [fstep, h]

theorem frun_of_err {s : Sys} {e : Err} (h : s.err = some e) (ops : List FOp) : frun s ops = s := by
  induction ops with
  | nil => rfl
  | cons op ops ih => simp [frun, List.foldl_cons, fstep_of_err h]; exact ih

theorem frun_cons (s : Sys) (op : FOp) (ops : List FOp) : frun s (op :: ops) = frun (fstep s op) ops := rfl

theorem frun_append (s : Sys) (a b : List FOp) : frun s (a ++ b) = frun (frun s a) b := by
  simp [frun, List.foldl_append]

theorem fstep_ok (s : Sys) (op : Op) : fstep s (.ok op) = step s op := by
  by_cases he : s.err.isSome = true
  · simp [fstep, step, he]
  · simp [fstep, he]

theorem frun_ok (s : Sys) (ops : List Op) : frun s (ops.map .ok) = run s ops := by
  induction ops generalizing s with
  | nil => rfl
  | cons op ops ih => rw [List.map_cons, frun_cons, fstep_ok, run_cons, ih]

/-- the possible results of one operation of a history with faults; the re-parameterisation of an idle pool (`reparam`) is the
    only thing a request that throws can have done -/
inductive FOutcome (s : Sys) : FOp → Sys → Prop
  | ok {op : Op} {s' : Sys} (o : Outcome s op s') : FOutcome s (.ok op) s'
  | illegal (p : Nat) (cls : Cls) (n : Nat) : FOutcome s (.allocFail p cls n) (s.fail .illegal)
  | reparam {p : Nat} {st : PoolSt} {cls : Cls} (hl : livePool s p = some st) (hc : cls ≠ st.params)
      (hidle : st.allocCount = 0) :
      FOutcome s (.allocFail p cls 1)
        { s with pools := s.pools.set p { st with params := cls },
                 base := s.base.filter (fun e => !(e.pid == p && e.kind == .buf)) }
  | same {p : Nat} {st : PoolSt} (hl : livePool s p = some st) (cls : Cls) (n : Nat) : FOutcome s (.allocFail p cls n) s
  | newFail : FOutcome s .newFail s

theorem fstep_outcome {s : Sys} (h0 : s.err = none) (op : FOp) : FOutcome s op (fstep s op) := by
  have he : ¬ s.err.isSome = true := by simp [h0]
  cases op with
  | ok o => rw [fstep_ok]; exact .ok (step_outcome h0 o)
  | newFail => simp only [fstep, if_neg he]; exact .newFail
  | allocFail p cls n =>
    simp only [fstep, if_neg he]
    fun_cases doAllocFail s p cls n
    any_goals exact .illegal p cls n
    next st hl _ hre => obtain ⟨rfl, hc, hidle⟩ := hre; exact .reparam hl hc hidle
    next st hl _ _ => exact .same hl cls n

theorem allocFail_effect {s s' : Sys} {p : Nat} {cls : Cls} {n : Nat} (o : FOutcome s (.allocFail p cls n) s')
    (hok : s'.err = none) :
    ∃ st st', s'.blocks = s.blocks ∧ SetAt s.pools s'.pools p st st' ∧ st'.refs = st.refs ∧
      ∀ x : Base, x.pid ≠ p → (x ∈ s'.base ↔ x ∈ s.base) := by
  cases o with
  | illegal => cases hok
  | reparam hl => exact ⟨_, _, rfl, .set (livePool_eq_some.mp hl).1 _, rfl, fun x hx => mem_filter_other hx _⟩
  | same hl => exact ⟨_, _, rfl, .refl (livePool_eq_some.mp hl).1, rfl, fun _ _ => Iff.rfl⟩

theorem FOutcome.inv {s s' : Sys} {op : FOp} (o : FOutcome s op s') (hi : Inv s) (hok : s'.err = none) : Inv s' := by
  cases o with
  | ok o => exact o.inv hi hok
  | illegal => cases hok
  | same | newFail => exact hi
  | @reparam p st cls hl hc hidle =>
    obtain ⟨hst, hd⟩ := livePool_eq_some.mp hl
    -- an idle pool has no live pool block
    have hnoblk : ∀ b ∈ s.blocks, ∀ q, b.prov = .pool q → b.pid ≠ p := by
      intro b hb q hq hbp
      have hcnt := hi.count p st hst
      rw [hidle] at hcnt
      exact absurd (by simp [isPoolBlk, hbp, hq]) (List.countP_eq_zero.mp hcnt.symm b hb)
    exact ⟨hi.nodup, fun b hb => ListFacts.getElem?_set_exists hst (hi.alive b hb) fun _ _ => hd,
      fun b hb q hq => ⟨ListFacts.getElem?_set_exists hst (hi.poolBlk b hb q hq).1 fun hj => absurd hj (hnoblk b hb q hq),
        (hi.poolBlk b hb q hq).2⟩,
      ListFacts.getElem?_set_forall (fun j a _ h => hi.count j a h) (hi.count p st hst),
      fun e he hk => hi.rawBase e (List.mem_filter.mp he).1 hk,
      fun e he hk => ListFacts.getElem?_set_exists hst (hi.ownBase e (List.mem_filter.mp he).1 hk) fun _ _ => hd,
      ListFacts.getElem?_set_forall (fun j a _ h => hi.refs j a h) (hi.refs p st hst), hi.rawN⟩

theorem fstep_inv {s : Sys} (hi : Inv s) (op : FOp) (hok : (fstep s op).err = none) : Inv (fstep s op) := by
  cases h0 : s.err with
  | none => exact (fstep_outcome h0 op).inv hi hok
  | some e => rw [fstep_of_err h0]; exact hi

theorem fstep_rawSingle_mono (s : Sys) (op : FOp) (h : (fstep s op).rawSingle = false) : s.rawSingle = false := by
  cases h0 : s.err with
  | some e => rwa [fstep_of_err h0] at h
  | none =>
    generalize hs' : fstep s op = s' at h
    have o := hs' ▸ fstep_outcome h0 op
    cases o with
    | ok o => exact o.rawSingle_mono h
    | _ => exact h

theorem frun_rawSingle_mono (s : Sys) (ops : List FOp) (h : (frun s ops).rawSingle = false) : s.rawSingle = false := by
  induction ops generalizing s with
  | nil => exact h
  | cons op ops ih => exact fstep_rawSingle_mono s op (ih (fstep s op) h)

theorem run_rawSingle_mono (s : Sys) (ops : List Op) (h : (run s ops).rawSingle = false) : s.rawSingle = false :=
  frun_rawSingle_mono s (ops.map .ok) (frun_ok s ops ▸ h)

theorem FOutcome.err {s s' : Sys} {op : FOp} (o : FOutcome s op s') (hi : Inv s) (h0 : s.err = none)
    (hrs : s'.rawSingle = false) : s'.err = none ∨ s'.err = some .illegal := by
  cases o with
  | ok o => exact o.err hi h0 hrs
  | illegal => exact Or.inr rfl
  | _ => exact Or.inl h0

theorem frun_err {s : Sys} (hi : Inv s) (h0 : s.err = none) (ops : List FOp)
    (hrs : (frun s ops).rawSingle = false) :
    ((frun s ops).err = none ∧ Inv (frun s ops)) ∨ (frun s ops).err = some .illegal := by
  induction ops generalizing s with
  | nil => left; exact ⟨h0, hi⟩
  | cons op ops ih =>
    rw [frun_cons] at hrs ⊢
    cases he : (fstep s op).err with
    | none => exact ih (fstep_inv hi op he) he hrs
    | some e =>
      rw [frun_of_err he] at hrs ⊢
      right
      rcases (fstep_outcome h0 op).err hi h0 hrs with h | h
      · rw [h] at he; cases he
      · exact h

/-- the model's `FOneTypePerPool` without its `match` -/
theorem foneType_iff {κ : Nat → Cls} {ops : List FOp} :
    FOneTypePerPool κ ops ↔ ∀ p cls id ms, FOp.ok (.alloc p cls 1 id ms) ∈ ops → cls = κ p := by
  refine ⟨fun h p cls id ms hm => h _ hm, fun h op hop => ?_⟩
  cases op with
  | ok o =>
    cases o with
    | alloc p cls n id ms =>
      match n with
      | 0 | _ + 2 => trivial
      | 1 => exact h p cls id ms hop
    | _ => trivial
  | _ => trivial

theorem FOutcome.busyParams {κ : Nat → Cls} {s s' : Sys} {op : FOp} (o : FOutcome s op s') (hK : BusyParams κ s)
    (hop : ∀ p cls id ms, op = .ok (.alloc p cls 1 id ms) → cls = κ p) :
    BusyParams κ s' ∧ (s.rawSingle = false → s'.rawSingle = false) := by
  cases o with
  | ok o => exact o.busyParams hK fun p cls id ms e => hop p cls id ms (e ▸ rfl)
  | illegal | same | newFail => exact ⟨hK, id⟩
  | reparam _ _ hidle => exact ⟨ListFacts.getElem?_set_forall (fun j a _ h => hK j a h) fun h => absurd hidle h, id⟩

theorem fstep_busyParams {κ : Nat → Cls} {s : Sys} (hK : BusyParams κ s) (op : FOp)
    (hop : ∀ p cls id ms, op = .ok (.alloc p cls 1 id ms) → cls = κ p) :
    BusyParams κ (fstep s op) ∧ (s.rawSingle = false → (fstep s op).rawSingle = false) := by
  cases h0 : s.err with
  | none => exact (fstep_outcome h0 op).busyParams hK hop
  | some e => rw [fstep_of_err h0]; exact ⟨hK, id⟩

theorem frun_oneType {κ : Nat → Cls} {s : Sys} (hK : BusyParams κ s) (hrs : s.rawSingle = false) (ops : List FOp)
    (h1 : FOneTypePerPool κ ops) : BusyParams κ (frun s ops) ∧ (frun s ops).rawSingle = false := by
  induction ops generalizing s with
  | nil => exact ⟨hK, hrs⟩
  | cons op ops ih =>
    obtain ⟨hK', hrs'⟩ :=
      fstep_busyParams hK op fun p cls id ms e => foneType_iff.mp h1 p cls id ms (e ▸ List.mem_cons_self)
    exact ih hK' (hrs' hrs) fun o ho => h1 o (List.mem_cons_of_mem _ ho)

/-- `OneTypePerPool` also restricts `deallocate`; that part is not needed -/
theorem oneType_map {κ : Nat → Cls} {ops : List Op} (h : OneTypePerPool κ ops) : FOneTypePerPool κ (ops.map .ok) :=
  foneType_iff.mpr fun p cls id ms hm => by
    obtain ⟨op, hop, e⟩ := List.mem_map.mp hm
    cases e
    exact h _ hop

end Momo.PoolAlloc
