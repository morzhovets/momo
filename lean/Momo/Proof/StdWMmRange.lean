import Momo.Proof.StdWMmBase
import Momo.Proof.StdWrapErase
/-!
  C06 history theorem, `unordered_multimap`: what `erase(first, last)` decides
  (`eraseRangeMM` on the flat traversal) for each documented range, and what the action does to the table.
-/
namespace Momo.StdW
open Momo.StdWrap List
open Momo.StdSpec hiding Item

theorem mmKeys_length (m : MM) : (mmKeys m).length = (MM.pairs m).length := length_map _

theorem nextMM_pos (ks : List Nat) (p : Nat) (mv : Bool) (hp : p < ks.length) :
    (nextMM ks ⟨p, mv⟩).pos = if p + 1 < gend ks p then p + 1 else if mv then p + 1 else ks.length := by
  simp only [nextMM, next_in_run_iff ks p hp]
  split
  · rfl
  · split <;> rfl

/-- `[first, MakeIterator(keyIter, count))` with `first` at the first value of its key: `erase(first)` when the key
    has this one value, else `RemoveKey` -/
theorem eraseRangeMM_run (ks : List Nat) (p : Nat) (hp : p < ks.length) (hs : isRunStart ks p = true) (mv mv' : Bool) :
    eraseRangeMM ks ⟨p, mv⟩ ⟨makeIterEnd ks ⟨p, mv⟩, mv'⟩ = if gend ks p = p + 1 then .one p else .key p := by
  have hb := lt_gend_le ks p hp
  have h1 : p ≠ makeIterEnd ks ⟨p, mv⟩ := by
    cases mv
    · exact Nat.ne_of_lt hp
    · exact Nat.ne_of_lt hb.1
  have h2 : (nextMM ks ⟨p, mv⟩).pos = makeIterEnd ks ⟨p, mv⟩ ↔ gend ks p = p + 1 := by
    rw [nextMM_pos ks p mv hp]
    by_cases hg : p + 1 < gend ks p
    · rw [if_pos hg]
      cases mv
      · exact iff_of_false (Nat.ne_of_lt (Nat.lt_of_lt_of_le hg hb.2)) (Nat.ne_of_gt hg)
      · exact eq_comm
    · have he : gend ks p = p + 1 := Nat.le_antisymm (Nat.le_of_not_lt hg) hb.1
      rw [if_neg hg]
      cases mv
      · exact iff_of_true rfl he
      · exact eq_comm
  rw [eraseRangeMM, if_neg h1]
  by_cases hg : gend ks p = p + 1
  · rw [if_pos ⟨Nat.ne_of_lt hp, h2.mpr hg⟩, if_pos hg]
  · rw [if_neg fun h => hg (h2.mp h.2), if_pos ⟨Nat.ne_of_lt hp, hs, rfl⟩, if_neg hg]

theorem eraseRangeMM_whole (ks : List Nat) :
    eraseRangeMM ks ⟨0, true⟩ ⟨ks.length, true⟩ =
      if ks.length = 0 then .unchanged else if ks.length = 1 then .one 0
      else if ks.length = gend ks 0 then .key 0 else .all := by
  rw [eraseRangeMM, nextMM_mv]
  by_cases h0 : ks.length = 0
  · rw [if_pos h0.symm, if_pos h0]
  · rw [if_neg (Ne.symm h0), if_neg h0]
    by_cases h1 : ks.length = 1
    · rw [if_pos ⟨Ne.symm h0, h1.symm⟩, if_pos h1]
    · rw [if_neg fun h => h1 h.2.symm, if_neg h1]
      by_cases h2 : ks.length = gend ks 0
      · rw [if_pos ⟨Ne.symm h0, rfl, h2⟩, if_pos h2]
      · rw [if_neg fun h => h2 h.2.2, if_neg h2, if_pos ⟨rfl, rfl⟩]

theorem wmEraseRange_empty (m : MM) : wmEraseRange m .empty = (m, .done) := by
  simp [wmEraseRange, mRangeIters, eraseRangeMM]

theorem findIdx_beq_of_mem (l : List Item) (x : Item) (hx : x ∈ l) :
    l.findIdx (· == x) < l.length ∧ l[l.findIdx (· == x)]? = some x := by
  have hlt : l.findIdx (· == x) < l.length := findIdx_lt_length.mpr ⟨x, hx, beq_self_eq_true x⟩
  exact ⟨hlt, (getElem?_eq_getElem hlt).trans (congrArg some (beq_iff_eq.mp (findIdx_getElem (w := hlt))))⟩

theorem wmEraseRange_single (m : MM) (x : Item) (mv : Bool) (hx : x ∈ MM.pairs m) :
    wmEraseRange m (.single x mv) = (wmEraseElem m x, .done) := by
  obtain ⟨hlt, hget⟩ := findIdx_beq_of_mem (MM.pairs m) x hx
  rw [← mmKeys_length] at hlt
  have h1 : (MM.pairs m).findIdx (· == x) ≠ (nextMM (mmKeys m) ⟨(MM.pairs m).findIdx (· == x), mv⟩).pos := by
    rw [nextMM_pos _ _ mv hlt]
    split
    · exact Nat.ne_of_lt (Nat.lt_succ_self _)
    · split
      · exact Nat.ne_of_lt (Nat.lt_succ_self _)
      · exact Nat.ne_of_lt hlt
  rw [wmEraseRange, mRangeIters, eraseRangeMM, if_neg h1, if_pos ⟨Nat.ne_of_lt hlt, rfl⟩]
  simp only [hget]

/-- unlike its siblings not an equation: depending on the table the decision is `unchanged`, `.one 0`, `.key 0` or `.all`, and what is left
    may still hold keys without values; what the history needs is that no pair is left -/
theorem wmEraseRange_whole (m : MM) (hn : KeysNodup m) :
    MM.pairs (wmEraseRange m .whole).1 = [] ∧ (wmEraseRange m .whole).2 = .done ∧ KeysNodup (wmEraseRange m .whole).1 := by
  rw [wmEraseRange, mRangeIters, ← mmKeys_length, eraseRangeMM_whole, mmKeys_length]
  by_cases h0 : (MM.pairs m).length = 0
  · rw [if_pos h0]; exact ⟨length_eq_zero_iff.mp h0, rfl, hn⟩
  · rw [if_neg h0]
    have hlt : 0 < (MM.pairs m).length := Nat.pos_of_ne_zero h0
    by_cases h1 : (MM.pairs m).length = 1
    · -- one pair: `erase(first)` removes it
      obtain ⟨x, hx⟩ := length_eq_one_iff.mp h1
      obtain ⟨p1, p2⟩ := wmEraseElem_rel (Perm.refl _) hn x (hx ▸ mem_singleton_self x)
      rw [hx, erase_cons_head] at p1
      rw [if_pos h1]; simp only [hx, getElem?_cons_zero]
      exact ⟨perm_nil.mp p1, trivial, p2⟩
    · rw [if_neg h1]
      by_cases h2 : (MM.pairs m).length = gend (mmKeys m) 0
      · -- `RemoveKey` of the first key: the whole traversal is one run of that key
        rw [if_pos h2]; simp only [getElem?_eq_getElem hlt]
        refine ⟨?_, trivial, hn.filter _⟩
        rw [pairs_removeKey, filter_eq_nil_iff]
        intro y hy
        obtain ⟨q, hq, rfl⟩ := mem_iff_getElem.mp hy
        have := run_key (mmKeys m) 0 q (mmKeys_length m ▸ hlt) (Nat.zero_le q) (h2 ▸ hq)
        simp only [mmKeys, getElem?_map, getElem?_eq_getElem hq, getElem?_eq_getElem hlt, Option.map_some,
          Option.some.injEq] at this
        simp only [this, bne_self_eq_false, Bool.false_eq_true, not_false_eq_true]
      · rw [if_neg h2]; exact ⟨rfl, rfl, keysNodup_nil⟩

theorem wmEraseRange_key (m : MM) (hn : KeysNodup m) (k : Nat) (mv : Bool) (hk : hasKey k (MM.pairs m) = true) :
    wmEraseRange m (.wholeKey k mv) = (mmRemoveKey m k, .done) := by
  have hpos : 0 < ((m.lookup k).getD []).length := of_decide_eq_true ((hasKey_lookup m hn k).trans hk)
  cases hlk : m.lookup k with
  | none => rw [hlk] at hpos; exact absurd hpos (Nat.lt_irrefl 0)
  | some vs =>
    obtain ⟨A, B, hA', hB', hP', _⟩ := entry_split m hn k vs hlk
    obtain ⟨v0, vs', rfl⟩ : ∃ v0 vs', vs = v0 :: vs' :=
      exists_cons_of_ne_nil fun h => by rw [hlk, h] at hpos; exact absurd hpos (Nat.lt_irrefl 0)
    have hA : k ∉ A.map (·.1) := fun h => by obtain ⟨x, hx, hxk⟩ := mem_map.mp h; exact hA' x hx hxk
    have hB : (B.map (·.1)).head? ≠ some k := fun h => by
      obtain ⟨x, hx, hxk⟩ := mem_map.mp (mem_of_mem_head? h); exact hB' x hx hxk
    have hP : MM.pairs m = A ++ ((k, v0) :: (vs'.map (fun v => (k, v)) ++ B)) := hP'
    have hK : mmKeys m = A.map (·.1) ++ k :: (replicate vs'.length k ++ B.map (·.1)) := by
      rw [mmKeys, hP, map_append, map_cons, map_append, map_map, ← map_const']; rfl
    have hgs : (MM.pairs m).findIdx (fun e => e.1 == k) = (A.map (·.1)).length := by
      have h1 : A.findIdx (fun e => e.1 == k) = A.length := findIdx_eq_length.mpr fun x hx => beq_false_of_ne (hA' x hx)
      rw [hP, findIdx_append, h1, if_neg (Nat.lt_irrefl _), findIdx_cons, beq_self_eq_true, cond_true, Nat.zero_add,
        length_map]
    have hlen : (A.map (·.1)).length < (mmKeys m).length := by
      rw [hK, length_append, length_cons]; exact Nat.lt_add_of_pos_right (Nat.succ_pos _)
    have hget : (MM.pairs m)[(A.map (·.1)).length]? = some (k, v0) := by
      rw [hP, length_map, getElem?_append_right (Nat.le_refl _), Nat.sub_self, getElem?_cons_zero]
    have hgend : gend (mmKeys m) (A.map (·.1)).length = (A.map (·.1)).length + 1 + vs'.length :=
      hK ▸ gend_layout _ _ k _ hB
    rw [wmEraseRange, mRangeIters, hgs, eraseRangeMM_run _ _ hlen (hK ▸ isRunStart_layout _ _ k hA), hgend]
    cases vs' with
    | nil =>
      -- one value: `erase(first)`, which removes the key because this is its only value
      simp only [length_nil, Nat.add_zero, if_true, hget, wmEraseElem, hlk, Option.getD_some, length_singleton]
    | cons v1 rest =>
      simp only [length_cons, if_neg (Nat.ne_of_gt (Nat.lt_add_of_pos_right (Nat.succ_pos rest.length))), hget]

end Momo.StdW
