import Momo.Proof.ColumnsInv
/-!
# Rows: `pvCreate` / `pvCreateRaw` / `DestroyRaw` / `ImportRaw` — lemmas for C18

The exact event lists of the creation loops, when no construction throws and when the `i`-th one does; under the
invariant the function records cover every column exactly once, in order; replaying the events on the set of live
item slots never constructs a live slot or destroys a dead one. At each of the three levels (`createGroup`: one `Add` call's items,
`createLoop`: the function records, `createRaw`: the row) `_all` / `_none` / `_late` is "no construction among these throws" and `_fault` is
"the `i`-th one does".
-/
namespace Momo.Col

theorem createGroup_all {srcOf : ColRec → Option Nat} {rs : List ColRec} {k : Option Nat}
    (h : ∀ i, k = some i → rs.length ≤ i) :
    createGroup srcOf rs k = (rs.map (ctorEv srcOf), true, k.map (· - rs.length)) := by
  induction rs generalizing k with
  | nil => cases k <;> rfl
  | cons r rs ih =>
    unfold createGroup
    rw [if_neg (fun e => Nat.not_succ_le_zero _ (h 0 e)), ih (k := k.map (· - 1))]
    · cases k with
      | none => rfl
      | some i => simp only [Option.map_some, List.map_cons, List.length_cons, Nat.sub_sub, Nat.add_comm 1]
    · intro j hj
      cases k with
      | none => cases hj
      | some i => cases hj; exact Nat.le_sub_of_add_le (h i rfl)

theorem createGroup_fault {srcOf : ColRec → Option Nat} {rs : List ColRec} {i : Nat} (h : i < rs.length) :
    ∃ k', createGroup srcOf rs (some i) =
      ((rs.take i).map (ctorEv srcOf) ++ ((rs.take i).reverse.map (fun r => Ev.destroy r.offset)), false, k') := by
  induction rs generalizing i with
  | nil => simp at h
  | cons r rs ih =>
    cases i with
    | zero => exact ⟨some 0, by simp [createGroup]⟩
    | succ j =>
      simp only [List.length_cons] at h
      obtain ⟨k', hk⟩ := ih (i := j) (by omega)
      refine ⟨k', ?_⟩
      unfold createGroup
      rw [if_neg (by simp)]
      have : (some (j + 1)).map (· - 1) = some j := rfl
      rw [this, hk]
      simp

/-- under `Inv` the groups of all function records are the columns (`groupsOf_all`) -/
def groupsOf (st : State) (frs : List FuncRec) : List ColRec := (frs.map (group st)).flatten

theorem groupsOf_cons (st : State) (fr : FuncRec) (frs : List FuncRec) :
    groupsOf st (fr :: frs) = group st fr ++ groupsOf st frs := by simp [groupsOf]

theorem groupsOf_snoc (st : State) (fr : FuncRec) (frs : List FuncRec) :
    groupsOf st (frs ++ [fr]) = groupsOf st frs ++ group st fr := by simp [groupsOf]

theorem destroy_flatten (st : State) (done : List FuncRec) :
    (done.map (fun d => destroyGroup (group st d))).flatten = (groupsOf st done).map (fun r => Ev.destroy r.offset) := by
  induction done with
  | nil => rfl
  | cons d ds ih => rw [List.map_cons, List.flatten_cons, ih, groupsOf_cons, List.map_append]; rfl

theorem createLoop_all {st : State} {srcOf : ColRec → Option Nat} {frs done : List FuncRec} {k : Option Nat}
    (h : ∀ i, k = some i → (groupsOf st frs).length ≤ i) :
    createLoop st srcOf frs done k = ((groupsOf st frs).map (ctorEv srcOf), true) := by
  induction frs generalizing done k with
  | nil => rfl
  | cons fr frs ih =>
    simp only [groupsOf_cons, List.length_append] at h
    unfold createLoop
    rw [createGroup_all (fun i hi => Nat.le_trans (Nat.le_add_right _ _) (h i hi))]
    simp only [groupsOf_cons, List.map_append]
    rw [ih]
    intro j hj
    cases k with
    | none => cases hj
    | some i => cases hj; exact Nat.le_sub_of_add_le (Nat.add_comm _ _ ▸ h i rfl)

theorem createLoop_fault {st : State} {srcOf : ColRec → Option Nat} {frs done : List FuncRec} {i : Nat}
    (h : i < (groupsOf st frs).length) :
    ∃ ds : List Nat, createLoop st srcOf frs done (some i) =
        (((groupsOf st frs).take i).map (ctorEv srcOf) ++ ds.map Ev.destroy, false) ∧
      ds.Perm ((((groupsOf st frs).take i) ++ groupsOf st done).map (·.offset)) := by
  induction frs generalizing done i with
  | nil => simp [groupsOf] at h
  | cons fr frs ih =>
    rw [groupsOf_cons, List.length_append] at h
    by_cases hg : i < (group st fr).length
    · obtain ⟨k', hk⟩ := createGroup_fault (srcOf := srcOf) hg
      refine ⟨((group st fr).take i).reverse.map (·.offset) ++ (groupsOf st done).map (·.offset), ?_, ?_⟩
      · unfold createLoop
        rw [hk]
        simp only [destroy_flatten, groupsOf_cons, List.take_append_of_le_length (Nat.le_of_lt hg),
          List.map_append, List.append_assoc, List.map_map]
        rfl
      · rw [groupsOf_cons, List.take_append_of_le_length (Nat.le_of_lt hg), List.map_append]
        exact List.Perm.append_right _ (List.Perm.map _ (List.reverse_perm _))
    · have hge : (group st fr).length ≤ i := Nat.le_of_not_lt hg
      obtain ⟨ds, hds, hperm⟩ := ih (done := done ++ [fr]) (i := i - (group st fr).length) (by omega)
      refine ⟨ds, ?_, ?_⟩
      · unfold createLoop
        rw [createGroup_all (fun j hj => by cases hj; exact hge)]
        simp only [Option.map_some, hds, groupsOf_cons, List.take_append, List.take_of_length_le hge, List.map_append,
          List.append_assoc]
      · refine hperm.trans ?_
        rw [groupsOf_cons, groupsOf_snoc, List.take_append, List.take_of_length_le hge]
        apply List.Perm.map
        rw [← List.append_assoc, List.append_assoc (group st fr)]
        exact List.perm_append_comm

theorem tiles_groups (cols : List ColRec) {s e : Nat} {frs : List FuncRec} (h : Tiles s frs e) :
    (frs.map (fun fr => (cols.drop fr.columnIndex).take fr.count)).flatten = (cols.drop s).take (e - s) := by
  induction frs generalizing s with
  | nil => cases h; simp
  | cons fr frs ih =>
    have hle := h.2.le
    rw [List.map_cons, List.flatten_cons, ih h.2, h.1]
    have : e - s = fr.count + (e - (s + fr.count)) := by omega
    rw [this, List.take_add, List.drop_drop]

theorem groupsOf_all {c : Cfg} {st : State} (h : Inv c st) : groupsOf st st.funcRecs = st.columns := by
  unfold groupsOf
  have := tiles_groups st.columns h.funcs
  simp only [List.drop_zero, Nat.sub_zero, List.take_length] at this
  exact this

theorem replay_append (xs ys : List Ev) (live : List Nat) :
    replay (xs ++ ys) live = (replay xs live).bind (replay ys) := by
  induction xs generalizing live with
  | nil => rfl
  | cons x xs ih =>
    cases x with
    | create o => simp only [List.cons_append, replay]; split <;> simp [ih]
    | copy s o => simp only [List.cons_append, replay]; split <;> simp [ih]
    | destroy o => simp only [List.cons_append, replay]; split <;> simp [ih]

theorem replay_ctor {srcOf : ColRec → Option Nat} {rs : List ColRec} {live : List Nat}
    (hnd : (rs.map (·.offset)).Nodup) (hdis : ∀ r ∈ rs, r.offset ∉ live) :
    replay (rs.map (ctorEv srcOf)) live = some ((rs.map (·.offset)).reverse ++ live) := by
  induction rs generalizing live with
  | nil => rfl
  | cons r rs ih =>
    rw [List.map_cons, List.nodup_cons] at hnd
    have hr : r.offset ∉ live := hdis r (by simp)
    have hrec := ih (live := r.offset :: live) hnd.2 (by
      intro r' hr' hmem
      rcases List.mem_cons.mp hmem with heq | hmem
      · exact hnd.1 (heq ▸ List.mem_map_of_mem hr')
      · exact hdis r' (by simp [hr']) hmem)
    have hc : live.contains r.offset = false := by
      simpa [List.contains_iff_mem] using hr
    rw [List.map_cons]
    have hce : (ctorEv srcOf r = Ev.create r.offset) ∨ ∃ s, ctorEv srcOf r = Ev.copy s r.offset := by
      unfold ctorEv; cases srcOf r <;> simp
    rcases hce with h | ⟨s, h⟩ <;>
      (rw [h]; simp only [replay, hc, Bool.false_eq_true, if_false]; rw [hrec]; simp)

theorem replay_destroy {ds live : List Nat} (hl : live.Nodup) (hd : ds.Nodup) (hsub : ∀ d ∈ ds, d ∈ live) :
    replay (ds.map Ev.destroy) live = some (live.filter (fun x => !ds.contains x)) := by
  induction ds generalizing live with
  | nil =>
    simp only [List.map_nil, replay, List.contains_nil, Bool.not_false, Option.some.injEq]
    exact (List.filter_eq_self.mpr (fun _ _ => rfl)).symm
  | cons d ds ih =>
    rw [List.nodup_cons] at hd
    have hdl : d ∈ live := hsub d (by simp)
    have hc : live.contains d = true := by simpa [List.contains_iff_mem] using hdl
    rw [List.map_cons]
    simp only [replay, hc, if_true]
    rw [hl.erase_eq_filter]
    rw [ih (hl.filter _) hd.2 (by
      intro x hx
      rw [List.mem_filter]
      refine ⟨hsub x (by simp [hx]), ?_⟩
      have : x ≠ d := fun h => hd.1 (h ▸ hx)
      simpa using this)]
    rw [List.filter_filter]
    congr 1
    apply List.filter_congr
    intro x _
    simp only [List.contains_cons, Bool.not_or]
    by_cases hxd : x = d <;> simp [hxd, bne, Bool.and_comm]

theorem createRaw_none {c : Cfg} {st : State} (h : Inv c st) (src : Src) :
    createRaw st src none = (st.columns.map (ctorEv (srcOf src)), true) := by
  unfold createRaw
  rw [createLoop_all (k := none) (fun _ h => nomatch h), groupsOf_all h]

theorem createRaw_late {c : Cfg} {st : State} (h : Inv c st) (src : Src) (i : Nat) (hi : st.columns.length ≤ i) :
    createRaw st src (some i) = (st.columns.map (ctorEv (srcOf src)), true) := by
  unfold createRaw
  rw [createLoop_all (fun j hj => by cases hj; rw [groupsOf_all h]; exact hi), groupsOf_all h]

theorem createRaw_fault {c : Cfg} {st : State} (h : Inv c st) (src : Src) (i : Nat) (hi : i < st.columns.length) :
    ∃ ds : List Nat, createRaw st src (some i) =
        ((st.columns.take i).map (ctorEv (srcOf src)) ++ ds.map Ev.destroy, false) ∧
      ds.Perm ((st.columns.take i).map (·.offset)) := by
  unfold createRaw
  obtain ⟨ds, h1, h2⟩ := createLoop_fault (done := []) (by rw [groupsOf_all h]; exact hi)
  rw [groupsOf_all h] at h1 h2
  exact ⟨ds, h1, by simpa [groupsOf] using h2⟩

theorem destroyRaw_eq {c : Cfg} {st : State} (h : Inv c st) :
    destroyRaw st = st.columns.map (fun r => Ev.destroy r.offset) := by
  unfold destroyRaw
  rw [destroy_flatten, groupsOf_all h]

theorem replay_create {c : Cfg} {st : State} (h : Inv c st) (src : Src) :
    replay (createRaw st src none).1 [] = some (st.columns.map (·.offset)).reverse := by
  rw [createRaw_none h, replay_ctor h.offsets_nodup (by simp)]
  simp

theorem replay_destroy_all {offs live : List Nat} (hl : live.Nodup) (hd : offs.Nodup)
    (h1 : ∀ d ∈ offs, d ∈ live) (h2 : ∀ x ∈ live, x ∈ offs) :
    replay (offs.map Ev.destroy) live = some [] := by
  rw [replay_destroy hl hd h1]
  congr 1
  rw [List.filter_eq_nil_iff]
  intro x hx
  simp [h2 x hx]

theorem replay_create_destroy {c : Cfg} {st : State} (h : Inv c st) (src : Src) :
    replay ((createRaw st src none).1 ++ destroyRaw st) [] = some [] := by
  rw [replay_append, replay_create h, destroyRaw_eq h]
  simp only [Option.bind_some]
  have : st.columns.map (fun r => Ev.destroy r.offset) = (st.columns.map (·.offset)).map Ev.destroy := by
    rw [List.map_map]; rfl
  rw [this]
  exact replay_destroy_all ((List.reverse_perm _).nodup_iff.mpr h.offsets_nodup) h.offsets_nodup
    (fun d hd => List.mem_reverse.mpr hd) (fun x hx => List.mem_reverse.mp hx)

theorem replay_fault {c : Cfg} {st : State} (h : Inv c st) (src : Src) (i : Nat) (hi : i < st.columns.length) :
    (createRaw st src (some i)).2 = false ∧ replay (createRaw st src (some i)).1 [] = some [] := by
  obtain ⟨ds, h1, h2⟩ := createRaw_fault h src i hi
  rw [h1]
  refine ⟨rfl, ?_⟩
  have hnd : ((st.columns.take i).map (·.offset)).Nodup :=
    (List.Sublist.map _ (List.take_sublist i st.columns)).nodup h.offsets_nodup
  simp only
  rw [replay_append, replay_ctor hnd (by simp)]
  simp only [List.append_nil, Option.bind_some]
  exact replay_destroy_all ((List.reverse_perm _).nodup_iff.mpr hnd) (h2.nodup_iff.mpr hnd)
    (fun d hd => List.mem_reverse.mpr (h2.mem_iff.mp hd)) (fun x hx => h2.mem_iff.mpr (List.mem_reverse.mp hx))

theorem import_source {c' : Cfg} {src : State} (h : Inv c' src) (r : ColRec) :
    (∀ r' ∈ src.columns, r'.code = r.code → srcOf (.other c' src) r = some r'.offset) ∧
    (r.code ∉ src.columns.map (·.code) → srcOf (.other c' src) r = none) := by
  constructor
  · intro r' hr' hc
    simp only [srcOf]
    rw [← hc]; exact contains_added h hr'
  · intro hc
    simp only [srcOf]
    exact contains_not_added h hc

end Momo.Col
