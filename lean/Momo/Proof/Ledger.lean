import Momo.Model.Ledger
import Momo.Proof.ListFacts
/-!
  The list-level specification of C03 and its agreement with the monitor (core Lean only).

  The specification is stated on the LIST of events, without a machine state: block `b` is open as `(m, n)` after `pre` iff the last
  `alloc` / `dealloc` about `b` in `pre` is `alloc m b n` (`lastB`, `OpenAs`); element `e` is alive iff its last life-cycle event begins it
  (`lastE`, `Alive`); `Disciplined tr`: every event of `tr` is `Admissible` after the events before it.
  `StepOK s ev` / `next s ev` say when `Ledger.step` accepts and what it returns (`step_iff`); after an accepted trace the monitor's
  lookups are `OpenAs` / `Alive` of the trace (`state_blocks`, `state_elems`), and the rest follows from that.
-/
namespace Momo.Ledger

variable {β : Type} [DecidableEq β]
set_option linter.unusedSectionVars false

def Ev.lifeB (b : β) : Ev β → Bool
  | .alloc _ b' _ => decide (b' = b)
  | .dealloc _ b' _ => decide (b' = b)
  | _ => false

def Ev.begins (e : Nat) : Ev β → Bool
  | .construct e' => decide (e' = e)
  | .relocate _ d => decide (d = e)
  | _ => false

def Ev.ends (e : Nat) : Ev β → Bool
  | .destroy e' => decide (e' = e)
  | .relocate s _ => decide (s = e)
  | _ => false

def Ev.lifeE (e : Nat) (ev : Ev β) : Bool := ev.begins e || ev.ends e

def lastB (b : β) (pre : List (Ev β)) : Option (Ev β) := (pre.filter (Ev.lifeB b)).getLast?
def lastE (e : Nat) (pre : List (Ev β)) : Option (Ev β) := (pre.filter (Ev.lifeE e)).getLast?

/-- after `pre`, block `b` is outstanding, obtained from manager class `m` with size `n` -/
def OpenAs (b : β) (m n : Nat) (pre : List (Ev β)) : Prop := lastB b pre = some (.alloc m b n)
def Open (b : β) (pre : List (Ev β)) : Prop := ∃ m n, OpenAs b m n pre

/-- after `pre` the element `e` exists: its last life-cycle event begins it; the clause `ev.ends e = false` excludes `relocate e e`,
    which both begins and ends `e` -/
def Alive (e : Nat) (pre : List (Ev β)) : Prop := ∃ ev, lastE e pre = some ev ∧ ev.begins e = true ∧ ev.ends e = false

/-- what C03 allows as the next event after the history `pre` -/
def Admissible (pre : List (Ev β)) : Ev β → Prop
  | .alloc _ b _ => ¬ Open b pre
  | .dealloc m b n => OpenAs b m n pre
  | .construct e => ¬ Alive e pre
  | .destroy e => Alive e pre
  | .relocate s d => s ≠ d ∧ Alive s pre ∧ ¬ Alive d pre
  | .use e => Alive e pre
  | .touch b off len => ∃ m n, OpenAs b m n pre ∧ off + len ≤ n

def Disciplined (tr : List (Ev β)) : Prop :=
  ∀ pre ev post, tr = pre ++ ev :: post → Admissible pre ev

def NothingLeft (tr : List (Ev β)) : Prop := (∀ b, ¬ Open b tr) ∧ (∀ e, ¬ Alive (β := β) e tr)

theorem findB_eraseB (b b' : β) (l : Blocks β) :
    findB b (eraseB b' l) = if b' = b then none else findB b l := by
  induction l with
  | nil => simp [eraseB, findB]
  | cons x r ih =>
    simp only [eraseB, List.filter] at ih ⊢
    by_cases h : x.1 = b'
    · simp only [h, ne_eq, not_true_eq_false, decide_false]
      rw [ih]
      by_cases hb : b' = b
      · simp [hb]
      · simp [hb, findB, h]
    · simp only [ne_eq, h, not_false_eq_true, decide_true, findB]
      rw [ih]
      by_cases hb : b' = b
      · subst hb; simp [h]
      · simp [hb]

theorem memE_eraseE (e e' : Nat) (l : List Nat) :
    memE e (eraseE e' l) = if e' = e then false else memE e l := by
  induction l with
  | nil => simp [eraseE, memE]
  | cons x r ih =>
    simp only [eraseE, List.filter] at ih ⊢
    by_cases h : x = e'
    · simp only [h, ne_eq, not_true_eq_false, decide_false]
      rw [ih]
      by_cases hb : e' = e
      · simp [hb]
      · simp [hb, memE]
    · simp only [ne_eq, h, not_false_eq_true, decide_true, memE]
      rw [ih]
      by_cases hb : e' = e
      · subst hb; simp [h]
      · simp [hb]

theorem eq_nil_of_findB_none {l : Blocks β} (h : ∀ b, findB b l = none) : l = [] := by
  cases l with
  | nil => rfl
  | cons x r => have := h x.1; simp [findB] at this

theorem eq_nil_of_memE_false {l : List Nat} (h : ∀ e, memE e l = false) : l = [] := by
  cases l with
  | nil => rfl
  | cons x r => have := h x; simp [memE] at this

def StepOK (s : St β) : Ev β → Prop
  | .alloc _ b _ => findB b s.blocks = none
  | .dealloc m b n => findB b s.blocks = some (m, n)
  | .construct e => memE e s.elems = false
  | .destroy e => memE e s.elems = true
  | .relocate a d => a ≠ d ∧ memE a s.elems = true ∧ memE d s.elems = false
  | .use e => memE e s.elems = true
  | .touch b off len => ∃ m n, findB b s.blocks = some (m, n) ∧ off + len ≤ n

def next (s : St β) : Ev β → St β
  | .alloc m b n => { s with blocks := (b, m, n) :: s.blocks }
  | .dealloc _ b _ => { s with blocks := eraseB b s.blocks }
  | .construct e => { s with elems := e :: s.elems }
  | .destroy e => { s with elems := eraseE e s.elems }
  | .relocate a d => { s with elems := d :: eraseE a s.elems }
  | .use _ => s
  | .touch _ _ _ => s

theorem step_iff (s s1 : St β) (ev : Ev β) : step s ev = .ok s1 ↔ StepOK s ev ∧ next s ev = s1 := by
  cases ev with
  | alloc m b n =>
    simp only [step, StepOK, next]
    cases findB b s.blocks <;> simp
  | dealloc m b n =>
    simp only [step, StepOK, next]
    cases findB b s.blocks with
    | none => simp
    | some p =>
      obtain ⟨m0, n0⟩ := p
      by_cases hm : m0 = m <;> by_cases hn : n0 = n <;> simp [hm, hn]
  | construct e =>
    simp only [step, StepOK, next]
    cases memE e s.elems <;> simp
  | destroy e =>
    simp only [step, StepOK, next]
    cases memE e s.elems <;> simp
  | relocate a d =>
    simp only [step, StepOK, next]
    by_cases had : a = d
    · simp [had]
    · cases memE a s.elems <;> cases memE d s.elems <;> simp [had]
  | use e =>
    simp only [step, StepOK, next]
    cases memE e s.elems <;> simp
  | touch b off len =>
    simp only [step, StepOK, next]
    cases findB b s.blocks with
    | none => simp
    | some p =>
      obtain ⟨m0, n0⟩ := p
      by_cases hle : off + len ≤ n0
      · simp only [hle, if_true, Except.ok.injEq]
        exact ⟨fun h => ⟨⟨m0, n0, rfl, hle⟩, h⟩, fun h => h.2⟩
      · simp only [hle, if_false]
        exact ⟨fun h => (nomatch h), fun ⟨⟨m, n, h, hle'⟩, _⟩ => by cases h; exact absurd hle' hle⟩

theorem findB_next (s : St β) (ev : Ev β) (b : β) :
    findB b (next s ev).blocks =
      match ev with
      | .alloc m b' n => if b' = b then some (m, n) else findB b s.blocks
      | .dealloc _ b' _ => if b' = b then none else findB b s.blocks
      | _ => findB b s.blocks := by
  cases ev with
  | dealloc m b' n => exact findB_eraseB b b' s.blocks
  | _ => rfl

theorem memE_next (s : St β) (ev : Ev β) (e : Nat) :
    memE e (next s ev).elems =
      match ev with
      | .construct e' => if e' = e then true else memE e s.elems
      | .destroy e' => if e' = e then false else memE e s.elems
      | .relocate a d => if d = e then true else if a = e then false else memE e s.elems
      | _ => memE e s.elems := by
  cases ev with
  | destroy e' => exact memE_eraseE e e' s.elems
  | relocate a d => simp only [next, memE, memE_eraseE]
  | _ => rfl

theorem run_append (s : St β) (a b : List (Ev β)) :
    run s (a ++ b) = (run s a).bind (fun s1 => run s1 b) := by
  induction a generalizing s with
  | nil => simp [run]
  | cons ev r ih =>
    simp only [List.cons_append, run]
    split
    · exact ih _
    · rfl

theorem run_snoc {s s2 : St β} {pre : List (Ev β)} {ev : Ev β} :
    run s (pre ++ [ev]) = some s2 ↔ ∃ s1, run s pre = some s1 ∧ StepOK s1 ev ∧ next s1 ev = s2 := by
  rw [run_append]
  cases hr : run s pre with
  | none => simp
  | some s1 =>
    simp only [Option.bind_some, run, Option.some.injEq, exists_eq_left', ← step_iff]
    cases hs : step s1 ev <;> simp

theorem run_cons_ok {s : St β} {ev : Ev β} (h : StepOK s ev) (r : List (Ev β)) : run s (ev :: r) = run (next s ev) r := by
  simp only [run, (step_iff s _ ev).mpr ⟨h, rfl⟩]

theorem run_cons_reject {s : St β} {ev : Ev β} (h : ¬ StepOK s ev) (r : List (Ev β)) : run s (ev :: r) = none := by
  cases hs : step s ev with
  | ok s1 => exact absurd ((step_iff s s1 ev).mp hs).1 h
  | error e => simp only [run, hs]

theorem run_prefix {s s2 : St β} {a b : List (Ev β)} (h : run s (a ++ b) = some s2) :
    ∃ s1, run s a = some s1 ∧ run s1 b = some s2 := by
  rw [run_append] at h
  cases hr : run s a with
  | none => rw [hr] at h; cases h
  | some s1 => rw [hr] at h; exact ⟨s1, rfl, h⟩

@[simp] theorem lastB_nil (b : β) : lastB b ([] : List (Ev β)) = none := rfl
@[simp] theorem lastE_nil (e : Nat) : lastE e ([] : List (Ev β)) = none := rfl

theorem openAs_snoc (b : β) (m n : Nat) (pre : List (Ev β)) (ev : Ev β) :
    OpenAs b m n (pre ++ [ev]) ↔ if ev.lifeB b then ev = .alloc m b n else OpenAs b m n pre := by
  unfold OpenAs lastB
  rw [ListFacts.getLast?_filter_snoc]
  split <;> simp

theorem alive_snoc (e : Nat) (pre : List (Ev β)) (ev : Ev β) :
    Alive e (pre ++ [ev]) ↔ if ev.lifeE e then ev.begins e = true ∧ ev.ends e = false else Alive e pre := by
  unfold Alive lastE
  rw [ListFacts.getLast?_filter_snoc]
  split <;> simp

theorem state_blocks {pre : List (Ev β)} : ∀ {s : St β}, run St.init pre = some s →
    ∀ b m n, findB b s.blocks = some (m, n) ↔ OpenAs b m n pre := by
  induction pre using ListFacts.snoc_induction with
  | nil =>
    intro s h b m n
    cases h
    simp [St.init, findB, OpenAs]
  | append_singleton pre ev ih =>
    intro s2 h b m n
    obtain ⟨s1, h1, -, rfl⟩ := run_snoc.mp h
    rw [findB_next, openAs_snoc, ← ih h1 b m n]
    cases ev with
    | alloc m' b' n' => by_cases hb : b' = b <;> simp [Ev.lifeB, hb]
    | dealloc m' b' n' => by_cases hb : b' = b <;> simp [Ev.lifeB, hb]
    | _ => simp [Ev.lifeB]

theorem state_elems {pre : List (Ev β)} : ∀ {s : St β}, run St.init pre = some s →
    ∀ e, memE e s.elems = true ↔ Alive e pre := by
  induction pre using ListFacts.snoc_induction with
  | nil =>
    intro s h e
    cases h
    simp [St.init, memE, Alive]
  | append_singleton pre ev ih =>
    intro s2 h e
    obtain ⟨s1, h1, hok, rfl⟩ := run_snoc.mp h
    rw [memE_next, alive_snoc, ← ih h1 e]
    cases ev with
    | construct e' => by_cases hb : e' = e <;> simp [Ev.lifeE, Ev.begins, Ev.ends, hb]
    | destroy e' => by_cases hb : e' = e <;> simp [Ev.lifeE, Ev.begins, Ev.ends, hb]
    | relocate a d =>
      -- a relocation onto itself is not accepted, so the event does not both begin and end `e`
      have had : a ≠ d := hok.1
      by_cases hd : d = e
      · subst hd; simp [Ev.lifeE, Ev.begins, Ev.ends, had]
      · by_cases ha : a = e <;> simp [Ev.lifeE, Ev.begins, Ev.ends, hd, ha]
    | _ => simp [Ev.lifeE, Ev.begins, Ev.ends]

theorem state_open {pre : List (Ev β)} {s : St β} (h : run St.init pre = some s) (b : β) :
    findB b s.blocks = none ↔ ¬ Open b pre := by
  constructor
  · intro hn ⟨m, n, ho⟩
    rw [(state_blocks h b m n).mpr ho] at hn; cases hn
  · intro hn
    cases hf : findB b s.blocks with
    | none => rfl
    | some p => exact absurd ⟨p.1, p.2, (state_blocks h b p.1 p.2).mp hf⟩ hn

theorem state_dead {pre : List (Ev β)} {s : St β} (h : run St.init pre = some s) (e : Nat) :
    memE e s.elems = false ↔ ¬ Alive e pre := by
  rw [← state_elems h e]; cases memE e s.elems <;> simp

theorem stepOK_iff_admissible {pre : List (Ev β)} {s : St β} (h : run St.init pre = some s) (ev : Ev β) :
    StepOK s ev ↔ Admissible pre ev := by
  cases ev with
  | alloc m b n => exact state_open h b
  | dealloc m b n => exact state_blocks h b m n
  | construct e => exact state_dead h e
  | destroy e => exact state_elems h e
  | relocate a d =>
    simp only [StepOK, Admissible]
    rw [state_elems h a, state_dead h d]
  | use e => exact state_elems h e
  | touch b off len =>
    simp only [StepOK, Admissible]
    constructor
    · rintro ⟨m, n, hf, hle⟩; exact ⟨m, n, (state_blocks h b m n).mp hf, hle⟩
    · rintro ⟨m, n, hf, hle⟩; exact ⟨m, n, (state_blocks h b m n).mpr hf, hle⟩

theorem disciplined_of_run {tr : List (Ev β)} {s : St β} (h : run St.init tr = some s) : Disciplined tr := by
  intro pre ev post htr
  subst htr
  obtain ⟨s1, h1, h2⟩ := run_prefix h
  by_cases hok : StepOK s1 ev
  · exact (stepOK_iff_admissible h1 ev).mp hok
  · rw [run_cons_reject hok] at h2; cases h2

theorem Disciplined.prefix {a b : List (Ev β)} (h : Disciplined (a ++ b)) : Disciplined a := by
  intro pre ev post htr
  exact h pre ev (post ++ b) (by rw [htr]; simp)

theorem run_of_disciplined {tr : List (Ev β)} (h : Disciplined tr) : ∃ s, run St.init tr = some s := by
  induction tr using ListFacts.snoc_induction with
  | nil => exact ⟨St.init, rfl⟩
  | append_singleton pre ev ih =>
    obtain ⟨s1, h1⟩ := ih h.prefix
    have hadm : Admissible pre ev := h pre ev [] rfl
    exact ⟨_, run_snoc.mpr ⟨s1, h1, (stepOK_iff_admissible h1 ev).mpr hadm, rfl⟩⟩

theorem clean_iff_nothingLeft {tr : List (Ev β)} {s : St β} (h : run St.init tr = some s) :
    s.clean = true ↔ NothingLeft tr := by
  unfold St.clean NothingLeft
  constructor
  · intro hc
    simp only [Bool.and_eq_true, List.isEmpty_iff] at hc
    refine ⟨fun b => (state_open h b).mp (by rw [hc.1]; rfl), fun e => (state_dead h e).mp (by rw [hc.2]; rfl)⟩
  · rintro ⟨hb, he⟩
    have h1 : s.blocks = [] := eq_nil_of_findB_none (fun b => (state_open h b).mpr (hb b))
    have h2 : s.elems = [] := eq_nil_of_memE_false (fun e => (state_dead h e).mpr (he e))
    simp [h1, h2]

end Momo.Ledger
