import Momo.Proof.PoolAny
/-!
  State machine of `MemPool` (C09) for `blockCount == 1`: the destructor, `MergeFrom` (386-397 of MemPool.h: flush of the
  other pool's cache, transfer of `allocCount`; there are no buffers to relink), and legal histories of single-block pools
  including merges.
-/
namespace Momo.Pool

/-- every event gives one single-block allocation back (a `free` of `P.singleSize` bytes) -/
def FreesOnly1 (P : Params) (evs : List Ev) : Prop := ∀ e ∈ evs, ∃ a, e = .free a P.singleSize

theorem Frees.freesOnly1 {P : Params} {sg sg' : List (Int × Int)} {evs : List Ev}
    (h : Frees (owned1 P sg) evs (owned1 P sg')) : FreesOnly1 P evs ∧ evs.length + sg'.length = sg.length := by
  obtain ⟨hall, hlen⟩ := h.events
  refine ⟨fun e hm => ?_, by simpa only [owned1, List.length_map] using hlen⟩
  obtain ⟨r, hr, rfl⟩ := hall e hm
  obtain ⟨x, _, rfl⟩ := List.mem_map.mp hr
  exact ⟨_, rfl⟩

/-- `~MemPool` (227-234), `blockCount == 1`: the flush, if there is a cache -/
theorem destroy_single_ok {P : Params} (hN1 : P.N = 1) {p : Pool} (h : SingleWF P p) (h0 : p.allocCount = 0) :
    ∃ p' evs, destroy P p = .ok () p' evs ∧ p'.singles = [] ∧ p'.store = [] ∧ Frees (owned1 P p.singles) evs [] := by
  obtain ⟨p1, e1, hf1, hwf1, hc1, _, ha1, hl1, _⟩ := flushIf_any (Or.inl hN1) (h.any hN1)
  have hwf1 := hwf1.singleWF hN1
  have hs : p1.singles = [] := by
    have := hwf1.count; rw [hc1, ha1, h0] at this
    exact List.eq_nil_of_length_eq_zero this.symm
  rw [held_single hN1, held_single hN1, hs] at hl1
  refine ⟨p1, e1, ?_, hs, hwf1.noBuffers.1, hl1⟩
  unfold destroy
  rw [if_neg (by simpa using h0), if_neg (by omega)]; exact hf1

/-- `MergeFrom` (386-397), `blockCount == 1`, for pools whose recorded blocks are different addresses (they hold different
    memory of one manager). The last conjunct: every recorded block of the source was in its cache (and is freed) or is
    transferred. -/
theorem mergeFrom_single_ok {P : Params} (hN1 : P.N = 1) {a b : Pool} (ha : SingleWF P a) (hb : SingleWF P b)
    (hdis : ∀ x ∈ a.singles.map (·.1), x ∉ b.singles.map (·.1)) :
    ∃ a' evs, mergeFrom P a b = .ok Pool.empty a' evs ∧ SingleWF P a' ∧
      (a'.live P).Perm (a.live P ++ b.live P) ∧ a'.allocCount = a.allocCount + b.allocCount ∧
      a'.cache = a.cache ∧
      Frees (owned1 P (a.singles ++ b.singles)) evs (owned1 P a'.singles) ∧
      evs.length = b.cache.length ∧
      (b.singles.map (·.1)).Perm (b.cache ++ (a'.singles.map (·.1)).filter (fun x => !(a.singles.map (·.1)).contains x)) := by
  obtain ⟨b1, e1, hf, hwf1, hc1, hlive1, hal1, hl1, hkeys1, _⟩ := flushIf_any (Or.inl hN1) (hb.any hN1)
  have hwf1 := hwf1.singleWF hN1
  rw [held_single hN1, held_single hN1] at hl1
  have hkeys1 : (b.singles.map (·.1)).Perm (b.cache ++ b1.singles.map (·.1)) := by
    simpa only [Pool.blocks, if_neg (by omega : ¬ P.N > 1)] using hkeys1
  have hcnt1 := hl1.freesOnly1.2
  have hlen1 : e1.length = b.cache.length := by
    have := hkeys1.length_eq
    simp only [List.length_map, List.length_append] at this
    omega
  have hsub1 : ∀ x ∈ b1.singles.map (·.1), x ∈ b.singles.map (·.1) := fun x hx =>
    hkeys1.symm.subset (List.mem_append_right _ hx)
  have hpost1 : b1.post = [] := hwf1.noBuffers.2.2
  have hdis1 : ∀ x ∈ a.singles.map (·.1), x ∉ b1.singles.map (·.1) := fun x hx hm => hdis x hx (hsub1 x hm)
  obtain ⟨hst1, hpre1, _⟩ := hwf1.noBuffers
  have hkeysU : (a.singles.map (·.1) ++ b1.singles.map (·.1)).Nodup :=
    List.nodup_append.mpr ⟨ha.keys, hwf1.keys, fun x hx y hy e => hdis1 x hx (e ▸ hy)⟩
  obtain ⟨hok, hfil⟩ := ha.cacheOK.absorb (hc1 ▸ hwf1.cacheOK) hdis1
  rw [← List.map_append] at hok hfil
  refine ⟨{ a with allocCount := a.allocCount + b1.allocCount, singles := a.singles ++ b1.singles }, e1 ++ [], ?_,
    ?_, ?_, by show a.allocCount + b1.allocCount = _; rw [hal1], rfl, ?_, by simpa using hlen1, ?_⟩
  · unfold mergeFrom
    rw [hf]; simp only [Outcome.bind, hpost1, hst1, hpre1, hc1, Pool.empty]
  · refine ⟨ha.noBuffers, by rw [List.map_append]; exact hkeysU, fun e he => ?_, hok.nodup, hok.sub, ha.cacheOff,
      by have := hok.count; rwa [List.length_map] at this⟩
    exact (List.mem_append.mp he).elim (ha.entries e) (hwf1.entries e)
  · rw [live1_eq hN1, live1_eq hN1 a]
    show (((a.singles ++ b1.singles).map (·.1)).filter (fun x => !a.cache.contains x)).Perm _
    rw [hfil, ← live1_of_cache_nil hN1 hc1]
    exact hlive1.symm.append_left _
  · simpa [owned1] using hl1.frame (owned1 P a.singles)
  · show (b.singles.map (·.1)).Perm (b.cache ++ (((a.singles ++ b1.singles).map (·.1)).filter _))
    rw [List.map_append]
    exact hkeys1.trans (List.Perm.append_left _ (filter_not_mem_of_perm_append hkeysU (List.Perm.refl _)).symm)

/-- legal histories of pools with `blockCount == 1`, with all calls made to the memory manager so far. `Deallocate` is
    applied to live blocks only; the manager honours `Contract1`; two pools are merged only if their recorded blocks are
    different addresses (they hold different memory of the manager they share). -/
inductive Reach1 (P : Params) : Pool → List Ev → Prop
  | init : Reach1 P Pool.empty []
  | alloc {p es orc blk p' evs} : Reach1 P p es → Contract1 P p orc →
      allocate P p orc = .ok blk p' evs → Reach1 P p' (es ++ evs)
  | allocFail {p es orc p' evs} : Reach1 P p es → Contract1 P p orc →
      allocate P p orc = .badAlloc p' evs → Reach1 P p' (es ++ evs)
  | dealloc {p es blk p' evs} : Reach1 P p es → blk ∈ p.live P →
      deallocate P p blk = .ok () p' evs → Reach1 P p' (es ++ evs)
  | merge {a ea b eb b' a' evs} : Reach1 P a ea → Reach1 P b eb →
      (∀ x ∈ a.singles.map (·.1), x ∉ b.singles.map (·.1)) →
      mergeFrom P a b = .ok b' a' evs → Reach1 P a' (ea ++ eb ++ evs)

/-- the ledger of all events so far is exactly the memory a single-block pool holds (`ledger1Is_iff_settles`) -/
def Ledger1Is (P : Params) (es : List Ev) (sg : List (Int × Int)) : Prop :=
  ∃ L, ledger [] es = some L ∧ L.Perm (owned1 P sg)

theorem ledger1Is_iff_settles {P : Params} {es : List Ev} {sg : List (Int × Int)} :
    Ledger1Is P es sg ↔ Settles [] es (owned1 P sg) := Iff.rfl

theorem Ledger1Is.step {P : Params} {es evs : List Ev} {sg sg' : List (Int × Int)} (h : Ledger1Is P es sg)
    (hl : Ledger1OK P sg evs sg') : Ledger1Is P (es ++ evs) sg' :=
  Settles.trans h hl

theorem Reach1.inv {P : Params} (hL : P.Legal) (hN1 : P.N = 1) {p : Pool} {es : List Ev} (h : Reach1 P p es) :
    SingleWF P p ∧ Ledger1Is P es p.singles := by
  induction h with
  | init => exact ⟨SingleWF.empty P, [], rfl, by simp [owned1, Pool.empty]⟩
  | @alloc p es orc blk p' evs _ hc he ih =>
    have := allocate_single_ok hL hN1 ih.1 hc
    rw [he] at this
    exact ⟨this.1.wf, ih.2.step this.1.ledger⟩
  | @allocFail p es orc p' evs _ hc he ih =>
    have := allocate_single_ok hL hN1 ih.1 hc
    rw [he] at this
    obtain ⟨rfl, rfl, _⟩ := this
    exact ⟨ih.1, by simpa using ih.2⟩
  | @dealloc p es blk p' evs _ hb he ih =>
    obtain ⟨p2, e2, h2, hs⟩ := deallocate_single_ok hN1 ih.1 blk hb
    rw [he] at h2; cases h2
    exact ⟨hs.wf, ih.2.step hs.ledger⟩
  | @merge a ea b eb b' a' evs _ _ hdis he iha ihb =>
    obtain ⟨a2, e2, h2, hwf, _, _, _, hl, _⟩ := mergeFrom_single_ok hN1 iha.1 ihb.1 hdis
    rw [he] at h2; cases h2
    refine ⟨hwf, ?_⟩
    have hboth : Ledger1Is P (ea ++ eb) (a.singles ++ b.singles) := by
      unfold Ledger1Is owned1; rw [List.map_append]; exact Settles.both iha.2 ihb.2
    exact hboth.step hl.settles

end Momo.Pool
