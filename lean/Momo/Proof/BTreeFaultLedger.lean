import Momo.Model.BTreeFault
/-!
  C04 / C10 for the B-tree family, what the fault layer needs of its own model alone: the ledger algebra (an identity of
  ledgers is the same identity of integers six times: one integer lemma, lifted by `Ledger.ext'`), what a container owns
  (`own_eq`), the world bookkeeping as sums, the schedules without faults of a kind, and the item-copy loop of a relocation that
  may throw (`copyLoop_spec`, `copyLoop_undo`). Core Lean only.

  Suffixes of this area (`BTreeFault*`): `x_led` is the `.led` projection of the world `x` as a record, `x_led_eq` the same as
  a sum or difference `w.led ± …` (`x_neg_led_eq`: of `x (-d)`, as a difference); `f_spec` says what `f` does for every schedule
  and ends, where a theorem needs it, with "no fault of the kinds `f` consults is scheduled, so `f` returns" (`createInners`,
  `mergeFastF`, the bulk operations and the merges lack the clause: no theorem says that they return); `f_free`: `f` leaves the
  ledger alone and without faults is the fault-free function; `f_frame`: the ledger moves with what the container owns
  (`Frame`); `f_counts`: node counts of a fault-free result. A prime (`Ledger.add_assoc'`, `Ledger.ext'`) marks the hand-made
  ledger version of what core Lean has for `Int` or would generate for a structure under that name.
-/
namespace Momo.BTreeF
open Momo Momo.BTree Momo.BTree.Node
variable {α : Type}

theorem Ledger.ext' {a b : Ledger} (h1 : a.leaves = b.leaves) (h2 : a.inners = b.inners) (h3 : a.items = b.items)
    (h4 : a.aux = b.aux) (h5 : a.params = b.params) (h6 : a.crews = b.crews) : a = b := by
  cases a; cases b; cases h1; cases h2; cases h3; cases h4; cases h5; cases h6; rfl

@[simp] theorem Ledger.add_leaves (a b : Ledger) : (a + b).leaves = a.leaves + b.leaves := rfl
@[simp] theorem Ledger.add_inners (a b : Ledger) : (a + b).inners = a.inners + b.inners := rfl
@[simp] theorem Ledger.add_items (a b : Ledger) : (a + b).items = a.items + b.items := rfl
@[simp] theorem Ledger.add_aux (a b : Ledger) : (a + b).aux = a.aux + b.aux := rfl
@[simp] theorem Ledger.add_params (a b : Ledger) : (a + b).params = a.params + b.params := rfl
@[simp] theorem Ledger.add_crews (a b : Ledger) : (a + b).crews = a.crews + b.crews := rfl
@[simp] theorem Ledger.sub_leaves (a b : Ledger) : (a - b).leaves = a.leaves - b.leaves := rfl
@[simp] theorem Ledger.sub_inners (a b : Ledger) : (a - b).inners = a.inners - b.inners := rfl
@[simp] theorem Ledger.sub_items (a b : Ledger) : (a - b).items = a.items - b.items := rfl
@[simp] theorem Ledger.sub_aux (a b : Ledger) : (a - b).aux = a.aux - b.aux := rfl
@[simp] theorem Ledger.sub_params (a b : Ledger) : (a - b).params = a.params - b.params := rfl
@[simp] theorem Ledger.sub_crews (a b : Ledger) : (a - b).crews = a.crews - b.crews := rfl

@[simp] theorem Ledger.ofItems_leaves (n : Int) : (Ledger.ofItems n).leaves = 0 := rfl
@[simp] theorem Ledger.ofItems_inners (n : Int) : (Ledger.ofItems n).inners = 0 := rfl
@[simp] theorem Ledger.ofItems_items (n : Int) : (Ledger.ofItems n).items = n := rfl
@[simp] theorem Ledger.ofItems_aux (n : Int) : (Ledger.ofItems n).aux = 0 := rfl
@[simp] theorem Ledger.ofItems_params (n : Int) : (Ledger.ofItems n).params = 0 := rfl
@[simp] theorem Ledger.ofItems_crews (n : Int) : (Ledger.ofItems n).crews = 0 := rfl

@[simp] theorem nodeLed_leaves (ft : FTree α) : ft.nodeLed.leaves = ft.leaves := rfl
@[simp] theorem nodeLed_inners (ft : FTree α) : ft.nodeLed.inners = ft.inners := rfl
@[simp] theorem nodeLed_items (ft : FTree α) : ft.nodeLed.items = 0 := rfl
@[simp] theorem nodeLed_aux (ft : FTree α) : ft.nodeLed.aux = 0 := rfl
@[simp] theorem nodeLed_params (ft : FTree α) : ft.nodeLed.params = if ft.params then 1 else 0 := rfl
@[simp] theorem nodeLed_crews (ft : FTree α) : ft.nodeLed.crews = 0 := rfl

theorem Ledger.add_assoc' (a b c : Ledger) : a + b + c = a + (b + c) :=
  Ledger.ext' (Int.add_assoc ..) (Int.add_assoc ..) (Int.add_assoc ..) (Int.add_assoc ..) (Int.add_assoc ..) (Int.add_assoc ..)

theorem Ledger.add_right_comm' (a b c : Ledger) : a + b + c = a + c + b :=
  Ledger.ext' (Int.add_right_comm ..) (Int.add_right_comm ..) (Int.add_right_comm ..) (Int.add_right_comm ..)
    (Int.add_right_comm ..) (Int.add_right_comm ..)

theorem Ledger.add_zero' (l : Ledger) : l + ({} : Ledger) = l :=
  Ledger.ext' (Int.add_zero _) (Int.add_zero _) (Int.add_zero _) (Int.add_zero _) (Int.add_zero _) (Int.add_zero _)

theorem Ledger.sub_self' (l : Ledger) : l - l = ({} : Ledger) :=
  Ledger.ext' (Int.sub_self _) (Int.sub_self _) (Int.sub_self _) (Int.sub_self _) (Int.sub_self _) (Int.sub_self _)

theorem Ledger.add_sub_cancel' (l a : Ledger) : l + a - a = l :=
  Ledger.ext' (Int.add_sub_cancel ..) (Int.add_sub_cancel ..) (Int.add_sub_cancel ..) (Int.add_sub_cancel ..)
    (Int.add_sub_cancel ..) (Int.add_sub_cancel ..)

theorem int_add_eq_add_trans {a b c x y z : Int} (h1 : b + x = a + y) (h2 : c + y = b + z) : c + x = a + z := by omega

/-- transitivity of "the ledger moved with what is owned" (`l' + own = l + own'`): `Frame.trans`, `Frame2.trans` -/
theorem Ledger.add_eq_add_trans {a b c x y z : Ledger} (h1 : b + x = a + y) (h2 : c + y = b + z) : c + x = a + z :=
  Ledger.ext' (int_add_eq_add_trans (congrArg Ledger.leaves h1) (congrArg Ledger.leaves h2))
    (int_add_eq_add_trans (congrArg Ledger.inners h1) (congrArg Ledger.inners h2))
    (int_add_eq_add_trans (congrArg Ledger.items h1) (congrArg Ledger.items h2))
    (int_add_eq_add_trans (congrArg Ledger.aux h1) (congrArg Ledger.aux h2))
    (int_add_eq_add_trans (congrArg Ledger.params h1) (congrArg Ledger.params h2))
    (int_add_eq_add_trans (congrArg Ledger.crews h1) (congrArg Ledger.crews h2))

@[simp] theorem tickCmp_led (w : W) : w.tickCmp.led = w.led := rfl
@[simp] theorem tickAlloc_led (w : W) : w.tickAlloc.led = w.led := rfl
@[simp] theorem tickCtor_led (w : W) : w.tickCtor.led = w.led := rfl
@[simp] theorem tickRepl_led (w : W) : w.tickRepl.led = w.led := rfl
@[simp] theorem tickFilt_led (w : W) : w.tickFilt.led = w.led := rfl

@[simp] theorem addLeaves_led (w : W) (d : Int) : (w.addLeaves d).led = { w.led with leaves := w.led.leaves + d } := rfl
@[simp] theorem addInners_led (w : W) (d : Int) : (w.addInners d).led = { w.led with inners := w.led.inners + d } := rfl
@[simp] theorem addItems_led (w : W) (d : Int) : (w.addItems d).led = { w.led with items := w.led.items + d } := rfl
@[simp] theorem addAux_led (w : W) (d : Int) : (w.addAux d).led = { w.led with aux := w.led.aux + d } := rfl
@[simp] theorem addParams_led (w : W) (d : Int) : (w.addParams d).led = { w.led with params := w.led.params + d } := rfl
@[simp] theorem addCrews_led (w : W) (d : Int) : (w.addCrews d).led = { w.led with crews := w.led.crews + d } := rfl

@[simp] theorem addLeaves_allocN (w : W) (d : Int) : (w.addLeaves d).allocN = w.allocN := rfl
@[simp] theorem addInners_allocN (w : W) (d : Int) : (w.addInners d).allocN = w.allocN := rfl
@[simp] theorem addItems_allocN (w : W) (d : Int) : (w.addItems d).allocN = w.allocN := rfl
@[simp] theorem addAux_allocN (w : W) (d : Int) : (w.addAux d).allocN = w.allocN := rfl
@[simp] theorem addParams_allocN (w : W) (d : Int) : (w.addParams d).allocN = w.allocN := rfl
@[simp] theorem addItems_ctorN (w : W) (d : Int) : (w.addItems d).ctorN = w.ctorN := rfl
@[simp] theorem addLeaves_ctorN (w : W) (d : Int) : (w.addLeaves d).ctorN = w.ctorN := rfl
@[simp] theorem addInners_ctorN (w : W) (d : Int) : (w.addInners d).ctorN = w.ctorN := rfl

theorem addNode_led (w : W) (lf : Bool) (d : Int) :
    (w.addNode lf d).led = { w.led with leaves := w.led.leaves + (if lf then d else 0),
                                        inners := w.led.inners + (if lf then 0 else d) } := by
  cases lf <;> simp [W.addNode]

theorem addItems_led_eq (w : W) (d : Int) : (w.addItems d).led = w.led + Ledger.ofItems d :=
  Ledger.ext' (Int.add_zero _).symm (Int.add_zero _).symm rfl (Int.add_zero _).symm (Int.add_zero _).symm (Int.add_zero _).symm

theorem Ledger.ofItems_add (a b : Int) : Ledger.ofItems (a + b) = Ledger.ofItems a + Ledger.ofItems b :=
  Ledger.ext' rfl rfl rfl rfl rfl rfl

theorem addLeaves_led_eq (w : W) (d : Int) : (w.addLeaves d).led = w.led + { leaves := d } :=
  Ledger.ext' rfl (Int.add_zero _).symm (Int.add_zero _).symm (Int.add_zero _).symm (Int.add_zero _).symm (Int.add_zero _).symm

theorem addInners_led_eq (w : W) (d : Int) : (w.addInners d).led = w.led + { inners := d } :=
  Ledger.ext' (Int.add_zero _).symm rfl (Int.add_zero _).symm (Int.add_zero _).symm (Int.add_zero _).symm (Int.add_zero _).symm

theorem addParams_led_eq (w : W) (d : Int) : (w.addParams d).led = w.led + { params := d } :=
  Ledger.ext' (Int.add_zero _).symm (Int.add_zero _).symm (Int.add_zero _).symm (Int.add_zero _).symm rfl (Int.add_zero _).symm

theorem addCrews_led_eq (w : W) (d : Int) : (w.addCrews d).led = w.led + { crews := d } :=
  Ledger.ext' (Int.add_zero _).symm (Int.add_zero _).symm (Int.add_zero _).symm (Int.add_zero _).symm (Int.add_zero _).symm rfl

theorem addLeaves_neg_led_eq (w : W) (d : Int) : (w.addLeaves (-d)).led = w.led - { leaves := d } :=
  Ledger.ext' Int.sub_eq_add_neg.symm (Int.sub_zero _).symm (Int.sub_zero _).symm (Int.sub_zero _).symm (Int.sub_zero _).symm
    (Int.sub_zero _).symm

theorem addInners_neg_led_eq (w : W) (d : Int) : (w.addInners (-d)).led = w.led - { inners := d } :=
  Ledger.ext' (Int.sub_zero _).symm Int.sub_eq_add_neg.symm (Int.sub_zero _).symm (Int.sub_zero _).symm (Int.sub_zero _).symm
    (Int.sub_zero _).symm

theorem addParams_neg_led_eq (w : W) (d : Int) : (w.addParams (-d)).led = w.led - { params := d } :=
  Ledger.ext' (Int.sub_zero _).symm (Int.sub_zero _).symm (Int.sub_zero _).symm (Int.sub_zero _).symm Int.sub_eq_add_neg.symm
    (Int.sub_zero _).symm

theorem addItems_neg_led_eq (w : W) (d : Int) : (w.addItems (-d)).led = w.led - Ledger.ofItems d :=
  Ledger.ext' (Int.sub_zero _).symm (Int.sub_zero _).symm Int.sub_eq_add_neg.symm (Int.sub_zero _).symm (Int.sub_zero _).symm
    (Int.sub_zero _).symm

theorem Ledger.add_ofItems_cancel (l : Ledger) (d : Int) : l + Ledger.ofItems d + Ledger.ofItems (-d) = l := by
  rw [Ledger.add_assoc', ← Ledger.ofItems_add, Int.add_right_neg]; exact Ledger.add_zero' l

theorem Ledger.add_sub_self (l n : Ledger) : l = l + (n - n) := by rw [Ledger.sub_self', Ledger.add_zero']

theorem int_add_right_cancel {a b c : Int} (h : a + c = b + c) : a = b := by omega

theorem Ledger.add_right_cancel' {a b c : Ledger} (h : a + c = b + c) : a = b :=
  Ledger.ext' (int_add_right_cancel (congrArg Ledger.leaves h)) (int_add_right_cancel (congrArg Ledger.inners h))
    (int_add_right_cancel (congrArg Ledger.items h)) (int_add_right_cancel (congrArg Ledger.aux h))
    (int_add_right_cancel (congrArg Ledger.params h)) (int_add_right_cancel (congrArg Ledger.crews h))

@[simp] theorem own_leaves (ft : FTree α) : ft.own.leaves = ft.leaves := rfl
@[simp] theorem own_inners (ft : FTree α) : ft.own.inners = ft.inners := rfl
@[simp] theorem own_items (ft : FTree α) : ft.own.items = ft.tree.toList.length := rfl
@[simp] theorem own_aux (ft : FTree α) : ft.own.aux = 0 := rfl
@[simp] theorem own_params (ft : FTree α) : ft.own.params = if ft.params then 1 else 0 := rfl
@[simp] theorem own_crews (ft : FTree α) : ft.own.crews = 0 := rfl

theorem own_eq (ft : FTree α) : ft.own = ft.nodeLed + Ledger.ofItems ft.tree.toList.length :=
  Ledger.ext' (Int.add_zero _).symm (Int.add_zero _).symm (Int.zero_add _).symm rfl (Int.add_zero _).symm rfl

theorem int_frame_of_delta {l n n' k L L' : Int} (h : L' = L + k) : l + (n' - n) + k + (n + L) = l + (n' + L') := by omega

/-- the frame of one container from the ledger of an operation: node difference plus `k` items (`Frame.of_delta`) -/
theorem Ledger.frame_of_delta {l l' n n' : Ledger} {L L' k : Int} (hl : l' = l + (n' - n) + Ledger.ofItems k)
    (hL : L' = L + k) : l' + (n + Ledger.ofItems L) = l + (n' + Ledger.ofItems L') := by
  subst hl
  exact Ledger.ext' (int_frame_of_delta rfl) (int_frame_of_delta rfl) (int_frame_of_delta hL) (int_frame_of_delta rfl)
    (int_frame_of_delta rfl) (int_frame_of_delta rfl)

theorem int_frame_of_move {l s s' d d' a a' b b' : Int} (h : a' + b' = a + b) :
    l + (s' - s) + (d' - d) + (s + a) + (d + b) = l + (s' + a') + (d' + b') := by omega

/-- the frame of two containers between which items went over (`Frame2.of_transfer`) -/
theorem Ledger.frame_of_move {l l' s s' d d' : Ledger} {Ls Ls' Ld Ld' : Int} (hl : l' = l + (s' - s) + (d' - d))
    (h : Ls' + Ld' = Ls + Ld) :
    l' + (s + Ledger.ofItems Ls) + (d + Ledger.ofItems Ld) = l + (s' + Ledger.ofItems Ls') + (d' + Ledger.ofItems Ld') := by
  subst hl
  exact Ledger.ext' (int_frame_of_move rfl) (int_frame_of_move rfl) (int_frame_of_move h) (int_frame_of_move rfl)
    (int_frame_of_move rfl) (int_frame_of_move rfl)

/-- `S.NoCmp` … `S.NoFilt` and their conjunction `S.Clean` are the hypotheses of the "so it returns" clauses and of the
    agreement with the fault-free model (`rebalanceF_free`, `C04_tree_usable_after`). -/
def Sched.NoCmp (S : Sched) : Prop := ∀ i, S.cmp i = false
def Sched.NoAlloc (S : Sched) : Prop := ∀ i, S.alloc i = false
def Sched.NoCtor (S : Sched) : Prop := ∀ i, S.ctor i = false
def Sched.NoRepl (S : Sched) : Prop := ∀ i, S.repl i = false
def Sched.NoFilt (S : Sched) : Prop := ∀ i, S.filt i = false

structure Sched.Clean (S : Sched) : Prop where
  cmp : S.NoCmp
  alloc : S.NoAlloc
  ctor : S.NoCtor
  repl : S.NoRepl
  filt : S.NoFilt

theorem Sched.clean_clean : Sched.clean.Clean := ⟨fun _ => rfl, fun _ => rfl, fun _ => rfl, fun _ => rfl, fun _ => rfl⟩

theorem copyLoop_spec (S : Sched) (n : Nat) (w : W) :
    (copyLoop S n w).2.2.led = w.led + Ledger.ofItems (copyLoop S n w).1 ∧
    ((copyLoop S n w).2.1 = false → (copyLoop S n w).1 = n) ∧
    (S.NoCtor → (copyLoop S n w).2.1 = false) := by
  induction n generalizing w with
  | zero => exact ⟨(Ledger.add_zero' _).symm, fun _ => rfl, fun _ => rfl⟩
  | succ n ih =>
    simp only [copyLoop]
    cases hf : S.ctor w.ctorN
    · obtain ⟨a, b, c⟩ := ih (w.tickCtor.addItems 1)
      refine ⟨?_, fun hh => congrArg (· + 1) (b hh), c⟩
      show (copyLoop S n (w.tickCtor.addItems 1)).2.2.led = w.led + Ledger.ofItems (((copyLoop S n (w.tickCtor.addItems 1)).1 + 1 : Nat) : Int)
      rw [a, addItems_led_eq, Ledger.add_assoc', ← Ledger.ofItems_add, Int.add_comm]; rfl
    · exact ⟨(Ledger.add_zero' _).symm, nofun, fun hn => nomatch (hn _).symm.trans hf⟩

theorem copyLoop_undo (S : Sched) (n : Nat) (w : W) :
    ((copyLoop S n w).2.2.addItems (-((copyLoop S n w).1 : Int))).led = w.led := by
  rw [addItems_led_eq, (copyLoop_spec S n w).1, Ledger.add_ofItems_cancel]

end Momo.BTreeF
