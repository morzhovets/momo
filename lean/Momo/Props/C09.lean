import Momo.Proof.TrEqPool
import Momo.Proof.PoolWorld
import Momo.Proof.PoolDllWalk
import Momo.Proof.PoolU32Ops
import Momo.Proof.TrEqWave2Pool
/-!
# C09 — Memory pool blocks are aligned, disjoint, inside owned memory, and all returned

Models: `Momo/Model/Pool.lean` (layout, state machine, pointer level), `PoolWalk.lean` (pointer-level traversals),
`PoolWorld.lean` (pool objects with their managers: `Swap`, moves), `PoolU32.lean` (`MemPoolUInt32`); they mirror
`include/momo/MemPool.h` with its three repairs: `MergeFrom` relinking (c28dedd), 16-bit offset for `blockCount == 1` (97b2169),
`Swap` always exchanging the memory managers (2a2bca3). The functions translated from the header (`Tr.pool_*`, `Tr.pool32_*`)
are in `Momo/Translated/`, their equalities with the models in `Momo/Proof/TrEq*Pool.lean`.

Statement (properties.jsonl): every block handed out by a memory pool is aligned to the pool's block
alignment, lies entirely inside memory the pool obtained from its memory manager, and overlaps neither
another live block nor any byte the pool itself reads or writes while that block is live - for every legal
block size, alignment, blocks-per-buffer and cache setting and for every address the memory manager may
return. The reported allocated count equals the number of live blocks, conditional bulk deallocation
frees exactly the selected blocks, merging two pools keeps every live block valid and individually
freeable, and once all blocks are freed (or DeallocateAll is called) and the pool destroyed, all memory has
been returned.

Quantifiers of the theorems: every `Params` accepted by `pvCheckParams` (`Params.Legal`: `0 < N < 128`,
`0 < A ≤ 1024`, and for `N > 1` `S = A * k`, `k ≥ 2` — no upper bound on `S`), every cache size, every
integer base address that is aligned as the pool assumes of its memory manager
(`allocAlign = min(alignof(max_align_t), lowbit(A))`, the assumption behind `pvGetAlignmentAddend`),
every state reachable by the operations.  The constants 128, 1024, 2, 65536, 16, -128 are read from the
header on every run (`Momo.Extracted`).
-/
namespace Momo.Pool

/-- **C09 (layout, `recover`).** For a buffer pointer of the shape `pvNewBuffer` produces, `pvGetBlockIndex`
inverts `pvGetBlock` for every index `-N ≤ i < N`: it returns the index and the buffer. -/
theorem C09_recover (P : Params) (hL : P.Legal) (hN2 : 2 ≤ P.N) (buf i : Int) (hb : BufOK P buf)
    (hi : -P.N ≤ i) (hi2 : i < P.N) :
    blockIdx P (getBlock P buf i) = i ∧ blockBuf P (getBlock P buf i) = buf := by
  obtain ⟨hM, _⟩ := Legal.multi hL hN2
  by_cases h0 : 0 ≤ i
  · exact hM.recover_nonneg buf i hb h0 hi2
  · exact hM.recover_neg buf i hb hi (by omega)

/-- **C09 (layout, `newBuffer_ok`).** For EVERY base address the four adjustment steps of `pvNewBuffer` yield
a buffer pointer satisfying `BufOK`, a first block index in `(-N, 0]` (so every index fits `int8_t` and is
different from the terminator `-128`), `pvGetBlock(buffer, first)` is the block the steps computed, it is
`A`-aligned, and it does not lie below `base`. -/
theorem C09_newBuffer_ok (P : Params) (hL : P.Legal) (hN2 : 2 ≤ P.N) (base : Int) :
    BufOK P (newBuffer P base).buf ∧
    -P.N < (newBuffer P base).first ∧ (newBuffer P base).first ≤ 0 ∧
    -(Extracted.poolFreeTerminator : Int) < (newBuffer P base).first ∧
    getBlock P (newBuffer P base).buf (newBuffer P base).first = firstBlock P base ∧
    firstBlock P base % P.A = 0 ∧ base ≤ firstBlock P base := by
  obtain ⟨hM, _⟩ := Legal.multi hL hN2
  obtain ⟨h1, h2, h3, h4, h5, _, h7, _, _⟩ := hM.firstBlock_ok base
  have hN : P.N < 128 := hL.2.1
  exact ⟨h4, h2, h3, by simp only [Extracted.poolFreeTerminator, newBuffer]; omega, h5, h1, h7⟩

/-- **C09 (layout, blocks aligned / pairwise disjoint / inside / disjoint from metadata).** Let the memory
manager return `base`, aligned as the pool assumes. Then for the buffer `pvNewBuffer` lays out in
`[base, base + pvGetBufferSize())`:
* every block is `A`-aligned and lies inside that memory;
* two different blocks do not overlap;
* no block overlaps a byte of pool metadata (first-index byte, `BufferBytes`, the two link pointers, the
  begin offset), every metadata field lies inside that memory, and the fields do not overlap one another;
* the begin offset fits its `uint16_t` and leads from the first block back to `base`. -/
theorem C09_blocks_disjoint_inside (P : Params) (hL : P.Legal) (hN2 : 2 ≤ P.N) (base : Int)
    (hbase : P.allocAlign ∣ base) :
    let buf := (newBuffer P base).buf
    let first := (newBuffer P base).first
    (∀ i, first ≤ i → i < first + P.N →
        getBlock P buf i % P.A = 0 ∧ Inside (getBlock P buf i) P.S base (base + P.bufferSize) ∧
        (∀ j, first ≤ j → j < first + P.N → i ≠ j → Disj (getBlock P buf i) P.S (getBlock P buf j) P.S) ∧
        (∀ r ∈ metaRanges P buf first, Disj (getBlock P buf i) P.S r.1 r.2)) ∧
    (∀ r ∈ metaRanges P buf first, Inside r.1 r.2 base (base + P.bufferSize)) ∧
    (metaRanges P buf first).Pairwise (fun r s => Disj r.1 r.2 s.1 s.2) ∧
    0 ≤ (newBuffer P base).beginOffset ∧
    (newBuffer P base).beginOffset < 2 ^ Extracted.poolBeginOffsetLog ∧
    getBlock P buf first - (newBuffer P base).beginOffset = base := by
  obtain ⟨hM, hA2⟩ := Legal.multi hL hN2
  intro buf first
  exact hM.buffer_layout_ok hA2 base hbase buf first rfl rfl

/-- **C09 (layout, single-block form).** `blockCount == 1` with a non-zero alignment addend
(`pvNewBlock1`, including alignments above 256 which need the 16-bit offset): the block is aligned, block
and offset bytes lie inside `[base, base + pvGetBufferSize1())`, the stored offset is below 65536 and leads
`pvDeleteBlock1` back to `base`. With a zero addend the manager's address itself is aligned. -/
theorem C09_single_block_ok (P : Params) (hL : P.Legal) (base : Int) (hbase : P.allocAlign ∣ base) :
    (newBlock1 P base).1 % P.A = 0 ∧
    Inside (newBlock1 P base).1 (P.S + sizeofU16) base (base + P.bufferSize1) ∧
    0 ≤ (newBlock1 P base).2 ∧ (newBlock1 P base).2 < (Extracted.poolOffsetLimit1 : Int) ∧
    (newBlock1 P base).1 - (newBlock1 P base).2 = base ∧
    (P.alignAddend = 0 → base % P.A = 0 ∧ Inside base P.S base (base + P.bufferSize0)) := by
  have hA : 0 < P.A := hL.2.2.1
  have hA2 : P.A ≤ 1024 := hL.2.2.2.1
  obtain ⟨h1, h2, h3, _, h5, h6, h7⟩ := newBlock1_ok P base hA hA2 hbase
  refine ⟨h1, ⟨h2, by omega⟩, h3, h5, h7, fun h0 => ⟨plain_single_ok P base hbase h0, Int.le_refl _, ?_⟩⟩
  unfold Params.bufferSize0; split <;> omega

/-- **C09 (blocks of different buffers).** If the memory of two buffers does not overlap (the memory
manager's contract), no block of one overlaps a block or a metadata byte of the other: by
`C09_blocks_disjoint_inside` both lie inside their own memory. -/
theorem C09_two_buffers_disjoint (a la b lb base1 base2 size : Int) (h1 : Inside a la base1 (base1 + size))
    (h2 : Inside b lb base2 (base2 + size)) (hd : Disj base1 size base2 size) : Disj a la b lb := by
  unfold Inside at h1 h2; unfold Disj at hd ⊢; omega

/-- **C09 (state, `alloc_fresh`).** In every well-formed pool state, for every answer of the memory manager
that honours its contract (aligned, not overlapping memory the pool holds: `hc` is `Contract P p orc` written out), `Allocate`
* either returns a block that was NOT live, after which the live blocks are exactly the old ones plus this
  block, the state is well formed again, the count went up by one, the block is a block of one of the
  pool's buffers (hence aligned and inside owned memory by the layout theorems), and every call to the
  manager is accounted for;
* or - only when new memory was needed and refused - throws and leaves the pool unchanged;
* and never hits an assertion or reads a byte of a live block. -/
theorem C09_alloc_fresh (P : Params) (hL : P.Legal) (hN2 : 2 ≤ P.N) (p : Pool) (h : PoolWF P p)
    (orc : Oracle)
    (hc : ∀ j base, orc j = some base → P.allocAlign ∣ base ∧
       ∀ b ∈ p.store, base + P.bufferSize ≤ b.base ∨ b.base + P.bufferSize ≤ base) :
    match allocate P p orc with
    | .ok blk p' evs => AllocateSpec P p p' blk evs
    | .badAlloc p' evs => p' = p ∧ evs = [] ∧ orc 0 = none
    | .stuck _ => False := by
  obtain ⟨hM, hA2⟩ := Legal.multi hL hN2
  have hs := allocate_ok hM hN2 h (orcOK_of_disjoint hM hA2 h.core orc hc)
  cases hr : allocate P p orc with
  | ok blk p' evs => rw [hr] at hs; exact hs.1
  | badAlloc p' evs => rw [hr] at hs; exact hs
  | stuck w => rw [hr] at hs; exact hs

/-- **C09 (state, `count_exact`).** The reported allocated count equals the number of live blocks, and the
live blocks are pairwise different addresses. -/
theorem C09_count_exact (P : Params) (hL : P.Legal) (hN2 : 2 ≤ P.N) (p : Pool) (h : PoolWF P p) :
    p.allocCount = (p.live P).length ∧ (p.live P).Nodup := by
  obtain ⟨hM, _⟩ := Legal.multi hL hN2
  refine ⟨h.count_exact hM hN2, ?_⟩
  rw [live_eq hN2]
  exact (h.taken_nodup hM).filter _

/-- **C09 (state, `Deallocate`).** Freeing a live block always succeeds, removes exactly this block from the
live set, keeps the state well formed, lowers the count by one, and gives memory back to the manager only
with an address and size it was obtained with. -/
theorem C09_dealloc_exact (P : Params) (hL : P.Legal) (hN2 : 2 ≤ P.N) (p : Pool) (h : PoolWF P p)
    (blk : Int) (hblk : blk ∈ p.live P) :
    ∃ p' evs, deallocate P p blk = .ok () p' evs ∧ DeallocSpec P p p' blk evs := by
  obtain ⟨hM, hA2⟩ := Legal.multi hL hN2
  exact deallocate_ok hM hN2 hA2 h blk hblk

/-- **C09 (state, `merge_keeps_blocks`).** Merging two well-formed pools that hold different memory:
the receiving pool is well formed, its live blocks are exactly the live blocks of both pools - so by
`C09_dealloc_exact` each of them can afterwards be freed individually through the receiving pool - the
counts add up, the other pool is empty, and only cached blocks of the other pool caused calls to the
manager, all of them legal. -/
theorem C09_merge_keeps_blocks (P : Params) (hL : P.Legal) (hN2 : 2 ≤ P.N) (a b : Pool)
    (ha : PoolWF P a) (hb : PoolWF P b) (hdis : ∀ x ∈ bufs a.store, x ∉ bufs b.store) :
    ∃ a' evs, mergeFrom P a b = .ok Pool.empty a' evs ∧ PoolWF P a' ∧
      (a'.live P).Perm (a.live P ++ b.live P) ∧ a'.allocCount = a.allocCount + b.allocCount ∧
      LedgerOK P (a.store ++ b.store) evs a'.store := by
  obtain ⟨hM, hA2⟩ := Legal.multi hL hN2
  obtain ⟨a', evs, he, h1, h2, h3, hf⟩ := mergeFrom_ok hM hN2 hA2 ha hb hdis
  exact ⟨a', evs, he, h1, h2, h3, hf.settles⟩

/-- **C09 (state, `freed_all_returned`).** `DeallocateAll` on any well-formed state, and the destructor on
any well-formed state without live blocks, leave the pool holding no memory: every buffer is given back,
each `free` names an address and size of an outstanding allocation, and nothing stays outstanding. -/
theorem C09_freed_all_returned (P : Params) (hL : P.Legal) (hN2 : 2 ≤ P.N) (p : Pool) (h : PoolWF P p) :
    (∃ evs, deallocateAll P p = .ok () Pool.empty evs ∧ LedgerOK P p.store evs []) ∧
    (p.live P = [] → ∃ evs, destroy P p = .ok () Pool.empty evs ∧ LedgerOK P p.store evs []) := by
  obtain ⟨hM, hA2⟩ := Legal.multi hL hN2
  constructor
  · obtain ⟨p', evs, h1, h2, h3⟩ := deallocateAll_ok hM hN2 hA2 h
    exact ⟨evs, by rw [h1, h2], h3.settles⟩
  · intro hl
    have h0 : p.allocCount = 0 := by rw [h.count_exact hM hN2, hl]; rfl
    obtain ⟨evs, he, hf⟩ := destroy_ok hM hN2 hA2 h h0
    exact ⟨evs, he, hf.settles⟩

/-- **C09 (state, `deallocIf_exact`).** `DeallocateIf` on any well-formed state, for any filter: it succeeds;
the filter is asked exactly once about each live block and about nothing else (`tr` is a permutation of the
live blocks); afterwards the live blocks are exactly those for which the filter answered no; the state is
well formed (hence the count is exact again) and every `free` was legal. -/
theorem C09_deallocIf_exact (P : Params) (hL : P.Legal) (hN2 : 2 ≤ P.N) (p : Pool) (h : PoolWF P p)
    (f : Int → Bool) :
    ∃ tr p' evs, deallocateIf P p f = .ok tr p' evs ∧ PoolWF P p' ∧
      (p'.live P).Perm ((p.live P).filter (fun x => !f x)) ∧ tr.Perm (p.live P) ∧
      LedgerOK P p.store evs p'.store := by
  obtain ⟨hM, hA2⟩ := Legal.multi hL hN2
  obtain ⟨tr, p', evs, he, h1, h2, h3, hf⟩ := deallocateIf_ok hM hN2 hA2 h f
  exact ⟨tr, p', evs, he, h1, h2, h3, hf.settles⟩

/-- **C09 (state, `DeallocateIf` interrupted by its filter).** A filter that throws when it is asked its `(k+1)`-th
question (`deallocateIfThrow`, the exception-neutral reading of `pvDeleteBlocks`: one block is finished before the next
question): the call still leaves a well-formed pool whose reported count is exact; the blocks gone are exactly the
selected ones among the first `k` questions, every question was about a live block, and every `free` was legal. -/
theorem C09_deallocIf_throw_exact (P : Params) (hL : P.Legal) (hN2 : 2 ≤ P.N) (p : Pool) (h : PoolWF P p)
    (f : Int → Bool) (k : Nat) :
    ∃ asked p' evs, deallocateIfThrow P p f k = .ok asked p' evs ∧ PoolWF P p' ∧
      p'.allocCount = (p'.live P).length ∧
      (p'.live P).Perm ((p.live P).filter (fun x => !(f x && asked.contains x))) ∧
      (∀ b ∈ asked, b ∈ p.live P) ∧ asked.length ≤ k ∧
      LedgerOK P p.store evs p'.store := by
  obtain ⟨hM, hA2⟩ := Legal.multi hL hN2
  obtain ⟨asked, p', evs, he, hwf, hlive, hask, hlen, hf⟩ := deallocateIfThrow_ok hM hN2 hA2 h f k
  exact ⟨asked, p', evs, he, hwf, hwf.count_exact hM hN2, hlive, hask, hlen, hf.settles⟩

/-- **C09 (state, all histories).** Every state reached by a legal history - any sequence of `Allocate`
(succeeding or refused by the manager), `Deallocate` of live blocks, `DeallocateIf`, `DeallocateAll` and
`MergeFrom` of pools holding different memory, with a manager that honours its contract - is well formed,
its reported count is the number of live blocks, and the calls made to the manager so far form an exact
ledger of the memory the pool holds. Destroying the pool once no block is live (or calling
`DeallocateAll` at any time) leaves that ledger EMPTY: all memory has been returned. -/
theorem C09_history (P : Params) (hL : P.Legal) (hN2 : 2 ≤ P.N) (p : Pool) (es : List Ev) (h : Reach P p es) :
    PoolWF P p ∧ p.allocCount = (p.live P).length ∧ LedgerIs P es p.store ∧
    (∃ evs, deallocateAll P p = .ok () Pool.empty evs ∧ ledger [] (es ++ evs) = some []) ∧
    (p.live P = [] → ∃ evs, destroy P p = .ok () Pool.empty evs ∧ ledger [] (es ++ evs) = some []) :=
  h.history hL hN2

/-- **C09 (state, `blockCount == 1`).** Every block is its own allocation. In every well-formed state:
the count is the number of live blocks; `Allocate` returns an aligned block that was not live (or leaves the
pool unchanged when the manager refuses), `Deallocate` of a live block removes exactly it, the destructor of
a pool without live blocks returns every allocation - each `free` with the address and size obtained (the
16-bit offset behind the block leads back to it). -/
theorem C09_single_state (P : Params) (hL : P.Legal) (hN1 : P.N = 1) (p : Pool) (h : SingleWF P p) :
    p.allocCount = (p.live P).length ∧
    (∀ orc, Contract1 P p orc →
      match allocate P p orc with
      | .ok blk p' evs => Allocate1Spec P p p' blk evs
      | .badAlloc p' evs => p' = p ∧ evs = [] ∧ orc 0 = none
      | .stuck _ => False) ∧
    (∀ blk ∈ p.live P, ∃ p' evs, deallocate P p blk = .ok () p' evs ∧ Dealloc1Spec P p p' blk evs) ∧
    (p.live P = [] → ∃ p' evs, destroy P p = .ok () p' evs ∧ p'.singles = [] ∧ p'.store = [] ∧
      Ledger1OK P p.singles evs []) := by
  refine ⟨h.count_exact hN1, fun orc hc => ?_,
    fun blk hb => deallocate_single_ok hN1 h blk hb, fun hl => ?_⟩
  · have hs := allocate_single_ok hL hN1 h hc
    cases hr : allocate P p orc with
    | ok blk p' evs => rw [hr] at hs; exact hs.1
    | badAlloc p' evs => rw [hr] at hs; exact hs
    | stuck w => rw [hr] at hs; exact hs
  · have h0 : p.allocCount = 0 := by rw [h.count_exact hN1, hl]; rfl
    obtain ⟨p', evs, he, h1, h2, hf⟩ := destroy_single_ok hN1 h h0
    exact ⟨p', evs, he, h1, h2, hf.settles⟩

/-- **C09 (pointer level, `mergeFrom_dll`).** The list surgery of `MergeFrom` as written (lines 406-433),
on a heap that holds two well-formed doubly linked lists over different buffers, each with its head:
afterwards the heap holds ONE well-formed doubly linked list that contains exactly the buffers of both
lists - the full buffers of the other pool moved in front of this head, the other list appended behind -
and no other buffer was written. -/
theorem C09_mergeFrom_dll (h : Heap) (pre1 post1 pre2 post2 : List Int) (thisHead otherHead : Int) (fuel : Nat)
    (hf1 : pre2.length ≤ fuel) (hf2 : post1.length ≤ fuel)
    (hl : TwoLists h (pre1.reverse ++ thisHead :: post1) (pre2.reverse ++ otherHead :: post2)) :
    IsDll (ptrMergeFrom fuel h thisHead otherHead)
      (((mergeMoveFull pre2 pre1).reverse ++ thisHead :: post1) ++ otherHead :: post2) ∧
    (∀ x, x ∈ ((mergeMoveFull pre2 pre1).reverse ++ thisHead :: post1) ++ otherHead :: post2 ↔
          x ∈ (pre1.reverse ++ thisHead :: post1) ++ (pre2.reverse ++ otherHead :: post2)) ∧
    ∀ x, x ∉ (pre1.reverse ++ thisHead :: post1) ++ (pre2.reverse ++ otherHead :: post2) →
      ptrMergeFrom fuel h thisHead otherHead x = h x := by
  obtain ⟨h1, h2⟩ := ptrMergeFrom_refines h pre1 post1 pre2 post2 thisHead otherHead fuel hf1 hf2 hl
  refine ⟨h1, fun x => List.Perm.mem_iff ?_, h2⟩
  -- the merged list is `pre1.reverse ++ pre2 ++ thisHead :: post1 ++ otherHead :: post2`
  rw [mergeMoveFull_eq, List.reverse_append, List.reverse_reverse, List.append_assoc, List.append_assoc, List.append_assoc]
  exact List.Perm.append_left _ ((List.perm_append_comm_assoc _ _ _).trans
    (List.Perm.append_left _ (List.Perm.append_right _ (List.reverse_perm _).symm)))

/-- **C09 (pointer level, the other list operations).** `pvMoveBufferToHead`, the unlinking of
`pvDeleteBuffer` and the linking of a new buffer in `pvNewBlock`, as written, implement the list operations
the state machine uses (`moveToHead`, `erase`, append) on every well-formed doubly linked list, and write
no buffer outside the list. -/
theorem C09_list_ops_dll (h : Heap) :
    (∀ (X Y Z : List Int) (b hd : Int), IsDll h (X ++ b :: (Y ++ hd :: Z)) →
      ∃ h', ptrMoveToHead h hd b = some h' ∧ IsDll h' (X ++ (Y ++ b :: hd :: Z)) ∧
        ∀ x, x ∉ X ++ b :: (Y ++ hd :: Z) → h' x = h x) ∧
    (∀ (l1 l2 : List Int) (b : Int), IsDll h (l1 ++ b :: l2) →
      IsDll (ptrUnlink h b) (l1 ++ l2) ∧ ∀ x, x ∉ l1 ++ b :: l2 → ptrUnlink h b x = h x) ∧
    (∀ (L : List Int) (hd nb : Int), IsDll h (L ++ [hd]) → nb ∉ L ++ [hd] →
      IsDll (ptrAppend (ptrInit h nb) hd nb) (L ++ [hd] ++ [nb]) ∧
        ∀ x, x ∉ L ++ [hd] ++ [nb] → ptrAppend (ptrInit h nb) hd nb x = h x) :=
  ⟨ptrMoveToHead_split h, ptrUnlink_split h, ptrAppend_split h⟩

/-! ## the layout theorems about the functions translated from MemPool.h (`Momo.Tr.pool_*`) -/

/-- `C09_recover` for the translated functions, for any parameters read as machine words -/
theorem recover_translated {P : Params} {S A N : Nat} (hp : TrEq.IsParams P S A N) (hL : P.Legal) (hN2 : 2 ≤ P.N)
    (buf : Nat) (i : Int) (hb : BufOK P buf) (hi : -(N : Int) ≤ i) (hi2 : i < N)
    (hlo : (N : Int) * S ≤ buf) (hhi : (buf : Int) + N * S + A < 2 ^ 63) :
    Tr.pool_pvGetBlockIndex S A N (Tr.pool_pvGetBlock S A buf i) = (i, buf) := by
  obtain ⟨m1, m2⟩ := mul_bounds (Int.natCast_nonneg S) hi (Int.le_of_lt hi2)
  have g : buf + i * S ≤ getBlock P buf i ∧ getBlock P buf i ≤ buf + i * S + A := by
    unfold getBlock; rw [hp.hS, hp.hA]; split <;> omega
  -- nothing wraps: all of it is linear in `buf`, `N * S`, `i * S`, `A`
  have fit : (N : Int) * S < 2 ^ 63 ∧ 0 ≤ getBlock P buf i ∧ getBlock P buf i < 2 ^ 63 ∧ (buf : Int) < 2 ^ 64 := by
    omega
  have hF : TrEq.LegalFit P S A N := ⟨hp, hL, hN2, fit.1⟩
  have e := TrEq.tr_getBlock_fit hF buf i hi (Int.le_of_lt hi2) fit.2.1 fit.2.2.1
  obtain ⟨r1, r2⟩ := C09_recover P hL hN2 buf i hb (hp.hN ▸ hi) (hp.hN ▸ hi2)
  rw [← e] at r1 r2
  obtain ⟨q1, q2⟩ := TrEq.tr_getBlockIndex_fit hF (Tr.pool_pvGetBlock S A buf i) (by have := fit.2.2.1; omega)
    (by rw [r2]; exact Int.natCast_nonneg buf) (by rw [r2]; exact fit.2.2.2)
  rw [r1] at q1; rw [r2] at q2
  exact Prod.ext q1 (Int.ofNat_inj.mp q2)

/-- **C09 (layout, `recover`, translated code).** `Tr.pool_pvGetBlock` / `Tr.pool_pvGetBlockIndex` are regenerated from
the bodies of `MemPool::pvGetBlock` / `pvGetBlockIndex` on every check (64-bit words, `ptrdiff_t` in two's complement).
For every legal pool with several blocks per buffer, every buffer pointer of the shape `pvNewBuffer` produces and every
index `-N ≤ i < N`, with all `2N` block positions 64-bit addresses below `2^63`: `pvGetBlockIndex(pvGetBlock(buffer, i))`
returns the index `i` and the buffer. -/
theorem C09_recover_translated (S A N C : Nat) (hL : (Params.mk S A N C).Legal) (hN2 : 2 ≤ N) (buf : Nat) (i : Int)
    (hb : BufOK ⟨S, A, N, C⟩ buf) (hi : -(N : Int) ≤ i) (hi2 : i < N)
    (hlo : (N : Int) * S ≤ buf) (hhi : (buf : Int) + N * S + A < 2 ^ 63) :
    Tr.pool_pvGetBlockIndex S A N (Tr.pool_pvGetBlock S A buf i) = (i, buf) :=
  recover_translated (TrEq.isParams_mk S A N C) hL (Int.ofNat_le.mpr hN2) buf i hb hi hi2 hlo hhi

/-- **C09 (layout, `newBuffer_ok`, translated code).** `Tr.pool_pvNewBuffer` is regenerated from the body of
`MemPool::pvNewBuffer` up to its first write into the buffer (`begin` = the address the memory manager returned; result
`(beginOffset, block, buffer, blockIndex)`). For every legal pool with several blocks per buffer and EVERY address `base`
with `base + pvGetBufferSize() < 2^63` it has what `C09_newBuffer_ok` states of the model, and `block = base + beginOffset`. -/
theorem C09_newBuffer_ok_translated (S A N C : Nat) (hL : (Params.mk S A N C).Legal) (hN2 : 2 ≤ N) (base : Nat)
    (hfit : (base : Int) + (Params.mk S A N C).bufferSize < 2 ^ 63) :
    BufOK ⟨S, A, N, C⟩ (Tr.pool_pvNewBuffer S A N base).2.2.1 ∧
    -(N : Int) < (Tr.pool_pvNewBuffer S A N base).2.2.2 ∧ (Tr.pool_pvNewBuffer S A N base).2.2.2 ≤ 0 ∧
    -(Extracted.poolFreeTerminator : Int) < (Tr.pool_pvNewBuffer S A N base).2.2.2 ∧
    Tr.pool_pvGetBlock S A (Tr.pool_pvNewBuffer S A N base).2.2.1 (Tr.pool_pvNewBuffer S A N base).2.2.2 =
      (Tr.pool_pvNewBuffer S A N base).2.1 ∧
    (Tr.pool_pvNewBuffer S A N base).2.1 % A = 0 ∧ base ≤ (Tr.pool_pvNewBuffer S A N base).2.1 ∧
    (Tr.pool_pvNewBuffer S A N base).2.1 = base + (Tr.pool_pvNewBuffer S A N base).1 := by
  obtain ⟨e1, e2, e3, e4, _, e6⟩ := TrEq.tr_newBuffer_legal S A N C hL hN2 base hfit
  have hp := TrEq.isParams_mk S A N C
  generalize Params.mk S A N C = P at hL hp hfit e1 e2 e3 e4 e6 ⊢
  have hN2' : 2 ≤ P.N := hp.hN ▸ Int.ofNat_le.mpr hN2
  have hF := TrEq.LegalFit.of_bufferSize hp hL hN2' base hfit
  obtain ⟨_, _, _, sS, sNS, sad, sB⟩ := TrEq.legal_sizes hL hN2'
  rw [hp.hA] at sS sB
  obtain ⟨h1, h2, h3, h4, h5, h6, h7⟩ := C09_newBuffer_ok P hL hN2' base
  have e1' : (newBuffer P base).beginOffset = firstBlock P base - base := rfl
  rw [← e3] at h1 h5; rw [← e4] at h2 h3 h4 h5; rw [← e2] at h5 h6 h7 e6 e1'; rw [← e1] at e1'
  rw [hp.hN] at h2; rw [hp.hA] at h6
  generalize (Tr.pool_pvNewBuffer S A N base).1 = off at e1'
  generalize (Tr.pool_pvNewBuffer S A N base).2.1 = blk at h5 h6 h7 e6 e1'
  generalize (Tr.pool_pvNewBuffer S A N base).2.2.1 = buf at h1 h5
  generalize (Tr.pool_pvNewBuffer S A N base).2.2.2 = first at h2 h3 h4 h5
  -- the block lies less than `4 * A` above `base`, and `pvGetBufferSize()` is more than `N * S + 2 * A`
  have fit : (blk : Int) < 2 ^ 63 ∧ blk = base + off := by omega
  have hg := TrEq.tr_getBlock_fit hF buf first (Int.le_of_lt h2) (Int.le_trans h3 (Int.natCast_nonneg N))
    (by rw [h5]; exact Int.natCast_nonneg blk) (by rw [h5]; exact fit.1)
  rw [h5] at hg
  exact ⟨h1, h2, h3, h4, Int.ofNat_inj.mp hg, by exact_mod_cast h6, Int.ofNat_le.mp h7, fit.2⟩

/-- **C09 (layout, blocks aligned / pairwise disjoint / inside / disjoint from metadata, translated code).** Everything
below is computed by functions regenerated from MemPool.h: the buffer pointer and first index by `Tr.pool_pvNewBuffer`,
the blocks by `Tr.pool_pvGetBlock`, the size of the memory by `Tr.pool_pvGetBufferSize`, the positions of the metadata
(`TrEq.metaRangesTr`) by `Tr.pool_pvGetBufferBytesPosition / …PrevBufferPosition / …NextBufferPosition /
…BeginOffsetPosition`. Let the memory manager return `base`, aligned as the pool assumes, `base + pvGetBufferSize() < 2^63`.
Then they have what `C09_blocks_disjoint_inside` states of the model. -/
theorem C09_blocks_disjoint_inside_translated (S A N C : Nat) (hL : (Params.mk S A N C).Legal) (hN2 : 2 ≤ N) (base : Nat)
    (hbase : (Params.mk S A N C).allocAlign ∣ base) (hfit : (base : Int) + (Params.mk S A N C).bufferSize < 2 ^ 63) :
    let buf := (Tr.pool_pvNewBuffer S A N base).2.2.1
    let first := (Tr.pool_pvNewBuffer S A N base).2.2.2
    let size : Int := (Tr.pool_pvGetBufferSize S A N : Nat)
    let blk := fun (i : Int) => ((Tr.pool_pvGetBlock S A buf i : Nat) : Int)
    let metaR := TrEq.metaRangesTr S A N buf first
    (∀ i, first ≤ i → i < first + N →
        blk i % A = 0 ∧ Inside (blk i) S base (base + size) ∧
        (∀ j, first ≤ j → j < first + N → i ≠ j → Disj (blk i) S (blk j) S) ∧
        (∀ r ∈ metaR, Disj (blk i) S r.1 r.2)) ∧
    (∀ r ∈ metaR, Inside r.1 r.2 base (base + size)) ∧
    metaR.Pairwise (fun r s => Disj r.1 r.2 s.1 s.2) ∧
    (Tr.pool_pvNewBuffer S A N base).1 < 2 ^ Extracted.poolBeginOffsetLog ∧
    blk first - ((Tr.pool_pvNewBuffer S A N base).1 : Nat) = base := by
  obtain ⟨e1, _, e3, e4, e5, _⟩ := TrEq.tr_newBuffer_legal S A N C hL hN2 base hfit
  have hp := TrEq.isParams_mk S A N C
  generalize Params.mk S A N C = P at hL hp hfit hbase e1 e3 e4 e5 ⊢
  have hN2' : 2 ≤ P.N := hp.hN ▸ Int.ofNat_le.mpr hN2
  have hF := TrEq.LegalFit.of_bufferSize hp hL hN2' base hfit
  obtain ⟨a0, _, n2, n1, _⟩ := hF.words
  obtain ⟨_, f2, f3, _⟩ := C09_newBuffer_ok P hL hN2' base
  obtain ⟨H1, H2, H3, H4, H5, H6⟩ := C09_blocks_disjoint_inside P hL hN2' base hbase
  rw [← e3, ← e4] at H1 H2 H3 H6; rw [← e4] at f2 f3; rw [← e1] at H4 H5 H6; rw [← e5] at H1 H2 hfit
  rw [hp.hS, hp.hA, hp.hN] at H1; rw [hp.hN] at f2
  generalize (Tr.pool_pvNewBuffer S A N base).1 = off at H4 H5 H6 ⊢
  generalize (Tr.pool_pvNewBuffer S A N base).2.2.1 = buf at H1 H2 H3 H6 ⊢
  generalize (Tr.pool_pvNewBuffer S A N base).2.2.2 = first at H1 H2 H3 H6 f2 f3 ⊢
  generalize Tr.pool_pvGetBufferSize S A N = size at H1 H2 hfit ⊢
  dsimp only
  have hmeta : TrEq.metaRangesTr S A N buf first = metaRanges P buf first := by
    have := (H2 (beginOffPos P buf first, sizeofU16) (by simp [metaRanges])).2
    exact TrEq.metaRangesTr_eq P S A N hp buf first a0 (Nat.lt_trans n1 (by decide)) (hp.hN ▸ Int.le_of_lt f2) f3
      (Int.lt_of_le_of_lt this (Int.lt_trans hfit (by decide)))
  -- every block lies inside `[base, base + size)`, so below `2^63`
  have hblk : ∀ i, first ≤ i → i < first + N → ((Tr.pool_pvGetBlock S A buf i : Nat) : Int) = getBlock P buf i := by
    intro i hi hi2
    obtain ⟨_, ⟨b1, b2⟩, _⟩ := H1 i hi hi2
    have : -(N : Int) ≤ i ∧ i ≤ N ∧ 0 ≤ getBlock P buf i ∧ getBlock P buf i < 2 ^ 63 := by omega
    exact TrEq.tr_getBlock_fit hF buf i this.1 this.2.1 this.2.2.1 this.2.2.2
  rw [hmeta]
  refine ⟨fun i hi hi2 => ?_, H2, H3, by exact_mod_cast H5, by
    rw [hblk first (Int.le_refl _) (Int.lt_add_of_pos_right _ (Int.natCast_pos.mpr (Nat.lt_of_lt_of_le (by decide) n2)))]
    exact H6⟩
  obtain ⟨c1, c2, c3, c4⟩ := H1 i hi hi2
  rw [hblk i hi hi2]
  exact ⟨c1, c2, fun j hj hj2 hij => by rw [hblk j hj hj2]; exact c3 j hj hj2 hij, c4⟩

/-- **C09 (layout, single-block form, translated code).** `blockCount == 1`: `Tr.pool_pvNewBlock1` (the body of
`pvNewBlock1` up to the write of the offset bytes; result `(block, offset)`), `Tr.pool_pvGetBufferSize1`,
`Tr.pool_pvGetBufferSize0`, `Tr.pool_pvGetAlignmentAddend` as regenerated from MemPool.h have what `C09_single_block_ok`
states of the model, for `base + pvGetBufferSize1() < 2^63`; with a zero alignment addend the block fits `pvGetBufferSize0()`. -/
theorem C09_single_block_ok_translated (S A N C : Nat) (hL : (Params.mk S A N C).Legal) (base : Nat)
    (hbase : (Params.mk S A N C).allocAlign ∣ base) (hfit : (base : Int) + (Params.mk S A N C).bufferSize1 < 2 ^ 63) :
    let blk : Int := ((Tr.pool_pvNewBlock1 A base).1 : Nat)
    let off : Int := ((Tr.pool_pvNewBlock1 A base).2 : Nat)
    blk % A = 0 ∧ Inside blk (S + sizeofU16) base (base + (Tr.pool_pvGetBufferSize1 S A : Nat)) ∧
    off < (Extracted.poolOffsetLimit1 : Int) ∧ blk - off = base ∧
    (Tr.pool_pvGetAlignmentAddend A = 0 →
      (base : Int) % A = 0 ∧ Inside base S base (base + (Tr.pool_pvGetBufferSize0 S A : Nat))) := by
  have hp := TrEq.isParams_mk S A N C
  generalize Params.mk S A N C = P at hL hp hfit hbase ⊢
  have hA := hp.hA; have hS := hp.hS
  have sA : 0 < P.A := hL.2.2.1
  have sA2 : P.A ≤ 1024 := hL.2.2.2.1
  have sS : 0 < P.S := hL.2.2.2.2.1
  obtain ⟨g0, g1, g2⟩ := allocAlign_spec P sA sA2
  have had : P.alignAddend = P.A - P.allocAlign := rfl
  have hb1 : P.bufferSize1 = P.S + P.alignAddend + 2 := rfl
  have a0 : 0 < A := Int.ofNat_lt.mp (hA ▸ sA)
  have a64 : A < 2 ^ 64 := Nat.lt_of_le_of_lt (Int.ofNat_le.mp (hA ▸ sA2)) (by decide)
  have fit : base + A < 2 ^ 64 ∧ P.bufferSize1 < 2 ^ 64 := by omega
  obtain ⟨n1, n2⟩ := TrEq.tr_newBlock1 P A hA base a0 fit.1
  have s1 := TrEq.tr_bufferSize1 P S A hS hA a0 a64 fit.2
  have s0 := TrEq.tr_bufferSize0 P S A hS hA
  have sa := TrEq.tr_alignAddend P A hA a0 a64
  obtain ⟨h1, h2, _, h4, h5, h6⟩ := C09_single_block_ok P hL base hbase
  intro blk off
  rw [← n1] at h1 h2 h5; rw [← n2] at h4 h5; rw [← s1, hS] at h2; rw [hA] at h1
  refine ⟨h1, h2, h4, h5, fun h0 => ?_⟩
  have := h6 (by rw [← sa, h0]; rfl)
  rw [← s0, hS, hA] at this
  exact this

/-- **C09 (parameters the models take as given, translated code).** The quantities the state-machine model and the
parameter model read from the header, as regenerated from MemPool.h, are the model's: `pvUseCache` (whether `Allocate` /
`Deallocate` go through the cache), `pvGetAlignmentAddend` (`Allocate` with `blockCount == 1` branches on `== 0`),
`pvGetBufferSize0`, `pvIsBufferBytesNear`, `MemPoolConst::CorrectBlockSize` and `MemPoolConst::GetBlockAlignment` (the
block size / default alignment `MemPoolParams` derives from the requested size). -/
theorem C09_params_translated (S A N C : Nat) (hA0 : 0 < A) (hfit : S + A < 2 ^ 63) (m : Nat) (hm : m < 2 ^ 64) :
    Tr.pool_pvUseCache C S = (Params.mk S A N C).useCache ∧
    ((Tr.pool_pvGetAlignmentAddend A : Nat) : Int) = (Params.mk S A N C).alignAddend ∧
    ((Tr.pool_pvGetBufferSize0 S A : Nat) : Int) = (Params.mk S A N C).bufferSize0 ∧
    Tr.pool_pvIsBufferBytesNear A = (Params.mk S A N C).bytesNear ∧
    ((Tr.pool_CorrectBlockSize S A N : Nat) : Int) = correctBlockSize S A N ∧
    ((Tr.pool_GetBlockAlignment S m : Nat) : Int) = getBlockAlignment S 64 m :=
  ⟨TrEq.tr_useCache ⟨S, A, N, C⟩ S rfl, TrEq.tr_alignAddend ⟨S, A, N, C⟩ A rfl hA0 (by omega),
   TrEq.tr_bufferSize0 ⟨S, A, N, C⟩ S A rfl rfl, TrEq.tr_bytesNear ⟨S, A, N, C⟩ A rfl,
   TrEq.tr_correctBlockSize S A N hA0 (by omega) (by omega), TrEq.tr_getBlockAlignment S m hm⟩

/-! ## non-vacuity: concrete states meeting the hypotheses -/

/-- a legal configuration with the cache on: block size 16, alignment 8, 3 blocks per buffer, 1 cached block -/
def exP : Params := ⟨16, 8, 3, 1⟩
example : exP.Legal := by decide +kernel
example : exP.allocAlign = 8 := by decide +kernel
/-- `A = 512 > 256`, the configuration of finding F1 (repaired): the offset 496 needs 16 bits -/
example : newBlock1 ⟨64, 512, 1, 0⟩ 16 = (512, 496) := by decide +kernel
example : (⟨64, 512, 1, 0⟩ : Params).Legal ∧ (⟨64, 512, 1, 0⟩ : Params).allocAlign = 16 := by decide +kernel
/-- a buffer at base 1000000: first block index -2, buffer pointer 1000032, begin offset 0 -/
example : newBuffer exP 1000000 = ⟨1000032, -2, 0⟩ := by decide +kernel
example : newBuffer exP 1000005 = ⟨1000032, -1, 11⟩ := by decide +kernel
/-- the translated functions on the same configuration (machine words): `pvNewBuffer` at base 1000000 / 1000005, the
    round trip of `pvGetBlock` / `pvGetBlockIndex`, the sizes; the hypotheses of the `_translated` theorems hold -/
example : Tr.pool_pvNewBuffer 16 8 3 1000000 = (0, 1000000, 1000032, -2) := by decide +kernel
example : Tr.pool_pvNewBuffer 16 8 3 1000005 = (11, 1000016, 1000032, -1) := by decide +kernel
example : Tr.pool_pvGetBlockIndex 16 8 3 (Tr.pool_pvGetBlock 16 8 1000032 (-2)) = (-2, 1000032) := by decide +kernel
example : Tr.pool_pvGetBlockIndex 16 8 3 (Tr.pool_pvGetBlock 16 8 1000032 0) = (0, 1000032) := by decide +kernel
example : Tr.pool_pvGetBufferSize 16 8 3 = 82 ∧ Tr.pool_pvGetAlignmentAddend 512 = 496 ∧ Tr.pool_pvNewBlock1 512 16 = (512, 496) := by decide +kernel
example : (Params.mk 16 8 3 1).Legal ∧ ((1000000 : Nat) : Int) + (Params.mk 16 8 3 1).bufferSize < 2 ^ 63 ∧
    (Params.mk 16 8 3 1).allocAlign ∣ ((1000000 : Nat) : Int) := by decide +kernel
example : PoolWF exP Pool.empty := PoolWF.empty exP
example : Reach exP Pool.empty [] := Reach.init
example : SingleWF ⟨64, 512, 1, 0⟩ Pool.empty := SingleWF.empty _
/-- three allocations from the empty pool need two buffers and leave a well-formed state (by `C09_alloc_fresh`), with the
    first buffer full and moved before the new head -/
def exThree : Option (List Int × List Int × List Int × List Ev) :=
  match allocate exP Pool.empty (fun _ => some 1000000) with
  | .ok b1 p1 _ =>
    match allocate exP p1 (fun _ => some 2000000) with
    | .ok b2 p2 _ =>
      match allocate exP p2 (fun _ => some 2000000) with
      | .ok b3 p3 evs => some ([b1, b2, b3, p3.allocCount], p3.pre, p3.post, evs)
      | _ => none
    | _ => none
  | _ => none
example : exThree = some ([1000000, 1000016, 1000040, 3], [1000032], [2000016], [.malloc 2000000 82]) := by decide +kernel
/-- pointer level: this pool 10 (full) ↔ 11 (head); other pool 20 (full) ↔ 21 (full) ↔ 22 (head):
    after `MergeFrom` one list 10, 21, 20, 11, 22 (the witness of finding F2, repaired) -/
def exHeap : Heap := fun x =>
  if x = 10 then ⟨none, some 11⟩ else if x = 11 then ⟨some 10, none⟩
  else if x = 20 then ⟨none, some 21⟩ else if x = 21 then ⟨some 20, some 22⟩
  else if x = 22 then ⟨some 21, none⟩ else ⟨none, none⟩
example : TwoLists exHeap ([10].reverse ++ 11 :: []) ([21, 20].reverse ++ 22 :: []) := by
  refine ⟨by decide, ?_, ?_⟩ <;> simp [Seg, exHeap, headOr]
example : ptrWalk 10 (ptrMergeFrom 5 exHeap 11 22) 10 = [10, 21, 20, 11, 22] := by decide +kernel
example : mergeMoveFull [21, 20] [10] = [20, 21, 10] := by decide +kernel

/-- **C09 (state, `blockCount == 1`, `MergeFrom`).** Merging two well-formed single-block pools that hold different memory
(their recorded blocks are different addresses): the call succeeds and leaves the other pool EMPTY; the receiving pool is
well formed; its live blocks are exactly the live blocks of both pools and EACH of them can afterwards be freed
individually through the receiving pool (with the effect `Dealloc1Spec`); the counts add up; the only calls to the manager
are one `free` per block of the other pool's cache, each legal (`Ledger1OK`): every cached block of the source is returned
exactly once, every other block is transferred exactly once. -/
theorem C09_single_merge (P : Params) (hN1 : P.N = 1) (a b : Pool) (ha : SingleWF P a) (hb : SingleWF P b)
    (hdis : ∀ x ∈ a.singles.map (·.1), x ∉ b.singles.map (·.1)) :
    ∃ a' evs, mergeFrom P a b = .ok Pool.empty a' evs ∧ SingleWF P a' ∧
      (a'.live P).Perm (a.live P ++ b.live P) ∧ a'.allocCount = a.allocCount + b.allocCount ∧
      (∀ blk ∈ a.live P ++ b.live P, ∃ p' e, deallocate P a' blk = .ok () p' e ∧ Dealloc1Spec P a' p' blk e) ∧
      Ledger1OK P (a.singles ++ b.singles) evs a'.singles ∧ FreesOnly1 P evs ∧ evs.length = b.cache.length ∧
      (b.singles.map (·.1)).Perm
        (b.cache ++ (a'.singles.map (·.1)).filter (fun x => !(a.singles.map (·.1)).contains x)) := by
  obtain ⟨a', evs, h1, h2, h3, h4, _, h6, h8, h9⟩ := mergeFrom_single_ok hN1 ha hb hdis
  exact ⟨a', evs, h1, h2, h3, h4,
    fun blk hblk => deallocate_single_ok hN1 h2 blk (h3.symm.subset hblk),
    h6.settles, h6.freesOnly1.1, h8, h9⟩

/-- **C09 (state, `blockCount == 1`, all histories).** Every state reached by a legal history of single-block pools - any
sequence of `Allocate` (succeeding or refused), `Deallocate` of live blocks and `MergeFrom` of pools holding different
memory, with a manager that honours its contract - is well formed, its reported count is the number of live blocks, the
calls made to the manager so far form an exact ledger of the memory the pool holds, and destroying the pool once no block
is live leaves that ledger EMPTY. -/
theorem C09_single_history (P : Params) (hL : P.Legal) (hN1 : P.N = 1) (p : Pool) (es : List Ev) (h : Reach1 P p es) :
    SingleWF P p ∧ p.allocCount = (p.live P).length ∧ Ledger1Is P es p.singles ∧
    (p.live P = [] → ∃ p' evs, destroy P p = .ok () p' evs ∧ p'.singles = [] ∧ p'.store = [] ∧
      ledger [] (es ++ evs) = some []) := by
  obtain ⟨hwf, hled⟩ := h.inv hL hN1
  refine ⟨hwf, hwf.count_exact hN1, hled, fun hl => ?_⟩
  have h0 : p.allocCount = 0 := by rw [hwf.count_exact hN1, hl]; rfl
  obtain ⟨p', evs, h1, h2, h3, h4⟩ := destroy_single_ok hN1 hwf h0
  exact ⟨p', evs, h1, h2, h3, Settles.to_nil (Settles.trans hled h4.settles)⟩

/-- **C09 (`Swap` / move construction / move assignment, one step).**
* `Swap` exchanges everything two pool objects consist of: parameters, MEMORY MANAGER (finding F26: always), count,
  buffer list, cache - so each object now is what the other was.
* Move construction makes the new object what the source was, with the source's manager; the source is left EMPTY holding
  a moved-from manager, and destroying an empty pool makes no call to any manager (so the moved-from object is
  destructible although its manager must not be used).
* Move assignment to a well-formed object without live blocks (the precondition of its destructor's check) makes it what
  the source was, leaves the source empty and moved-from, and gives ALL memory the target held back - with frees only,
  each legal - through the manager the target held before. -/
theorem C09_swap_move_ok (a b : PoolObj) :
    swapObjs a b = (b, a) ∧
    moveCtor a = (a, ⟨a.P, none, Pool.empty⟩) ∧
    (∀ P, destroy P Pool.empty = .ok () Pool.empty []) ∧
    (ObjWF a → a.pool.live a.P = [] →
      ∃ evs, moveAssign a b = .ok b ⟨b.P, none, Pool.empty⟩ a.mgr evs ∧ ledger a.mem evs = some [] ∧ NoMalloc evs) := by
  refine ⟨rfl, rfl, destroy_empty, fun hwf hl => ?_⟩
  have h0 : a.pool.allocCount = 0 := by rw [hwf.count_exact, hl]; rfl
  obtain ⟨p', evs, he, hf⟩ := hwf.destroy_ok h0
  exact ⟨evs, by rw [moveAssign_eq, he], hf.settles.to_nil, hf.noMalloc⟩

/-- **C09 (world of pools, all histories).** Take any legal history of a world of pool objects and memory managers
(`WReach`): objects created with a manager, `Allocate` / `Deallocate` / `DeallocateIf` / `DeallocateAll` / `MergeFrom`
through the manager an object holds at that moment, `Swap`, move construction, move assignment, destruction - managers
honouring their contract (aligned answers that overlap nothing outstanding with that manager). Then
* every object is well formed (a moved-from object is empty) and reports exactly the number of its live blocks;
* for EVERY manager the calls made to it form an exact ledger of the memory held by the objects that hold this manager
  now, that memory is pairwise disjoint, and no call was ever made through a moved-from manager;
* every live block of every object can be freed through THAT object - the pool that now owns its buffer - which holds a
  usable manager, with exactly this block going and only legal frees;
* when every object has been destroyed, every manager has got back everything it handed out. -/
theorem C09_world_history (w : List PoolObj) (es : List WEv) (h : WReach w es) :
    WInv w es ∧
    (∀ o ∈ w, o.pool.allocCount = (o.pool.live o.P).length) ∧
    (∀ o ∈ w, ∀ blk ∈ o.pool.live o.P, ∃ m p' evs, o.mgr = some m ∧ deallocate o.P o.pool blk = .ok () p' evs ∧
      ObjWF { o with pool := p' } ∧ (o.pool.live o.P).Perm (blk :: p'.live o.P) ∧ p'.allocCount + 1 = o.pool.allocCount ∧
      NoMalloc evs ∧ ∃ L', ledger o.mem evs = some L' ∧ L'.Perm ({ o with pool := p' } : PoolObj).mem) ∧
    (w = [] → ∀ m, ledger [] (evsOf m es) = some []) := by
  have hinv := h.inv
  refine ⟨hinv, fun o ho => (hinv.objs o ho).count_exact, ?_, ?_⟩
  · intro o ho blk hblk
    obtain ⟨m, hm⟩ := (hinv.objs o ho).mgr_of_live hblk
    obtain ⟨p', evs, he, h1, h2, h3, h4, h5⟩ := (hinv.objs o ho).deallocate_ok hm hblk
    exact ⟨m, p', evs, hm, he, h1, h2, h3, h4, h5⟩
  · intro hw m
    exact (hw ▸ hinv).ledger_nil m

/-- **C09 (pointer level, reading and walking the links).** On a heap that holds the buffer list of the state machine
(`Pool.order = pre.reverse ++ post`, `post = head :: rest`): `pvGetNextBuffer` / `pvGetPrevBuffer` of any buffer of the list
return what the list view returns (`succIn` on the list and on its reverse = `Pool.nextOf` / `Pool.prevOf`); following
`next` from `mFreeBufferHead` visits exactly `post`, following `prev` from `pvGetPrevBuffer(mFreeBufferHead)` visits exactly
`pre` (nearest first). -/
theorem C09_traversal_ptr (h : Heap) (pre rest : List Int) (head : Int) (fuel : Nat)
    (hf1 : rest.length < fuel) (hf2 : pre.length ≤ fuel) (hd : IsDll h (pre.reverse ++ head :: rest)) :
    (∀ x ∈ pre.reverse ++ head :: rest,
      (h x).next = succIn (pre.reverse ++ head :: rest) x ∧ (h x).prev = succIn (pre.reverse ++ head :: rest).reverse x) ∧
    ptrWalk fuel h head = head :: rest ∧ ptrWalkBack fuel h (h head).prev = pre :=
  ⟨fun x hx => dll_reads h _ hd x hx, ptrWalk_refines h pre rest head fuel hf1 hf2 hd⟩

/-- **C09 (pointer level, `DeallocateAll`).** The two loops of `DeallocateAll` as written (`ptrDeallocateAll`: read
`prev(head)` / `next(buffer)`, unlink with the code of `pvDeleteBuffer`) on a heap holding the list of the state machine:
they give back exactly the buffers `pre ++ post`, each once, in the order in which the list-level loops `deleteAllPre` /
`deleteAllPost` take them, and write no buffer outside the list. -/
theorem C09_deallocateAll_ptr (h : Heap) (pre rest : List Int) (head : Int) (fuel : Nat)
    (hf1 : rest.length < fuel) (hf2 : pre.length ≤ fuel) (hd : IsDll h (pre.reverse ++ head :: rest)) :
    (ptrDeallocateAll fuel h head).1 = pre ++ head :: rest ∧
    ∀ x, x ∉ pre.reverse ++ head :: rest → (ptrDeallocateAll fuel h head).2 x = h x :=
  ptrDeallocateAll_refines h pre rest head fuel hf1 hf2 hd

/-- **C09 (pointer level, the two loops of `DeallocateIf`).** With the sweep of one buffer (`pvDeleteBlocks`) abstracted to
ANY transformation of the links that keeps a well-formed list and leaves the not yet visited buffers in place - shown
(`sweep_unlink_ok`, last conjunct) for the sweeps that delete the buffer or leave the links alone, not for the one that moves
a full buffer before the head (`pvMoveBufferToHead`; its list view is in `C09_list_ops_dll`) - the
forward loop as written (read `next` before the sweep) visits exactly the buffers from the head to the end of the list the
state machine had when the loop started, the backward loop exactly the buffers before the head, nearest first; each buffer
once - the visits of `difForward` / `difBackward`. -/
theorem C09_deallocateIf_traversal_ptr (sweep : Int → Heap → Heap) :
    (SweepFwdOK sweep → ∀ (h : Heap) (A T : List Int) (b : Int) (fuel : Nat), T.length < fuel → IsDll h (A ++ b :: T) →
      (ptrDifForward sweep fuel h b).1 = b :: T ∧ ∃ A', IsDll (ptrDifForward sweep fuel h b).2 A') ∧
    (SweepBwdOK sweep → ∀ (h : Heap) (pre Z : List Int) (fuel : Nat), pre.length ≤ fuel → IsDll h (pre.reverse ++ Z) →
      (ptrDifBackward sweep fuel h pre.head?).1 = pre ∧ ∃ L, IsDll (ptrDifBackward sweep fuel h pre.head?).2 L) ∧
    (∀ del : Int → Bool, SweepFwdOK (fun b h => if del b then ptrUnlink h b else h) ∧
      SweepBwdOK (fun b h => if del b then ptrUnlink h b else h)) :=
  ⟨ptrDifForward_visits sweep, ptrDifBackward_visits sweep,
   sweep_unlink_ok⟩

/-! ### non-vacuity -/

/-- a single-block pool after one `Allocate` answered with `base` -/
def exSingle (base : Int) : Option Pool :=
  match allocate ⟨64, 512, 1, 0⟩ Pool.empty (fun _ => some base) with
  | .ok _ p _ => some p
  | _ => none
example : (exSingle 16).map (·.singles) = some [(512, 496)] ∧ (exSingle 4112).map (·.singles) = some [(4608, 496)] := by decide +kernel
example : Reach1 ⟨64, 512, 1, 0⟩ Pool.empty [] := Reach1.init
/-- two single-block pools with one block each, merged: one pool with both blocks, count 2, no call to the manager -/
example : (match mergeFrom ⟨64, 512, 1, 0⟩ ⟨[], [], [], [], 1, [(512, 496)]⟩ ⟨[], [], [], [], 1, [(4608, 496)]⟩ with
    | .ok _ a' evs => some (a'.allocCount, a'.singles, evs) | _ => none) = some (2, [(512, 496), (4608, 496)], []) := by decide +kernel
/-- a world: object with manager 7 is move-constructed from; the source is moved-from and empty -/
example : WReach [⟨exP, some 7, Pool.empty⟩, ⟨exP, none, Pool.empty⟩] [] :=
  WReach.moveCtor (WReach.new exP 7 WReach.init (by decide))
example : ObjWF ⟨exP, some 7, Pool.empty⟩ := ⟨by decide, fun _ => PoolWF.empty _, fun _ => SingleWF.empty _, fun e => by cases e⟩
/-- walking the links of the merged list of `exHeap` -/
example : ptrWalkBack 10 (ptrMergeFrom 5 exHeap 11 22) ((ptrMergeFrom 5 exHeap 11 22) 11).prev = [20, 21, 10] := by decide +kernel
example : (ptrDeallocateAll 10 (ptrMergeFrom 5 exHeap 11 22) 11).1 = [20, 21, 10, 11, 22] := by decide +kernel

end Momo.Pool

namespace Momo.PoolU32
open Momo.Pool (Ev ledger Disj Inside)

/-- **C09 (`MemPoolUInt32`, index arithmetic and geometry).** The decomposition of a 32-bit block index into buffer number
and offset used by `GetRealPointer` is a bijection; if the buffers obtained from the manager do not overlap, then for every
index inside the buffers the real pointer exists, the block lies inside its buffer, blocks of two different indices do not
overlap, and real pointers are multiples of every `a` that divides the block size and all buffer addresses. -/
theorem C09_u32_geometry (C : Cfg) (hC : C.Legal) (st : State)
    (hd : st.bufs.Pairwise (fun a b => Disj a C.bufferSize b C.bufferSize)) :
    (∀ i, bufferOf C i * C.N + offsetOf C i = i ∧ offsetOf C i < C.N) ∧
    (∀ k o, o < C.N → bufferOf C (k * C.N + o) = k ∧ offsetOf C (k * C.N + o) = o) ∧
    (∀ i, i < st.bufs.length * C.N → ∃ b ∈ st.bufs, st.bufs[bufferOf C i]? = some b ∧
      realPtr C st i = some (rp C st i) ∧ Inside (rp C st i) C.S b (b + C.bufferSize)) ∧
    (∀ i j, i < st.bufs.length * C.N → j < st.bufs.length * C.N → i ≠ j → Disj (rp C st i) C.S (rp C st j) C.S) ∧
    (∀ a : Int, a ∣ (C.S : Int) → (∀ b ∈ st.bufs, a ∣ b) → ∀ i, i < st.bufs.length * C.N → a ∣ rp C st i) := by
  refine ⟨(index_roundtrip C hC.hN).1, (index_roundtrip C hC.hN).2, ?_, fun i j hi hj hij => rp_disj C hC.hN st hd i j hi hj hij,
    fun a hS hb i hi => rp_aligned C st a hS hb i hi⟩
  intro i hi
  obtain ⟨b, hm, hg, hin⟩ := rp_inside C hC.hN st i hi
  obtain ⟨b', hg', _, hr, hre⟩ := rp_eq C st i hi
  exact ⟨b, hm, hg, by rw [hr, hre], hin⟩

/-- **C09 (`MemPoolUInt32::Allocate`).** In every well-formed state, for every answer of the memory manager that honours
its contract (the new buffer overlaps no buffer held), `Allocate` either returns an index that was NOT live and lies inside
the buffers - after which the live indices are exactly the old ones plus this one, the state is well formed, the count went
up by one and every call to the manager is accounted for - or fails (`std::bad_alloc` of the manager, `std::length_error` at
the buffer limit) leaving buffers, free chain, memory words and count unchanged; it never hits an assertion and never reads
a word of a live block. -/
theorem C09_u32_alloc_fresh (C : Cfg) (hC : C.Legal) (st : State) (h : WF C st) (orc : Oracle) (hc : ContractU C st orc) :
    match allocate C st orc with
    | .ok blk st' evs => AllocSpecU C st st' blk evs
    | .badAlloc st' evs => SameU st st' ∧ WF C st' ∧ LedgerOKU C st evs st'
    | .lengthError st' => st' = st
    | .stuck _ => False :=
  allocate_ok hC h hc

/-- **C09 (`MemPoolUInt32::Deallocate`).** Freeing a live index always succeeds, removes exactly this index from the live
set, keeps the state well formed, lowers the count by one, and gives memory back (all of it, when the last block of a pool
with more than two buffers goes) only with addresses and sizes it was obtained with. -/
theorem C09_u32_dealloc_exact (C : Cfg) (hC : C.Legal) (st : State) (h : WF C st) (blk : Nat) (hb : blk ∈ live C st) :
    ∃ st' evs, deallocate C st blk = .ok () st' evs ∧ DeallocSpecU C st st' blk evs :=
  deallocate_ok hC h blk hb

/-- **C09 (`MemPoolUInt32`, all histories).** Every state reached by a legal history - `Allocate` (succeeding, refused, or
stopped at the buffer limit), `Deallocate` of live indices, `DeallocateAll`, with a manager that honours its contract - is
well formed; the reported count is the number of live indices; the free chain as the code walks it never contains a live
block and together with the live blocks covers the buffers; the buffers do not overlap (so by `C09_u32_geometry` distinct
live indices are disjoint real blocks inside memory obtained from the manager); the calls made to the manager - buffers AND
the storage of the buffer array - form an exact ledger; `DeallocateAll` at any time, and the destructor once no index is
live, leave that ledger EMPTY. -/
theorem C09_u32_history (C : Cfg) (hC : C.Legal) (st : State) (es : List Ev) (h : ReachU C st es) :
    WF C st ∧ st.allocCount = (live C st).length ∧
    (∃ ch, freeChain C st (ch.length + 1) st.head = some ch ∧ ch.Nodup ∧ (∀ i ∈ ch, i ∉ live C st) ∧
      (∀ i, i < st.bufs.length * C.N → (i ∈ ch ∨ i ∈ live C st))) ∧
    st.bufs.Pairwise (fun a b => Disj a C.bufferSize b C.bufferSize) ∧
    LedgerIsU C es st ∧
    (∃ st' evs, deallocateAll C st = .ok () st' evs ∧ owned C st' = [] ∧ ledger [] (es ++ evs) = some []) ∧
    (live C st = [] → ∃ st' evs, destroy C st = .ok () st' evs ∧ owned C st' = [] ∧ ledger [] (es ++ evs) = some []) := by
  obtain ⟨hwf, hled⟩ := h.inv hC
  have hend : ∀ evs, Pool.Frees (owned C st) evs [] → ledger [] (es ++ evs) = some [] := fun evs hl =>
    (Pool.Settles.trans hled hl.settles).to_nil
  refine ⟨hwf, hwf.count_exact, hwf.chain_live hC, hwf.disj, hled, ?_, ?_⟩
  · obtain ⟨st', evs, h1, _, h3, h4, _⟩ := deallocateAll_ok C st
    exact ⟨st', evs, h1, h4, hend evs h3⟩
  · intro hl
    have h0 : st.allocCount = 0 := by rw [hwf.count_exact, hl]; rfl
    obtain ⟨st', evs, h1, h2, h3⟩ := destroy_ok C st h0
    exact ⟨st', evs, h1, h3, hend evs h2⟩

/-! ### non-vacuity -/
/-- a pool of 4-block buffers, 12-byte blocks, at most 5 buffers: legal -/
def exC : Cfg := mkCfg 4 12 20
example : exC = ⟨4, 12, 5⟩ ∧ exC.Legal := ⟨by decide, mkCfg_legal 4 12 20 (by decide) (by decide)⟩
example : WF exC State.empty := WF.empty exC
example : ReachU exC State.empty [] := ReachU.init
/-- the first `Allocate` gets storage for 4 buffer pointers at 9000 and a buffer at 1000, returns index 0 and leaves the
    chain 1, 2, 3 -/
def exU : Option ((Nat × Nat × List Int) × Option (List Nat) × List Ev) :=
  match allocate exC State.empty (fun k => if k = 0 then some 9000 else some 1000) with
  | .ok blk st evs => some ((blk, st.head, st.bufs), freeChain exC st 10 st.head, evs)
  | _ => none
example : exU = some ((0, 1, [1000]), some [1, 2, 3], [.malloc 9000 32, .malloc 1000 48]) := by decide +kernel
example : (mkCfg 3 1 100).S = 4 ∧ realPtr exC ⟨[1000, 2000], 4, 9000, 0, fun _ => none, 0⟩ 6 = some 2024 := by decide +kernel

/-! ### `MemPoolUInt32`: the code itself (the functions `Tr.pool32_*` translated from MemPool.h; equalities with the model in
    Proof/TrEqWave2Pool.lean) -/

/-- **C09 (`MemPoolUInt32`, parameters from the header text).** The configuration the real constructor computes
(`mMaxBufferCount(maxTotalBlockCount / blockCount)`, `mBlockSize(std::minmax(blockSize, sizeof(uint32_t)).second)`, translated
from MemPool.h) is the model's `mkCfg`, it is legal under the constructor's assertions, and when the constructor's
`if (mBlockSize > UIntConst::maxSize / blockCount) throw` did not fire the translated `pvGetBufferSize()` is the model's buffer
size without 64-bit wrap. -/
theorem C09_u32_params_translated (blockCount blockSize maxTotal : Nat) (hN : 0 < blockCount) (hT : maxTotal < nullPtr)
    (hok : Tr.pool32_blockSizeTooBig blockCount (Tr.pool32_blockSize blockSize) = false) :
    (⟨blockCount, Tr.pool32_blockSize blockSize, Tr.pool32_maxBufferCount blockCount maxTotal⟩ : Cfg)
      = mkCfg blockCount blockSize maxTotal ∧
    (mkCfg blockCount blockSize maxTotal).Legal ∧
    Tr.pool32_pvGetBufferSize blockCount (Tr.pool32_blockSize blockSize) = (mkCfg blockCount blockSize maxTotal).bufferSize := by
  have h := TrEq.tr_pool32_mkCfg blockCount blockSize maxTotal
  refine ⟨h, mkCfg_legal blockCount blockSize maxTotal hN hT, ?_⟩
  have hS : (mkCfg blockCount blockSize maxTotal).S = Tr.pool32_blockSize blockSize := by rw [← h]
  have hNN : (mkCfg blockCount blockSize maxTotal).N = blockCount := rfl
  have := TrEq.tr_pool32_bufferSize (mkCfg blockCount blockSize maxTotal)
    (TrEq.tr_pool32_sizeFits _ (by rw [hS, hNN]; exact hok))
  rw [hS, hNN] at this
  exact this

/-- **C09 (`MemPoolUInt32`, `GetRealPointer` from the header text).** With buffers that lie inside the 64-bit address space and
do not overlap (`mb k` = the address stored in `mBuffers[k]`), the address the translated `GetRealPointer` computes for every
index inside the buffers — `mBuffers[block / blockCount] + (block % blockCount) * mBlockSize` in `size_t` arithmetic — is the
model's real pointer, the block lies inside one of the buffers, and the blocks of two different indices do not overlap. -/
theorem C09_u32_geometry_translated (C : Cfg) (hC : C.Legal) (st : State) (mb : Nat → Nat)
    (hmb : ∀ k (b : Int), st.bufs[k]? = some b → 0 ≤ b ∧ b + C.bufferSize ≤ 2 ^ 64 ∧ mb k = b.toNat)
    (hd : st.bufs.Pairwise (fun a b => Disj a C.bufferSize b C.bufferSize)) :
    (∀ i, i < st.bufs.length * C.N →
      realPtr C st i = some ((Tr.pool32_GetRealPointer C.N C.S mb i : Nat) : Int) ∧
      ∃ b ∈ st.bufs, Inside ((Tr.pool32_GetRealPointer C.N C.S mb i : Nat) : Int) C.S b (b + C.bufferSize)) ∧
    (∀ i j, i < st.bufs.length * C.N → j < st.bufs.length * C.N → i ≠ j →
      Disj ((Tr.pool32_GetRealPointer C.N C.S mb i : Nat) : Int) C.S ((Tr.pool32_GetRealPointer C.N C.S mb j : Nat) : Int) C.S) := by
  obtain ⟨_, _, h3, h4, _⟩ := C09_u32_geometry C hC st hd
  have key : ∀ i, i < st.bufs.length * C.N →
      realPtr C st i = some ((Tr.pool32_GetRealPointer C.N C.S mb i : Nat) : Int) ∧
      rp C st i = ((Tr.pool32_GetRealPointer C.N C.S mb i : Nat) : Int) := by
    intro i hi
    obtain ⟨b, _, hg, _, _⟩ := h3 i hi
    obtain ⟨h0, hfit, hm⟩ := hmb _ b hg
    have := TrEq.tr_pool32_realPtr C hC st mb i b hg h0 hfit hm
    exact ⟨this, by unfold rp; rw [this]; rfl⟩
  refine ⟨fun i hi => ⟨(key i hi).1, ?_⟩, fun i j hi hj hij => ?_⟩
  · obtain ⟨b, hb, _, _, hin⟩ := h3 i hi
    exact ⟨b, hb, by rw [← (key i hi).2]; exact hin⟩
  · rw [← (key i hi).2, ← (key j hj).2]
    exact h4 i j hi hj hij

/-- **C09 (`MemPoolUInt32`, `pvNewBuffer` / `Deallocate` from the header text).** The model's `newBuffer` is the real
`pvNewBuffer` with the translated limit test and `Reserve` argument; on an answer `base` of the manager that lies inside the
address space its second half links the new buffer by writing, for every block `i`, the translated link word
(`static_cast<uint32_t>(bufferCount * blockCount + i + 1)` or `nullPtr`) at the translated address `buffer + mBlockSize * i`,
sets the translated head and asks for the translated `pvGetBufferSize()` bytes; `Deallocate` gives everything back exactly
when the translated `mAllocCount == 0 && mBuffers.GetCount() > 2` holds after the decrement. -/
theorem C09_u32_newBuffer_translated (C : Cfg) (hC : C.Legal) (st : State) (orc : Oracle)
    (hlen : st.bufs.length < C.maxBuf) (hfitS : C.N * C.S < 2 ^ 64) :
    (newBuffer C st orc =
      if Tr.pool32_newBuffer_limit st.bufs.length C.maxBuf = true then .lengthError st
      else if Tr.pool32_newBuffer_reserve st.bufs.length > st.arrCap then
        match orc 0 with
        | none => .badAlloc st []
        | some a =>
          addBuffer C { st with arrCap := Arr.growCapacity true st.arrCap (Tr.pool32_newBuffer_reserve st.bufs.length) true false,
                                arrAddr := a }
            (orc 1)
            ([.malloc a ((Arr.growCapacity true st.arrCap (Tr.pool32_newBuffer_reserve st.bufs.length) true false * sizeofPtr : Nat) : Int)] ++
              (if st.arrCap > 0 then [.free st.arrAddr ((st.arrCap * sizeofPtr : Nat) : Int)] else []))
      else addBuffer C st (orc 0) []) ∧
    (∀ (base : Int) (evs : List Ev), 0 ≤ base → base + C.bufferSize ≤ 2 ^ 64 →
      addBuffer C st (some base) evs =
        .ok () { st with bufs := st.bufs ++ [base], head := Tr.pool32_newBuffer_head C.N st.bufs.length,
                         mem := (List.range C.N).foldl (fun m i =>
                           setW m ((Tr.pool32_newBuffer_linkAddr C.S base.toNat i : Nat) : Int)
                             (some (Tr.pool32_newBuffer_nextBlock C.N st.bufs.length i))) st.mem }
          (evs ++ [.malloc base (Tr.pool32_pvGetBufferSize C.N C.S)])) ∧
    ((Tr.pool32_dealloc_clears (st.allocCount - 1) st.bufs.length = true) ↔ (st.allocCount - 1 = 0 ∧ st.bufs.length > 2)) := by
  have hmax := hC.hMax
  simp only [nullPtr] at hmax
  have hle : (st.bufs.length + 1) * C.N ≤ C.maxBuf * C.N := Nat.mul_le_mul_right _ hlen
  rw [Nat.add_mul, Nat.one_mul] at hle
  have hlen2 : st.bufs.length ≤ st.bufs.length * C.N := Nat.le_mul_of_pos_right _ hC.hN
  refine ⟨?_, ?_, TrEq.tr_pool32_dealloc_clears _ _⟩
  · have hr := TrEq.tr_pool32_newBuffer_reserve st.bufs.length (by omega)
    have hl : ¬ (Tr.pool32_newBuffer_limit st.bufs.length C.maxBuf = true) := by
      rw [TrEq.tr_pool32_newBuffer_limit]; omega
    rw [if_neg hl, hr]
    unfold newBuffer
    rw [if_neg (by omega)]
    rfl
  · intro base evs h0 hfit
    simp only [addBuffer]
    rw [TrEq.initLinks_translated C hC st.bufs.length base h0 hfit (by omega) (List.range C.N) st.mem
          (fun i hi => List.mem_range.mp hi),
      TrEq.tr_pool32_head C.N st.bufs.length (by omega), TrEq.tr_pool32_bufferSize C hfitS]

example : Tr.pool32_GetRealPointer 4 12 (fun k => if k = 0 then 1000 else 2000) 6 = 2024
    ∧ Tr.pool32_newBuffer_nextBlock 4 1 2 = 7 ∧ Tr.pool32_newBuffer_nextBlock 4 1 3 = nullPtr ∧ Tr.pool32_blockSize 1 = 4 := by decide +kernel

end Momo.PoolU32
