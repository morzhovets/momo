import Momo.Proof.HashTableBulk
/-!
  C01/C11: `MergeTo`. The source is walked in iterator order; an item whose key is absent
  from the destination is added there (`pvAdd`, possibly growing and migrating the destination) and
  removed from the source in place: the filter walk of `HashTableBulk` with the destination as its threaded state
  (`mergeDec`, `mergeTo_eq`).
-/
namespace Momo.HT
open Momo Momo.Probe

/-- the decision of `MergeTo` about one item of the source: it leaves iff its key is not found in the destination so far
    (and `pvAdd` succeeds, which it does: `add_nofault_ok`) -/
def mergeDec (sp : Spec) (hf : Nat → Nat) (it : Item) (d : Table) : Option Table :=
  match findTable sp hf d it.key with
  | some _ => none
  | none => if (add sp hf d it {}).2 == .ok then some (add sp hf d it {}).1 else none

theorem mergeGo_eq (sp : Spec) (hf : Nat → Nat) : ∀ (i : Nat) (b : Bucket) (d : Table) (m : Nat),
    mergeTo.go sp hf i b d m = filterGo (mergeDec sp hf) i b d m := by
  intro i
  induction i with
  | zero => intro b d m; rfl
  | succ i ih =>
    intro b d m
    rw [mergeTo.go, filterGo]
    cases b.items[i]? with
    | none => exact ih b d m
    | some it =>
      simp only [mergeDec]
      cases findTable sp hf d it.key with
      | some _ => exact ih b d m
      | none =>
        simp only
        split <;> simp only [ih]

theorem mergeTo_eq (sp : Spec) (hf : Nat → Nat) (src dst : Table) :
    mergeTo sp hf src dst = ((filterTbl (mergeDec sp hf) src dst).1, (filterTbl (mergeDec sp hf) src dst).2.1) := by
  unfold mergeTo
  have hin : ∀ (g : Gen) (d : Table), g.bs.foldl (fun (a : List Bucket × Table × Nat) b =>
        match mergeTo.go sp hf b.items.length b a.2.1 0 with
        | (b', d, m) => (a.1 ++ [b'], d, a.2.2 + m)) ([], d, 0)
      = ((mapState (filterBkt (mergeDec sp hf)) g.bs d).1, (mapState (filterBkt (mergeDec sp hf)) g.bs d).2.1,
          (mapState (filterBkt (mergeDec sp hf)) g.bs d).2.2) := by
    intro g d
    simp only [mergeGo_eq]
    have := foldl_acc3 (filterBkt (mergeDec sp hf)) g.bs [] d 0
    simp only [List.nil_append, Nat.zero_add] at this
    exact this
  simp only [hin]
  have hout := foldl_acc3 (filterGen (mergeDec sp hf)) src.gens [] dst 0
  simp only [List.nil_append, Nat.zero_add] at hout
  unfold filterTbl
  unfold filterGen at hout ⊢
  simp only at hout ⊢
  rw [hout]

/-- `d` is the destination so far, `l` the source items still to be examined; `inK` = "key was in
    the destination at the start" -/
structure MKeys (sp : Spec) (hf : Nat → Nat) (inK : Nat → Bool) (d : Table) (l : List Item) : Prop where
  inv : TableInv sp hf d
  sub : ∀ k, inK k = true → k ∈ (traverse d).map (·.key)
  nodup : (l.map (·.key)).Nodup
  fresh : ∀ x ∈ l, x.key ∈ (traverse d).map (·.key) → inK x.key = true

theorem MKeys.drop_mid {sp : Spec} {hf : Nat → Nat} {inK : Nat → Bool} {d : Table} {A R : List Item}
    {it : Item} (h : MKeys sp hf inK d (A ++ it :: R)) :
    MKeys sp hf inK d (A ++ R) ∧ it.key ∉ (A ++ R).map (·.key) := by
  have hn := h.nodup
  simp only [List.map_append, List.map_cons] at hn
  rw [List.nodup_middle, List.nodup_cons] at hn
  refine ⟨⟨h.inv, h.sub, by rw [List.map_append]; exact hn.2, fun x hx => h.fresh x ?_⟩,
    by rw [List.map_append]; exact hn.1⟩
  rcases List.mem_append.mp hx with hx | hx
  · exact List.mem_append_left _ hx
  · exact List.mem_append_right _ (List.mem_cons_of_mem _ hx)

/-- `MKeys` and a conserved quantity: the items of `l` still to be moved together with the destination so far rearrange `T` -/
structure MPre (sp : Spec) (hf : Nat → Nat) (inK : Nat → Bool) (T : List Item) (d : Table) (l : List Item) : Prop
    extends MKeys sp hf inK d l where
  cons : (l.filter (fun x => !inK x.key) ++ traverse d).Perm T

theorem mergeDec_ok (sp : Spec) (hf : Nat → Nat) (ok : SpecOK sp) (inK : Nat → Bool) (T : List Item) :
    DecOK (mergeDec sp hf) (fun x => inK x.key) (MPre sp hf inK T) := by
  intro it d A R h
  obtain ⟨hmid, hitfresh⟩ := h.toMKeys.drop_mid
  have hc := h.cons
  rw [List.filter_append, List.filter_cons] at hc
  unfold mergeDec
  cases hfnd : findTable sp hf d it.key with
  | some pos =>
    have hK : inK it.key = true := h.fresh it (by simp)
      ((findTable_spec sp hf d h.inv it.key).mp (by rw [hfnd]; rfl))
    refine Or.inl ⟨rfl, hK, hmid, ?_⟩
    simpa [List.filter_append, hK] using hc
  | none =>
    have hnot := findTable_none sp hf d h.inv it.key hfnd
    have hnin : it.key ∉ (traverse d).map (·.key) := fun hmem =>
      (List.mem_map.mp hmem).elim fun x hx => hnot x hx.1 hx.2
    have hK : inK it.key = false := by
      cases hk : inK it.key with
      | false => rfl
      | true => exact absurd (h.sub _ hk) hnin
    have hok : (add sp hf d it {}).2 = .ok := add_nofault_ok sp hf ok d it {} h.inv.core rfl rfl
    obtain ⟨hD', hperm⟩ := add_ok sp hf ok d it {} h.inv (faultsOK_default sp) hnot hok
    have hkeys' : ∀ k, k ∈ (traverse (add sp hf d it {}).1).map (·.key) ↔ k = it.key ∨ k ∈ (traverse d).map (·.key) := by
      intro k; rw [(hperm.map (·.key)).mem_iff]; simp
    refine Or.inr ⟨_, by simp [hok], hK, ⟨hD', fun k hk => (hkeys' k).mpr (Or.inr (hmid.sub k hk)), hmid.nodup,
      fun x hx hxk => ?_⟩, ?_⟩
    · rcases (hkeys' x.key).mp hxk with he | hin
      · exact absurd (List.mem_map.mpr ⟨x, hx, he⟩) hitfresh
      · exact hmid.fresh x hx hin
    · -- the item changes sides: out of the items to come, into the destination
      simp only [hK, Bool.not_false, if_true] at hc
      rw [List.filter_append]
      refine ((List.Perm.append_left _ hperm).trans ?_).trans hc
      simp only [List.append_assoc, List.cons_append]
      exact (List.Perm.append_left _ List.perm_middle)

/-- **`MergeTo`**: both tables keep their invariant; the source keeps exactly the items whose key
    was already in the destination, the destination gains exactly the others -/
theorem mergeTo_spec (sp : Spec) (hf : Nat → Nat) (ok : SpecOK sp) (src dst : Table)
    (hS : TableInv sp hf src) (hD : TableInv sp hf dst) :
    TableInv sp hf (mergeTo sp hf src dst).1 ∧ TableInv sp hf (mergeTo sp hf src dst).2 ∧
    (traverse (mergeTo sp hf src dst).1).Perm
      ((traverse src).filter (fun x => decide (x.key ∈ (traverse dst).map (·.key)))) ∧
    (traverse (mergeTo sp hf src dst).2).Perm
      ((traverse src).filter (fun x => !decide (x.key ∈ (traverse dst).map (·.key))) ++ traverse dst) := by
  rw [mergeTo_eq]
  set inK : Nat → Bool := fun k => decide (k ∈ (traverse dst).map (·.key)) with hinK
  have hraw : ((src.gens.map rawItems).flatten).Perm (traverse src) := rawItems_flatten_perm src.gens
  obtain ⟨a1, a2, a3, _⟩ := filterTbl_spec sp hf (mergeDec_ok sp hf ok inK _) src hS dst
    ⟨⟨hD, fun k hk => by simpa [hinK] using hk, nodup_keys_perm hraw hS.core.nodup,
      fun x _ hx => by simpa [hinK] using hx⟩, List.Perm.refl _⟩
  refine ⟨a1, a3.inv, a2, ?_⟩
  have := a3.cons
  rw [List.filter_nil, List.nil_append] at this
  exact this.trans (List.Perm.append_right _ (hraw.filter _))

theorem mergeTo_inv (sp : Spec) (hf : Nat → Nat) (ok : SpecOK sp) (src dst : Table)
    (hS : TableInv sp hf src) (hD : TableInv sp hf dst) :
    TableInv sp hf (mergeTo sp hf src dst).1 ∧ TableInv sp hf (mergeTo sp hf src dst).2 ∧
    (traverse (mergeTo sp hf src dst).1 ++ traverse (mergeTo sp hf src dst).2).Perm
      (traverse src ++ traverse dst) := by
  obtain ⟨a1, a2, a3, a4⟩ := mergeTo_spec sp hf ok src dst hS hD
  refine ⟨a1, a2, (List.Perm.append a3 a4).trans ?_⟩
  rw [← List.append_assoc]
  exact List.Perm.append_right _ (List.filter_append_perm _ _)

end Momo.HT
