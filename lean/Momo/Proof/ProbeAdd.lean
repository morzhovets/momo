import Momo.Proof.ProbeTri
/-! The probe sequence under one name for both stepping rules (`seqOf`), and the probe loop of `pvAddNogrow`: it returns the first
non-full bucket of the sequence, and reports "table is full" only when every bucket is full, because the sequence is surjective. -/
namespace Momo.Probe

/-- bucket examined at probe `p` from `home`: triangular (`BucketOpen2N2` / `BucketOpen8`) or linear (every other bucket class),
    chosen by `quad` as `addProbe` and `HT.nextIdx` choose their step -/
def seqOf (quad : Bool) (L home : Nat) : Nat → Nat := if quad then seqQuad L home else seqLin L home

theorem seqOf_succ (quad : Bool) (L home p : Nat) :
    seqOf quad L home (p+1) =
      (if quad then nextQuad L (seqOf quad L home p) (p+1) else nextLin L (seqOf quad L home p)) := by
  cases quad <;> rfl

theorem seqOf_surj (quad : Bool) (L home b : Nat) (hh : home < 2 ^ L) (hb : b < 2 ^ L) :
    ∃ p, p < 2 ^ L ∧ seqOf quad L home p = b := by
  cases quad
  · exact seqLin_surj L home b hh hb
  · exact seqQuad_surj L home b hh hb

@[simp] theorem seqOf_zero (quad : Bool) (L home : Nat) : seqOf quad L home 0 = home := by
  cases quad <;> rfl

theorem seqOf_lt (quad : Bool) (L home p : Nat) (hh : home < 2 ^ L) : seqOf quad L home p < 2 ^ L := by
  cases p with
  | zero => rw [seqOf_zero]; exact hh
  | succ q =>
    rw [seqOf_succ]
    cases quad <;> exact Nat.lt_of_le_of_lt (Nat.and_le_right) (Nat.sub_lt (Nat.two_pow_pos L) Nat.one_pos)

theorem addProbe_go_cases (quad : Bool) (L : Nat) (isFull : Nat → Bool) (home : Nat) (fuel probe idx : Nat)
    (hidx : idx = seqOf quad L home probe) (hf : 2 ^ L ≤ fuel + probe) (hp : probe < 2 ^ L) :
    (∃ p, probe ≤ p ∧ p < 2 ^ L ∧
      addProbe.go quad L isFull fuel probe idx = some (p, seqOf quad L home p) ∧
      isFull (seqOf quad L home p) = false ∧
      ∀ q, probe ≤ q → q < p → isFull (seqOf quad L home q) = true) ∨
    (addProbe.go quad L isFull fuel probe idx = none ∧
      ∀ q, probe ≤ q → q < 2 ^ L → isFull (seqOf quad L home q) = true) := by
  -- arms: no fuel; bucket full and the sequence is used up; bucket full, on to the next probe; the bucket has room
  fun_induction addProbe.go quad L isFull fuel probe idx
  case case1 => omega
  case case2 probe _ _ hfull _ hge =>
    subst hidx
    exact Or.inr ⟨rfl, fun q h1 h2 => by rw [show q = probe from Nat.le_antisymm (Nat.le_of_lt_succ (Nat.lt_of_lt_of_le h2 hge)) h1]; exact hfull⟩
  case case3 probe _ f hfull _ hlt ih =>
    subst hidx
    have ext : ∀ {b : Nat}, (∀ q, probe + 1 ≤ q → q < b → isFull (seqOf quad L home q) = true) →
        ∀ q, probe ≤ q → q < b → isFull (seqOf quad L home q) = true :=
      fun h q h1 h2 => (Nat.eq_or_lt_of_le h1).elim (fun e => e ▸ hfull) (fun h' => h q h' h2)
    rcases ih (seqOf_succ ..).symm (by omega) (Nat.lt_of_not_le hlt) with ⟨p, h1, h2, e, h3, h4⟩ | ⟨e, h4⟩
    · exact Or.inl ⟨p, Nat.le_of_succ_le h1, h2, e, h3, ext h4⟩
    · exact Or.inr ⟨e, ext h4⟩
  case case4 probe _ _ hroom =>
    subst hidx
    exact Or.inl ⟨probe, Nat.le_refl _, hp, rfl, by simpa using hroom, fun q h1 h2 => absurd h1 (Nat.not_le.mpr h2)⟩

theorem addProbe_cases (quad : Bool) (L : Nat) (isFull : Nat → Bool) (home : Nat) :
    (∃ p, p < 2 ^ L ∧ addProbe quad L isFull home = some (p, seqOf quad L home p) ∧
      isFull (seqOf quad L home p) = false ∧ ∀ q, q < p → isFull (seqOf quad L home q) = true) ∨
    (addProbe quad L isFull home = none ∧ ∀ q, q < 2 ^ L → isFull (seqOf quad L home q) = true) := by
  rcases addProbe_go_cases quad L isFull home (2 ^ L) 0 home (seqOf_zero ..).symm (Nat.le_add_right _ _) (Nat.two_pow_pos L) with
    ⟨p, _, h2, e, h3, h4⟩ | ⟨e, h4⟩
  · exact Or.inl ⟨p, h2, e, h3, fun q hq => h4 q (Nat.zero_le _) hq⟩
  · exact Or.inr ⟨e, fun q hq => h4 q (Nat.zero_le _) hq⟩

theorem addProbe_eq_none_iff (quad : Bool) (L : Nat) (isFull : Nat → Bool) (home : Nat) (hh : home < 2 ^ L) :
    addProbe quad L isFull home = none ↔ ∀ b, b < 2 ^ L → isFull b = true := by
  rcases addProbe_cases quad L isFull home with ⟨p, _, e, hroom, _⟩ | ⟨e, hall⟩ <;> rw [e]
  · refine ⟨nofun, fun h => ?_⟩
    rw [h _ (seqOf_lt quad L home p hh)] at hroom; cases hroom
  · refine ⟨fun _ b hb => ?_, fun _ => rfl⟩
    obtain ⟨q, hq, rfl⟩ := seqOf_surj quad L home b hh hb
    exact hall q hq

theorem addProbe_spec (quad : Bool) (L : Nat) (isFull : Nat → Bool) (home : Nat) :
    match addProbe quad L isFull home with
    | none => ∀ q, q < 2 ^ L → isFull (seqOf quad L home q) = true
    | some (p, idx) => p < 2 ^ L ∧ idx = seqOf quad L home p ∧ isFull idx = false ∧
        ∀ q, q < p → isFull (seqOf quad L home q) = true := by
  rcases addProbe_cases quad L isFull home with ⟨p, h1, e, h2, h3⟩ | ⟨e, h⟩ <;> rw [e]
  · exact ⟨h1, rfl, h2, h3⟩
  · exact h

end Momo.Probe
