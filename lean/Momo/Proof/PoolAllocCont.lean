import Momo.Proof.PoolAllocFault
/-!
  C20, layer C: the invariant `CInv` that ties containers (entities), their allocator objects and their blocks to the
  allocator-level machine; the possible results of a container call (`COutcome`, `cstep_outcome`); and, for each way a result
  changes the entity list or the holders, the lemma that it keeps the invariant (`*_cinv`). The results that only allocate and
  free go through `actSteps_cinv_frame` in PoolAllocOwn, where all are assembled (`COutcome.cinv`, `cstep_cinv`).
  Names: `actStep_*` / `factStep_*` are about one act of a call, `actSteps_*` / `factSteps_*` about the fold of `actStep` / `factStep` over
  all acts of the call (`foldl_actStep` turns a fold of `actStep` into one of `factStep`).
-/
namespace Momo.PoolAlloc

structure CInv (cs : CSys) : Prop where
  inv : Inv cs.sys
  nodupE : (cs.ents.map (·.eid)).Nodup
  /-- every live block is held by a live entity whose allocator points to the pool the block came from -/
  owned : ∀ b ∈ cs.sys.blocks, ∃ e ∈ cs.ents, e.eid = cs.own b.id ∧ e.pid = b.pid
  entPool : ∀ e ∈ cs.ents, ∃ st, cs.sys.pools[e.pid]? = some st
  /-- `use_count()` of a pool = number of live entities whose allocator points to it -/
  refs : ∀ (p : Nat) (st : PoolSt), cs.sys.pools[p]? = some st → st.refs = cs.ents.countP (fun e => e.pid == p)

theorem cinv_init : CInv CSys.init :=
  ⟨inv_init, .nil, nofun, nofun, nofun⟩

theorem findEnt_some {cs : CSys} {e : Nat} {en : Ent} (h : findEnt cs e = some en) : en ∈ cs.ents ∧ en.eid = e := by
  unfold findEnt at h
  exact ⟨List.mem_of_find?_eq_some h, by simpa using List.find?_some h⟩

theorem findEnt_none {cs : CSys} {e : Nat} (h : (findEnt cs e).isSome = false) : ∀ x ∈ cs.ents, x.eid ≠ e := by
  unfold findEnt at h
  rw [Option.isSome_eq_false_iff, Option.isNone_iff_eq_none, List.find?_eq_none] at h
  intro x hx; simpa using h x hx

theorem findEnt_of_mem {cs : CSys} (hnd : (cs.ents.map (·.eid)).Nodup) {en : Ent} (hen : en ∈ cs.ents) :
    findEnt cs en.eid = some en :=
  ListFacts.find?_key_of_mem Ent.eid hnd hen

theorem ownsNone_iff {cs : CSys} {e : Nat} : ownsNone cs e = true ↔ ∀ b ∈ cs.sys.blocks, cs.own b.id ≠ e := by
  simp [ownsNone]

theorem ent_pid_lt {cs : CSys} (hc : CInv cs) {x : Ent} (hx : x ∈ cs.ents) : x.pid < cs.sys.pools.length := by
  obtain ⟨st, hst⟩ := hc.entPool x hx
  exact (List.getElem?_eq_some_iff.mp hst).1

theorem swapName_invol (d c x : Nat) : swapName d c (swapName d c x) = x := by
  unfold swapName
  by_cases h1 : x = d
  · by_cases h2 : c = d <;> simp [h1, h2]
  · by_cases h2 : x = c
    · simp [h2]
    · simp [h1, h2]

theorem cfail_of_err {cs : CSys} {e : Err} (h : cs.sys.err = some e) : cs.cfail = cs := by
  simp only [CSys.cfail, step_of_err h]

theorem cfail_err (cs : CSys) : (cs.cfail).sys.err ≠ none := by
  cases h : cs.sys.err with
  | none => simp [CSys.cfail, step, h, Sys.fail]
  | some e => rw [cfail_of_err h, h]; nofun

theorem cstep_of_err {cs : CSys} {e : Err} (h : cs.sys.err = some e) (op : COp) : cstep cs op = cs := by
  simp [cstep, h]

theorem crun_cons (cs : CSys) (op : COp) (ops : List COp) : crun cs (op :: ops) = crun (cstep cs op) ops := rfl

theorem crun_of_err {cs : CSys} {e : Err} (h : cs.sys.err = some e) (ops : List COp) : crun cs ops = cs := by
  induction ops with
  | nil => rfl
  | cons op ops ih => rw [crun_cons, cstep_of_err h]; exact ih

theorem actStep_free (e p : Nat) (cs : CSys) (id : Nat) (frees : List Nat) :
    actStep e p cs (.free id frees) = cs.cfail ∨
    ∃ b ∈ cs.sys.blocks, b.id = id ∧ cs.own id = e ∧
      actStep e p cs (.free id frees) = { cs with sys := step cs.sys (.dealloc p b.cls b.n id frees) } := by
  simp only [actStep]
  cases hf : cs.sys.blocks.find? (fun b => b.id == id) with
  | none => exact Or.inl rfl
  | some b =>
    obtain ⟨hb, hid⟩ := find_id_some hf
    by_cases ho : cs.own id = e
    · exact Or.inr ⟨b, hb, hid, ho, if_pos ho⟩
    · exact Or.inl (if_neg ho)

/-- every act is ONE operation of layer A on `sys` (a broken precondition of a `free` is the operation `bad`) together with an
    update of `own`; a successful single-object request among them is for a class in `a.singleCls` -/
theorem factStep_lowers (e p : Nat) (cs : CSys) (a : FAct) :
    ∃ fop own', factStep e p cs a = { cs with sys := fstep cs.sys fop, own := own' } ∧
      ∀ q cls id ms, fop = .ok (.alloc q cls 1 id ms) → cls ∈ a.singleCls := by
  cases a with
  | allocFail cls n => exact ⟨.allocFail p cls n, cs.own, rfl, nofun⟩
  | ok a =>
    simp only [factStep]
    cases a with
    | alloc cls n id mallocs =>
      exact ⟨.ok (.alloc p cls n id mallocs), _, by rw [fstep_ok]; rfl, fun _ _ _ _ h => by cases h; exact List.mem_cons_self⟩
    | free id frees =>
      rcases actStep_free e p cs id frees with h | ⟨b, _, _, _, h⟩
      · exact ⟨.ok .bad, cs.own, by rw [h, CSys.cfail, fstep_ok], nofun⟩
      · exact ⟨.ok (.dealloc p b.cls b.n id frees), cs.own, by rw [h, fstep_ok], nofun⟩

theorem factStep_of_err {e p : Nat} {cs : CSys} {er : Err} (h : cs.sys.err = some er) (a : FAct) :
    (factStep e p cs a).sys = cs.sys := by
  obtain ⟨fop, own', h', _⟩ := factStep_lowers e p cs a
  rw [h']
  exact fstep_of_err h fop

theorem factSteps_of_err {e p : Nat} {cs : CSys} {er : Err} (h : cs.sys.err = some er) (acts : List FAct) :
    (acts.foldl (factStep e p) cs).sys = cs.sys := by
  induction acts generalizing cs with
  | nil => rfl
  | cons a acts ih =>
    rw [List.foldl_cons, ih (by rw [factStep_of_err h]; exact h), factStep_of_err h]

theorem factStep_ents (e p : Nat) (cs : CSys) (a : FAct) : (factStep e p cs a).ents = cs.ents := by
  obtain ⟨fop, own', h, _⟩ := factStep_lowers e p cs a
  rw [h]

theorem factSteps_ents (e p : Nat) (cs : CSys) (acts : List FAct) : (acts.foldl (factStep e p) cs).ents = cs.ents := by
  induction acts generalizing cs with
  | nil => rfl
  | cons a acts ih => rw [List.foldl_cons, ih, factStep_ents]

theorem foldl_actStep (e p : Nat) (cs : CSys) (acts : List Act) :
    acts.foldl (actStep e p) cs = (acts.map .ok).foldl (factStep e p) cs := by
  rw [List.foldl_map]; rfl

theorem actSteps_ents (e p : Nat) (cs : CSys) (acts : List Act) : (acts.foldl (actStep e p) cs).ents = cs.ents := by
  rw [foldl_actStep, factSteps_ents]

/-- the branches of `cstep` from a state without error, each with the facts its guards establish; `moveAssignFail` /
    `destroyFail`: a precondition found broken after the frees -/
inductive COutcome (cs : CSys) : COp → CSys → Prop
  | illegal (op : COp) : COutcome cs op cs.cfail
  | newAlloc {e : Nat} (cls : Cls) (cb : Nat) (hf : ∀ x ∈ cs.ents, x.eid ≠ e) :
      COutcome cs (.newAlloc e cls cb)
        { cs with sys := step cs.sys (.anew cls cb), ents := ⟨e, cs.sys.pools.length⟩ :: cs.ents }
  | newFrom {e : Nat} {se : Ent} (hs : se ∈ cs.ents) (hf : ∀ x ∈ cs.ents, x.eid ≠ e) :
      COutcome cs (.newFrom e se.eid) { cs with sys := step cs.sys (.acopy se.pid), ents := ⟨e, se.pid⟩ :: cs.ents }
  | mutate {en : Ent} (hen : en ∈ cs.ents) (acts : List Act) :
      COutcome cs (.mutate en.eid acts) (acts.foldl (actStep en.eid en.pid) cs)
  | copyAssign {de ce : Ent} (hde : de ∈ cs.ents) (hce : ce ∈ cs.ents) (acts : List Act) :
      COutcome cs (.copyAssign de.eid ce.eid acts) (acts.foldl (actStep de.eid de.pid) cs)
  | copyConstruct {d : Nat} {ce : Ent} (hce : ce ∈ cs.ents) (hf : ∀ x ∈ cs.ents, x.eid ≠ d) (cls : Cls) (cb : Nat)
      (acts : List Act) :
      COutcome cs (.copyConstruct d ce.eid cls cb acts)
        (acts.foldl (actStep d cs.sys.pools.length)
          { cs with sys := step cs.sys (.anew cls cb), ents := ⟨d, cs.sys.pools.length⟩ :: cs.ents })
  | moveConstruct {d : Nat} {ce : Ent} (hce : ce ∈ cs.ents) (hf : ∀ x ∈ cs.ents, x.eid ≠ d) :
      COutcome cs (.moveConstruct d ce.eid)
        { sys := step cs.sys (.acopy ce.pid), ents := ⟨d, ce.pid⟩ :: cs.ents,
          own := fun i => if cs.own i = ce.eid then d else cs.own i }
  | moveAssignFail {d c : Nat} (p : Nat) (acts : List Act) :
      COutcome cs (.moveAssign d c acts) (acts.foldl (actStep d p) cs).cfail
  | moveAssign {de ce : Ent} (hde : de ∈ cs.ents) (hce : ce ∈ cs.ents) (hne : de.eid ≠ ce.eid) (acts : List Act)
      (h1 : (acts.foldl (actStep de.eid de.pid) cs).sys.err = none)
      (hnone : ownsNone (acts.foldl (actStep de.eid de.pid) cs) de.eid = true) :
      COutcome cs (.moveAssign de.eid ce.eid acts)
        { sys := step (step (acts.foldl (actStep de.eid de.pid) cs).sys (.acopy ce.pid)) (.adrop de.pid),
          ents := ⟨de.eid, ce.pid⟩ :: cs.ents.filter (fun x => x.eid != de.eid),
          own := fun i => if (acts.foldl (actStep de.eid de.pid) cs).own i = ce.eid then de.eid
                          else (acts.foldl (actStep de.eid de.pid) cs).own i }
  | swap {de ce : Ent} (hde : de ∈ cs.ents) (hce : ce ∈ cs.ents) :
      COutcome cs (.swap de.eid ce.eid)
        { cs with ents := cs.ents.map (fun x => ⟨swapName de.eid ce.eid x.eid, x.pid⟩),
                  own := fun i => swapName de.eid ce.eid (cs.own i) }
  | splice {de ce : Ent} (hde : de ∈ cs.ents) (hce : ce ∈ cs.ents) (hp : de.pid = ce.pid) (ids : List Nat) :
      COutcome cs (.splice de.eid ce.eid ids)
        { cs with own := fun i => if ids.contains i && cs.own i == ce.eid then de.eid else cs.own i }
  | destroyFail {e : Nat} (p : Nat) (acts : List Act) :
      COutcome cs (.destroy e acts) (acts.foldl (actStep e p) cs).cfail
  | destroy {en : Ent} (hen : en ∈ cs.ents) (acts : List Act)
      (h1 : (acts.foldl (actStep en.eid en.pid) cs).sys.err = none)
      (hnone : ownsNone (acts.foldl (actStep en.eid en.pid) cs) en.eid = true) :
      COutcome cs (.destroy en.eid acts)
        { (acts.foldl (actStep en.eid en.pid) cs) with
            sys := step (acts.foldl (actStep en.eid en.pid) cs).sys (.adrop en.pid),
            ents := cs.ents.filter (fun x => x.eid != en.eid) }

theorem cstep_outcome {cs : CSys} (h0 : cs.sys.err = none) (op : COp) : COutcome cs op (cstep cs op) := by
  have fresh : ∀ {e : Nat}, ¬ ((findEnt cs e).isSome = true) → ∀ x ∈ cs.ents, x.eid ≠ e :=
    fun h => findEnt_none (by simpa using h)
  have halted : ∀ {cs1 : CSys}, cs1.sys.err.isSome = true → cs1 = cs1.cfail := fun {cs1} h => by
    cases h1 : cs1.sys.err with
    | none => rw [h1] at h; cases h
    | some e => exact (cfail_of_err h1).symm
  fun_cases cstep cs op
  -- every branch that ends in `cs.cfail`
  any_goals exact .illegal _
  -- the others in the order of the text of `cstep`; hypotheses: no error, the arguments of the call, the entities found
  -- (for two of them the second one's equation first), the guards passed
  next herr => rw [h0] at herr; cases herr
  next _ e cls cb hf => exact .newAlloc cls cb (fresh hf)
  next _ e src se hs hf => obtain ⟨hse, rfl⟩ := findEnt_some hs; exact .newFrom hse (fresh hf)
  next _ e acts en hs => obtain ⟨hen, rfl⟩ := findEnt_some hs; exact .mutate hen acts
  next _ d c acts de ce hc hd _ =>
    obtain ⟨hde, rfl⟩ := findEnt_some hd; obtain ⟨hce, rfl⟩ := findEnt_some hc; exact .copyAssign hde hce acts
  next _ d c cls cb acts ce hc hf => obtain ⟨hce, rfl⟩ := findEnt_some hc; exact .copyConstruct hce (fresh hf) cls cb acts
  next _ d c ce hc hf => obtain ⟨hce, rfl⟩ := findEnt_some hc; exact .moveConstruct hce (fresh hf)
  -- `moveAssign`: the frees ended in an error / `d` still holds a block / done
  next _ d c acts de ce hc hd _ herr => rw [halted herr]; exact .moveAssignFail _ acts
  next _ d c acts de ce hc hd _ _ hown => exact .moveAssignFail _ acts
  next _ d c acts de ce hc hd hdc herr hown =>
    obtain ⟨hde, rfl⟩ := findEnt_some hd; obtain ⟨hce, rfl⟩ := findEnt_some hc
    exact .moveAssign hde hce (fun h => hdc (Or.inl h)) acts (by simpa using herr) (by simpa using hown)
  next _ d c de ce hc hd _ => obtain ⟨hde, rfl⟩ := findEnt_some hd; obtain ⟨hce, rfl⟩ := findEnt_some hc; exact .swap hde hce
  next _ d c ids de ce hc hd hp =>
    obtain ⟨hde, rfl⟩ := findEnt_some hd; obtain ⟨hce, rfl⟩ := findEnt_some hc
    exact .splice hde hce (Decidable.byContradiction hp) ids
  -- `destroy`: the same three
  next _ e acts en hs herr => rw [halted herr]; exact .destroyFail _ acts
  next _ e acts en hs _ hown => exact .destroyFail _ acts
  next _ e acts en hs herr hown _ =>
    obtain ⟨hen, rfl⟩ := findEnt_some hs; exact .destroy hen acts (by simpa using herr) (by simpa using hown)

theorem nodupE_cons {cs : CSys} (hnd : (cs.ents.map (·.eid)).Nodup) {e : Nat} (hfresh : ∀ x ∈ cs.ents, x.eid ≠ e) (p : Nat) :
    (((⟨e, p⟩ : Ent) :: cs.ents).map (·.eid)).Nodup :=
  List.nodup_cons.mpr ⟨fun hm => (List.mem_map.mp hm).elim fun x hx => hfresh x hx.1 hx.2, hnd⟩

theorem newAlloc_cinv {cs : CSys} (hc : CInv cs) (h0 : cs.sys.err = none) (e : Nat) (cls : Cls) (cb : Nat)
    (hfresh : ∀ x ∈ cs.ents, x.eid ≠ e) :
    CInv { cs with sys := step cs.sys (.anew cls cb), ents := ⟨e, cs.sys.pools.length⟩ :: cs.ents } := by
  have hs : step cs.sys (.anew cls cb) = doNew cs.sys cls cb := step_of_err_none h0 _
  refine ⟨step_inv hc.inv _ (by rw [hs]; exact h0), nodupE_cons hc.nodupE hfresh _, ?_, ?_, ?_⟩ <;> simp only [hs]
  · intro b hb
    obtain ⟨x, hx, h1, h2⟩ := hc.owned b hb
    exact ⟨x, List.mem_cons_of_mem _ hx, h1, h2⟩
  · intro x hx
    rcases List.mem_cons.mp hx with rfl | hx
    · exact ⟨⟨cls, 0, 1, false⟩, List.getElem?_concat_length⟩
    · obtain ⟨st, hst⟩ := hc.entPool x hx
      exact ⟨st, ListFacts.getElem?_append_some hst⟩
  · intro j st hst
    rw [List.countP_cons]
    rcases ListFacts.getElem?_snoc hst with h | ⟨rfl, rfl⟩
    · have hj : j < cs.sys.pools.length := (List.getElem?_eq_some_iff.mp h).1
      rw [hc.refs j st h, if_neg (by simpa using Nat.ne_of_gt hj)]
      rfl
    · rw [List.countP_eq_zero.mpr fun x hx => by simpa using Nat.ne_of_lt (ent_pid_lt hc hx)]
      simp

/-- a new entity `e` on the pool of `se`. `own'` may hand blocks to `e` (second case of `hown`: the old holder is on the same pool):
    `newFrom` passes `cs.own`, `moveConstruct` the holders after the move. -/
theorem newFrom_cinv {cs : CSys} (hc : CInv cs) (h0 : cs.sys.err = none) (e : Nat) {se : Ent} (hse : se ∈ cs.ents)
    (hfresh : ∀ x ∈ cs.ents, x.eid ≠ e) (own' : Nat → Nat)
    (hown : ∀ b ∈ cs.sys.blocks, own' b.id = cs.own b.id ∨ (own' b.id = e ∧ ∃ x ∈ cs.ents, x.eid = cs.own b.id ∧ x.pid = se.pid))
    (hok : (step cs.sys (.acopy se.pid)).err = none) :
    CInv { sys := step cs.sys (.acopy se.pid), ents := ⟨e, se.pid⟩ :: cs.ents, own := own' } := by
  obtain ⟨st, st', hblocks, _, hset, hr⟩ := acopy_effect (step_outcome h0 _) hok
  have hex : ∀ y ∈ cs.ents, ∃ st, (step cs.sys (.acopy se.pid)).pools[y.pid]? = some st :=
    fun y hy => (hc.entPool y hy).elim fun a ha => hset.fwd ha
  refine ⟨step_inv hc.inv _ hok, nodupE_cons hc.nodupE hfresh _, fun b hb => ?_, fun x hx => ?_, fun j a' ha' => ?_⟩
  · rw [hblocks] at hb
    obtain ⟨x, hx, h1, h2⟩ := hc.owned b hb
    rcases hown b hb with h | ⟨h, y, hy, hy1, hy2⟩
    · exact ⟨x, List.mem_cons_of_mem _ hx, h1.trans h.symm, h2⟩
    · refine ⟨⟨e, se.pid⟩, List.mem_cons_self, h.symm, ?_⟩
      rw [← h2, ListFacts.key_inj (·.eid) hc.nodupE hx hy (h1.trans hy1.symm)]
      exact hy2.symm
  · rcases List.mem_cons.mp hx with rfl | hx
    · exact hex se hse
    · exact hex x hx
  · obtain ⟨a, ha, e⟩ := hset.refs_succ hr ha'
    rw [e, hc.refs j a ha]
    simp only [List.countP_cons, beq_iff_eq]

/-- the last step of `destroy`: an entity that holds nothing drops its allocator (`cs` is the state after the frees) -/
theorem destroy_cinv {cs : CSys} (hc : CInv cs) (h0 : cs.sys.err = none) {en : Ent} (hen : en ∈ cs.ents)
    (hnone : ownsNone cs en.eid = true) (hok : (step cs.sys (.adrop en.pid)).err = none) :
    CInv { cs with sys := step cs.sys (.adrop en.pid), ents := cs.ents.filter (fun x => x.eid != en.eid) } := by
  obtain ⟨st, st', hblocks, hset, hr⟩ := adrop_effect (step_outcome h0 _) hok
  have hno := ownsNone_iff.mp hnone
  refine ⟨step_inv hc.inv _ hok, ListFacts.nodup_filter_key hc.nodupE _, fun b hb => ?_, fun x hx => ?_, fun j a' ha' => ?_⟩
  · rw [hblocks] at hb
    obtain ⟨x, hx, h1, h2⟩ := hc.owned b hb
    exact ⟨x, List.mem_filter.mpr ⟨hx, by simpa [h1] using hno b hb⟩, h1, h2⟩
  · exact (hc.entPool x (List.mem_filter.mp hx).1).elim fun a ha => hset.fwd ha
  · obtain ⟨a, ha, e⟩ := hset.refs_pred hr ha'
    have hcf := ListFacts.countP_filter_key (·.eid) hc.nodupE hen (fun x => x.pid == j)
    simp only [beq_iff_eq] at hcf ⊢
    rw [e, hc.refs j a ha, ← hcf, Nat.add_sub_cancel]

theorem swap_cinv {cs : CSys} (hc : CInv cs) (d c : Nat) :
    CInv { cs with ents := cs.ents.map (fun x => ⟨swapName d c x.eid, x.pid⟩), own := fun i => swapName d c (cs.own i) } := by
  refine ⟨hc.inv, ?_, ?_, ?_, ?_⟩
  · simp only [List.map_map]
    have : ((fun x : Ent => x.eid) ∘ fun x : Ent => (⟨swapName d c x.eid, x.pid⟩ : Ent)) = (swapName d c) ∘ (fun x : Ent => x.eid) := rfl
    rw [this, ← List.map_map]
    refine List.Pairwise.map (swapName d c) ?_ hc.nodupE
    intro a b hne hab
    apply hne
    have := congrArg (swapName d c) hab
    simpa [swapName_invol] using this
  · intro b hb
    obtain ⟨x, hx, h1, h2⟩ := hc.owned b hb
    exact ⟨⟨swapName d c x.eid, x.pid⟩, List.mem_map.mpr ⟨x, hx, rfl⟩, by simp [h1], h2⟩
  · intro x hx
    obtain ⟨y, hy, rfl⟩ := List.mem_map.mp hx
    exact hc.entPool y hy
  · intro j a ha
    rw [hc.refs j a ha, List.countP_map]
    rfl

theorem splice_cinv {cs : CSys} (hc : CInv cs) {de ce : Ent} (hde : de ∈ cs.ents) (hce : ce ∈ cs.ents)
    (hp : de.pid = ce.pid) (ids : List Nat) :
    CInv { cs with own := fun i => if ids.contains i && cs.own i == ce.eid then de.eid else cs.own i } := by
  refine ⟨hc.inv, hc.nodupE, fun b hb => ?_, hc.entPool, hc.refs⟩
  obtain ⟨x, hx, h1, h2⟩ := hc.owned b hb
  by_cases hm : (ids.contains b.id && cs.own b.id == ce.eid) = true
  · refine ⟨de, hde, (if_pos hm).symm, ?_⟩
    -- the block changes hands between two entities on the same pool
    rw [hp, ← h2, ListFacts.key_inj (·.eid) hc.nodupE hx hce (h1.trans (beq_iff_eq.mp (Bool.and_eq_true_iff.mp hm).2))]
  · exact ⟨x, hx, h1.trans (if_neg hm).symm, h2⟩

/-- the last step of `moveAssign` (`cs` is the state after the frees, in which `de` holds nothing): `de` takes the allocator and
    the blocks of `ce` -/
theorem moveAssign_cinv {cs : CSys} (hc : CInv cs) (h0 : cs.sys.err = none) {de ce : Ent}
    (hde : de ∈ cs.ents) (hce : ce ∈ cs.ents) (hnone : ownsNone cs de.eid = true)
    (hok : (step (step cs.sys (.acopy ce.pid)) (.adrop de.pid)).err = none) :
    CInv { sys := step (step cs.sys (.acopy ce.pid)) (.adrop de.pid),
           ents := ⟨de.eid, ce.pid⟩ :: cs.ents.filter (fun x => x.eid != de.eid),
           own := fun i => if cs.own i = ce.eid then de.eid else cs.own i } := by
  have hokA : (step cs.sys (.acopy ce.pid)).err = none := by
    cases h : (step cs.sys (.acopy ce.pid)).err with
    | none => rfl
    | some er => rw [step_of_err h, h] at hok; cases hok
  obtain ⟨st, st1, hblocksA, _, hsetA, hrA⟩ := acopy_effect (step_outcome h0 _) hokA
  obtain ⟨stA, stB, hblocksB, hsetB, hrB⟩ := adrop_effect (step_outcome hokA _) hok
  have hno := ownsNone_iff.mp hnone
  have hex : ∀ y ∈ cs.ents, ∃ st, (step (step cs.sys (.acopy ce.pid)) (.adrop de.pid)).pools[y.pid]? = some st :=
    fun y hy => (hc.entPool y hy).elim fun a ha => (hsetA.fwd ha).elim fun a1 ha1 => hsetB.fwd ha1
  refine ⟨step_inv (step_inv hc.inv _ hokA) _ hok, ?_, fun b hb => ?_, fun x hx => ?_, fun j a2 h2 => ?_⟩
  · refine List.nodup_cons.mpr ⟨fun hm => ?_, ListFacts.nodup_filter_key hc.nodupE _⟩
    obtain ⟨x, hx, hxe⟩ := List.mem_map.mp hm
    simpa [hxe] using (List.mem_filter.mp hx).2
  · rw [hblocksB, hblocksA] at hb
    obtain ⟨x, hx, h1, h2⟩ := hc.owned b hb
    by_cases hoc : cs.own b.id = ce.eid
    · refine ⟨⟨de.eid, ce.pid⟩, List.mem_cons_self, (if_pos hoc).symm, ?_⟩
      rw [← h2, ListFacts.key_inj (·.eid) hc.nodupE hx hce (h1.trans hoc)]
    · exact ⟨x, List.mem_cons_of_mem _ (List.mem_filter.mpr ⟨hx, by simpa [h1] using hno b hb⟩),
        h1.trans (if_neg hoc).symm, h2⟩
  · rcases List.mem_cons.mp hx with rfl | hx
    · exact hex ce hce
    · exact hex x (List.mem_filter.mp hx).1
  · -- `ce.pid` gains an owner, `de.pid` loses one; the entity `de` is replaced by one attached to `ce.pid`
    obtain ⟨a1, h1, e1⟩ := hsetB.refs_pred hrB h2
    obtain ⟨a0, h0', e0⟩ := hsetA.refs_succ hrA h1
    have hcf := ListFacts.countP_filter_key (·.eid) hc.nodupE hde (fun x => x.pid == j)
    simp only [List.countP_cons, beq_iff_eq] at hcf ⊢
    rw [e1, e0, hc.refs j a0 h0', ← hcf, Nat.add_right_comm, Nat.add_sub_cancel]

end Momo.PoolAlloc
