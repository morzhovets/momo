import Momo.Proof.ArrFaultShift
import Momo.Proof.ArrShift
/-!
  C04 / C10: positional insert / remove of `momo::Array` (basic guarantee) under every fault schedule:
  success with the state of the fault-free model `Momo.Arr`; after an exception a valid array (`WF`: count within
  capacity, storage consistent) whose ledger is exactly what it owns (as many constructed objects as cells, its own
  block, no bad deallocation / destruction), with the count between the old and the intended new count.
-/
namespace Momo.ArrF
open Momo Momo.Arr
open FM (throw tryCatch)
variable {α β γ : Type}

-- `Post` is used through its lemmas only (the reason is given in `ArrFault.lean`)
attribute [local irreducible] Post

theorem Valid.of_core {cfg : Cfg} {rest : List Nat} {k : Nat} {x y : Sys α} (v : Valid cfg rest k x) (h : y.core = x.core) :
    Valid cfg rest k y := by
  simp only [core_eq_iff] at h
  obtain ⟨ha, hb, ho, hbad⟩ := h
  exact ⟨ha ▸ v.wf, frame_of_eq v.frame ha hb, by rw [ho, ha]; exact v.objs, hbad.trans v.good⟩

theorem Valid.with_cells {cfg : Cfg} {rest : List Nat} {k : Nat} {x y : Sys α} (v : Valid cfg rest k x) {cs : Cells α}
    {d : Nat} (ya : y.arr = { x.arr with cells := cs }) (yb : y.blocks = x.blocks) (yo : y.objs = x.objs + d)
    (ybad : y.bad = x.bad) (hl : cs.length = x.arr.cells.length + d) (room : cs.length ≤ capacity cfg x.arr) :
    Valid cfg rest k y := by
  refine ⟨ya ▸ wf_with_cells v.wf cs room, ?_, ?_, ybad.trans v.good⟩
  · show y.blocks = ownBlocks cfg y.arr ++ rest
    rw [ya, yb]; exact v.frame
  · rw [yo, ya, v.objs]
    show _ = cs.length + k
    rw [hl, Nat.add_right_comm]

/-- `Basic` with the count before the operation as a parameter `n`: it survives a change of the start state -/
def BasicFrom (cfg : Cfg) (rest : List Nat) (k : Nat) (m : FM α Unit) (x : Sys α) (s' : State α) (n count : Nat) : Prop :=
  PostF m x (fun _ y => y.arr = s' ∧ Valid cfg rest k y)
    (fun y => Valid cfg rest k y ∧ n ≤ y.arr.cells.length ∧ y.arr.cells.length ≤ n + count)

/-- outcome of an operation with the basic guarantee that may add up to `count` items -/
def Basic (cfg : Cfg) (rest : List Nat) (k : Nat) (m : FM α Unit) (x : Sys α) (s' : State α) (count : Nat) : Prop :=
  BasicFrom cfg rest k m x s' x.arr.cells.length count

theorem shift_basic (cfg : Cfg) (thr : Thr) (rest : List Nat) (k : Nat) (ps : List (Prim α)) (x : Sys α)
    (v : Valid cfg rest k x) (room : x.arr.cells.length + adds ps ≤ capacity cfg x.arr) :
    Basic cfg rest k (execPrims cfg thr ps) x { x.arr with cells := runPrims cfg.keeps x.arr.cells ps } (adds ps) := by
  apply PostF.mono (execPrims_spec cfg thr ps x)
  · rintro _ y ⟨ya, yb, yo, ybad⟩
    exact ⟨ya, v.with_cells ya yb yo ybad (runPrims_length ..) (by rw [runPrims_length]; exact room)⟩
  · rintro y ⟨n, hn, ya, yb, yo, ybad⟩
    have hle := adds_take_le ps n
    have hl := runPrims_length cfg.keeps (ps.take n) x.arr.cells
    have hle' := Nat.add_le_add_left hle x.arr.cells.length
    refine ⟨v.with_cells ya yb yo ybad hl (hl ▸ Nat.le_trans hle' room), ?_⟩
    rw [ya]
    show _ ≤ (runPrims _ _ _).length ∧ (runPrims _ _ _).length ≤ _
    rw [hl]
    exact ⟨Nat.le_add_right .., hle'⟩

theorem shiftNF_basic (cfg : Cfg) (thr : Thr) (rest : List Nat) (k : Nat) (index count : Nat) (item : Ref α) (x : Sys α)
    (v : Valid cfg rest k x) (hi : index ≤ x.arr.cells.length) (room : x.arr.cells.length + count ≤ capacity cfg x.arr) :
    Basic cfg rest k (shiftNF cfg thr index count item) x
      { x.arr with cells := insertNogrowN cfg.keeps x.arr.cells index count item } count := by
  unfold shiftNF Basic BasicFrom
  rw [postF_getArr_bind]
  have := shift_basic cfg thr rest k (progN x.arr.cells.length index count item) x v (by rw [adds_progN _ _ _ _ hi]; exact room)
  rw [runPrims_progN, adds_progN _ _ _ _ hi] at this
  exact this

theorem shiftRF_basic (cfg : Cfg) (thr : Thr) (rest : List Nat) (k : Nat) (mv : Bool) (index : Nat) (rs : List (Ref α))
    (x : Sys α) (v : Valid cfg rest k x) (hi : index ≤ x.arr.cells.length)
    (room : x.arr.cells.length + rs.length ≤ capacity cfg x.arr) :
    Basic cfg rest k (shiftRF cfg thr mv index rs) x
      { x.arr with cells := insertNogrowR cfg.keeps mv x.arr.cells index rs } rs.length := by
  unfold shiftRF Basic BasicFrom
  rw [postF_getArr_bind]
  have := shift_basic cfg thr rest k (progR mv x.arr.cells.length index rs) x v (by rw [adds_progR _ _ _ _ hi]; exact room)
  rw [runPrims_progR, adds_progR _ _ _ _ hi] at this
  exact this

theorem Valid.drop {cfg : Cfg} {rest : List Nat} {k : Nat} {y : Sys α} (v : Valid cfg rest (k + 1) y) :
    Valid cfg rest k { y with objs := y.objs - 1, bad := y.bad || decide (y.objs < 1) } := by
  refine ⟨v.wf, v.frame, ?_, ?_⟩
  · show y.objs - 1 = y.arr.cells.length + k
    rw [v.objs]; rfl
  · show (y.bad || decide (y.objs < 1)) = false
    rw [v.good, v.objs, ← Nat.add_assoc, decide_eq_false (Nat.not_lt.mpr (Nat.le_add_left ..))]; rfl

theorem Valid.built {cfg : Cfg} {rest : List Nat} {k : Nat} {x y : Sys α} (v : Valid cfg rest k x)
    (hy : y.core = { x.core with objs := x.objs + 1 }) : Valid cfg rest (k + 1) y := by
  obtain ⟨ya, yb, yo, ybad⟩ := (core_eq_objs ..).mp hy
  exact ⟨ya ▸ v.wf, frame_of_eq v.frame ya yb, by rw [yo, ya, v.objs]; rfl, ybad.trans v.good⟩

theorem Valid.unchanged {cfg : Cfg} {rest : List Nat} {k : Nat} {x y : Sys α} (v : Valid cfg rest k x)
    (h : y.core = x.core) {count : Nat} :
    Valid cfg rest k y ∧ x.arr.cells.length ≤ y.arr.cells.length ∧ y.arr.cells.length ≤ x.arr.cells.length + count := by
  rw [show y.arr = x.arr from congrArg Core.arr h]
  exact ⟨v.of_core h, Nat.le_refl _, Nat.le_add_right ..⟩

/-- the scope of an `ArrayItemHandler` / `ItemHandler`: `{ handler; try body } ~handler` -/
theorem handler_scope {cfg : Cfg} {rest : List Nat} {k : Nat} {body : FM α Unit} {x : Sys α} {s' : State α}
    {n count : Nat} (h : BasicFrom cfg rest (k + 1) body x s' n count) :
    BasicFrom cfg rest k (do tryCatch body (undo 1); destroyObjs 1) x s' n count := by
  apply PostF.bind _ (PostF.tryCatch _ h fun y hy => (post_undo ..).mpr ⟨hy.1.drop, hy.2⟩)
  exact fun _ y hy => (postF_step (post_destroyObjs _ _) _ _).mpr ⟨hy.1, hy.2.drop⟩

theorem construct_handler_scope {cfg : Cfg} {rest : List Nat} {k : Nat} {body : FM α Unit} {x : Sys α} {s' : State α}
    {count : Nat} (b : Bool) (v : Valid cfg rest k x)
    (h : ∀ y : Sys α, y.arr = x.arr → Valid cfg rest (k + 1) y →
      BasicFrom cfg rest (k + 1) body y s' x.arr.cells.length count) :
    BasicFrom cfg rest k (do construct b; tryCatch body (undo 1); destroyObjs 1) x s' x.arr.cells.length count :=
  PostF.bind' _ _ (construct_spec b x) (fun _ hy => v.unchanged hy) fun _ y hy =>
    handler_scope (h y ((core_eq_objs ..).mp hy).1 (v.built hy))

theorem growF_then {cfg : Cfg} {thr : Thr} {rest : List Nat} {k : Nat} {m : FM α Unit} {x : Sys α} {s' : State α}
    {n count : Nat} (minNew : Nat) (v : Valid cfg rest k x) (hn : x.arr.cells.length = n)
    (h : capacity cfg x.arr < minNew) (hlen : n ≤ minNew)
    (hm : ∀ z : Sys α, Valid cfg rest k z → z.arr = (grow cfg x.arr minNew false).1 → z.arr.cells.length = n →
      minNew ≤ capacity cfg z.arr → BasicFrom cfg rest k m z s' n count) :
    BasicFrom cfg rest k (do growF cfg thr minNew false; m) x s' n count := by
  subst hn
  refine PostF.bind' _ _ (growF_spec cfg thr minNew false x rest v.wf v.frame h) (fun _ hy => v.unchanged hy) ?_
  rintro _ z ⟨za, zf, zo, zbad⟩
  obtain ⟨w', hc⟩ := grow_wf cfg x.arr minNew false hlen
  have hcells := grow_cells cfg x.arr minNew false (Nat.lt_of_le_of_lt (Nat.zero_le _) h)
  exact hm z ⟨za ▸ w', zf, by rw [zo, v.objs, za, hcells], zbad.trans v.good⟩ za (by rw [za, hcells]) (za ▸ hc)

theorem insertCrtF_basic (cfg : Cfg) (thr : Thr) (rest : List Nat) (k : Nat) (index : Nat) (mv : Bool) (item : Ref α)
    (x : Sys α) (v : Valid cfg rest k x) (hi : index ≤ x.arr.cells.length) :
    Basic cfg rest k (insertCrtF cfg thr index mv item) x (insertCrt cfg x.arr index mv item).1 1 := by
  unfold Basic BasicFrom insertCrtF insertCrt
  rw [postF_getArr_bind]
  apply PostF.bind' _ _ (construct_spec _ x) (fun _ hy => v.unchanged hy)
  intro _ y hy
  obtain ⟨ya, yb, yo, ybad⟩ := (core_eq_objs ..).mp hy
  rw [postF_step_bind (post_modifyCells _ _), ya]
  -- the state after the handler took the item: known by its array and by `Valid`
  generalize hy1 : ({ y with arr := { x.arr with cells := item.taken cfg.keeps mv x.arr.cells } } : Sys α) = y1
  have ha1 : y1.arr = { x.arr with cells := item.taken cfg.keeps mv x.arr.cells } := hy1 ▸ rfl
  have hlen : y1.arr.cells.length = x.arr.cells.length := by rw [ha1]; exact taken_length ..
  have v1 : Valid cfg rest (k + 1) y1 :=
    (v.built hy).with_cells (d := 0) (by rw [ha1, ya]) (hy1 ▸ rfl) (hy1 ▸ rfl) (hy1 ▸ rfl)
      (by rw [ya]; exact taken_length ..) (by rw [ya, taken_length]; exact v.wf.count_le)
  have hcap : capacity cfg y1.arr = capacity cfg x.arr := by rw [ha1]; rfl
  refine handler_scope (PostF.ite (fun hg => ?_) fun hg => ?_)
  · rw [if_pos hg, ← ha1]
    refine growF_then _ v1 hlen (hcap ▸ hg) (Nat.le_succ _) fun z vz za zl zcap => ?_
    apply PostF.mono (shiftRF_basic cfg thr rest (k + 1) true index [.ext (item.read x.arr.cells)] z vz
      (zl ▸ hi) (by rw [zl]; exact zcap)) _ (fun _ h => zl ▸ h)
    exact fun _ u hu => ⟨by rw [hu.1, za]; rfl, hu.2⟩
  · rw [if_neg hg]
    apply PostF.mono (shiftRF_basic cfg thr rest (k + 1) true index [.ext (item.read x.arr.cells)] y1 v1
      (hlen ▸ hi) (by rw [hlen, hcap]; exact Nat.not_lt.mp hg)) _ (fun _ h => hlen ▸ h)
    exact fun _ u hu => ⟨by rw [hu.1, ha1], hu.2⟩

theorem insertMoveF_basic (cfg : Cfg) (thr : Thr) (rest : List Nat) (k : Nat) (index : Nat) (item : Ref α)
    (x : Sys α) (v : Valid cfg rest k x) (hi : index ≤ x.arr.cells.length) :
    Basic cfg rest k (insertMoveF cfg thr index item) x (insertMove cfg x.arr index item).1 1 := by
  unfold insertMoveF insertMove Basic BasicFrom
  rw [postF_getArr_bind]
  refine PostF.ite (fun h => ?_) fun h => ?_
  · rw [if_pos h]
    exact insertCrtF_basic cfg thr rest k index true item x v hi
  · rw [if_neg h]
    simp only [Bool.or_eq_true, decide_eq_true_eq, not_or, Nat.not_lt] at h
    exact shiftRF_basic cfg thr rest k true index [item] x v hi h.1

theorem insertNF_basic (cfg : Cfg) (thr : Thr) (rest : List Nat) (k : Nat) (index count : Nat) (item : Ref α)
    (x : Sys α) (v : Valid cfg rest k x) (hi : index ≤ x.arr.cells.length) :
    Basic cfg rest k (insertNF cfg thr index count item) x (insertN cfg x.arr index count item).1 count := by
  unfold insertNF insertN Basic BasicFrom
  rw [postF_getArr_bind]
  refine PostF.ite (fun hg => ?_) fun hg => PostF.ite (fun ha => ?_) fun ha => ?_
  · rw [if_pos hg]
    refine construct_handler_scope _ v fun y ya v1 => ?_
    refine growF_then _ v1 (by rw [ya]) (by rw [ya]; exact hg) (Nat.le_add_right ..) fun z vz za zl zcap => ?_
    apply PostF.mono (shiftNF_basic cfg thr rest (k + 1) index count (.ext (item.read x.arr.cells)) z vz
      (by omega) (by rw [zl]; exact zcap)) _ (fun _ h => zl ▸ h)
    exact fun _ u hu => ⟨by rw [hu.1, za, ya]; rfl, hu.2⟩
  · rw [if_neg hg, if_pos ha]
    refine construct_handler_scope _ v fun y ya v1 => ?_
    have h := shiftNF_basic cfg thr rest (k + 1) index count (.ext (item.read x.arr.cells)) y v1
      (by rw [ya]; exact hi) (by rw [ya]; exact Nat.not_lt.mp hg)
    rw [Basic, ya] at h
    exact h
  · rw [if_neg hg, if_neg ha]
    exact shiftNF_basic cfg thr rest k index count item x v hi (Nat.not_lt.mp hg)

theorem insertRangeF_basic (cfg : Cfg) (thr : Thr) (rest : List Nat) (k : Nat) (index : Nat) (xs : List (Cell α))
    (x : Sys α) (v : Valid cfg rest k x) (hi : index ≤ x.arr.cells.length) :
    Basic cfg rest k (insertRangeF cfg thr index xs) x (insertRange cfg x.arr index xs).1 xs.length := by
  unfold insertRangeF insertRange Basic BasicFrom
  rw [postF_getArr_bind]
  have hl : (xs.map Ref.ext).length = xs.length := List.length_map ..
  refine PostF.ite (fun hg => ?_) fun hg => ?_
  · rw [if_pos hg]
    refine growF_then _ v rfl hg (Nat.le_add_right ..) fun z vz za zl zcap => ?_
    apply PostF.mono (shiftRF_basic cfg thr rest k false index (xs.map .ext) z vz
      (by omega) (by rw [zl, hl]; exact zcap)) _ (fun _ h => hl ▸ zl ▸ h)
    exact fun _ u hu => ⟨by rw [hu.1, za]; rfl, hu.2⟩
  · rw [if_neg hg]
    exact hl ▸ shiftRF_basic cfg thr rest k false index (xs.map .ext) x v hi (by rw [hl]; exact Nat.not_lt.mp hg)

theorem removeBackF_valid (cfg : Cfg) (rest : List Nat) (k : Nat) (count : Nat) (x : Sys α) (v : Valid cfg rest k x)
    (h : count ≤ x.arr.cells.length) :
    PostF (removeBackF count) x (fun _ y => y.arr = removeBack x.arr count ∧ Valid cfg rest k y) (fun _ => False) := by
  unfold removeBackF
  rw [postF_getArr_bind, postF_step_bind (post_destroyObjs _ _), postF_step (post_setArr _ _)]
  exact ⟨rfl, v.removeBack h⟩

theorem removeF_basic (cfg : Cfg) (thr : Thr) (rest : List Nat) (k : Nat) (index count : Nat)
    (x : Sys α) (v : Valid cfg rest k x) (h : index + count ≤ x.arr.cells.length) :
    Basic cfg rest k (removeF cfg thr index count) x (removeOp cfg x.arr index count) 0 := by
  unfold removeF removeOp remove Basic BasicFrom
  rw [postF_getArr_bind]
  refine PostF.ite (fun h0 => ?_) fun h0 => ?_
  · rw [if_pos h0]
    exact .pure ⟨rfl, v⟩
  · rw [if_neg h0]
    have hadds := adds_progRem (α := α) count (x.arr.cells.length - (index + count)) (index + count)
    have hcl := v.wf.count_le
    apply PostF.bind' _ _ (shift_basic cfg thr rest k _ x v (by rw [hadds]; exact hcl)) (fun _ h => hadds ▸ h)
    rintro _ y ⟨ya, vy⟩
    rw [runPrims_progRem] at ya
    have hl : y.arr.cells.length = x.arr.cells.length := by
      have := runPrims_length cfg.keeps (progRem count (index + count) (x.arr.cells.length - (index + count))) x.arr.cells
      rw [runPrims_progRem, hadds] at this
      rw [ya]; exact this
    apply PostF.mono (removeBackF_valid cfg rest k count y vy (by omega)) _ (fun _ h => h.elim)
    rintro _ z ⟨za, vz⟩
    exact ⟨by rw [za, removeBack, hl, ya], vz⟩

theorem loopFiltF_spec (cfg : Cfg) (thr : Thr) (rest : List Nat) (k : Nat) (p : Cell α → Bool) :
    ∀ (f nc i : Nat) (x : Sys α), Valid cfg rest k x →
    PostF (loopFiltF cfg thr p nc i f) x
      (fun r y => y.arr = { x.arr with cells := (loopFilt cfg.keeps p x.arr.cells nc i f).1 } ∧
        r = (loopFilt cfg.keeps p x.arr.cells nc i f).2 ∧ Valid cfg rest k y)
      (fun y => Valid cfg rest k y ∧ y.arr.cells.length = x.arr.cells.length)
  | 0, nc, i, x, v => .pure ⟨rfl, rfl, v⟩
  | f+1, nc, i, x, v => by
    unfold loopFiltF
    rw [postF_getArr_bind, loopFilt]
    refine PostF.ite (fun hp => ?_) fun hp => ?_
    · rw [if_pos hp]
      exact loopFiltF_spec cfg thr rest k p f nc (i+1) x v
    · rw [if_neg hp]
      apply PostF.bind' _ _ (execPrim_spec cfg thr (.assignMove i nc) x)
        (fun y hy => ⟨v.of_core hy, by rw [show y.arr = x.arr from congrArg Core.arr hy]⟩)
      rintro _ y ⟨ya, yb, yo, ybad⟩
      have hl : (assignMove cfg.keeps x.arr.cells i nc).length = x.arr.cells.length := assignMove_length ..
      have vy : Valid cfg rest k y := v.with_cells ya yb yo ybad hl (hl ▸ v.wf.count_le)
      apply PostF.mono (loopFiltF_spec cfg thr rest k p f (nc+1) (i+1) y vy)
      · rintro r z ⟨za, hr, vz⟩
        rw [ya] at za hr
        exact ⟨za, hr, vz⟩
      · rintro z ⟨vz, hz⟩
        rw [ya] at hz
        exact ⟨vz, hz.trans hl⟩

/-- not in the form `Basic`: the operation returns the number of removed items, and the count after an exception is the old one
    exactly; `step_spec` brings it into the common form -/
theorem removeIfF_basic (cfg : Cfg) (thr : Thr) (rest : List Nat) (k : Nat) (p : Cell α → Bool)
    (x : Sys α) (v : Valid cfg rest k x) :
    PostF (removeIfF cfg thr p) x
      (fun r y => y.arr = (removeIfOp cfg x.arr p).1 ∧ r = (removeIfOp cfg x.arr p).2 ∧ Valid cfg rest k y)
      (fun y => Valid cfg rest k y ∧ y.arr.cells.length = x.arr.cells.length) := by
  unfold removeIfF removeIfOp removeIf removeIfAt finishFilt
  rw [postF_getArr_bind]
  have hk := firstHit_le p x.arr.cells
  generalize firstHit p x.arr.cells 0 x.arr.cells.length = k0 at hk ⊢
  obtain ⟨hle, hlen⟩ := loopFilt_count_le cfg.keeps p (x.arr.cells.length - (k0 + 1)) x.arr.cells k0 (k0 + 1)
  apply PostF.bind' _ _ (loopFiltF_spec cfg thr rest k p _ _ _ x v) (fun _ h => h)
  generalize loopFilt cfg.keeps p x.arr.cells k0 (k0 + 1) (x.arr.cells.length - (k0 + 1)) = lf at hle hlen ⊢
  have hnc : lf.2 ≤ x.arr.cells.length := by omega
  rintro r y ⟨ya, rfl, vy⟩
  have hl : y.arr.cells.length = x.arr.cells.length := by rw [ya]; exact hlen
  apply PostF.bind' _ _ (removeBackF_valid cfg rest k _ y vy (by rw [hl]; exact Nat.sub_le ..)) (fun _ h => h.elim)
  rintro _ z ⟨za, vz⟩
  refine .pure ⟨?_, rfl, vz⟩
  rw [za, removeBack, hl, ya, Nat.sub_sub_self hnc]

end Momo.ArrF
