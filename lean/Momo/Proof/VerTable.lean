import Momo.Proof.VerMulti
/-!
  DataTable (C15): row references, selections and row pointers watch the remove version, hash bounds the change version.
  Effect of each entry point (`TblEff`, with the quiet clauses `TblEffX`); `BWorld.step_outcome` is the one case analysis of the EFFECTS of
  the entry points (`step_facts`, `step_quiet`, `step_reject_unchanged` are read off it), `ref_rejected` the one of the rejection side
  (stale and foreign row references are its instances); `QuietStep` and the histories `run_*`.  The index decision tables of tables, selections and arrays are proved where they
  are stated, in Props/C15.
-/
namespace Momo.Ver

/-- some row of `rows` has no counterpart (same raw) in `rows'`: it was removed or replaced -/
def BWorld.Gone (rows rows' : List RowV) : Prop := ∃ x ∈ rows, ∀ y ∈ rows', y.raw ≠ x.raw

/-- effect of one call on a table: `nc` increments of the change version - at least one if the rows changed - and `nr` of the
    remove version - at least one if a row is gone (the last clause is `BWorld.Gone t.rows t'.rows` written out) -/
def TblEff (cs : Cells) (t : Table) (cs' : Cells) (t' : Table) : Prop :=
  t'.id = t.id ∧ t'.ccell = t.ccell ∧ t'.rcell = t.rcell ∧ ∃ nc nr, cs' = bumpN (bumpN cs t.ccell nc) t.rcell nr ∧
    (t'.rows ≠ t.rows → 0 < nc) ∧ ((∃ x ∈ t.rows, ∀ y ∈ t'.rows, y.raw ≠ x.raw) → 0 < nr)

theorem TblEff.refl (cs : Cells) (t : Table) : TblEff cs t cs t :=
  ⟨rfl, rfl, rfl, 0, 0, by rw [bumpN_zero, bumpN_zero], fun h => absurd rfl h,
   fun ⟨x, hx, h⟩ => absurd rfl (h x hx)⟩

theorem TblEff.both {cs cs' : Cells} {t t' : Table} (hcs : cs' = bump (bump cs t.ccell) t.rcell)
    (h1 : t'.id = t.id) (h2 : t'.ccell = t.ccell) (h3 : t'.rcell = t.rcell) : TblEff cs t cs' t' :=
  ⟨h1, h2, h3, 1, 1, hcs, fun _ => Nat.one_pos, fun _ => Nat.one_pos⟩

/-- only the change version moves: allowed when every old raw is still present -/
theorem TblEff.change {cs cs' : Cells} {t t' : Table} (hcs : cs' = bump cs t.ccell)
    (h1 : t'.id = t.id) (h2 : t'.ccell = t.ccell) (h3 : t'.rcell = t.rcell)
    (hkeep : ∀ x ∈ t.rows, ∃ y ∈ t'.rows, y.raw = x.raw) : TblEff cs t cs' t' :=
  ⟨h1, h2, h3, 1, 0, by rw [hcs, bumpN_zero]; rfl, fun _ => Nat.one_pos,
   fun ⟨x, hx, h⟩ => by obtain ⟨y, hy, e⟩ := hkeep x hx; exact absurd e (h y hy)⟩

/-- entry points of DataTable that never touch the remove version: insertions and updates of one column -/
def BOp.KeepsRows : BOp → Prop
  | .add _ _ _ => True
  | .insert _ _ _ _ => True
  | .updB _ _ _ => True
  | _ => False

/-- the "inserted" flag an entry point answers, if any -/
def BRes.flag : BRes → Option Bool
  | .refFlag _ b => some b
  | _ => none

/-- `TblEff` with what makes a call quiet: a call that answered 'not inserted' (`flag = some false`: refused by the unique index)
    moved no counter, and an entry point that keeps rows (`keeps`: `BOp.KeepsRows`) left the remove version alone -/
def TblEffX (keeps : Prop) (flag : Option Bool) (cs : Cells) (t : Table) (cs' : Cells) (t' : Table) : Prop :=
  TblEff cs t cs' t' ∧ (flag = some false → cs' = cs) ∧ (keeps → t.ccell ≠ t.rcell → cs' t.rcell = cs t.rcell)

theorem TblEffX.refl {keeps : Prop} {flag : Option Bool} (cs : Cells) (t : Table) : TblEffX keeps flag cs t cs t :=
  ⟨TblEff.refl cs t, fun _ => rfl, fun _ _ => rfl⟩

theorem TblEffX.change {keeps : Prop} {flag : Option Bool} {cs : Cells} {t t' : Table} (hf : flag ≠ some false)
    (h1 : t'.id = t.id) (h2 : t'.ccell = t.ccell) (h3 : t'.rcell = t.rcell)
    (hkeep : ∀ x ∈ t.rows, ∃ y ∈ t'.rows, y.raw = x.raw) : TblEffX keeps flag cs t (bump cs t.ccell) t' :=
  ⟨TblEff.change rfl h1 h2 h3 hkeep, fun h => absurd h hf, fun _ hne => bump_other (Ne.symm hne)⟩

theorem TblEffX.both {flag : Option Bool} {cs : Cells} {t t' : Table} (hf : flag ≠ some false)
    (h1 : t'.id = t.id) (h2 : t'.ccell = t.ccell) (h3 : t'.rcell = t.rcell) :
    TblEffX False flag cs t (bump (bump cs t.ccell) t.rcell) t' :=
  ⟨TblEff.both rfl h1 h2 h3, fun h => absurd h hf, False.elim⟩

namespace Table

theorem tryAdd_eff (t : Table) (cs : Cells) (a b : Nat) :
    TblEffX True (some (t.tryAdd cs a b).2.2.2) cs t (t.tryAdd cs a b).1 (t.tryAdd cs a b).2.1 := by
  unfold tryAdd
  split
  · exact TblEffX.refl cs t
  · exact TblEffX.change nofun rfl rfl rfl fun x hx => ⟨x, List.mem_append_left _ hx, rfl⟩

theorem tryInsert_eff {t : Table} {cs : Cells} {i a b : Nat} {r} (hr : t.tryInsert cs i a b = some r) :
    TblEffX True (some r.2.2.2) cs t r.1 r.2.1 := by
  obtain ⟨-, hr⟩ := chk_bind hr
  split at hr <;> cases hr
  · exact TblEffX.refl cs t
  · refine TblEffX.change nofun rfl rfl rfl fun x hx => ⟨x, ?_, rfl⟩
    rw [← List.take_append_drop i t.rows] at hx
    exact (List.mem_append.mp hx).elim (List.mem_append_left _) fun h => List.mem_append_right _ (List.mem_cons_of_mem _ h)

theorem tryUpdateRow_eff {t : Table} {cs : Cells} {i a b : Nat} {r} (hr : t.tryUpdateRow cs i a b = some r) :
    TblEffX False (some r.2.2.2) cs t r.1 r.2.1 := by
  obtain ⟨old, -, hr⟩ := Option.bind_eq_some_iff.mp hr
  split at hr <;> cases hr
  · exact TblEffX.refl cs t
  · exact TblEffX.both nofun rfl rfl rfl

theorem updateB_eff {t : Table} {cs : Cells} {r : RowRef} {b : Nat} {x} (hr : t.updateB cs r b = some x) :
    TblEffX True none cs t x.1 x.2 := by
  obtain ⟨u, -, hr⟩ := Option.bind_eq_some_iff.mp hr
  cases hr
  refine TblEffX.change nofun rfl rfl rfl fun y hy => ⟨_, List.mem_map_of_mem hy, ?_⟩
  split <;> rfl

theorem dropRow_eff (t : Table) (cs : Cells) (raw : Nat) : TblEffX False none cs t (t.dropRow cs raw).1 (t.dropRow cs raw).2 :=
  TblEffX.both nofun rfl rfl rfl

theorem removeRef_eff {t : Table} {cs : Cells} {r : RowRef} {x} (hr : t.removeRef cs r = some x) : TblEffX False none cs t x.1 x.2 := by
  obtain ⟨u, -, hr⟩ := Option.bind_eq_some_iff.mp hr
  cases hr; exact dropRow_eff t cs _

theorem removeNum_eff {t : Table} {cs : Cells} {i : Nat} {x} (hr : t.removeNum cs i = some x) : TblEffX False none cs t x.1 x.2 := by
  obtain ⟨u, -, hr⟩ := Option.bind_eq_some_iff.mp hr
  cases hr; exact dropRow_eff t cs _

theorem clear_eff (t : Table) (cs : Cells) : TblEffX False none cs t (t.clear cs).1 (t.clear cs).2 :=
  TblEffX.both nofun rfl rfl rfl

theorem removeIf_eff (t : Table) (cs : Cells) (m r : Nat) : TblEffX False none cs t (t.removeIf cs m r).1 (t.removeIf cs m r).2.1 :=
  TblEffX.both nofun rfl rfl rfl

theorem removeRefs_eff {t : Table} {cs : Cells} {rs : List RowRef} {keep : Bool} {x} (hr : t.removeRefs cs rs keep = some x) :
    TblEffX False none cs t x.1 x.2 := by
  obtain ⟨-, hr⟩ := chk_bind hr
  cases hr; exact TblEffX.both nofun rfl rfl rfl

theorem checkRef_none {t : Table} {cs : Cells} {r : RowRef} (hf : (r.tbl == t.id) = false ∨ r.kp.check cs = false) :
    t.checkRef cs r = none := by
  unfold checkRef
  rcases hf with hf | hf <;> rw [hf]
  · rfl
  · cases chk (r.tbl == t.id) <;> rfl

theorem ref_uses_rejected {t : Table} {cs : Cells} {r : RowRef} (h : t.checkRef cs r = none) :
    t.removeRef cs r = none ∧ (∀ b, t.updateB cs r b = none) ∧ t.makeMutable cs r = none := by
  unfold removeRef updateB makeMutable
  rw [h]
  exact ⟨rfl, fun _ => rfl, rfl⟩

theorem removeRefs_none {t : Table} {cs : Cells} {r : RowRef} (hf : (r.kp.check cs && r.tbl == t.id) = false)
    (rs1 rs2 : List RowRef) (keep : Bool) : t.removeRefs cs (rs1 ++ r :: rs2) keep = none := by
  unfold removeRefs
  rw [List.all_append, List.all_cons, hf, Bool.false_and, Bool.and_false]
  rfl

theorem ref_stale_rejected (t : Table) (cs : Cells) (r : RowRef) (hs : Stale r.kp cs) :
    r.get cs = none ∧ t.removeRef cs r = none ∧ (∀ b, t.updateB cs r b = none) ∧ t.makeMutable cs r = none ∧
    newRowFrom cs r = none ∧ (∀ rs1 rs2 keep, t.removeRefs cs (rs1 ++ r :: rs2) keep = none) :=
  have hc := hs.check
  have hu := ref_uses_rejected (checkRef_none (t := t) (.inr hc))
  have hg : r.get cs = none := by unfold RowRef.get; rw [hc]; rfl
  ⟨hg, hu.1, hu.2.1, hu.2.2, hg, removeRefs_none (by rw [hc]; rfl)⟩

theorem ref_fresh_accepted (t : Table) (cs : Cells) (raw : Nat) :
    ((t.mkRef cs raw).get cs).isSome = true ∧ (t.removeRef cs (t.mkRef cs raw)).isSome = true ∧
    (∀ b, (t.updateB cs (t.mkRef cs raw) b).isSome = true) ∧ (t.makeMutable cs (t.mkRef cs raw)).isSome = true := by
  have hcr : t.checkRef cs (t.mkRef cs raw) = some () := by
    unfold checkRef mkRef
    rw [beq_self_eq_true, snap_check]; rfl
  unfold removeRef updateB makeMutable RowRef.get
  rw [hcr]
  refine ⟨?_, rfl, fun _ => rfl, rfl⟩
  unfold mkRef; rw [snap_check]; rfl

end Table

namespace Sel

/-- references obtained from a selection carry the selection's keeper: a selection taken before a removal yields stale
    references, and its whole-selection reads (Sort / Group / binary search by columns) throw -/
theorem stale_rejected (s : Sel) (cs : Cells) (hs : Stale s.kp cs) :
    (∀ i r, s.at_ i = some r → r.get cs = none) ∧ (s.raws ≠ [] → s.readAll cs = none) := by
  constructor
  · intro i r hr
    obtain ⟨raw, -, hr⟩ := Option.bind_eq_some_iff.mp hr
    cases hr
    unfold RowRef.get; rw [hs.check]; rfl
  · intro hne
    unfold readAll
    rw [if_neg (fun h => hne (List.isEmpty_iff.mp h)), hs.check]; rfl

theorem store_rejected (s : Sel) (cs : Cells) (r : RowRef) (h : r.kp.check cs = false) :
    (∀ i, s.set cs i r = none) ∧ s.add cs r = none ∧ (∀ i, s.insert cs i r = none) := by
  unfold set add insert
  rw [h]
  exact ⟨fun _ => rfl, rfl, fun _ => rfl⟩

theorem check_accepted (s : Sel) (cs : Cells) (h : s.kp.check cs = true) :
    (∀ i x, s.at_ i = some x → (x.get cs).isSome = true) ∧ (s.readAll cs).isSome = true := by
  constructor
  · intro i x hx
    obtain ⟨raw, -, hx⟩ := Option.bind_eq_some_iff.mp hx
    cases hx
    unfold RowRef.get; rw [h]; rfl
  · unfold readAll
    rw [h]
    split <;> rfl

theorem fresh_accepted (t : Table) (cs : Cells) (m r : Nat) :
    (∀ i x, (t.select cs m r).at_ i = some x → (x.get cs).isSome = true) ∧ ((t.select cs m r).readAll cs).isSome = true :=
  check_accepted _ cs (snap_check ..)

end Sel

namespace MBounds

theorem stale_rejected (m : MBounds) (cs : Cells) (hs : Stale m.ckp cs) (i : Nat) : m.at_ cs i = none := by
  unfold at_
  rw [hs.check]
  cases m.raws[i]? <;> rfl

theorem check_accepted (m : MBounds) (cs : Cells) (h : m.ckp.check cs = true) (i : Nat) (hi : i < m.raws.length) :
    (m.at_ cs i).isSome = true := by
  unfold at_
  rw [List.getElem?_eq_getElem hi, h]; rfl

theorem fresh_accepted (t : Table) (cs : Cells) (v i : Nat) (hi : i < (t.findMulti cs v).raws.length) :
    ((t.findMulti cs v).at_ cs i).isSome = true :=
  check_accepted _ cs (snap_check ..) i hi

end MBounds

namespace BWorld

/-- the four version cells and the two column lists of the two tables are distinct -/
def WF (w : BWorld) : Prop :=
  w.a.ccell ≠ w.a.rcell ∧ w.a.ccell ≠ w.b.ccell ∧ w.a.ccell ≠ w.b.rcell ∧
  w.a.rcell ≠ w.b.ccell ∧ w.a.rcell ≠ w.b.rcell ∧ w.b.ccell ≠ w.b.rcell ∧ w.a.id ≠ w.b.id

theorem setObj_cs (w : BWorld) (o : Bool) (cs' : Cells) (t' : Table) : (w.setObj o cs' t').cs = cs' := by
  cases o <;> rfl
theorem setObj_obj_same (w : BWorld) (o : Bool) (cs' : Cells) (t' : Table) : (w.setObj o cs' t').obj o = t' := by
  cases o <;> rfl
theorem setObj_obj_other (w : BWorld) (o : Bool) (cs' : Cells) (t' : Table) : (w.setObj o cs' t').obj (!o) = w.obj (!o) := by
  cases o <;> rfl

/-- `same`: queries, uses of handles, calls that throw; `upd`: the table the entry point is called on is replaced -/
inductive Outcome (w : BWorld) (op : BOp) : BWorld × Option BRes → Prop
  | same (r : Option BRes) : Outcome w op (w, r)
  | upd (o : Bool) (cs' : Cells) (t' : Table) (r : BRes) (ht : op.target = some o)
      (he : TblEffX op.KeepsRows r.flag w.cs (w.obj o) cs' t') : Outcome w op (w.setObj o cs' t', some r)

/-- every entry point (complete list `BOp`) has one of the two `Outcome`s -/
theorem step_outcome (w : BWorld) (op : BOp) : Outcome w op (w.step op) := by
  -- one case per branch of `BWorld.step`, numbered in its order; every branch not listed returns the world
  fun_cases BWorld.step w op
  case case3 o a b x => exact .upd o _ _ _ rfl (Table.tryAdd_eff ..)
  case case4 o i a b x hx => exact .upd o _ _ _ rfl (Table.tryInsert_eff hx)
  case case6 o i a b x hx => exact .upd o _ _ _ rfl (Table.tryUpdateRow_eff hx)
  case case8 o r b x hx => exact .upd o _ _ _ rfl (Table.updateB_eff hx)
  case case10 o r x hx => exact .upd o _ _ _ rfl (Table.removeRef_eff hx)
  case case12 o i x hx => exact .upd o _ _ _ rfl (Table.removeNum_eff hx)
  case case16 o x => exact .upd o _ _ _ rfl (Table.clear_eff ..)
  case case17 o m r x => exact .upd o _ _ _ rfl (Table.removeIf_eff ..)
  case case18 o rs keep x hx => exact .upd o _ _ _ rfl (Table.removeRefs_eff hx)
  all_goals exact .same _

theorem step_reject_unchanged (w : BWorld) (op : BOp) (h : (w.step op).2 = none) : (w.step op).1 = w := by
  have ho := step_outcome w op
  generalize w.step op = x at h ho
  cases ho <;> first | rfl | cases h

/-- a row reference that fails the first check of every entry point given it (alone or inside a range) makes the call throw.
    `hd`: entry points that are given only the reference apply `Check()` of its keeper; `hs`: entry points of a table also
    compare the column list -/
theorem ref_rejected (w : BWorld) (op : BOp) (r : RowRef) (hr : r ∈ op.refs)
    (hd : op.on = none → r.kp.check w.cs = false)
    (hs : ∀ o, op.on = some o → (r.tbl == (w.obj o).id) = false ∨ r.kp.check w.cs = false) : w.step op = (w, none) := by
  have hu := fun o ho => Table.ref_uses_rejected (Table.checkRef_none (hs o ho))
  have s := fun s ho => Sel.store_rejected s w.cs r (hd ho)
  cases op <;> dsimp only [BOp.refs] at hr <;> dsimp only [step] <;> first | (cases hr; done) | skip
  case rmRefs o rs keep =>
    obtain ⟨rs1, rs2, rfl⟩ := List.append_of_mem hr
    rw [Table.removeRefs_none ((hs o rfl).elim (fun h => by rw [h]; exact Bool.and_false _) fun h => by rw [h]; rfl) rs1 rs2 keep]
  all_goals obtain rfl := List.mem_singleton.mp hr
  case get => dsimp only [RowRef.get]; rw [hd rfl]; rfl
  case updB o b => rw [(hu o rfl).2.1 b]
  case rmRef o => rw [(hu o rfl).1]
  case mkMut o => rw [(hu o rfl).2.2]; rfl
  case newRow => dsimp only [Table.newRowFrom]; rw [hd rfl]; rfl
  case selSet s' i => rw [(s s' rfl).1 i]; rfl
  case selAdd s' => rw [(s s' rfl).2.1]; rfl
  case selIns s' i => rw [(s s' rfl).2.2 i]; rfl

theorem stale_rejected (w : BWorld) (op : BOp) (r : RowRef) (hr : r ∈ op.refs) (hs : Stale r.kp w.cs) : w.step op = (w, none) :=
  ref_rejected w op r hr (fun _ => hs.check) fun _ _ => .inr hs.check

theorem ref_fresh_accepted (w : BWorld) (o : Bool) (raw : Nat) :
    let r := (w.obj o).mkRef w.cs raw
    (w.step (.get r)).2.isSome = true ∧ (∀ b, (w.step (.updB o r b)).2.isSome = true) ∧ (w.step (.rmRef o r)).2.isSome = true ∧
    (w.step (.mkMut o r)).2.isSome = true ∧ (w.step (.newRow r)).2.isSome = true := by
  intro r
  have hf := Table.ref_fresh_accepted (w.obj o) w.cs raw
  refine ⟨(Option.isSome_map ..).trans hf.1, fun b => ?_, ?_, (Option.isSome_map ..).trans hf.2.2.2, (Option.isSome_map ..).trans hf.1⟩
  · obtain ⟨x, hx⟩ := Option.isSome_iff_exists.mp (hf.2.2.1 b)
    dsimp only [step]
    rw [hx]; rfl
  · obtain ⟨x, hx⟩ := Option.isSome_iff_exists.mp hf.2.1
    dsimp only [step]
    rw [hx]; rfl

/-- what one call means for the handles of ONE table (`t` before, `t'` after, counters `cs` / `cs'`): row references, selections and row
    pointers go stale through `rbump`, hash bounds through `cbump` -/
structure TblFacts (cs cs' : Cells) (t t' : Table) : Prop where
  same : t'.id = t.id ∧ t'.ccell = t.ccell ∧ t'.rcell = t.rcell
  cbump : t'.rows ≠ t.rows → cs t.ccell < cs' t.ccell
  rbump : Gone t.rows t'.rows → cs t.rcell < cs' t.rcell

theorem TblFacts.refl (cs cs' : Cells) (t : Table) : TblFacts cs cs' t t :=
  ⟨⟨rfl, rfl, rfl⟩, fun h => absurd rfl h, fun ⟨x, hx, h⟩ => absurd rfl (h x hx)⟩

theorem _root_.Momo.Ver.TblEff.facts {cs cs' : Cells} {t t' : Table} (he : TblEff cs t cs' t') (hne : t.ccell ≠ t.rcell) :
    TblFacts cs cs' t t' := by
  obtain ⟨hid, hcc, hrc, nc, nr, rfl, hpc, hpr⟩ := he
  exact ⟨⟨hid, hcc, hrc⟩, fun h => by rw [bump2_fst hne]; exact Nat.lt_add_of_pos_right (hpc h),
    fun h => by rw [bump2_snd hne]; exact Nat.lt_add_of_pos_right (hpr h)⟩

theorem _root_.Momo.Ver.TblEff.mono {cs cs' : Cells} {t t' : Table} (he : TblEff cs t cs' t') (c : Nat) : cs c ≤ cs' c := by
  obtain ⟨-, -, -, nc, nr, rfl, -, -⟩ := he
  exact le_bump2 ..

/-- what one call does to a table world (the table's form of the set kinds' `StepFacts`, VerCore; per object, there is no Swap) -/
structure TblStepFacts (w w' : BWorld) : Prop where
  wf : w'.WF
  mono : ∀ c, w.cs c ≤ w'.cs c
  obj : ∀ o, TblFacts w.cs w'.cs (w.obj o) (w'.obj o)

theorem TblStepFacts.refl (w : BWorld) (hw : w.WF) : TblStepFacts w w := ⟨hw, fun _ => Nat.le_refl _, fun _ => .refl ..⟩

/-- `WF` speaks of column lists and cells only -/
theorem WF.congr {w w' : BWorld} (hw : w.WF) (ha : w'.a.id = w.a.id ∧ w'.a.ccell = w.a.ccell ∧ w'.a.rcell = w.a.rcell)
    (hb : w'.b.id = w.b.id ∧ w'.b.ccell = w.b.ccell ∧ w'.b.rcell = w.b.rcell) : w'.WF := by
  unfold WF
  rw [ha.1, ha.2.1, ha.2.2, hb.1, hb.2.1, hb.2.2]; exact hw

theorem obj_cells_ne (w : BWorld) (hw : w.WF) (o : Bool) : (w.obj o).ccell ≠ (w.obj o).rcell := by
  cases o
  · exact hw.1
  · exact hw.2.2.2.2.2.1

theorem facts_of_eff (w : BWorld) (hw : w.WF) (o : Bool) {cs' : Cells} {t' : Table} (he : TblEff w.cs (w.obj o) cs' t') :
    TblStepFacts w (w.setObj o cs' t') := by
  have hf := he.facts (obj_cells_ne w hw o)
  have ob : ∀ o', TblFacts w.cs (w.setObj o cs' t').cs (w.obj o') ((w.setObj o cs' t').obj o') := by
    cases o <;> intro o' <;> cases o'
    · exact hf
    · exact .refl ..
    · exact .refl ..
    · exact hf
  exact ⟨hw.congr (ob false).same (ob true).same, by rw [setObj_cs]; exact he.mono, ob⟩

theorem step_facts (w : BWorld) (hw : w.WF) (op : BOp) : TblStepFacts w (w.step op).1 := by
  have ho := step_outcome w op
  generalize w.step op = x at ho ⊢
  cases ho with
  | same => exact TblStepFacts.refl w hw
  | upd o cs' t' r ht he => exact facts_of_eff w hw o he.1

def run (w : BWorld) : List BOp → BWorld
  | [] => w
  | op :: ops => run (w.step op).1 ops

theorem run_inv (ops : List BOp) : ∀ (w : BWorld), w.WF → (w.run ops).WF ∧ (∀ c, w.cs c ≤ (w.run ops).cs c) ∧
    ∀ o, ((w.run ops).obj o).id = (w.obj o).id ∧ ((w.run ops).obj o).ccell = (w.obj o).ccell ∧ ((w.run ops).obj o).rcell = (w.obj o).rcell := by
  induction ops with
  | nil => intro w hw; exact ⟨hw, fun _ => Nat.le_refl _, fun _ => ⟨rfl, rfl, rfl⟩⟩
  | cons op ops ih =>
    intro w hw
    have h1 := step_facts w hw op
    have h2 := ih _ h1.wf
    refine ⟨h2.1, fun c => Nat.le_trans (h1.mono c) (h2.2.1 c), fun o => ?_⟩
    obtain ⟨a1, a2, a3⟩ := (h1.obj o).same
    obtain ⟨b1, b2, b3⟩ := h2.2.2 o
    exact ⟨b1.trans a1, b2.trans a2, b3.trans a3⟩

/-- some call of the history removed or replaced a row of table `o` -/
def SomeRemoval (o : Bool) : BWorld → List BOp → Prop
  | _, [] => False
  | w, op :: ops => Gone (w.obj o).rows ((w.step op).1.obj o).rows ∨ SomeRemoval o (w.step op).1 ops

/-- some call of the history changed the rows of table `o` in any way -/
def SomeChange (o : Bool) : BWorld → List BOp → Prop
  | _, [] => False
  | w, op :: ops => ((w.step op).1.obj o).rows ≠ (w.obj o).rows ∨ SomeChange o (w.step op).1 ops

theorem run_removal (o : Bool) (ops : List BOp) : ∀ (w : BWorld), w.WF → SomeRemoval o w ops →
    w.cs (w.obj o).rcell < (w.run ops).cs (w.obj o).rcell := by
  induction ops with
  | nil => intro w _ h; exact h.elim
  | cons op ops ih =>
    intro w hw hr
    have h1 := step_facts w hw op
    rcases hr with hg | hr
    · exact Nat.lt_of_lt_of_le ((h1.obj o).rbump hg) ((run_inv ops _ h1.wf).2.1 _)
    · have := ih _ h1.wf hr
      rw [(h1.obj o).same.2.2] at this
      exact Nat.lt_of_le_of_lt (h1.mono _) this

theorem run_change (o : Bool) (ops : List BOp) : ∀ (w : BWorld), w.WF → SomeChange o w ops →
    w.cs (w.obj o).ccell < (w.run ops).cs (w.obj o).ccell := by
  induction ops with
  | nil => intro w _ h; exact h.elim
  | cons op ops ih =>
    intro w hw hr
    have h1 := step_facts w hw op
    rcases hr with hg | hr
    · exact Nat.lt_of_lt_of_le ((h1.obj o).cbump hg) ((run_inv ops _ h1.wf).2.1 _)
    · have := ih _ h1.wf hr
      rw [(h1.obj o).same.2.1] at this
      exact Nat.lt_of_le_of_lt (h1.mono _) this

theorem other_cells_ne (w : BWorld) (hw : w.WF) (o : Bool) :
    (w.obj o).ccell ≠ (w.obj (!o)).ccell ∧ (w.obj o).ccell ≠ (w.obj (!o)).rcell ∧
    (w.obj o).rcell ≠ (w.obj (!o)).ccell ∧ (w.obj o).rcell ≠ (w.obj (!o)).rcell := by
  obtain ⟨w1, w2, w3, w4, w5, w6, w7⟩ := hw
  cases o
  · exact ⟨w2, w3, w4, w5⟩
  · exact ⟨Ne.symm w2, Ne.symm w4, Ne.symm w3, Ne.symm w5⟩

/-- one call that cannot invalidate handles of table `o`: it throws, or it is not a mutating entry point, or it mutates the
    other table, or it is an insertion / replacement refused by the unique index, or - for handles that only watch the
    remove version (`chg = false`: row references, selections, row pointers) - an insertion or a single-column update -/
def QuietStep (o : Bool) (chg : Bool) (w : BWorld) (op : BOp) : Prop :=
  (w.step op).2 = none ∨ op.target = none ∨ op.target = some (!o) ∨
  (∃ r, (w.step op).2 = some (.refFlag r false)) ∨ (chg = false ∧ op.KeepsRows)

theorem step_quiet (w : BWorld) (hw : w.WF) (o : Bool) (chg : Bool) (op : BOp) (hq : QuietStep o chg w op) :
    (w.step op).1.cs (w.obj o).rcell = w.cs (w.obj o).rcell ∧
    (chg = true → (w.step op).1.cs (w.obj o).ccell = w.cs (w.obj o).ccell) := by
  unfold QuietStep at hq
  have ho := step_outcome w op
  generalize w.step op = x at hq ho ⊢
  cases ho with
  | same => exact ⟨rfl, fun _ => rfl⟩
  | upd o' cs' t' r ht he =>
    rw [setObj_cs]
    by_cases h : o' = o
    · subst h
      rcases hq with h | h | h | ⟨x, h⟩ | ⟨hc, hk⟩
      · cases h
      · cases ht.symm.trans h
      · exact absurd (Option.some.inj (ht.symm.trans h)) (by cases o' <;> decide)
      · cases h
        rw [he.2.1 rfl]; exact ⟨rfl, fun _ => rfl⟩
      · exact ⟨he.2.2 hk (obj_cells_ne w hw o'), fun h => absurd (hc.symm.trans h) (by decide)⟩
    · have ho' : o' = !o := by cases o <;> cases o' <;> first | rfl | exact absurd rfl h
      subst ho'
      obtain ⟨-, -, -, nc, nr, rfl, -, -⟩ := he.1
      obtain ⟨h1, h2, h3, h4⟩ := other_cells_ne w hw o
      exact ⟨bump2_other h3 h4, fun _ => bump2_other h1 h2⟩

def AllQuiet (o : Bool) (chg : Bool) : BWorld → List BOp → Prop
  | _, [] => True
  | w, op :: ops => QuietStep o chg w op ∧ AllQuiet o chg (w.step op).1 ops

theorem run_quiet (o : Bool) (chg : Bool) (ops : List BOp) : ∀ (w : BWorld), w.WF → AllQuiet o chg w ops →
    (w.run ops).cs (w.obj o).rcell = w.cs (w.obj o).rcell ∧ (chg = true → (w.run ops).cs (w.obj o).ccell = w.cs (w.obj o).ccell) := by
  induction ops with
  | nil => intro w _ _; exact ⟨rfl, fun _ => rfl⟩
  | cons op ops ih =>
    intro w hw hq
    have h1 := step_facts w hw op
    have h2 := ih _ h1.wf hq.2
    have h3 := step_quiet w hw o chg op hq.1
    rw [(h1.obj o).same.2.2, (h1.obj o).same.2.1] at h2
    exact ⟨h2.1.trans h3.1, fun hc => (h2.2 hc).trans (h3.2 hc)⟩

end BWorld
end Momo.Ver
