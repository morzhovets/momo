import Momo.Translated.HashProbe
import Momo.Proof.Word64
import Momo.Proof.ProbeAdd
import Momo.Proof.HashTableAdd
/-!
  C01 (used by C12 through `TrEqHashMeta`): the bucket-index and capacity arithmetic of the hash table as translated from the
  headers (area HashProbe, lean/Momo/Translated/HashProbe.lean) computes the model functions `Probe.start / nextLin / nextQuad`,
  `HT.maxProbe` (BucketBase), `HT.shiftOf`, `HT.newLog`, `HT.capacityOf` the C01 / C12 theorems are about. `NextFn` names the four
  `GetNextBucketIndex` the bucket classes have; `trSeq` / `trAddProbe` are the probe sequence and the loop of `pvAddNogrow` over
  the translated functions, `findSlot_translated` says that the model's `HT.findSlot` is that loop.
  Hypotheses: a table has `2^L` buckets with `L ≤ 63` (`size_t{1} << L`), bucket indices are `< 2^L`, probes `≤ 2^L`.
-/
namespace Momo.TrEq
open Momo Momo.Seg Momo.Probe

/-! In every statement of this file the table logarithm `L` stands before bucket index, hash and probe, as in the model functions. -/

theorem tr_start (L h : Nat) : Tr.base_GetStartBucketIndex h (2 ^ L) = start L h := by
  unfold Tr.base_GetStartBucketIndex start
  rw [sub64_of_le (Nat.two_pow_pos L)]

theorem tr_nextLin (L i : Nat) (hi : i + 1 < 2 ^ 64) : Tr.base_GetNextBucketIndex i (2 ^ L) = nextLin L i := by
  unfold Tr.base_GetNextBucketIndex nextLin
  rw [sub64_of_le (Nat.two_pow_pos L), add64_of_lt hi]

theorem tr_nextLin_limp4 (L i : Nat) (hi : i + 1 < 2 ^ 64) : Tr.limp4_GetNextBucketIndex i (2 ^ L) = nextLin L i :=
  tr_nextLin L i hi

theorem tr_nextQuad (L i p : Nat) (hi : i + p < 2 ^ 64) : Tr.open2n2_GetNextBucketIndex i (2 ^ L) p = nextQuad L i p := by
  unfold Tr.open2n2_GetNextBucketIndex nextQuad
  rw [sub64_of_le (Nat.two_pow_pos L), add64_of_lt hi]

theorem tr_nextQuad_open8 (L i p : Nat) (hi : i + p < 2 ^ 64) : Tr.open8_GetNextBucketIndex i (2 ^ L) p = nextQuad L i p :=
  tr_nextQuad L i p hi

/-- `BucketBase::GetMaxProbe` = the bound `HT.maxProbe` uses for buckets without an encoder (`BoundKind.none`) -/
theorem tr_maxProbe_base (L : Nat) (hL : L < 64) : Tr.base_GetMaxProbe L = 2 ^ L - 1 := mask_eq hL

/-! ### the bucket visited at probe `p` by the loops of `pvFind` / `pvAddNogrow`, computed with the translated functions
(`bucketCount = buckets.GetCount() = size_t{1} << logBucketCount`) -/

/-- the four `GetNextBucketIndex` the bucket classes have (BucketBase and its heirs, LimP4, Open2N2, Open8/OpenN1) -/
inductive NextFn | base | limp4 | open2n2 | open8
deriving DecidableEq, Repr

/-- the class's `GetNextBucketIndex` adds `probe` (quadratic probing, model `nextQuad`) instead of 1 (`nextLin`) -/
def NextFn.quad : NextFn → Bool
  | .base => false
  | .limp4 => false
  | _ => true

/-- `Bucket::GetNextBucketIndex(bucketIndex, hashCode, bucketCount, probe)` of the class, translated -/
def NextFn.next : NextFn → Nat → Nat → Nat → Nat
  | .base, i, n, _ => Tr.base_GetNextBucketIndex i n
  | .limp4, i, n, _ => Tr.limp4_GetNextBucketIndex i n
  | .open2n2, i, n, p => Tr.open2n2_GetNextBucketIndex i n p
  | .open8, i, n, p => Tr.open8_GetNextBucketIndex i n p

theorem next_eq (f : NextFn) (L idx p : Nat) (h1 : idx + 1 < 2 ^ 64) (hp : idx + p < 2 ^ 64) :
    f.next idx (2 ^ L) p = if f.quad then nextQuad L idx p else nextLin L idx := by
  cases f
  · exact tr_nextLin L _ h1
  · exact tr_nextLin_limp4 L _ h1
  · exact tr_nextQuad L _ _ hp
  · exact tr_nextQuad_open8 L _ _ hp

/-- `bucketIndex` after `p` rounds of the probe loop (`++probe; bucketIndex = GetNextBucketIndex(bucketIndex, hashCode, bucketCount, probe)`) -/
def trSeq (f : NextFn) (L h : Nat) : Nat → Nat
  | 0 => Tr.base_GetStartBucketIndex h (shl64 1 L)
  | p+1 => f.next (trSeq f L h p) (shl64 1 L) (p+1)

theorem trSeq_eq (f : NextFn) (L h p : Nat) (hL : L ≤ 63) (hp : p ≤ 2 ^ L) :
    trSeq f L h p = seqOf f.quad L (start L h) p := by
  have h63 : (2:Nat) ^ L ≤ 2 ^ 63 := Nat.pow_le_pow_right (by decide) hL
  induction p with
  | zero =>
    simp only [trSeq]
    rw [shl64_one (Nat.lt_succ_of_le hL), tr_start]
    cases f <;> rfl
  | succ q ih =>
    have hlt := seqOf_lt f.quad L (start L h) q (start_lt L h)
    simp only [trSeq]
    rw [ih (Nat.le_of_succ_le hp), shl64_one (Nat.lt_succ_of_le hL), seqOf_succ]
    exact next_eq f L _ _ (by omega) (by omega)

theorem trSeq_surj (f : NextFn) (L h b : Nat) (hL : L ≤ 63) (hb : b < 2 ^ L) :
    ∃ p, p < 2 ^ L ∧ trSeq f L h p = b := by
  obtain ⟨p, hp, e⟩ := seqOf_surj f.quad L (start L h) b (start_lt L h) hb
  exact ⟨p, hp, by rw [trSeq_eq f L h p hL (Nat.le_of_lt hp), e]⟩

/-- the loop of `HashSet::pvAddNogrow` (`while (bucket->IsFull()) { ++probe; if (probe >= bucketCount) throw …;
    bucketIndex = Bucket::GetNextBucketIndex(bucketIndex, hashCode, bucketCount, probe); }`) written out by hand (a `throw`
    inside a loop is outside the translator) over the TRANSLATED `GetStartBucketIndex` / `GetNextBucketIndex`;
    `bucketCount = size_t{1} << L`; `none` = "Hash table is full" -/
def trAddProbe (f : NextFn) (L : Nat) (isFull : Nat → Bool) (h : Nat) : Option (Nat × Nat) :=
  let rec go (fuel probe idx : Nat) : Option (Nat × Nat) :=
    match fuel with
    | 0 => none
    | n+1 =>
      if isFull idx then
        if add64 probe 1 ≥ shl64 1 L then none
        else go n (add64 probe 1) (f.next idx (shl64 1 L) (add64 probe 1))
      else some (probe, idx)
  go (2 ^ L) 0 (Tr.base_GetStartBucketIndex h (shl64 1 L))

theorem trAddProbe_go_eq (f : NextFn) (L : Nat) (isFull : Nat → Bool) (hL : L ≤ 63) :
    ∀ (fuel probe idx : Nat), probe < 2 ^ L → idx < 2 ^ L →
      trAddProbe.go f L isFull fuel probe idx = addProbe.go f.quad L isFull fuel probe idx := by
  have h63 : (2:Nat) ^ L ≤ 2 ^ 63 := Nat.pow_le_pow_right (by decide) hL
  intro fuel
  induction fuel with
  | zero => intro probe idx _ _; rfl
  | succ n ih =>
    intro probe idx hp hi
    unfold trAddProbe.go addProbe.go
    dsimp only
    rw [add64_of_lt (by omega), shl64_one (Nat.lt_succ_of_le hL)]
    cases isFull idx
    · rfl
    · by_cases hge : probe + 1 ≥ 2 ^ L
      · simp only [if_true, if_pos hge]
      · simp only [if_true, if_neg hge]
        rw [next_eq f L idx _ (by omega) (by omega)]
        exact ih _ _ (Nat.lt_of_not_ge hge) (next_lt _ _ _ _)

theorem trAddProbe_eq (f : NextFn) (L : Nat) (isFull : Nat → Bool) (h : Nat) (hL : L ≤ 63) :
    trAddProbe f L isFull h = addProbe f.quad L isFull (start L h) := by
  unfold trAddProbe addProbe
  rw [shl64_one (Nat.lt_succ_of_le hL), tr_start]
  exact trAddProbe_go_eq f L isFull hL _ _ _ (Nat.two_pow_pos L) (start_lt L h)

theorem trAddProbe_spec (f : NextFn) (L : Nat) (isFull : Nat → Bool) (h : Nat) (hL : L ≤ 63) :
    match trAddProbe f L isFull h with
    | none => ∀ b, b < 2 ^ L → isFull b = true
    | some (p, idx) => p < 2 ^ L ∧ idx = trSeq f L h p ∧ isFull idx = false ∧ ∀ q, q < p → isFull (trSeq f L h q) = true := by
  rw [trAddProbe_eq f L isFull h hL]
  rcases addProbe_cases f.quad L isFull (start L h) with ⟨p, h1, e, h3, h4⟩ | ⟨e, h4⟩ <;> rw [e]
  · refine ⟨h1, (trSeq_eq f L h p hL (Nat.le_of_lt h1)).symm, h3, fun q hq => ?_⟩
    rw [trSeq_eq f L h q hL (Nat.le_of_lt (Nat.lt_trans hq h1))]; exact h4 q hq
  · intro b hb
    obtain ⟨p, hp, e'⟩ := seqOf_surj f.quad L (start L h) b (start_lt L h) hb
    rw [← e']; exact h4 p hp

theorem tr_nextIdx (f : NextFn) (sp : HT.Spec) (hq : sp.quad = f.quad) (L idx p : Nat) (h : idx + p + 1 < 2 ^ 64) :
    f.next idx (2 ^ L) p = HT.nextIdx sp L idx p := by
  unfold HT.nextIdx
  rw [hq]
  exact next_eq f L idx p (Nat.lt_of_le_of_lt (Nat.succ_le_succ (Nat.le_add_right idx p)) h) (Nat.lt_of_succ_lt h)

theorem findSlot_translated (f : NextFn) (sp : HT.Spec) (hq : sp.quad = f.quad) (g : HT.Gen) (h : Nat) (hL : g.L ≤ 63) :
    HT.findSlot sp g (2 ^ g.L) 0 (start g.L h) = trAddProbe f g.L (fun i => HT.isFull sp (HT.bkt sp g.bs i)) h := by
  rw [trAddProbe_eq f g.L _ h hL, HT.findSlot_eq_go, hq]
  rfl

theorem w64_two_one (c : Prop) [Decidable c] : Seg.w64 (if c then 2 else 1) = if c then 2 else 1 := by
  split <;> rfl

theorem tr_shift_base (sp : HT.Spec) (L : Nat) (hb : sp.baseShift = true) :
    Tr.base_GetBucketCountShift (2 ^ L) sp.maxCount = HT.shiftOf sp L := by
  unfold Tr.base_GetBucketCountShift HT.shiftOf
  simp only [hb, if_true, decide_eq_true_eq, beq_iff_eq, w64_two_one]
  rfl

theorem tr_shift_open (sp : HT.Spec) (L n m : Nat) (hb : sp.baseShift = false) :
    Tr.open2n2_GetBucketCountShift n m = HT.shiftOf sp L ∧ Tr.openN1_GetBucketCountShift n m = HT.shiftOf sp L ∧
    Tr.open8_GetBucketCountShift n m = HT.shiftOf sp L := by
  unfold Tr.open2n2_GetBucketCountShift Tr.openN1_GetBucketCountShift Tr.open8_GetBucketCountShift HT.shiftOf
  simp [hb]

/-- **`HashSet::pvGetNewLogBucketCount` as written = the model's `newLog`** (current size `2^L`, `L ≤ 61`): for bucket
policies with the inherited `GetBucketCountShift` and for the open-addressing ones; the `MOMO_CHECK(shift > 0)` holds. -/
theorem tr_newLog (sp : HT.Spec) (t : HT.Table) (hL : ∀ g ∈ t.gens.head?, g.L ≤ 61) :
    (if sp.baseShift then Tr.hs_pvGetNewLogBucketCount_base t.gens.isEmpty sp.logStart (t.gens.headD default).L sp.maxCount
     else Tr.hs_pvGetNewLogBucketCount_open t.gens.isEmpty sp.logStart (t.gens.headD default).L sp.maxCount)
      = HT.newLog sp t := by
  unfold HT.newLog
  cases hg : t.gens with
  | nil =>
    simp [Tr.hs_pvGetNewLogBucketCount_base, Tr.hs_pvGetNewLogBucketCount_open]
  | cons g rest =>
    have hgL : g.L ≤ 61 := hL g (by simp [hg])
    obtain ⟨h1, h2⟩ := HT.shiftOf_le sp g.L
    simp only [List.isEmpty_cons, List.headD_cons]
    cases hb : sp.baseShift
    · simp only [Bool.false_eq_true, if_false, Tr.hs_pvGetNewLogBucketCount_open]
      rw [(tr_shift_open sp g.L _ _ hb).1, add64_of_lt (by omega)]
    · simp only [if_true, Tr.hs_pvGetNewLogBucketCount_base, Bool.false_eq_true, if_false]
      rw [shl64_one (by omega), tr_shift_base sp g.L hb, add64_of_lt (by omega)]

/-- **`HashBucketBase::CalcCapacity(1 << L, maxCount)` = the model's `capacityOf`** for the integer branches
(`maxCount ≥ 2`), and for `maxCount = 1` as soon as the floating-point expression has its exact value `⌊n·5/8⌋`
(floating point is outside the translator: that value is compared with the real table at every growth by the C01 harness). -/
theorem tr_capacity_base (sp : HT.Spec) (L : Nat) (f : Nat → Nat) (hc : sp.cap = HT.CapKind.base) (hL : L ≤ 62)
    (hf : sp.maxCount = 1 → f (2 ^ L) = 2 ^ L * 5 / 8) :
    Tr.base_CalcCapacity f (2 ^ L) sp.maxCount = HT.capacityOf sp L := by
  have h62 : (2:Nat) ^ L ≤ 2 ^ 62 := Nat.pow_le_pow_right (by decide) hL
  unfold Tr.base_CalcCapacity HT.capacityOf
  simp only [hc, decide_eq_true_eq, beq_iff_eq]
  rw [add64_of_lt (by omega), mul64_of_lt (by omega)]
  split
  · exact hf ‹_›
  · rfl

end Momo.TrEq
