import Momo.Proof.RowsCount
/-!
  Lemmas for the row hand-off model (C19): the protocol invariant `RInv`, holds initially and is
  preserved by every step of every thread (`RInv_step`), hence in every state reached by any schedule (`RInv_run`);
  with it, at every moment of every history each block has been reclaimed as often as it was created, or exactly once less
  (`HistoryBalanced_run`).
-/
namespace Momo.Rows

/-- The invariant of the hand-off protocol: the pointers (`head`, `cur`, `next`) spell out the two ghost chains `L` (published) and `W` (taken by the
owner) — `linkL`, `linkW`: `next` links each chain and ends it in null —, every block is in exactly one of the six places, and the event log balances.
`nodup`, `cnt1`, `cnt2` are in counting form because they are the three clauses of `Census` (RowsCount), which `RInv_step` moves as one; for membership
arguments use `RInv.of_W` … `RInv.of_inflight` and `RInv.nodup_*`. -/
structure RInv (s : St) : Prop where
  headL : s.head = s.L.head?
  curW  : s.cur = s.W.head?
  linkL : Linked s.next s.L
  linkW : Linked s.next s.W
  nodup : ∀ r : Row, (places s).count r ≤ 1
  /-- a thread that has written the link still finds it unchanged at its CAS -/
  wroteOk : ∀ (t : Tid) (r : Row) (h : Option Row), s.thr[t]? = some (PC.wrote r h) → s.next r = h
  walkW : (∀ b, s.mpc ≠ MPC.walking b) → s.W = []
  /-- per block: allocations = reclamations + (1 if currently handed out) -/
  cnt1 : ∀ r : Row, s.log.count (Ev.created r) = s.log.count (Ev.reclaimed r) + (live s).count r
  /-- per block: pushes = takes + (1 if currently on the free list) -/
  cnt2 : ∀ r : Row, s.log.count (Ev.pushed r) = s.log.count (Ev.taken r) + s.L.count r

theorem RInv_init (n : Nat) : RInv (init n) := by
  have hI : inflight (init n) = [] := by
    simp [inflight, init, List.filterMap_eq_nil_iff, PC.row]
  refine ⟨rfl, rfl, trivial, trivial, ?_, ?_, fun _ => rfl, ?_, ?_⟩
  · intro r; rw [places, hI]; simp [detRows, init]
  · intro t r h ht
    simp only [init] at ht
    have := List.mem_of_getElem? ht
    simp at this
  · intro r; rw [live, hI]; simp [detRows, init]
  · intro r; simp [init]

theorem mem_places_iff {s : St} {r : Row} : r ∈ places s ↔
    r ∈ inflight s ∨ r ∈ detRows s ∨ r ∈ s.table ∨ r ∈ s.pool ∨ r ∈ s.L ∨ r ∈ s.W := by
  simp [places, List.mem_append]

/-- `(places s).Nodup` split along its five appends; a stepping stone, used through `RInv.of_W` … `RInv.of_inflight` and the `nodup_*` below -/
theorem RInv.sep {s : St} (hI : RInv s) :
    (((((inflight s).Nodup ∧ (detRows s).Nodup ∧ ∀ a, a ∈ inflight s → ∀ b, b ∈ detRows s → a ≠ b) ∧
      s.table.Nodup ∧ ∀ a, a ∈ inflight s ∨ a ∈ detRows s → ∀ b, b ∈ s.table → a ≠ b) ∧
      s.pool.Nodup ∧ ∀ a, (a ∈ inflight s ∨ a ∈ detRows s) ∨ a ∈ s.table → ∀ b, b ∈ s.pool → a ≠ b) ∧
      s.L.Nodup ∧ ∀ a, ((a ∈ inflight s ∨ a ∈ detRows s) ∨ a ∈ s.table) ∨ a ∈ s.pool → ∀ b, b ∈ s.L → a ≠ b) ∧
      s.W.Nodup ∧ ∀ a, (((a ∈ inflight s ∨ a ∈ detRows s) ∨ a ∈ s.table) ∨ a ∈ s.pool) ∨ a ∈ s.L →
        ∀ b, b ∈ s.W → a ≠ b := by
  have h : (places s).Nodup := List.nodup_iff_count.mpr hI.nodup
  simpa only [places, List.nodup_append, List.mem_append] using h

theorem RInv.of_W {s : St} (hI : RInv s) {r : Row} (h : r ∈ s.W) :
    r ∉ inflight s ∧ r ∉ detRows s ∧ r ∉ s.table ∧ r ∉ s.pool ∧ r ∉ s.L :=
  have d := hI.sep.2.2
  ⟨fun x => d r (.inl (.inl (.inl (.inl x)))) r h rfl, fun x => d r (.inl (.inl (.inl (.inr x)))) r h rfl,
    fun x => d r (.inl (.inl (.inr x))) r h rfl, fun x => d r (.inl (.inr x)) r h rfl, fun x => d r (.inr x) r h rfl⟩

theorem RInv.of_L {s : St} (hI : RInv s) {r : Row} (h : r ∈ s.L) :
    r ∉ inflight s ∧ r ∉ detRows s ∧ r ∉ s.table ∧ r ∉ s.pool ∧ r ∉ s.W :=
  have d := hI.sep.1.2.2
  ⟨fun x => d r (.inl (.inl (.inl x))) r h rfl, fun x => d r (.inl (.inl (.inr x))) r h rfl,
    fun x => d r (.inl (.inr x)) r h rfl, fun x => d r (.inr x) r h rfl, fun x => (hI.of_W x).2.2.2.2 h⟩

theorem RInv.of_pool {s : St} (hI : RInv s) {r : Row} (h : r ∈ s.pool) :
    r ∉ inflight s ∧ r ∉ detRows s ∧ r ∉ s.table ∧ r ∉ s.L ∧ r ∉ s.W :=
  have d := hI.sep.1.1.2.2
  ⟨fun x => d r (.inl (.inl x)) r h rfl, fun x => d r (.inl (.inr x)) r h rfl, fun x => d r (.inr x) r h rfl,
    fun x => (hI.of_L x).2.2.2.1 h, fun x => (hI.of_W x).2.2.2.1 h⟩

theorem RInv.of_table {s : St} (hI : RInv s) {r : Row} (h : r ∈ s.table) :
    r ∉ inflight s ∧ r ∉ detRows s ∧ r ∉ s.pool ∧ r ∉ s.L ∧ r ∉ s.W :=
  have d := hI.sep.1.1.1.2.2
  ⟨fun x => d r (.inl x) r h rfl, fun x => d r (.inr x) r h rfl, fun x => (hI.of_pool x).2.2.1 h,
    fun x => (hI.of_L x).2.2.1 h, fun x => (hI.of_W x).2.2.1 h⟩

theorem RInv.of_det {s : St} (hI : RInv s) {r : Row} (h : r ∈ detRows s) :
    r ∉ inflight s ∧ r ∉ s.table ∧ r ∉ s.pool ∧ r ∉ s.L ∧ r ∉ s.W :=
  ⟨fun x => hI.sep.1.1.1.1.2.2 r x r h rfl, fun x => (hI.of_table x).2.1 h, fun x => (hI.of_pool x).2.1 h,
    fun x => (hI.of_L x).2.1 h, fun x => (hI.of_W x).2.1 h⟩

theorem RInv.of_inflight {s : St} (hI : RInv s) {r : Row} (h : r ∈ inflight s) :
    r ∉ detRows s ∧ r ∉ s.table ∧ r ∉ s.pool ∧ r ∉ s.L ∧ r ∉ s.W :=
  ⟨fun x => (hI.of_det x).1 h, fun x => (hI.of_table x).1 h, fun x => (hI.of_pool x).1 h,
    fun x => (hI.of_L x).1 h, fun x => (hI.of_W x).1 h⟩

theorem RInv.nodup_inflight {s : St} (hI : RInv s) : (inflight s).Nodup := hI.sep.1.1.1.1.1
theorem RInv.nodup_L {s : St} (hI : RInv s) : s.L.Nodup := hI.sep.1.2.1
theorem RInv.nodup_W {s : St} (hI : RInv s) : s.W.Nodup := hI.sep.2.1

theorem RInv.W_of_cur {s : St} {c : Row} (hI : RInv s) (hc : s.cur = some c) : s.W = c :: s.W.tail := by
  have := hI.curW; rw [hc] at this
  cases hw : s.W with
  | nil => simp [hw] at this
  | cons a t => simp [hw] at this; simp [this]

theorem getElem?_setPC {s : St} {t t' : Tid} {pc q : PC} (h : (setPC s t pc)[t']? = some q) :
    (t' = t ∧ q = pc) ∨ (t' ≠ t ∧ s.thr[t']? = some q) := by
  unfold setPC at h
  by_cases ht : t = t'
  · subst ht
    rw [List.getElem?_set_self'] at h
    left; refine ⟨rfl, ?_⟩
    cases hq : s.thr[t]? with
    | none => simp [hq] at h
    | some v => simp [hq] at h; exact h.symm
  · rw [List.getElem?_set_ne ht] at h
    right; exact ⟨fun e => ht e.symm, h⟩

theorem RInv.wroteOk_setNext {s : St} (hI : RInv s) {c : Row} (g : Option Row) (hc : c ∉ inflight s) (t : Tid) (r : Row)
    (h : Option Row) (ht : s.thr[t]? = some (PC.wrote r h)) : setNext s.next c g r = h := by
  have hr : r ≠ c := fun e => hc (e ▸ mem_inflight ht rfl)
  simp only [setNext, hr, if_false]
  exact hI.wroteOk t r h ht

theorem RInv.wroteOk_setPC {s : St} (hI : RInv s) {t : Tid} {pc : PC} (hpc : ∀ r h, pc ≠ PC.wrote r h) (t' : Tid) (r : Row)
    (h : Option Row) (ht : (setPC s t pc)[t']? = some (PC.wrote r h)) : s.next r = h := by
  rcases getElem?_setPC ht with ⟨_, hq⟩ | ⟨_, hq⟩
  · exact absurd hq.symm (hpc r h)
  · exact hI.wroteOk t' r h hq

/-- ABA is harmless: whatever happened to the list head since thread `t` loaded it, a CAS that succeeds finds the link
the thread wrote into its block equal to the current head, so the block can be put in front of the chain -/
theorem RInv.next_of_cas {s : St} (hI : RInv s) {t : Tid} {r : Row} {h : Option Row}
    (hpc : s.thr[t]? = some (PC.wrote r h)) (hh : s.head = h) : s.next r = s.L.head? := by
  rw [hI.wroteOk t r h hpc, ← hh, hI.headL]

theorem RInv_step {s s' : St} {a : Act} (hs : Step s a s') (hI : RInv s) : RInv s' := by
  -- `places s` and `live s` are `X ++ P ++ L ++ W` and `X ++ L ++ W` for these lists
  have c0 : Census (inflight s ++ detRows s ++ s.table) s.pool s.L s.W s.log := ⟨hI.nodup, hI.cnt1, hI.cnt2⟩
  cases hs with
  | newBegin hm =>
    exact ⟨hI.headL, hI.curW, hI.linkL, hI.linkW, hI.nodup, hI.wroteOk,
      fun _ => hI.walkW (by intro b; rw [hm]; simp), hI.cnt1, hI.cnt2⟩
  | takeBegin hm =>
    exact ⟨hI.headL, hI.curW, hI.linkL, hI.linkW, hI.nodup, hI.wroteOk,
      fun _ => hI.walkW (by intro b; rw [hm]; simp), hI.cnt1, hI.cnt2⟩
  | exchange b hm =>
    have hW : s.W = [] := hI.walkW (by intro b'; rw [hm]; simp)
    rw [hW] at c0
    have c := c0.take
    exact ⟨rfl, hI.headL, trivial, hI.linkL, c.nodup, hI.wroteOk, fun h => absurd rfl (h b), c.cnt1, c.cnt2⟩
  | walk b c g hm hc =>
    have hW := hI.W_of_cur hc
    have hlW := hI.linkW
    rw [hW] at hlW c0
    have hcW : c ∈ s.W := by rw [hW]; exact List.mem_cons_self
    have hcWt : c ∉ s.W.tail := by
      have := hI.nodup_W; rw [hW] at this; exact (List.nodup_cons.mp this).1
    have c1 := c0.reclaimWalk
    exact ⟨hI.headL, Linked_head_next hlW, Linked_setNext hI.linkL (hI.of_W hcW).2.2.2.2,
      Linked_setNext (Linked_tail hI.linkW) hcWt, c1.nodup, hI.wroteOk_setNext g (hI.of_W hcW).1,
      fun h => absurd hm (h b), c1.cnt1, c1.cnt2⟩
  | walkEnd b hm hc =>
    have hW : s.W = [] := by
      have := hI.curW; rw [hc] at this
      cases hw : s.W with
      | nil => rfl
      | cons a t => simp [hw] at this
    exact ⟨hI.headL, hI.curW, hI.linkL, hI.linkW, hI.nodup, hI.wroteOk, fun _ => hW, hI.cnt1, hI.cnt2⟩
  | grow r g hm hr =>
    have hn := fun h => hr (mem_places_iff.mpr h)
    have c1 := c0.grow hr
    exact ⟨hI.headL, hI.curW, Linked_setNext hI.linkL (fun h => hn (.inr (.inr (.inr (.inr (.inl h)))))),
      Linked_setNext hI.linkW (fun h => hn (.inr (.inr (.inr (.inr (.inr h)))))), c1.nodup,
      hI.wroteOk_setNext g (fun h => hn (.inl h)), hI.walkW, c1.cnt1, c1.cnt2⟩
  | alloc r g hm hr =>
    have hW : s.W = [] := hI.walkW (by intro b; rw [hm]; simp)
    have c1 := ((c0.perm (.refl _) (List.perm_cons_erase hr)).create).perm
      (perm_cons_held₂ (I := inflight s) (T := s.table) (.refl (r :: detRows s))).symm (.refl _)
    exact ⟨hI.headL, hI.curW, Linked_setNext hI.linkL (hI.of_pool hr).2.2.2.1, by rw [hW]; trivial, c1.nodup,
      hI.wroteOk_setNext g (hI.of_pool hr).1, fun _ => hW, c1.cnt1, c1.cnt2⟩
  | add r hm hd =>
    have hD : (detRows s).Perm (r :: (s.det.erase (r, 0)).map Prod.fst) := (List.perm_cons_erase hd).map Prod.fst
    have c1 := c0.perm ((perm_cons_held₂ hD).trans (perm_cons_held₃ (List.perm_append_singleton r s.table)).symm) (.refl _)
    exact ⟨hI.headL, hI.curW, hI.linkL, hI.linkW, c1.nodup, hI.wroteOk, hI.walkW, c1.cnt1, c1.cnt2⟩
  | extract i keep r hm hi =>
    have c1 := c0.perm ((perm_cons_held₃ (removeAt_perm keep hi)).trans
      (perm_cons_held₂ (.refl (r :: detRows s))).symm) (.refl _)
    exact ⟨hI.headL, hI.curW, hI.linkL, hI.linkW, c1.nodup, hI.wroteOk, hI.walkW, c1.cnt1, c1.cnt2⟩
  | remove i keep g r hm hi =>
    have hrT := hI.of_table (List.mem_of_getElem? hi)
    have c1 := (c0.perm (perm_cons_held₃ (removeAt_perm keep hi)) (.refl _)).reclaim
    exact ⟨hI.headL, hI.curW, Linked_setNext hI.linkL hrT.2.2.2.1, Linked_setNext hI.linkW hrT.2.2.2.2, c1.nodup,
      hI.wroteOk_setNext g hrT.1, hI.walkW, c1.cnt1, c1.cnt2⟩
  | handoff r t u hd hu =>
    have hD : (detRows s).Perm (r :: (s.det.erase (r, t)).map Prod.fst) := (List.perm_cons_erase hd).map Prod.fst
    have c1 := c0.perm ((hD.append_left (inflight s)).append_right s.table) (.refl _)
    exact ⟨hI.headL, hI.curW, hI.linkL, hI.linkW, c1.nodup, hI.wroteOk, hI.walkW, c1.cnt1, c1.cnt2⟩
  | dBegin t r hpc hd =>
    have hD : (detRows s).Perm (r :: (s.det.erase (r, t)).map Prod.fst) := (List.perm_cons_erase hd).map Prod.fst
    have c1 := c0.perm ((perm_cons_held₂ hD).trans
      (perm_cons_held₁ (filterMap_set_none (pc' := PC.start r) hpc rfl rfl)).symm) (.refl _)
    exact ⟨hI.headL, hI.curW, hI.linkL, hI.linkW, c1.nodup, hI.wroteOk_setPC nofun, hI.walkW, c1.cnt1, c1.cnt2⟩
  | dLoad t r hpc =>
    rw [inflight, ← filterMap_set_same (pc' := PC.loaded r s.head) hpc rfl] at c0
    exact ⟨hI.headL, hI.curW, hI.linkL, hI.linkW, c0.nodup, hI.wroteOk_setPC nofun, hI.walkW, c0.cnt1, hI.cnt2⟩
  | dWrite t r h hpc =>
    have hrI := hI.of_inflight (mem_inflight hpc rfl)
    rw [inflight, ← filterMap_set_same (pc' := PC.wrote r h) hpc rfl] at c0
    refine ⟨hI.headL, hI.curW, Linked_setNext hI.linkL hrI.2.2.2.1, Linked_setNext hI.linkW hrI.2.2.2.2, c0.nodup,
      ?_, hI.walkW, c0.cnt1, hI.cnt2⟩
    intro t' r' h' ht
    rcases getElem?_setPC ht with ⟨_, hq⟩ | ⟨hne, hq⟩
    · cases hq; simp [setNext]
    · -- another thread with a written link holds another block
      have hr' : r' ≠ r := by
        intro e; subst e
        exact hne (pair_unique (mem_thrPairs.mpr ⟨_, hq, rfl⟩) (mem_thrPairs.mpr ⟨_, hpc, rfl⟩)
          (thrPairs_fst _ ▸ hI.nodup_inflight))
      simp only [setNext, hr', if_false]
      exact hI.wroteOk t' r' h' hq
  | dCasOk t r h hpc hh =>
    have c1 := (c0.perm (perm_cons_held₁ (filterMap_set_perm s.thr t _ PC.idle r hpc rfl rfl)) (.refl _)).push
    exact ⟨rfl, hI.curW, Linked_cons hI.linkL (hI.next_of_cas hpc hh), hI.linkW, c1.nodup, hI.wroteOk_setPC nofun, hI.walkW,
      c1.cnt1, c1.cnt2⟩
  | dCasFail t r h sp hpc =>
    rw [inflight, ← filterMap_set_same (pc' := PC.start r) hpc rfl] at c0
    exact ⟨hI.headL, hI.curW, hI.linkL, hI.linkW, c0.nodup, hI.wroteOk_setPC nofun, hI.walkW, c0.cnt1, hI.cnt2⟩

theorem RInv_run_from (acts : List Act) (s s' : St) : RInv s → run s acts = some s' → RInv s' :=
  run_ind (fun _ _ _ hI hs => RInv_step (step_sound hs) hI) acts s s'

theorem RInv_run (n : Nat) (acts : List Act) (s : St) (h : run (init n) acts = some s) : RInv s :=
  RInv_run_from acts (init n) s (RInv_init n) h

def Balanced (l : List Ev) (r : Row) : Prop :=
  l.count (Ev.reclaimed r) ≤ l.count (Ev.created r) ∧ l.count (Ev.created r) ≤ l.count (Ev.reclaimed r) + 1

/-- `log` is newest first: the moments of the history are its suffixes -/
def HistoryBalanced (log : List Ev) : Prop := ∀ (l : List Ev) (r : Row), l <:+ log → Balanced l r

theorem RInv.nodup_live {s : St} (hI : RInv s) : (live s).Nodup :=
  (((List.sublist_append_left _ s.pool).append (List.Sublist.refl s.L)).append (List.Sublist.refl s.W)).nodup
    (List.nodup_iff_count.mpr hI.nodup)

theorem RInv.balanced {s : St} (hI : RInv s) (r : Row) : Balanced s.log r := by
  have h1 := hI.cnt1 r; have h2 := List.nodup_iff_count.mp hI.nodup_live r
  unfold Balanced; omega

theorem HistoryBalanced_cons {log : List Ev} {e : Ev} (h : HistoryBalanced log) (he : ∀ r, Balanced (e :: log) r) :
    HistoryBalanced (e :: log) := by
  intro l r hl
  rcases List.suffix_cons_iff.mp hl with rfl | h'
  · exact he r
  · exact h l r h'

theorem HistoryBalanced_taken (L : List Row) {log : List Ev} (h : HistoryBalanced log) :
    HistoryBalanced (L.map Ev.taken ++ log) := by
  induction L with
  | nil => simpa using h
  | cons a t ih =>
    simp only [List.map_cons, List.cons_append]
    apply HistoryBalanced_cons ih
    intro r
    have := ih _ r (List.suffix_refl _)
    unfold Balanced at this ⊢
    simpa [List.count_cons] using this

theorem HistoryBalanced_step {s s' : St} {a : Act} (hs : Step s a s') (hI : RInv s) (h : HistoryBalanced s.log) :
    HistoryBalanced s'.log := by
  have hI' := RInv_step hs hI
  cases hs with
  | exchange b hm => exact HistoryBalanced_taken s.L h
  | walk b c g hm hc => exact HistoryBalanced_cons h (fun r => hI'.balanced r)
  | alloc r g hm hr => exact HistoryBalanced_cons h (fun r => hI'.balanced r)
  | remove i keep g r hm hi => exact HistoryBalanced_cons h (fun r => hI'.balanced r)
  | dCasOk t r h' hpc hh => exact HistoryBalanced_cons h (fun r => hI'.balanced r)
  | _ => exact h

theorem HistoryBalanced_run_from (acts : List Act) (s s' : St) (hI : RInv s) (hb : HistoryBalanced s.log)
    (h : run s acts = some s') : HistoryBalanced s'.log :=
  (run_ind (P := fun s => RInv s ∧ HistoryBalanced s.log)
    (fun _ _ _ hP hs => ⟨RInv_step (step_sound hs) hP.1, HistoryBalanced_step (step_sound hs) hP.1 hP.2⟩)
    acts s s' ⟨hI, hb⟩ h).2

theorem HistoryBalanced_run (n : Nat) (acts : List Act) (s : St) (h : run (init n) acts = some s) :
    HistoryBalanced s.log := by
  refine HistoryBalanced_run_from acts (init n) s (RInv_init n) ?_ h
  intro l r hl
  have : l = [] := by simpa [init] using hl
  subst this; simp [Balanced]

end Momo.Rows
