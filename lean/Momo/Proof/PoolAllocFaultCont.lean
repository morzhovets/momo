import Momo.Proof.PoolAllocMove
/-!
  C20, layer C with a failing base allocator: the possible results of a container call in which allocations may throw
  (`FCOutcome`, `fcstep_outcome`); they keep the container invariant (`fcrun_cinv`, with `crun_cinv` as the case without faults).
  Lowering: every change of the allocator-level state is a history of `FOp`s whose successful single-object requests are those of
  the container calls (`Reaches`, `fcrun_reaches`), which carries the layer-A theorems to container histories: `fcrun_oneNodeType`
  (from `frun_oneType`), `fcrun_err` (from `frun_err`).
-/
namespace Momo.PoolAlloc

theorem fcstep_of_err {cs : CSys} {e : Err} (h : cs.sys.err = some e) (op : FCOp) : fcstep cs op = cs := by
  simp [fcstep, h]

theorem fcrun_cons (cs : CSys) (op : FCOp) (ops : List FCOp) : fcrun cs (op :: ops) = fcrun (fcstep cs op) ops := rfl

theorem fcrun_of_err {cs : CSys} {e : Err} (h : cs.sys.err = some e) (ops : List FCOp) : fcrun cs ops = cs := by
  induction ops with
  | nil => rfl
  | cons op ops ih => rw [fcrun_cons, fcstep_of_err h]; exact ih

theorem fcstep_ok (cs : CSys) (op : COp) : fcstep cs (.ok op) = cstep cs op := by
  by_cases he : cs.sys.err.isSome = true
  · simp [fcstep, cstep, he]
  · simp [fcstep, he]

theorem fcrun_ok (cs : CSys) (ops : List COp) : fcrun cs (ops.map .ok) = crun cs ops := by
  induction ops generalizing cs with
  | nil => rfl
  | cons op ops ih => rw [List.map_cons, fcrun_cons, fcstep_ok, crun_cons, ih]

/-- the branches of `fcstep` from a state without error; `copyConstructF` is kept as the composition of `cstep`s the model defines it by -/
inductive FCOutcome (cs : CSys) : FCOp → CSys → Prop
  | illegal (op : FCOp) : FCOutcome cs op cs.cfail
  | ok {op : COp} {cs' : CSys} (h : COutcome cs op cs') : FCOutcome cs (.ok op) cs'
  | newAllocFail {e : Nat} (cls : Cls) (hf : ∀ x ∈ cs.ents, x.eid ≠ e) : FCOutcome cs (.newAllocFail e cls) cs
  | mutateF {en : Ent} (hen : en ∈ cs.ents) (acts : List FAct) :
      FCOutcome cs (.mutateF en.eid acts) (acts.foldl (factStep en.eid en.pid) cs)
  | copyAssignF {de ce : Ent} (hde : de ∈ cs.ents) (hce : ce ∈ cs.ents) (acts : List FAct) :
      FCOutcome cs (.copyAssignF de.eid ce.eid acts) (acts.foldl (factStep de.eid de.pid) cs)
  | copyConstructF (d c : Nat) (cls : Cls) (cb : Nat) (acts : List FAct) :
      FCOutcome cs (.copyConstructF d c cls cb acts)
        (cstep (acts.foldl (factStep d cs.sys.pools.length) (cstep cs (.copyConstruct d c cls cb []))) (.destroy d []))
  | copyConstructNewFail {d : Nat} {ce : Ent} (hce : ce ∈ cs.ents) (hf : ∀ x ∈ cs.ents, x.eid ≠ d) (cls : Cls) :
      FCOutcome cs (.copyConstructNewFail d ce.eid cls) cs

theorem fcstep_outcome {cs : CSys} (h0 : cs.sys.err = none) (op : FCOp) : FCOutcome cs op (fcstep cs op) := by
  have fresh : ∀ {e : Nat}, ¬ ((findEnt cs e).isSome = true) → ∀ x ∈ cs.ents, x.eid ≠ e :=
    fun h => findEnt_none (by simpa using h)
  fun_cases fcstep cs op
  -- every branch that ends in `cs.cfail`, then the others in the order of the text of `fcstep` (hypotheses as in `cstep_outcome`)
  any_goals exact .illegal _
  next herr => rw [h0] at herr; cases herr
  next _ o => exact .ok (cstep_outcome h0 o)
  next _ e cls hf => exact .newAllocFail cls (fresh hf)
  next _ e acts en hs => obtain ⟨hen, rfl⟩ := findEnt_some hs; exact .mutateF hen acts
  next _ d c acts de ce hc hd _ =>
    obtain ⟨hde, rfl⟩ := findEnt_some hd; obtain ⟨hce, rfl⟩ := findEnt_some hc; exact .copyAssignF hde hce acts
  next _ d c cls cb acts => exact .copyConstructF d c cls cb acts
  next _ d c cls ce hc hf => obtain ⟨hce, rfl⟩ := findEnt_some hc; exact .copyConstructNewFail hce (fresh hf) cls

/-- see `step_view` -/
theorem fcstep_view {cs : CSys} (h0 : cs.sys.err = none) (op : FCOp) :
    ∃ cs', fcstep cs op = cs' ∧ FCOutcome cs op cs' :=
  ⟨_, rfl, fcstep_outcome h0 op⟩

theorem FCOutcome.cinv {cs cs' : CSys} {op : FCOp} (h : FCOutcome cs op cs') (hc : CInv cs) (h0 : cs.sys.err = none)
    (hok : cs'.sys.err = none) : CInv cs' := by
  cases h with
  | illegal => exact absurd hok (cfail_err _)
  | ok h => exact h.cinv hc h0 hok
  | newAllocFail | copyConstructNewFail => exact hc
  | mutateF hen acts => exact (factSteps_cinv_frame hc h0 hen acts hok).1
  | copyAssignF hde _ acts => exact (factSteps_cinv_frame hc h0 hde acts hok).1
  | copyConstructF d c cls cb acts =>
    -- no error at the end: no error at any stage
    cases h1 : (cstep cs (.copyConstruct d c cls cb [])).sys.err with
    | some er =>
      rw [cstep_of_err (e := er) (by rw [factSteps_of_err h1]; exact h1), factSteps_of_err h1, h1] at hok; cases hok
    | none =>
      have hc1 := cstep_cinv hc (.copyConstruct d c cls cb []) h1
      have hd := (copyConstruct_spec hc h0 (cstep_outcome h0 _) h1).1
      cases h2 : (acts.foldl (factStep d cs.sys.pools.length) (cstep cs (.copyConstruct d c cls cb []))).sys.err with
      | some er => rw [cstep_of_err h2, h2] at hok; cases hok
      | none => exact cstep_cinv (factSteps_cinv_frame hc1 h1 hd acts h2).1 (.destroy d []) hok

theorem mutateF_spec {cs cs' : CSys} (hc : CInv cs) (h0 : cs.sys.err = none) {e : Nat} {acts : List FAct}
    (h : FCOutcome cs (.mutateF e acts) cs') (hok : cs'.sys.err = none) :
    ∃ en ∈ cs.ents, en.eid = e ∧ Frame e en.pid cs cs' ∧ cs'.ents = cs.ents := by
  cases h with
  | illegal => exact absurd hok (cfail_err _)
  | @mutateF en hen => exact ⟨en, hen, rfl, (factSteps_cinv_frame hc h0 hen acts hok).2, factSteps_ents _ _ _ _⟩

theorem factStep_allocFail_spec {cs : CSys} (hc : CInv cs) (h0 : cs.sys.err = none) {en : Ent} (hen : en ∈ cs.ents) (cls : Cls) {n : Nat}
    (hn : n ≠ 0) :
    let cs' := factStep en.eid en.pid cs (.allocFail cls n)
    cs'.sys.err = none ∧ cs'.ents = cs.ents ∧ cs'.own = cs.own ∧ cs'.sys.blocks = cs.sys.blocks ∧
    (∀ e, cs'.ownedBy e = cs.ownedBy e) ∧ Frame en.eid en.pid cs cs' ∧ CInv cs' := by
  intro cs'
  obtain ⟨st, hl⟩ := ent_pool_live hc hen
  have hok : cs'.sys.err = none := by
    have he : ¬ cs.sys.err.isSome = true := by simp [h0]
    simp only [cs', factStep, fstep, if_neg he, doAllocFail, hl, if_neg hn]
    split <;> exact h0
  obtain ⟨_, _, hblocks, _⟩ := allocFail_effect (fstep_outcome h0 _) hok
  obtain ⟨hc', hfr⟩ := factStep_cinv_frame hc h0 hen (.allocFail cls n) hok
  exact ⟨hok, rfl, rfl, hblocks, fun e => congrArg (List.filter fun b : Block => cs.own b.id == e) hblocks, hfr, hc'⟩

theorem fcstep_cinv {cs : CSys} (hc : CInv cs) (op : FCOp) (hok : (fcstep cs op).sys.err = none) :
    CInv (fcstep cs op) := by
  cases h0 : cs.sys.err with
  | none => exact (fcstep_outcome h0 op).cinv hc h0 hok
  | some e => rw [fcstep_of_err h0]; exact hc

theorem fcrun_cinv {cs : CSys} (hc : CInv cs) (ops : List FCOp) (hok : (fcrun cs ops).sys.err = none) :
    CInv (fcrun cs ops) := by
  induction ops generalizing cs with
  | nil => exact hc
  | cons op ops ih =>
    rw [fcrun_cons] at hok ⊢
    cases h : (fcstep cs op).sys.err with
    | none => exact ih (fcstep_cinv hc op h) hok
    | some e => rw [fcrun_of_err h, h] at hok; cases hok

theorem crun_cinv {cs : CSys} (hc : CInv cs) (ops : List COp) (hok : (crun cs ops).sys.err = none) : CInv (crun cs ops) := by
  rw [← fcrun_ok] at hok ⊢
  exact fcrun_cinv hc _ hok

/-- the shape of `foneType_iff`, for a list of classes -/
def fallocsIn (L : List Cls) (fops : List FOp) : Prop :=
  ∀ q cls id ms, FOp.ok (.alloc q cls 1 id ms) ∈ fops → cls ∈ L

/-- some history of the allocator-level machine leads from `s` to `s'`, and its successful single-object requests are for classes in
    `L`. What layer C does to `sys` is always this (`cstep_reaches`, `fcrun_reaches`), so theorems about `frun` apply to it. -/
def Reaches (L : List Cls) (s s' : Sys) : Prop := ∃ fops, s' = frun s fops ∧ fallocsIn L fops

theorem Reaches.refl (L : List Cls) (s : Sys) : Reaches L s s := ⟨[], rfl, fun _ _ _ _ h => nomatch h⟩

theorem Reaches.trans {L : List Cls} {a b c : Sys} (h1 : Reaches L a b) (h2 : Reaches L b c) : Reaches L a c := by
  obtain ⟨f1, rfl, g1⟩ := h1
  obtain ⟨f2, rfl, g2⟩ := h2
  refine ⟨f1 ++ f2, (frun_append _ _ _).symm, fun q cls id ms h => ?_⟩
  exact (List.mem_append.mp h).elim (g1 q cls id ms) (g2 q cls id ms)

theorem Reaches.mono {L L' : List Cls} {s s' : Sys} (hs : ∀ c ∈ L, c ∈ L') (h : Reaches L s s') : Reaches L' s s' :=
  h.imp fun _ h => ⟨h.1, fun q cls id ms hm => hs cls (h.2 q cls id ms hm)⟩

theorem Reaches.fstep {L : List Cls} (s : Sys) (op : FOp) (h : ∀ p cls id ms, op = .ok (.alloc p cls 1 id ms) → cls ∈ L) :
    Reaches L s (fstep s op) :=
  ⟨[op], rfl, fun p cls id ms hm => h p cls id ms (List.mem_singleton.mp hm).symm⟩

theorem Reaches.step {L : List Cls} (s : Sys) (op : Op) (h : ∀ p cls id ms, op = .alloc p cls 1 id ms → cls ∈ L) :
    Reaches L s (step s op) :=
  fstep_ok s op ▸ Reaches.fstep s (.ok op) fun p cls id ms e => h p cls id ms (FOp.ok.inj e)

theorem Reaches.foldl {α : Type} (f : CSys → α → CSys) (g : α → List Cls)
    (hf : ∀ cs a, Reaches (g a) cs.sys (f cs a).sys) (cs : CSys) (l : List α) :
    Reaches (l.flatMap g) cs.sys (l.foldl f cs).sys := by
  induction l generalizing cs with
  | nil => exact .refl _ _
  | cons a l ih =>
    refine ((hf cs a).mono fun c hc => ?_).trans ((ih (f cs a)).mono fun c hc => ?_)
    · exact List.mem_flatMap.mpr ⟨a, List.mem_cons_self, hc⟩
    · obtain ⟨x, hx, hcx⟩ := List.mem_flatMap.mp hc
      exact List.mem_flatMap.mpr ⟨x, List.mem_cons_of_mem _ hx, hcx⟩

theorem factStep_reaches (e p : Nat) (cs : CSys) (a : FAct) : Reaches a.singleCls cs.sys (factStep e p cs a).sys := by
  obtain ⟨fop, own', h, hL⟩ := factStep_lowers e p cs a
  rw [h]
  exact .fstep _ fop hL

theorem factSteps_reaches (e p : Nat) (cs : CSys) (acts : List FAct) :
    Reaches (factsSingleCls acts) cs.sys (acts.foldl (factStep e p) cs).sys :=
  .foldl _ _ (factStep_reaches e p) cs acts

theorem actSteps_reaches (e p : Nat) (cs : CSys) (acts : List Act) :
    Reaches (actsSingleCls acts) cs.sys (acts.foldl (actStep e p) cs).sys := by
  rw [foldl_actStep]
  exact (factSteps_reaches e p cs _).mono fun c hc => by
    simpa [factsSingleCls, actsSingleCls, List.flatMap_map, FAct.singleCls] using hc

theorem COutcome.reaches {cs cs' : CSys} {op : COp} (h : COutcome cs op cs') : Reaches op.singleCls cs.sys cs'.sys := by
  cases h with
  | illegal => exact .step _ .bad nofun
  | newAlloc cls cb => exact .step _ (.anew cls cb) nofun
  | @newFrom _ se => exact .step _ (.acopy se.pid) nofun
  | @moveConstruct _ ce => exact .step _ (.acopy ce.pid) nofun
  | mutate _ acts => exact actSteps_reaches _ _ cs acts
  | copyAssign _ _ acts => exact actSteps_reaches _ _ cs acts
  | copyConstruct _ _ cls cb acts => exact (Reaches.step _ (.anew cls cb) nofun).trans (actSteps_reaches _ _ _ acts)
  | moveAssignFail p acts => exact (actSteps_reaches _ p cs acts).trans (.step _ .bad nofun)
  | destroyFail p acts => exact (actSteps_reaches _ p cs acts).trans (.step _ .bad nofun)
  | @moveAssign de ce _ _ _ acts =>
    exact ((actSteps_reaches _ _ cs acts).trans (.step _ (.acopy ce.pid) nofun)).trans (.step _ (.adrop de.pid) nofun)
  | swap | splice => exact .refl _ _
  | @destroy en _ acts => exact (actSteps_reaches _ _ cs acts).trans (.step _ (.adrop en.pid) nofun)

theorem cstep_reaches (cs : CSys) (op : COp) : Reaches op.singleCls cs.sys (cstep cs op).sys := by
  cases h0 : cs.sys.err with
  | none => exact (cstep_outcome h0 op).reaches
  | some e => rw [cstep_of_err h0]; exact .refl _ _

theorem fcstep_reaches (cs : CSys) (op : FCOp) : Reaches op.singleCls cs.sys (fcstep cs op).sys := by
  cases h0 : cs.sys.err with
  | some e => rw [fcstep_of_err h0]; exact .refl _ _
  | none =>
    obtain ⟨cs', e, h⟩ := fcstep_view h0 op
    rw [e]
    cases h with
    | illegal => exact .step _ .bad nofun
    | ok h => exact h.reaches
    | newAllocFail | copyConstructNewFail => exact .refl _ _
    | mutateF _ acts => exact factSteps_reaches _ _ cs acts
    | copyAssignF _ _ acts => exact factSteps_reaches _ _ cs acts
    | copyConstructF d c cls cb acts =>
      exact (((cstep_reaches cs (.copyConstruct d c cls cb [])).mono fun _ h => (List.not_mem_nil h).elim).trans
        (factSteps_reaches _ _ _ acts)).trans ((cstep_reaches _ (.destroy d [])).mono fun _ h => (List.not_mem_nil h).elim)

theorem fcrun_reaches (cs : CSys) (ops : List FCOp) :
    Reaches (ops.flatMap FCOp.singleCls) cs.sys (fcrun cs ops).sys :=
  .foldl _ _ fcstep_reaches cs ops

theorem fcrun_oneNodeType {κ0 : Cls} {cs : CSys} (hK : BusyParams (fun _ => κ0) cs.sys) (hrs : cs.sys.rawSingle = false)
    (ops : List FCOp) (h : ∀ op ∈ ops, ∀ c ∈ op.singleCls, c = κ0) : (fcrun cs ops).sys.rawSingle = false := by
  obtain ⟨fops, hf, hg⟩ := fcrun_reaches cs ops
  rw [hf]
  refine (frun_oneType hK hrs fops (foneType_iff.mpr fun p cls id ms hm => ?_)).2
  obtain ⟨op, hop, hcop⟩ := List.mem_flatMap.mp (hg p cls id ms hm)
  exact h op hop cls hcop

/-- `frun_err` for container histories, through `fcrun_reaches` -/
theorem fcrun_err {cs : CSys} (hc : CInv cs) (h0 : cs.sys.err = none) (ops : List FCOp)
    (h : (fcrun cs ops).sys.rawSingle = false) :
    ((fcrun cs ops).sys.err = none ∧ CInv (fcrun cs ops)) ∨ (fcrun cs ops).sys.err = some .illegal := by
  obtain ⟨l, hl, _⟩ := fcrun_reaches cs ops
  rw [hl] at h ⊢
  rcases frun_err hc.inv h0 l h with ⟨he, _⟩ | he
  · exact Or.inl ⟨he, fcrun_cinv hc ops (hl ▸ he)⟩
  · exact Or.inr he

end Momo.PoolAlloc
