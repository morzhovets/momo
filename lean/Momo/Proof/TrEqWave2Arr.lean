import Momo.Translated.Wave2
import Momo.Proof.Word64
import Momo.Model.Arr
/-!
  C05: the capacity tests of `Array` (Array.h) — `Data::GetCapacity`, the three tests of `Data::Reallocate`, the heap test of
  `Data::Reset`, the tests of `Reserve` and `Shrink(capacity)` and the shrink target — as translated from the header (area Wave2,
  lean/Momo/Translated/Wave2.lean) are the tests of the model `Momo/Model/Arr.lean`.
-/
namespace Momo.TrEq
open Momo Momo.Arr

theorem tr_arr_getCapacity {α : Type} (cfg : Cfg) (s : State α) :
    Tr.arr_Data_GetCapacity cfg.intCap s.internal s.cap = capacity cfg s := rfl

/-! A test is an `… = true ↔ P` where the model has the proposition `P`, and a Boolean equation where the model has an `||` of
    `decide`s, so that `reallocate_translated` and `reserve_shrink_translated` close by `rfl` after the rewriting. -/
theorem tr_arr_Reallocate_internal (ic cur : Nat) : (Tr.arr_Reallocate_internal ic cur = true) ↔ cur = ic := by
  simp [Tr.arr_Reallocate_internal]
theorem tr_arr_Reallocate_small (ic lin exp : Nat) : Tr.arr_Reallocate_small ic lin exp = (decide (lin ≤ ic) || decide (exp ≤ ic)) := rfl
theorem tr_arr_Reallocate_tryInplace (cr : Bool) (lin exp : Nat) :
    Tr.arr_Reallocate_tryInplace cr lin exp = (!cr || decide (lin < exp)) := rfl
theorem tr_arr_Reserve_grows (n cur : Nat) : (Tr.arr_Reserve_grows n cur = true) ↔ n > cur := by simp [Tr.arr_Reserve_grows]
theorem tr_arr_Shrink_keeps (ic ini n : Nat) : Tr.arr_Shrink_keeps ic ini n = (decide (ini ≤ n) || decide (ini = ic)) := rfl
theorem tr_arr_Shrink_target (cnt n : Nat) : Tr.arr_Shrink_target cnt n = Nat.max n cnt := by
  unfold Tr.arr_Shrink_target
  simp only [decide_eq_true_eq]
  exact Seg.ite_lt_eq_max n cnt
theorem tr_arr_Reset_heap (ic n : Nat) : (Tr.arr_Reset_heap ic n = true) ↔ n > ic := by simp [Tr.arr_Reset_heap]

/-- `Data::Reallocate(capacityLin, capacityExp)` (model `reallocate`) with its three tests taken from the translated header -/
theorem reallocate_translated {α : Type} (cfg : Cfg) (s : State α) (lin exp : Nat) :
    reallocate cfg s lin exp =
      if Tr.arr_Reallocate_internal cfg.intCap (Tr.arr_Data_GetCapacity cfg.intCap s.internal s.cap) = true then (false, s, [])
      else if Tr.arr_Reallocate_small cfg.intCap lin exp = true then (false, s, [])
      else if (Tr.arr_Reallocate_tryInplace cfg.canRealloc lin exp && cfg.canInplace) = true then
        if s.cap = lin then (true, s, [])
        else if s.oracle then (true, { s with cap := lin }, [.inplace s.cap lin true])
        else if cfg.canRealloc then (true, { s with cap := exp }, .inplace s.cap lin false :: reallocEv s.cap exp)
        else (false, s, [.inplace s.cap lin false])
      else if cfg.canRealloc then (true, { s with cap := exp }, reallocEv s.cap exp)
      else (false, s, []) := by
  simp only [tr_arr_getCapacity, tr_arr_Reallocate_internal, tr_arr_Reallocate_small, tr_arr_Reallocate_tryInplace]
  rfl

/-- `Reserve(capacity)` and `Shrink(capacity)` (models `reserve`, `shrink`) with the translated tests and shrink target, and the
    heap test of `Data::Reset` (first branch of the model `reset`) -/
theorem reserve_shrink_translated {α : Type} (cfg : Cfg) (s : State α) (n : Nat) (newCells : Cells α) :
    reserve cfg s n = (if Tr.arr_Reserve_grows n (Tr.arr_Data_GetCapacity cfg.intCap s.internal s.cap) = true
                       then grow cfg s n true else (s, [])) ∧
    shrink cfg s n = (if Tr.arr_Shrink_keeps cfg.intCap (Tr.arr_Data_GetCapacity cfg.intCap s.internal s.cap) n = true then (s, [])
                      else moveTo cfg s (Tr.arr_Shrink_target s.cells.length n) (Tr.arr_Shrink_target s.cells.length n)) ∧
    (Tr.arr_Reset_heap cfg.intCap n = true →
      reset cfg s n newCells = ({ s with cells := newCells, cap := n, internal := false },
        .alloc n :: (if capacity cfg s > cfg.intCap then [.dealloc s.cap] else []))) := by
  refine ⟨?_, ?_, ?_⟩
  · simp only [tr_arr_getCapacity, tr_arr_Reserve_grows]; rfl
  · simp only [tr_arr_getCapacity, tr_arr_Shrink_keeps, tr_arr_Shrink_target]; rfl
  · intro h
    rw [tr_arr_Reset_heap] at h
    unfold reset
    rw [if_pos h]

end Momo.TrEq
