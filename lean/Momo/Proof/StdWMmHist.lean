import Momo.Proof.StdWMmRange
/-!
  The C06 history theorem for `unordered_multimap`: the wrapper model works on the native table key -> value array
  (distinct keys, keys without values allowed, key order re-arranged by an oracle after every call); the specification
  keeps the multiset of pairs. Relation `RelM`: the flat traversal of the table is a permutation of the specification's
  pairs. Every legal call gives the same observation and keeps the relation, for every oracle.
-/
namespace Momo.StdW
open Momo.StdWrap List
open Momo.StdSpec hiding Item

/-- wrapper state `w` (tables key -> value array) against specification state `s` (lists of pairs): the flat traversal of each table is a
    permutation of the pairs. Distinctness of keys is a fact about the table, so it sits on the wrapper side (the other way round in `RelU`). -/
structure RelM (w : MSt) (s : St) : Prop where
  a : (MM.pairs w.a).Perm s.a
  b : (MM.pairs w.b).Perm s.b
  na : KeysNodup w.a
  nb : KeysNodup w.b

theorem RelM.get {w : MSt} {s : St} (h : RelM w s) (c : Side) : (MM.pairs (w.get c)).Perm (s.get c) := by
  cases c <;> simp [MSt.get, St.get, h.a, h.b]

theorem RelM.nodup {w : MSt} {s : St} (h : RelM w s) (c : Side) : KeysNodup (w.get c) := by
  cases c <;> simp [MSt.get, h.na, h.nb]

theorem RelM.put {w : MSt} {s : St} (h : RelM w s) (c : Side) {m : MM} {ys : List Item} (hp : (MM.pairs m).Perm ys)
    (hn : KeysNodup m) : RelM (w.put c m) (s.put c ys) := by
  cases c
  · exact ⟨hp, h.b, hn, h.nb⟩
  · exact ⟨h.a, hp, h.na, hn⟩

theorem RelM.removeKey {w : MSt} {s : St} (h : RelM w s) (c : Side) (k : Nat) :
    RelM (w.put c (mmRemoveKey (w.get c) k)) (s.put c ((s.get c).filter (fun e => e.1 != k))) :=
  h.put c (pairs_removeKey _ k ▸ (h.get c).filter _) ((h.nodup c).filter _)

theorem isEmpty_eq_length (l : List Item) : l.isEmpty = decide (l.length = 0) := by cases l <;> simp

theorem wrapMCore_refines (w : MSt) (s : St) (hr : RelM w s) (c : MCall) (hl : c.legal s = true) :
    (wrapMCore w c).2 = (c.spec s).2 ∧ RelM (wrapMCore w c).1 (c.spec s).1 := by
  cases c with
  | insert c x | emplace c x | insertHint c x | emplaceHint c x =>
    obtain ⟨h1, h2⟩ := mmAdd_rel (hr.get c) (hr.nodup c) x
    exact ⟨rfl, hr.put c h1 h2⟩
  | insertRange c ys | insertList c ys =>
    obtain ⟨h1, h2⟩ := mmAddMany_rel ys (hr.get c) (hr.nodup c)
    exact ⟨rfl, hr.put c h1 h2⟩
  | count c k =>
    simp only [wrapMCore, MCall.spec, count_lookup _ (hr.nodup c) k]
    refine ⟨?_, hr⟩
    unfold countKey; rw [(hr.get c).countP_eq]
  | find c k | contains c k =>
    simp only [wrapMCore, MCall.spec, hasKey_lookup _ (hr.nodup c) k, hasKey_perm (hr.get c) k]
    exact ⟨trivial, hr⟩
  | equalRange c k =>
    simp only [wrapMCore, MCall.spec, ← pairs_filter_key _ (keysNodup_iff.mp (hr.nodup c)) k, canon_perm ((hr.get c).filter _)]
    exact ⟨trivial, hr⟩
  | eraseKey c k =>
    simp only [wrapMCore, MCall.spec, count_lookup _ (hr.nodup c) k]
    refine ⟨?_, hr.removeKey c k⟩
    unfold countKey; rw [(hr.get c).countP_eq]
  | eraseElem c x =>
    have hx : x ∈ MM.pairs (w.get c) := (hr.get c).symm.subset (contains_iff_mem.mp (by simpa [MCall.legal] using hl))
    obtain ⟨h1, h2⟩ := wmEraseElem_rel (hr.get c) (hr.nodup c) x hx
    exact ⟨rfl, hr.put c h1 h2⟩
  | eraseRange c r =>
    cases r with
    | empty =>
      simp only [wrapMCore, MCall.spec, wmEraseRange_empty, MSt.put_get]
      exact ⟨trivial, hr⟩
    | single x mv =>
      have hx : x ∈ MM.pairs (w.get c) := (hr.get c).symm.subset (contains_iff_mem.mp (by simpa [MCall.legal] using hl))
      obtain ⟨h1, h2⟩ := wmEraseElem_rel (hr.get c) (hr.nodup c) x hx
      simp only [wrapMCore, MCall.spec, wmEraseRange_single _ x mv hx]
      exact ⟨trivial, hr.put c h1 h2⟩
    | wholeKey k mv =>
      have hk : hasKey k (MM.pairs (w.get c)) = true := by
        rw [hasKey_perm (hr.get c)]; simpa [MCall.legal] using hl
      simp only [wrapMCore, MCall.spec, wmEraseRange_key _ (hr.nodup c) k mv hk]
      exact ⟨trivial, hr.removeKey c k⟩
    | whole =>
      obtain ⟨h1, h2, h3⟩ := wmEraseRange_whole _ (hr.nodup c)
      simp only [wrapMCore, MCall.spec, h2]
      exact ⟨trivial, hr.put c (by rw [h1]) h3⟩
  | eraseIf c m r =>
    have h1 := pairs_removeIf (w.get c) (fun k => !(k % m == r))
    have hn' := ListFacts.nodup_keys_map (hr.nodup c) (fun e => (e.1, e.2.filter (fun _ => !(e.1 % m == r)))) fun _ => rfl
    have e : ((s.get c).filter fun e => !(e.1 % m == r)) = (s.get c).filter fun e => e.1 % m != r := rfl
    have hp := (hr.get c).filter (fun e => !(e.1 % m == r))
    simp only [wrapMCore, MCall.spec, ← length_pairs, h1, hp.length_eq, (hr.get c).length_eq, e]
    exact ⟨trivial, hr.put c (by rw [h1]; exact hp) hn'⟩
  | clear c => exact ⟨rfl, hr.put c (Perm.refl _) keysNodup_nil⟩
  | size c =>
    simp only [wrapMCore, MCall.spec, ← length_pairs, (hr.get c).length_eq]
    exact ⟨trivial, hr⟩
  | empty c =>
    simp only [wrapMCore, MCall.spec, ← length_pairs, (hr.get c).length_eq, isEmpty_eq_length]
    exact ⟨trivial, hr⟩
  | swap => exact ⟨rfl, hr.b, hr.a, hr.nb, hr.na⟩
  | assignCopy c | constructCopy c => exact ⟨rfl, hr.put c (hr.get c.other) (hr.nodup c.other)⟩
  | assignMove c | constructMove c =>
    exact ⟨rfl, (hr.put c (hr.get c.other) (hr.nodup c.other)).put c.other (Perm.refl _) keysNodup_nil⟩
  | compare =>
    refine ⟨?_, hr⟩
    have : mmEq w.a w.b = s.a.isPerm s.b := by
      rw [Bool.eq_iff_iff, mmEq_iff_perm w.a w.b (keysNodup_iff.mp hr.na) (keysNodup_iff.mp hr.nb), isPerm_iff]
      exact ⟨fun h => hr.a.symm.trans (h.trans hr.b), fun h => hr.a.trans (h.trans hr.b.symm)⟩
    simp only [wrapMCore, MCall.spec, this]
  | contents c =>
    simp only [wrapMCore, MCall.spec, canon_perm (hr.get c)]
    exact ⟨trivial, hr⟩
  | assignList c ys | constructRange c ys | constructList c ys =>
    obtain ⟨h1, h2⟩ := mmAddMany_rel ys (m := []) (Perm.refl _) keysNodup_nil
    exact ⟨rfl, hr.put c h1 h2⟩

/-- the oracle for the key order of the native `HashMultiMap`: it may permute the key entries of a table, not touch the value arrays -/
def RearrangesM (ρ : Nat → MM → MM) : Prop := ∀ n m, (ρ n m).Perm m

theorem wrapM_refines (ρ : Nat → MM → MM) (hρ : RearrangesM ρ) (n : Nat) (w : MSt) (s : St) (hr : RelM w s) (c : MCall)
    (hl : c.legal s = true) : (wrapM ρ n w c).2 = (c.spec s).2 ∧ RelM (wrapM ρ n w c).1 (c.spec s).1 := by
  obtain ⟨h1, h2⟩ := wrapMCore_refines w s hr c hl
  exact ⟨h1, ⟨(pairs_perm (hρ _ _)).trans h2.a, (pairs_perm (hρ _ _)).trans h2.b, h2.na.perm (hρ _ _), h2.nb.perm (hρ _ _)⟩⟩

theorem runWrapM_eq (ρ : Nat → MM → MM) (hρ : RearrangesM ρ) (cs : List MCall) :
    ∀ (n : Nat) (w : MSt) (s : St), RelM w s → MCall.legalFrom s cs = true →
    runWrapMFrom ρ n w cs = MCall.runSpecFrom s cs := by
  induction cs with
  | nil => intro n w s _ _; rfl
  | cons c t ih =>
    intro n w s hr hl
    simp only [MCall.legalFrom, Bool.and_eq_true] at hl
    obtain ⟨e, hr'⟩ := wrapM_refines ρ hρ n w s hr c hl.1
    simp only [runWrapMFrom, MCall.runSpecFrom, e]
    rw [ih _ _ _ hr' hl.2]

theorem relM_init : RelM {} {} := ⟨Perm.refl _, Perm.refl _, keysNodup_nil, keysNodup_nil⟩

end Momo.StdW
