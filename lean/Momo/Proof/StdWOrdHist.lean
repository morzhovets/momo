import Momo.Proof.StdWOrdOps
import Momo.Proof.ListFacts
/-!
  The C06 history theorem for the ordered containers: every legal call gives the same new state and the same
  observation on the wrapper model and on the specification, and keeps the order invariant; by induction over the
  call list every legal history gives the same list of observations.
  The abstraction relation is equality of the two sequences together with the order invariant `InvO`
  (the wrapper's native tree is represented by its in-order list, C02).
-/
namespace Momo.StdW
open Momo.StdWrap List
open Momo.StdSpec hiding Item

/-- both containers of the state are in the order of their kind; wrapper and specification share the state, so this is all the relation there is -/
def InvO (kd : Kind) (s : St) : Prop := SortedK kd.multi s.a ∧ SortedK kd.multi s.b

theorem InvO.get {kd : Kind} {s : St} (hi : InvO kd s) (c : Side) : SortedK kd.multi (s.get c) := by
  cases c
  · exact hi.1
  · exact hi.2

theorem InvO.put {kd : Kind} {s : St} (hi : InvO kd s) (c : Side) {xs : List Item} (h : SortedK kd.multi xs) :
    InvO kd (s.put c xs) := by
  cases c
  · exact ⟨h, hi.2⟩
  · exact ⟨hi.1, h⟩

theorem InvO.setNode {kd : Kind} {s : St} (hi : InvO kd s) (n : Option Item) : InvO kd { s with node := n } := hi

/-- the members that exist for `map` only are called on containers with distinct keys -/
theorem InvO.unique {kd : Kind} {s : St} (hi : InvO kd s) (c : Side) (h : (kd.isMap && !kd.multi) = true) :
    kd.multi = false ∧ SortedK false (s.get c) := by
  have hm : kd.multi = false := (Bool.not_eq_true' _).mp (Bool.and_eq_true_iff.mp h).2
  exact ⟨hm, hm ▸ hi.get c⟩

theorem InvO.sublist {kd : Kind} {s : St} (hi : InvO kd s) (c : Side) {ys : List Item} (h : ys.Sublist (s.get c)) :
    InvO kd (s.put c ys) := hi.put c (sortedK_sublist (hi.get c) h)

theorem hint_legal {h : Option Nat} {n : Nat} (hh : (match h with | none => true | some h => decide (h ≤ n)) = true) :
    ∀ h', h = some h' → h' ≤ n := fun _ e => by subst e; exact of_decide_eq_true hh

theorem wrapO_refines (kd : Kind) (s : St) (hi : InvO kd s) (c : OCall) (hl : c.legal kd s = true) :
    wrapO kd s c = c.spec kd s ∧ InvO kd (c.spec kd s).1 := by
  cases c with
  | insert c x | emplace c x =>
    have hs := hi.get c
    simp only [wrapO, OCall.spec, wInsert_eq kd _ hs x]
    -- the equation has become `True`: both sides are now the same term (so in every case below that ends in `⟨trivial, _⟩`)
    exact ⟨trivial, hi.put c (sInsert_sorted _ _ hs x)⟩
  | insertHint c h x | emplaceHint c h x =>
    have hs := hi.get c
    have hl' : h ≤ (s.get c).length := of_decide_eq_true hl
    simp only [wrapO, OCall.spec, wInsertHint_eq kd _ hs h hl' x]
    exact ⟨trivial, hi.put c (sInsertHint_sorted _ _ hs h x)⟩
  | insertRange c ys =>
    have hs := hi.get c
    obtain ⟨e, h2⟩ := wInsertMany_eq kd _ hs ys true
    simp only [wrapO, OCall.spec, e]
    exact ⟨trivial, hi.put c h2⟩
  | insertList c ys =>
    have hs := hi.get c
    obtain ⟨e, h2⟩ := wInsertMany_eq kd _ hs ys false
    simp only [wrapO, OCall.spec, e]
    exact ⟨trivial, hi.put c h2⟩
  | tryEmplace c h x =>
    obtain ⟨hu, hh⟩ := Bool.and_eq_true_iff.mp hl
    obtain ⟨hmu, hs⟩ := hi.unique c hu
    simp only [wrapO, OCall.spec, mapInsert_eq _ hs.strict h (hint_legal hh) x]
    exact ⟨rfl, hi.put c (hmu ▸ sInsert_sorted false _ hs x)⟩
  | insertOrAssign c h x =>
    obtain ⟨hu, hh⟩ := Bool.and_eq_true_iff.mp hl
    obtain ⟨hmu, hs⟩ := hi.unique c hu
    simp only [wrapO, OCall.spec, mapInsertOrAssign_eq _ hs.strict h (hint_legal hh) x]
    exact ⟨rfl, hi.put c (hmu ▸ sInsertOrAssign_sorted _ hs x)⟩
  | index c k =>
    obtain ⟨hmu, hs⟩ := hi.unique c hl
    obtain ⟨e1, e2⟩ := wIndex_eq _ hs.strict k
    simp only [wrapO, OCall.spec, e1, e2]
    exact ⟨trivial, hi.put c (hmu ▸ sInsert_sorted false _ hs (k, 0))⟩
  | indexAssign c k v =>
    obtain ⟨hmu, hs⟩ := hi.unique c hl
    simp only [wrapO, OCall.spec, wIndexAssign_eq _ hs.strict k v]
    exact ⟨trivial, hi.put c (hmu ▸ sInsertOrAssign_sorted _ hs (k, v))⟩
  | «at» c k =>
    simp only [wrapO, OCall.spec, mapAt_eq _ (hi.get c).sorted k]
    exact ⟨trivial, hi⟩
  | find c k =>
    have hs := (hi.get c).sorted
    simp only [wrapO, OCall.spec, ordFind_eq _ hs k]
    exact ⟨trivial, hi⟩
  | count c k =>
    simp only [wrapO, OCall.spec, natKeyCount_eq _ _ (hi.get c) k]
    exact ⟨trivial, hi⟩
  | contains c k =>
    simp only [wrapO, OCall.spec, natContains_eq _ (hi.get c).sorted k]
    exact ⟨trivial, hi⟩
  | lowerBound c k => simp only [wrapO, OCall.spec, lowerPos_eq]; exact ⟨trivial, hi⟩
  | upperBound c k => simp only [wrapO, OCall.spec, upperPos_eq]; exact ⟨trivial, hi⟩
  | equalRange c k =>
    simp only [wrapO, OCall.spec, ordEqualRange_eq _ _ (hi.get c) k]
    exact ⟨trivial, hi⟩
  | eraseKey c k =>
    simp only [wrapO, OCall.spec, natRemoveKey, sEraseKey, countKey_eq _ (hi.get c).sorted k]
    exact ⟨trivial, hi.sublist c filter_sublist⟩
  | eraseAt c p =>
    simp only [wrapO, OCall.spec, natRemoveAt]
    exact ⟨trivial, hi.sublist c (eraseIdx_sublist _ p)⟩
  | eraseRange c p q =>
    have hpq : p ≤ q := by simp only [OCall.legal, Bool.and_eq_true, decide_eq_true_eq] at hl; exact hl.1
    simp only [wrapO, OCall.spec, natRemoveRange]
    exact ⟨trivial, hi.sublist c (ListFacts.take_append_drop_sublist _ hpq)⟩
  | eraseIf c m r =>
    have e : ((s.get c).filter fun e => !(e.1 % m == r)) = (s.get c).filter fun e => e.1 % m != r := rfl
    simp only [wrapO, OCall.spec, natRemoveIf, e]
    exact ⟨trivial, hi.sublist c filter_sublist⟩
  | extractKey c k =>
    simp only [wrapO, OCall.spec, wExtractKey_eq _ (hi.get c).sorted k]
    by_cases hk : hasKey k (s.get c) = true
    · simp only [hk, if_true]
      exact ⟨trivial, (hi.sublist c (eraseIdx_sublist _ _)).setNode _⟩
    · simp only [hk, Bool.false_eq_true, if_false, St.put_get]
      exact ⟨trivial, hi.setNode _⟩
  | extractAt c p =>
    simp only [wrapO, OCall.spec, natRemoveAt]
    exact ⟨trivial, (hi.sublist c (eraseIdx_sublist _ p)).setNode _⟩
  | insertNode c =>
    have hs := hi.get c
    simp only [wrapO, OCall.spec]
    cases hn : s.node with
    | none => simp only [wInsertNode, insertNode, St.put_get]; exact ⟨by cases s; simp_all, hi⟩
    | some x =>
      simp only [wInsertNode_eq kd _ hs x]
      exact ⟨trivial, (hi.put c (sInsert_sorted _ _ hs x)).setNode _⟩
  | insertNodeHint c h =>
    have hs := hi.get c
    have hl' : h ≤ (s.get c).length := of_decide_eq_true hl
    simp only [wrapO, OCall.spec]
    cases hn : s.node with
    | none =>
      refine ⟨?_, hi⟩
      simp only [wInsertNodeHint, mapInsertNodeHint, setInsertNodeHint, ite_self, Option.isSome_none, Bool.false_and,
        St.put_get]
      cases s; simp_all
    | some x =>
      simp only [wInsertNodeHint_eq kd _ hs h hl' x]
      refine ⟨?_, (hi.put c (sInsertHint_sorted _ _ hs h x)).setNode _⟩
      by_cases hin : (kd.multi || !hasKey x.1 (s.get c)) = true
      · simp [hin]
      · simp [hin]
  | dropNode => exact ⟨rfl, hi.setNode _⟩
  | merge c =>
    obtain ⟨e, h1, h2⟩ := natMergeFrom_eq kd.multi _ (hi.get c) _ (hi.get c.other)
    simp only [wrapO, OCall.spec, e]
    exact ⟨trivial, (hi.put c h1).put c.other h2⟩
  | clear c => exact ⟨rfl, hi.put c (sortedK_nil _)⟩
  | size c | empty c | contents c | rcontents c => exact ⟨rfl, hi⟩
  | swap => exact ⟨rfl, hi.2, hi.1⟩
  | assignCopy c | constructCopy c => exact ⟨rfl, hi.put c (hi.get c.other)⟩
  | assignMove c | constructMove c => exact ⟨rfl, (hi.put c (hi.get c.other)).put c.other (sortedK_nil _)⟩
  | assignList c ys | constructList c ys =>
    obtain ⟨e, h2⟩ := wInsertMany_eq kd [] (sortedK_nil _) ys false
    exact ⟨congrArg (fun xs => (s.put c xs, Obs.done)) e, hi.put c h2⟩
  | constructRange c ys =>
    obtain ⟨e, h2⟩ := wInsertMany_eq kd [] (sortedK_nil _) ys true
    exact ⟨congrArg (fun xs => (s.put c xs, Obs.done)) e, hi.put c h2⟩
  | compare => simp only [wrapO, OCall.spec, wCmp_eq]; exact ⟨trivial, hi⟩

theorem runWrapO_eq (kd : Kind) (cs : List OCall) : ∀ (s : St), InvO kd s → OCall.legalFrom kd s cs = true →
    runWrapOFrom kd s cs = OCall.runSpecFrom kd s cs := by
  induction cs with
  | nil => intro s _ _; rfl
  | cons c t ih =>
    intro s hi hl
    simp only [OCall.legalFrom, Bool.and_eq_true] at hl
    obtain ⟨e, hi'⟩ := wrapO_refines kd s hi c hl.1
    simp only [runWrapOFrom, OCall.runSpecFrom, e]
    rw [ih _ hi' hl.2]

theorem invO_init (kd : Kind) : InvO kd {} := ⟨sortedK_nil _, sortedK_nil _⟩

end Momo.StdW
