import Momo.Proof.HashTableRefine
import Momo.Proof.HashTableSummary
import Momo.Proof.TrEqHashProbe
import Momo.Proof.TrEqOpenBytes
/-!
# C01 — Hash set/map contents always equal the abstract set/map

Property theorems only. Model: `Momo/Model/HashTable.lean` (namespace `Momo.HT`, run against the real
`momo::HashSet`/`HashMap` by `harness/c01_hash.cpp` on every check); lemmas:
`Momo/Proof/HashTable*.lean`.

Statement (properties.jsonl): after any sequence of operations on a hash set or hash map (insert,
add-at-position, find, remove by key, iterator or predicate, extract and re-insert, key reset,
reserve, clear, copy, move, swap, merge), every key that should be present is found with its value,
no other key is found, the reported count is exact, and one full traversal visits each element
exactly once. This holds for every bucket layout the library offers (chained small-array buckets
and open addressing), for every key/value size, alignment and relocation category, and for any
hash function however badly it distributes.

Everything below is stated for an arbitrary bucket description `sp : Spec` with `SpecOK sp`
(`mkSpec_ok`: every description the driver builds for the library's bucket kinds satisfies it) and
an arbitrary hash function `hf : Nat → Nat`.
-/
namespace Momo.HT
open Momo Momo.Probe

/-- **every key that should be present is found, no other key is found** — whatever the number of
coexisting generations, the probing rule, the search-bound encoder and the hash function -/
theorem C01_find_iff (sp : Spec) (hf : Nat → Nat) (t : Table) (hI : TableInv sp hf t) (k : Nat) :
    (findTable sp hf t k).isSome ↔ k ∈ (traverse t).map (·.key) :=
  findTable_spec sp hf t hI k

/-- **… with its value**: the position `pvFind` returns holds the value the traversal (= the
abstract map, see `C01_history_partial`) associates with the key -/
theorem C01_find_value (sp : Spec) (hf : Nat → Nat) (t : Table) (hI : TableInv sp hf t) (k : Nat) :
    findVal sp hf t k = lookup (traverse t) k :=
  findVal_eq sp hf t hI k

/-- **the reported count is exact and one full traversal visits each element exactly once**
(the iterator's list has no duplicate key, and its length is `GetCount()`) -/
theorem C01_count_traverse (sp : Spec) (hf : Nat → Nat) (t : Table) (hI : TableInv sp hf t) :
    t.count = (traverse t).length ∧ ((traverse t).map (·.key)).Nodup :=
  ⟨hI.core.count, hI.core.nodup⟩

/-- **insertion without a fault always succeeds** (the capacity rule grows the table before a
bucket array can be completely full) -/
theorem C01_insert_succeeds (sp : Spec) (hf : Nat → Nat) (ok : SpecOK sp) (t : Table) (it : Item)
    (f : Faults) (hI : TableInv sp hf t) (hrg : f.refuseGrow = false) (hra : f.refuseAdd = false) :
    (add sp hf t it f).2 = .ok :=
  add_nofault_ok sp hf ok t it f hI.core hrg hra

/-- **what C01 asserts about the state a history reaches** (from two empty containers):
* every result reported along the way equals the specification's,
* both tables satisfy the invariant,
* every lookup returns exactly what the abstract map holds (present keys with their value, no
  other key),
* `GetCount()` is the size of the abstract map,
* one full traversal is a rearrangement of the abstract map's contents, which has no duplicate key
  (each element is visited exactly once). -/
def HistoryOK (sp : Spec) (hf : Nat → Nat) (ops : List Op) : Prop :=
  (arun {} ops ((run sp hf {} ops).2.map Res.outcome)).2 = (run sp hf {} ops).2 ∧
  TableInv sp hf (run sp hf {} ops).1.a ∧ TableInv sp hf (run sp hf {} ops).1.b ∧
  (∀ k, findVal sp hf (run sp hf {} ops).1.a k
      = lookup (arun {} ops ((run sp hf {} ops).2.map Res.outcome)).1.A k) ∧
  (∀ k, findVal sp hf (run sp hf {} ops).1.b k
      = lookup (arun {} ops ((run sp hf {} ops).2.map Res.outcome)).1.B k) ∧
  (run sp hf {} ops).1.a.count = (arun {} ops ((run sp hf {} ops).2.map Res.outcome)).1.A.length ∧
  (run sp hf {} ops).1.b.count = (arun {} ops ((run sp hf {} ops).2.map Res.outcome)).1.B.length ∧
  (traverse (run sp hf {} ops).1.a).Perm (arun {} ops ((run sp hf {} ops).2.map Res.outcome)).1.A ∧
  (traverse (run sp hf {} ops).1.b).Perm (arun {} ops ((run sp hf {} ops).2.map Res.outcome)).1.B ∧
  (akeys (arun {} ops ((run sp hf {} ops).2.map Res.outcome)).1.A).Nodup ∧
  (akeys (arun {} ops ((run sp hf {} ops).2.map Res.outcome)).1.B).Nodup

/-- the statement without any side condition on fault values and sizes. It is FALSE for the model
(`C01_history_full_false`): the model's `Faults` type lets a migration be "interrupted" even for
item categories whose relocation cannot throw, in which case lookups (which then read the newest
generation only) miss the elements left behind. -/
def C01_history_full : Prop :=
  ∀ (sp : Spec) (hf : Nat → Nat), SpecOK sp → ∀ ops : List Op, HistoryOK sp hf ops

/-- **C01, the history theorem.** For ANY list of operations with ANY fault choices that are
admissible in the sense of `OpOK` (no interrupted migration for nothrow-relocatable items; copies
of at most `capacity(2^(logStart+63))` elements), the state reached satisfies `HistoryOK`. Since
every prefix of a history is a history, this covers every reachable state. -/
theorem C01_history_partial (sp : Spec) (hf : Nat → Nat) (ok : SpecOK sp) (ops : List Op)
    (hok : RunOK sp hf {} ops) : HistoryOK sp hf ops := by
  obtain ⟨⟨ia, ib, pa, pb, _⟩, hres⟩ := run_refines_empty sp hf ok ops hok
  obtain ⟨fa, ca, nA⟩ := ia.agrees pa
  obtain ⟨fb, cb, nB⟩ := ib.agrees pb
  exact ⟨hres, ia, ib, fa, fb, ca, cb, pa, pb, nA, nB⟩

/-- the side condition of `copyTo` holds for every count up to the capacity of `2^(logStart+63)`
buckets -/
theorem C01_copy_fits (sp : Spec) (ok : SpecOK sp) (t : Table)
    (h : t.count ≤ capacityOf sp (sp.logStart + 63)) : CopyFits sp t :=
  copyFits_of_cap sp ok t ⟨63, by decide, h⟩

/-! ## The index and capacity arithmetic as translated from the headers

`Momo.Tr.*` (lean/Momo/Translated/HashProbe.lean) are regenerated by tools/translate.py on every check from the current text of
`BucketBase::GetStartBucketIndex / GetNextBucketIndex / GetMaxProbe`, the `GetNextBucketIndex` of `BucketLimP4`, `BucketOpen2N2`,
`BucketOpen8`, `HashBucketBase::GetBucketCountShift / CalcCapacity`, the constant shifts of the open-addressing policies and
`HashSet::pvGetNewLogBucketCount`; `Momo/Proof/TrEqHashProbe.lean` proves them equal to the functions of the model. -/

/-- **the probe path of the translated code is the model's**: in a table of `2^L` buckets (`L ≤ 63`, `bucketCount = size_t{1} << L`)
the bucket reached after `p ≤ 2^L` rounds of `bucketIndex = GetNextBucketIndex(bucketIndex, hashCode, bucketCount, ++probe)` from
`GetStartBucketIndex(hashCode, bucketCount)` — all translated — is the model's `seqOf` (linear for BucketBase / LimP4, triangular for
Open2N2 / Open8); every step is the model's `nextIdx`; and the path reaches every bucket within `2^L` probes. -/
theorem C01_probe_path_translated (f : TrEq.NextFn) (L h : Nat) (hL : L ≤ 63) :
    (∀ p, p ≤ 2 ^ L → TrEq.trSeq f L h p = seqOf f.quad L (start L h) p) ∧
    (∀ (sp : Spec), sp.quad = f.quad → ∀ idx p, idx + p + 1 < 2 ^ 64 → f.next idx (2 ^ L) p = nextIdx sp L idx p) ∧
    (∀ b, b < 2 ^ L → ∃ p, p < 2 ^ L ∧ TrEq.trSeq f L h p = b) :=
  ⟨fun p hp => TrEq.trSeq_eq f L h p hL hp, fun sp hq idx p hi => TrEq.tr_nextIdx f sp hq L idx p hi,
   fun b hb => TrEq.trSeq_surj f L h b hL hb⟩

/-- **the slot search of `pvAddNogrow` over the translated index functions** is the model's `findSlot` (whose result
`addNogrowGen` uses), and `BucketBase::GetMaxProbe` is the search bound of buckets without an encoder. -/
theorem C01_slot_search_translated (f : TrEq.NextFn) (sp : Spec) (hq : sp.quad = f.quad) (g : Gen) (h : Nat) (hL : g.L ≤ 63) :
    findSlot sp g (2 ^ g.L) 0 (start g.L h) = TrEq.trAddProbe f g.L (fun i => isFull sp (bkt sp g.bs i)) h ∧
    (sp.bound = BoundKind.none → ∀ b, Tr.base_GetMaxProbe g.L = maxProbe sp g.L b) := by
  refine ⟨TrEq.findSlot_translated f sp hq g h hL, ?_⟩
  intro hb b
  rw [TrEq.tr_maxProbe_base g.L (by omega)]
  simp [maxProbe, hb]

/-- **growth arithmetic as translated**: `HashSet::pvGetNewLogBucketCount` (with `HashBucketBase::GetBucketCountShift` or the constant
shift of the open-addressing policies) is the model's `newLog` for tables of at most `2^61` buckets, and
`HashBucketBase::CalcCapacity(1 << L, maxCount)` is the model's `capacityOf` (`L ≤ 62`) — for `maxCount = 1` given the exact value
`⌊n·5/8⌋` of the one floating-point expression, which the translator leaves uninterpreted. -/
theorem C01_growth_translated (sp : Spec) (t : Table) (hL : ∀ g ∈ t.gens.head?, g.L ≤ 61) :
    (if sp.baseShift then Tr.hs_pvGetNewLogBucketCount_base t.gens.isEmpty sp.logStart (t.gens.headD default).L sp.maxCount
     else Tr.hs_pvGetNewLogBucketCount_open t.gens.isEmpty sp.logStart (t.gens.headD default).L sp.maxCount) = newLog sp t ∧
    (sp.cap = CapKind.base → ∀ (L : Nat) (capFloat58 : Nat → Nat), L ≤ 62 → (sp.maxCount = 1 → capFloat58 (2 ^ L) = 2 ^ L * 5 / 8) →
      Tr.base_CalcCapacity capFloat58 (2 ^ L) sp.maxCount = capacityOf sp L) :=
  ⟨TrEq.tr_newLog sp t hL, fun hc L f hL62 hf => TrEq.tr_capacity_base sp L f hc hL62 hf⟩

/-! ## Non-vacuity: concrete states satisfying the hypotheses -/

-- the translated functions on concrete values: triangular path 7, 8, 10, 13 in 16 buckets; growth 2^10 -> 2^12 (maxCount 4), capacity 2n
example : (List.range 4).map (TrEq.trSeq .open2n2 4 0x127) = [7, 8, 10, 13] := by decide +kernel
example : Tr.hs_pvGetNewLogBucketCount_base false 4 10 4 = 12 ∧ Tr.hs_pvGetNewLogBucketCount_open false 4 10 3 = 11 := by decide +kernel
example : Tr.base_CalcCapacity (fun _ => 0) 1024 4 = 2048 ∧ Tr.base_CalcCapacity (fun _ => 0) 1024 2 = 1536 := by decide +kernel

/-- a concrete LimP4 table with TWO coexisting generations (8 and 2 buckets) … -/
example : (run exLimP4 id {} exTwoGens).1.a.gens.map (·.L) = [3, 1] := by decide +kernel
/-- … is reachable by an admissible history, hence satisfies the invariant, … -/
example : TableInv exLimP4 id (run exLimP4 id {} exTwoGens).1.a :=
  (C01_history_partial exLimP4 id exLimP4_ok exTwoGens (by decide +kernel)).2.1
/-- … holds its five items across both generations, each visited once, all found with their value -/
example : (traverse (run exLimP4 id {} exTwoGens).1.a).map (·.key) = [4, 5, 2, 3, 1] := by decide +kernel
example : [1, 2, 3, 4, 5, 6].map (findVal exLimP4 id (run exLimP4 id {} exTwoGens).1.a)
    = [some 10, some 20, some 30, some 40, some 50, none] := by decide +kernel

example : (run exOpen (fun _ => 0) {} (exFull.take 3)).1.a.gens.map (fun g => g.bs.map (isFull exOpen))
    = [[true, true]] := by decide +kernel
example : TableInv exOpen (fun _ => 0) (run exOpen (fun _ => 0) {} (exFull.take 3)).1.a :=
  (C01_history_partial exOpen (fun _ => 0) exOpen_ok (exFull.take 3) (by decide +kernel)).2.1
example : ((run exOpen (fun _ => 0) {} exFull).2.map Res.outcome)
    = [.ok, .ok, .full, .ok, .ok, .ok] := by decide +kernel

/-- a longer history: growth, interrupted migration, removal, second container, copy, merge,
predicate removal, extract + re-insert, refused reservation, swap -/
def exOps : List Op :=
  [.ins false 1 10 {}, .ins false 2 20 {}, .ins false 3 30 {}, .ins false 4 40 {},
   .ins false 5 50 { relocStop := some 1 }, .find 3, .rem 2, .ins true 4 44 {}, .ins true 9 99 {}, .copyTo,
   .ins true 7 70 {}, .mergeTo, .remPred (fun it => it.key % 2 == 0), .ext 1, .reins {},
   .reserve 40 { refuseGrow := true }, .swap]

example : RunOK exLimP4 id {} exOps := by decide +kernel
example : (traverse (run exLimP4 id {} exOps).1.a).map (·.key) = [1, 3, 4, 5, 7] := by decide +kernel
example : (arun {} exOps ((run exLimP4 id {} exOps).2.map Res.outcome)).1.A.map (·.key) = [7, 5, 4, 3, 1] := by
  decide +kernel

/-- hence the history statement without side conditions is false for the model -/
theorem C01_history_full_false : ¬ C01_history_full := by
  intro h
  have h1 := (h exNR id exNR_ok exNROps).2.2.2.1 1
  have h2 := unrestricted_faults_counterexample
  rw [h2.2.2.2.1, h2.2.2.2.2] at h1
  cases h1

end Momo.HT

/-! ## Byte level: the open-addressing buckets `BucketOpenN1` / `BucketOpen8` under the C01 model

`HT` keeps a bucket as the list of its items in storage order plus flags. For the two bucket classes with one state byte
the byte array is modelled as laid out in the headers (`Momo/Model/OpenBytes.lean`, invariant and `Find` theorems in
`Props/C13.lean`; `bytesOf`, `lookupB`, `findTableB` and the lemmas cited below are in `Proof/OpenBytesHT.lean`, which arrives through
`TrEqOpenBytes`). Below: the abstract bucket is the abstraction of the byte-level bucket, `AddCrt` / `Remove` / `IsFull` commute
with it, `HT`'s in-bucket lookup (`keyIdx`) agrees with the byte-level `Find` of every variant (scalar loop in forward or
reverse item order, SSE2 mask, SWAR mask), hence `pvFind` over byte-level buckets is `HT.findTable` and `C01_find_iff`
holds for it. Hash codes are 64-bit (`hf x < 2^64`). -/
namespace Momo.OpenB
open Momo

/-- **abstraction.** For a bucket of the C01 model with at most `maxCount` items, the bytes `bytesOf` assigns to it satisfy
the byte-level invariant for its items' hash codes; `IsFull` and the count read off the bytes are the model's; the bytes after
a byte-level `AddCrt` are the bytes of `HT.pushItem`, the bytes after a byte-level `Remove` those of `HT.removeAt`
(swap-with-last); and every byte-level bucket that satisfies the invariant carries exactly the canonical item bytes. -/
theorem C01_bucket_abstraction_bytes (v : Variant) (mc : Nat) (rev : Bool) (hf : Nat → Nat) (sp : HT.Spec) (bk : HT.Bucket)
    (hfit : v.fits mc rev) (hmc : sp.maxCount = mc) (hunl : sp.unlimited = false) (hlen : bk.items.length ≤ mc)
    (hhf : ∀ x, hf x < 2 ^ 64) :
    (bytesOf mc rev hf bk).Inv (hashes hf bk.items) ∧
    ((bytesOf mc rev hf bk).isFull = HT.isFull sp bk) ∧
    ((bytesOf mc rev hf bk).count = bk.items.length) ∧
    (∀ it, bk.items.length < mc → ∀ j, j < mc →
        ((bytesOf mc rev hf bk).addCrt (hf it.key)).data j = (bytesOf mc rev hf (HT.pushItem sp it bk)).data j) ∧
    (∀ index, index < bk.items.length → ∀ j, j < mc →
        ((bytesOf mc rev hf bk).remove index).data j = (bytesOf mc rev hf (HT.removeAt index bk)).data j) ∧
    (∀ (b : Bucket) (hs : List Nat), b.Inv hs → ∀ j, j < b.maxCount →
        b.data j = (encode b.maxCount b.reverse hs b.maxProbeExp).data j) :=
  ⟨bytesOf_inv v mc rev hf bk hfit hlen hhf, (bytesOf_step v mc rev hf sp bk hfit hmc hunl hlen hhf).1,
   (bytesOf_step v mc rev hf sp bk hfit hmc hunl hlen hhf).2.1, (bytesOf_step v mc rev hf sp bk hfit hmc hunl hlen hhf).2.2.1,
   (bytesOf_step v mc rev hf sp bk hfit hmc hunl hlen hhf).2.2.2, fun _ _ hI j hj => inv_eq_encode hI j hj⟩

/-- **in-bucket lookup.** For every bucket with distinct keys, `Find` on its bytes — searching the short hash of `hf k` with the
predicate `key(item) == k`, by the scalar loop (either item order), the SSE2 mask or the SWAR mask — returns the logical
position `HT.keyIdx` returns, or nothing when it returns nothing. -/
theorem C01_bucket_lookup_bytes (v : Variant) (mc : Nat) (rev : Bool) (hf : Nat → Nat) (bk : HT.Bucket) (k : Nat)
    (hfit : v.fits mc rev) (hlen : bk.items.length ≤ mc) (hhf : ∀ x, hf x < 2 ^ 64)
    (hnd : (bk.items.map (·.key)).Nodup) :
    lookupB v mc rev hf bk k = HT.keyIdx bk.items k :=
  lookupB_eq_keyIdx v mc rev hf bk k hfit hlen hhf hnd

/-- **`C01_find_iff` at byte level.** For every table satisfying the C01 invariant with an `OpenN1<maxCount, reverse>` /
`Open8` bucket description, `pvFind` evaluated with the byte-level `Find` in every bucket it visits returns the position
`HT.findTable` returns; hence every key that should be present is found and no other key is. -/
theorem C01_find_iff_bytes (v : Variant) (mc : Nat) (rev : Bool) (sp : HT.Spec) (hf : Nat → Nat) (t : HT.Table)
    (hI : HT.TableInv sp hf t) (hfit : v.fits mc rev) (hmc : sp.maxCount = mc) (hunl : sp.unlimited = false)
    (hhf : ∀ x, hf x < 2 ^ 64) (k : Nat) :
    findTableB (fun bk => lookupB v mc rev hf bk k) sp hf t k = HT.findTable sp hf t k ∧
    ((findTableB (fun bk => lookupB v mc rev hf bk k) sp hf t k).isSome ↔ k ∈ (HT.traverse t).map (·.key)) := by
  have e := findTableB_eq v mc rev sp hf t hI hfit hmc hunl hhf k
  exact ⟨e, by rw [e]; exact HT.findTable_spec sp hf t hI k⟩

/-- the slot arithmetic as translated from the header: `ptGetItemPtr(index)` and `pvGetShortHash(index)` address the slot `phys`
(so item and short hash of one logical index share a slot), `pvGetState()` is the byte of the last logical index -/
theorem C01_slots_translated (b : Bucket) (h0 : 0 < b.maxCount) (i : Nat) (hi : i < b.maxCount) :
    Tr.openN1_itemIndex b.reverse b.maxCount i = phys b.maxCount b.reverse i ∧
    Tr.openN1_shortHashIndex b.reverse b.maxCount i = phys b.maxCount b.reverse i ∧
    Tr.openN1_stateIndex b.reverse b.maxCount = phys b.maxCount b.reverse (b.maxCount - 1) := by
  refine ⟨TrEq.tr_ob_itemIndex _ _ i hi, TrEq.tr_ob_shortHashIndex b i hi, ?_⟩
  rw [TrEq.tr_ob_stateIndex b h0, stateIdx_eq b h0]

/-! Non-vacuity: the three variants on concrete buckets of the C01 model. -/
def exItems : List HT.Item := [⟨10, 1⟩, ⟨11, 2⟩, ⟨12, 3⟩]
def exBk : HT.Bucket := ⟨exItems, true, (0, 0)⟩
/-- every key has the same hash code: all short hashes equal, the key predicate decides -/
example : [10, 11, 12, 13].map (lookupB .n1 3 true (fun _ => 2 ^ 63) exBk) = [some 0, some 1, some 2, none] := by decide +kernel
example : [10, 11, 12, 13].map (lookupB .sse 7 false (fun _ => 2 ^ 63) exBk) = [some 0, some 1, some 2, none] := by decide +kernel
example : [10, 11, 12, 13].map (lookupB .swar 7 false (fun x => x <<< 40) exBk) = [some 0, some 1, some 2, none] := by decide +kernel
example : [10, 11, 12, 13].map (HT.keyIdx exItems) = [some 0, some 1, some 2, none] := by decide
example : Variant.fits .swar 7 false := ⟨by decide, by decide, fun _ => ⟨rfl, rfl⟩⟩

/-- a real `Open8` table of the C01 model (7 slots per bucket, triangular probing) reached by a history … -/
def exOpen8 : HT.Spec := Driver.HashTable.mkSpec "Open8" 7 8 8 false true false 0 1
def exHf8 : Nat → Nat := fun x => (x * 11400714819323198485) % 2 ^ 64
def exOps8 : List HT.Op := [.ins false 1 10 {}, .ins false 2 20 {}, .ins false 3 30 {}, .rem 2]
theorem exOpen8_ok : HT.SpecOK exOpen8 := HT.mkSpec_ok _ _ _ _ _ _ _ _ _ (by decide) (by decide)
/-- … satisfies the invariant, so its byte-level lookup (SWAR variant) finds exactly the keys it holds -/
example (k : Nat) :
    (findTableB (fun bk => lookupB .swar 7 false exHf8 bk k) exOpen8 exHf8 (HT.run exOpen8 exHf8 {} exOps8).1.a k).isSome
      ↔ k ∈ (HT.traverse (HT.run exOpen8 exHf8 {} exOps8).1.a).map (·.key) :=
  (C01_find_iff_bytes .swar 7 false exOpen8 exHf8 _ (HT.C01_history_partial exOpen8 exHf8 exOpen8_ok exOps8 (by decide +kernel)).2.1
    ⟨by decide, by decide, fun _ => ⟨rfl, rfl⟩⟩ rfl rfl (fun x => Nat.mod_lt _ (by decide)) k).2
example : [1, 2, 3].map (fun k => (findTableB (fun bk => lookupB .swar 7 false exHf8 bk k) exOpen8 exHf8
    (HT.run exOpen8 exHf8 {} exOps8).1.a k).isSome) = [true, false, true] := by decide +kernel

end Momo.OpenB
