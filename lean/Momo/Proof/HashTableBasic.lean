import Momo.Model.HashTable
import Momo.Proof.ProbeAdd
import Momo.Proof.ListFacts
/-!
  C01/C11: elementary facts about the hash-table model: bucket access and update, `Bucket::Remove` (swap with last), the in-bucket
  key search, and the item lists the iterator visits (`genItems` of a generation, `gensItems` of a list of generations; `traverse t` is
  `gensItems t.gens`). Last, the search-bound encoders inside the model (`BstOK`, `updProbe_spec`): the table invariant must hold for
  every generation size `2^L` the model can reach, so they rest on the encoder facts that hold for probes of ANY size
  (`MP2.upd_cover` over `MP2.Ok'`, `upd3_cover`), not on their 64-bit corollaries.
-/
namespace Momo.HT
open Momo Momo.Probe

/-- `Probe.seqOf` at the spec's rule; the invariants and `pvAddNogrow` lemmas speak `pseq`, the probe-level files and C13 `seqOf` -/
def pseq (sp : Spec) (L home : Nat) (p : Nat) : Nat := seqOf sp.quad L home p

theorem pseq_eq (sp : Spec) (L home p : Nat) : pseq sp L home p = seqOf sp.quad L home p := rfl

@[simp] theorem pseq_zero (sp : Spec) (L home : Nat) : pseq sp L home 0 = home := seqOf_zero _ _ _

/-- the stepping rule used by both `pvFind` and `pvAddNogrow` -/
theorem pseq_succ (sp : Spec) (L home p : Nat) :
    nextIdx sp L (pseq sp L home p) (p + 1) = pseq sp L home (p + 1) := by
  unfold pseq nextIdx; rw [seqOf_succ]

theorem pseq_lt (sp : Spec) (L home p : Nat) (hh : home < 2 ^ L) : pseq sp L home p < 2 ^ L :=
  seqOf_lt sp.quad L home p hh

theorem pseq_surj (sp : Spec) (L home b : Nat) (hh : home < 2 ^ L) (hb : b < 2 ^ L) :
    ∃ p, p < 2 ^ L ∧ pseq sp L home p = b := seqOf_surj sp.quad L home b hh hb

theorem bkt_of_lt (sp : Spec) (bs : List Bucket) (i : Nat) (h : i < bs.length) : bkt sp bs i = bs[i] := by
  unfold bkt; simp [List.getD_eq_getElem?_getD, h]

theorem bkt_of_ge (sp : Spec) (bs : List Bucket) (i : Nat) (h : bs.length ≤ i) :
    bkt sp bs i = emptyBucket sp := by
  unfold bkt; simp [List.getD_eq_getElem?_getD, List.getElem?_eq_none h]

@[simp] theorem emptyBucket_items (sp : Spec) : (emptyBucket sp).items = [] := rfl

@[simp] theorem updBkt_length (sp : Spec) (bs : List Bucket) (i : Nat) (f : Bucket → Bucket) :
    (updBkt sp bs i f).length = bs.length := by simp [updBkt]

theorem bkt_updBkt (sp : Spec) (bs : List Bucket) (i j : Nat) (f : Bucket → Bucket) (hi : i < bs.length) :
    bkt sp (updBkt sp bs i f) j = if i = j then f (bkt sp bs j) else bkt sp bs j := by
  unfold updBkt bkt
  by_cases h : i = j
  · subst h; simp [hi]
  · simp [h, List.getD_eq_getElem?_getD, List.getElem?_set_ne h]

theorem mem_bs_iff (sp : Spec) (bs : List Bucket) (b : Bucket) :
    b ∈ bs ↔ ∃ i, i < bs.length ∧ bkt sp bs i = b := by
  constructor
  · intro hb
    obtain ⟨i, hi, rfl⟩ := List.getElem_of_mem hb
    exact ⟨i, hi, bkt_of_lt sp bs i hi⟩
  · rintro ⟨i, hi, rfl⟩
    rw [bkt_of_lt sp bs i hi]; exact List.getElem_mem hi

@[simp] theorem removeAt_wasFull (j : Nat) (b : Bucket) : (removeAt j b).wasFull = b.wasFull := rfl
@[simp] theorem removeAt_bst (j : Nat) (b : Bucket) : (removeAt j b).bst = b.bst := rfl

theorem removeAt_decomp (j : Nat) (b : Bucket) (hj : j < b.items.length) :
    ∃ R, (removeAt j b).items = b.items.take j ++ R ∧ R.Perm (b.items.drop (j + 1)) := by
  unfold removeAt
  cases hl : b.items.getLast? with
  | none => rw [List.getLast?_eq_none_iff.mp hl] at hj; cases hj
  | some last => exact ListFacts.swapRemove_split hl hj

theorem removeAt_take_drop (j : Nat) (b : Bucket) (hj : j < b.items.length) :
    (removeAt j b).items.take j = b.items.take j ∧
    ((removeAt j b).items.drop j).Perm (b.items.drop (j + 1)) := by
  obtain ⟨R, e, hR⟩ := removeAt_decomp j b hj
  have hlen : (b.items.take j).length = j := by rw [List.length_take]; exact Nat.min_eq_left (Nat.le_of_lt hj)
  rw [e, List.take_left' hlen, List.drop_left' hlen]
  exact ⟨rfl, hR⟩

theorem removeAt_perm (j : Nat) (b : Bucket) (hj : j < b.items.length) :
    (b.items[j] :: (removeAt j b).items).Perm b.items := by
  unfold removeAt
  cases hl : b.items.getLast? with
  | none => rw [List.getLast?_eq_none_iff.mp hl] at hj; cases hj
  | some last =>
    exact ((ListFacts.swapRemove_perm hl hj).cons _).trans (ListFacts.perm_cons_eraseIdx (List.getElem?_eq_getElem hj))

theorem length_removeAt (j : Nat) (b : Bucket) : (removeAt j b).items.length = b.items.length - 1 := by
  unfold removeAt
  cases hl : b.items.getLast? with
  | none =>
    have : b.items = [] := by simpa using hl
    simp [this]
  | some l => simp

theorem mem_removeAt (j : Nat) (b : Bucket) (x : Item) (hx : x ∈ (removeAt j b).items) : x ∈ b.items := by
  unfold removeAt at hx
  simp only at hx
  cases hl : b.items.getLast? with
  | none => simp [hl] at hx
  | some l =>
    simp only [hl] at hx
    have h1 : x ∈ b.items.set j l := (List.dropLast_sublist _).subset hx
    rcases List.mem_or_eq_of_mem_set h1 with h2 | h2
    · exact h2
    · subst h2; exact List.mem_of_getLast? hl

@[simp] theorem pushItem_items (sp : Spec) (it : Item) (b : Bucket) :
    (pushItem sp it b).items = b.items ++ [it] := rfl
@[simp] theorem pushItem_bst (sp : Spec) (it : Item) (b : Bucket) : (pushItem sp it b).bst = b.bst := rfl
theorem pushItem_wasFull (sp : Spec) (it : Item) (b : Bucket) :
    (pushItem sp it b).wasFull
      = (b.wasFull || (!sp.unlimited && decide (b.items.length + 1 ≥ sp.fullFrom))) := rfl

theorem keyIdx_some (items : List Item) (k j : Nat) (h : keyIdx items k = some j) :
    ∃ it, items[j]? = some it ∧ it.key = k := by
  unfold keyIdx at h
  simp only at h
  split at h
  · rename_i hlt
    simp only [Option.some.injEq] at h; subst h
    refine ⟨items[items.findIdx (fun it => it.key == k)], by simp [hlt], ?_⟩
    have := List.findIdx_getElem (w := hlt)
    simpa using this
  · simp at h

theorem keyIdx_none (items : List Item) (k : Nat) (h : keyIdx items k = none) :
    ∀ it ∈ items, it.key ≠ k := by
  unfold keyIdx at h
  simp only at h
  split at h
  · simp at h
  · rename_i hge
    intro it hit hk
    have : items.findIdx (fun it => it.key == k) < items.length :=
      List.findIdx_lt_length_of_exists ⟨it, hit, by simp [hk]⟩
    exact hge this

theorem isSome_iff_of {α : Type} {o : Option α} {P : Prop} (h1 : ∀ a, o = some a → P) (h2 : o = none → ¬ P) :
    o.isSome ↔ P := by
  cases o with
  | none => exact ⟨nofun, fun h => absurd h (h2 rfl)⟩
  | some a => exact ⟨fun _ => h1 a rfl, fun _ => rfl⟩

theorem keyIdx_isSome_iff (items : List Item) (k : Nat) :
    (keyIdx items k).isSome ↔ ∃ it ∈ items, it.key = k :=
  isSome_iff_of
    (fun j hk => (keyIdx_some items k j hk).elim fun it h => ⟨it, List.mem_of_getElem? h.1, h.2⟩)
    (fun h ⟨it, hit, hk⟩ => keyIdx_none items k h it hit hk)

theorem keyIdx_eq_some_iff (items : List Item) (k j : Nat) (hnd : (items.map (·.key)).Nodup) :
    keyIdx items k = some j ↔ ∃ it, items[j]? = some it ∧ it.key = k := by
  constructor
  · exact keyIdx_some items k j
  · rintro ⟨it, hj, hk⟩
    have hsome : (keyIdx items k).isSome := (keyIdx_isSome_iff items k).mpr ⟨it, List.mem_of_getElem? hj, hk⟩
    cases hq : keyIdx items k with
    | none => rw [hq] at hsome; cases hsome
    | some j' =>
      obtain ⟨it', hj', hk'⟩ := keyIdx_some items k j' hq
      have hjl : j < (items.map (·.key)).length := by
        rw [List.length_map]
        exact (List.getElem?_eq_some_iff.mp hj).1
      have e1 : (items.map (·.key))[j]? = (items.map (·.key))[j']? := by
        rw [List.getElem?_map, List.getElem?_map, hj, hj']; simp [hk, hk']
      rw [(List.getElem?_inj hjl hnd).mp e1]

/-- what `HashSetConstIterator` visits inside one bucket array -/
def genItems (g : Gen) : List Item := (g.bs.map (fun b => b.items.reverse)).flatten

-- One flatten under several names: `genItems` of a generation, `gensItems` of a generation list (below), `bsItems` of a bucket list and
-- `rawItems` (storage order, a rearrangement) in HashTableBulk; linked by `genItems_eq_bsItems`, `traverse_eq`, `traverse_eq_gensItems`
-- (all `rfl`) and `rawItems_perm`.
theorem traverse_eq (t : Table) : traverse t = (t.gens.map genItems).flatten := rfl

/-- all items of a list of generations, newest generation first -/
def gensItems (gs : List Gen) : List Item := (gs.map genItems).flatten

@[simp] theorem gensItems_nil : gensItems [] = [] := rfl
@[simp] theorem gensItems_cons (g : Gen) (gs : List Gen) : gensItems (g :: gs) = genItems g ++ gensItems gs := rfl
theorem traverse_eq_gensItems (t : Table) : traverse t = gensItems t.gens := rfl

theorem nodup_keys_perm {l l' : List Item} (h : l.Perm l') (hn : (l'.map (·.key)).Nodup) :
    (l.map (·.key)).Nodup := ((h.map (·.key)).nodup_iff).mpr hn

theorem mem_genItems (sp : Spec) (g : Gen) (it : Item) :
    it ∈ genItems g ↔ ∃ i, it ∈ (bkt sp g.bs i).items := by
  unfold genItems
  simp only [List.mem_flatten, List.mem_map]
  constructor
  · rintro ⟨l, ⟨b, hb, rfl⟩, hk⟩
    obtain ⟨i, hi, rfl⟩ := (mem_bs_iff sp g.bs b).mp hb
    exact ⟨i, by simpa using hk⟩
  · rintro ⟨i, hk⟩
    by_cases hi : i < g.bs.length
    · exact ⟨_, ⟨bkt sp g.bs i, (mem_bs_iff sp g.bs _).mpr ⟨i, hi, rfl⟩, rfl⟩, by simpa using hk⟩
    · rw [bkt_of_ge sp g.bs i (by omega)] at hk; simp at hk

/-- distinct keys in the traversal: distinct keys in every bucket -/
theorem bucket_keys_nodup (sp : Spec) (t : Table) (hnd : ((traverse t).map (·.key)).Nodup) :
    ∀ g ∈ t.gens, ∀ b, ((bkt sp g.bs b).items.map (·.key)).Nodup := by
  intro g hg b
  by_cases hb : b < g.bs.length
  · -- the bucket's items, reversed, are a sublist of the traversal
    have h1 : ((bkt sp g.bs b).items.reverse).Sublist (genItems g) := by
      unfold genItems
      have : bkt sp g.bs b = g.bs[b] := by unfold bkt; simp [List.getD_eq_getElem?_getD, hb]
      rw [this]
      exact List.sublist_flatten_of_mem (List.mem_map.mpr ⟨g.bs[b], List.getElem_mem hb, rfl⟩)
    have h2 : (genItems g).Sublist (traverse t) := by
      rw [traverse_eq]
      exact List.sublist_flatten_of_mem (List.mem_map.mpr ⟨g, hg, rfl⟩)
    have h3 := ((h1.trans h2).map (·.key)).nodup hnd
    rw [List.map_reverse] at h3
    exact List.nodup_reverse.mp h3
  · rw [bkt_of_ge sp g.bs b (by omega)]; simp

theorem genItems_upd (sp : Spec) (g : Gen) (i : Nat) (f : Bucket → Bucket) (hi : i < g.bs.length) :
    (genItems { g with bs := updBkt sp g.bs i f } ++ (bkt sp g.bs i).items.reverse).Perm
      (genItems g ++ (f (bkt sp g.bs i)).items.reverse) := by
  unfold genItems updBkt
  have := ListFacts.flatten_map_set_perm (fun b : Bucket => b.items.reverse) g.bs i (f (bkt sp g.bs i)) hi
  rw [bkt_of_lt sp g.bs i hi] at *
  exact this

theorem genItems_upd_add (sp : Spec) (g : Gen) (i : Nat) (f : Bucket → Bucket) (x : Item)
    (hi : i < g.bs.length) (hf : (f (bkt sp g.bs i)).items.Perm (x :: (bkt sp g.bs i).items)) :
    (genItems { g with bs := updBkt sp g.bs i f }).Perm (x :: genItems g) := by
  have h := genItems_upd sp g i f hi
  have h2 : (genItems g ++ (f (bkt sp g.bs i)).items.reverse).Perm
      ((x :: genItems g) ++ (bkt sp g.bs i).items.reverse) := by
    refine List.Perm.trans (List.Perm.append_left _ ((List.reverse_perm _).trans
      (hf.trans (List.Perm.cons _ (List.reverse_perm _).symm)))) ?_
    simp only [List.cons_append]
    exact List.perm_middle
  exact (List.perm_append_right_iff _).mp (h.trans h2)

theorem genItems_upd_remove (sp : Spec) (g : Gen) (i : Nat) (f : Bucket → Bucket) (x : Item)
    (hi : i < g.bs.length) (hf : (x :: (f (bkt sp g.bs i)).items).Perm (bkt sp g.bs i).items) :
    (x :: genItems { g with bs := updBkt sp g.bs i f }).Perm (genItems g) := by
  have h := genItems_upd sp g i f hi
  have h2 : ((x :: genItems { g with bs := updBkt sp g.bs i f }) ++ (f (bkt sp g.bs i)).items.reverse).Perm
      (genItems { g with bs := updBkt sp g.bs i f } ++ (bkt sp g.bs i).items.reverse) := by
    simp only [List.cons_append]
    refine List.Perm.trans List.perm_middle.symm (List.Perm.append_left _ ?_)
    exact (List.Perm.cons _ (List.reverse_perm _)).trans (hf.trans (List.reverse_perm _).symm)
  exact (List.perm_append_right_iff _).mp (h2.trans h)

/-- `φ` is `id` or `(·.key)`: an edit that the items, or their keys, do not show is not seen by the traversal, or its key list -/
theorem genItems_upd_map {β : Type} (φ : Item → β) (sp : Spec) (g : Gen) (i : Nat) (f : Bucket → Bucket)
    (hf : (f (bkt sp g.bs i)).items.map φ = (bkt sp g.bs i).items.map φ) :
    (genItems { g with bs := updBkt sp g.bs i f }).map φ = (genItems g).map φ := by
  unfold genItems updBkt
  by_cases hi : i < g.bs.length
  · have e : (List.map φ ∘ fun bk : Bucket => bk.items.reverse) (f (bkt sp g.bs i))
        = (g.bs.map (List.map φ ∘ fun bk => bk.items.reverse))[i]'(by rw [List.length_map]; exact hi) := by
      rw [List.getElem_map, ← bkt_of_lt sp g.bs i hi]
      simp only [Function.comp, List.map_reverse, hf]
    rw [List.map_flatten, List.map_flatten, List.map_map, List.map_map, List.map_set, e, List.set_getElem_self]
  · rw [List.set_eq_of_length_le (Nat.le_of_not_lt hi)]

theorem genItems_upd_same (sp : Spec) (g : Gen) (i : Nat) (f : Bucket → Bucket)
    (hf : (f (bkt sp g.bs i)).items = (bkt sp g.bs i).items) :
    genItems { g with bs := updBkt sp g.bs i f } = genItems g := by
  simpa using genItems_upd_map id sp g i f (by rw [List.map_id, List.map_id, hf])

theorem genCount_eq (g : Gen) : genCount g = (genItems g).length := by
  unfold genCount genItems
  rw [List.length_flatten, List.map_map]
  congr 1
  apply List.map_congr_left
  intro b _; simp

theorem shiftOf_le (sp : Spec) (L : Nat) : 1 ≤ shiftOf sp L ∧ shiftOf sp L ≤ 2 := by
  have key (c : Prop) [Decidable c] (a b : Nat) (ha : 1 ≤ a ∧ a ≤ 2) (hb : 1 ≤ b ∧ b ≤ 2) :
      1 ≤ ite c a b ∧ ite c a b ≤ 2 := by split <;> assumption
  unfold shiftOf
  repeat' apply key
  all_goals decide

/-- only Open2N2 has an encoder state with an invariant -/
def BstOK (sp : Spec) (b : Bucket) : Prop :=
  sp.bound = .mp2 → MP2.Ok' ⟨b.bst.1, b.bst.2⟩

theorem emptyBucket_bstOK (sp : Spec) : BstOK sp (emptyBucket sp) := fun _ => Or.inl rfl

@[simp] theorem updProbe_items (sp : Spec) (b : Bucket) (p : Nat) : (updProbe sp b p).items = b.items := by
  unfold updProbe; split <;> rfl

@[simp] theorem updProbe_wasFull (sp : Spec) (b : Bucket) (p : Nat) :
    (updProbe sp b p).wasFull = b.wasFull := by
  unfold updProbe; split <;> rfl

/-- `UpdateMaxProbe(p)` for every bound kind. `hz`: `p = 0` is all the UnlimP bucket ever records. -/
theorem updProbe_spec (sp : Spec) (L : Nat) (b : Bucket) (p : Nat) (hp : p < 2 ^ L)
    (hz : sp.bound = .zero → p = 0) (hb : BstOK sp b) :
    BstOK sp (updProbe sp b p) ∧ p ≤ maxProbe sp L (updProbe sp b p) ∧
    maxProbe sp L b ≤ maxProbe sp L (updProbe sp b p) := by
  unfold BstOK maxProbe updProbe at *
  cases hk : sp.bound with
  | none => simp only [hk] at *; exact ⟨(fun h => by cases h), (by omega), Nat.le_refl _⟩
  | zero => simp only [hk] at *; exact ⟨(fun h => by cases h), (by have := hz trivial; omega), Nat.le_refl _⟩
  | mp2 =>
    simp only [hk] at *
    obtain ⟨a, c, d⟩ := MP2.upd_cover ⟨b.bst.1, b.bst.2⟩ p (hb trivial)
    exact ⟨fun _ => a, c, d⟩
  | mp3 =>
    simp only [hk] at *
    obtain ⟨c, d⟩ := upd3_cover L b.bst.1 p hp
    exact ⟨(fun h => by cases h), c, d⟩

end Momo.HT
