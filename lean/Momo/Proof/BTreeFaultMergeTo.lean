import Momo.Proof.BTreeFaultMerge
/-!
  C10 for the B-tree family: `pvMergeFast` with its roll-back (`mergeFastF_spec`; inside `MergeTo`, for either order of the two
  roots: `mergeFastF_mergeOut`) and the dispatch of `MergeTo(TreeSet&)` (`mergeToF_spec`) under every fault schedule.
-/
namespace Momo.BTreeF
open Momo Momo.BTree Momo.BTree.Node
variable {α : Type}

theorem createInners_spec (S : Sched) (n : Nat) (w : W) :
    (createInners S n w).2.2.led = w.led + { inners := (createInners S n w).1 } := by
  induction n generalizing w with
  | zero => exact (Ledger.add_zero' _).symm
  | succ n ih =>
    simp only [createInners]
    cases hf : S.alloc w.allocN
    · show (createInners S n (w.tickAlloc.addInners 1)).2.2.led =
        w.led + { inners := (((createInners S n (w.tickAlloc.addInners 1)).1 + 1 : Nat) : Int) }
      rw [ih (w.tickAlloc.addInners 1), addInners_led_eq, Ledger.add_assoc']
      exact congrArg _ (Ledger.ext' rfl (Int.add_comm ..) rfl rfl rfl rfl)
    · exact (Ledger.add_zero' _).symm

theorem mergeFastF_spec (S : Sched) (ic : ICfg α) (cfg : Cfg) (r1 r2 : Node α) (w : W) {t : Bool} {root : Node α} {w' : W}
    (h : mergeFastF S ic cfg r1 r2 w = (t, root, w')) :
    (t = true → w'.led = w.led) ∧
    (t = false → root = mergeFast cfg r1 r2 ∧
      w'.led = w.led + { leaves := (leafCount (mergeFast cfg r1 r2) : Int) - leafCount r1 - leafCount r2,
                         inners := (innerCount (mergeFast cfg r1 r2) : Int) - innerCount r1 - innerCount r2 }) := by
  unfold mergeFastF at h
  have a := createInners_spec S (mergeFastCreates cfg r1 r2) w
  generalize createInners S (mergeFastCreates cfg r1 r2) w = g at h a
  obtain ⟨d, t1, w1⟩ := g
  -- destroying the wrappers made gives back what `createInners` booked
  have undo : ∀ w2 : W, w2.led = w1.led → (w2.addInners (-(d : Int))).led = w.led := fun w2 e => by
    rw [addInners_neg_led_eq, e, a]; exact Ledger.add_sub_cancel' _ _
  cases t1 with
  | true =>
    cases h
    exact ⟨fun _ => undo w1 rfl, nofun⟩
  | false =>
    simp only at h
    by_cases hf : (!ic.reloc && S.ctor w1.ctorN) = true
    · rw [if_pos hf] at h
      cases h
      exact ⟨fun _ => undo _ rfl, nofun⟩
    · rw [if_neg hf] at h
      cases h
      refine ⟨nofun, fun _ => ⟨rfl, ?_⟩⟩
      rw [addInners_led_eq, addLeaves_led_eq, undo _ (by split <;> rfl), Ledger.add_assoc']
      exact congrArg _ (Ledger.ext' (Int.add_zero _) (Int.zero_add _) rfl rfl rfl rfl)

variable {lt : α → α → Bool}

/-- `pvMergeFast` of the two roots inside `MergeTo`, `r1` before `r2`: source before destination or the other way round -/
theorem mergeFastF_mergeOut (S : Sched) (ic : ICfg α) (cfg : Cfg) (hmax : 0 < cfg.maxCap) {src dst : FTree α}
    (hi : MergeInv lt cfg src dst) {rs rd r1 r2 : Node α} (hrs : src.tree.root = some rs) (hrd : dst.tree.root = some rd)
    (hsne : src.tree.toList ≠ []) (hdne : dst.tree.toList ≠ []) (hor : (r1 = rs ∧ r2 = rd) ∨ (r1 = rd ∧ r2 = rs))
    (hs : SortedBy lt cfg.multi (toList r1 ++ toList r2))
    {w w1 : W} (hw1 : w1.led = w.led) {t : Bool} {root : Node α} {w2 : W} (hmf : mergeFastF S ic cfg r1 r2 w1 = (t, root, w2)) :
    (t = true → w2.led = w.led) ∧
    (t = false → toList root = toList r1 ++ toList r2 ∧
      MergeOut lt cfg w src dst w2 { src with tree := { root := none, count := 0 } }
        { dst with tree := { root := some root, count := dst.tree.count + src.tree.count } }) := by
  have hrsl : toList rs = src.tree.toList := by unfold Tree.toList; rw [hrs]
  have hrdl : toList rd = dst.tree.toList := by unfold Tree.toList; rw [hrd]
  obtain ⟨ds, hbs⟩ := hi.ws.tree.bal rs hrs
  obtain ⟨dd, hbd⟩ := hi.wd.tree.bal rd hrd
  -- what the order of the two roots does not change
  have sides : (∃ d1 d2, Bal d1 r1 ∧ Bal d2 r2) ∧ toList r1 ≠ [] ∧ toList r2 ≠ [] ∧ Caps cfg.maxCap r1 ∧ Caps cfg.maxCap r2 ∧
      (toList r1 ++ toList r2).Perm (src.tree.toList ++ dst.tree.toList) ∧ dst.tree.toList.Sublist (toList r1 ++ toList r2) ∧
      (leafCount r1 : Int) + leafCount r2 = src.leaves + dst.leaves ∧
      (innerCount r1 : Int) + innerCount r2 = src.inners + dst.inners := by
    have hl : ((src.leaves : Int) = leafCount rs ∧ (src.inners : Int) = innerCount rs) ∧
        (dst.leaves : Int) = leafCount rd ∧ (dst.inners : Int) = innerCount rd := by
      simp [FTree.leaves, FTree.inners, hrs, hrd]
    rcases hor with ⟨rfl, rfl⟩ | ⟨rfl, rfl⟩
    · exact ⟨⟨_, _, hbs, hbd⟩, hrsl ▸ hsne, hrdl ▸ hdne, hi.ws.tree.caps _ hrs, hi.wd.tree.caps _ hrd, by rw [hrsl, hrdl],
        by rw [hrsl, hrdl]; exact List.sublist_append_right _ _, by rw [hl.1.1, hl.2.1], by rw [hl.1.2, hl.2.2]⟩
    · exact ⟨⟨_, _, hbd, hbs⟩, hrdl ▸ hdne, hrsl ▸ hsne, hi.wd.tree.caps _ hrd, hi.ws.tree.caps _ hrs,
        by rw [hrsl, hrdl]; exact List.perm_append_comm, by rw [hrsl, hrdl]; exact List.sublist_append_left _ _,
        by rw [hl.1.1, hl.2.1]; exact Int.add_comm _ _, by rw [hl.1.2, hl.2.2]; exact Int.add_comm _ _⟩
  obtain ⟨⟨d1, d2, hb1, hb2⟩, hn1, hn2, hc1, hc2, hp, hsub, hlv, hin⟩ := sides
  obtain ⟨m1, ⟨dm, m2⟩, m3⟩ := mergeFast_spec cfg hmax hb1 hb2 hn1 hn2
  obtain ⟨f1, f2⟩ := mergeFastF_spec S ic cfg r1 r2 w1 hmf
  refine ⟨fun ht => (f1 ht).trans hw1, fun ht => ?_⟩
  obtain ⟨rfl, g2⟩ := f2 ht
  have hcnt : dst.tree.count + src.tree.count = (toList (mergeFast cfg r1 r2)).length := by
    rw [m1, hp.length_eq, List.length_append, hi.ws.tree.count, hi.wd.tree.count]; exact Nat.add_comm _ _
  refine ⟨m1, ⟨⟨Tree.wf_empty cfg, fun hh => absurd rfl hh⟩,
    ⟨Tree.wf_root cfg hcnt m2 (m3 hc1 hc2), fun _ => hi.wd.params (by rw [hrd]; nofun)⟩,
    sortedBy_nil lt _, by show SortedBy lt cfg.multi (toList (mergeFast cfg r1 r2)); rw [m1]; exact hs⟩,
    ?_, List.nil_sublist _, ?_, ?_⟩
  · show (([] : List α) ++ toList (mergeFast cfg r1 r2)).Perm _
    rw [m1]; exact hp
  · show dst.tree.toList.Sublist (toList (mergeFast cfg r1 r2))
    rw [m1]; exact hsub
  · refine Frame2.of_transfer ?_ (by
      show 0 + (toList (mergeFast cfg r1 r2)).length = _
      rw [m1, hp.length_eq, List.length_append, Nat.zero_add])
    rw [g2, hw1]
    unfold FTree.leaves at hlv
    unfold FTree.inners at hin
    apply Ledger.ext' <;> simp [FTree.leaves, FTree.inners] <;> omega

theorem mergeToF_spec (S : Sched) (ic : ICfg α) (hu : ic.unsafeRepl = false) (cfg : Cfg) (hmax : 0 < cfg.maxCap)
    (lt : α → α → Bool) (ho : Order lt) (src dst : FTree α) (hi : MergeInv lt cfg src dst) (w : W)
    {t : Bool} {src' dst' : FTree α} {w' : W} (h : mergeToF S ic cfg lt src dst w = (t, src', dst', w')) :
    MergeOut lt cfg w src dst w' src' dst' ∧
    (t = false → dst'.tree.toList =
      (if ic.statefulTraits then src.tree.toList.foldl (Spec.insert1 lt cfg.multi) dst.tree.toList
       else Spec.merge lt cfg.multi src.tree.toList dst.tree.toList)) := by
  unfold mergeToF at h
  by_cases hst : ic.statefulTraits = true
  · simp only [hst, if_true] at h ⊢
    exact mergeGenericF_spec S ic hu cfg hmax lt ho src dst hi w h
  · simp only [hst, Bool.false_eq_true, if_false] at h ⊢
    have hws := hi.ws.tree
    have hwd := hi.wd.tree
    by_cases hs0 : src.tree.count = 0
    · rw [if_pos hs0] at h
      cases h
      exact ⟨MergeOut.refl rfl hi, fun _ => by simp [Spec.merge, toList_nil_of_count_zero cfg _ hws hs0]⟩
    · rw [if_neg hs0] at h
      obtain ⟨rs, firstS, lastS, hrs, hsne, e4, hd, e1, ha⟩ := tree_ends cfg src.tree hws hs0
      by_cases hd0 : dst.tree.count = 0
      · rw [if_pos hd0] at h
        have hdl : dst.tree.toList = [] := toList_nil_of_count_zero cfg _ hwd hd0
        obtain ⟨q1, q2, q3, q4, -⟩ := ensureParams_spec S dst w
        generalize ensureParams S dst w = g at h q1 q2 q3 q4
        obtain ⟨t0, dst1, w1⟩ := g
        simp only at q1 q2 q3 q4
        cases t0 with
        | true =>
          cases h
          cases q4 rfl
          exact ⟨MergeOut.refl (q2.trans (Ledger.add_sub_self _ _).symm) hi, nofun⟩
        | false =>
          cases h
          refine ⟨⟨⟨⟨Tree.wf_empty cfg, fun hh => absurd rfl hh⟩, ⟨hws, fun _ => rfl⟩, sortedBy_nil lt _, hi.ss⟩, ?_,
            List.nil_sublist _, hdl ▸ List.nil_sublist _, ?_⟩, fun _ => by simp [Spec.merge, hdl, ha]⟩
          · show (([] : List α) ++ src.tree.toList).Perm _
            rw [hdl]; simp
          · refine Frame2.of_transfer ?_ (by
              show 0 + src.tree.toList.length = _
              rw [hdl, Nat.zero_add]; rfl)
            simp only [addInners_led, addLeaves_led, q2]
            apply Ledger.ext' <;> simp [FTree.leaves, FTree.inners, q1, q3 rfl] <;> omega
      · rw [if_neg hd0] at h
        obtain ⟨rd, firstD, lastD, hrd, hdne, e2, hb, e3, hc⟩ := tree_ends cfg dst.tree hwd hd0
        have hrsl : toList rs = src.tree.toList := by unfold Tree.toList; rw [hrs]
        have hrdl : toList rd = dst.tree.toList := by unfold Tree.toList; rw [hrd]
        simp only [hrs, hrd, e1, e2, e3, e4] at h
        have hspec : Spec.merge lt cfg.multi src.tree.toList dst.tree.toList =
            (if Spec.ordered lt cfg.multi lastS firstD then src.tree.toList ++ dst.tree.toList
             else if Spec.ordered lt cfg.multi lastD firstS then dst.tree.toList ++ src.tree.toList
             else src.tree.toList.foldl (Spec.insert1 lt cfg.multi) dst.tree.toList) := by
          simp only [Spec.merge, ha, hb, hc, hd]
        rw [hspec, Spec.ordered_eq_isOrderedItems, Spec.ordered_eq_isOrderedItems]
        -- `pvIsOrdered(*this, dstTreeSet)`
        obtain ⟨o1a, o1b, -⟩ := isOrderedF_spec S lt cfg lastS firstD w
        generalize isOrderedF S lt cfg lastS firstD w = g at h o1a o1b
        obtain ⟨o1, w1⟩ := g
        cases o1 with
        | none =>
          cases h
          exact ⟨MergeOut.refl o1a hi, nofun⟩
        | some r1 =>
          cases o1b r1 rfl
          cases h1 : Tree.isOrderedItems lt cfg lastS firstD with
          | true =>
            simp only [h1] at h
            have hf := @mergeFastF_mergeOut _ _ S ic cfg hmax src dst hi _ _ _ _ hrs hrd hsne hdne (Or.inl ⟨rfl, rfl⟩)
              (by rw [hrsl, hrdl]; exact sortedBy_append lt ho cfg.multi _ _ lastS firstD hi.ss hi.sd ha hb ((isOrderedItems_iff lt cfg lastS firstD).mp h1))
              w w1 o1a
            generalize mergeFastF S ic cfg rs rd w1 = g at h hf
            obtain ⟨t2, root, w2⟩ := g
            obtain ⟨f1, f2⟩ := hf rfl
            cases t2 with
            | true =>
              cases h
              exact ⟨MergeOut.refl (f1 rfl) hi, nofun⟩
            | false =>
              cases h
              exact ⟨(f2 rfl).2, fun _ => (f2 rfl).1.trans (by rw [hrsl, hrdl, if_pos rfl])⟩
          | false =>
            simp only [h1] at h
            -- `pvIsOrdered(dstTreeSet, *this)`
            obtain ⟨o2a, o2b, -⟩ := isOrderedF_spec S lt cfg lastD firstS w1
            generalize isOrderedF S lt cfg lastD firstS w1 = g at h o2a o2b
            obtain ⟨o2, w2⟩ := g
            have hw2 : w2.led = w.led := o2a.trans o1a
            cases o2 with
            | none =>
              cases h
              exact ⟨MergeOut.refl hw2 hi, nofun⟩
            | some r2 =>
              cases o2b r2 rfl
              cases h2 : Tree.isOrderedItems lt cfg lastD firstS with
              | true =>
                simp only [h2] at h
                have hf := @mergeFastF_mergeOut _ _ S ic cfg hmax src dst hi _ _ _ _ hrs hrd hsne hdne (Or.inr ⟨rfl, rfl⟩)
                  (by rw [hrsl, hrdl]; exact sortedBy_append lt ho cfg.multi _ _ lastD firstS hi.sd hi.ss hc hd ((isOrderedItems_iff lt cfg lastD firstS).mp h2))
                  w w2 hw2
                generalize mergeFastF S ic cfg rd rs w2 = g at h hf
                obtain ⟨t2, root, w3⟩ := g
                obtain ⟨f1, f2⟩ := hf rfl
                cases t2 with
                | true =>
                  cases h
                  exact ⟨MergeOut.refl (f1 rfl) hi, nofun⟩
                | false =>
                  cases h
                  exact ⟨(f2 rfl).2, fun _ => (f2 rfl).1.trans (by rw [hrsl, hrdl, if_neg Bool.false_ne_true, if_pos rfl])⟩
              | false =>
                simp only [h2, Bool.false_eq_true, if_false] at h ⊢
                split at h
                · obtain ⟨x1, x2⟩ := mergeGenericF_spec S ic hu cfg hmax lt ho src dst hi w2 h
                  exact ⟨(MergeOut.refl hw2 hi).trans x1, x2⟩
                · obtain ⟨x1, x2⟩ := mergeLinearF_spec S ic hu cfg hmax lt ho src dst hi w2 h
                  exact ⟨(MergeOut.refl hw2 hi).trans x1, x2⟩

end Momo.BTreeF
