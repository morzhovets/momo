import Momo.Proof.Arr
/-!
  C05: capacity management of `Array::Data` (GrowCapacity, Reallocate, Reset, pvGrow, `Data(capacity)`, Reserve, Shrink):
  relocation never changes a cell (`X_cells`), the representation invariant `WF` is kept (`X_wf`) and the requested capacity is
  provided (`grow_wf`, `reserve_spec`); `WF` under `AddBack*` and `SetCount` for any argument.
-/
namespace Momo.Arr
variable {α : Type}

theorem growCapacity_ge (g : Bool) (capacity minNew : Nat) (reserve linear : Bool) :
    minNew ≤ growCapacity g capacity minNew reserve linear := by
  unfold growCapacity
  by_cases h : (reserve && !g) = true
  · rw [if_pos h]; exact Nat.le_refl _
  · rw [if_neg h]; exact Nat.le_max_right _ _

theorem reallocate_cases (cfg : Cfg) (s : State α) (lin exp : Nat) :
    ((reallocate cfg s lin exp).1 = false ∧ (reallocate cfg s lin exp).2.1 = s) ∨
    ((reallocate cfg s lin exp).1 = true ∧ s.internal = false ∧
      ∃ c, (c = lin ∨ c = exp) ∧ cfg.intCap < c ∧ (reallocate cfg s lin exp).2.1 = { s with cap := c }) := by
  -- what the first two tests of `Reallocate` leave for the branches behind them
  have guards : ¬ capacity cfg s = cfg.intCap → ¬ (decide (lin ≤ cfg.intCap) || decide (exp ≤ cfg.intCap)) = true →
      s.internal = false ∧ cfg.intCap < lin ∧ cfg.intCap < exp := fun hc hle => by
    simp only [Bool.or_eq_true, decide_eq_true_eq, not_or, Nat.not_le] at hle
    exact ⟨Bool.eq_false_iff.2 fun hi => hc (if_pos hi), hle⟩
  fun_cases reallocate cfg s lin exp
  -- internal or too small; in place refused and no `Reallocate`; neither available
  case case1 | case2 | case6 | case8 => exact .inl ⟨rfl, rfl⟩
  -- in place: already `lin`; granted
  case case3 hc hle _ h => exact .inr ⟨rfl, (guards hc hle).1, lin, .inl rfl, (guards hc hle).2.1, h ▸ rfl⟩
  case case4 hc hle _ _ _ => exact .inr ⟨rfl, (guards hc hle).1, lin, .inl rfl, (guards hc hle).2.1, rfl⟩
  -- `Reallocate` to `exp`: after a refused in-place attempt; at once
  case case5 hc hle _ _ _ _ => exact .inr ⟨rfl, (guards hc hle).1, exp, .inr rfl, (guards hc hle).2.2, rfl⟩
  case case7 hc hle _ _ => exact .inr ⟨rfl, (guards hc hle).1, exp, .inr rfl, (guards hc hle).2.2, rfl⟩

theorem reallocate_cells (cfg : Cfg) (s : State α) (lin exp : Nat) :
    (reallocate cfg s lin exp).2.1.cells = s.cells := by
  rcases reallocate_cases cfg s lin exp with ⟨_, h⟩ | ⟨_, _, _, _, _, h⟩ <;> rw [h]

theorem reallocate_internal (cfg : Cfg) (s : State α) (lin exp : Nat) :
    (reallocate cfg s lin exp).2.1.internal = s.internal := by
  rcases reallocate_cases cfg s lin exp with ⟨_, h⟩ | ⟨_, _, _, _, _, h⟩ <;> rw [h]

theorem reallocate_oracle (cfg : Cfg) (s : State α) (lin exp : Nat) :
    (reallocate cfg s lin exp).2.1.oracle = s.oracle := by
  rcases reallocate_cases cfg s lin exp with ⟨_, h⟩ | ⟨_, _, _, _, _, h⟩ <;> rw [h]

theorem reset_cells (cfg : Cfg) (s : State α) (newCap : Nat) (newCells : Cells α) (h : newCap = 0 → newCells = []) :
    (reset cfg s newCap newCells).1.cells = newCells := by
  unfold reset
  by_cases h1 : newCap > cfg.intCap
  · rw [if_pos h1]
  · rw [if_neg h1]
    by_cases h2 : cfg.intCap > 0
    · rw [if_pos h2]
    · rw [if_neg h2]
      exact (h (Nat.le_zero.1 (Nat.le_trans (Nat.le_of_not_gt h1) (Nat.le_of_not_gt h2)))).symm

theorem reset_cells_grow (cfg : Cfg) (s : State α) (g : Bool) (c minNew : Nat) (r l : Bool) (cs : Cells α)
    (h : 0 < minNew) : (reset cfg s (growCapacity g c minNew r l) cs).1.cells = cs :=
  reset_cells cfg s _ cs (fun h0 => absurd (h0 ▸ growCapacity_ge g c minNew r l) (Nat.not_le_of_gt h))

theorem moveTo_cells (cfg : Cfg) (s : State α) (lin exp : Nat) (h : exp = 0 → s.cells = []) :
    (moveTo cfg s lin exp).1.cells = s.cells := by
  unfold moveTo
  split
  · exact reallocate_cells cfg s lin exp
  · exact reset_cells cfg s exp s.cells h

theorem grow_cells (cfg : Cfg) (s : State α) (minNew : Nat) (r : Bool) (h : 0 < minNew) :
    (grow cfg s minNew r).1.cells = s.cells := by
  unfold grow
  exact moveTo_cells cfg s _ _
    (fun h0 => absurd (h0 ▸ growCapacity_ge cfg.growOnReserve (capacity cfg s) minNew r false) (Nat.not_le_of_gt h))

theorem reserve_cells (cfg : Cfg) (s : State α) (n : Nat) : (reserve cfg s n).1.cells = s.cells := by
  unfold reserve
  by_cases h : n > capacity cfg s
  · rw [if_pos h]; exact grow_cells cfg s n true (Nat.lt_of_le_of_lt (Nat.zero_le _) h)
  · rw [if_neg h]

theorem shrink_cells (cfg : Cfg) (s : State α) (n : Nat) : (shrink cfg s n).1.cells = s.cells := by
  unfold shrink
  split
  · rfl
  · exact moveTo_cells _ _ _ _ fun h0 => List.eq_nil_of_length_eq_zero
      (Nat.eq_zero_of_le_zero (h0 ▸ Nat.le_max_right n s.cells.length))

/-- an external buffer is strictly larger than the internal one, hence `GetCapacity() >= internalCapacity` -/
theorem WF.cap_ge {cfg : Cfg} {s : State α} (w : WF cfg s) : cfg.intCap ≤ capacity cfg s := by
  unfold capacity
  split
  · exact Nat.le_refl _
  · rename_i hi
    have hi' : s.internal = false := by simpa using hi
    by_cases h0 : s.cap = 0
    · have := w.null_only hi' h0; omega
    · have := w.ext_gt hi' h0; omega

theorem WF.ext_of_ne {cfg : Cfg} {s : State α} (w : WF cfg s) (h : capacity cfg s ≠ cfg.intCap) :
    s.internal = false ∧ s.cap > cfg.intCap ∧ capacity cfg s = s.cap := by
  have hi : s.internal = false := by
    cases hi : s.internal
    · rfl
    · exact absurd (if_pos hi) h
  have hc : capacity cfg s = s.cap := if_neg (hi ▸ Bool.false_ne_true)
  refine ⟨hi, ?_, hc⟩
  by_cases h0 : s.cap = 0
  · exact absurd (hc.trans (h0.trans (w.null_only hi h0).symm)) h
  · exact w.ext_gt hi h0

theorem growCapacity_gt {cfg : Cfg} {s : State α} (w : WF cfg s) {minNew : Nat} (h : capacity cfg s < minNew)
    (g r l : Bool) : cfg.intCap < growCapacity g (capacity cfg s) minNew r l :=
  Nat.lt_of_le_of_lt w.cap_ge (Nat.lt_of_lt_of_le h (growCapacity_ge ..))

theorem wf_with_cells {cfg : Cfg} {s : State α} (w : WF cfg s) (cs : Cells α) (h : cs.length ≤ capacity cfg s) :
    WF cfg { s with cells := cs } :=
  ⟨h, w.ext_gt, w.int_pos, w.null_only⟩

/-- `oracle`, the memory manager's answer to the next `ReallocateInplace`, belongs to the environment and not to the
    container: operations that replace the whole `Data` (copy, move, swap, `Clear(true)`, assignment) carry the old
    one over by hand, and the invariant does not mention it -/
theorem WF.oracle {cfg : Cfg} {s : State α} (w : WF cfg s) (b : Bool) : WF cfg { s with oracle := b } :=
  ⟨w.count_le, w.ext_gt, w.int_pos, w.null_only⟩

theorem wf_init (cfg : Cfg) : WF cfg (State.init cfg : State α) := by
  refine ⟨by simp [State.init], ?_, ?_, ?_⟩ <;> simp [State.init]

theorem capacity_init (cfg : Cfg) : capacity cfg (State.init cfg : State α) = cfg.intCap := by
  unfold capacity State.init
  by_cases hp : cfg.intCap > 0
  · rw [if_pos (decide_eq_true hp)]
  · rw [if_neg (by rw [decide_eq_false hp]; exact Bool.false_ne_true)]
    exact (Nat.eq_zero_of_not_pos hp).symm

theorem newCap_wf (cfg : Cfg) (n : Nat) (cs : Cells α) (h : cs.length ≤ n) :
    WF cfg (withCells (newCap cfg n) (fun _ => cs)).1 := by
  unfold newCap
  by_cases hn : n > cfg.intCap
  · rw [if_pos hn]
    exact ⟨h, fun _ _ => hn, fun h => Bool.noConfusion h, fun _ (h0 : n = 0) => absurd hn (h0 ▸ Nat.not_lt_zero _)⟩
  · rw [if_neg hn]
    exact wf_with_cells (wf_init cfg) cs (Nat.le_trans h (Nat.le_trans (Nat.le_of_not_gt hn) (wf_init cfg).cap_ge))

theorem reset_wf (cfg : Cfg) (s : State α) (newCap : Nat) (newCells : Cells α) (h : newCells.length ≤ newCap) :
    WF cfg (reset cfg s newCap newCells).1 ∧ newCap ≤ capacity cfg (reset cfg s newCap newCells).1 := by
  unfold reset
  by_cases h1 : newCap > cfg.intCap
  · rw [if_pos h1]
    exact ⟨⟨h, fun _ _ => h1, fun h => Bool.noConfusion h,
      fun _ (h0 : newCap = 0) => absurd h1 (h0 ▸ Nat.not_lt_zero _)⟩, Nat.le_refl _⟩
  · rw [if_neg h1]
    by_cases h2 : cfg.intCap > 0
    · rw [if_pos h2]
      exact ⟨⟨Nat.le_trans h (Nat.le_of_not_gt h1), fun h => Bool.noConfusion h, fun _ => h2,
        fun h => Bool.noConfusion h⟩, Nat.le_of_not_gt h1⟩
    · rw [if_neg h2]
      exact ⟨⟨Nat.zero_le _, fun _ h => absurd rfl h, fun h => Bool.noConfusion h,
        fun _ _ => Nat.le_zero.1 (Nat.le_of_not_gt h2)⟩, Nat.le_trans (Nat.le_of_not_gt h1) (Nat.le_of_not_gt h2)⟩

theorem moveTo_wf (cfg : Cfg) (s : State α) (lin exp : Nat)
    (h1 : s.cells.length ≤ lin) (h2 : s.cells.length ≤ exp) :
    WF cfg (moveTo cfg s lin exp).1 ∧
    (lin ≤ capacity cfg (moveTo cfg s lin exp).1 ∨ exp ≤ capacity cfg (moveTo cfg s lin exp).1) := by
  unfold moveTo
  rcases reallocate_cases cfg s lin exp with ⟨hf, _⟩ | ⟨ht, hint, c, hc, hgt, he⟩
  · rw [if_neg (by rw [hf]; exact Bool.false_ne_true)]
    exact ⟨(reset_wf cfg s exp s.cells h2).1, Or.inr (reset_wf cfg s exp s.cells h2).2⟩
  · rw [if_pos ht, he]
    have hcap : capacity cfg { s with cap := c } = c := by simp [capacity, hint]
    have hlen : s.cells.length ≤ c := hc.elim (fun e => e ▸ h1) (fun e => e ▸ h2)
    refine ⟨⟨Nat.le_trans hlen (Nat.le_of_eq hcap.symm), fun _ _ => hgt, fun h => absurd (hint ▸ h) Bool.false_ne_true,
      fun _ (h0 : c = 0) => absurd hgt (h0 ▸ Nat.not_lt_zero _)⟩, ?_⟩
    rw [hcap]
    exact hc.elim (fun e => Or.inl (Nat.le_of_eq e.symm)) (fun e => Or.inr (Nat.le_of_eq e.symm))

theorem grow_wf (cfg : Cfg) (s : State α) (minNew : Nat) (r : Bool) (h : s.cells.length ≤ minNew) :
    WF cfg (grow cfg s minNew r).1 ∧ minNew ≤ capacity cfg (grow cfg s minNew r).1 := by
  unfold grow
  have g1 := growCapacity_ge cfg.growOnReserve (capacity cfg s) minNew r true
  have g2 := growCapacity_ge cfg.growOnReserve (capacity cfg s) minNew r false
  obtain ⟨w', hc⟩ := moveTo_wf cfg s _ _ (Nat.le_trans h g1) (Nat.le_trans h g2)
  exact ⟨w', hc.elim (Nat.le_trans g1) (Nat.le_trans g2)⟩

theorem reserve_spec (cfg : Cfg) (s : State α) (n : Nat) (w : WF cfg s) :
    n ≤ capacity cfg (reserve cfg s n).1 ∧ (reserve cfg s n).1.cells = s.cells ∧ WF cfg (reserve cfg s n).1 := by
  unfold reserve
  by_cases h : n > capacity cfg s
  · rw [if_pos h]
    obtain ⟨w', hc⟩ := grow_wf cfg s n true (Nat.le_trans w.count_le (Nat.le_of_lt h))
    exact ⟨hc, grow_cells cfg s n true (Nat.lt_of_le_of_lt (Nat.zero_le _) h), w'⟩
  · rw [if_neg h]; exact ⟨Nat.le_of_not_gt h, rfl, w⟩

theorem shrink_wf (cfg : Cfg) (s : State α) (n : Nat) (w : WF cfg s) : WF cfg (shrink cfg s n).1 := by
  unfold shrink
  split
  · exact w
  · exact (moveTo_wf cfg s _ _ (Nat.le_max_right _ _) (Nat.le_max_right _ _)).1

theorem addBackGrowCrt_wf (cfg : Cfg) (s : State α) (mv : Bool) (item : Ref α) :
    WF cfg (addBackGrowCrt cfg s mv item).1 := by
  refine (reset_wf cfg s _ _ ?_).1
  rw [apply_ite List.length, List.length_append, List.length_append, taken_length, ite_self]
  exact growCapacity_ge ..

theorem addBackNogrow_wf {cfg : Cfg} {s : State α} (w : WF cfg s) (cs : Cells α)
    (hl : cs.length = s.cells.length + 1) (h : s.cells.length < capacity cfg s) : WF cfg { s with cells := cs } :=
  wf_with_cells w cs (hl ▸ h)

theorem growAppend_wf {cfg : Cfg} {s : State α} (f : Cells α → Cells α)
    (hf : ∀ cs, (f cs).length = cs.length + 1) : WF cfg (withCells (grow cfg s (s.cells.length + 1) false) f).1 := by
  obtain ⟨w', hc⟩ := grow_wf cfg s (s.cells.length + 1) false (Nat.le_succ _)
  refine wf_with_cells w' _ ?_
  rw [hf, grow_cells _ _ _ _ (Nat.succ_pos _)]
  exact hc

theorem addBackCrt_wf (cfg : Cfg) (s : State α) (mv : Bool) (item : Ref α) (w : WF cfg s) :
    WF cfg (addBackCrt cfg s mv item).1 := by
  unfold addBackCrt
  split
  · exact addBackNogrow_wf w _ (by rw [List.length_append, taken_length]; rfl) ‹_›
  · exact addBackGrowCrt_wf cfg s mv item

theorem addBackCopy_wf (cfg : Cfg) (s : State α) (item : Ref α) (w : WF cfg s) :
    WF cfg (addBackCopy cfg s item).1 := by
  unfold addBackCopy
  split
  · exact addBackNogrow_wf w _ (List.length_append ..) ‹_›
  · split
    · exact growAppend_wf _ fun _ => List.length_append ..
    · exact addBackGrowCrt_wf cfg s false item

theorem addBackMoveOp_wf (cfg : Cfg) (s : State α) (item : Ref α) (w : WF cfg s) :
    WF cfg (addBackMoveOp cfg s item).1 := by
  unfold addBackMoveOp
  split
  · exact addBackNogrow_wf w _ (by rw [List.length_append, moveFrom_length]; rfl) ‹_›
  · split
    · exact growAppend_wf _ fun _ => by rw [List.length_append, moveFrom_length]; rfl
    · exact addBackGrowCrt_wf cfg s true item

theorem setCount_wf (cfg : Cfg) (s : State α) (count : Nat) (item : Ref α) (w : WF cfg s) :
    WF cfg (setCount cfg s count item).1 := by
  unfold setCount
  split
  · exact wf_with_cells w _ (Nat.le_trans (List.length_take_le' ..) w.count_le)
  · have hl : (s.cells ++ List.replicate (count - s.cells.length) (item.read s.cells)).length = count := by
      rw [List.length_append, List.length_replicate, Nat.add_sub_cancel' (Nat.le_of_not_le ‹_›)]
    split
    · exact wf_with_cells w _ (by rw [hl]; assumption)
    · exact (reset_wf cfg s _ _ (by rw [hl]; exact growCapacity_ge ..)).1

theorem copyAssign_wf (cfg : Cfg) (dst src : State α) : WF cfg (copyAssign cfg dst src).1 :=
  (newCap_wf cfg _ _ (Nat.le_refl _)).oracle _

end Momo.Arr

