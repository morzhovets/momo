import Momo.Proof.PoolAllocCont
import Momo.Proof.PoolAllocRoute
/-!
  C20, layer C: `Frame e p` (what entity `e`, whose allocator points to pool `p`, may change; composed by `Frame.trans`). The
  allocations and deallocations inside a container call (with or without `bad_alloc`) keep the container invariant and touch only
  the container's own pool and blocks (`factStep_cinv_frame`, `factSteps_cinv_frame`, `actSteps_cinv_frame`), so every
  container operation preserves the invariant (`COutcome.cinv`, `cstep_cinv`). What the invariant then gives: unless a single object
  was served raw, freeing an owned block succeeds (`owner_free_succeeds`), and so does the final destructor call (`drop_succeeds`);
  a pool without entities has nothing left in the ledger; under the extracted propagation traits swap and move assignment of any two
  containers are defined, splice between containers on one pool is legal and migrates the nodes.
-/
namespace Momo.PoolAlloc

/-- between `cs` and `cs'` only entity `e` acted, through pool `p`. `fresh` is the converse of `keep` for ALL blocks afterwards:
    each is an old one with its old holder, or comes from `p` and is held by `e`. -/
structure Frame (e p : Nat) (cs cs' : CSys) : Prop where
  pools : ∀ j, j ≠ p → cs'.sys.pools[j]? = cs.sys.pools[j]?
  keep : ∀ b ∈ cs.sys.blocks, cs.own b.id ≠ e → b ∈ cs'.sys.blocks ∧ cs'.own b.id = cs.own b.id
  fresh : ∀ b ∈ cs'.sys.blocks, (b ∈ cs.sys.blocks ∧ cs'.own b.id = cs.own b.id) ∨ (b.pid = p ∧ cs'.own b.id = e)
  base : ∀ x : Base, x.pid ≠ p → (x ∈ cs'.sys.base ↔ x ∈ cs.sys.base)

theorem Frame.refl (e p : Nat) (cs : CSys) : Frame e p cs cs :=
  ⟨fun _ _ => rfl, fun _ hb _ => ⟨hb, rfl⟩, fun _ hb => Or.inl ⟨hb, rfl⟩, fun _ _ => Iff.rfl⟩

theorem Frame.trans {e p : Nat} {a b c : CSys} (h1 : Frame e p a b) (h2 : Frame e p b c) : Frame e p a c := by
  refine ⟨fun j hj => (h2.pools j hj).trans (h1.pools j hj), ?_, ?_, fun x hx => (h2.base x hx).trans (h1.base x hx)⟩
  · intro x hx hne
    obtain ⟨hxb, hob⟩ := h1.keep x hx hne
    obtain ⟨hxc, hoc⟩ := h2.keep x hxb (by rw [hob]; exact hne)
    exact ⟨hxc, hoc.trans hob⟩
  · intro x hx
    rcases h2.fresh x hx with ⟨hxb, ho⟩ | h
    · rcases h1.fresh x hxb with ⟨hxa, ho'⟩ | ⟨hp, ho'⟩
      · exact Or.inl ⟨hxa, ho.trans ho'⟩
      · exact Or.inr ⟨hp, ho.trans ho'⟩
    · exact Or.inr h

/-- a change of the pool table at one entry that keeps its owner count keeps the fields `entPool` and `refs` of `CInv` -/
theorem pools_same_refs {cs : CSys} (hc : CInv cs) {pools' : List PoolSt} {p : Nat} {st st' : PoolSt}
    (h : SetAt cs.sys.pools pools' p st st') (hr : st'.refs = st.refs) :
    (∀ e ∈ cs.ents, ∃ st, pools'[e.pid]? = some st) ∧
    (∀ (j : Nat) (st : PoolSt), pools'[j]? = some st → st.refs = cs.ents.countP (fun e => e.pid == j)) := by
  refine ⟨fun e he => (hc.entPool e he).elim fun a ha => h.fwd ha, fun j a' ha' => ?_⟩
  rcases h.back ha' with ⟨_, rfl, ha⟩ | ⟨_, ha⟩
  · exact hr.trans (hc.refs j st ha)
  · exact hc.refs j a' ha

theorem factStep_cinv_frame {cs : CSys} (hc : CInv cs) (h0 : cs.sys.err = none) {en : Ent} (hen : en ∈ cs.ents) (a : FAct)
    (hok : (factStep en.eid en.pid cs a).sys.err = none) :
    CInv (factStep en.eid en.pid cs a) ∧ Frame en.eid en.pid cs (factStep en.eid en.pid cs a) := by
  cases a with
  | allocFail cls n =>
    obtain ⟨st, st', hblocks, hset, hr, hbase⟩ := allocFail_effect (fstep_outcome h0 _) hok
    obtain ⟨h1, h2⟩ := pools_same_refs hc hset hr
    exact ⟨⟨fstep_inv hc.inv _ hok, hc.nodupE, fun b hb => hc.owned b (hblocks ▸ hb), h1, h2⟩,
      hset.other, fun b hb _ => ⟨hblocks ▸ hb, rfl⟩, fun b hb => Or.inl ⟨hblocks ▸ hb, rfl⟩, hbase⟩
  | ok a =>
    simp only [factStep] at hok ⊢
    cases a with
    | alloc cls n id mallocs =>
      simp only [actStep] at hok ⊢
      obtain ⟨st, st', prov, hfresh, hblocks, hset, hr, hbase⟩ := alloc_effect (step_outcome h0 _) hok
      obtain ⟨h1, h2⟩ := pools_same_refs hc hset hr
      refine ⟨⟨step_inv hc.inv _ hok, hc.nodupE, fun b hb => ?_, h1, h2⟩, hset.other,
        fun b hb _ => ⟨hblocks ▸ List.mem_cons_of_mem _ hb, if_neg (hfresh b hb)⟩, fun b hb => ?_, hbase⟩
      · rcases List.mem_cons.mp (hblocks ▸ hb) with rfl | hb
        · exact ⟨en, hen, (if_pos rfl).symm, rfl⟩
        · obtain ⟨x, hx, hx1, hx2⟩ := hc.owned b hb
          exact ⟨x, hx, hx1.trans (if_neg (hfresh b hb)).symm, hx2⟩
      · rcases List.mem_cons.mp (hblocks ▸ hb) with rfl | hb
        · exact Or.inr ⟨rfl, if_pos rfl⟩
        · exact Or.inl ⟨hb, if_neg (hfresh b hb)⟩
    | free id frees =>
      rcases actStep_free en.eid en.pid cs id frees with h | ⟨b, _, _, ho, h⟩ <;> rw [h] at hok ⊢
      · exact absurd hok (cfail_err cs)
      · obtain ⟨st, st', hblocks, hset, hr, hbase⟩ := dealloc_effect (step_outcome h0 _) hok
        obtain ⟨h1, h2⟩ := pools_same_refs hc hset hr
        have hsub : ∀ x ∈ (step cs.sys (.dealloc en.pid b.cls b.n id frees)).blocks, x ∈ cs.sys.blocks :=
          fun x hx => (List.mem_filter.mp (hblocks ▸ hx)).1
        refine ⟨⟨step_inv hc.inv _ hok, hc.nodupE, fun x hx => hc.owned x (hsub x hx), h1, h2⟩, hset.other,
          fun x hx hne => ⟨?_, rfl⟩, fun x hx => Or.inl ⟨hsub x hx, rfl⟩, hbase⟩
        rw [show ({ cs with sys := step cs.sys (.dealloc en.pid b.cls b.n id frees) } : CSys).sys.blocks = _ from hblocks]
        exact List.mem_filter.mpr ⟨hx, bne_iff_ne.mpr fun h : x.id = id => hne (h ▸ ho)⟩

theorem factSteps_cinv_frame {cs : CSys} (hc : CInv cs) (h0 : cs.sys.err = none) {en : Ent} (hen : en ∈ cs.ents) (acts : List FAct)
    (hok : (acts.foldl (factStep en.eid en.pid) cs).sys.err = none) :
    CInv (acts.foldl (factStep en.eid en.pid) cs) ∧ Frame en.eid en.pid cs (acts.foldl (factStep en.eid en.pid) cs) := by
  induction acts generalizing cs with
  | nil => exact ⟨hc, Frame.refl _ _ cs⟩
  | cons a acts ih =>
    rw [List.foldl_cons] at hok ⊢
    cases h1 : (factStep en.eid en.pid cs a).sys.err with
    | some er => rw [factSteps_of_err h1, h1] at hok; cases hok
    | none =>
      obtain ⟨hc1, hf1⟩ := factStep_cinv_frame hc h0 hen a h1
      obtain ⟨hc2, hf2⟩ := ih hc1 h1 (by rw [factStep_ents]; exact hen) hok
      exact ⟨hc2, hf1.trans hf2⟩

theorem actSteps_cinv_frame {cs : CSys} (hc : CInv cs) (h0 : cs.sys.err = none) {en : Ent} (hen : en ∈ cs.ents) (acts : List Act)
    (hok : (acts.foldl (actStep en.eid en.pid) cs).sys.err = none) :
    CInv (acts.foldl (actStep en.eid en.pid) cs) ∧ Frame en.eid en.pid cs (acts.foldl (actStep en.eid en.pid) cs) := by
  rw [foldl_actStep] at hok ⊢
  exact factSteps_cinv_frame hc h0 hen _ hok

theorem COutcome.cinv {cs cs' : CSys} {op : COp} (h : COutcome cs op cs') (hc : CInv cs) (h0 : cs.sys.err = none)
    (hok : cs'.sys.err = none) : CInv cs' := by
  cases h with
  | illegal | moveAssignFail | destroyFail => exact absurd hok (cfail_err _)
  | newAlloc cls cb hf => exact newAlloc_cinv hc h0 _ cls cb hf
  | newFrom hs hf => exact newFrom_cinv hc h0 _ hs hf cs.own (fun b _ => Or.inl rfl) hok
  | mutate hen acts => exact (actSteps_cinv_frame hc h0 hen acts hok).1
  | copyAssign hde _ acts => exact (actSteps_cinv_frame hc h0 hde acts hok).1
  | copyConstruct _ hf cls cb acts =>
    exact (actSteps_cinv_frame (newAlloc_cinv hc h0 _ cls cb hf) (by rw [step_of_err_none h0]; exact h0)
      List.mem_cons_self acts hok).1
  | @moveConstruct d ce hce hf =>
    refine newFrom_cinv hc h0 d hce hf _ (fun b _ => ?_) hok
    by_cases hoc : cs.own b.id = ce.eid
    · exact Or.inr ⟨if_pos hoc, ce, hce, hoc.symm, rfl⟩
    · exact Or.inl (if_neg hoc)
  | @moveAssign de ce hde hce hne acts h1 hnone =>
    have hents := actSteps_ents de.eid de.pid cs acts
    have := moveAssign_cinv (actSteps_cinv_frame hc h0 hde acts h1).1 h1 (by rw [hents]; exact hde)
      (by rw [hents]; exact hce) hnone hok
    rwa [hents] at this
  | swap => exact swap_cinv hc _ _
  | splice hde hce hp ids => exact splice_cinv hc hde hce hp ids
  | @destroy en hen acts h1 hnone =>
    have hents := actSteps_ents en.eid en.pid cs acts
    have := destroy_cinv (actSteps_cinv_frame hc h0 hen acts h1).1 h1 (by rw [hents]; exact hen) hnone hok
    rwa [hents] at this

theorem cstep_cinv {cs : CSys} (hc : CInv cs) (op : COp) (hok : (cstep cs op).sys.err = none) :
    CInv (cstep cs op) := by
  cases h0 : cs.sys.err with
  | none => exact (cstep_outcome h0 op).cinv hc h0 hok
  | some e => rw [cstep_of_err h0]; exact hc

theorem ent_pool_live {cs : CSys} (hc : CInv cs) {en : Ent} (hen : en ∈ cs.ents) :
    ∃ st, livePool cs.sys en.pid = some st := by
  obtain ⟨st, hst⟩ := hc.entPool en hen
  have hpos : 0 < st.refs :=
    hc.refs _ st hst ▸ List.countP_pos_iff.mpr ⟨en, hen, beq_self_eq_true _⟩
  refine ⟨st, livePool_eq_some.mpr ⟨hst, ?_⟩⟩
  cases hd : st.dead with
  | false => rfl
  | true => exact absurd ((hc.inv.refs _ st hst).mp hd) (Nat.ne_of_gt hpos)

theorem two_ents_refs {cs : CSys} (hc : CInv cs) {x y : Ent} (hx : x ∈ cs.ents) (hy : y ∈ cs.ents) (hne : x.eid ≠ y.eid)
    (hp : x.pid = y.pid) {st : PoolSt} (hst : cs.sys.pools[y.pid]? = some st) : 2 ≤ st.refs := by
  have hpos : 0 < (cs.ents.filter (fun z => z.eid != y.eid)).countP (fun z => z.pid == y.pid) :=
    List.countP_pos_iff.mpr ⟨x, List.mem_filter.mpr ⟨hx, bne_iff_ne.mpr hne⟩, beq_iff_eq.mpr hp⟩
  rw [hc.refs _ st hst, ← ListFacts.countP_filter_key (·.eid) hc.nodupE hy (fun z => z.pid == y.pid),
    if_pos (beq_self_eq_true y.pid)]
  exact Nat.succ_le_succ hpos

theorem owner_free_succeeds {cs : CSys} (hc : CInv cs) (h0 : cs.sys.err = none) (hrs : cs.sys.rawSingle = false)
    {en : Ent} (hen : en ∈ cs.ents) {b : Block} (hb : b ∈ cs.sys.blocks) (ho : cs.own b.id = en.eid) (frees : List Nat) :
    (actStep en.eid en.pid cs (.free b.id frees)).sys.err = none := by
  obtain ⟨x, hx, hx1, hx2⟩ := hc.owned b hb
  have hbp : b.pid = en.pid := by rw [← hx2, ListFacts.key_inj (·.eid) hc.nodupE hx hen (hx1.trans ho)]
  obtain ⟨st, hl⟩ := ent_pool_live hc hen
  have hr := dealloc_route hc.inv h0 hl hb hbp frees
  simp only [actStep, find_id_of_mem hc.inv.nodup hb, ho, if_true]
  by_cases hpath : b.n = 1 ∧ b.cls = st.params
  · refine ((hr.1 hpath).2 fun hq => ?_).1
    exact hc.inv.rawN hrs b hb hq hpath.1
  · cases hq : b.prov with
    | raw => exact ((hr.2 hpath).2 hq).1
    | pool q => exact absurd (hc.inv.pool_path hl hb hbp hq) hpath

/-- when `en` is the last owner the pool has no live block, so `GetAllocateCount() == 0` by the invariant and `~MemPool`'s check
    passes -/
theorem drop_succeeds {cs : CSys} (hc : CInv cs) (h0 : cs.sys.err = none) {en : Ent} (hen : en ∈ cs.ents)
    (hnone : ownsNone cs en.eid = true) : (step cs.sys (.adrop en.pid)).err = none := by
  obtain ⟨st, hl⟩ := ent_pool_live hc hen
  obtain ⟨hst, _⟩ := livePool_eq_some.mp hl
  rw [step_of_err_none h0]
  simp only [doDrop, hl]
  by_cases h2 : 2 ≤ st.refs
  · rw [if_pos h2]; exact h0
  · rw [if_neg h2]
    have hno := ownsNone_iff.mp hnone
    have hnb : ∀ b ∈ cs.sys.blocks, b.pid ≠ en.pid := by
      intro b hb hbp
      obtain ⟨x, hx, hx1, hx2⟩ := hc.owned b hb
      exact h2 (two_ents_refs hc hx hen (hx1 ▸ hno b hb) (hx2.trans hbp) hst)
    have hany : ¬ ((cs.sys.blocks.any fun b => b.pid == en.pid) = true) := fun h => by
      obtain ⟨b, hb, hbp⟩ := List.any_eq_true.mp h
      exact hnb b hb (beq_iff_eq.mp hbp)
    rw [if_neg hany]
    have hcnt : ¬ (st.allocCount ≠ 0) := fun h => h (hc.inv.idle hl hnb)
    rw [if_neg hcnt]; exact h0

/-- a pool no entity points to any more has returned everything and is `dead` (`~MemPool` has run) -/
theorem last_owner_returns_all {cs : CSys} (hc : CInv cs) (p : Nat) (hlast : ∀ e ∈ cs.ents, e.pid ≠ p) :
    (∀ x ∈ cs.sys.base, x.pid ≠ p) ∧ (∀ st, cs.sys.pools[p]? = some st → st.dead = true ∧ st.refs = 0) ∧
    (∀ b ∈ cs.sys.blocks, b.pid ≠ p) := by
  have hdead : ∀ st, cs.sys.pools[p]? = some st → st.dead = true ∧ st.refs = 0 := fun st hst =>
    have hr : st.refs = 0 :=
      (hc.refs p st hst).trans (List.countP_eq_zero.mpr fun e he h => hlast e he (beq_iff_eq.mp h))
    ⟨(hc.inv.refs p st hst).mpr hr, hr⟩
  refine ⟨fun x hx hxp => ?_, hdead, fun b hb hbp => ?_⟩
  · by_cases hk : x.kind = .raw
    · obtain ⟨b, hb, _, hbp, _⟩ := hc.inv.rawBase x hx hk
      obtain ⟨e, he, _, hep⟩ := hc.owned b hb
      exact hlast e he (hep.trans (hbp.trans hxp))
    · obtain ⟨st, hst, hd⟩ := hc.inv.ownBase x hx hk
      exact Bool.false_ne_true (hd.symm.trans (hdead st (hxp ▸ hst)).1)
  · obtain ⟨e, he, _, hep⟩ := hc.owned b hb
    exact hlast e he (hep.trans hbp)

theorem all_destroyed_ledger_empty {cs : CSys} (hc : CInv cs) (hnone : cs.ents = []) :
    cs.sys.base = [] ∧ cs.sys.blocks = [] := by
  have h := fun p => last_owner_returns_all hc p (by rw [hnone]; nofun)
  exact ⟨List.eq_nil_iff_forall_not_mem.mpr fun x hx => (h x.pid).1 x hx rfl,
    List.eq_nil_iff_forall_not_mem.mpr fun x hx => (h x.pid).2.2 x hx rfl⟩

theorem swap_any_pools_succeeds {cs : CSys} (hc : CInv cs) (h0 : cs.sys.err = none) {de ce : Ent} (hde : de ∈ cs.ents)
    (hce : ce ∈ cs.ents) : (cstep cs (.swap de.eid ce.eid)).sys.err = none := by
  have he : ¬ cs.sys.err.isSome = true := by simp [h0]
  have hp : ¬ ((!pocs) = true) := by decide
  unfold cstep
  rw [if_neg he]
  simp only [findEnt_of_mem hc.nodupE hde, findEnt_of_mem hc.nodupE hce, if_neg hp]
  exact h0

theorem moveAssign_any_pools_succeeds {cs : CSys} (hc : CInv cs) (h0 : cs.sys.err = none) {de ce : Ent} (hde : de ∈ cs.ents)
    (hce : ce ∈ cs.ents) (hne : de.eid ≠ ce.eid) (hnone : ownsNone cs de.eid = true) :
    (cstep cs (.moveAssign de.eid ce.eid [])).sys.err = none := by
  have he : ¬ cs.sys.err.isSome = true := by simp [h0]
  have hdc : ¬ (de.eid = ce.eid ∨ (!pocma) = true) := by
    rintro (h | h)
    · exact hne h
    · revert h; decide
  unfold cstep
  rw [if_neg he]
  simp only [findEnt_of_mem hc.nodupE hde, findEnt_of_mem hc.nodupE hce, if_neg hdc, List.foldl_nil, if_neg he, hnone,
    Bool.not_true, Bool.false_eq_true, if_false]
  -- the allocator object of `d` is copy-assigned: think of the copy as a fresh entity `e'`, then `d` drops its old pool
  obtain ⟨stc, hlc⟩ := ent_pool_live hc hce
  have hcopy : (step cs.sys (.acopy ce.pid)).err = none := by
    rw [step_of_err_none h0]; simp only [doCopy, hlc]; exact h0
  let e' := (cs.ents.map (·.eid)).sum + 1
  have hfresh : ∀ x ∈ cs.ents, x.eid ≠ e' :=
    fun x hx h => Nat.not_succ_le_self _ (h ▸ ListFacts.le_sum_map_of_mem Ent.eid hx)
  have hc1 := newFrom_cinv hc h0 e' hce hfresh cs.own (fun b _ => Or.inl rfl) hcopy
  have hnone1 : ownsNone { sys := step cs.sys (.acopy ce.pid), ents := ⟨e', ce.pid⟩ :: cs.ents, own := cs.own } de.eid = true := by
    simp only [ownsNone, step_acopy_blocks]; exact hnone
  exact drop_succeeds hc1 hcopy (en := de) (List.mem_cons_of_mem _ hde) hnone1

theorem splice_spec {cs : CSys} (hc : CInv cs) (h0 : cs.sys.err = none) (hrs : cs.sys.rawSingle = false) {de ce : Ent}
    (hde : de ∈ cs.ents) (hce : ce ∈ cs.ents) (hp : de.pid = ce.pid) (ids : List Nat) :
    (cstep cs (.splice de.eid ce.eid ids)).sys = cs.sys ∧
    (cstep cs (.splice de.eid ce.eid ids)).ents = cs.ents ∧
    (∀ b ∈ cs.sys.blocks, b.id ∈ ids → cs.own b.id = ce.eid →
      (cstep cs (.splice de.eid ce.eid ids)).own b.id = de.eid ∧
      ∀ frees, (actStep de.eid de.pid (cstep cs (.splice de.eid ce.eid ids)) (.free b.id frees)).sys.err = none) ∧
    (∀ i, ¬ (i ∈ ids ∧ cs.own i = ce.eid) → (cstep cs (.splice de.eid ce.eid ids)).own i = cs.own i) := by
  have he : ¬ cs.sys.err.isSome = true := by simp [h0]
  have hpp : ¬ (de.pid ≠ ce.pid) := fun h => h hp
  have heq : cstep cs (.splice de.eid ce.eid ids) =
      { cs with own := fun i => if ids.contains i && cs.own i == ce.eid then de.eid else cs.own i } := by
    unfold cstep
    rw [if_neg he]
    simp only [findEnt_of_mem hc.nodupE hde, findEnt_of_mem hc.nodupE hce, if_neg hpp]
  have hc' := splice_cinv hc hde hce hp ids
  rw [heq]
  refine ⟨rfl, rfl, ?_, ?_⟩
  · intro b hb hin ho
    have hown : (if ids.contains b.id && cs.own b.id == ce.eid then de.eid else cs.own b.id) = de.eid := by
      have : (ids.contains b.id && cs.own b.id == ce.eid) = true := by simp [hin, ho]
      rw [if_pos this]
    refine ⟨hown, fun frees => ?_⟩
    exact owner_free_succeeds hc' h0 hrs (en := de) hde hb hown frees
  · intro i hi
    have : ¬ ((ids.contains i && cs.own i == ce.eid) = true) := by
      intro h
      simp only [Bool.and_eq_true, List.contains_iff_mem, beq_iff_eq] at h
      exact hi h
    simp only [if_neg this]

end Momo.PoolAlloc
