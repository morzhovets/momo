import Momo.Model.Arr
/-!
  C05: the loops of `ArrayShifter` as equations on an array that is split where the loop works,
  e.g. `loop1 keeps (p ++ m ++ q) |p| |m| = p ++ m.map (afterMove keeps) ++ q ++ m`; value arguments that stay readable while
  `InsertNogrow` shifts (`AgreeBelow`, `Good`, `GoodAll`). Core Lean only.
-/
namespace Momo.Arr
variable {α : Type}

theorem cellAt_eq (a : Cells α) (k : Nat) : cellAt a k = (a[k]?).getD .moved := by
  simp [cellAt, List.getD_eq_getElem?_getD]
theorem cellAt_set_eq (a : Cells α) (i : Nat) (c : Cell α) (h : i < a.length) : cellAt (a.set i c) i = c := by
  simp [cellAt_eq, h]
theorem cellAt_append_left (a b : Cells α) (k : Nat) (h : k < a.length) : cellAt (a ++ b) k = cellAt a k := by
  simp [cellAt_eq, List.getElem?_append_left h]
theorem cellAt_cons_zero (c : Cell α) (a : Cells α) : cellAt (c :: a) 0 = c := by simp [cellAt_eq]
theorem cellAt_cons_succ (c : Cell α) (a : Cells α) (k : Nat) : cellAt (c :: a) (k+1) = cellAt a k := by
  simp [cellAt_eq]

theorem cellAt_map_live (xs : List α) (k : Nat) (h : k < xs.length) :
    cellAt (xs.map Cell.live) k = .live xs[k] := by
  simp [cellAt_eq, h]

theorem addBackMove_length (keeps : Bool) (a : Cells α) (i : Nat) :
    (addBackMove keeps a i).length = a.length + 1 := by simp [addBackMove]

theorem assignMove_length (keeps : Bool) (a : Cells α) (s d : Nat) :
    (assignMove keeps a s d).length = a.length := by
  unfold assignMove; split <;> simp

theorem taken_length (keeps mv : Bool) (a : Cells α) (r : Ref α) : (r.taken keeps mv a).length = a.length := by
  unfold Ref.taken Ref.moveFrom
  split
  · cases r <;> simp
  · rfl

theorem moveFrom_length (keeps : Bool) (a : Cells α) (r : Ref α) : (r.moveFrom keeps a).length = a.length := by
  unfold Ref.moveFrom
  cases r <;> simp

theorem addBackFrom_length (keeps mv : Bool) (a : Cells α) (r : Ref α) : (addBackFrom keeps mv a r).length = a.length + 1 := by
  unfold addBackFrom
  split
  · cases r <;> simp [addBackMove_length]
  · simp

theorem assignFrom_length (keeps mv : Bool) (a : Cells α) (r : Ref α) (i : Nat) : (assignFrom keeps mv a r i).length = a.length := by
  unfold assignFrom
  split
  · cases r <;> simp [assignMove_length]
  · simp

theorem cellAt_assignMove_src (keeps : Bool) (a : Cells α) (s d : Nat) (hs : s < a.length) (hne : s ≠ d) :
    cellAt (assignMove keeps a s d) s = afterMove keeps (cellAt a s) := by
  unfold assignMove; rw [if_neg hne, cellAt_set_eq]; simp [hs]

theorem exists_split {β : Type} (a : List β) {n : Nat} (h : n ≤ a.length) : ∃ p r, a = p ++ r ∧ p.length = n :=
  ⟨a.take n, a.drop n, (List.take_append_drop n a).symm, List.length_take_of_le h⟩

theorem exists_split_right {β : Type} (a : List β) {n : Nat} (h : n ≤ a.length) : ∃ m t, a = m ++ t ∧ t.length = n :=
  ⟨a.take (a.length - n), a.drop (a.length - n), (List.take_append_drop _ a).symm, by rw [List.length_drop]; omega⟩

theorem exists_concat {β : Type} (l : List β) (h : 0 < l.length) : ∃ l' x, l = l' ++ [x] :=
  ⟨l.dropLast, l.getLast (List.ne_nil_of_length_pos h), (List.dropLast_concat_getLast _).symm⟩

/-! Positions are passed as equations (`i = p.length`): a caller settles its index arithmetic there instead of
matching the list equation syntactically. -/

theorem cellAt_mid (p q : Cells α) (x : Cell α) {i : Nat} (h : i = p.length) : cellAt (p ++ x :: q) i = x := by
  simp [cellAt_eq, h]
theorem set_mid (p q : Cells α) (x y : Cell α) {i : Nat} (h : i = p.length) : (p ++ x :: q).set i y = p ++ y :: q := by
  simp [h]

theorem addBackMove_mid (keeps : Bool) (p q : Cells α) (x : Cell α) {i : Nat} (h : i = p.length) :
    addBackMove keeps (p ++ x :: q) i = p ++ afterMove keeps x :: (q ++ [x]) := by
  unfold addBackMove
  rw [cellAt_mid p q x h, List.append_assoc, List.cons_append, set_mid _ _ _ _ h]

theorem mid_assoc (p g q : Cells α) (x y : Cell α) : p ++ x :: (g ++ y :: q) = (p ++ x :: g) ++ y :: q := by
  rw [List.append_assoc, List.cons_append]
theorem mid_length (p g : Cells α) (x : Cell α) : (p ++ x :: g).length = p.length + g.length + 1 := by
  rw [List.length_append, List.length_cons, Nat.add_assoc]

theorem assignMove_up (keeps : Bool) (p g q : Cells α) (x y : Cell α) {s d : Nat} (hs : s = p.length)
    (hd : d = p.length + g.length + 1) :
    assignMove keeps (p ++ x :: (g ++ y :: q)) s d = p ++ afterMove keeps x :: (g ++ x :: q) := by
  rw [← mid_length p g x] at hd
  unfold assignMove
  rw [if_neg (by rw [hs, hd, mid_length]; omega), cellAt_mid p _ x hs, mid_assoc, set_mid _ _ _ _ hd, ← mid_assoc,
    set_mid _ _ _ _ hs]

theorem assignMove_down (keeps : Bool) (p g q : Cells α) (x y : Cell α) {s d : Nat} (hd : d = p.length)
    (hs : s = p.length + g.length + 1) :
    assignMove keeps (p ++ y :: (g ++ x :: q)) s d = p ++ x :: (g ++ afterMove keeps x :: q) := by
  have hs' : ∀ z, s = (p ++ z :: g).length := fun z => by rw [mid_length, hs]
  unfold assignMove
  rw [if_neg (by omega), mid_assoc, cellAt_mid _ _ x (hs' y), ← mid_assoc, set_mid _ _ _ _ hd, mid_assoc,
    set_mid _ _ _ _ (hs' x), ← mid_assoc]

theorem loop1_split (keeps : Bool) : ∀ (m p q : Cells α) {i : Nat}, i = p.length →
    loop1 keeps (p ++ (m ++ q)) i m.length = p ++ (m.map (afterMove keeps) ++ (q ++ m))
  | [], p, q, _, _ => by simp [loop1]
  | x :: m, p, q, i, hi => by
    have ih := loop1_split keeps m (p ++ [afterMove keeps x]) (q ++ [x]) (i := i + 1) (by simp [hi])
    simp only [List.append_assoc, List.cons_append, List.nil_append] at ih
    simp only [loop1, List.length_cons, List.cons_append, List.append_assoc, addBackMove_mid keeps p _ x hi, ih,
      List.map_cons]

/-- the block `m` moves up over the gap `g`; `junk` stands for the `|g|` cells left where `m` began (overwritten or moved-from:
    nothing is claimed of them but their number). The same letters in `loop12_split`, `loopRem_split`, `loopFilt_split`. -/
theorem loop2_split (keeps : Bool) (m p g q : Cells α) {i : Nat} (hg : 0 < g.length) (hi : i = p.length + m.length) :
    ∃ junk, junk.length = g.length ∧
      loop2 keeps (p ++ (m ++ (g ++ q))) g.length i m.length = p ++ (junk ++ (m ++ q)) := by
  -- the loop takes `m` apart at its end: induction over the length
  generalize hm : m.length = f at hi ⊢
  induction f generalizing m g q i with
  | zero =>
    cases List.eq_nil_of_length_eq_zero hm
    exact ⟨g, rfl, rfl⟩
  | succ f ih =>
    obtain ⟨m, x, rfl⟩ := exists_concat m (hm ▸ Nat.succ_pos f)
    obtain ⟨g, y, rfl⟩ := exists_concat g hg
    have hm' : m.length = f := by simpa using hm
    obtain ⟨junk, hj, ih⟩ := ih m (afterMove keeps x :: g) (x :: q) (i := i - 1) (Nat.succ_pos _) hm' (by rw [hi]; rfl)
    refine ⟨junk, by simpa using hj, ?_⟩
    have e : p ++ (m ++ [x] ++ (g ++ [y] ++ q)) = (p ++ m) ++ x :: (g ++ y :: q) := by simp
    rw [loop2, e, assignMove_up keeps (p ++ m) g q x y (by rw [hi, List.length_append, hm']; rfl)
      (by rw [hi, List.length_append, List.length_append, hm']; simp +arith)]
    simpa using ih

/-- all that is known of the array while `InsertNogrow` is shifting the cells from `index` on -/
def AgreeBelow (index : Nat) (a b : Cells α) : Prop := ∀ k, k < index → cellAt b k = cellAt a k

theorem AgreeBelow.tail {index : Nat} {a p x : Cells α} (h : AgreeBelow index a (p ++ x)) (hi : index ≤ p.length)
    (y : Cells α) : AgreeBelow index a (p ++ y) := by
  intro k hk
  rw [cellAt_append_left _ _ _ (by omega), ← h k hk, cellAt_append_left _ _ _ (by omega)]

/-- a value argument whose reading does not depend on the moment `InsertNogrow` dereferences it: in every array that
    agrees with `a` below `index` it reads `v`; and if it is moved from (`mv`, a `std::move_iterator`) it is not an
    element of the array, so that the move changes no cell -/
def Good (mv : Bool) (index : Nat) (a : Cells α) (r : Ref α) (v : Cell α) : Prop :=
  (∀ b, AgreeBelow index a b → r.read b = v) ∧ (mv = true → ∃ c, r = .ext c)

inductive GoodAll (mv : Bool) (index : Nat) (a : Cells α) : List (Ref α) → Cells α → Prop
  | nil : GoodAll mv index a [] []
  | cons {r v rs vs} : Good mv index a r v → GoodAll mv index a rs vs → GoodAll mv index a (r :: rs) (v :: vs)

theorem GoodAll.length_eq {mv : Bool} {index : Nat} {a : Cells α} {rs : List (Ref α)} {vs : Cells α}
    (h : GoodAll mv index a rs vs) : rs.length = vs.length := by
  induction h with
  | nil => rfl
  | cons _ _ ih => rw [List.length_cons, List.length_cons, ih]

theorem GoodAll.drop {mv : Bool} {index : Nat} {a : Cells α} {rs : List (Ref α)} {vs : Cells α}
    (h : GoodAll mv index a rs vs) : ∀ d, GoodAll mv index a (rs.drop d) (vs.drop d) := by
  induction h with
  | nil => intro d; simpa using GoodAll.nil
  | cons h hs ih => intro d; cases d with
    | zero => exact .cons h hs
    | succ d => exact ih d

theorem good_ext (mv : Bool) (index : Nat) (a : Cells α) (c : Cell α) : Good mv index a (.ext c) c :=
  ⟨fun _ _ => rfl, fun _ => ⟨_, rfl⟩⟩

theorem good_elem (index : Nat) (a : Cells α) (j : Nat) (hj : j < index) :
    Good false index a (.elem j) (cellAt a j) := by
  refine ⟨?_, fun h => by simp at h⟩
  intro b hb
  simp only [Ref.read]
  rw [hb j hj]

theorem goodAll_replicate (mv : Bool) (index : Nat) (a : Cells α) (r : Ref α) (v : Cell α) (h : Good mv index a r v) :
    ∀ c, GoodAll mv index a (List.replicate c r) (List.replicate c v)
  | 0 => .nil
  | c+1 => .cons h (goodAll_replicate mv index a r v h c)

theorem goodAll_ext (mv : Bool) (index : Nat) (a : Cells α) : ∀ vs : Cells α,
    GoodAll mv index a (vs.map Ref.ext) vs
  | [] => .nil
  | v :: vs => .cons (good_ext mv index a v) (goodAll_ext mv index a vs)

theorem assignFrom_good (keeps mv : Bool) (index : Nat) (a b : Cells α) (r : Ref α) (v : Cell α) (i : Nat)
    (hg : Good mv index a r v) (hb : AgreeBelow index a b) :
    assignFrom keeps mv b r i = b.set i v := by
  unfold assignFrom
  cases mv with
  | false => rw [if_neg Bool.false_ne_true, hg.1 b hb]
  | true => obtain ⟨c, rfl⟩ := hg.2 rfl; rw [if_pos rfl, ← hg.1 b hb]; rfl

theorem addBackFrom_good (keeps mv : Bool) (index : Nat) (a b : Cells α) (r : Ref α) (v : Cell α)
    (hg : Good mv index a r v) (hb : AgreeBelow index a b) :
    addBackFrom keeps mv b r = b ++ [v] := by
  unfold addBackFrom
  cases mv with
  | false => rw [if_neg Bool.false_ne_true, hg.1 b hb]
  | true => obtain ⟨c, rfl⟩ := hg.2 rfl; rw [if_pos rfl, ← hg.1 b hb]; rfl

theorem loop3R_split (keeps : Bool) {mv : Bool} {index : Nat} {a : Cells α} {rs : List (Ref α)} {vs : Cells α}
    (hg : GoodAll mv index a rs vs) : ∀ (j p q : Cells α) {i : Nat}, j.length = rs.length → i = p.length →
      index ≤ i → AgreeBelow index a (p ++ (j ++ q)) → loop3R keeps mv rs (p ++ (j ++ q)) i = p ++ (vs ++ q) := by
  induction hg with
  | nil => intro j p q i hj _ _ _; cases List.eq_nil_of_length_eq_zero hj; rfl
  | @cons r v rs vs h _ ih =>
    intro j p q i hj hi hle hb
    match j, hj with
    | y :: j, hj =>
      have := ih j (p ++ [v]) q (i := i + 1) (by simpa using hj) (by simp [hi]) (by omega)
        (by rw [List.append_assoc]; exact hb.tail (hi ▸ hle) _)
      rw [loop3R, assignFrom_good keeps mv index a _ r v i h hb, List.cons_append, set_mid _ _ _ _ hi]
      simpa using this

theorem loopAR_spec (keeps : Bool) {mv : Bool} {index : Nat} {a : Cells α} {rs : List (Ref α)} {vs : Cells α}
    (hg : GoodAll mv index a rs vs) : ∀ (b : Cells α), AgreeBelow index a b → index ≤ b.length →
      loopAR keeps mv rs b = b ++ vs := by
  induction hg with
  | nil => intro b _ _; simp [loopAR]
  | @cons r v rs vs h _ ih =>
    intro b hb hi
    rw [loopAR, addBackFrom_good keeps mv index a b r v h hb,
      ih _ (AgreeBelow.tail (p := b) (x := []) (by rwa [List.append_nil]) hi _) (by simp; omega)]
    simp

theorem loopBR_split (keeps : Bool) {mv : Bool} {index : Nat} {a : Cells α} {rs : List (Ref α)} {vs : Cells α}
    (hg : GoodAll mv index a rs vs) : ∀ (m p q : Cells α) {i : Nat}, m.length ≤ rs.length → i = p.length →
      index ≤ i → AgreeBelow index a (p ++ (m ++ q)) →
      loopBR keeps mv m.length rs (p ++ (m ++ q)) i = p ++ (vs.take m.length ++ (q ++ m)) := by
  induction hg with
  | nil => intro m p q i hm _ _ _; cases List.eq_nil_of_length_eq_zero (Nat.le_zero.1 hm); simp [loopBR]
  | @cons r v rs vs h _ ih =>
    intro m p q i hm hi hle hb
    match m with
    | [] => simp [loopBR]
    | x :: m =>
      have hb' := hb.tail (hi ▸ hle) (afterMove keeps x :: (m ++ q ++ [x]))
      have := ih m (p ++ [v]) (q ++ [x]) (i := i + 1) (by simpa using hm) (by simp [hi]) (by omega)
        (by rw [List.append_assoc]; exact hb.tail (hi ▸ hle) _)
      rw [List.length_cons, loopBR, List.cons_append, addBackMove_mid keeps p _ x hi,
        assignFrom_good keeps mv index a _ r v i h hb', set_mid _ _ _ _ hi]
      simpa using this

end Momo.Arr

