import Momo.Proof.StdWOrdOps
import Momo.Proof.BTreeOps
/-!
  The native contract of TreeSet / TreeMap that the wrapper model of C06 uses (`lb`, `ub`, `treeInsert`, `insertAt`) is
  the reference semantics `Momo.BTree.lowerIdx / upperIdx / Spec.insert1` that C02 proves the B-tree refines, instantiated
  with the order "compare the keys" on (key, tag) items.
-/
namespace Momo.StdW
open Momo.StdWrap List
open Momo.StdSpec hiding Item

def keyLt (a b : Item) : Bool := a.1 < b.1

theorem keyLt_order : Momo.BTree.Order keyLt :=
  ⟨fun a b h => by simp only [keyLt, decide_eq_true_eq, decide_eq_false_iff_not] at h ⊢; omega,
   fun a b c h1 h2 => by simp only [keyLt, decide_eq_false_iff_not] at h1 h2 ⊢; omega⟩

theorem lb_eq_lowerIdx (xs : List Item) (x : Item) : lb x.1 xs = Momo.BTree.lowerIdx keyLt xs x := by
  unfold Momo.BTree.lowerIdx
  induction xs with
  | nil => simp [lb]
  | cons e t ih =>
    by_cases h : e.1 < x.1
    · simp [lb, keyLt, h]; simpa [keyLt] using ih
    · simp [lb, keyLt, h]

theorem ub_eq_upperIdx (xs : List Item) (x : Item) : ub x.1 xs = Momo.BTree.upperIdx keyLt xs x := by
  unfold Momo.BTree.upperIdx
  induction xs with
  | nil => simp [ub]
  | cons e t ih =>
    by_cases h : x.1 < e.1
    · simp [ub, keyLt, h]
    · simp [ub, keyLt, h]; simpa [keyLt] using ih

theorem insertAt_eq_insertIdx (xs : List Item) (i : Nat) (x : Item) (h : i ≤ xs.length) : insertAt xs i x = xs.insertIdx i x := by
  unfold insertAt
  induction xs generalizing i with
  | nil =>
    have : i = 0 := by simpa using h
    subst this; simp
  | cons e t ih =>
    cases i with
    | zero => simp
    | succ j =>
      simp only [take_succ_cons, drop_succ_cons, cons_append, insertIdx_succ_cons]
      rw [ih j (by simpa using h)]

theorem sortedK_iff_sortedBy (multi : Bool) (xs : List Item) : SortedK multi xs ↔ Momo.BTree.SortedBy keyLt multi xs := by
  unfold SortedK Momo.BTree.SortedBy Sorted StrictSorted
  cases multi with
  | true =>
    simp only [if_true, keyLt, decide_eq_false_iff_not, Nat.not_lt]
  | false =>
    simp only [Bool.false_eq_true, if_false, keyLt, decide_eq_true_eq]

theorem treeInsert_eq_insert1 (multi : Bool) (xs : List Item) (hs : SortedK multi xs) (x : Item) :
    (treeInsert multi xs x).1 = Momo.BTree.Spec.insert1 keyLt multi xs x := by
  rw [treeInsert_eq multi xs hs x]
  unfold sInsert Momo.BTree.Spec.insert1
  have hany : xs.any (fun y => Momo.BTree.equiv keyLt y x) = hasKey x.1 xs := by
    unfold hasKey Momo.BTree.equiv keyLt
    congr 1; funext y
    rw [Bool.eq_iff_iff]; simp; omega
  rw [hany, upperPos_eq, putAt_eq, ← ub_eq_upperIdx]
  cases multi <;> cases hk : hasKey x.1 xs <;> simp [insertAt_eq_insertIdx xs _ x (ub_le_length x.1 xs)]

end Momo.StdW
