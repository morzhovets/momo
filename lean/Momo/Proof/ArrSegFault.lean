import Momo.Model.ArrSegFault
import Momo.Proof.ArrFaultMain
import Momo.Proof.ArrSegLayout
/-!
  C04 / C10, SegmentedArray under faults, the layer below the operations: the outcome predicate `SPost` for `SFM`, the transfer of the
  `Array`-level specifications to the nested pointer array (`onSegs_spec`) and to the item sequence (`onItems_spec`), and capacity management
  (`pvIncCapacity / pvDecCapacity / Reserve`) under the invariant `SegsOK` of `mSegments` and the segments, with `SameSegs` after an exception.
  The rules of `SPost` are named like those of `Post` (`ArrFault.lean`); a primitive `X` has the equations `spost_X` and `spost_X_bind`.
  `SPost` has no counterpart of `PostF`: that an operation of `SegmentedArray` completes when the schedule is exhausted is not stated.
-/
namespace Momo.ArrF.Seg
open Momo Momo.Arr Momo.Arr.Seg Momo.ArrF
open SFM (throw tryCatch)
variable {α β γ : Type}

def SPost (m : SFM α β) (x : SSys α) (Q : β → SSys α → Prop) (E : SSys α → Prop) : Prop :=
  match m.run x with
  | (.ok b, y) => Q b y
  | (.threw, y) => E y

theorem SPost.bind' {m : SFM α β} {f : β → SFM α γ} {x : SSys α} {Q : γ → SSys α → Prop} {E : SSys α → Prop}
    (Q' : β → SSys α → Prop) (E' : SSys α → Prop) (h1 : SPost m x Q' E') (hE : ∀ y, E' y → E y)
    (h2 : ∀ b y, Q' b y → SPost (f b) y Q E) : SPost (m >>= f) x Q E := by
  show SPost (SFM.bind m f) x Q E
  unfold SPost SFM.bind at *
  dsimp only
  generalize m.run x = r at *
  obtain ⟨r, y⟩ := r
  cases r
  · exact h2 _ _ h1
  · exact hE _ h1

theorem SPost.tryCatch {m h : SFM α β} {x : SSys α} {Q : β → SSys α → Prop} {E : SSys α → Prop}
    (E' : SSys α → Prop) (h1 : SPost m x Q E') (h2 : ∀ y, E' y → SPost h y Q E) :
    SPost (tryCatch m h) x Q E := by
  unfold SPost SFM.tryCatch at *
  dsimp only
  generalize m.run x = r at *
  obtain ⟨r, y⟩ := r
  cases r
  · exact h1
  · exact h2 _ h1

theorem SPost.mono {m : SFM α β} {x : SSys α} {Q Q' : β → SSys α → Prop} {E E' : SSys α → Prop}
    (h : SPost m x Q E) (hQ : ∀ b y, Q b y → Q' b y) (hE : ∀ y, E y → E' y) : SPost m x Q' E' := by
  unfold SPost at *
  generalize m.run x = r at *
  obtain ⟨r, y⟩ := r
  cases r
  · exact hQ _ _ h
  · exact hE _ h

theorem SPost.ite {c : Prop} [Decidable c] {t e : SFM α β} {x : SSys α} {Q : β → SSys α → Prop} {E : SSys α → Prop}
    (ht : c → SPost t x Q E) (he : ¬c → SPost e x Q E) : SPost (if c then t else e) x Q E := by
  split
  · exact ht ‹_›
  · exact he ‹_›

@[simp] theorem spost_pure (b : β) (x : SSys α) (Q : β → SSys α → Prop) (E : SSys α → Prop) :
    SPost (pure b : SFM α β) x Q E ↔ Q b x := Iff.rfl

@[simp] theorem spost_throw (x : SSys α) (Q : β → SSys α → Prop) (E : SSys α → Prop) :
    SPost (throw : SFM α β) x Q E ↔ E x := Iff.rfl

theorem spost_bind_ok {m : SFM α β} {f : β → SFM α γ} {x y : SSys α} {b : β} (h : m.run x = (.ok b, y))
    (Q : γ → SSys α → Prop) (E : SSys α → Prop) : SPost (m >>= f) x Q E ↔ SPost (f b) y Q E := by
  show SPost (SFM.bind m f) x Q E ↔ _
  unfold SPost SFM.bind
  simp only [h]

@[simp] theorem spost_bind_assoc {δ : Type} (m : SFM α β) (f : β → SFM α γ) (g : γ → SFM α δ) (x : SSys α)
    (Q : δ → SSys α → Prop) (E : SSys α → Prop) :
    SPost ((m >>= f) >>= g) x Q E ↔ SPost (m >>= fun b => f b >>= g) x Q E := by
  show SPost (SFM.bind (SFM.bind m f) g) x Q E ↔ SPost (SFM.bind m (fun b => SFM.bind (f b) g)) x Q E
  unfold SPost SFM.bind
  dsimp only
  generalize m.run x = r
  obtain ⟨r, y⟩ := r
  cases r <;> rfl

@[simp] theorem spost_pure_bind (b : β) (f : β → SFM α γ) (x : SSys α) (Q : γ → SSys α → Prop) (E : SSys α → Prop) :
    SPost (pure b >>= f) x Q E ↔ SPost (f b) x Q E := spost_bind_ok rfl Q E

@[simp] theorem spost_getS_bind (f : SSys α → SFM α γ) (x : SSys α) (Q : γ → SSys α → Prop) (E : SSys α → Prop) :
    SPost (getS >>= f) x Q E ↔ SPost (f x) x Q E := spost_bind_ok rfl Q E

@[simp] theorem spost_modifyCellsS_bind (g : Cells α → Cells α) (f : Unit → SFM α γ) (x : SSys α) (Q : γ → SSys α → Prop)
    (E : SSys α → Prop) :
    SPost (modifyCellsS g >>= f) x Q E ↔ SPost (f ()) { x with cells := g x.cells } Q E := spost_bind_ok rfl Q E

@[simp] theorem spost_modifyCellsS (g : Cells α → Cells α) (x : SSys α) (Q : Unit → SSys α → Prop) (E : SSys α → Prop) :
    SPost (modifyCellsS g) x Q E ↔ Q () { x with cells := g x.cells } := Iff.rfl

@[simp] theorem spost_setSegCells_bind (cs : Cells Nat) (f : Unit → SFM α γ) (x : SSys α) (Q : γ → SSys α → Prop)
    (E : SSys α → Prop) :
    SPost (setSegCells cs >>= f) x Q E ↔ SPost (f ()) { x with segs := { x.segs with cells := cs } } Q E :=
  spost_bind_ok rfl Q E

@[simp] theorem spost_setSegCells (cs : Cells Nat) (x : SSys α) (Q : Unit → SSys α → Prop) (E : SSys α → Prop) :
    SPost (setSegCells cs) x Q E ↔ Q () { x with segs := { x.segs with cells := cs } } := Iff.rfl

@[simp] theorem spost_destroyS_bind (k : Nat) (f : Unit → SFM α γ) (x : SSys α) (Q : γ → SSys α → Prop) (E : SSys α → Prop) :
    SPost (destroyS k >>= f) x Q E ↔
      SPost (f ()) { x with objs := x.objs - k, bad := x.bad || decide (x.objs < k) } Q E := spost_bind_ok rfl Q E

@[simp] theorem spost_destroyS (k : Nat) (x : SSys α) (Q : Unit → SSys α → Prop) (E : SSys α → Prop) :
    SPost (destroyS k) x Q E ↔ Q () { x with objs := x.objs - k, bad := x.bad || decide (x.objs < k) } := Iff.rfl

@[simp] theorem spost_deallocSeg_bind (n : Nat) (f : Unit → SFM α γ) (x : SSys α) (Q : γ → SSys α → Prop) (E : SSys α → Prop) :
    SPost (deallocSeg n >>= f) x Q E ↔
      SPost (f ()) { x with sblocks := x.sblocks.erase n, bad := x.bad || !x.sblocks.contains n,
                            evs := x.evs ++ [.did (.item (.dealloc n))] } Q E := spost_bind_ok rfl Q E

structure SCore (α : Type) where
  cells : Cells α
  segs : State Nat
  sblocks : List Nat
  pblocks : List Nat
  objs : Nat
  bad : Bool

def SSys.core (x : SSys α) : SCore α := ⟨x.cells, x.segs, x.sblocks, x.pblocks, x.objs, x.bad⟩

theorem score_eq_iff (x y : SSys α) : y.core = x.core ↔
    y.cells = x.cells ∧ y.segs = x.segs ∧ y.sblocks = x.sblocks ∧ y.pblocks = x.pblocks ∧ y.objs = x.objs ∧ y.bad = x.bad := by
  cases x; cases y; simp [SSys.core]

theorem constructS_spec (b : Bool) (x : SSys α) :
    SPost (constructS b) x
      (fun _ y => y.cells = x.cells ∧ y.segs = x.segs ∧ y.sblocks = x.sblocks ∧ y.pblocks = x.pblocks ∧
        y.objs = x.objs + 1 ∧ y.bad = x.bad)
      (fun y => y.core = x.core) := by
  unfold SPost constructS
  by_cases h : (b && (nextFault x.faults).1) = true <;> simp [h, SSys.core]

theorem allocSeg_spec (n : Nat) (x : SSys α) :
    SPost (allocSeg n) x
      (fun _ y => y.cells = x.cells ∧ y.segs = x.segs ∧ y.sblocks = n :: x.sblocks ∧ y.pblocks = x.pblocks ∧
        y.objs = x.objs ∧ y.bad = x.bad)
      (fun y => y.core = x.core) := by
  unfold SPost allocSeg
  by_cases h : (nextFault x.faults).1 = true <;> simp [h, SSys.core]

theorem ctorLoopS_spec (b : Bool) : ∀ (n done : Nat) (x : SSys α),
    SPost (ctorLoopS b n done) x
      (fun r y => done ≤ r.1 ∧ (r.2 = false → r.1 = done + n) ∧
        y.cells = x.cells ∧ y.segs = x.segs ∧ y.sblocks = x.sblocks ∧ y.pblocks = x.pblocks ∧
        y.objs = x.objs + (r.1 - done) ∧ y.bad = x.bad)
      (fun _ => False)
  | 0, done, x => by simp [ctorLoopS, SPost, SFM.pure]
  | n+1, done, x => by
    have hc := constructS_spec b x
    unfold SPost at hc ⊢
    unfold ctorLoopS
    dsimp only
    generalize (constructS b).run x = r at hc
    obtain ⟨_ | _, y⟩ := r
    · obtain ⟨c1, c2, c3, c4, c5, c6⟩ := hc
      refine SPost.mono (ctorLoopS_spec b n (done + 1) y) ?_ fun _ h => h
      rintro r z ⟨h1, h3, i1, i2, i3, i4, i5, i6⟩
      exact ⟨Nat.le_of_succ_le h1,
        fun h => (h3 h).trans (Nat.add_right_comm done 1 n), i1.trans c1, i2.trans c2, i3.trans c3, i4.trans c4,
        by omega, i6.trans c6⟩
    · obtain ⟨c1, c2, c3, c4, c5, c6⟩ := (score_eq_iff _ _).mp hc
      exact ⟨Nat.le_refl _, fun h => Bool.noConfusion h, c1, c2, c3, c4,
        c5.trans (by rw [Nat.sub_self]; rfl), c6⟩

/- from here on `SPost` is used through the lemmas above only: unfolding it would run the program -/
attribute [local irreducible] SPost

/-- the system the pointer array runs in -/
def SSys.segSys (x : SSys α) : Sys Nat :=
  { arr := x.segs, faults := x.faults, blocks := x.pblocks, objs := x.segs.cells.length, bad := x.bad }

/-- what `onSegs` writes back into `x` when the pointer array's operation ended in `y0` -/
def segsBack (x : SSys α) (y0 : Sys Nat) : SSys α :=
  { x with segs := y0.arr, faults := y0.faults, pblocks := y0.blocks, bad := y0.bad, evs := x.evs ++ y0.evs.map liftEv }

theorem onSegs_run (m : FM Nat β) (x : SSys α) :
    (onSegs m).run x = ((m.run x.segSys).1, segsBack x (m.run x.segSys).2) := rfl

theorem onSegs_spec {m : FM Nat β} (x : SSys α) {Q : β → Sys Nat → Prop} {E : Sys Nat → Prop}
    (h : Post m x.segSys Q E) :
    SPost (onSegs m) x
      (fun b y => ∃ y0, Q b y0 ∧ y.cells = x.cells ∧ y.segs = y0.arr ∧ y.sblocks = x.sblocks ∧ y.pblocks = y0.blocks ∧
        y.objs = x.objs ∧ y.bad = y0.bad)
      (fun y => ∃ y0, E y0 ∧ y.cells = x.cells ∧ y.segs = y0.arr ∧ y.sblocks = x.sblocks ∧ y.pblocks = y0.blocks ∧
        y.objs = x.objs ∧ y.bad = y0.bad) := by
  unfold SPost
  rw [onSegs_run]
  unfold Post at h
  generalize m.run x.segSys = r at *
  obtain ⟨r, y0⟩ := r
  cases r
  · exact ⟨y0, h, rfl, rfl, rfl, rfl, rfl, rfl⟩
  · exact ⟨y0, h, rfl, rfl, rfl, rfl, rfl, rfl⟩

/-- the system the shifter runs in -/
def SSys.itemSys (x : SSys α) (cap : Nat) : Sys α :=
  { arr := { cells := x.cells, cap := cap }, faults := x.faults, blocks := if cap > 0 then [cap] else [],
    objs := x.objs, bad := x.bad }

/-- what `onItems` writes back into `x` when the shifter ended in `y0` -/
def itemsBack (x : SSys α) (y0 : Sys α) : SSys α :=
  { x with cells := y0.arr.cells, faults := y0.faults, objs := y0.objs, bad := y0.bad }

theorem onItems_run (cap : Nat) (m : FM α β) (x : SSys α) :
    (onItems cap m).run x = ((m.run (x.itemSys cap)).1, itemsBack x (m.run (x.itemSys cap)).2) := rfl

theorem onItems_spec {cap : Nat} {m : FM α β} (x : SSys α) {Q : β → Sys α → Prop} {E : Sys α → Prop}
    (h : Post m (x.itemSys cap) Q E) :
    SPost (onItems cap m) x
      (fun b y => ∃ y0, Q b y0 ∧ y.cells = y0.arr.cells ∧ y.segs = x.segs ∧ y.sblocks = x.sblocks ∧ y.pblocks = x.pblocks ∧
        y.objs = y0.objs ∧ y.bad = y0.bad)
      (fun y => ∃ y0, E y0 ∧ y.cells = y0.arr.cells ∧ y.segs = x.segs ∧ y.sblocks = x.sblocks ∧ y.pblocks = x.pblocks ∧
        y.objs = y0.objs ∧ y.bad = y0.bad) := by
  unfold SPost
  rw [onItems_run]
  unfold Post at h
  generalize m.run (x.itemSys cap) = r at *
  obtain ⟨r, y0⟩ := r
  cases r
  · exact ⟨y0, h, rfl, rfl, rfl, rfl, rfl, rfl⟩
  · exact ⟨y0, h, rfl, rfl, rfl, rfl, rfl, rfl⟩

theorem segSizes_add (cfg : SCfg) (a f : Nat) :
    segSizes cfg (a + f) = segSizes cfg a ++ (List.range' a f).map cfg.lay.itemCount := by
  unfold segSizes
  rw [List.range_eq_range', List.range_eq_range', ← List.range'_append_1, Nat.zero_add, List.map_append]

theorem segsFor_capOf (cfg : SCfg) (k : Nat) : cfg.lay.segsFor (capOf cfg k) = k := segsFor_index cfg.lay k

theorem deallocSegs_spec (cfg : SCfg) : ∀ (f i : Nat) (x : SSys α) (rest : List Nat),
    x.sblocks.Perm (rest ++ (List.range' i f).map cfg.lay.itemCount) →
    SPost (deallocSegs cfg i f) x
      (fun _ y => y.cells = x.cells ∧ y.segs = x.segs ∧ y.sblocks.Perm rest ∧ y.pblocks = x.pblocks ∧
        y.objs = x.objs ∧ y.bad = x.bad)
      (fun _ => False)
  | 0, i, x, rest, h => (spost_pure ..).mpr ⟨rfl, rfl, List.append_nil rest ▸ h, rfl, rfl, rfl⟩
  | f+1, i, x, rest, h => by
    unfold deallocSegs
    rw [spost_deallocSeg_bind]
    have hp := (h.erase (cfg.lay.itemCount i)).trans
      (List.erase_cons_head (cfg.lay.itemCount i) _ ▸ List.perm_middle.erase (cfg.lay.itemCount i))
    have hmem : cfg.lay.itemCount i ∈ x.sblocks := h.mem_iff.mpr (List.mem_append_right _ List.mem_cons_self)
    refine SPost.mono (deallocSegs_spec cfg f (i+1) _ rest hp) ?_ (fun _ h => h)
    rintro _ y ⟨y1, y2, y3, y4, y5, y6⟩
    exact ⟨y1, y2, y3, y4, y5, y6.trans (by simp [hmem])⟩

/-- the part of the invariant about `mSegments` and the segments (unrelated to `Momo.Seg.SegsOK` of the C16 segment-list
    model). The item segments are compared as a multiset (`Perm`):
    `allocSeg` conses the newest block in front while `deallocSegs` erases blocks in increasing segment order, so the order
    of `sblocks` is not that of the segments. The pointer array owns at most one block, so `pblocks` is compared by equality
    (with `ownBlocks`, as in the `Array` ledger). -/
structure SegsOK (cfg : SCfg) (x : SSys α) : Prop where
  wf : WF cfg.segs x.segs
  sblocks : x.sblocks.Perm (segSizes cfg x.segs.cells.length)
  pblocks : x.pblocks = ownBlocks cfg.segs x.segs
  good : x.bad = false

theorem SegsOK.congr {cfg : SCfg} {x y : SSys α} (v : SegsOK cfg x) (h2 : y.segs = x.segs) (h3 : y.sblocks = x.sblocks)
    (h4 : y.pblocks = x.pblocks) (h6 : y.bad = x.bad) : SegsOK cfg y :=
  ⟨h2 ▸ v.wf, by rw [h3, h2]; exact v.sblocks, by rw [h4, h2]; exact v.pblocks, h6.trans v.good⟩

theorem SegsOK.destroy {cfg : SCfg} {z : SSys α} (v : SegsOK cfg z) {n : Nat} (h : n ≤ z.objs) :
    SegsOK cfg { z with objs := z.objs - n, bad := z.bad || decide (z.objs < n) } :=
  v.congr rfl rfl rfl (by
    show (z.bad || decide (z.objs < n)) = z.bad
    rw [decide_eq_false (Nat.not_lt.mpr h), Bool.or_false])

/-- `mSegments.AddBackNogrow(segment)` after `pvAllocateSegment(segCount)` -/
theorem SegsOK.push {cfg : SCfg} {y z : SSys α} (v : SegsOK cfg y)
    (hroom : y.segs.cells.length + 1 ≤ capacity cfg.segs y.segs) (z2 : z.segs = y.segs)
    (z3 : z.sblocks = cfg.lay.itemCount y.segs.cells.length :: y.sblocks) (z4 : z.pblocks = y.pblocks)
    (z6 : z.bad = y.bad) (c : Cell Nat) :
    SegsOK cfg { z with segs := { z.segs with cells := z.segs.cells ++ [c] } } := by
  refine ⟨?_, ?_, ?_, z6.trans v.good⟩
  · rw [z2]; exact wf_with_cells v.wf _ (by rw [List.length_append]; exact hroom)
  · show z.sblocks.Perm (segSizes cfg (z.segs.cells ++ [c]).length)
    rw [List.length_append, z2, z3, List.length_singleton, segSizes_add]
    exact (v.sblocks.cons _).trans (List.perm_append_singleton _ _).symm
  · show z.pblocks = ownBlocks cfg.segs { z.segs with cells := _ }
    rw [ownBlocks_cells, z4, z2]; exact v.pblocks

theorem segSizes_split (cfg : SCfg) (m len : Nat) :
    segSizes cfg len = segSizes cfg (min m len) ++ (List.range' m (len - m)).map cfg.lay.itemCount := by
  rcases Nat.le_total m len with h | h
  · rw [Nat.min_eq_left h, ← segSizes_add, Nat.add_sub_cancel' h]
  · rw [Nat.min_eq_right h, Nat.sub_eq_zero_of_le h]; exact (List.append_nil _).symm

theorem decCapacityF_spec (cfg : SCfg) (n : Nat) (x : SSys α) (v : SegsOK cfg x) :
    SPost (decCapacityF cfg n) x
      (fun _ y => y.cells = x.cells ∧ y.objs = x.objs ∧ SegsOK cfg y ∧
        y.segs = { x.segs with cells := x.segs.cells.take (cfg.lay.segsFor n) })
      (fun _ => False) := by
  unfold decCapacityF
  simp only [spost_getS_bind, take_sub_sub]
  apply SPost.bind' _ _ (deallocSegs_spec cfg _ _ x _ (v.sblocks.trans (.of_eq (segSizes_split cfg _ _)))) (fun _ h => h)
  rintro _ y ⟨y1, y2, y3, y4, y5, y6⟩
  rw [spost_setSegCells]
  refine ⟨y1, y5, ⟨?_, ?_, ?_, y6.trans v.good⟩, by rw [y2]⟩
  · rw [y2]; exact wf_with_cells v.wf _ (by rw [List.length_take]; exact Nat.le_trans (Nat.min_le_right _ _) v.wf.count_le)
  · show y.sblocks.Perm (segSizes cfg (x.segs.cells.take _).length)
    rw [List.length_take]; exact y3
  · show y.pblocks = ownBlocks cfg.segs { y.segs with cells := _ }
    rw [ownBlocks_cells, y4, y2]; exact v.pblocks

/-- same contents and same segments; only the capacity of the pointer array may differ -/
def SameSegs (cfg : SCfg) (x y : SSys α) : Prop :=
  y.cells = x.cells ∧ y.objs = x.objs ∧ y.segs.cells = x.segs.cells ∧ SegsOK cfg y

theorem SegsOK.same (cfg : SCfg) (x : SSys α) (v : SegsOK cfg x) : SameSegs cfg x x := ⟨rfl, rfl, rfl, v⟩

theorem SameSegs.of_core {cfg : SCfg} {x y : SSys α} (v : SegsOK cfg x) (h : y.core = x.core) : SameSegs cfg x y := by
  obtain ⟨h1, h2, h3, h4, h5, h6⟩ := (score_eq_iff _ _).mp h
  exact ⟨h1, h5, congrArg State.cells h2, v.congr h2 h3 h4 h6⟩

theorem SameSegs.trans {cfg : SCfg} {x y z : SSys α} (h1 : SameSegs cfg x y) (h2 : SameSegs cfg y z) : SameSegs cfg x z :=
  ⟨h2.1.trans h1.1, h2.2.1.trans h1.2.1, h2.2.2.1.trans h1.2.2.1, h2.2.2.2⟩

theorem SegsOK.valid {cfg : SCfg} {x : SSys α} (v : SegsOK cfg x) : Valid cfg.segs [] 0 x.segSys :=
  ⟨v.wf, by unfold Frame SSys.segSys; simp [v.pblocks], rfl, v.good⟩

/-- an operation of `Array` on `mSegments` with the strong guarantee that keeps its items (`Reserve`, `Shrink`): contents and
    segments stay, completed or not -/
theorem onSegs_strong {cfg : SCfg} {x : SSys α} (v : SegsOK cfg x) {m : FM Nat Unit} {s' : State Nat}
    (h : Strong cfg.segs [] 0 m x.segSys s') (hw : WF cfg.segs s') (hc : s'.cells = x.segs.cells) :
    SPost (onSegs m) x (fun _ y => SameSegs cfg x y ∧ y.sblocks = x.sblocks ∧ y.segs = s') (fun y => SameSegs cfg x y) := by
  apply SPost.mono (onSegs_spec x h.post)
  · rintro _ y ⟨y0, ⟨ha, hf, _, hb⟩, y1, y2, y3, y4, y5, y6⟩
    have hseg : y.segs = s' := y2.trans ha
    refine ⟨⟨y1, y5, by rw [hseg, hc], hseg ▸ hw, ?_, ?_, y6.trans hb⟩, y3, hseg⟩
    · rw [y3, hseg, hc]; exact v.sblocks
    · rw [y4, hseg, hf, ha]; exact List.append_nil _
  · rintro y ⟨y0, h0, y1, y2, y3, y4, y5, y6⟩
    obtain ⟨h1, h2, _, h4⟩ := (core_eq_iff _ _).mp h0
    exact ⟨y1, y5, by rw [y2, h1]; rfl, v.congr (y2.trans h1) y3 (y4.trans h2) (y6.trans h4)⟩

theorem reserveSegs_spec (cfg : SCfg) (x : SSys α) (v : SegsOK cfg x) :
    SPost (onSegs (reserveF cfg.segs noThr (x.segs.cells.length + 1))) x
      (fun _ y => SameSegs cfg x y ∧ y.sblocks = x.sblocks ∧
        y.segs = (reserve cfg.segs x.segs (x.segs.cells.length + 1)).1 ∧
        y.segs.cells.length + 1 ≤ capacity cfg.segs y.segs)
      (fun y => SameSegs cfg x y) := by
  obtain ⟨hcap, hcells, hwf⟩ := reserve_spec cfg.segs x.segs (x.segs.cells.length + 1) v.wf
  refine SPost.mono (onSegs_strong (s' := (reserve cfg.segs x.segs (x.segs.cells.length + 1)).1) v
      (reserveF_strong cfg.segs noThr [] 0 _ x.segSys v.valid) hwf hcells)
    (fun _ y ⟨hs, h3, hseg⟩ => ⟨hs, h3, hseg, ?_⟩) fun _ h => h
  rw [hseg, hcells]; exact hcap

theorem addSegF_spec (cfg : SCfg) (x : SSys α) (v : SegsOK cfg x) :
    SPost (addSegF cfg) x
      (fun _ y => y.cells = x.cells ∧ y.objs = x.objs ∧ SegsOK cfg y ∧ y.segs = (addSeg cfg x.st).1.segs)
      (fun y => SameSegs cfg x y) := by
  unfold addSegF
  simp only [spost_getS_bind]
  apply SPost.bind' _ _ (reserveSegs_spec cfg x v) (fun _ h => h)
  rintro _ y ⟨hsame, y3, hseg, hroom⟩
  have hl : y.segs.cells.length = x.segs.cells.length := congrArg List.length hsame.2.2.1
  rw [← hl]
  refine SPost.bind' _ _ (allocSeg_spec _ y) (fun z hz => hsame.trans (.of_core hsame.2.2.2 hz)) ?_
  rintro _ z ⟨z1, z2, z3, z4, z5, z6⟩
  simp only [spost_getS_bind, spost_setSegCells]
  exact ⟨z1.trans hsame.1, z5.trans hsame.2.1, hsame.2.2.2.push hroom z2 z3 z4 z6 _, by rw [z2, hl, hseg]; rfl⟩

theorem st_ext {x : SSys α} {s : SState α} (h1 : x.cells = s.cells) (h2 : x.segs = s.segs) : x.st = s := by
  cases s; cases h1; cases h2; rfl

theorem addSegsF_spec (cfg : SCfg) : ∀ (f : Nat) (x : SSys α), SegsOK cfg x →
    SPost (addSegsF cfg f) x
      (fun _ y => y.cells = x.cells ∧ y.objs = x.objs ∧ SegsOK cfg y ∧ y.st = (addSegs cfg f x.st).1)
      (fun y => y.cells = x.cells ∧ y.objs = x.objs ∧ SegsOK cfg y ∧ ∃ extra, y.segs.cells = x.segs.cells ++ extra)
  | 0, x, v => (spost_pure ..).mpr ⟨rfl, rfl, v, rfl⟩
  | f+1, x, v => by
    unfold addSegsF
    apply SPost.bind' _ _ (addSegF_spec cfg x v)
    · rintro y ⟨y1, y2, y3, y4⟩
      exact ⟨y1, y2, y4, [], y3.trans (List.append_nil _).symm⟩
    · rintro _ y ⟨y1, y2, y3, y4⟩
      have hst : y.st = (addSeg cfg x.st).1 := st_ext y1 y4
      apply SPost.mono (addSegsF_spec cfg f y y3)
      · rintro _ z ⟨z1, z2, z3, z4⟩
        exact ⟨z1.trans y1, z2.trans y2, z3, by rw [z4, hst]; rfl⟩
      · rintro z ⟨z1, z2, z3, extra, z4⟩
        exact ⟨z1.trans y1, z2.trans y2, z3, _ :: extra, by
          rw [z4, y4, addSeg_segs_cells]; exact List.append_assoc _ _ _⟩

/-- `pvDecCapacity(initCapacity); throw`: the segments added since `x` go again -/
theorem decCapacityF_undo {cfg : SCfg} {x u : SSys α} {extra : Cells Nat} {Q : β → SSys α → Prop} (vu : SegsOK cfg u)
    (h1 : u.cells = x.cells) (h5 : u.objs = x.objs) (hs : u.segs.cells = x.segs.cells ++ extra) :
    SPost (do decCapacityF cfg (capOf cfg x.segs.cells.length); throw) u Q (fun z => SameSegs cfg x z) := by
  refine SPost.bind' _ _ (decCapacityF_spec cfg _ u vu) (fun _ h => h.elim) fun _ z ⟨z1, z2, z3, z4⟩ => ?_
  rw [spost_throw]
  exact ⟨z1.trans h1, z2.trans h5, by rw [z4, segsFor_capOf, hs]; exact List.take_left' rfl, z3⟩

theorem incCapacityF_spec (cfg : SCfg) (n : Nat) (x : SSys α) (v : SegsOK cfg x) :
    SPost (incCapacityF cfg (capOf cfg x.segs.cells.length) n) x
      (fun _ y => y.cells = x.cells ∧ y.objs = x.objs ∧ SegsOK cfg y ∧ y.st = (incCapacity cfg x.st n).1)
      (fun y => SameSegs cfg x y) := by
  unfold incCapacityF incCapacity
  simp only [spost_getS_bind]
  exact SPost.tryCatch _ (addSegsF_spec cfg _ x v) fun y ⟨y1, y2, y3, _, y4⟩ => decCapacityF_undo y3 y1 y2 y4

theorem reserveOpF_spec (cfg : SCfg) (n : Nat) (x : SSys α) (v : SegsOK cfg x) :
    SPost (reserveOpF cfg n) x
      (fun _ y => y.cells = x.cells ∧ y.objs = x.objs ∧ SegsOK cfg y ∧ y.st = (reserveOp cfg x.st n).1)
      (fun y => SameSegs cfg x y) := by
  unfold reserveOpF
  rw [spost_getS_bind, reserveOp]
  refine SPost.ite (fun h => ?_) (fun h => ?_)
  · rw [if_pos (show n > Seg.capacity cfg x.st from h)]
    exact incCapacityF_spec cfg n x v
  · rw [if_neg (show ¬ n > Seg.capacity cfg x.st from h)]
    exact (spost_pure ..).mpr ⟨rfl, rfl, v, rfl⟩

end Momo.ArrF.Seg
