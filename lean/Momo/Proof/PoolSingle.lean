import Momo.Proof.PoolCache
/-!
  State machine of `MemPool` (C09) for `blockCount == 1`: every block is its own allocation; with a non-zero
  alignment addend the 16-bit offset stored behind the block leads back to the allocation. The invariant `SingleWF`,
  `pvDeleteBlock` and `Allocate`; `Deallocate` and the flush are in `PoolAny`, the destructor and `MergeFrom` in `PoolSingleMerge`.
-/
namespace Momo.Pool

/-- size of the allocation behind one block when `blockCount == 1` -/
def Params.singleSize (P : Params) : Int := if P.alignAddend = 0 then P.bufferSize0 else P.bufferSize1

/-- memory a single-block pool holds: one allocation per recorded block -/
def owned1 (P : Params) (sg : List (Int × Int)) : List (Int × Int) := sg.map (fun e => (e.1 - e.2, P.singleSize))

structure SingleWF (P : Params) (p : Pool) : Prop where
  noBuffers : p.store = [] ∧ p.pre = [] ∧ p.post = []
  keys : (p.singles.map (·.1)).Nodup
  entries : ∀ e ∈ p.singles, P.allocAlign ∣ (e.1 - e.2) ∧
              (if P.alignAddend = 0 then e.2 = 0 else e = newBlock1 P (e.1 - e.2))
  cacheNodup : p.cache.Nodup
  cacheKeys : ∀ c ∈ p.cache, c ∈ p.singles.map (·.1)
  cacheOff : P.useCache = false → p.cache = []
  count : p.allocCount + p.cache.length = p.singles.length

theorem live1_eq {P : Params} (hN1 : P.N = 1) (p : Pool) :
    p.live P = (p.singles.map (·.1)).filter (fun x => !p.cache.contains x) := by
  rw [live_blocks, blocks_single hN1]

theorem live1_of_cache_nil {P : Params} (hN1 : P.N = 1) {p : Pool} (hc : p.cache = []) :
    p.live P = p.singles.map (·.1) := by
  rw [live_of_no_cache P hc, blocks_single hN1]

theorem SingleWF.cacheOK {P : Params} {p : Pool} (h : SingleWF P p) :
    CacheOK (p.singles.map (·.1)) p.cache p.allocCount :=
  ⟨h.cacheNodup, h.cacheKeys, by rw [List.length_map]; exact h.count⟩

theorem SingleWF.count_exact {P : Params} (hN1 : P.N = 1) {p : Pool} (h : SingleWF P p) :
    p.allocCount = (p.live P).length := by
  rw [live1_eq hN1]; exact h.cacheOK.count_exact h.keys

theorem SingleWF.empty (P : Params) : SingleWF P Pool.empty := by
  refine ⟨⟨rfl, rfl, rfl⟩, ?_, ?_, ?_, ?_, ?_, ?_⟩ <;> simp [Pool.empty]

theorem SingleWF.block_inside {P : Params} (hL : P.Legal) {p : Pool} (h : SingleWF P p) (e : Int × Int) (he : e ∈ p.singles) :
    e.1 - e.2 ≤ e.1 ∧ e.1 < e.1 - e.2 + P.singleSize ∧ e.1 % P.A = 0 := by
  have hA : 0 < P.A := hL.2.2.1
  have hA2 : P.A ≤ 1024 := hL.2.2.2.1
  have hS : 0 < P.S := hL.2.2.2.2.1
  obtain ⟨hal, hent⟩ := h.entries e he
  unfold Params.singleSize
  by_cases h0 : P.alignAddend = 0
  · rw [if_pos h0] at hent ⊢
    have := plain_single_ok P (e.1 - e.2) hal h0
    rw [hent] at this ⊢
    unfold Params.bufferSize0
    simp only [Int.sub_zero] at this ⊢
    refine ⟨by omega, ?_, this⟩
    split <;> omega
  · rw [if_neg h0] at hent ⊢
    obtain ⟨h1, h2, h3, _, _, h6, _⟩ := newBlock1_ok P (e.1 - e.2) hA hA2 hal
    rw [← hent] at h1 h2 h3 h6
    simp only [sizeofU16] at h6
    exact ⟨by omega, by omega, h1⟩

theorem single_split {sg : List (Int × Int)} (hk : (sg.map (·.1)).Nodup) {e : Int × Int} (he : e ∈ sg) :
    ∃ s1 s2, sg = s1 ++ e :: s2 ∧ (∀ x ∈ s1, x.1 ≠ e.1) ∧ (∀ x ∈ s2, x.1 ≠ e.1) := by
  obtain ⟨s1, s2, rfl⟩ := List.append_of_mem he
  simp only [List.map_append, List.map_cons] at hk
  have h1 := (List.nodup_append.mp hk).2.2
  have h2 := (List.nodup_cons.mp (List.nodup_append.mp hk).2.1).1
  refine ⟨s1, s2, rfl, ?_, ?_⟩
  · intro x hx e'; exact h1 x.1 (List.mem_map_of_mem hx) e.1 (by simp) e'
  · intro x hx e'; exact h2 (e' ▸ List.mem_map_of_mem hx)

theorem lookup_split {s1 s2 : List (Int × Int)} {c off : Int} (h1 : ∀ x ∈ s1, x.1 ≠ c) :
    (s1 ++ (c, off) :: s2).lookup c = some off := by
  induction s1 with
  | nil => simp
  | cons x xs ih =>
    have hx : x.1 ≠ c := h1 x (by simp)
    obtain ⟨x1, x2⟩ := x
    have : (c == x1) = false := by simpa using (fun e => hx e.symm)
    simp only [List.cons_append, List.lookup, this]
    exact ih (fun y hy => h1 y (by simp [hy]))

theorem filter_key_split {s1 s2 : List (Int × Int)} {c off : Int} (h1 : ∀ x ∈ s1, x.1 ≠ c) (h2 : ∀ x ∈ s2, x.1 ≠ c) :
    (s1 ++ (c, off) :: s2).filter (fun e => e.1 != c) = s1 ++ s2 := by
  rw [List.filter_append, List.filter_cons]
  have e1 : s1.filter (fun e => e.1 != c) = s1 := by
    rw [List.filter_eq_self]; intro x hx; simpa using h1 x hx
  have e2 : s2.filter (fun e => e.1 != c) = s2 := by
    rw [List.filter_eq_self]; intro x hx; simpa using h2 x hx
  rw [e1, e2]; simp

/-- `Settles` of the two `owned1` lists, written out (`ledger1OK_iff_settles`) -/
def Ledger1OK (P : Params) (sg : List (Int × Int)) (evs : List Ev) (sg' : List (Int × Int)) : Prop :=
  ∃ L', ledger (owned1 P sg) evs = some L' ∧ L'.Perm (owned1 P sg')

theorem ledger1OK_iff_settles {P : Params} {sg sg' : List (Int × Int)} {evs : List Ev} :
    Ledger1OK P sg evs sg' ↔ Settles (owned1 P sg) evs (owned1 P sg') := Iff.rfl

theorem Ledger1OK.nil {P : Params} (sg : List (Int × Int)) : Ledger1OK P sg [] sg := Settles.nil (List.Perm.refl _)

/-- the part of `SingleWF` below the cache: the recorded (block, offset) pairs have distinct blocks, and each is what `Allocate`
    computes from an aligned answer of the manager (`block - offset`): the state `pvDeleteBlock` needs and keeps -/
structure SinglesOK (P : Params) (sg : List (Int × Int)) : Prop where
  keys : (sg.map (·.1)).Nodup
  entries : ∀ e ∈ sg, P.allocAlign ∣ (e.1 - e.2) ∧
              (if P.alignAddend = 0 then e.2 = 0 else e = newBlock1 P (e.1 - e.2))

theorem SingleWF.singlesOK {P : Params} {p : Pool} (h : SingleWF P p) : SinglesOK P p.singles := ⟨h.keys, h.entries⟩

/-- `pvDeleteBlock` for `blockCount == 1` (470-478, 506-512) -/
theorem deleteBlock_single {P : Params} (hN1 : P.N = 1) {p : Pool} (h : SinglesOK P p.singles) (c : Int)
    (hc : c ∈ p.singles.map (·.1)) :
    ∃ evs, deleteBlock P p c = .ok () { p with singles := p.singles.filter (fun e => e.1 != c) } evs ∧
      SinglesOK P (p.singles.filter (fun e => e.1 != c)) ∧
      (p.singles.map (·.1)).Perm (c :: (p.singles.filter (fun e => e.1 != c)).map (·.1)) ∧
      Frees (owned1 P p.singles) evs (owned1 P (p.singles.filter (fun e => e.1 != c))) := by
  obtain ⟨e, he, hec⟩ := List.mem_map.mp hc
  obtain ⟨c', off⟩ := e
  simp only at hec; subst hec
  obtain ⟨s1, s2, hs, h1, h2⟩ := single_split h.keys he
  simp only at h1 h2
  have hfilt : p.singles.filter (fun e => e.1 != c') = s1 ++ s2 := by rw [hs]; exact filter_key_split h1 h2
  have hlook : p.singles.lookup c' = some off := by rw [hs]; exact lookup_split h1
  have hent := (h.entries (c', off) he).2
  have hok' : SinglesOK P (s1 ++ s2) := by
    refine ⟨?_, fun e he' => h.entries e (by rw [hs]; rcases List.mem_append.mp he' with hm | hm <;> simp [hm])⟩
    have := h.keys; rw [hs] at this
    simp only [List.map_append, List.map_cons] at this ⊢
    exact (List.nodup_cons.mp ((List.perm_middle.nodup_iff).mp this)).2
  have hkeysP : (p.singles.map (·.1)).Perm (c' :: (s1 ++ s2).map (·.1)) := by
    rw [hs]; simp only [List.map_append, List.map_cons]; exact List.perm_middle
  have hownP : (owned1 P p.singles).Perm ((c' - off, P.singleSize) :: owned1 P (s1 ++ s2)) := by
    rw [hs]; simp only [owned1, List.map_append, List.map_cons]; exact List.perm_middle
  rw [hfilt]
  refine ⟨[.free (c' - off) P.singleSize], ?_, hok', hkeysP, Frees.one hownP⟩
  unfold deleteBlock
  rw [if_neg (by omega)]
  by_cases h0 : P.alignAddend = 0
  · rw [if_pos h0] at hent
    simp only at hent
    rw [if_pos h0, hfilt]
    simp only [Params.singleSize, h0, if_true, hent, Int.sub_zero]
  · rw [if_neg h0]
    unfold deleteBlock1
    rw [hlook]; simp only [hfilt, Params.singleSize, h0, if_false]

structure Allocate1Spec (P : Params) (p p' : Pool) (blk : Int) (evs : List Ev) : Prop where
  wf : SingleWF P p'
  fresh : blk ∉ p.live P
  live : (p'.live P).Perm (blk :: p.live P)
  count : p'.allocCount = p.allocCount + 1
  aligned : blk % P.A = 0
  ledger : Ledger1OK P p.singles evs p'.singles

def Contract1 (P : Params) (p : Pool) (orc : Oracle) : Prop :=
  ∀ j base, orc j = some base → P.allocAlign ∣ base ∧
    ∀ e ∈ p.singles, base + P.singleSize ≤ e.1 - e.2 ∨ e.1 - e.2 + P.singleSize ≤ base

/-- **`Allocate` (285-306), `blockCount == 1`.** -/
theorem allocate_single_ok {P : Params} (hL : P.Legal) (hN1 : P.N = 1) {p : Pool} (h : SingleWF P p)
    {orc : Oracle} (hc : Contract1 P p orc) :
    match allocate P p orc with
    | .ok blk p' evs => Allocate1Spec P p p' blk evs ∧ AllocEvents orc P.singleSize evs
    | .badAlloc p' evs => p' = p ∧ evs = [] ∧ orc 0 = none
    | .stuck _ => False := by
  have hA : 0 < P.A := hL.2.2.1
  have hA2 : P.A ≤ 1024 := hL.2.2.2.1
  have hS : 0 < P.S := hL.2.2.2.2.1
  unfold allocate
  cases hcc : (if P.useCache = true then p.cache else []) with
  | cons c cs =>
    have huse : P.useCache = true := by
      by_cases hu : P.useCache = true
      · exact hu
      · rw [if_neg hu] at hcc; cases hcc
    rw [if_pos huse] at hcc
    simp only [Outcome.bind]
    obtain ⟨hok, hfresh, hperm⟩ := (hcc ▸ h.cacheOK).pop h.keys
    obtain ⟨e, he, hec⟩ := List.mem_map.mp (h.cacheKeys c (hcc ▸ List.mem_cons_self))
    exact ⟨⟨⟨h.noBuffers, h.keys, h.entries, hok.nodup, hok.sub, fun e => Bool.noConfusion (huse.symm.trans e),
        by have := hok.count; rwa [List.length_map] at this⟩,
      by rw [live1_eq hN1, hcc]; exact hfresh, by rw [live1_eq hN1, live1_eq hN1, hcc]; exact hperm, rfl,
      hec ▸ (h.block_inside hL e he).2.2, Ledger1OK.nil _⟩, Or.inl rfl⟩
  | nil =>
    have hcnil : p.cache = [] := by
      by_cases hu : P.useCache = true
      · rw [if_pos hu] at hcc; exact hcc
      · exact h.cacheOff (by simpa using hu)
    simp only
    rw [if_neg (by omega : ¬ P.N > 1)]
    cases horc : orc 0 with
    | none => simp [Outcome.bind]
    | some base =>
      obtain ⟨hal, hdis⟩ := hc 0 base horc
      obtain ⟨n1, n2, n3, _, _, n6, n7⟩ := newBlock1_ok P base hA hA2 hal
      simp only [sizeofU16] at n6
      have hmain : ∀ (e0 : Int × Int), e0.1 - e0.2 = base → base ≤ e0.1 → e0.1 < base + P.singleSize →
          e0.1 % P.A = 0 → (if P.alignAddend = 0 then e0.2 = 0 else e0 = newBlock1 P (e0.1 - e0.2)) →
          ∀ evs, evs = [Ev.malloc base P.singleSize] →
          Allocate1Spec P p { p with singles := e0 :: p.singles, allocCount := p.allocCount + 1 } e0.1 evs ∧
            AllocEvents orc P.singleSize evs := by
        intro e0 hb0 hlo hhi hal0 hent0 evs hevs
        have hnew : e0.1 ∉ p.singles.map (·.1) := by
          intro hm
          obtain ⟨e, he, hee⟩ := List.mem_map.mp hm
          obtain ⟨i1, i2, _⟩ := h.block_inside hL e he
          rcases hdis e he with hd | hd <;> omega
        have hlive := live1_of_cache_nil hN1 hcnil
        have hok : CacheOK ((e0 :: p.singles).map (·.1)) p.cache (p.allocCount + 1) := by
          rw [hcnil]; exact (hcnil ▸ h.cacheOK).grow (List.Perm.refl _)
        refine ⟨⟨⟨h.noBuffers, List.nodup_cons.mpr ⟨hnew, h.keys⟩, ?_, hok.nodup, hok.sub, h.cacheOff,
          by have := hok.count; rwa [List.length_map] at this⟩, by rw [hlive]; exact hnew, ?_, rfl, hal0, ?_⟩,
          Or.inr ⟨base, horc, hevs⟩⟩
        · intro e he
          rcases List.mem_cons.mp he with rfl | he
          · exact ⟨by rw [hb0]; exact hal, hent0⟩
          · exact h.entries e he
        · rw [hlive, live1_of_cache_nil hN1 (p := { p with singles := e0 :: p.singles, allocCount := p.allocCount + 1 }) hcnil]
          exact List.Perm.refl _
        · refine ⟨(base, P.singleSize) :: owned1 P p.singles, by rw [hevs]; rfl, ?_⟩
          simp [owned1, hb0]
      by_cases h0 : P.alignAddend = 0
      · simp only [h0, if_true, Outcome.bind]
        have hb := plain_single_ok P base hal h0
        have hsz : P.singleSize = P.bufferSize0 := by simp [Params.singleSize, h0]
        have := hmain (base, 0) (by simp) (Int.le_refl _) (by
            show base < base + P.singleSize
            rw [hsz]; unfold Params.bufferSize0; split <;> omega) hb (by rw [if_pos h0])
          ([Ev.malloc base P.bufferSize0] ++ []) (by rw [hsz]; rfl)
        exact this
      · simp only [h0, if_false, Outcome.bind]
        have hsz : P.singleSize = P.bufferSize1 := by simp [Params.singleSize, h0]
        have := hmain (newBlock1 P base) n7 n2 (by rw [hsz]; omega) n1 (by rw [if_neg h0, n7])
          ([Ev.malloc base P.bufferSize1] ++ []) (by rw [hsz]; rfl)
        exact this

/-- what `Deallocate` promises when `blockCount == 1` (`deallocate_single_ok`, PoolAny) -/
structure Dealloc1Spec (P : Params) (p p' : Pool) (blk : Int) (evs : List Ev) : Prop where
  wf : SingleWF P p'
  live : (p.live P).Perm (blk :: p'.live P)
  count : p'.allocCount + 1 = p.allocCount
  ledger : Ledger1OK P p.singles evs p'.singles

end Momo.Pool
