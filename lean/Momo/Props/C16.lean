import Momo.Proof.SegMachine
import Momo.Proof.SegArr
import Momo.Proof.TrEqSeg
import Momo.Proof.TrEqWave2Seg
import Momo.Proof.TrEqMisc2Math
/-!
# C16 — SegmentedArray never moves elements and indexes them consistently

Statement (properties.jsonl): Growing a SegmentedArray (append, reserve, resize upward) never changes the
address of an existing element, for both constant and square-root segment sizing. The mapping between an
element index and its (segment, offset) is a bijection that enumerates segments in order and fills each
segment completely before the next, for every index representable in size_t, so capacity, element access
and shrinking always refer to the same elements.

Layers (`Momo/Model/Seg.lean`): `segItem64 / getIndex64 / itemCount64` are the C++ functions as written
(64-bit wrap-around, de Bruijn `Log2`); `getSeg / getIndex / itemCount` are the same formulas over unbounded
naturals; `Arr` is the container's segment list. `f : Func` ranges over both sizings, `L0` is
`logInitialItemCount` (every value, not only 0..16, unless a hypothesis bounds it).
-/
namespace Momo.Seg

/-! ## A. `UIntMath::Log2` -/

/-- **C16 (log2, 8-byte `size_t`).** The de Bruijn code of `UIntMath<size_t>::Log2` (smear, isolate top bit,
multiply, table) returns `⌊log2 v⌋` for every `0 < v < 2^64`; tables and multiplier are the extracted ones. -/
theorem C16_log2_debruijn64 (v : Nat) (h0 : 0 < v) (h : v < 2 ^ 64) : log2db64 v = Nat.log2 v :=
  log2db64_eq v (by omega) h

/-- **C16 (log2, 4-byte variant).** Same for `UIntMath<uint32_t>::Log2` and every `0 < v < 2^32`. -/
theorem C16_log2_debruijn32 (v : Nat) (h0 : 0 < v) (h : v < 2 ^ 32) : log2db32 v = Nat.log2 v :=
  log2db32_eq v (by omega) h

/-! ## B. index ↔ (segment, offset): every natural index, both sizings, every `logInitialItemCount` -/

/-- **C16 (bijection, injective half).** `GetIndex(GetSegItemIndexes(i)) = i` for every natural `i`. -/
theorem C16_roundtrip (f : Func) (L0 i : Nat) :
    getIndex f L0 (getSeg f L0 i).1 (getSeg f L0 i).2 = i :=
  getIndex_getSeg f L0 i

/-- **C16 (offsets stay inside the segment).** The offset of every index is smaller than
`GetItemCount(segment)`. -/
theorem C16_offset_in_segment (f : Func) (L0 i : Nat) :
    (getSeg f L0 i).2 < itemCount f L0 (getSeg f L0 i).1 :=
  (sizing_lawful f L0).item_lt i

/-- **C16 (bijection, surjective half).** Every slot `(s, o)` with `o < GetItemCount(s)` of every segment
is the image of exactly the index `GetIndex(s, o)`. -/
theorem C16_inverse (f : Func) (L0 s o : Nat) (ho : o < itemCount f L0 s) :
    getSeg f L0 (getIndex f L0 s o) = (s, o) :=
  getSeg_getIndex f L0 s o ho

/-- **C16 (segments in order, each filled completely before the next).** Index 0 is slot 0 of segment 0, and
the index after `i` is the next offset of the same segment — or offset 0 of the next segment exactly when
`i` was the last slot of its segment. Together with (bijection) this pins the mapping down completely. -/
theorem C16_in_order_fill (f : Func) (L0 : Nat) :
    getSeg f L0 0 = (0, 0) ∧
    ∀ i, getSeg f L0 (i + 1) =
      if (getSeg f L0 i).2 + 1 < itemCount f L0 (getSeg f L0 i).1
      then ((getSeg f L0 i).1, (getSeg f L0 i).2 + 1) else ((getSeg f L0 i).1 + 1, 0) := by
  have h := sizing_lawful f L0
  refine ⟨?_, fun i => h.succ_contiguous i⟩
  have := h.getSeg_cap 0
  rw [h.base_zero] at this
  exact this

/-- **C16 (order).** Larger indexes are lexicographically later: a later segment, or the same segment and a
larger offset. -/
theorem C16_monotone (f : Func) (L0 i j : Nat) (hij : i < j) :
    (getSeg f L0 i).1 < (getSeg f L0 j).1 ∨
    ((getSeg f L0 i).1 = (getSeg f L0 j).1 ∧ (getSeg f L0 i).2 < (getSeg f L0 j).2) :=
  (sizing_lawful f L0).lex_mono hij

/-- **C16 (capacity).** `GetCapacity() = GetIndex(segCount, 0)` is the number of slots of the first
`segCount` segments, and an index is below it iff its segment is one of them — so capacity, element access
(`pvGetItem`) and shrinking (`pvDecCapacity`) agree about which elements the allocated segments hold. -/
theorem C16_capacity_counts_slots (f : Func) (L0 n : Nat) :
    getIndex f L0 n 0 = ((List.range n).map (itemCount f L0)).sum ∧
    ∀ i, (getSeg f L0 i).1 < n ↔ i < getIndex f L0 n 0 :=
  ⟨getIndex_zero_eq_sum f L0 n, fun i => (sizing_lawful f L0).seg_lt_iff i n⟩

/-! ## C. the same for the functions as written (64-bit), every index representable in `size_t` -/

/-- **C16 (the 64-bit hypothesis excludes exactly one point).** `Fits L0 i` — `i` is a `size_t` and
`(i >> L0) + 1` does not wrap — holds for every `size_t` index except `L0 = 0, i = 2^64 - 1` (finding F14). -/
theorem C16_w64_excludes_one_point (L0 i : Nat) :
    Fits L0 i ↔ i < 2 ^ 64 ∧ ¬ (L0 = 0 ∧ i = 2 ^ 64 - 1) :=
  fits_iff L0 i

/-- **C16 (machine = ideal).** With 64-bit wrap-around, shifts, masks and the de Bruijn `Log2`,
`GetSegItemIndexes` computes the ideal mapping for every fitting index (`L0 < 64`; a larger shift is
undefined behaviour). -/
theorem C16_machine_segItem (f : Func) (L0 i : Nat) (hL : L0 < 64) (hf : Fits L0 i) :
    segItem64 f L0 i = getSeg f L0 i :=
  segItem64_eq f L0 i hL hf

/-- **C16 (machine = ideal, `GetIndex` and `GetItemCount`).** For every slot `(s, o)` whose ideal index fits,
`GetIndex` as written computes it; `GetItemCount` as written is the ideal segment size whenever the shift
`1 << (logItemCount + L0)` is defined (`s * 2 + 4 < 2^64`: the sqrt sizing evaluates that expression). -/
theorem C16_machine_getIndex_itemCount (f : Func) (L0 s o : Nat) (hL : L0 < 64) (hs : s * 2 + 4 < 2 ^ 64) :
    (Fits L0 (getIndex f L0 s o) → getIndex64 f L0 s o = getIndex f L0 s o) ∧
    (segLog s + L0 < 64 → itemCount64 f L0 s = itemCount f L0 s) := by
  refine ⟨getIndex64_eq f L0 s o hL fun _ => hs, fun hk => ?_⟩
  cases f
  · exact itemCount64_sqrt_eq L0 s hs hk
  · exact itemCount64_cnst_eq L0 s hL

/-- **C16 (round trip, as written).** `GetIndex(GetSegItemIndexes(i)) = i` for the 64-bit functions, for
every index representable in `size_t` except the F14 point. -/
theorem C16_roundtrip64 (f : Func) (L0 i : Nat) (hL : L0 < 64) (hf : Fits L0 i) :
    getIndex64 f L0 (segItem64 f L0 i).1 (segItem64 f L0 i).2 = i :=
  roundtrip64 f L0 i hL hf

/-- **C16 (the constant sizing has no excluded point).** For `SegmentedArraySettings<cnst, L0>` the round trip
holds for every `size_t` index, `2^64 - 1` included. -/
theorem C16_roundtrip64_cnst (L0 i : Nat) (hL : L0 < 64) (hi : i < 2 ^ 64) :
    getIndex64 .cnst L0 (segItem64 .cnst L0 i).1 (segItem64 .cnst L0 i).2 = i :=
  roundtrip64_cnst L0 i hL hi

/-- **C16 (offset inside segment, as written)**, for `logInitialItemCount ≤ 31` (so that
`1 << (logItemCount + L0)` is a defined shift). -/
theorem C16_offset_in_segment64 (f : Func) (L0 i : Nat) (hL : L0 ≤ 31) (hf : Fits L0 i) :
    (segItem64 f L0 i).2 < itemCount64 f L0 (segItem64 f L0 i).1 := by
  rw [segItem64_eq f L0 i (by omega) hf, itemCount64_getSeg f L0 i hL hf]
  exact C16_offset_in_segment f L0 i

/-- **C16 (inverse, as written).** For every slot whose index fits: `GetSegItemIndexes(GetIndex(s, o)) = (s, o)`
(`s * 2 + 4 < 2^64`: the sqrt sizing evaluates that expression). -/
theorem C16_inverse64 (f : Func) (L0 s o : Nat) (hL : L0 < 64) (ho : o < itemCount f L0 s)
    (hs : s * 2 + 4 < 2 ^ 64) (hf : Fits L0 (getIndex f L0 s o)) :
    segItem64 f L0 (getIndex64 f L0 s o) = (s, o) :=
  inverse64 f L0 s o hL ho (fun _ => hs) hf

/-- **C16 (in-order fill, as written).** For consecutive fitting indexes the 64-bit functions step to the
next offset, or to offset 0 of the next segment exactly when the segment is full. -/
theorem C16_in_order_fill64 (f : Func) (L0 i : Nat) (hL : L0 ≤ 31) (hf : Fits L0 i) (hf1 : Fits L0 (i + 1)) :
    segItem64 f L0 (i + 1) =
      if (segItem64 f L0 i).2 + 1 < itemCount64 f L0 (segItem64 f L0 i).1
      then ((segItem64 f L0 i).1, (segItem64 f L0 i).2 + 1) else ((segItem64 f L0 i).1 + 1, 0) := by
  rw [segItem64_eq f L0 i (by omega) hf, segItem64_eq f L0 (i + 1) (by omega) hf1,
    itemCount64_getSeg f L0 i hL hf]
  exact (C16_in_order_fill f L0).2 i

/-- **F14 (known finding, the excluded point is a real failure).** `SegmentedArraySettings<sqrt, 0>`:
`GetSegItemIndexes(2^64 - 1)` answers segment `2^32 - 2`, offset 0, whose `GetIndex` is `2^62 - 1`. -/
theorem C16_f14_point :
    segItem64 .sqrt 0 (2 ^ 64 - 1) = (2 ^ 32 - 2, 0) ∧ getIndex64 .sqrt 0 (2 ^ 32 - 2) 0 = 2 ^ 62 - 1 :=
  f14_point

/-! ## D. the container: all grow / shrink histories -/

/-- **C16 (reachable states).** Every state reached from the empty array by any history of `AddBack`,
`Reserve`, `SetCount` (up or down), `Shrink`, `Clear`, `RemoveBack`, `Insert` satisfies the invariant `WF`:
`mCount ≤ GetCapacity()`, segment `s` was requested with `GetItemCount(s)` slots, allocation ids distinct. -/
theorem C16_reachable_wf (f : Func) (L0 : Nat) (ops : List Op) :
    WF (sizing f L0) (run (sizing f L0) {} ops) :=
  run_wf (sizing_lawful f L0) {} ops (wf_init _)

/-- **C16 (growth appends only).** `AddBack`, `Reserve`, `SetCount` upward and `Insert` leave every existing
entry of the segment list in place (same allocation, same position) and only append new segments. -/
theorem C16_growth_appends_only (f : Func) (L0 : Nat) (a : Arr) (op : Op) (w : WF (sizing f L0) a)
    (hg : op.isGrow a = true) :
    ∃ extra, (step (sizing f L0) a op).segs = a.segs ++ extra :=
  (grow_spec (sizing_lawful f L0) a op w hg).1

/-- **C16 (growing never changes the address of an existing element).** For every reachable state, every
growth operation and every existing element `i`, the place (allocation id of the segment, offset) of `i` is
the same before and after. -/
theorem C16_growth_keeps_addresses (f : Func) (L0 : Nat) (a : Arr) (op : Op) (w : WF (sizing f L0) a)
    (hg : op.isGrow a = true) (i : Nat) (hi : i < a.count) :
    (step (sizing f L0) a op).addr (sizing f L0) i = a.addr (sizing f L0) i := by
  have h := sizing_lawful f L0
  exact addr_stable_step h a op w i hi (by have := (grow_spec h a op w hg).2; omega)

/-- **C16 (shrinking too).** Any single operation — growing or shrinking — keeps every element that is live
before and after where it is (shrinking only frees segments beyond the live items). -/
theorem C16_any_op_keeps_addresses (f : Func) (L0 : Nat) (a : Arr) (op : Op) (w : WF (sizing f L0) a)
    (i : Nat) (h1 : i < a.count) (h2 : i < (step (sizing f L0) a op).count) :
    (step (sizing f L0) a op).addr (sizing f L0) i = a.addr (sizing f L0) i :=
  addr_stable_step (sizing_lawful f L0) a op w i h1 h2

/-- **C16 (all grow / shrink histories).** Through any history, an element that stays live at every step
is at the end where it was at the start. -/
theorem C16_history_keeps_addresses (f : Func) (L0 : Nat) (a : Arr) (ops : List Op) (w : WF (sizing f L0) a)
    (i : Nat) (live : ∀ n, n ≤ ops.length → i < (run (sizing f L0) a (ops.take n)).count) :
    (run (sizing f L0) a ops).addr (sizing f L0) i = a.addr (sizing f L0) i :=
  addr_stable_run (sizing_lawful f L0) a ops w i live

/-- **C16 (element access hits allocated memory).** A live element's segment exists and its offset is inside
the block requested for that segment. -/
theorem C16_element_inside_its_segment (f : Func) (L0 : Nat) (a : Arr) (w : WF (sizing f L0) a) (i : Nat)
    (hi : i < a.count) :
    ∃ seg, a.segs[(getSeg f L0 i).1]? = some seg ∧ (getSeg f L0 i).2 < seg.size :=
  addr_in_segment (sizing_lawful f L0) a w i hi

/-- **C16 (no two elements share a place).** -/
theorem C16_distinct_elements_distinct_places (f : Func) (L0 : Nat) (a : Arr) (w : WF (sizing f L0) a)
    (i j : Nat) (hi : i < a.count) (hj : j < a.count)
    (he : a.addr (sizing f L0) i = a.addr (sizing f L0) j) : i = j :=
  addr_injective (sizing_lawful f L0) a w i j hi hj he

/-- **C16 (the assertion in `AddBackCrt`).** When the slot for the next item is not in an allocated segment,
it is slot 0 of the very next segment (`MOMO_ASSERT(itemIndex == 0)`; the new segment is appended). -/
theorem C16_addBack_new_segment_is_next (f : Func) (L0 : Nat) (a : Arr) (w : WF (sizing f L0) a)
    (hn : ¬ (getSeg f L0 a.count).1 < a.segs.length) :
    getSeg f L0 a.count = (a.segs.length, 0) :=
  addBack_new_segment (sizing_lawful f L0) a w hn

/-- **C16 (capacity = allocated slots; Reserve suffices).** `GetCapacity()` equals the total number of slots
of the allocated segments, and after `Reserve(c)` it is at least `c`. -/
theorem C16_capacity_is_total_slots (f : Func) (L0 : Nat) (a : Arr) (w : WF (sizing f L0) a) (c : Nat) :
    a.capacity (sizing f L0) = (a.segs.map Segment.size).sum ∧
    c ≤ (a.reserve (sizing f L0) c).capacity (sizing f L0) :=
  ⟨capacity_eq_slots (sizing_lawful f L0) a w.toSegsOK, (reserve_spec (sizing_lawful f L0) a c w).2.2.2⟩

/-- **C16 (Reserve / Shrink keep exactly the segments that are needed).** `segsFor c` — the segment count
computed at the head of `pvIncCapacity` / `pvDecCapacity` (`GetSegItemIndexes(c)`, plus one when the offset is
not 0) — is the least number of segments whose slots hold `c` items. -/
theorem C16_segment_count_for_capacity_is_least (f : Func) (L0 c n : Nat) :
    Arr.segsFor (sizing f L0) c ≤ n ↔ c ≤ getIndex f L0 n 0 :=
  (sizing_lawful f L0).segsFor_le_iff c n

/-! ## Non-vacuity: concrete states meeting the hypotheses -/

example : Fits 0 (2 ^ 64 - 2) := by unfold Fits; decide
example : Fits 3 (2 ^ 64 - 1) := by unfold Fits; decide
example : ¬ Fits 0 (2 ^ 64 - 1) := by unfold Fits; decide
example : segItem64 .sqrt 3 1000 = (21, 48) ∧ getIndex64 .sqrt 3 21 48 = 1000 ∧ itemCount64 .sqrt 3 21 = 64 := by
  decide +kernel
example : segItem64 .sqrt 0 (2 ^ 64 - 2) = (8589934589, 4294967295) := by decide +kernel
example : segItem64 .cnst 5 1000 = (31, 8) := by decide +kernel
example : getSeg .sqrt 0 6 = (3, 1) ∧ itemCount .sqrt 0 3 = 2 ∧ getSeg .sqrt 0 7 = (4, 0) := by decide +kernel
/-- a history with growth, resize and shrink; element 2 stays in segment id 1 at offset 1 -/
example :
    let S := sizing .sqrt 0
    let a := run S {} [.addBack, .addBack, .addBack]
    let b := run S a [.reserve 20, .setCount 30, .shrinkFit, .removeBack 5, .shrink 0]
    a.addr S 2 = (some 1, 1) ∧ b.addr S 2 = (some 1, 1) ∧ b.count = 25 ∧ b.segs.length = 9 ∧
    (Op.reserve 20).isGrow a = true := by
  decide +kernel

/-- the `live` hypothesis of the history theorem is met by a concrete mixed history: element 2 stays live
    while the array grows to 30, shrinks its capacity, loses 5 elements and is resized to 3 -/
example :
    let S := sizing .cnst 2
    let a := run S {} [.addBack, .addBack, .addBack, .addBack]
    let ops := [Op.reserve 20, .setCount 30, .shrinkFit, .removeBack 5, .setCount 3, .insert]
    (∀ n, n ≤ ops.length → 2 < (run S a (ops.take n)).count) ∧ (run S a ops).addr S 2 = (some 0, 2) := by
  decide +kernel
/-- the branch of `AddBackCrt` that allocates: 3 items fill segments 0 and 1 of the sqrt sizing with `L0 = 0` -/
example :
    let S := sizing .sqrt 0
    let a := run S {} [.addBack, .addBack, .addBack]
    ¬ (getSeg .sqrt 0 a.count).1 < a.segs.length ∧ getSeg .sqrt 0 a.count = (2, 0) := by
  decide +kernel

/-! ## E. The functions as translated from the headers

`Momo.Tr.*` are Lean definitions regenerated on every check by tools/translate.py from the *function bodies* in the
current headers (C++ integer semantics explicit: wrap-around of `size_t`, promotion and truncation of the byte fields,
the `while` loop). The theorems below are about those generated definitions. -/
/-- **C16 round trip for the code as translated from the header**, sqrt sizing: `GetIndex(GetSegItemIndexes(i)) = i`
for every `size_t` index except the single point excluded by `Fits` (finding F14). -/
theorem C16_roundtrip_translated_sqrt (L0 index : Nat) (hL : L0 < 64) (hf : Fits L0 index) :
    Tr.segSqrt_GetIndex L0 (Tr.segSqrt_GetSegItemIndexes L0 index).1 (Tr.segSqrt_GetSegItemIndexes L0 index).2 = index := by
  rw [TrEq.tr_sqrt_getSegItemIndexes, TrEq.tr_sqrt_getIndex]
  exact roundtrip64 .sqrt L0 index hL hf

/-- The same for the constant sizing (stated with `Fits` like its twin; the model-level `C16_roundtrip64_cnst` needs only
`index < 2^64`). -/
theorem C16_roundtrip_translated_cnst (L0 index : Nat) (hL : L0 < 64) (hf : Fits L0 index) :
    Tr.segCnst_GetIndex L0 (Tr.segCnst_GetSegItemIndexes L0 index).1 (Tr.segCnst_GetSegItemIndexes L0 index).2 = index := by
  rw [TrEq.tr_cnst_getSegItemIndexes, TrEq.tr_cnst_getIndex]
  exact roundtrip64 .cnst L0 index hL hf

example : Tr.segSqrt_GetSegItemIndexes 3 1000 = (21, 48) := by decide
example : Tr.segSqrt_GetIndex 3 21 48 = 1000 := by decide

/-! ### `UIntMath::Log2` and the constant `GetItemCount` (equivalences: `Proof/TrEqMisc2Math.lean`) -/

/-- **C16 (log2) for the code as translated from Utility.h**, 8-byte `size_t`: `UIntMath<>::Log2` and the de Bruijn
`pvLog2` it calls — table, the six `value |= value >> s` lines, `value -= value >> 1`, multiplier and final shift all read
from the current header text — return `⌊log2 v⌋` for every `0 < v < 2^64`. -/
theorem C16_log2_translated (v : Nat) (h0 : 0 < v) (h : v < 2 ^ 64) :
    Tr.um_Log2 v = Nat.log2 v ∧ Tr.um_pvLog2_64 v = Nat.log2 v := by
  rw [TrEq.tr_Log2 v h, TrEq.tr_pvLog2_64 v h]
  exact ⟨C16_log2_debruijn64 v h0 h, C16_log2_debruijn64 v h0 h⟩

/-- **C16 (log2, 4-byte variant) for the code as translated** (`uint32_t` arithmetic: the product wraps mod 2^32). -/
theorem C16_log2_32_translated (v : Nat) (h0 : 0 < v) (h : v < 2 ^ 32) : Tr.um_pvLog2_32 v = Nat.log2 v := by
  rw [TrEq.tr_pvLog2_32 v h]
  exact C16_log2_debruijn32 v h0 h

/-- **The translated index functions call the translated `Log2`**: the two log helpers of the sqrt sizing
(translated by the base table with their call of `UIntMath<>::Log2` bound to the model `log2db64`) are their own text with that
call bound to the *translated* `Log2` — so `C16_roundtrip_translated_sqrt` is about header text only. -/
theorem C16_log_helpers_use_translated_log2 (i1 s : Nat) (h : i1 < 2 ^ 64) :
    Tr.segSqrt_pvIndexToLogItemCount i1 = (add64 (Tr.um_Log2 i1) 1) / 2 ∧
    Tr.segSqrt_pvSegIndexToLogItemCount s = Tr.um_Log2 ((add64 (mul64 s 2) 4) / 3) :=
  ⟨TrEq.tr_sqrt_indexToLog_um i1 h, TrEq.tr_sqrt_segToLog_um s⟩

/-- `SegmentedArraySettings<cnst>::GetItemCount` as translated is the machine-level model, hence the ideal segment size
(the C++ ignores `segIndex`: `s` occurs on the right only). -/
theorem C16_itemCount_translated_cnst (L0 s : Nat) (hL : L0 < 64) : Tr.segCnst_GetItemCount L0 = itemCount .cnst L0 s := by
  rw [TrEq.tr_cnst_getItemCount L0 s]
  exact itemCount64_cnst_eq L0 s hL

example : Tr.um_Log2 1000 = 9 ∧ Tr.um_pvLog2_32 (2 ^ 31) = 31 ∧ Tr.um_Log2 (2 ^ 64 - 1) = 63 := by decide +kernel

/-! ### the capacity arithmetic of the container (equivalences: `Proof/TrEqWave2Seg.lean`) -/

/-- **C16 (capacity arithmetic of the container, from the header text).** For every sizing, the container model's
`pvIncCapacity` / `pvDecCapacity` (number of segments a capacity needs: `if (itemIndex > 0) ++segIndex`; segments removed:
`segCount - segIndex`), `Reserve`, `Shrink(capacity)` (keep test and target `max(capacity, mCount)`), `AddBackCrt` (room test) and
`SetCountCrt` / `pvIncCount` (growth test) are their C++ text: every test and every segment count is the definition translated
from SegmentedArray.h. -/
theorem C16_capacity_ops_translated (S : Sizing) (a : Arr) (cap : Nat) (hseg : (S.getSeg cap).1 < 2 ^ 64 - 1) :
    a.incCapacity S cap = Arr.allocSegs S (Tr.seg_incCap_segCount (S.getSeg cap).1 (S.getSeg cap).2 - a.segs.length) a ∧
    a.decCapacity S cap = { a with segs := a.segs.take (Tr.seg_decCap_segCount (S.getSeg cap).1 (S.getSeg cap).2) } ∧
    (Tr.seg_decCap_segCount (S.getSeg cap).1 (S.getSeg cap).2 ≤ a.segs.length →
      (a.decCapacity S cap).segs.length
        = a.segs.length - Tr.seg_decCap_removed a.segs.length (Tr.seg_decCap_segCount (S.getSeg cap).1 (S.getSeg cap).2)) ∧
    a.reserve S cap = (if Tr.seg_Reserve_grows cap (a.capacity S) = true then a.incCapacity S cap else a) ∧
    a.shrink S cap = (if Tr.seg_Shrink_keeps (a.capacity S) cap = true then a
                      else a.decCapacity S (Tr.seg_Shrink_target a.count cap)) ∧
    a.addBack S = (if Tr.seg_AddBack_hasRoom (S.getSeg a.count).1 a.segs.length = true then { a with count := a.count + 1 }
                   else { (Arr.allocSegs S 1 a) with count := a.count + 1 }) ∧
    a.setCount S cap = (if cap < a.count then { a with count := cap }
                        else if cap > a.count then
                          { (if Tr.seg_incCount_grows cap (a.capacity S) = true then a.incCapacity S cap else a) with count := cap }
                        else a) :=
  TrEq.seg_capacity_ops_translated S a cap hseg

/-- **C16 (the allocation loop of `pvIncCapacity`, from the header text).** One round of
`for (segCount = GetCount(); segCount < segIndex; ++segCount)`: the translated loop test decides whether one more segment of
`GetItemCount(segCount)` items is appended. -/
theorem C16_incCapacity_loop_translated (S : Sizing) (n : Nat) (a : Arr) (target : Nat) (h : target - a.segs.length = n) :
    Arr.allocSegs S n a =
      (if Tr.seg_incCap_more a.segs.length target = true then
        Arr.allocSegs S (n - 1) { a with segs := a.segs ++ [⟨a.next, S.itemCount a.segs.length⟩], next := a.next + 1 }
       else a) :=
  TrEq.allocSegs_loop S n a target h

example : Tr.seg_incCap_segCount 21 48 = 22 ∧ Tr.seg_incCap_segCount 21 0 = 21 ∧ Tr.seg_Shrink_target 10 3 = 10 := by decide

end Momo.Seg
