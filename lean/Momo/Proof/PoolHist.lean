import Momo.Proof.PoolIf
/-!
  State machine of `MemPool` (C09), `blockCount > 1`: every legal history keeps the invariant and an exact
  ledger of the memory manager (`Reach.inv`), and ends with everything returned (`Reach.history`).
  `Reach` (and `Reach1` for `blockCount == 1`, in PoolSingleMerge) is the history of ONE pool; a merge joins the histories of two pools by
  concatenating their event lists, which is adequate because both act on disjoint memory of one manager (`Settles.both`).
  Several managers, interleaved calls, `Swap` and moves: `WReach` (PoolWorld), whose invariant `WInv` contains what
  `Reach.inv` / `Reach1.inv` give for each object.
-/
namespace Momo.Pool

/-- legal histories of a pool with `blockCount > 1`, with all calls made to the memory manager so far.
    `Deallocate` is applied to live blocks only; the manager honours `Contract`; two pools are merged only
    if they hold different memory (they share one manager). -/
inductive Reach (P : Params) : Pool → List Ev → Prop
  | init : Reach P Pool.empty []
  | alloc {p es orc blk p' evs} : Reach P p es → Contract P p orc →
      allocate P p orc = .ok blk p' evs → Reach P p' (es ++ evs)
  | allocFail {p es orc p' evs} : Reach P p es → Contract P p orc →
      allocate P p orc = .badAlloc p' evs → Reach P p' (es ++ evs)
  | dealloc {p es blk p' evs} : Reach P p es → blk ∈ p.live P →
      deallocate P p blk = .ok () p' evs → Reach P p' (es ++ evs)
  | deallocIf {p es f tr p' evs} : Reach P p es →
      deallocateIf P p f = .ok tr p' evs → Reach P p' (es ++ evs)
  | deallocAll {p es p' evs} : Reach P p es →
      deallocateAll P p = .ok () p' evs → Reach P p' (es ++ evs)
  | merge {a ea b eb b' a' evs} : Reach P a ea → Reach P b eb → (∀ x ∈ bufs a.store, x ∉ bufs b.store) →
      mergeFrom P a b = .ok b' a' evs → Reach P a' (ea ++ eb ++ evs)

/-- the ledger of all events so far is exactly the memory the pool holds (`Settles [] es (owned P st)`, `ledgerIs_iff_settles`) -/
def LedgerIs (P : Params) (es : List Ev) (st : List Buffer) : Prop :=
  ∃ L, ledger [] es = some L ∧ L.Perm (owned P st)

theorem ledgerIs_iff_settles {P : Params} {es : List Ev} {st : List Buffer} :
    LedgerIs P es st ↔ Settles [] es (owned P st) := Iff.rfl

theorem LedgerIs.step {P : Params} {es evs : List Ev} {st st' : List Buffer} (h : LedgerIs P es st)
    (hl : LedgerOK P st evs st') : LedgerIs P (es ++ evs) st' :=
  Settles.trans h hl

theorem Reach.inv {P : Params} (hL : P.Legal) (hN2 : 2 ≤ P.N) {p : Pool} {es : List Ev}
    (h : Reach P p es) : PoolWF P p ∧ LedgerIs P es p.store := by
  obtain ⟨hM, hA2⟩ := Legal.multi hL hN2
  induction h with
  | init => exact ⟨PoolWF.empty P, [], rfl, by simp [owned, Pool.empty]⟩
  | @alloc p es orc blk p' evs _ hc he ih =>
    have := allocate_ok hM hN2 ih.1 (orcOK_of_disjoint hM hA2 ih.1.core orc hc)
    rw [he] at this
    exact ⟨this.1.wf, ih.2.step this.1.ledger⟩
  | @allocFail p es orc p' evs _ hc he ih =>
    have := allocate_ok hM hN2 ih.1 (orcOK_of_disjoint hM hA2 ih.1.core orc hc)
    rw [he] at this
    obtain ⟨rfl, rfl, _⟩ := this
    exact ⟨ih.1, by simpa using ih.2⟩
  | @dealloc p es blk p' evs _ hb he ih =>
    obtain ⟨p2, e2, h2, hs⟩ := deallocate_ok hM hN2 hA2 ih.1 blk hb
    rw [he] at h2; cases h2
    exact ⟨hs.wf, ih.2.step hs.ledger⟩
  | @deallocIf p es f tr p' evs _ he ih =>
    obtain ⟨tr2, p2, e2, h2, hwf, _, _, hl⟩ := deallocateIf_ok hM hN2 hA2 ih.1 f
    rw [he] at h2; cases h2
    exact ⟨hwf, ih.2.step hl.settles⟩
  | @deallocAll p es p' evs _ he ih =>
    obtain ⟨p2, e2, h2, hemp, hl⟩ := deallocateAll_ok hM hN2 hA2 ih.1
    rw [he] at h2; cases h2
    rw [hemp]
    exact ⟨PoolWF.empty P, Settles.trans ih.2 hl.settles⟩
  | @merge a ea b eb b' a' evs _ _ hdis he iha ihb =>
    obtain ⟨a2, e2, h2, hwf, _, _, hl⟩ := mergeFrom_ok hM hN2 hA2 iha.1 ihb.1 hdis
    rw [he] at h2; cases h2
    refine ⟨hwf, ?_⟩
    have hboth : LedgerIs P (ea ++ eb) (a.store ++ b.store) := by
      unfold LedgerIs owned; rw [List.map_append]; exact Settles.both iha.2 ihb.2
    exact hboth.step hl.settles

theorem Reach.history {P : Params} (hL : P.Legal) (hN2 : 2 ≤ P.N) {p : Pool} {es : List Ev} (h : Reach P p es) :
    PoolWF P p ∧ p.allocCount = (p.live P).length ∧ LedgerIs P es p.store ∧
    (∃ evs, deallocateAll P p = .ok () Pool.empty evs ∧ ledger [] (es ++ evs) = some []) ∧
    (p.live P = [] → ∃ evs, destroy P p = .ok () Pool.empty evs ∧ ledger [] (es ++ evs) = some []) := by
  obtain ⟨hM, hA2⟩ := Legal.multi hL hN2
  obtain ⟨hwf, hled⟩ := h.inv hL hN2
  have hend : ∀ evs, Frees (owned P p.store) evs [] → ledger [] (es ++ evs) = some [] := fun evs hl =>
    Settles.to_nil (Settles.trans hled hl.settles)
  refine ⟨hwf, hwf.count_exact hM hN2, hled, ?_, ?_⟩
  · obtain ⟨p', evs, h1, h2, h3⟩ := deallocateAll_ok hM hN2 hA2 hwf
    exact ⟨evs, by rw [h1, h2], hend evs h3⟩
  · intro hl
    have h0 : p.allocCount = 0 := by rw [hwf.count_exact hM hN2, hl]; rfl
    obtain ⟨evs, h1, h2⟩ := destroy_ok hM hN2 hA2 hwf h0
    exact ⟨evs, h1, hend evs h2⟩

end Momo.Pool
