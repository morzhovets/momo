import Momo.Proof.TableUpdCol
import Momo.Proof.TableCreate
/-!
  C07: histories. The operations of a table as a data type (`Op`, `applyOp`) with what the environment owes each (`Op.Ok`; `Op.OkFull`
  = the same without `NoF9`, for the statement that is false) and the run of a list of them (`run`, `ValidHist`, `ValidHistFull`).
  Every operation keeps the invariant (`applyOp_inv`), hence every valid history from a table that has it (`run_inv`).
-/
namespace Momo.Table
open List

/-- `f` = where `std::bad_alloc` strikes, `.none` = nowhere -/
inductive Op
  | add (r : Row) (f : Fault)
  | insert (n : Nat) (r : Row) (f : Fault)
  | update (n : Nat) (r : Row) (f : Fault)
  | updateCol (n col v : Nat) (f : Fault)
  | extract (n : Nat) (keepOrder : Bool)
  | extractRef (id : Nat)
  | removeRows (ids : List Nat)
  | removePred (p : Row → Bool)
  | assign (ids : List Nat)
  | clear
  /-- the table is replaced by a filtered copy of itself whose raws get the addresses `addrs` -/
  | copy (p : Row → Bool) (addrs : List Nat)
  | createUnique (cols : List Nat)
  | createMulti (cols : List Nat)
  | dropUnique
  | dropMulti

/-- the raws a copy imports: the rows that pass the filter, at the addresses `addrs`. They keep the identities of the rows
    they copy although `pvImportRaw` makes new raws (Model/Table: "fresh identities"): the copy replaces the table, so the
    old raws are gone and the identities are distinct among the live ones, which is all `Inv` asks. -/
def copyRows (t : Table) (p : Row → Bool) (addrs : List Nat) : List Row :=
  ((t.rows.filter p).zip addrs).map (fun x => { x.1 with addr := x.2 })

def applyOp (vis : Vis) (acc : Acc) (keep : Bool) (t : Table) : Op → Table
  | .add r f => (tryAdd vis acc keep t r f).1
  | .insert n r f => (tryInsert vis acc keep t n r f).1
  | .update n r f => (tryUpdate vis acc keep t n r f).1
  | .updateCol n col v f => (tryUpdateCol vis acc t n col v f).1
  | .extract n ko => (extract vis acc keep t n ko).1
  | .extractRef id => (extractRef vis acc keep t id).1
  | .removeRows ids => removeRows keep t ids
  | .removePred p => removePred keep t p
  | .assign ids => assign keep t ids
  | .clear => clear t
  | .copy p addrs => copyOf vis acc keep t (copyRows t p addrs)
  | .createUnique cols => (createUnique vis acc t cols).1
  | .createMulti cols => (createMulti vis acc t cols).1
  | .dropUnique => dropUnique t
  | .dropMulti => dropMulti t

/-- what the environment guarantees for an operation -/
def Op.Ok (vis : Vis) (acc : Acc) (t : Table) : Op → Prop
  | .add r _ => r.id ∉ ids t.rows ∧ r.addr ∉ t.rows.map (·.addr)
  | .insert _ r _ => r.id ∉ ids t.rows ∧ r.addr ∉ t.rows.map (·.addr)
  | .update _ r _ => r.id ∉ ids t.rows ∧ r.addr ∉ t.rows.map (·.addr)
  | .updateCol n col v _ => (∀ r, t.rows[n]? = some r → col < r.vals.length) ∧
                            (∀ r, t.rows[n]? = some r → NoF9 vis acc t r.id col v)
  | .copy _ addrs => addrs.Nodup
  | .createUnique cols => cols.Nodup
  | .createMulti cols => cols.Nodup
  | _ => True

/-- the same without the hypothesis `NoF9` (what the property asks for) -/
def Op.OkFull (t : Table) : Op → Prop
  | .add r _ => r.id ∉ ids t.rows ∧ r.addr ∉ t.rows.map (·.addr)
  | .insert _ r _ => r.id ∉ ids t.rows ∧ r.addr ∉ t.rows.map (·.addr)
  | .update _ r _ => r.id ∉ ids t.rows ∧ r.addr ∉ t.rows.map (·.addr)
  | .updateCol n col _ _ => ∀ r, t.rows[n]? = some r → col < r.vals.length
  | .copy _ addrs => addrs.Nodup
  | .createUnique cols => cols.Nodup
  | .createMulti cols => cols.Nodup
  | _ => True

def run (vis : Vis) (acc : Acc) (keep : Bool) : Table → List Op → Table
  | t, [] => t
  | t, op :: ops => run vis acc keep (applyOp vis acc keep t op) ops

def ValidHist (vis : Vis) (acc : Acc) (keep : Bool) : Table → List Op → Prop
  | _, [] => True
  | t, op :: ops => op.Ok vis acc t ∧ ValidHist vis acc keep (applyOp vis acc keep t op) ops

def ValidHistFull (vis : Vis) (acc : Acc) (keep : Bool) : Table → List Op → Prop
  | _, [] => True
  | t, op :: ops => op.OkFull t ∧ ValidHistFull vis acc keep (applyOp vis acc keep t op) ops

theorem copyRows_ok {acc : Acc} {keep : Bool} {t : Table} (hinv : Inv acc keep t) (p : Row → Bool) (addrs : List Nat)
    (ha : addrs.Nodup) :
    (ids (copyRows t p addrs)).Nodup ∧ AddrInj (copyRows t p addrs) ∧
    ∀ u ∈ t.uidx, (copyRows t p addrs).Pairwise (fun a b => keyEq u.cols a.vals b.vals = false) := by
  have hsub : (((t.rows.filter p).zip addrs).map (·.1)).Sublist t.rows := by
    exact (ListFacts.zip_map_fst_sublist _ _).trans filter_sublist
  refine ⟨?_, ?_, ?_⟩
  · unfold ids copyRows
    rw [map_map]
    have : ((fun r : Row => r.id) ∘ fun x : Row × Nat => ({ x.1 with addr := x.2 } : Row)) = (fun r : Row => r.id) ∘ (·.1) := rfl
    rw [this, ← map_map]
    exact (hsub.map _).nodup hinv.idsNodup
  · unfold AddrInj copyRows
    rw [map_map]
    have : ((fun r : Row => r.addr) ∘ fun x : Row × Nat => ({ x.1 with addr := x.2 } : Row)) = (·.2) := rfl
    rw [this]
    exact (ListFacts.zip_map_snd_sublist _ _).nodup ha
  · intro u hu
    unfold copyRows
    rw [pairwise_map]
    have h1 := (rows_pairwise_distinct hinv hu).sublist hsub
    rw [pairwise_map] at h1
    exact h1

section hist
variable {vis : Vis} (hc : Complete vis) (acc : Acc) (keep : Bool)
include hc

theorem applyOp_inv (t : Table) (hinv : Inv acc keep t) (op : Op) (hok : op.Ok vis acc t) :
    Inv acc keep (applyOp vis acc keep t op) := by
  cases op with
  | add r f => exact (tryAdd_spec hc acc keep t hinv r hok.1 hok.2 f).1
  | insert n r f => exact (tryInsert_spec hc acc keep t hinv n r hok.1 hok.2 f).1
  | update n r f => exact (tryUpdate_spec hc acc keep t hinv n r hok.1 hok.2 f).1
  | updateCol n col v f => exact (tryUpdateCol_partial hc acc keep t hinv n col v f hok.1 hok.2).1
  | extract n ko => exact (extract_spec hc acc keep t hinv n ko).1
  | extractRef id => exact (extractRef_spec hc acc keep t hinv id).1
  | removeRows rm => exact (removeRows_spec acc keep t hinv rm).1
  | removePred p => exact (removePred_spec acc keep t hinv p).1
  | assign named => exact (assign_spec acc keep t hinv named).1
  | clear => exact (clear_spec acc keep t hinv).1
  | copy p addrs =>
    obtain ⟨h1, h2, h3⟩ := copyRows_ok hinv p addrs hok
    exact (copyOf_spec hc acc keep t hinv _ h1 h2 h3).1
  | createUnique cols => exact (createUnique_spec hc acc keep t hinv cols hok).1
  | createMulti cols => exact (createMulti_spec hc acc keep t hinv cols hok).1
  | dropUnique => exact ⟨hinv.idsNodup, hinv.addrInj, hinv.nums, (by intro u hu; change u ∈ [] at hu; cases hu), hinv.minv⟩
  | dropMulti => exact ⟨hinv.idsNodup, hinv.addrInj, hinv.nums, hinv.uinv, (by intro m hm; change m ∈ [] at hm; cases hm)⟩

theorem run_inv : ∀ (ops : List Op) (t : Table), Inv acc keep t → ValidHist vis acc keep t ops → Inv acc keep (run vis acc keep t ops)
  | [], _, hinv, _ => hinv
  | op :: ops, t, hinv, hv => run_inv ops _ (applyOp_inv hc acc keep t hinv op hv.1) hv.2

end hist
end Momo.Table
