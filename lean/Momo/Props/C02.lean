import Momo.Proof.BTreeHistory
import Momo.Proof.TrEqMisc
import Momo.Proof.TrEqWave2Tree
/-!
# C02 — B-tree set/map always equals the abstract sorted (multi)sequence

Model: `Momo/Model/BTree.lean` (mirrors `TreeSet.h`, `details/TreeNode.h`; `TreeMap` forwards to a `TreeSet` of pairs).
The `…_translated` theorems at the end: functions translated from the header text equal the model's.

Statement (properties.jsonl): after any sequence of operations on an ordered set/map or multiset/multimap (insert, hinted
add, range insert, remove by key, iterator, iterator range or predicate, extract and re-insert, key reset, clear, copy,
move, swap, merge), forward traversal yields exactly the reference sequence in non-decreasing key order and backward
traversal yields its reverse; equivalent keys keep insertion order. Lower bound, upper bound, find, contains, key count
and every iterator returned by insert/remove denote the same positions as in the reference sequence, for every node
capacity, capacity step, node layout (contiguous or indexed), search strategy (linear or binary) and item relocation
category.

How the quantifier is met: every theorem holds for every `Cfg` (node capacity `maxCap ≥ 1`, capacity step, block-count
rule, linear/binary search, unique/multi), every item type `α`, every comparison `lt` that satisfies `Order`
(asymmetric, "not greater" transitive — what a strict weak order gives), every tree that satisfies the invariant
`Tree.WF` (which allows empty leaves and empty internal nodes), every iterator of it. `C02_history` shows that all
states reachable from the empty container by any finite history of the operations satisfy the hypotheses. The node layout
(contiguous / indexed) and the item relocation category do not occur in the model (items are values); they are covered by
the correspondence run.
-/
namespace Momo.BTree
open Node
variable {α : Type}

/-- **Lower bound, upper bound.** With linear or binary in-node search (`cfg.linear` arbitrary), `GetLowerBound(k)` /
`GetUpperBound(k)` are iterators whose in-order index is the index `std::lower_bound` / `std::upper_bound` give on the
reference sequence. -/
theorem C02_bounds (lt : α → α → Bool) (ho : Order lt) (cfg : Cfg) (t : Tree α) (hw : t.WF cfg)
    (hs : SortedBy lt cfg.multi t.toList) (k : α) :
    t.idxOf (Tree.lowerBound lt cfg t k) = lowerIdx lt t.toList k ∧ t.ValidPos (Tree.lowerBound lt cfg t k) ∧
    t.idxOf (Tree.upperBound lt cfg t k) = upperIdx lt t.toList k ∧ t.ValidPos (Tree.upperBound lt cfg t k) := by
  obtain ⟨a, b⟩ := tree_lowerBound_spec lt ho cfg t hw (hs.weak ho) k
  obtain ⟨c, d⟩ := tree_upperBound_spec lt ho cfg t hw (hs.weak ho) k
  exact ⟨a, b, c, d⟩

/-- **Find, contains.** `ContainsKey(k)` holds exactly when the reference sequence has an element equivalent to `k`;
`Find(k)` is then the lower-bound position, otherwise `GetEnd()` (index = length). -/
theorem C02_find_contains (lt : α → α → Bool) (ho : Order lt) (cfg : Cfg) (t : Tree α) (hw : t.WF cfg)
    (hs : SortedBy lt cfg.multi t.toList) (k : α) :
    (Tree.contains lt cfg t k = true ↔ ∃ y ∈ t.toList, equiv lt y k = true) ∧
    t.idxOf (Tree.find lt cfg t k) = (if Tree.contains lt cfg t k then lowerIdx lt t.toList k else t.toList.length) :=
  tree_find_spec lt ho cfg t hw (hs.weak ho) k

/-- **Forward and backward traversal.** Iterating `operator++` from `GetBegin()` to `GetEnd()` yields exactly the
in-order list; iterating `operator--` from `GetEnd()` to `GetBegin()` yields its reverse — on every well-formed tree,
including trees with empty leaves and empty internal nodes. -/
theorem C02_traversal (cfg : Cfg) (t : Tree α) (hw : t.WF cfg) :
    t.traverse = t.toList ∧ t.traverseBack = t.toList.reverse :=
  ⟨tree_traverse_spec cfg t hw, tree_traverseBack_spec cfg t hw⟩

/-- **Iterator steps.** `++` moves an element iterator to index + 1, `--` moves an iterator with positive index to
index − 1; `GetBegin()` has index 0 and `GetEnd()` index = length; dereferencing an element iterator gives the element at
its index. -/
theorem C02_iterator_steps (cfg : Cfg) (t : Tree α) (hw : t.WF cfg) :
    (∀ pos, t.ValidElem pos → t.idxOf (t.next pos) = t.idxOf pos + 1 ∧ t.ValidPos (t.next pos)) ∧
    (∀ pos, t.ValidPos pos → 0 < t.idxOf pos → t.idxOf (t.prev pos) + 1 = t.idxOf pos ∧ t.ValidElem (t.prev pos)) ∧
    t.idxOf t.beginPos = 0 ∧ t.idxOf t.endPos = t.toList.length ∧
    (∀ pos, t.ValidElem pos → ∃ x, t.elemAt? pos = some x ∧ t.toList[t.idxOf pos]? = some x) := by
  exact ⟨fun pos h => tree_next_spec cfg t hw pos h, fun pos h hp => tree_prev_spec cfg t hw pos h hp,
    (tree_begin_spec cfg t hw).1, (tree_end_spec cfg t hw).1,
    fun pos h => tree_elemAt_spec cfg t hw pos h⟩

/-- **Hinted add (`Add(iter, item)`, `pvAdd`).** For every iterator of a well-formed tree — in a leaf, in an internal
node or `GetEnd()` — and whichever way `pvAdd` takes (in place, `pvAddGrow`, `pvAddSplit` with cascading splits up to a new
root): the in-order list gets the item at the iterator's index, the invariant is kept, and the returned iterator names
the new element at that index. No order assumption is needed. -/
theorem C02_hinted_add (cfg : Cfg) (hmax : 0 < cfg.maxCap) (t : Tree α) (hw : t.WF cfg) (pos : Pos)
    (hv : t.ValidPos pos) (x : α) :
    (t.add cfg pos x).1.toList = t.toList.insertIdx (t.idxOf pos) x ∧ (t.add cfg pos x).1.WF cfg ∧
    (t.add cfg pos x).1.idxOf (t.add cfg pos x).2 = t.idxOf pos ∧ (t.add cfg pos x).1.ValidElem (t.add cfg pos x).2 :=
  tree_add_spec cfg hmax t hw pos hv x

/-- **Insert (`pvInsert`): equivalent keys keep insertion order.** On a sorted well-formed tree the item goes to the
upper-bound index (behind all equivalent keys); with unique keys nothing is inserted when an equivalent key is present
and the returned iterator names that element. -/
theorem C02_insert_stable (lt : α → α → Bool) (ho : Order lt) (cfg : Cfg) (hmax : 0 < cfg.maxCap) (t : Tree α)
    (hw : t.WF cfg) (hs : SortedBy lt cfg.multi t.toList) (x : α) :
    (if cfg.multi = false ∧ ∃ y ∈ t.toList, equiv lt y x = true then
        (Tree.insert lt cfg t x).1 = t ∧ (Tree.insert lt cfg t x).2.2 = false ∧
        ∃ z, t.toList[t.idxOf (Tree.insert lt cfg t x).2.1]? = some z ∧ equiv lt z x = true
      else
        (Tree.insert lt cfg t x).1.toList = t.toList.insertIdx (upperIdx lt t.toList x) x ∧
        (Tree.insert lt cfg t x).2.2 = true ∧
        (Tree.insert lt cfg t x).1.idxOf (Tree.insert lt cfg t x).2.1 = upperIdx lt t.toList x) ∧
    (Tree.insert lt cfg t x).1.WF cfg ∧ SortedBy lt cfg.multi (Tree.insert lt cfg t x).1.toList ∧
    (Tree.insert lt cfg t x).1.ValidElem (Tree.insert lt cfg t x).2.1 :=
  tree_insert_spec lt ho cfg hmax t hw hs x

/-- **Remove by iterator / extract (`pvRemove`, `pvRemoveInternal`, `pvRebalance`).** For every element iterator —
a leaf item, or an internal item whose predecessor is pulled up from a leaf or from an internal node of the left
subtree, or whose left subtree is an empty chain that is destroyed — followed by the whole rebalancing loop (sibling
merges, `fast` stop rule, saved node, root collapse): the in-order list loses exactly that element, the invariant is
kept, and the returned iterator denotes the same index (the element that followed, or `GetEnd()`). -/
theorem C02_remove_iterator (cfg : Cfg) (t : Tree α) (hw : t.WF cfg) (pos : Pos) (hv : t.ValidElem pos) :
    (t.remove cfg pos).1.toList = t.toList.eraseIdx (t.idxOf pos) ∧ (t.remove cfg pos).1.WF cfg ∧
    (t.remove cfg pos).1.idxOf (t.remove cfg pos).2 = t.idxOf pos ∧ (t.remove cfg pos).1.ValidPos (t.remove cfg pos).2 :=
  tree_remove_spec cfg t hw pos hv

/-- **Rebalancing alone.** `pvRebalance(node, savedNode, fast)` from any node towards the root, with any saved leaf
and either stop rule, keeps the in-order list, the balance and the capacities; the saved leaf is still a leaf with the
same number of elements before it. -/
theorem C02_rebalance_preserves (cfg : Cfg) (fast : Bool) {d : Nat} {r : Node α} (hb : Bal d r) (path saved : List Nat) :
    toList (rebalance cfg fast r path saved).1 = toList r ∧ (∃ d', Bal d' (rebalance cfg fast r path saved).1) ∧
    (∀ cap its, nodeAt? r saved = some (leaf cap its) →
      ∃ cap' its', nodeAt? (rebalance cfg fast r path saved).1 (rebalance cfg fast r path saved).2 = some (leaf cap' its') ∧
        its.length ≤ its'.length ∧
        offsetOf (rebalance cfg fast r path saved).1 (rebalance cfg fast r path saved).2 = offsetOf r saved) ∧
    (Caps cfg.maxCap r → Caps cfg.maxCap (rebalance cfg fast r path saved).1) :=
  rebalance_spec cfg fast hb path saved

/-- **Key reset.** `ResetKey(iter, key)` replaces the element at the iterator's index and nothing else. -/
theorem C02_reset_key (cfg : Cfg) (t : Tree α) (hw : t.WF cfg) (pos : Pos) (hv : t.ValidElem pos) (x : α) :
    (t.resetKey pos x).toList = t.toList.set (t.idxOf pos) x ∧ (t.resetKey pos x).WF cfg :=
  tree_resetKey_spec cfg t hw pos hv x

/-- **Key count.** `GetKeyCount(k)` is the distance between the bounds, for unique keys (0 or 1) and for multi keys
(the loop of `pvGetKeyCount`). -/
theorem C02_key_count (lt : α → α → Bool) (ho : Order lt) (cfg : Cfg) (t : Tree α) (hw : t.WF cfg)
    (hs : SortedBy lt cfg.multi t.toList) (k : α) :
    Tree.keyCount lt cfg t k = upperIdx lt t.toList k - lowerIdx lt t.toList k :=
  tree_keyCount_spec lt ho cfg t hw hs k

/-- **Remove an iterator range (`Remove(begin, end)`, `pvRemoveRange`).** For any two iterators `b ≤ e` of a
well-formed tree — same leaf, or the general path through the common parent (predecessor moved into the separator,
both boundary subtrees truncated, `pvDestroyInternal` in between, two non-fast rebalancing passes), or everything
(`Clear`) — the in-order list loses exactly the elements `idx b ..< idx e`, the invariant is kept and the returned
iterator has index `idx b`. -/
theorem C02_remove_range (cfg : Cfg) (t : Tree α) (hw : t.WF cfg) (b e : Pos) (hvb : t.ValidPos b)
    (hve : t.ValidPos e) (hle : t.idxOf b ≤ t.idxOf e) :
    (Tree.removeRange cfg t b e (t.idxOf e - t.idxOf b)).1.toList =
        t.toList.take (t.idxOf b) ++ t.toList.drop (t.idxOf e) ∧
    (Tree.removeRange cfg t b e (t.idxOf e - t.idxOf b)).1.WF cfg ∧
    (Tree.removeRange cfg t b e (t.idxOf e - t.idxOf b)).1.idxOf (Tree.removeRange cfg t b e (t.idxOf e - t.idxOf b)).2 =
        t.idxOf b ∧
    (Tree.removeRange cfg t b e (t.idxOf e - t.idxOf b)).1.ValidPos (Tree.removeRange cfg t b e (t.idxOf e - t.idxOf b)).2 :=
  have h := Cur.removeRange ⟨hw, hvb, rfl, rfl⟩ ⟨hw, hve, rfl, rfl⟩ hle
  ⟨h.list, h.wf, h.idx, h.valid⟩

/-- **Remove by key.** `Remove(key)` removes exactly the elements equivalent to the key (one iterator removal for
unique keys, the run between the bounds as an iterator range for multi keys) and returns their number. -/
theorem C02_remove_key (lt : α → α → Bool) (ho : Order lt) (cfg : Cfg) (t : Tree α) (hw : t.WF cfg)
    (hs : SortedBy lt cfg.multi t.toList) (k : α) :
    (Tree.removeKey lt cfg t k).1.toList = t.toList.filter (fun y => !equiv lt y k) ∧
    (Tree.removeKey lt cfg t k).1.WF cfg ∧
    (Tree.removeKey lt cfg t k).2 = upperIdx lt t.toList k - lowerIdx lt t.toList k :=
  tree_removeKey_spec lt ho cfg t hw hs k

/-- **Remove by predicate.** `Remove(filter)` removes exactly the elements satisfying the predicate. -/
theorem C02_remove_if (cfg : Cfg) (f : α → Bool) (t : Tree α) (hw : t.WF cfg) :
    (Tree.removeIf cfg f t).toList = t.toList.filter (fun y => !f y) ∧ (Tree.removeIf cfg f t).WF cfg :=
  tree_removeIf_spec cfg f t hw

/-- **Range insert.** `Insert(begin, end)` with its "right after the previous element" shortcut equals inserting
the elements one after the other by stable insertion. -/
theorem C02_insert_range (lt : α → α → Bool) (ho : Order lt) (cfg : Cfg) (hmax : 0 < cfg.maxCap) (t : Tree α)
    (hw : t.WF cfg) (hs : SortedBy lt cfg.multi t.toList) (xs : List α) :
    (Tree.insertRange lt cfg t xs).toList = xs.foldl (Spec.insert1 lt cfg.multi) t.toList ∧
    (Tree.insertRange lt cfg t xs).WF cfg ∧ SortedBy lt cfg.multi (Tree.insertRange lt cfg t xs).toList :=
  tree_insertRange_spec lt ho cfg hmax t hw hs xs

/-- **Fast merge (`pvMergeFast`).** Two non-empty balanced trees of any heights, the keys of the first before the
keys of the second: one balanced tree with the concatenated sequence (separator taken from the shorter tree,
wrapper nodes when the spine of the taller tree is full, new root when it is full up to the top). -/
theorem C02_merge_fast (cfg : Cfg) (hmax : 0 < cfg.maxCap) {d1 d2 : Nat} {r1 r2 : Node α} (hb1 : Bal d1 r1)
    (hb2 : Bal d2 r2) (hne1 : toList r1 ≠ []) (hne2 : toList r2 ≠ []) :
    toList (mergeFast cfg r1 r2) = toList r1 ++ toList r2 ∧ (∃ d, Bal d (mergeFast cfg r1 r2)) ∧
    (Caps cfg.maxCap r1 → Caps cfg.maxCap r2 → Caps cfg.maxCap (mergeFast cfg r1 r2)) :=
  mergeFast_spec cfg hmax hb1 hb2 hne1 hne2

/-- **Merge (`MergeTo(TreeSet&)`), every path.** Source empty, destination empty (swap), whole source before or
behind the destination (`pvMergeFast`), otherwise `pvMergeTo` or `pvMergeToLinear` by the size rule: the destination
ends with the reference merge `Spec.merge` (concatenation when ordered, else stable insertion of the source
elements in order), sorted and well-formed; what stays in the source is well-formed too. -/
theorem C02_merge (lt : α → α → Bool) (ho : Order lt) (cfg : Cfg) (hmax : 0 < cfg.maxCap) (src dst : Tree α)
    (hws : src.WF cfg) (hss : SortedBy lt cfg.multi src.toList) (hwd : dst.WF cfg)
    (hsd : SortedBy lt cfg.multi dst.toList) :
    (Tree.mergeTo lt cfg src dst).2.toList = Spec.merge lt cfg.multi src.toList dst.toList ∧
    (Tree.mergeTo lt cfg src dst).2.WF cfg ∧ SortedBy lt cfg.multi (Tree.mergeTo lt cfg src dst).2.toList ∧
    (Tree.mergeTo lt cfg src dst).1.WF cfg :=
  tree_mergeTo_spec lt ho cfg hmax src dst hws hss hwd hsd

/-- **Copy.** The copy constructor (`pvCopy`, every leaf re-created with the capacity its pool rule gives) yields a
well-formed container with the same sequence. -/
theorem C02_copy (cfg : Cfg) (t : Tree α) (hw : t.WF cfg) :
    (Tree.copy cfg t).toList = t.toList ∧ (Tree.copy cfg t).WF cfg :=
  tree_copy_spec cfg t hw

/-- **The property over histories.** For every finite history of the operations of `OpFull` — insert, hinted add
(every valid hint), remove by iterator / extract (+ re-insert = insert), key reset, clear, remove by key, by
iterator range and by predicate, range insert, merge from another well-formed sorted container by every path of
`MergeTo`, copy — from the empty container, for every configuration and every order: the model's in-order list equals
the reference sequence computed by `Spec`, the invariant holds and the sequence is sorted. Hence every reachable state
satisfies the hypotheses of the theorems above (bounds, find, key count, traversals, returned iterators).
Move and swap only exchange whole containers and are not operations of a single container's history. -/
theorem C02_history (lt : α → α → Bool) (ho : Order lt) (cfg : Cfg) (hmax : 0 < cfg.maxCap)
    (ops : List (OpFull α)) (l' : List α) (h : Spec.runFull lt cfg [] ops = some l') :
    (ops.foldl (Tree.runOpFull lt cfg) {}).toList = l' ∧ (ops.foldl (Tree.runOpFull lt cfg) {}).WF cfg ∧
    SortedBy lt cfg.multi (ops.foldl (Tree.runOpFull lt cfg) {}).toList :=
  runFull_spec lt ho cfg hmax ops {} (Tree.wf_empty cfg) (sortedBy_nil lt _) l' h

/-- the same for the positional core (insert, hinted add, remove by iterator, key reset, clear) with a decidable
reference run — used by the examples below -/
theorem C02_history_core (lt : α → α → Bool) (ho : Order lt) (cfg : Cfg) (hmax : 0 < cfg.maxCap)
    (ops : List (Op α)) (l' : List α) (h : Spec.run lt cfg.multi [] ops = some l') :
    (ops.foldl (Tree.runOp lt cfg) {}).toList = l' ∧ (ops.foldl (Tree.runOp lt cfg) {}).WF cfg ∧
    SortedBy lt cfg.multi (ops.foldl (Tree.runOp lt cfg) {}).toList :=
  run_spec lt ho cfg hmax ops {} (Tree.wf_empty cfg) (sortedBy_nil lt _) l' h

/-! Non-vacuity: concrete configurations, orders, histories and trees meeting the hypotheses. -/

/-- keys with identities: the order looks at the key only -/
def exLt (a b : Nat × Nat) : Bool := a.1 < b.1

theorem exLt_order : Order exLt :=
  ⟨fun a b h => by simp only [exLt, decide_eq_true_eq, decide_eq_false_iff_not] at h ⊢; omega,
   fun a b c h1 h2 => by simp only [exLt, decide_eq_false_iff_not] at h1 h2 ⊢; omega⟩

def exCfg : Cfg := { maxCap := 2, step := 1, blockGt1 := false, linear := false, multi := true }

/-- a history with duplicates, a hinted add, an internal removal and a key reset: defined in `Spec`, and the model
    (splits, merges and all) ends with the same sequence -/
def exOps : List (Op (Nat × Nat)) :=
  [.insert (5, 1), .insert (3, 2), .insert (5, 3), .insert (7, 4), .insert (1, 5), .insert (5, 6), .addHint 2 (5, 7),
   .insert (9, 8), .removeAt 3, .removeAt 0, .resetKey 0 (4, 2), .insert (2, 9)]

example : Spec.run exLt true [] exOps = some [(2, 9), (4, 2), (5, 7), (5, 3), (5, 6), (7, 4), (9, 8)] := by decide
example : (exOps.foldl (Tree.runOp exLt exCfg) {}).toList = [(2, 9), (4, 2), (5, 7), (5, 3), (5, 6), (7, 4), (9, 8)] := by
  decide +kernel
example : ((exOps.foldl (Tree.runOp exLt exCfg) {}).shape exCfg) =
    some [(false, 0, 2), (false, 2, 2), (true, 2, 2), (true, 2, 2), (true, 1, 1)] := by
  decide +kernel   -- the root is an empty internal node left behind by lazy rebalancing

/-- the state reached by that history satisfies every hypothesis of the theorems above -/
example : (exOps.foldl (Tree.runOp exLt exCfg) {}).WF exCfg ∧
    SortedBy exLt exCfg.multi (exOps.foldl (Tree.runOp exLt exCfg) {}).toList :=
  ((C02_history_core exLt exLt_order exCfg (by decide) exOps
    [(2, 9), (4, 2), (5, 7), (5, 3), (5, 6), (7, 4), (9, 8)] (by decide)).2)

/-- range removal through the common parent, removal by key of a run of duplicates and a fast merge, on the model -/
example : ((Tree.removeRange exCfg (exOps.foldl (Tree.runOp exLt exCfg) {})
      ((exOps.foldl (Tree.runOp exLt exCfg) {}).posOfIdx 1) ((exOps.foldl (Tree.runOp exLt exCfg) {}).posOfIdx 5) 4).1.toList)
    = [(2, 9), (7, 4), (9, 8)] := by decide +kernel
example : ((Tree.removeKey exLt exCfg (exOps.foldl (Tree.runOp exLt exCfg) {}) (5, 0)).1.toList,
           (Tree.removeKey exLt exCfg (exOps.foldl (Tree.runOp exLt exCfg) {}) (5, 0)).2)
    = ([(2, 9), (4, 2), (7, 4), (9, 8)], 3) := by decide +kernel

/-- a tree of capacity 1 with an empty leaf and an empty internal node satisfies the structure predicate -/
example : Bal 2 (inner [(5, 1)] [inner [] [leaf 1 [(3, 2)]], inner [(7, 3)] [leaf 1 ([] : List (Nat × Nat)), leaf 1 [(9, 4)]]]) := by
  refine Bal.inner 1 _ _ rfl ?_
  intro c hc
  simp only [List.mem_cons, List.not_mem_nil, or_false] at hc
  rcases hc with rfl | rfl
  · exact Bal.inner 0 _ _ rfl (by intro c hc; simp at hc; subst hc; exact Bal.leaf _ _)
  · exact Bal.inner 0 _ _ rfl (by
      intro c hc; simp only [List.mem_cons, List.not_mem_nil, or_false] at hc
      rcases hc with rfl | rfl <;> exact Bal.leaf _ _)

/-! ### The code itself, not only the hand-written model

`Momo.Tr.*` are Lean definitions regenerated on every check by tools/translate.py from the *function bodies* in the
current headers (C++ integer semantics explicit: wrap-around of `size_t`, promotion and truncation of the byte fields,
the `while` loop). The theorems below are about those generated definitions. -/
/-- `TreeNode::GetSplitItemIndex` as translated from the current header is the split rule `splitIdx` of the model -/
theorem C02_splitIdx_translated (itemCount newItemIndex : Nat) :
    Tr.tree_GetSplitItemIndex itemCount newItemIndex = splitIdx itemCount newItemIndex :=
  TrEq.tr_splitIdx itemCount newItemIndex

example : Tr.tree_GetSplitItemIndex 8 2 = 3 ∧ Tr.tree_GetSplitItemIndex 8 5 = 4 := by decide

/-! #### area Wave2 (lean/Momo/Translated/Wave2.lean; proofs in Proof/TrEqWave2Tree.lean) -/

/-- **Node capacities come from the header text.** The capacity the real `Node::Create(params, isLeaf, count)` gives a node —
`pvGetLeafMemPoolIndex` (first-pool rule, `(maxCapacity - count) / capacityStep` clamped to `leafMemPoolCount - 1`), the
constructor's `static_cast<uint8_t>`, `IsLeaf()`, `GetCapacity()`, all translated from details/TreeNode.h — is the model's
`leafCap` for a leaf and `maxCapacity` (`capOf` of an internal node) for an internal node, for every legal instantiation
(`maxCapacity < 256` is the static assertion of the class, `count ≤ maxCapacity` the assertion of `Create`). -/
theorem C02_node_capacity_translated (cfg : Cfg) (bc ia count : Nat) (hM : cfg.maxCap < 256) (hs0 : 0 < cfg.step)
    (hs : cfg.step < 2 ^ 63) (hc : count ≤ cfg.maxCap) (hb : cfg.blockGt1 = decide (bc > 1)) :
    Tr.tree_leafMemPoolCount cfg.maxCap cfg.step = lastLeafPool cfg + 1 ∧
    Tr.tree_GetCapacity cfg.maxCap cfg.step
        (Tr.tree_ctorMemPoolIndex (Tr.tree_pvGetLeafMemPoolIndex cfg.maxCap cfg.step bc ia count)) = leafCap cfg ia count ∧
    Tr.tree_IsLeaf cfg.maxCap cfg.step (Tr.tree_ctorMemPoolIndex (Tr.tree_internalMemPoolIndex cfg.maxCap cfg.step)) = false ∧
    Tr.tree_GetCapacity cfg.maxCap cfg.step (Tr.tree_ctorMemPoolIndex (Tr.tree_internalMemPoolIndex cfg.maxCap cfg.step))
      = capOf cfg (Node.inner ([] : List Nat) []) :=
  ⟨TrEq.tr_tree_leafMemPoolCount cfg hs (by omega), TrEq.tr_tree_leafCap cfg bc ia count hM hs hc hb,
   TrEq.tr_tree_innerCap cfg hM hs0 hs⟩

/-- **`pvAdd` at a leaf, written with the code of the headers.** The model's `addLeaf` (about which `C02_hinted_add` and the
history theorem speak) is the case analysis of the real `pvAdd` with every test (`itemCount < GetCapacity()`,
`itemCount < nodeMaxCapacity`, `newItemIndex <= splitItemIndex`), the split point (`GetSplitItemIndex`), every node size
handed to `CreateNode` by `GrowLeafNode` / `pvSplitNode` and the new item's index in the right half taken from the
translated TreeSet.h / TreeNode.h. -/
theorem C02_add_leaf_translated {α : Type} (cfg : Cfg) (ia cap : Nat) (items : List α) (i : Nat) (x : α)
    (hn : items.length < 2 ^ 64 - 1) :
    addLeaf cfg ia cap items i x =
      if Tr.tree_add_fits items.length cap = true then .ok (.leaf cap (items.insertIdx i x)) ⟨[], i⟩
      else if Tr.tree_add_grows items.length cfg.maxCap = true then
        .ok (.leaf (leafCap cfg ia (Tr.tree_grow_count items.length)) (items.insertIdx i x)) ⟨[], i⟩
      else if Tr.tree_split_left i (Tr.tree_GetSplitItemIndex items.length i) = true then
        match (items.insertIdx i x)[Tr.tree_GetSplitItemIndex items.length i + 1]? with
        | some sep => .split
            (.leaf (leafCap cfg ia (Tr.tree_split_count1L (Tr.tree_GetSplitItemIndex items.length i)))
              ((items.insertIdx i x).take (Tr.tree_GetSplitItemIndex items.length i + 1)))
            sep
            (.leaf (leafCap cfg ia (Tr.tree_split_count2L items.length (Tr.tree_GetSplitItemIndex items.length i)))
              ((items.insertIdx i x).drop (Tr.tree_GetSplitItemIndex items.length i + 2)))
            false ⟨[], i⟩
        | none => .ok (.leaf cap items) ⟨[], i⟩
      else
        match (items.insertIdx i x)[Tr.tree_GetSplitItemIndex items.length i]? with
        | some sep => .split
            (.leaf (leafCap cfg ia (Tr.tree_split_count1R (Tr.tree_GetSplitItemIndex items.length i)))
              ((items.insertIdx i x).take (Tr.tree_GetSplitItemIndex items.length i)))
            sep
            (.leaf (leafCap cfg ia (Tr.tree_split_count2R items.length (Tr.tree_GetSplitItemIndex items.length i)))
              ((items.insertIdx i x).drop (Tr.tree_GetSplitItemIndex items.length i + 1)))
            true ⟨[], Tr.tree_split_newIndexR i (Tr.tree_GetSplitItemIndex items.length i)⟩
        | none => .ok (.leaf cap items) ⟨[], i⟩ :=
  TrEq.addLeaf_translated cfg ia cap items i x hn

/-- **The merge test of `pvRebalance`, from the header text.** The model's `tryMerge … i` (the step `C02_rebalance_preserves`
and the removal theorems are about) is the real `pvRebalance(parentNode, i + 1, savedNode)`: it gives up on the translated
`index == 0 || index > GetCount()`, works on the pair at the translated `--index`, and merges exactly when the translated
`itemCount1 + itemCount2 + 1 > node1->GetCapacity()` is false (and the right node is not the saved one). -/
theorem C02_merge_test_translated {α : Type} (cfg : Cfg) (items : List α) (cs : List (Node α)) (i : Nat) (saved : Option (List Nat))
    (hi : i < items.length) (hcs : cs.length = items.length + 1) (hcnt : ∀ n ∈ cs, n.count < 2 ^ 63) :
    tryMerge cfg items cs i saved =
      if Tr.tree_reb_noPair (i + 1) items.length = true then none
      else
        match items[Tr.tree_reb_leftIndex (i + 1)]?, cs[Tr.tree_reb_leftIndex (i + 1)]?, cs[Tr.tree_reb_leftIndex (i + 1) + 1]? with
        | some sep, some n1, some n2 =>
          if saved = some [Tr.tree_reb_leftIndex (i + 1) + 1] then none
          else if Tr.tree_reb_tooBig n1.count n2.count (capOf cfg n1) = true then none
          else some (.inner (items.eraseIdx (Tr.tree_reb_leftIndex (i + 1)))
                      (cs.take (Tr.tree_reb_leftIndex (i + 1)) ++ mergeNodes n1 sep n2 :: cs.drop (Tr.tree_reb_leftIndex (i + 1) + 2)),
                     saved.map (mergeSaved (Tr.tree_reb_leftIndex (i + 1)) n1.count))
        | _, _, _ => none :=
  TrEq.tryMerge_translated cfg items cs i saved hi hcs hcnt

/-- **The in-node binary search, from the header text (the whole loop).** The binary-search branch of the real
`pvFindFirst(node, pred)` — `leftIndex`, `rightIndex`, `middleIndex = (leftIndex + rightIndex) / 2`, the `while` loop — run on the
answers of the predicate is the model's `findIn false` (= `findBin`), the function `C02_bounds` / `C02_find_contains` are about. -/
theorem C02_find_bin_translated {α : Type} (p : α → Bool) (items : List α) (pred : Nat → Nat)
    (hpred : ∀ i (h : i < items.length), pred i ≠ 0 ↔ p items[i] = true) (hlen : items.length < 2 ^ 63) :
    Tr.tree_findFirst_bin pred items.length = Node.findIn false p items :=
  TrEq.tr_tree_findFirst_bin p items pred hpred hlen

example : Tr.tree_GetCapacity 32 4 (Tr.tree_ctorMemPoolIndex (Tr.tree_pvGetLeafMemPoolIndex 32 4 8 2 5)) = 16
    ∧ Tr.tree_leafMemPoolCount 32 4 = 5 ∧ Tr.tree_findFirst_bin (fun i => if i ≥ 3 then 1 else 0) 7 = 3 := by decide

end Momo.BTree
