import Momo.Proof.HTLedgerBase
import Momo.Proof.ListFacts
import Momo.Proof.HashTableOps
/-!
  C03 / C04 for the hash family: the ledger follows the books through the pool traffic, the migration `pvRelocateItems`, `Clear` and
  the destructor - for every table, every stopping point, every key list: no fact about the table is used beyond `st.t.gens ≠ []`
  (`relocL_led`).

  In the lemmas about one part of the books (pool buffers, bucket arrays, element objects) `B0` / `R` / `B` / `E` stand for everything
  else the monitor holds: the other parts of the container and the frame. The frame stands last among the explicit arguments of a lemma
  about an operation (`… w FB FE`), in front (`cfg B0 E : ∀ …`) in the lemmas about the recursive helpers, where what follows the colon
  is what the recursion varies.
  `hp` of the destructor lemmas is the clause `nil` of `BooksOK` (HTLedgerOps): a container without a bucket array owns nothing but its
  crew.
-/
namespace Momo.HTL
open Momo Momo.HT Momo.Ledger

/-- the ledger's view `(id, manager class, size)` of a block the books keep as `(id, size)` -/
def blkOf (cfg : Cfg) (p : Nat × Nat) : Blk := (p.1, cfg.mgr, p.2)

theorem St.blocks_eq (cfg : Cfg) (st : St) :
    st.blocks cfg = (optL st.crew).map (fun b => (b, cfg.mgr, cfg.csz)) ++ (optL st.params).map (fun b => (b, cfg.mgr, cfg.psz)) ++
      st.arrs.map (blkOf cfg) ++ st.bufs.map (blkOf cfg) := rfl

theorem getBufs_led (cfg : Cfg) (B0 : List Blk) (E : List Nat) :
    ∀ (gets : List Nat) (bufs : List (Nat × Nat)) (w : W), Led w (bufs.map (blkOf cfg) ++ B0) E →
      Led (getBufs cfg gets bufs w).2 ((getBufs cfg gets bufs w).1.map (blkOf cfg) ++ B0) E := by
  intro gets
  induction gets with
  | nil => intro bufs w h; exact h
  | cons n r ih =>
    intro bufs w h
    exact ih _ _ (h.alloc cfg.mgr n)

theorem freeBufs_led (cfg : Cfg) (B0 : List Blk) (E : List Nat) :
    ∀ (frees : List Nat) (bufs : List (Nat × Nat)) (w : W), Led w (bufs.map (blkOf cfg) ++ B0) E →
      Led (freeBufs cfg frees bufs w).2 ((freeBufs cfg frees bufs w).1.map (blkOf cfg) ++ B0) E := by
  intro frees
  induction frees with
  | nil => intro bufs w h; exact h
  | cons i r ih =>
    intro bufs w h
    simp only [freeBufs]
    cases hi : bufs[i]? with
    | none => exact ih bufs w h
    | some p =>
      simp only
      apply ih
      have hperm : (bufs.map (blkOf cfg) ++ B0).Perm ((p.1, cfg.mgr, p.2) :: ((bufs.eraseIdx i).map (blkOf cfg) ++ B0)) := by
        have h2 := ((ListFacts.perm_cons_eraseIdx hi).symm.map (blkOf cfg)).append_right B0
        simpa [blkOf] using h2
      exact (h.perm hperm (List.Perm.refl _)).free

theorem freeAllBufs_led (cfg : Cfg) (B0 : List Blk) (E : List Nat) :
    ∀ (bufs : List (Nat × Nat)) (w : W), Led w (bufs.map (blkOf cfg) ++ B0) E → Led (freeAllBufs cfg bufs w) B0 E := by
  intro bufs
  induction bufs with
  | nil => intro w h; exact h
  | cons p r ih =>
    intro w h
    simp only [freeAllBufs]
    apply ih
    exact Led.free (b := p.1) (m := cfg.mgr) (n := p.2) h

theorem poolTraffic_led (cfg : Cfg) (st : St) (p : PoolT) (w : W) (FB : List Blk) (E : List Nat)
    (h : Led w (st.blocks cfg ++ FB) E) :
    Led (poolTraffic cfg st p w).2 ((poolTraffic cfg st p w).1.blocks cfg ++ FB) E ∧
    (poolTraffic cfg st p w).1.t = st.t ∧ (poolTraffic cfg st p w).1.els = st.els ∧
    (poolTraffic cfg st p w).1.arrs = st.arrs ∧ (poolTraffic cfg st p w).1.params = st.params ∧
    (poolTraffic cfg st p w).1.crew = st.crew := by
  unfold poolTraffic
  by_cases hc : (cfg.chained && st.params.isSome) = true
  · rw [if_pos hc]
    refine ⟨?_, rfl, rfl, rfl, rfl, rfl⟩
    have h2 := getBufs_led cfg _ E p.gets st.bufs w (h.permB (ListFacts.perm_seg_front _ _ FB))
    exact (freeBufs_led cfg _ E p.frees _ _ h2).permB (ListFacts.perm_seg_front _ _ FB).symm
  · rw [if_neg hc]
    exact ⟨h, rfl, rfl, rfl, rfl, rfl⟩

theorem moveAll_led (cfg : Cfg) (B : List Blk) (FE : List Nat) :
    ∀ (ks : List Nat) (els : Els) (w : W), Led w B (els.map Prod.snd ++ FE) →
      Led (moveAll cfg ks els w).2 B ((moveAll cfg ks els w).1.map Prod.snd ++ FE) := by
  intro ks
  induction ks with
  | nil => intro els w h; exact h
  | cons k r ih =>
    intro els w h
    simp only [moveAll]
    cases hl : lookE els k with
    | none => exact ih els w h
    | some e =>
      exact ih _ _ (h.relocKey cfg.cat hl)

theorem relocGo_led (cfg : Cfg) (B0 : List Blk) (FE : List Nat) :
    ∀ (olds : List (Nat × Nat)) (ks : List (List Nat)) (n dead : Nat) (els : Els) (w : W),
      Led w (olds.map (blkOf cfg) ++ B0) (els.map Prod.snd ++ FE) →
      Led (relocGo cfg olds ks n dead els w).2 ((olds.drop dead).map (blkOf cfg) ++ B0)
        ((relocGo cfg olds ks n dead els w).1.map Prod.snd ++ FE) := by
  intro olds
  induction olds with
  | nil => intro ks n dead els w h; simpa [relocGo] using h
  | cons a rest ih =>
    intro ks n dead els w h
    cases dead with
    | zero => exact moveAll_led cfg _ FE _ els w h
    | succ d => exact ih _ _ d _ _ (moveAll_led cfg _ FE ((ks.headD []).take n) els w h).free

/-- the blocks of a container that are not bucket arrays -/
def St.fixed (cfg : Cfg) (st : St) : List Blk :=
  (optL st.crew).map (fun b => (b, cfg.mgr, cfg.csz)) ++ (optL st.params).map (fun b => (b, cfg.mgr, cfg.psz)) ++
    st.bufs.map (blkOf cfg)

theorem blocks_perm (cfg : Cfg) (st : St) : (st.blocks cfg).Perm (st.arrs.map (blkOf cfg) ++ st.fixed cfg) :=
  (List.perm_append_comm.append_right _).trans (List.Perm.of_eq (List.append_assoc _ _ _))

/-- the blocks in the order of the migration: the older bucket arrays oldest first, then the newest one and the rest -/
theorem blocks_rev (cfg : Cfg) (st : St) (FB : List Blk) : (st.blocks cfg ++ FB).Perm
    ((st.arrs.drop 1).reverse.map (blkOf cfg) ++ ((st.arrs.take 1).map (blkOf cfg) ++ st.fixed cfg ++ FB)) := by
  have h3 := (ListFacts.perm_rev_tail st.arrs).map (blkOf cfg)
  rw [List.map_append] at h3
  refine ((blocks_perm cfg st).append_right FB).trans (((h3.append_right _).append_right _).trans ?_)
  simp only [List.append_assoc]
  exact List.Perm.refl _

theorem relocL_led (cfg : Cfg) (hf : Nat → Nat) (st : St) (stop : Option Nat) (w : W) (FB : List Blk) (FE : List Nat)
    (hne : st.t.gens ≠ []) (h : Led w (st.blocks cfg ++ FB) (st.elems ++ FE)) :
    Led (relocL cfg hf st stop w).2 ((relocL cfg hf st stop w).1.blocks cfg ++ FB) ((relocL cfg hf st stop w).1.elems ++ FE) := by
  unfold relocL
  simp only
  generalize ht : relocate cfg.sp hf st.t (if cfg.sp.nothrowReloc = true then none else stop) = t'
  have hk : 1 ≤ t'.gens.length := ht ▸ (relocate_length cfg.sp hf st.t _).2 hne
  have g1 := relocGo_led cfg _ FE (st.arrs.drop 1).reverse ((st.t.gens.drop 1).reverse.map drainKeys)
    (oldCount st.t - oldCount t') (st.arrs.length - t'.gens.length) st.els w (h.permB (blocks_rev cfg st FB))
  rw [ListFacts.drop_reverse_drop_one] at g1
  generalize relocGo cfg (st.arrs.drop 1).reverse ((st.t.gens.drop 1).reverse.map drainKeys) (oldCount st.t - oldCount t')
    (st.arrs.length - t'.gens.length) st.els w = R at g1 ⊢
  have hb2 := blocks_rev cfg { st with t := t', arrs := st.arrs.take t'.gens.length, els := R.1 } FB
  rw [show (st.arrs.take t'.gens.length).take 1 = st.arrs.take 1 by rw [List.take_take]; congr 1; omega] at hb2
  exact g1.permB hb2.symm

theorem destroyKeys_led (B : List Blk) (FE : List Nat) :
    ∀ (ks : List Nat) (els : Els) (w : W), Led w B (els.map Prod.snd ++ FE) →
      Led (destroyKeys ks els w).2 B ((destroyKeys ks els w).1.map Prod.snd ++ FE) := by
  intro ks
  induction ks with
  | nil => intro els w h; exact h
  | cons k r ih =>
    intro els w h
    simp only [destroyKeys]
    cases hl : lookE els k with
    | none => exact ih els w h
    | some e =>
      simp only
      exact ih _ _ (h.permE ((perm_dropE hl).append_right FE)).dtor

theorem destroyRest_led (B : List Blk) (FE : List Nat) :
    ∀ (els : Els) (w : W), Led w B (els.map Prod.snd ++ FE) → Led (destroyRest els w) B FE := by
  intro els
  induction els with
  | nil => intro w h; exact h
  | cons p r ih =>
    intro w h
    obtain ⟨k, e⟩ := p
    simp only [destroyRest]
    apply ih
    exact Led.dtor (e := e) h

theorem destroyAllE_led (st : St) (w : W) (B : List Blk) (FE : List Nat) (h : Led w B (st.elems ++ FE)) :
    Led (destroyAllE st w) B FE :=
  destroyRest_led B FE _ _ (destroyKeys_led B FE _ _ _ h)

theorem freeArrs_led (cfg : Cfg) (E : List Nat) :
    ∀ (arrs : List (Nat × Nat)) (B0 : List Blk) (w : W), Led w (arrs.map (blkOf cfg) ++ B0) E →
      Led (freeArrs cfg arrs w) B0 E := by
  intro arrs
  induction arrs with
  | nil => intro B0 w h; exact h
  | cons a r ih =>
    intro B0 w h
    simp only [freeArrs]
    have h1 : Led w (r.map (blkOf cfg) ++ ((a.1, cfg.mgr, a.2) :: B0)) E :=
      h.permB List.perm_middle.symm
    exact (ih _ w h1).free

/-- `pvClear`, then the older bucket arrays, then the pools' buffers -/
theorem drain_led (cfg : Cfg) (st : St) (w : W) (older : List (Nat × Nat)) (B R : List Blk) (FE : List Nat)
    (h : Led w B (st.elems ++ FE)) (hB : B.Perm (older.map (blkOf cfg) ++ (st.bufs.map (blkOf cfg) ++ R))) :
    Led (freeAllBufs cfg st.bufs (freeArrs cfg older (destroyAllE st w))) R FE :=
  freeAllBufs_led cfg _ FE st.bufs _ (freeArrs_led cfg FE older _ _ ((destroyAllE_led st w _ FE h).permB hB))

/-- `pvDestroy()`: everything but the crew goes -/
theorem destroyBodyL_led (cfg : Cfg) (st : St) (w : W) (FB : List Blk) (FE : List Nat)
    (hp : st.arrs = [] → st.params = none ∧ st.bufs = [] ∧ st.els = [])
    (h : Led w (st.blocks cfg ++ FB) (st.elems ++ FE)) :
    Led (destroyBodyL cfg st w) ((optL st.crew).map (fun b => (b, cfg.mgr, cfg.csz)) ++ FB) FE := by
  unfold destroyBodyL
  cases ha : st.arrs with
  | nil =>
    obtain ⟨p1, p2, p3⟩ := hp ha
    simpa [St.blocks_eq, St.elems, ha, p1, p2, p3, optL] using h
  | cons a older =>
    have h3 := drain_led cfg st w older _ ((optL st.params).map (fun b => (b, cfg.mgr, cfg.psz)) ++ ((a.1, cfg.mgr, a.2) ::
        ((optL st.crew).map (fun b => (b, cfg.mgr, cfg.csz)) ++ FB))) FE h (by
      refine List.perm_iff_count.mpr fun x => ?_
      simp only [St.blocks_eq, ha, List.map_cons, blkOf, List.count_append, List.count_cons]
      omega)
    cases hpar : st.params with
    | none => rw [hpar] at h3; exact h3.free
    | some p => rw [hpar] at h3; exact h3.free.free

theorem destroyL_led (cfg : Cfg) (st : St) (w : W) (FB : List Blk) (FE : List Nat)
    (hp : st.arrs = [] → st.params = none ∧ st.bufs = [] ∧ st.els = [])
    (h : Led w (st.blocks cfg ++ FB) (st.elems ++ FE)) : Led (destroyL cfg st w) FB FE := by
  have h1 := destroyBodyL_led cfg st w FB FE hp h
  unfold destroyL
  cases hc : st.crew with
  | none => simpa [hc, optL] using h1
  | some c =>
    simp only [hc, optL, List.map_cons, List.map_nil, List.cons_append, List.nil_append] at h1 ⊢
    exact h1.free

theorem clearL_led (cfg : Cfg) (st : St) (shrink : Bool) (w : W) (FB : List Blk) (FE : List Nat)
    (h : Led w (st.blocks cfg ++ FB) (st.elems ++ FE)) :
    Led (clearL cfg st shrink w).2 ((clearL cfg st shrink w).1.blocks cfg ++ FB) ((clearL cfg st shrink w).1.elems ++ FE) := by
  unfold clearL
  cases ha : st.arrs with
  | nil => exact h
  | cons a older =>
    cases shrink with
    | true =>
      simp only [if_true]
      simpa [St.blocks_eq, St.elems, optL] using destroyBodyL_led cfg st w FB FE (fun hc => nomatch ha.symm.trans hc) h
    | false =>
      simp only [Bool.false_eq_true, if_false]
      exact drain_led cfg st w older _ _ FE h (by
        refine List.perm_iff_count.mpr fun x => ?_
        simp only [St.blocks_eq, ha, List.map_cons, List.map_nil, List.append_nil, blkOf, List.count_append, List.count_cons, List.count_nil]
        omega)

end Momo.HTL
