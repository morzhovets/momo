import Momo.Model.MMLedger
import Momo.Proof.HTLedgerSys
/-!
  C03 / C04 for `momo::HashMultiMap`: the ledger follows the books of ONE value array through every transition of
  `ArrayBucket` (`AddBackCrt`: none -> fast -> bigger fast -> heap -> grown heap; `RemoveBack`: heap shrink, last value;
  `pvRemoveAll`; the copy), for every fault record.

  Shape of every lemma (as in `HTLedgerReloc`): if the monitor holds the array's heap block / value objects plus a frame
  (`FB` / `FE`: the key table, the other arrays, the pools, the other container), then after the model's function it holds the
  array's NEW block / objects plus the same frame; a failing step leaves exactly what was held.
-/
namespace Momo.MML
open Momo Momo.HT Momo.Ledger Momo.MMap Momo.HTL

/-- the manager block of one value array -/
def hbk (cfg : Cfg) (b : VB) : List Blk := (optL b.heap).map (blkOf cfg.h)

theorem relocAll_led (c : Obj.Cat) (B : List Blk) : ∀ (objs : List Nat) (w : W) (FE : List Nat),
    Led w B (objs ++ FE) → Led (relocAll c objs w).2 B ((relocAll c objs w).1 ++ FE)
  | [], _, _, h => h
  | e :: r, w, FE, h => by
    -- the new object waits in the frame while the others are relocated
    exact (relocAll_led c B r _ ((w.relocE c e).1 :: FE)
      ((Led.reloc c (e := e) (E := r ++ FE) h).permE List.perm_middle.symm)).permE List.perm_middle

theorem relocAll_length (c : Obj.Cat) : ∀ (objs : List Nat) (w : W), (relocAll c objs w).1.length = objs.length
  | [], _ => rfl
  | _ :: r, _ => congrArg (· + 1) (relocAll_length c r _)

theorem destroyObjs_led (B : List Blk) (FE : List Nat) : ∀ (objs : List Nat) (w : W),
    Led w B (objs ++ FE) → Led (destroyObjs objs w) B FE
  | [], _, h => h
  | e :: r, _, h => destroyObjs_led B FE r _ (Led.dtor (e := e) h)

theorem copyObjs_led (B : List Blk) : ∀ (src : List Nat) (w : W) (FE : List Nat), (∀ e ∈ src, e ∈ FE) →
    Led w B FE → Led (copyObjs src w).2 B ((copyObjs src w).1 ++ FE)
  | [], _, _, _, h => h
  | e :: r, w, FE, hs, h => by
    exact (copyObjs_led B r (w.copyE e).2 ((w.copyE e).1 :: FE)
      (fun x hx => List.mem_cons_of_mem _ (hs x (List.mem_cons_of_mem _ hx)))
      (Led.copy (src := e) h (hs e (List.mem_cons_self ..)))).permE List.perm_middle

theorem copyObjs_length : ∀ (src : List Nat) (w : W), (copyObjs src w).1.length = src.length
  | [], _ => rfl
  | _ :: r, _ => congrArg (· + 1) (copyObjs_length r _)

theorem freeHeap_led (cfg : Cfg) (h : Option (Nat × Nat)) (w : W) (FB : List Blk) (E : List Nat)
    (hl : Led w ((optL h).map (blkOf cfg.h) ++ FB) E) : Led (freeHeap cfg h w) FB E := by
  cases h with
  | none => exact hl
  | some p => exact Led.free (b := p.1) (m := cfg.h.mgr) (n := p.2) hl

def VPost (cfg : Cfg) (b : VB) (FB : List Blk) (FE : List Nat) : Option VB × W → Prop
  | (none, w1) => Led w1 (hbk cfg b ++ FB) (b.objs ++ FE)
  | (some b1, w1) => Led w1 (hbk cfg b1 ++ FB) (b1.objs ++ FE)

theorem append_one_led {w : W} {B : List Blk} {objs FE : List Nat} (h : Led w B (objs ++ FE)) :
    Led w.ctorE.2 B ((objs ++ [w.ctorE.1]) ++ FE) := by
  rw [List.append_assoc]
  exact h.ctor.permE List.perm_middle.symm

/-- `RelocateCreate` -/
theorem ctor_reloc_led (c : Obj.Cat) {w : W} {B : List Blk} {objs FE : List Nat} (h : Led w B (objs ++ FE)) :
    Led (relocAll c objs w.ctorE.2).2 B (((relocAll c objs w.ctorE.2).1 ++ [w.ctorE.1]) ++ FE) := by
  have h1 := append_one_led h
  rw [List.append_assoc] at h1 ⊢
  exact relocAll_led c B objs _ _ h1

theorem growTo_led (cfg : Cfg) (b : VB) (a' : VArr) (n : Nat) (w : W) (FB : List Blk) (FE : List Nat)
    (h : Led w (hbk cfg b ++ FB) (b.objs ++ FE)) :
    Led (growTo cfg b a' n w).2 (hbk cfg (growTo cfg b a' n w).1 ++ FB) ((growTo cfg b a' n w).1.objs ++ FE) := by
  exact freeHeap_led cfg b.heap _ _ _ ((ctor_reloc_led cfg.vcat (h.alloc cfg.h.mgr n)).permB List.perm_middle.symm)

theorem growFail_led (cfg : Cfg) (n : Nat) (w : W) (B : List Blk) (E : List Nat) (h : Led w B E) :
    Led (growFail cfg n w) B E := by
  exact (h.alloc cfg.h.mgr n).free

/-- the five forms a result of `vbAdd` can have (`vbAdd_out`), so that a fact about `vbAdd` is five one-line cases; `failGrow`: the creator threw
    after the new storage was obtained -/
inductive AddOut (cfg : Cfg) (b : VB) (v : Nat) (w : W) : Option VB × W → Prop
  | fail : AddOut cfg b v w (none, w)
  | failGrow (n : Nat) : AddOut cfg b v w (none, growFail cfg n w)
  | inPlace : AddOut cfg b v w (some { b with arr := b.arr.addBack cfg.mf v, objs := b.objs ++ [w.ctorE.1] }, w.ctorE.2)
  | bigger : AddOut cfg b v w
      (some { b with arr := b.arr.addBack cfg.mf v, objs := (relocAll cfg.vcat b.objs w.ctorE.2).1 ++ [w.ctorE.1] },
        (relocAll cfg.vcat b.objs w.ctorE.2).2)
  | grow (n : Nat) : AddOut cfg b v w
      (some (growTo cfg b (b.arr.addBack cfg.mf v) n w).1, (growTo cfg b (b.arr.addBack cfg.mf v) n w).2)

theorem vbAdd_out (cfg : Cfg) (b : VB) (v : Nat) (f : VFlt) (w : W) : AddOut cfg b v w (vbAdd cfg b v f w) := by
  unfold vbAdd
  -- `iteInduction` takes an `if` apart by name, here and below; `split` would re-simplify the large results of the model's functions
  cases b.arr.rep with
  | none => exact iteInduction (fun _ => .fail) (fun _ => .inPlace)
  | fast s =>
    refine iteInduction (fun _ => iteInduction (fun _ => ?_) (fun _ => ?_)) (fun _ => ?_)
    · exact iteInduction (fun _ => .fail) (fun _ => .bigger)
    · exact iteInduction (fun _ => .fail) (fun _ => iteInduction (fun _ => .failGrow _) (fun _ => .grow _))
    · exact iteInduction (fun _ => .fail) (fun _ => .inPlace)
  | heap cap =>
    refine iteInduction (fun _ => ?_) (fun _ => ?_)
    · exact iteInduction (fun _ => .fail) (fun _ => .inPlace)
    · exact iteInduction (fun _ => .fail) (fun _ => iteInduction (fun _ => .failGrow _) (fun _ => .grow _))

theorem vbAdd_led (cfg : Cfg) (b : VB) (v : Nat) (f : VFlt) (w : W) (FB : List Blk) (FE : List Nat)
    (h : Led w (hbk cfg b ++ FB) (b.objs ++ FE)) : VPost cfg b FB FE (vbAdd cfg b v f w) := by
  have o := vbAdd_out cfg b v f w
  generalize vbAdd cfg b v f w = r at o
  cases o with
  | fail => exact h
  | failGrow n => exact growFail_led cfg n w _ _ h
  | inPlace => exact append_one_led h
  | bigger => exact ctor_reloc_led cfg.vcat h
  | grow n => exact growTo_led cfg b _ n w FB FE h

theorem vbRemoveAll_led (cfg : Cfg) (b : VB) (w : W) (FB : List Blk) (FE : List Nat)
    (h : Led w (hbk cfg b ++ FB) (b.objs ++ FE)) : Led (vbRemoveAll cfg b w) FB FE :=
  freeHeap_led cfg _ _ _ _ (destroyObjs_led _ _ _ _ h)

theorem vbRemoveBack_led (cfg : Cfg) (b : VB) (a' : VArr) (f : VFlt) (w : W) (FB : List Blk) (FE : List Nat)
    (h : Led w (hbk cfg b ++ FB) (b.objs ++ FE)) :
    Led (vbRemoveBack cfg b a' f w).2 (hbk cfg (vbRemoveBack cfg b a' f w).1 ++ FB) ((vbRemoveBack cfg b a' f w).1.objs ++ FE) := by
  unfold vbRemoveBack
  refine iteInduction (motive := fun r : VB × W => Led r.2 (hbk cfg r.1 ++ FB) (r.1.objs ++ FE))
    (fun _ => vbRemoveAll_led cfg b w FB FE h) (fun _ => ?_)
  cases hl : b.objs.getLast? with
  | none => exact h
  | some l =>
    have hd : Led (w.dtorE l) (hbk cfg b ++ FB) (b.objs.dropLast ++ FE) :=
      Led.dtor (e := l) (h.permE ((ListFacts.dropLast_perm hl).append_right FE))
    cases shrinks b.arr f.shrink with
    | none => exact hd
    | some nc =>
      exact freeHeap_led cfg b.heap _ _ _
        ((relocAll_led cfg.vcat _ b.objs.dropLast _ _ (hd.alloc cfg.h.mgr (nc * cfg.isz))).permB List.perm_middle.symm)

theorem vbRemoveAt_led (cfg : Cfg) (b : VB) (i : Nat) (f : VFlt) (w : W) (FB : List Blk) (FE : List Nat)
    (h : Led w (hbk cfg b ++ FB) (b.objs ++ FE)) : VPost cfg b FB FE (vbRemoveAt cfg b i f w) := by
  unfold vbRemoveAt
  refine iteInduction (fun _ => h) (fun _ => ?_)
  cases hl : b.objs.getLast? with
  | none => exact h
  | some l =>
    cases hd : b.objs[i]? with
    | none => exact h
    | some d =>
      have hlm : l ∈ b.objs ++ FE := List.mem_append_left _ (List.mem_of_getLast? hl)
      have hdm : d ∈ b.objs ++ FE := List.mem_append_left _ (List.mem_of_getElem? hd)
      exact vbRemoveBack_led cfg b _ f _ FB FE ((h.use hlm).use hdm)

/-- the "before" books are the empty `{}`: a failed copy leaves the monitor holding the frame and nothing else -/
theorem vbCopy_led (cfg : Cfg) (src : VB) (f : VFlt) (w : W) (B : List Blk) (FE : List Nat)
    (hs : ∀ e ∈ src.objs, e ∈ FE) (h : Led w B FE) : VPost cfg {} B FE (vbCopy cfg src f w) := by
  have hs' : ∀ n, ∀ e ∈ src.objs.take n, e ∈ FE := fun n e he => hs e (List.mem_of_mem_take he)
  unfold vbCopy
  refine iteInduction (fun _ => h) (fun _ => iteInduction (fun _ => iteInduction (fun _ => h) (fun _ => ?_))
    (fun _ => iteInduction (fun _ => h) (fun _ => ?_)))
  · cases f.copyStop with
    | some n => exact destroyObjs_led _ _ _ _ (copyObjs_led B _ w FE (hs' n) h)
    | none => exact copyObjs_led B _ w FE hs h
  · have a1 := h.alloc cfg.h.mgr (src.arr.bounds.length * cfg.isz)
    cases f.copyStop with
    | some n => exact Led.free (destroyObjs_led _ _ _ _ (copyObjs_led _ _ _ FE (hs' n) a1))
    | none => exact copyObjs_led _ _ _ FE hs a1

end Momo.MML
