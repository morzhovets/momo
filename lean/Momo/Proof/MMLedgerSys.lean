import Momo.Proof.MMLedgerOps
/-!
  C03 / C04 for `momo::HashMultiMap`: `Clear`, destructor, constructors, copy, `Remove(pairFilter)`, pool traffic, and
  the system of two multimaps: every operation keeps the ledger on the books (`step_ok`), whole histories (`run_ok`), the end
  of a history leaves nothing (`finish_clean`), a failing strongly exception-safe operation changes nothing (`step_strong`).
-/
namespace Momo.MML
open Momo Momo.HT Momo.Ledger Momo.MMap Momo.HTL

theorem clearArrays_led (cfg : Cfg) (FB : List Blk) (FE : List Nat) : ∀ (l : VBs) (w : W),
    Led w ((vHeaps l).map (blkOf cfg.h) ++ FB) (vObjs l ++ FE) → Led (clearArrays cfg l w) FB FE
  | [], _, h => h
  | (k, b) :: r, w, h => by
    rw [vHeaps_cons, vObjs_cons, List.map_append, List.append_assoc, List.append_assoc] at h
    exact clearArrays_led cfg FB FE r _ (vbRemoveAll_led cfg b w _ _ h)

theorem clearValuesL_led (cfg : Cfg) (st : St) (w : W) (FB : List Blk) (FE : List Nat)
    (h : Led w (st.blocks cfg ++ FB) (st.elems ++ FE)) :
    Led (clearValuesL cfg st w) (st.kt.blocks cfg.h ++ ((optL st.vcrew).map (fun b => (b, cfg.h.mgr, cfg.vsz)) ++ FB))
      (st.kt.elems ++ FE) := by
  unfold clearValuesL
  apply freeAllBufs_led cfg.h
  apply clearArrays_led cfg
  refine h.perm ?_ ?_
  · simp only [St.blocks, vblocks_eq, vblk, List.append_assoc]
    exact (ListFacts.perm_out2 ..).trans ((ListFacts.perm_out2 ..).append_left _)
  · rw [St.elems, List.append_assoc]
    exact List.perm_append_comm_assoc ..

theorem clearL_led (cfg : Cfg) (st : St) (w : W) (FB : List Blk) (FE : List Nat) (hb : HTL.BooksOK st.kt)
    (h : Led w (st.blocks cfg ++ FB) (st.elems ++ FE)) :
    Led (clearL cfg st w).2 ((clearL cfg st w).1.blocks cfg ++ FB) ((clearL cfg st w).1.elems ++ FE) ∧
    HTL.BooksOK (clearL cfg st w).1.kt := by
  have h1 := clearValuesL_led cfg st w FB FE h
  have h2 := HTL.clearL_led cfg.h st.kt true _ _ _ h1
  refine ⟨?_, HTL.clearL_books cfg.h st.kt true _ hb⟩
  unfold clearL
  refine h2.perm ?_ ?_
  · simp [St.blocks, vblocks_eq, vblk, vHeaps]
  · simp [St.elems, vObjs]

theorem clearL_crews (cfg : Cfg) (st : St) (w : W) (hb : HTL.BooksOK st.kt) :
    (clearL cfg st w).1.blocks cfg = (optL st.kt.crew).map (fun b => (b, cfg.h.mgr, cfg.h.csz)) ++
      (optL st.vcrew).map (fun b => (b, cfg.h.mgr, cfg.vsz)) ∧ (clearL cfg st w).1.elems = [] := by
  obtain ⟨t, _, e⟩ := HTL.clearL_shrink cfg.h st.kt (clearValuesL cfg st w) hb
  unfold clearL
  simp [St.blocks, St.elems, HTL.St.blocks_eq, HTL.St.elems, vblocks_eq, vblk, vHeaps, vObjs, e, optL]

theorem freeCrew_led (cfg : Cfg) (c : Option Nat) (w : W) (FB : List Blk) (E : List Nat)
    (h : Led w ((optL c).map (fun b => (b, cfg.h.mgr, cfg.vsz)) ++ FB) E) : Led (freeCrew cfg c w) FB E := by
  cases c with
  | none => exact h
  | some b => exact Led.free (b := b) (m := cfg.h.mgr) (n := cfg.vsz) h

theorem destroyL_led (cfg : Cfg) (st : St) (w : W) (FB : List Blk) (FE : List Nat) (hb : HTL.BooksOK st.kt)
    (h : Led w (st.blocks cfg ++ FB) (st.elems ++ FE)) : Led (destroyL cfg st w) FB FE := by
  have h1 := clearValuesL_led cfg st w FB FE h
  have h2 : Led (freeCrew cfg st.vcrew (clearValuesL cfg st w)) (st.kt.blocks cfg.h ++ FB) (st.kt.elems ++ FE) :=
    freeCrew_led cfg _ _ _ _ (h1.permB (List.perm_append_comm_assoc ..))
  exact HTL.destroyL_led cfg.h st.kt _ FB FE hb.nil h2

def CtorPost (cfg : Cfg) (FB : List Blk) (FE : List Nat) : Option St × W → Prop
  | (none, w') => Led w' FB FE
  | (some st', w') => Led w' (st'.blocks cfg ++ FB) (st'.elems ++ FE) ∧ HTL.BooksOK st'.kt

theorem newL_led (cfg : Cfg) (f : Flt) (w : W) (FB : List Blk) (FE : List Nat) (h : Led w FB FE) :
    CtorPost cfg FB FE (newL cfg f w) := by
  have hn := HTL.newL_led cfg.h f.k w FB FE h
  unfold newL
  generalize HTL.newL cfg.h f.k w = r at hn
  obtain ⟨_ | kt, w0⟩ := r
  · exact hn
  · refine iteInduction (fun _ => HTL.destroyL_led cfg.h kt w0 FB FE hn.2.nil hn.1) (fun _ => ⟨?_, hn.2⟩)
    refine (hn.1.alloc cfg.h.mgr cfg.vsz).perm ?_ ?_
    · simp only [St.blocks, vblocks_eq, vblk, vHeaps, optL]; simp
      exact List.perm_middle.symm
    · simp [St.elems, vObjs]

theorem newL_getD_led (cfg : Cfg) (f : Flt) (w : W) (FB : List Blk) (FE : List Nat) (h : Led w FB FE) :
    Led (newL cfg f w).2 (((newL cfg f w).1.getD {}).blocks cfg ++ FB) (((newL cfg f w).1.getD {}).elems ++ FE) ∧
    HTL.BooksOK ((newL cfg f w).1.getD {}).kt := by
  have hn := newL_led cfg f w FB FE h
  generalize newL cfg f w = r at hn
  obtain ⟨_ | st, w1⟩ := r
  · exact ⟨hn, BooksOK.init⟩
  · exact hn

theorem copyGo_led (cfg : Cfg) (hf : Nat → Nat) (src : VBs) (f : Nat → Flt) (FB : List Blk) (FE : List Nat)
    (hs : ∀ k, ∀ e ∈ (getV src k).objs, e ∈ FE) :
    ∀ (items : List Item) (n : Nat) (st : St) (w : W), HTL.BooksOK st.kt → Led w (st.blocks cfg ++ FB) (st.elems ++ FE) →
      Led (copyGo cfg hf src f items n st w).2.1 ((copyGo cfg hf src f items n st w).1.blocks cfg ++ FB)
        ((copyGo cfg hf src f items n st w).1.elems ++ FE) ∧ HTL.BooksOK (copyGo cfg hf src f items n st w).1.kt
  | [], _, _, _, hb, h => ⟨h, hb⟩
  | it :: r, n, st, w, hb, h => by
    have h1 := vbCopy_led cfg (getV src it.key) (f n).v w _ _
      (fun e he => List.mem_append_right _ (hs it.key e he)) h
    unfold copyGo
    generalize vbCopy cfg (getV src it.key) (f n).v w = q at h1
    obtain ⟨_ | b, w1⟩ := q
    · exact ⟨h1, hb⟩
    · simp only []
      -- the copied array goes onto the books, the key table inserts the key with the value side as its frame
      have hB := blocks_out cfg (st.kt.blocks cfg.h) st.vcrew (optL b.heap) (vHeaps st.vbs) st.pbufs FB
      have hE := elems_out st.kt.elems b.objs (vObjs st.vbs) FE
      let st' : St := { st with vbs := (it.key, b) :: st.vbs }
      have h2 : Led w1 (st'.blocks cfg ++ FB) (st'.elems ++ FE) := Led.perm (B := hbk cfg b ++ _) h1 hB.symm hE.symm
      obtain ⟨a1, a2⟩ := HTL.insertL_led cfg.h hf st.kt it .fresh (f n).k w1 _ _ _ hb (crSpec_fresh cfg.h _)
        (kt_out (st := st') h2)
      generalize HTL.insertL cfg.h hf st.kt it .fresh (f n).k w1 = q at a1 a2
      obtain ⟨kt1, w2, o⟩ := q
      by_cases ho : o = .done .ok
      · subst ho
        exact copyGo_led cfg hf src f FB FE hs r (n + 1) _ w2 (a2 rfl).2 (kt_in (st := st') kt1 (a2 rfl).1)
      · obtain ⟨b1, b2⟩ := a1 ho
        simp only at b1
        subst b1
        have h3 := vbRemoveAll_led cfg b w2 _ _ ((kt_in (st := st') _ b2).perm hB hE)
        cases o with
        | done oc =>
          cases oc with
          | ok => exact absurd rfl ho
          | _ => exact ⟨h3, hb⟩
        | _ => exact ⟨h3, hb⟩

theorem copyL_led (cfg : Cfg) (hf : Nat → Nat) (src : St) (f0 : Flt) (f : Nat → Flt) (w : W) (FB : List Blk) (FE : List Nat)
    (hs : ∀ k, ∀ e ∈ (getV src.vbs k).objs, e ∈ FE) (h : Led w FB FE) : CtorPost cfg FB FE (copyL cfg hf src f0 f w) := by
  have hn := newL_led cfg f0 w FB FE h
  unfold copyL
  generalize newL cfg f0 w = q at hn
  obtain ⟨_ | st0, w0⟩ := q
  · exact hn
  · simp only []
    obtain ⟨r1, r2, r3⟩ := HTL.reserveL_led cfg.h hf st0.kt src.kt.t.count f0.k w0 _ _ hn.2 (kt_out hn.1)
    generalize HTL.reserveL cfg.h hf st0.kt src.kt.t.count f0.k w0 = q at r1 r2 r3
    obtain ⟨kt1, w1, o⟩ := q
    have h0 : Led w1 (({ st0 with kt := kt1 } : St).blocks cfg ++ FB) (({ st0 with kt := kt1 } : St).elems ++ FE) := kt_in _ r2
    cases o with
    | ok =>
      simp only []
      obtain ⟨g1, g2⟩ := copyGo_led cfg hf src.vbs f FB FE hs (HT.traverse src.kt.t) 0 { st0 with kt := kt1, count := src.count } w1 r3 h0
      generalize copyGo cfg hf src.vbs f (HT.traverse src.kt.t) 0 { st0 with kt := kt1, count := src.count } w1 = q2 at g1 g2
      obtain ⟨st2, w2, _ | _⟩ := q2
      · exact ⟨g1, g2⟩
      · exact destroyL_led cfg st2 w2 FB FE g2 g1
    | _ => exact destroyL_led cfg _ w1 FB FE r3 h0

theorem removeIfKey_led (cfg : Cfg) (p : Nat → Bool) (fl : Nat → VFlt) (FB : List Blk) (FE : List Nat)
    (fuel : Nat) (b : VB) (i n : Nat) (w : W) : Led w (hbk cfg b ++ FB) (b.objs ++ FE) →
      Led (removeIfKey cfg p fl fuel b i n w).2.1 (hbk cfg (removeIfKey cfg p fl fuel b i n w).1 ++ FB)
        ((removeIfKey cfg p fl fuel b i n w).1.objs ++ FE) := by
  -- arms: 1 out of fuel; 2 past the last value; 3 the removal throws; 4 removed: the same index again; 5 the value stays
  fun_induction removeIfKey cfg p fl fuel b i n w with
  | case1 | case2 => exact id
  | case3 _ b i n w _ _ _ w1 hr => exact fun h => (hr ▸ vbRemoveAt_led cfg b i (fl n) w FB FE h : VPost cfg b FB FE (none, w1))
  | case4 _ b i n w _ _ _ b1 w1 hr ih =>
    exact fun h => ih (hr ▸ vbRemoveAt_led cfg b i (fl n) w FB FE h : VPost cfg b FB FE (some b1, w1))
  | case5 _ _ _ _ _ _ _ _ ih => exact ih

theorem removeIfGo_led (cfg : Cfg) (p : Nat → Nat → Bool) (fl : Nat → VFlt) (FB : List Blk) (FE : List Nat) :
    ∀ (ks : List Nat) (st : St) (n : Nat) (w : W), HTL.BooksOK st.kt → Led w (st.blocks cfg ++ FB) (st.elems ++ FE) →
      Led (removeIfGo cfg p fl ks st n w).2.1 ((removeIfGo cfg p fl ks st n w).1.blocks cfg ++ FB)
        ((removeIfGo cfg p fl ks st n w).1.elems ++ FE) ∧ HTL.BooksOK (removeIfGo cfg p fl ks st n w).1.kt
  | [], _, _, _, hb, h => ⟨h, hb⟩
  | k :: r, st, n, w, hb, h => by
    unfold removeIfGo
    cases hl : lookV st.vbs k with
    | none => exact removeIfGo_led cfg p fl FB FE r st n w hb h
    | some b =>
      simp only []
      have h0 := key_out (cfg := cfg) k h
      rw [getV, hl, Option.getD_some] at h0
      have h1 := removeIfKey_led cfg (p k) fl _ _ b.arr.count b 0 n w h0
      generalize removeIfKey cfg (p k) fl b.arr.count b 0 n w = q at h1
      obtain ⟨b1, w1, n1, thr⟩ := q
      have h2 := key_in (cfg := cfg) (st := st) k b1 (st.count - (n1 - n)) h1
      cases thr with
      | true => exact ⟨h2, hb⟩
      | false => exact removeIfGo_led cfg p fl FB FE r _ n1 w1 hb h2

theorem pbufs_out (cfg : Cfg) (KB : List Blk) (crew : Option Nat) (hs pbufs : List (Nat × Nat)) (FB : List Blk) :
    ((KB ++ vblk cfg crew hs pbufs) ++ FB).Perm (pbufs.map (blkOf cfg.h) ++ ((KB ++ vblk cfg crew hs []) ++ FB)) := by
  simp only [vblk, List.map_nil, List.append_nil, List.append_assoc]
  exact ListFacts.perm_out3 ..

theorem poolTraffic_led (cfg : Cfg) (st : St) (p : HTL.PoolT) (w : W) (FB : List Blk) (E : List Nat)
    (h : Led w (st.blocks cfg ++ FB) E) :
    Led (poolTraffic cfg st p w).2 ((poolTraffic cfg st p w).1.blocks cfg ++ FB) E ∧
    (poolTraffic cfg st p w).1.kt = st.kt ∧ (poolTraffic cfg st p w).1.elems = st.elems := by
  unfold poolTraffic
  split
  · exact ⟨h, rfl, rfl⟩
  · refine ⟨?_, rfl, rfl⟩
    have h1 := h.permB (pbufs_out cfg (st.kt.blocks cfg.h) st.vcrew (vHeaps st.vbs) st.pbufs FB)
    have h3 := freeBufs_led cfg.h _ E p.frees _ _ (getBufs_led cfg.h _ E p.gets st.pbufs w h1)
    exact h3.permB (pbufs_out ..).symm

theorem ktTraffic_led (cfg : Cfg) (st : St) (p : HTL.PoolT) (w : W) (FB : List Blk) (E : List Nat)
    (hb : HTL.BooksOK st.kt) (h : Led w (st.blocks cfg ++ FB) E) :
    Led (ktTraffic cfg st p w).2 ((ktTraffic cfg st p w).1.blocks cfg ++ FB) E ∧ HTL.BooksOK (ktTraffic cfg st p w).1.kt ∧
    (ktTraffic cfg st p w).1.elems = st.elems := by
  have h0 : Led w (st.kt.blocks cfg.h ++ (st.vblocks cfg ++ FB)) E := by simpa [St.blocks, List.append_assoc] using h
  obtain ⟨h1, _, h3, _⟩ := HTL.poolTraffic_led cfg.h st.kt p w _ E h0
  refine ⟨?_, HTL.poolTraffic_books cfg.h st.kt p w hb, ?_⟩
  · simpa [ktTraffic, St.blocks, St.vblocks, List.append_assoc] using h1
  · simp only [ktTraffic, St.elems, HTL.St.elems, h3]

structure SysOK (cfg : Cfg) (s : Sys) : Prop where
  led : Led s.w (s.blocks cfg) s.elems
  a : HTL.BooksOK s.a.kt
  b : HTL.BooksOK s.b.kt

theorem SysOK.init (cfg : Cfg) : SysOK cfg (Sys.init cfg) := by
  obtain ⟨a1, a2⟩ := newL_getD_led cfg {} {} [] [] Led.init
  rw [List.append_nil, List.append_nil] at a1
  obtain ⟨b1, b2⟩ := newL_getD_led cfg {} (newL cfg {} {}).2 _ _ a1
  exact ⟨Led.swap b1, a2, b2⟩

/-- the operation exited with an exception (`.res .no` = key present / absent is an answer, not a failure; `.num _ true`, a
    `Remove(pairFilter)` that threw, is NOT counted: `failed` is asked of `Op.strong` operations only; compare `Out.ok` of MMLedgerRefine,
    "answered done": the two are not complements) -/
def Out.failed : Out → Bool
  | .res (.done .ok) => false
  | .res .no => false
  | .res _ => true
  | .threw => true
  | _ => false

/-- the strongly exception-safe operations of `HashMultiMap` (all but `Remove(pairFilter)`; `moveTo` is two operations: a move assignment and the construction of a new container) -/
def Op.strong : Op → Bool
  | .removeIf _ _ _ => false
  | .moveTo _ => false
  | _ => true

structure StepPost (cfg : Cfg) (s : Sys) (op : Op) (r : Sys × Out) : Prop where
  ok : SysOK cfg r.1
  strong : op.strong = true → r.2.failed = true → r.1.a = s.a ∧ r.1.b = s.b

theorem Out.ne_ok {r : HTL.Res} (h : Out.failed (.res r) = true) : r ≠ .done .ok := fun hc => by rw [hc] at h; cases h

theorem step_post (cfg : Cfg) (hf : Nat → Nat) (s : Sys) (op : Op) (h : SysOK cfg s) : StepPost cfg s op (step cfg hf s op) := by
  obtain ⟨hl, ha, hb⟩ := h
  cases op with
  | add toB k tg v f =>
    cases toB with
    | true =>
      have r := addL_led cfg hf s.b k tg v f s.w _ _ hb (Led.swap hl)
      exact ⟨⟨Led.swap r.led, ha, r.books⟩, fun _ hfl => ⟨rfl, r.strong (Out.ne_ok hfl)⟩⟩
    | false =>
      have r := addL_led cfg hf s.a k tg v f s.w _ _ ha hl
      exact ⟨⟨r.led, r.books, hb⟩, fun _ hfl => ⟨r.strong (Out.ne_ok hfl), rfl⟩⟩
  | addAt k v f =>
    have r := addAtL_led cfg hf s.a k v f s.w _ _ ha hl
    exact ⟨⟨r.led, r.books, hb⟩, fun _ hfl => ⟨r.strong (Out.ne_ok hfl), rfl⟩⟩
  | insertKey k tg f =>
    have r := insertKeyL_led cfg hf s.a k tg f s.w _ _ ha hl
    exact ⟨⟨r.led, r.books, hb⟩, fun _ hfl => ⟨r.strong (Out.ne_ok hfl), rfl⟩⟩
  | removeValue k i f =>
    have r := removeValueL_led cfg hf s.a k i f s.w _ _ ha hl
    exact ⟨⟨r.led, r.books, hb⟩, fun _ hfl => ⟨r.strong (Out.ne_ok hfl), rfl⟩⟩
  | removeIf m r fl =>
    have q := removeIfGo_led cfg (fun k v => (k + v) % m == r) fl _ _ ((HT.traverse s.a.kt.t).map (·.key)) s.a 0 s.w ha hl
    exact ⟨⟨q.1, q.2, hb⟩, nofun⟩
  | removeValues k =>
    have r := removeValuesL_led cfg hf s.a k s.w _ _ ha hl
    exact ⟨⟨r.1, r.2, hb⟩, fun _ hfl => nomatch hfl⟩
  | removeKey k f =>
    have r := removeKeyL_led cfg hf s.a k f s.w _ _ ha hl
    refine ⟨⟨r.led, r.books, hb⟩, fun _ hfl => ⟨r.strong (fun hc => ?_), rfl⟩⟩
    simp only [step, hc] at hfl
    cases hfl
  | resetKey k tg =>
    have r := resetKeyL_led cfg hf s.a k tg s.w _ _ ha hl
    exact ⟨⟨r.1, r.2, hb⟩, fun _ hfl => nomatch hfl⟩
  | clear =>
    have r := clearL_led cfg s.a s.w _ _ ha hl
    exact ⟨⟨r.1, r.2, hb⟩, fun _ hfl => nomatch hfl⟩
  | copyTo f0 f =>
    have hs : ∀ k, ∀ e ∈ (getV s.a.vbs k).objs, e ∈ s.elems := fun k e he =>
      List.mem_append_left _ (List.mem_append_right _ ((vObjs_split s.a.vbs k).mem_iff.mpr (List.mem_append_left _ he)))
    have hc := copyL_led cfg hf s.a f0 f s.w _ _ hs hl
    simp only [step]
    generalize copyL cfg hf s.a f0 f s.w = q at hc
    obtain ⟨_ | st, w1⟩ := q
    · exact ⟨⟨hc, ha, hb⟩, fun _ _ => ⟨rfl, rfl⟩⟩
    · have rot : ∀ {α : Type} (x a b : List α), (x ++ (a ++ b)).Perm (b ++ (a ++ x)) := fun x a b =>
        List.perm_append_comm.trans (List.append_assoc a b x ▸ List.perm_append_comm_assoc a b x)
      exact ⟨⟨destroyL_led cfg s.b w1 _ _ hb (hc.1.perm (rot ..) (rot ..)), ha, hc.2⟩, fun _ hfl => nomatch hfl⟩
  | moveTo f =>
    obtain ⟨n1, n2⟩ := newL_getD_led cfg f _ _ _ (destroyL_led cfg s.b s.w _ _ hb (Led.swap hl))
    simp only [step]
    generalize newL cfg f (destroyL cfg s.b s.w) = q at n1 n2
    obtain ⟨_ | st, w2⟩ := q <;> exact ⟨⟨n1, n2, ha⟩, nofun⟩
  | swap => exact ⟨⟨Led.swap hl, hb, ha⟩, fun _ hfl => nomatch hfl⟩

theorem step_ok (cfg : Cfg) (hf : Nat → Nat) (s : Sys) (op : Op) (h : SysOK cfg s) : SysOK cfg (step cfg hf s op).1 :=
  (step_post cfg hf s op h).ok

theorem step_strong (cfg : Cfg) (hf : Nat → Nat) (s : Sys) (op : Op) (h : SysOK cfg s) (hs : op.strong = true)
    (hf' : (step cfg hf s op).2.failed = true) :
    (step cfg hf s op).1.a = s.a ∧ (step cfg hf s op).1.b = s.b :=
  (step_post cfg hf s op h).strong hs hf'

theorem stepT_ok (cfg : Cfg) (hf : Nat → Nat) (s : Sys) (o : OpT) (h : SysOK cfg s) : SysOK cfg (stepT cfg hf s o).1 := by
  obtain ⟨hl, ha, hb⟩ := step_ok cfg hf s o.op h
  simp only [stepT]
  generalize (step cfg hf s o.op).1 = r at hl ha hb ⊢
  obtain ⟨p1, p2, p3⟩ := poolTraffic_led cfg r.a o.pa r.w (r.b.blocks cfg) _ hl
  obtain ⟨q1, q2, q3⟩ := poolTraffic_led cfg r.b o.pb (poolTraffic cfg r.a o.pa r.w).2
    ((poolTraffic cfg r.a o.pa r.w).1.blocks cfg) _ (Led.swapB p1)
  have ha1 : HTL.BooksOK (poolTraffic cfg r.a o.pa r.w).1.kt := by rw [p2]; exact ha
  have hb1 : HTL.BooksOK (poolTraffic cfg r.b o.pb (poolTraffic cfg r.a o.pa r.w).2).1.kt := by rw [q2]; exact hb
  obtain ⟨r1, r2, r3⟩ := ktTraffic_led cfg (poolTraffic cfg r.a o.pa r.w).1 o.ka (poolTraffic cfg r.b o.pb (poolTraffic cfg r.a o.pa r.w).2).2
    ((poolTraffic cfg r.b o.pb (poolTraffic cfg r.a o.pa r.w).2).1.blocks cfg) _ ha1 (Led.swapB q1)
  obtain ⟨t1, t2, t3⟩ := ktTraffic_led cfg (poolTraffic cfg r.b o.pb (poolTraffic cfg r.a o.pa r.w).2).1 o.kb _ _ _ hb1 (Led.swapB r1)
  refine ⟨?_, r2, t2⟩
  simp only [Sys.blocks, Sys.elems, r3, t3, p3, q3]
  exact Led.swapB t1

theorem run_ok (cfg : Cfg) (hf : Nat → Nat) : ∀ (ops : List OpT) (s : Sys), SysOK cfg s → SysOK cfg (run cfg hf s ops) := by
  intro ops
  induction ops with
  | nil => intro s h; exact h
  | cons o r ih => intro s h; exact ih _ (stepT_ok cfg hf s o h)

theorem finish_clean (cfg : Cfg) (s : Sys) (h : SysOK cfg s) : Led (finish cfg s) [] [] := by
  obtain ⟨hl, ha, hb⟩ := h
  unfold finish
  have h2 := destroyL_led cfg s.b s.w _ _ hb (Led.swap hl)
  rw [← List.append_nil (s.a.blocks cfg), ← List.append_nil s.a.elems] at h2
  exact destroyL_led cfg s.a _ [] [] ha h2

end Momo.MML
